/-! Two lifts by which a fact about a 256-entry table is obtained from ONE evaluation: a Boolean test of
all 256 bytes gives the fact at every byte, and a comparison of whole rows gives every cell (to the kernel an
array is a list: each of 256 separate `Array.getD` look-ups takes the length of the table and walks to its index,
which is far dearer than one pass over the row). -/
namespace OjgVerif

theorem all_bytes (P : UInt8 → Bool) (h : ((List.range 256).all fun i => P (UInt8.ofNat i)) = true) :
    ∀ b, P b = true := by
  intro b
  simp only [List.all_eq_true, List.mem_range] at h
  simpa using h b.toNat b.toNat_lt

theorem getD_of_rows {α β : Type} (a : Array α) (f : α → β) (g : Nat → β) (d : α)
    (h : (a.toList.take 256).map f = (List.range 256).map g) (i : Nat) (hi : i < 256) :
    f (a.getD i d) = g i := by
  have h1 := congrArg (·[i]?) h
  simp only [List.getElem?_map, List.getElem?_take, hi, ↓reduceIte, List.getElem?_range, Option.map_some,
    Array.getElem?_toList] at h1
  rw [Array.getD_eq_getD_getElem?]
  cases h2 : a[i]? with
  | none => rw [h2] at h1; cases h1
  | some x => rw [h2] at h1; exact Option.some.inj h1

end OjgVerif
