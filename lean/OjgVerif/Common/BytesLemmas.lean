import OjgVerif.Common.Bytes
/-! Facts about the definitions of Common/Bytes.lean that several families use: `bytesLt` is a strict total
order; inserting into a list by any function that satisfies the two insertion equations gives a permutation, ordered
when the list was; `kvInsert` of a key that is not there appends. -/
namespace OjgVerif

theorem bytesLt_irrefl : ∀ a : Bytes, bytesLt a a = false := by
  intro a
  induction a with
  | nil => rfl
  | cons x r ih => simp [bytesLt, ih]

theorem bytesLt_ne (a b : Bytes) (h : bytesLt a b = true) : a ≠ b := by
  intro e; subst e; rw [bytesLt_irrefl] at h; cases h

theorem bytesLt_trans : ∀ a b c : Bytes, bytesLt a b = true → bytesLt b c = true → bytesLt a c = true := by
  intro a
  induction a with
  | nil =>
    intro b c h1 h2
    cases b with
    | nil => simp [bytesLt] at h1
    | cons y s =>
      cases c with
      | nil => simp [bytesLt] at h2
      | cons z t => simp [bytesLt]
  | cons x r ih =>
    intro b c h1 h2
    cases b with
    | nil => simp [bytesLt] at h1
    | cons y s =>
      cases c with
      | nil => simp [bytesLt] at h2
      | cons z t =>
        simp only [bytesLt] at h1 h2 ⊢
        by_cases hxy : x < y
        · by_cases hyz : y < z
          · simp [UInt8.lt_trans hxy hyz]
          · by_cases hzy : z < y
            · simp [hyz, hzy] at h2
            · have : y = z := UInt8.le_antisymm (UInt8.not_lt.mp hzy) (UInt8.not_lt.mp hyz)
              subst this; simp [hxy]
        · by_cases hyx : y < x
          · simp [hxy, hyx] at h1
          · have hxy' : x = y := UInt8.le_antisymm (UInt8.not_lt.mp hyx) (UInt8.not_lt.mp hxy)
            subst hxy'
            simp [hxy] at h1
            by_cases hyz : x < z
            · simp [hyz]
            · by_cases hzy : z < x
              · simp [hyz, hzy] at h2
              · simp [hyz, hzy] at h2 ⊢
                exact ih s t h1 h2

theorem bytesLt_total : ∀ a b : Bytes, bytesLt a b = false → a ≠ b → bytesLt b a = true := by
  intro a
  induction a with
  | nil =>
    intro b h hne
    cases b with
    | nil => exact absurd rfl hne
    | cons y s => simp [bytesLt] at h
  | cons x r ih =>
    intro b h hne
    cases b with
    | nil => simp [bytesLt]
    | cons y s =>
      simp only [bytesLt] at h ⊢
      by_cases hxy : x < y
      · simp [hxy] at h
      · by_cases hyx : y < x
        · simp [hyx]
        · have hxy' : x = y := UInt8.le_antisymm (UInt8.not_lt.mp hyx) (UInt8.not_lt.mp hxy)
          subst hxy'
          simp [hxy] at h ⊢
          exact ih s h (fun e => hne (by rw [e]))

theorem bytesLt_asymm (a b : Bytes) (h1 : bytesLt a b = true) (h2 : bytesLt b a = true) : False := by
  have := bytesLt_trans a b a h1 h2
  rw [bytesLt_irrefl] at this
  cases this

/- Stated for any `ins` that satisfies the two insertion equations: `Writer.insertKv`, `Writer.Pretty.insertBy` (the column
sort of the alignment tables) and `JPMut.insertKey` are instances. -/
section Insert
variable {α : Type} (lt : α → α → Bool) (ins : α → List α → List α) (hnil : ∀ x, ins x [] = [x])
  (hcons : ∀ x c r, ins x (c :: r) = if lt x c = true then x :: c :: r else c :: ins x r)
include hnil hcons

theorem ins_perm (x : α) : ∀ l, (ins x l).Perm (x :: l) := by
  intro l
  induction l with
  | nil => rw [hnil]
  | cons c r ih =>
    rw [hcons]
    split
    · exact List.Perm.refl _
    · exact (List.Perm.cons _ ih).trans (List.Perm.swap _ _ _)

theorem ins_sorted (key : α → Bytes) (hlt : ∀ a b, lt a b = bytesLt (key a) (key b)) (x : α) :
    ∀ l, l.Pairwise (fun a b => bytesLt (key a) (key b) = true) → (∀ c ∈ l, key c ≠ key x) →
      (ins x l).Pairwise fun a b => bytesLt (key a) (key b) = true := by
  intro l
  induction l with
  | nil => intro _ _; rw [hnil]; exact List.pairwise_singleton _ _
  | cons c r ih =>
    intro hs hne
    rw [List.pairwise_cons] at hs
    rw [hcons, hlt]
    by_cases h : bytesLt (key x) (key c) = true
    · rw [if_pos h, List.pairwise_cons]
      exact ⟨fun b hb => (List.mem_cons.mp hb).elim (fun e => e ▸ h) fun hb => bytesLt_trans _ _ _ h (hs.1 b hb),
        List.pairwise_cons.mpr hs⟩
    · rw [if_neg h, List.pairwise_cons]
      have hk' : bytesLt (key c) (key x) = true :=
        bytesLt_total _ _ (by simpa using h) fun e => hne c (by simp) e.symm
      refine ⟨fun b hb => ?_, ih hs.2 fun y hy => hne y (by simp [hy])⟩
      rcases List.mem_cons.mp ((ins_perm lt ins hnil hcons x r).mem_iff.mp hb) with rfl | hb'
      · exact hk'
      · exact hs.1 b hb'

end Insert

theorem kvInsert_fresh {α : Type} (k : Bytes) (v : α) :
    ∀ (l : List (Bytes × α)), (∀ x ∈ l, x.1 ≠ k) → kvInsert k v l = l ++ [(k, v)]
  | [], _ => rfl
  | (k', v') :: r, h => by
    have hk : k' ≠ k := h (k', v') List.mem_cons_self
    simp only [kvInsert, hk, ↓reduceIte, List.cons_append, kvInsert_fresh k v r fun x hx => h x (List.mem_cons_of_mem _ hx)]

theorem kvInsert_notin {α : Type} (k : Bytes) (v : α) (l : List (Bytes × α)) (h : k ∉ l.map (·.1)) :
    kvInsert k v l = l ++ [(k, v)] :=
  kvInsert_fresh k v l fun x hx e => h (List.mem_map.2 ⟨x, hx, e⟩)

end OjgVerif
