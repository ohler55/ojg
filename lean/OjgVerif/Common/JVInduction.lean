import OjgVerif.Common.Bytes
/-! Induction over a JSON value together with its element and member lists, with all scalars as one case.
Namespace `OjgVerif.Match`: the statements of the Match family use the leaf test `isLeafJV`. The principle is used
by the Match proofs and Sen/LemmasWriter.lean (`Sen.tree_ind`). -/
namespace OjgVerif.Match
open OjgVerif

def isLeafJV : JV → Bool
  | .arr _ => false
  | .obj _ => false
  | _ => true

theorem tree_induction {P : JV → Prop} {PL : List JV → Prop} {PK : List (Bytes × JV) → Prop}
    (leaf : ∀ v, isLeafJV v = true → P v)
    (arr : ∀ xs, PL xs → P (.arr xs)) (obj : ∀ kvs, PK kvs → P (.obj kvs))
    (nil : PL []) (cons : ∀ x r, P x → PL r → PL (x :: r))
    (knil : PK []) (kcons : ∀ k v r, P v → PK r → PK ((k, v) :: r)) :
    (∀ v, P v) ∧ (∀ xs, PL xs) ∧ (∀ kvs, PK kvs) := by
  have hv : ∀ v, P v := fun v =>
    JV.rec (motive_1 := P) (motive_2 := PL) (motive_3 := PK) (motive_4 := fun kv => P kv.2)
      (leaf _ rfl) (fun _ => leaf _ rfl) (fun _ => leaf _ rfl) (fun _ => leaf _ rfl) (fun _ => leaf _ rfl)
      (fun _ => leaf _ rfl) (fun _ => leaf _ rfl) arr obj nil cons knil
      (fun kv r h hr => kcons kv.1 kv.2 r h hr) (fun _ _ h => h) v
  exact ⟨hv, fun xs => List.rec nil (fun x r ih => cons x r (hv x) ih) xs,
    fun kvs => List.rec knil (fun kv r ih => kcons kv.1 kv.2 r (hv kv.2) ih) kvs⟩

end OjgVerif.Match
