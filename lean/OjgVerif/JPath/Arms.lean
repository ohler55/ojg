import OjgVerif.JPath.Model
import OjgVerif.Gen.JpathArms
/-! # The arms of the model against the arms of the source

`Gen.JpathArms.switches` (tools/extract/jpath_arms.go) lists every switch of the JSONPath evaluators of jp/ with
its arms in source order: the fragment switch of the five stack machines, and inside every fragment case the
type switches over the container (`prev`), the union member (`u`), the element to hand on (`v`) and the kind
switches of the reflect fallback (`rt.Kind()`); the `locate`/`Walk` methods of every fragment type and the
helpers they share; the reflect helpers of get.go and script.go `evalWithRoot`.

The model dispatches on a fragment kind (`Frag`) and on a container kind (`Rep`: `AK` × `OKind`). The checks
below say that **every (fragment kind × container kind) arm the model has is an arm of the source**, evaluator
by evaluator: a case dropped from one of the switches (a container type from a `prev` switch, a kind from the
list of kinds that are handed on, a reflect kind from a helper) makes a check false and breaks the theorems
`OjgVerif.C11.arms_*` (Props/C11Arms.lean: one kernel evaluation over the generated table, `arms_table`, of which the
`arms_*` statements are the parts). They are tripwires on the
*shape* of the source — which arms exist — not on what the arms do (that is the correspondence run). -/
namespace OjgVerif.JPath.Arms
open OjgVerif OjgVerif.Gen.JpathArms

/-- the fragment kinds of the model (`Frag` without its parameters) -/
inductive FK where
  | child | nth | wild | descent | union | slice | filter
  deriving DecidableEq, Inhabited

def FK.all : List FK := [.child, .nth, .wild, .descent, .union, .slice, .filter]

/-- the case of the fragment switch (`switch tf := f.(type)`) / the receiver of the `locate` and `Walk` methods -/
def FK.goCase : FK → String
  | .child => "Child" | .nth => "Nth" | .wild => "Wildcard" | .descent => "Descent"
  | .union => "Union" | .slice => "Slice" | .filter => "*Filter"

def FK.recv : FK → String
  | .filter => "Filter"
  | k => k.goCase

/-- does the fragment select in arrays / in objects -/
def FK.onArrays : FK → Bool
  | .child => false
  | _ => true
def FK.onObjects : FK → Bool
  | .nth => false | .slice => false
  | _ => true

/-- the arm of a container type switch that handles an array kind of the model (typed slices and arrays are
reached through the `default:` arm and a reflect helper) -/
def goAK : AK → String
  | .any => "[]any" | .gen => "gen.Array" | .indexed => "Indexed" | .rslice => "default" | .rarray => "default"
def goOK : OKind → String
  | .map => "map[string]any" | .gen => "gen.Object" | .keyed => "Keyed" | .struct => "default" | .rmap => "default"

/-- the reflect kind of a typed representation -/
def kindAK : AK → Option String
  | .rslice => some "reflect.Slice" | .rarray => some "reflect.Array" | _ => none
def kindOK : OKind → Option String
  | .struct => some "reflect.Struct" | .rmap => some "reflect.Map" | _ => none

def AK.all : List AK := [.any, .gen, .indexed, .rslice, .rarray]
def OKind.all : List OKind := [.map, .gen, .keyed, .struct, .rmap]

/-- the switches over `subj` in the fragment case / method / helper `frag` of evaluator `ev` -/
def rows (ev frag subj : String) : List (List (List String)) :=
  (switches.filter fun s => s.ev == ev && s.frag == frag && s.subj == subj).map (·.arms)

def hasArm (arms : List (List String)) (k : String) : Bool := arms.any fun a => a.contains k

/-- there are at least `n` such switches and every one of them has an arm for `k` -/
def everyHas (n : Nat) (ev frag subj k : String) : Bool :=
  decide (n ≤ (rows ev frag subj).length) && (rows ev frag subj).all fun arms => hasArm arms k

/-- at least `n` such switches have an arm for `k` -/
def someHave (n : Nat) (ev frag subj k : String) : Bool :=
  decide (n ≤ ((rows ev frag subj).filter fun arms => hasArm arms k).length)

/-! ## the stack machines -/

def machines : List String := ["Get", "FirstFound", "Has"]
def genMachines : List String := ["GetNodes", "FirstNode"]

/-- the fragment switch of an evaluator has a case for every fragment kind of the model -/
def fragCases (ev : String) : Bool := FK.all.all fun k => everyHas 1 ev "*" "f" k.goCase

/-- the container switch (`switch tv := prev.(type)`) of fragment `k` in machine `ev` has the arm for an array
kind (a union has a last-position and an inner copy of its two switches; a filter has no switch of its own:
`evalWithRoot`) -/
def machineArr (ev : String) (k : FK) (a : AK) : Bool :=
  match k with
  | .filter => someHave 1 "helper" "evalWithRoot" "data" (goAK a)
  | .union => someHave 2 ev k.goCase "prev" (goAK a)
  | _ => !k.onArrays || everyHas 1 ev k.goCase "prev" (goAK a)

def machineObj (ev : String) (k : FK) (o : OKind) : Bool :=
  match k with
  | .filter => someHave 1 "helper" "evalWithRoot" "data" (goOK o)
  | .union => someHave 2 ev k.goCase "prev" (goOK o)
  | _ => !k.onObjects || everyHas 1 ev k.goCase "prev" (goOK o)

/-- **every (fragment kind × container kind) arm of the model is an arm of Get, FirstFound and Has** -/
def machineArms (a : AK) (o : OKind) : Bool :=
  machines.all fun ev => FK.all.all fun k => machineArr ev k a && machineObj ev k o

/-- the kinds a machine hands on to the next fragment: inside every fragment case that pushes, every switch
over the element (`switch v.(type)`) has an arm with `gen.Object` and `gen.Array`; every one with a `default:`
arm (the branches that are not gen-only) has the arm `map[string]any, []any, gen.Object, gen.Array, Keyed,
Indexed`; and there are as many kind switches of the reflect fallback as there are such `default:` arms, each
listing `reflect.Ptr, reflect.Slice, reflect.Struct, reflect.Array, reflect.Map` -/
def pushKinds (ev : String) : Bool :=
  [FK.child, .nth, .wild, .descent, .union, .slice].all fun k =>
    let vs := rows ev k.goCase "v"
    let ks := rows ev k.goCase "rt.Kind()"
    !vs.isEmpty &&
    (vs.all fun arms => arms.any fun a => a.contains "gen.Object" && a.contains "gen.Array") &&
    ((vs.filter fun arms => hasArm arms "default").all fun arms =>
      arms.any fun a => ["map[string]any", "[]any", "gen.Object", "gen.Array", "Keyed", "Indexed"].all a.contains) &&
    decide (ks.length = (vs.filter fun arms => hasArm arms "default").length) &&
    (ks.all fun arms =>
      arms.any fun a => ["reflect.Ptr", "reflect.Slice", "reflect.Struct", "reflect.Array", "reflect.Map"].all a.contains)

/-- GetNodes and FirstNode (gen data only): every fragment case; wildcard and descent switch over
`gen.Object`/`gen.Array`; every element handed on is tested for the two -/
def genArms (ev : String) : Bool :=
  fragCases ev &&
  ([FK.wild, .descent].all fun k =>
    everyHas 1 ev k.goCase "prev" "gen.Object" && everyHas 1 ev k.goCase "prev" "gen.Array") &&
  ([FK.child, .nth, .wild, .descent, .union, .slice].all fun k =>
    everyHas 1 ev k.goCase "v" "gen.Object" && everyHas 1 ev k.goCase "v" "gen.Array")

/-! ## the recursive evaluators -/

/-- the switch of `locate` for fragment `k`: `data.(type)` (wildcard, descent, child, nth, union, slice); a
filter goes through `evalWithRoot` -/
def locateArr (k : FK) (a : AK) : Bool :=
  match k with
  | .filter => someHave 1 "helper" "evalWithRoot" "data" (goAK a)
  | .union => someHave 1 "locate" k.recv "data" (goAK a)
  | _ => !k.onArrays || everyHas 1 "locate" k.recv "data" (goAK a)

def locateObj (k : FK) (o : OKind) : Bool :=
  match k with
  | .filter => someHave 1 "helper" "evalWithRoot" "data" (goOK o)
  | .union => someHave 1 "locate" k.recv "data" (goOK o)
  | _ => !k.onObjects || everyHas 1 "locate" k.recv "data" (goOK o)

/-- the switch of `Walk` for fragment `k`: `nodes[len(nodes)-1].(type)` (child, nth, slice), `data.(type)`
(filter); wildcard and descent delegate to `wildWalk`, a union to `Nth.Walk`/`Child.Walk` -/
def walkArr (k : FK) (a : AK) : Bool :=
  match k with
  | .wild => everyHas 1 "helper" "wildWalk" "data" (goAK a)
  | .descent => everyHas 1 "helper" "wildWalk" "data" (goAK a)
  | .union => everyHas 1 "Walk" "Union" "u" "int64" && everyHas 1 "Walk" "Nth" "nodes[len(nodes)-1]" (goAK a)
  | .filter => everyHas 1 "Walk" "Filter" "data" (goAK a)
  | _ => !k.onArrays || everyHas 1 "Walk" k.recv "nodes[len(nodes)-1]" (goAK a)

def walkObj (k : FK) (o : OKind) : Bool :=
  match k with
  | .wild => everyHas 1 "helper" "wildWalk" "data" (goOK o)
  | .descent => everyHas 1 "helper" "wildWalk" "data" (goOK o)
  | .union => everyHas 1 "Walk" "Union" "u" "string" && everyHas 1 "Walk" "Child" "nodes[len(nodes)-1]" (goOK o)
  | .filter => everyHas 1 "Walk" "Filter" "data" (goOK o)
  | _ => !k.onObjects || everyHas 1 "Walk" k.recv "nodes[len(nodes)-1]" (goOK o)

/-- **every (fragment kind × container kind) arm of the model is an arm of the locate and Walk methods** -/
def recursiveArms (a : AK) (o : OKind) : Bool :=
  FK.all.all fun k => locateArr k a && locateObj k o && walkArr k a && walkObj k o

/-- `locateNthChildHas` and `locateContinueFrag` continue into the same kinds as the machines hand on -/
def locateContinueKinds : Bool :=
  ["locateNthChildHas", "locateContinueFrag"].all fun h =>
    (everyHas 1 "helper" h "v" "map[string]any" && everyHas 1 "helper" h "v" "[]any" &&
     everyHas 1 "helper" h "v" "gen.Object" && everyHas 1 "helper" h "v" "gen.Array" &&
     everyHas 1 "helper" h "v" "Keyed" && everyHas 1 "helper" h "v" "Indexed") &&
    ["reflect.Ptr", "reflect.Slice", "reflect.Struct", "reflect.Array", "reflect.Map"].all fun kd =>
      everyHas 1 "helper" h "rt.Kind()" kd

/-! ## the reflect fallback (typed representations) -/

/-- the kind switch a typed array kind is reached through, per fragment kind and evaluator family -/
def reflectArr (kd : String) : Bool :=
  -- machines: Nth / union index → reflectGetNth; wildcard, descent → reflectGetWild(One); slice → reflectGetSlice;
  -- filter → evalWithRoot
  everyHas 1 "helper" "reflectGetNth" "rt.Kind()" kd && everyHas 1 "helper" "reflectGetWild" "rt.Kind()" kd &&
  everyHas 1 "helper" "reflectGetWildOne" "rt.Kind()" kd && everyHas 1 "helper" "reflectGetSlice" "rt.Kind()" kd &&
  everyHas 1 "helper" "evalWithRoot" "rv.Kind()" kd &&
  -- locate: wildcard, descent, slice; Walk: wildWalk, filter (Nth.Walk and Slice.Walk use reflectGetNth)
  everyHas 2 "locate" "Wildcard" "rt.Kind()" kd && everyHas 1 "locate" "Descent" "rt.Kind()" kd &&
  everyHas 1 "locate" "Slice" "rt.Kind()" kd && everyHas 1 "helper" "wildWalk" "rt.Kind()" kd &&
  everyHas 1 "Walk" "Filter" "rv.Kind()" kd

def reflectObj (kd : String) : Bool :=
  everyHas 1 "helper" "reflectGetChild" "rt.Kind()" kd && everyHas 1 "helper" "reflectGetWild" "rt.Kind()" kd &&
  everyHas 1 "helper" "reflectGetWildOne" "rt.Kind()" kd && everyHas 1 "helper" "evalWithRoot" "rv.Kind()" kd &&
  everyHas 2 "locate" "Wildcard" "rt.Kind()" kd && everyHas 1 "locate" "Descent" "rt.Kind()" kd &&
  everyHas 1 "helper" "wildWalk" "rt.Kind()" kd && everyHas 1 "Walk" "Filter" "rv.Kind()" kd

/-- **every typed representation of the model has its reflect kind in every helper it is reached through** -/
def reflectArms (a : AK) (o : OKind) : Bool :=
  (match kindAK a with | some kd => reflectArr kd | none => true) &&
  (match kindOK o with | some kd => reflectObj kd | none => true)

end OjgVerif.JPath.Arms
