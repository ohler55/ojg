import OjgVerif.JPath.Machines
import OjgVerif.JPath.LemmasSel
/-! # The FirstFound and Has machines against the Get machine

Round by round: a round of `First.step` returns `v` exactly when the same round of `Get.step` appends results
whose first is `v`, and otherwise leaves the same frames while Get appends nothing — provided the
last-fragment branches return the first of what Get's append (`hR`), the inner branches push what Get's push
(same `P`), and the path does not end in a bare descent (the one place where the two programs differ: the
second pass of a last descent, see Machines.lean). Hence `First.run = (Get.run).head?` for every fuel
(`search_collect`: a loop that returns at the first result against the loop that collects them). Has's round is
FirstFound's with the returned value forgotten (`has_step_first`), hence `Has.run = !(Get.run).isEmpty`.

The recursive `walkRec` and, without a budget, `locRec` are compared with the skeleton `evalSel` directly. -/
namespace OjgVerif.JPath

/-- a loop that returns at the first result -/
def search (stp : Get.Frame → JV → List JV → First.Out) : Nat → List Get.Frame → Option JV
  | 0, _ => none
  | _ + 1, [] => none
  | n + 1, fr :: st =>
    match fr.items with
    | [] => search stp n st
    | d :: rest =>
      match stp fr d rest with
      | .ret v => some v
      | .go fs => search stp n (fs ++ st)

theorem First.run_eq (sib : Bool) (R : Frag → JV → Option JV) (P : Frag → JV → List JV) (x : List Frag) :
    First.run sib R P x = search (First.step sib R P x) := by
  funext n
  induction n with
  | zero => rfl
  | succ n ih =>
    funext st
    cases st with
    | nil => rfl
    | cons fr t => simp only [First.run, search, ih]; cases fr.items <;> rfl

theorem search_collect (stpF : Get.Frame → JV → List JV → First.Out)
    (stp : Get.Frame → JV → List JV → List JV × List Get.Frame)
    (hsim : ∀ fr d rest, match stpF fr d rest with
      | .ret v => (stp fr d rest).1.head? = some v
      | .go fs => (stp fr d rest).1 = [] ∧ (stp fr d rest).2 = fs) :
    ∀ (n : Nat) (st : List Get.Frame), search stpF n st = (collect stp n st []).head?
  | 0, _ => rfl
  | _ + 1, [] => rfl
  | n + 1, fr :: t => by
    cases hit : fr.items with
    | nil => simpa only [search, collect, hit] using search_collect stpF stp hsim n t
    | cons d rest =>
      have h := hsim fr d rest
      simp only [search, collect, hit]
      rw [collect_acc]
      cases hs : stpF fr d rest <;> rw [hs] at h <;> simp only at h ⊢
      · rw [List.nil_append, List.head?_append, h]; rfl
      · rw [h.1, h.2]; exact search_collect stpF stp hsim n _

theorem has_step_first (sib : Bool) (sets : JV → Bool) (hsets : ∀ d, sets d = true) (R : Frag → JV → Bool)
    (R' : Frag → JV → Option JV) (hR : ∀ f d, R f d = (R' f d).isSome) (P : Frag → JV → List JV) (x : List Frag)
    (fr : Get.Frame) (d : JV) (rest : List JV) :
    Has.step sib sets R P x fr d rest =
      match First.step sib R' P x fr d rest with
      | .ret _ => none
      | .go fs => some fs := by
  unfold Has.step First.step
  split
  · rfl
  · simp only [hsets, Bool.not_true, Bool.false_eq_true, ↓reduceIte]
    split
    · split <;> rfl
    · rename_i r _ _
      cases r <;> cases members d <;> simp [First.retOr]
  · split
    · rw [hR]; cases R' _ d <;> rfl
    · rfl

theorem has_run_first (sib : Bool) (sets : JV → Bool) (hsets : ∀ d, sets d = true) (R : Frag → JV → Bool)
    (R' : Frag → JV → Option JV) (hR : ∀ f d, R f d = (R' f d).isSome) (P : Frag → JV → List JV) (x : List Frag) :
    ∀ (n : Nat) (st : List Get.Frame), Has.run sib sets R P x n st = (First.run sib R' P x n st).isSome
  | 0, _ => rfl
  | _ + 1, [] => rfl
  | n + 1, fr :: t => by
    simp only [Has.run, First.run, has_step_first sib sets hsets R R' hR]
    cases fr.items with
    | nil => exact has_run_first sib sets hsets R R' hR P x n t
    | cons d rest =>
      simp only []
      cases First.step sib R' P x fr d rest with
      | ret v => rfl
      | go fs => exact has_run_first sib sets hsets R R' hR P x n _

section
variable (sib : Bool) (L P : Frag → JV → List JV) (x : List Frag)

theorem endsInDescent_drop : ∀ (x : List Frag) (fi : Nat) (f : Frag) (r : List Frag),
    endsInDescent x = false → x.drop fi = f :: r → endsInDescent (f :: r) = false
  | [], fi, f, r, _, h => by simp at h
  | a :: t, 0, f, r, ht, h => by simp at h; obtain ⟨rfl, rfl⟩ := h; exact ht
  | [a], fi + 1, f, r, _, h => by simp at h
  | a :: b :: t, fi + 1, f, r, ht, h => by
    have ht' : endsInDescent (b :: t) = false := by simpa [endsInDescent] using ht
    exact endsInDescent_drop (b :: t) fi f r ht' (by simpa using h)

theorem drop_ne_descent (x : List Frag) (h : endsInDescent x = false) (fi : Nat) : x.drop fi ≠ [Frag.descent] :=
  fun hd => by simpa [endsInDescent, isDescent] using endsInDescent_drop x fi _ _ h hd

theorem first_step_of_frag (R : Frag → JV → Option JV) (fr : Get.Frame) (d : JV) (rest : List JV) (f : Frag)
    (r : List Frag) (hx : x.drop fr.fi = f :: r) (hf : isDescent f = false) :
    First.step sib R P x fr d rest =
      if r.isEmpty then First.retOr (R f d) (fr.rest fr.dflag rest)
      else .go (Get.pushed (fr.fi + 1) (P f d).reverse ++ fr.rest fr.dflag rest) := by
  cases f with
  | descent => simp [isDescent] at hf
  | _ => simp [First.step, hx]

theorem first_kidFrames (fi : Nat) (d : JV) :
    ((((members d).map (·.2)).reverse.filter isContainer).map fun c => (⟨fi, false, true, [c]⟩ : Get.Frame)).reverse
      = First.kidFrames fi d :=
  kidFrames_eq fi d

theorem first_step_sim (R : Frag → JV → Option JV) (hR : ∀ f d, R f d = (L f d).head?)
    (fr : Get.Frame) (d : JV) (rest : List JV) (hnd : x.drop fr.fi ≠ [Frag.descent]) :
    match First.step sib R P x fr d rest with
    | .ret v => (Get.step sib L P x fr d rest).1.head? = some v
    | .go fs => (Get.step sib L P x fr d rest).1 = [] ∧ (Get.step sib L P x fr d rest).2 = fs := by
  cases hx : x.drop fr.fi with
  | nil => simp [First.step, Get.step, hx]
  | cons f r =>
    rcases isDescent_cases f with rfl | hf
    · cases r with
      | nil => exact absurd hx hnd
      | cons a b =>
        cases hdf : fr.dflag with
        | true => simp [First.step, Get.step, hx, hdf]
        | false =>
          simp only [First.step, Get.step, hx, hdf, first_kidFrames, First.retOr]
          simp
    · rw [first_step_of_frag sib P x R fr d rest f r hx hf, step_of_frag sib L P x fr d rest f r hx hf]
      cases r with
      | nil => rw [hR f d]; cases L f d <;> simp [First.retOr]
      | cons g r' => simp

theorem first_run_sim (R : Frag → JV → Option JV) (hR : ∀ f d, R f d = (L f d).head?)
    (hnd : ∀ fi, x.drop fi ≠ [Frag.descent]) :
    ∀ (n : Nat) (st : List Get.Frame), First.run sib R P x n st = (Get.run sib L P x n st []).head? := by
  rw [First.run_eq, Get.run_eq]
  exact search_collect _ _ fun fr d rest => first_step_sim sib L P x R hR fr d rest (hnd fr.fi)

end

theorem first_pushV_simple (cfg : Cfg) : First.pushV cfg Rep.simple = Get.pushV cfg Rep.simple := by
  funext f v
  simp [First.pushV, Get.pushV, first_inner, Get.sel, List.map_reverse]

theorem has_pushV_simple (cfg : Cfg) : Has.pushV cfg Rep.simple = First.pushV cfg Rep.simple := by
  funext f v
  simp only [Has.pushV, First.pushV, has_inner]

theorem first_ret_simple (cfg : Cfg) (f : Frag) (d : JV) :
    First.ret cfg Rep.simple f d = (Get.lastV cfg Rep.simple f d).head? := by
  simp only [First.ret, Get.lastV, first_last, head?_map_take_one]

/-- what the rest of the path (`K`) yields on a located member, under the member's location -/
def contH (K : JV → List (Path × JV)) (m : Path × JV) : List (Path × JV) := pre m.1 (K m.2)

theorem contH_pfx (K : JV → List (Path × JV)) (a : Loc) (m : Path × JV) :
    contH K (pfx a m) = (contH K m).map (pfx a) := by
  simp [contH, pre, pfx]

theorem flatMap_contH_pfx (K : JV → List (Path × JV)) (a : Loc) (l : List (Path × JV)) :
    (l.map (pfx a)).flatMap (contH K) = (l.flatMap (contH K)).map (pfx a) := by
  induction l with
  | nil => rfl
  | cons m t ih => simp [List.flatMap_cons, ih, contH_pfx]

theorem pre_single (a : Loc) (l : List (Path × JV)) : pre [a] l = l.map (pfx a) := by
  simp [pre, pfx]

theorem flatMap_pre_self (l : List (Path × JV)) : (l.flatMap fun m => pre m.1 [([], m.2)]) = l := by
  simp [pre]

mutual

theorem wildDesc_eq (K : JV → List (Path × JV)) : ∀ (v : JV), Walk.wildDesc K v = (belowPre v).flatMap (contH K)
  | .arr xs => by simp only [Walk.wildDesc, belowPre]; exact wildDescL_eq K xs 0
  | .obj kvs => by simp only [Walk.wildDesc, belowPre]; exact wildDescKV_eq K kvs
  | .null | .bool _ | .int _ | .flt _ | .big _ | .num _ | .str _ => by simp [Walk.wildDesc, belowPre]
theorem wildDescL_eq (K : JV → List (Path × JV)) : ∀ (xs : List JV) (i : Nat),
    Walk.wildDescL K i xs = (belowPreL i xs).flatMap (contH K)
  | [], i => by simp [Walk.wildDescL, belowPreL]
  | x :: r, i => by
    simp only [Walk.wildDescL, belowPreL, List.flatMap_cons, List.flatMap_append, flatMap_contH_pfx,
      wildDesc_eq K x, wildDescL_eq K r (i + 1), List.map_append]
    simp [contH, pre_single]
theorem wildDescKV_eq (K : JV → List (Path × JV)) : ∀ (kvs : List (Bytes × JV)),
    Walk.wildDescKV K kvs = (belowPreKV kvs).flatMap (contH K)
  | [] => by simp [Walk.wildDescKV, belowPreKV]
  | m :: r => by
    simp only [Walk.wildDescKV, belowPreKV, List.flatMap_cons, List.flatMap_append, flatMap_contH_pfx,
      wildDesc_eq K m.2, wildDescKV_eq K r, List.map_append]
    simp [contH, pre_single]
end

theorem walkRec_of_frag (cfg : Cfg) (rep : Rep) (f : Frag) (rest : List Frag) (v : JV) (hf : isDescent f = false) :
    walkRec cfg rep (f :: rest) v = (Walk.last cfg rep f v).flatMap fun m => pre m.1 (walkRec cfg rep rest m.2) := by
  cases f with
  | descent => simp [isDescent] at hf
  | _ => simp [walkRec]

theorem walkRec_descent (cfg : Cfg) (rep : Rep) (rest : List Frag) (v : JV) :
    walkRec cfg rep (.descent :: rest) v =
      (if !cfg.walkDescentNoSelf && !rest.isEmpty then walkRec cfg rep rest v else [])
        ++ Walk.wildDesc (fun c => walkRec cfg rep rest c) v := by
  rw [walkRec]

/-- **the recursive Walk methods compute the skeleton over Walk's selection functions**: every path, every
tree, every configuration and representation tag -/
theorem walkRec_eq_evalSel (cfg : Cfg) (rep : Rep) :
    ∀ (x : List Frag) (v : JV), walkRec cfg rep x v = evalSel (Walk.sel cfg rep) false x v
  | [], v => by simp [walkRec, evalSel]
  | [f], v => by
    rcases isDescent_cases f with rfl | hf
    · simp only [walkRec, List.isEmpty_nil, Bool.not_true, Bool.and_false, Bool.false_eq_true, ↓reduceIte,
        List.nil_append, evalSel, Walk.sel, Walk.last, wildDesc_eq]
      exact flatMap_pre_self _
    · rw [walkRec_of_frag cfg rep f [] v hf]
      simp only [walkRec, evalSel, Walk.sel]
      exact flatMap_pre_self _
  | f :: g :: r, v => by
    have ih := walkRec_eq_evalSel cfg rep (g :: r)
    rw [evalSel]
    simp only [Bool.false_and, Bool.false_eq_true, ↓reduceIte]
    rcases isDescent_cases f with rfl | hf
    · have hK : (fun c => walkRec cfg rep (g :: r) c) = fun c => evalSel (Walk.sel cfg rep) false (g :: r) c := by
        funext c; exact ih c
      rw [walkRec_descent, hK, wildDesc_eq, ih]
      cases hw : cfg.walkDescentNoSelf <;> simp [Walk.sel, Walk.inner, hw, pre_nil] <;> rfl
    · rw [walkRec_of_frag cfg rep f (g :: r) v hf, walk_inner_eq_last cfg rep f v hf]
      congr 1
      funext m
      rw [ih]

theorem loopMax_nomax (max : Int) (hm : max ≤ 0) (g : Int → Path × JV → List (Path × JV)) :
    ∀ (l locs : List (Path × JV)), Locate.loopMax max g l locs = locs ++ l.flatMap (g max)
  | [], locs => by simp [Locate.loopMax]
  | m :: ms, locs => by
    have h0 : ¬ (0 < max) := by omega
    simp only [Locate.loopMax, h0, false_and, ↓reduceIte, List.flatMap_cons]
    rw [loopMax_nomax max hm g ms]
    simp [List.append_assoc]

theorem flatMap_ite_contOnly (l : List (Path × JV)) (F : Path × JV → List (Path × JV)) :
    (l.flatMap fun m => if isContainer m.2 then F m else []) = (contOnly l).flatMap F := by
  rw [contOnly, ← flatMap_filter_vanish l (fun m => isContainer m.2) _ fun m h => by simp [h]]
  exact flatMap_congr_mem _ _ _ fun m hm => by simp [(List.mem_filter.mp hm).2]

theorem flatMap_single_self (l : List (Path × JV)) : (l.flatMap fun m => [m]) = l := by
  induction l with
  | nil => rfl
  | cons a t ih => simp [List.flatMap_cons, ih]

mutual

theorem descLoc_nomax (K : Int → JV → List (Path × JV)) (lastp : Bool) (max : Int) (hm : max ≤ 0) :
    ∀ (v : JV), Locate.descLoc K lastp false max v =
      Locate.descHead K lastp max v ++ (belowPre v).flatMap (contH (Locate.descHead K lastp max))
  | .arr xs => by
    simp only [Locate.descLoc, belowPre]; exact descLocL_nomax K lastp max hm xs 0 _
  | .obj kvs => by
    simp only [Locate.descLoc, belowPre, Bool.false_eq_true, ↓reduceIte]; exact descLocKV_nomax K lastp max hm kvs _
  | .null | .bool _ | .int _ | .flt _ | .big _ | .num _ | .str _ => by simp [Locate.descLoc, belowPre]
theorem descLocL_nomax (K : Int → JV → List (Path × JV)) (lastp : Bool) (max : Int) (hm : max ≤ 0) :
    ∀ (xs : List JV) (i : Nat) (locs : List (Path × JV)),
      Locate.descLocL K lastp false max i xs locs =
        locs ++ (belowPreL i xs).flatMap (contH (Locate.descHead K lastp max))
  | [], i, locs => by simp [Locate.descLocL, belowPreL]
  | x :: r, i, locs => by
    have h0 : ¬ (0 < max) := by omega
    simp only [Locate.descLocL, h0, false_and, ↓reduceIte, belowPreL, List.flatMap_cons, List.flatMap_append,
      flatMap_contH_pfx]
    rw [descLocL_nomax K lastp max hm r (i + 1), descLoc_nomax K lastp max hm x]
    simp [contH, pre_single, List.append_assoc]
theorem descLocKV_nomax (K : Int → JV → List (Path × JV)) (lastp : Bool) (max : Int) (hm : max ≤ 0) :
    ∀ (kvs : List (Bytes × JV)) (locs : List (Path × JV)),
      Locate.descLocKV K lastp false max kvs locs =
        locs ++ (belowPreKV kvs).flatMap (contH (Locate.descHead K lastp max))
  | [], locs => by simp [Locate.descLocKV, belowPreKV]
  | m :: r, locs => by
    have h0 : ¬ (0 < max) := by omega
    simp only [Locate.descLocKV, h0, false_and, ↓reduceIte, belowPreKV, List.flatMap_cons, List.flatMap_append,
      flatMap_contH_pfx]
    rw [descLocKV_nomax K lastp max hm r, descLoc_nomax K lastp max hm m.2]
    simp [contH, pre_single, List.append_assoc]
end

theorem locate_last_leaf (cfg : Cfg) (rep : Rep) (f : Frag) (v : JV) (hf : isDescent f = false)
    (hv : isContainer v = false) : Locate.last cfg rep f v = [] := by
  cases v with
  | arr _ | obj _ => simp [isContainer] at hv
  | _ =>
    cases f with
    | descent => simp [isDescent] at hf
    | union ms => simp [Locate.last, mMember_leaf _ hv]
    | _ => rfl

theorem locate_leaf (cfg : Cfg) (rep : Rep) : ∀ (y : List Frag) (v : JV), y ≠ [] → endsInDescent y = false →
    isContainer v = false → evalSel (Locate.sel cfg rep) false y v = [] :=
  evalSel_leaf _ false (locate_last_leaf cfg rep)
    (fun f v hf hv => by rw [locate_inner_frag cfg rep f hf v, locate_last_leaf cfg rep f v hf hv]; rfl)
    (fun v hv => by simp [Locate.sel, Locate.inner, Locate.last, belowPre_leaf v hv, belowPreCut_leaf v hv])

/-- what the `locate` methods do with a located member `m` (locate.go: `locateNthChildHas`; in the loops
`locateAppendFrag` resp. `locateContinueFrag`): in the last position (`e`) it is a result; otherwise the rest of the path
(`K`, under the budget `mx`) goes on below it if it is a container -/
def locCont (K : Int → JV → List (Path × JV)) (e : Bool) (mx : Int) (m : Path × JV) : List (Path × JV) :=
  if e then [m] else if isContainer m.2 then pre m.1 (K mx m.2) else []

theorem locRec_child (cfg : Cfg) (rep : Rep) (k : Bytes) (rest : List Frag) (max : Int) (v : JV) :
    locRec cfg rep (.child k :: rest) max v = (mKey k v).flatMap (locCont (locRec cfg rep rest) rest.isEmpty max) := by
  rw [locRec]; rfl

theorem locRec_nth (cfg : Cfg) (rep : Rep) (i : Int) (rest : List Frag) (max : Int) (v : JV) :
    locRec cfg rep (.nth i :: rest) max v = (mIdx i v).flatMap (locCont (locRec cfg rep rest) rest.isEmpty max) := by
  rw [locRec]; rfl

theorem locRec_descent (cfg : Cfg) (rep : Rep) (rest : List Frag) (max : Int) (v : JV) :
    locRec cfg rep (.descent :: rest) max v =
      Locate.descLoc (fun mx c => locRec cfg rep rest mx c) rest.isEmpty
        (cfg.typedMapWild && decide (rep.ok = OKind.rmap)) max v := by
  rw [locRec]

theorem locRec_slice (cfg : Cfg) (rep : Rep) (s e t : Option Int) (rest : List Frag) (max : Int) (v : JV) :
    locRec cfg rep (.slice s e t :: rest) max v =
      if rest.isEmpty then Locate.last cfg rep (.slice s e t) v
      else Locate.loopMax max (locCont (locRec cfg rep rest) false) (Locate.last cfg rep (.slice s e t) v) [] := by
  rw [locRec]; rfl

/-- the fragments of `locRec`'s last arm (`| f =>`): one `Locate.loopMax` loop over `Locate.last`, which in the last
position keeps the member itself -/
def loopFrag : Frag → Bool
  | .wild => true
  | .union _ => true
  | .filter _ => true
  | _ => false

theorem locRec_loop (cfg : Cfg) (rep : Rep) (f : Frag) (hl : loopFrag f = true) (rest : List Frag) (max : Int) (v : JV) :
    locRec cfg rep (f :: rest) max v =
      Locate.loopMax max (locCont (locRec cfg rep rest) rest.isEmpty) (Locate.last cfg rep f v) [] := by
  cases f <;> simp [loopFrag] at hl <;> simp only [locRec] <;> rfl

theorem locRec_single (cfg : Cfg) (rep : Rep) (f : Frag) (hf : isDescent f = false) (max : Int) (hm : max ≤ 0) (v : JV) :
    locRec cfg rep [f] max v = Locate.last cfg rep f v := by
  cases f with
  | descent => simp [isDescent] at hf
  | child k => rw [locRec_child]; exact flatMap_single_self _
  | nth i => rw [locRec_nth]; exact flatMap_single_self _
  | slice s e t => rw [locRec_slice]; rfl
  | wild | union _ | filter _ => rw [locRec_loop cfg rep _ rfl, loopMax_nomax max hm]; exact flatMap_single_self _

theorem locRec_inner (cfg : Cfg) (rep : Rep) (f : Frag) (hf : isDescent f = false) (g : Frag) (r : List Frag)
    (max : Int) (hm : max ≤ 0) (v : JV) :
    locRec cfg rep (f :: g :: r) max v =
      (contOnly (Locate.last cfg rep f v)).flatMap fun m => pre m.1 (locRec cfg rep (g :: r) max m.2) := by
  cases f with
  | descent => simp [isDescent] at hf
  | child k => rw [locRec_child]; exact flatMap_ite_contOnly _ _
  | nth i => rw [locRec_nth]; exact flatMap_ite_contOnly _ _
  | slice s e t => rw [locRec_slice, ← flatMap_ite_contOnly]; exact loopMax_nomax max hm _ _ _
  | wild | union _ | filter _ => rw [locRec_loop cfg rep _ rfl, loopMax_nomax max hm]; exact flatMap_ite_contOnly _ _

/-- **the recursive `locate` methods without a budget (`max ≤ 0`) compute the skeleton over Locate's selection
functions**: every non-empty path that does not end in a bare descent, every tree -/
theorem locRec_eq_evalSel (cfg : Cfg) (rep : Rep)
    (hcut : (cfg.typedMapWild && decide (rep.ok = OKind.rmap)) = false) (max : Int) (hm : max ≤ 0) :
    ∀ (x : List Frag) (v : JV), x ≠ [] → endsInDescent x = false →
      locRec cfg rep x max v = evalSel (Locate.sel cfg rep) false x v
  | [], _, h, _ => absurd rfl h
  | [f], v, _, ht => by
    have hf : isDescent f = false := by simpa [endsInDescent] using ht
    rw [locRec_single cfg rep f hf max hm v]
    simp [evalSel, Locate.sel]
  | f :: g :: r, v, _, ht => by
    have ht' : endsInDescent (g :: r) = false := by simpa [endsInDescent] using ht
    have ih := fun c => locRec_eq_evalSel cfg rep hcut max hm (g :: r) c (by simp) ht'
    rw [evalSel]
    simp only [Bool.false_and, Bool.false_eq_true, ↓reduceIte]
    rcases isDescent_cases f with rfl | hf
    · rw [locRec_descent, hcut, descLoc_nomax _ _ max hm]
      -- the head of the descent on any node is the rest of the path on it (nothing on a leaf)
      have hE : Locate.descHead (fun mx c => locRec cfg rep (g :: r) mx c) (g :: r).isEmpty max
          = fun u => evalSel (Locate.sel cfg rep) false (g :: r) u := by
        funext u
        simp only [Locate.descHead, List.isEmpty_cons, Bool.false_eq_true, ↓reduceIte]
        by_cases hu : isContainer u = true
        · simp [hu, ih u]
        · have hu' : isContainer u = false := by simpa using hu
          simp [hu', locate_leaf cfg rep (g :: r) u (by simp) ht' hu']
      rw [hE]
      have hin : (Locate.sel cfg rep).inner .descent v
          = ([], v) :: (belowPre v).filter (fun m => isContainer m.2 || m.1.isEmpty) := by
        simp [Locate.sel, Locate.inner, Locate.last, hcut]
      rw [hin, List.flatMap_cons, pre_nil]
      congr 1
      symm
      apply flatMap_filter_vanish
      intro m hmf
      simp only [Bool.or_eq_false_iff] at hmf
      simp [locate_leaf cfg rep (g :: r) m.2 (by simp) ht' hmf.1, pre]
    · rw [locRec_inner cfg rep f hf g r max hm v, locate_inner_frag cfg rep f hf v]
      congr 1
      funext m
      rw [ih]

/-- `denV_eq_evalSel` on the paths that do not end in a bare descent, where nothing is asked of the last selection
of a descent (there the machines report the node itself, which a `take 1` last selection does not) -/
theorem denV_eq_evalSel_gen (sib : Bool) (S : Sel) (L P : Frag → JV → List JV)
    (hsets : sib = false ∨ S.sets = fun _ => true)
    (hdesc : ∀ v, S.inner .descent v = nodesInner v)
    (hL : ∀ f v, isDescent f = false → L f v = (S.last f v).map (·.2))
    (hP : ∀ f v, isDescent f = false → (P f v).reverse = (S.inner f v).map (·.2)) :
    ∀ (x : List Frag) (v : JV), endsInDescent x = false → denV sib L P x v = (evalSel S sib x v).map (·.2) :=
  fun x v ht => denV_eq_evalSel sib S L P hsets hdesc hL hP x v (Or.inl ht)

/-- what FirstFound's last-fragment branches would append if they did not return -/
def First.lastV (cfg : Cfg) (rep : Rep) (f : Frag) (v : JV) : List JV := (First.last cfg rep f v).map (·.2)

theorem first_inner_descent (cfg : Cfg) (rep : Rep)
    (hcut : (cfg.typedMapWild && decide (rep.ok = OKind.rmap)) = false) (v : JV) :
    First.inner cfg rep .descent v = nodesInner v := by
  simp [First.inner, Get.push, hcut]

/-- **the FirstFound machine computes the skeleton model `firstM`**: every configuration and representation
tag (typed maps: with `typedMapWild` off), every tree, every path that does not end in a bare descent.
FirstFound's loop is first read as the head of a Get loop run over FirstFound's OWN selections (`First.lastV`,
`First.pushV`: a machine that exists only in this proof), so that `run_eq_denV` and `denV_eq_evalSel` apply as they
stand. -/
theorem firstMach_eq_firstM (cfg : Cfg) (rep : Rep)
    (hcut : (cfg.typedMapWild && decide (rep.ok = OKind.rmap)) = false)
    (x : List Frag) (d : JV) (ht : endsInDescent x = false) :
    firstMach cfg rep x d = firstM cfg rep x d := by
  cases x with
  | nil => simp [firstMach, firstM, evalSel]
  | cons f r =>
    simp only [firstMach, firstM]
    rw [first_run_sim cfg.descentSiblings (First.lastV cfg rep) (First.pushV cfg rep) (f :: r) (First.ret cfg rep)
      (fun _ _ => rfl) (drop_ne_descent _ ht)]
    rw [run_eq_denV _ _ _ f r d _ (Nat.le_succ _)]
    rw [denV_eq_evalSel_gen cfg.descentSiblings (First.sel cfg rep) (First.lastV cfg rep) (First.pushV cfg rep)
      (Or.inr rfl) (first_inner_descent cfg rep hcut) (fun _ _ _ => rfl)
      (fun f v _ => by simp [First.pushV, First.sel]) (f :: r) d ht]

/-- **the Has machine says whether the FirstFound machine finds anything**, where has.go's descent has a case for
every element and its inner branches push what FirstFound's push -/
theorem hasMach_eq_isSome (cfg : Cfg) (rep : Rep) (hd : cfg.hasTypedDescent = false)
    (hp : Has.pushV cfg rep = First.pushV cfg rep) (x : List Frag) (d : JV) :
    hasMach cfg rep x d = (firstMach cfg rep x d).isSome := by
  cases x with
  | nil => rfl
  | cons f r =>
    simp only [hasMach, firstMach, hp]
    exact has_run_first _ _ (fun v => by simp [Has.sel, hd]) _ (First.ret cfg rep)
      (fun f d => by simp only [Has.ret, First.ret]; cases First.last cfg rep f d <;> rfl) _ _ _ _

theorem has_pushV_eq (cfg : Cfg) (rep : Rep) (hd : cfg.hasTypedDescent = false) (hh : cfg.hasTypedMap = false) :
    Has.pushV cfg rep = First.pushV cfg rep := by
  funext f v; simp only [Has.pushV, First.pushV, has_inner_eq_first cfg rep hd hh]

/-- **the Has machine computes the skeleton model `hasM`**: every configuration with has.go's kind lists
complete (`hasTypedMap`, `hasTypedDescent` off: since 21977aa), every representation tag, every tree, every
path that does not end in a bare descent -/
theorem hasMach_eq_hasM (cfg : Cfg) (rep : Rep) (hd : cfg.hasTypedDescent = false) (hh : cfg.hasTypedMap = false)
    (hcut : (cfg.typedMapWild && decide (rep.ok = OKind.rmap)) = false)
    (x : List Frag) (d : JV) (ht : endsInDescent x = false) :
    hasMach cfg rep x d = hasM cfg rep x d := by
  have hsel : Has.sel cfg rep = First.sel cfg rep := by
    simp only [Has.sel, First.sel, hd, Bool.not_false, Bool.true_or, funext fun f => funext (has_inner_eq_first cfg rep hd hh f)]
  rw [hasMach_eq_isSome cfg rep hd (has_pushV_eq cfg rep hd hh), firstMach_eq_firstM cfg rep hcut x d ht, firstM, hasM, hsel]
  cases evalSel (First.sel cfg rep) cfg.descentSiblings x d <;> rfl

end OjgVerif.JPath
