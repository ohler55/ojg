import OjgVerif.JPath.LemmasMach
/-! # Locate's budget

`Expr.Locate(data, max)`: "The returned slice is limited to the max specified." For the recursive model `locRec`
(the transcription of the `locate` methods with their budget arithmetic) this holds for every path **without a
slice fragment**: `locRec_le`. A slice in the last position has no budget test in slice.go (witness
`C11.C11_locate_budget_witness`), which is why slices are excluded. -/
namespace OjgVerif.JPath

theorem pre_length (p : Path) (l : List (Path × JV)) : (pre p l).length = l.length := by simp [pre]

theorem loopMax_le (max : Int) (hm : 0 < max) (g : Int → Path × JV → List (Path × JV))
    (hg : ∀ mx m, 0 < mx → ((g mx m).length : Int) ≤ mx) :
    ∀ (l locs : List (Path × JV)), (locs.length : Int) < max → ((Locate.loopMax max g l locs).length : Int) ≤ max
  | [], locs, h => by simp only [Locate.loopMax]; omega
  | m :: ms, locs, h => by
    have hmx : 0 < max - (locs.length : Int) := by omega
    have hb := hg (max - locs.length) m hmx
    simp only [Locate.loopMax, hm, true_and, ↓reduceIte]
    have hlen : (((locs ++ g (max - locs.length) m).length : Nat) : Int) = locs.length + (g (max - locs.length) m).length := by
      simp [List.length_append]
    by_cases hstop : max ≤ ((locs ++ g (max - locs.length) m).length : Int)
    · rw [if_pos hstop]; omega
    · rw [if_neg hstop]
      exact loopMax_le max hm g hg ms _ (by omega)

theorem descHead_le (K : Int → JV → List (Path × JV)) (hK : ∀ mx v, 0 < mx → ((K mx v).length : Int) ≤ mx)
    (lastp : Bool) (max : Int) (hm : 0 < max) (v : JV) : ((Locate.descHead K lastp max v).length : Int) ≤ max := by
  unfold Locate.descHead
  split
  · simp; omega
  · split
    · exact hK max v hm
    · simp; omega

mutual
theorem descLoc_le (K : Int → JV → List (Path × JV)) (hK : ∀ mx v, 0 < mx → ((K mx v).length : Int) ≤ mx)
    (lastp cut : Bool) : ∀ (v : JV) (max : Int), 0 < max → ((Locate.descLoc K lastp cut max v).length : Int) ≤ max
  | .arr xs, max, hm => by
    simp only [Locate.descLoc]
    exact descLocL_le K hK lastp cut xs 0 max _ hm (descHead_le K hK lastp max hm _)
  | .obj kvs, max, hm => by
    simp only [Locate.descLoc]
    split
    · exact descHead_le K hK lastp max hm _
    · exact descLocKV_le K hK lastp cut kvs max _ hm (descHead_le K hK lastp max hm _)
  | .null, max, hm | .bool _, max, hm | .int _, max, hm | .flt _, max, hm | .big _, max, hm | .num _, max, hm
  | .str _, max, hm => by simp only [Locate.descLoc]; exact descHead_le K hK lastp max hm _
theorem descLocL_le (K : Int → JV → List (Path × JV)) (hK : ∀ mx v, 0 < mx → ((K mx v).length : Int) ≤ mx)
    (lastp cut : Bool) : ∀ (xs : List JV) (i : Nat) (max : Int) (locs : List (Path × JV)), 0 < max →
      (locs.length : Int) ≤ max → ((Locate.descLocL K lastp cut max i xs locs).length : Int) ≤ max
  | [], i, max, locs, hm, h => by simpa [Locate.descLocL] using h
  | x :: r, i, max, locs, hm, h => by
    simp only [Locate.descLocL, hm, true_and, ↓reduceIte]
    by_cases hstop : max - (locs.length : Int) ≤ 0
    · rw [if_pos hstop]; exact h
    · rw [if_neg hstop]
      have hb := descLoc_le K hK lastp cut x (max - locs.length) (by omega)
      apply descLocL_le K hK lastp cut r (i + 1) max _ hm
      simp only [List.length_append, List.length_map]
      omega
theorem descLocKV_le (K : Int → JV → List (Path × JV)) (hK : ∀ mx v, 0 < mx → ((K mx v).length : Int) ≤ mx)
    (lastp cut : Bool) : ∀ (kvs : List (Bytes × JV)) (max : Int) (locs : List (Path × JV)), 0 < max →
      (locs.length : Int) ≤ max → ((Locate.descLocKV K lastp cut max kvs locs).length : Int) ≤ max
  | [], max, locs, hm, h => by simpa [Locate.descLocKV] using h
  | m :: r, max, locs, hm, h => by
    simp only [Locate.descLocKV, hm, true_and, ↓reduceIte]
    by_cases hstop : max - (locs.length : Int) ≤ 0
    · rw [if_pos hstop]; exact h
    · rw [if_neg hstop]
      have hb := descLoc_le K hK lastp cut m.2 (max - locs.length) (by omega)
      apply descLocKV_le K hK lastp cut r max _ hm
      simp only [List.length_append, List.length_map]
      omega
end

def noSlice : Frag → Bool
  | .slice _ _ _ => false
  | _ => true

theorem small_flatMap_le {α β : Type} (l : List α) (h : l.length ≤ 1) (g : α → List β) (mx : Int) (hmx : 0 < mx)
    (hg : ∀ m, ((g m).length : Int) ≤ mx) : ((l.flatMap g).length : Int) ≤ mx := by
  match l, h with
  | [], _ => simpa using Int.le_of_lt hmx
  | [a], _ => simpa using hg a

theorem cont_le (K : Int → JV → List (Path × JV)) (hK : ∀ mx v, 0 < mx → ((K mx v).length : Int) ≤ mx)
    (e : Bool) (mx : Int) (hmx : 0 < mx) (m : Path × JV) : ((locCont K e mx m).length : Int) ≤ mx := by
  unfold locCont
  split
  · simp; omega
  · split
    · rw [pre_length]; exact hK mx m.2 hmx
    · simp; omega

/-- **Locate respects its budget on every path without a slice fragment**: at most `max` paths for `max > 0` -/
theorem locRec_le (cfg : Cfg) (rep : Rep) : ∀ (x : List Frag), x.all noSlice = true →
    ∀ (max : Int) (v : JV), 0 < max → ((locRec cfg rep x max v).length : Int) ≤ max
  | [], _, max, v, hm => by simp [locRec]; omega
  | f :: rest, hx, max, v, hm => by
    simp only [List.all_cons, Bool.and_eq_true] at hx
    have ih := locRec_le cfg rep rest hx.2
    have hK : ∀ mx c, 0 < mx → ((locRec cfg rep rest mx c).length : Int) ≤ mx := fun mx c h => ih mx c h
    cases f with
    | slice s e t => simp [noSlice] at hx
    | child k =>
      rw [locRec_child]
      exact small_flatMap_le _ (mKey_small k v) _ max hm (cont_le _ hK rest.isEmpty max hm)
    | nth i =>
      rw [locRec_nth]
      exact small_flatMap_le _ (mIdx_small i v) _ max hm (cont_le _ hK rest.isEmpty max hm)
    | descent => rw [locRec_descent]; exact descLoc_le _ hK _ _ v max hm
    | wild | union _ | filter _ =>
      rw [locRec_loop cfg rep _ rfl]
      exact loopMax_le max hm _ (fun mx m h => cont_le _ hK rest.isEmpty mx h m) _ [] (by simpa using hm)

end OjgVerif.JPath
