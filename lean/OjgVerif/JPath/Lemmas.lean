import OjgVerif.JPath.Model
/-! # The Get work-list machine computes the flatMap denotation

`Get.run` (frames of stack items under fragment-index markers, descent flags, reverse pushes) against
`denV`, the value-level recursive evaluation over the same last/push selection functions. Invariant:
`results ++ denotation of the pending frames` is constant; fuel: `Get.cost` is a proved bound. -/
namespace OjgVerif.JPath

def nodesInnerV (v : JV) : List JV := (nodesInner v).map (·.2)
def lastBelowV (v : JV) : List JV := (lastBelow v).map (·.2)
def kidsV (v : JV) : List JV := (members v).map (·.2)

/-- what a fresh stretch of stack (`items` under a marker without flags) yields, given what one item
yields when it is expanded (`full`) or only continued (`shallow`). It is the model's `sibEval` on values, for
the machines' `sets = fun _ => true` and with the flag as an argument (`map_snd_sibEval`, LemmasSel). -/
def sibList (sib : Bool) (full shallow : JV → List JV) : List JV → List JV
  | [] => []
  | m :: ms => if sib then full m ++ ms.flatMap shallow else full m ++ ms.flatMap full

/-- value-level denotation over the machine's selection functions -/
def denV (sib : Bool) (L P : Frag → JV → List JV) : List Frag → JV → List JV
  | [], v => [v]
  | [f], v =>
    match f with
    | .descent => lastBelowV v ++ [v]
    | _ => L f v
  | f :: g :: r, v =>
    match f with
    | .descent => (nodesInnerV v).flatMap (denV sib L P (g :: r))
    | _ =>
      match g with
      | .descent => sibList sib (denV sib L P (g :: r)) (denV sib L P r) (P f v).reverse
      | _ => (P f v).reverse.flatMap (denV sib L P (g :: r))

section
variable (sib : Bool) (L P : Frag → JV → List JV) (x : List Frag)

/-- an item of a descent frame, expanded: everything below it (and itself unless it is a reported member) -/
def dFull (r : List Frag) (c : Bool) (d : JV) : List JV :=
  match r with
  | [] => lastBelowV d ++ (if c then [] else [d])
  | _ :: _ => (nodesInnerV d).flatMap (denV sib L P r)

/-- an item of a descent frame whose marker carries descentFlag: second pass only -/
def dSecond (r : List Frag) (c : Bool) (d : JV) : List JV :=
  match r with
  | [] => if c then [] else [d]
  | _ :: _ => denV sib L P r d

/-- what the items under one marker still yield. `descentFlag` sits on the marker but speaks of the top item only
(its first pass is done): the top item yields its second pass, the items below it their full expansion, and
`Frame.rest` clears the flag when the top item goes. With `sib` (the defect before baff053) the flag is never
cleared, so every item yields its second pass only. `phiFrame` counts the rounds the same way. -/
def denFrame (fr : Get.Frame) : List JV :=
  match x.drop fr.fi with
  | [] => []
  | .descent :: r =>
    if fr.dflag then
      (if sib then fr.items.flatMap (dSecond sib L P r fr.cflag)
       else match fr.items with
         | [] => []
         | d :: rest => dSecond sib L P r fr.cflag d ++ rest.flatMap (dFull sib L P r fr.cflag))
    else sibList sib (dFull sib L P r fr.cflag) (dSecond sib L P r fr.cflag) fr.items
  | f :: r => fr.items.flatMap (denV sib L P (f :: r))

def denStack (st : List Get.Frame) : List JV := st.flatMap (denFrame sib L P x)

/-- potential of one item of a descent frame -/
def phiFull (r : List Frag) (d : JV) : Nat := ((nodesInner d).map fun m => 2 + Get.cost P r m.2).sum

/-- potential of a frame: the rounds it still needs -/
def phiFrame (fr : Get.Frame) : Nat :=
  match x.drop fr.fi with
  | [] => fr.items.length
  | .descent :: r =>
    if fr.dflag then
      match fr.items with
      | [] => 0
      | d :: rest => (1 + Get.cost P r d) + (rest.map (phiFull P r)).sum
    else (fr.items.map (phiFull P r)).sum
  | f :: r => (fr.items.map (Get.cost P (f :: r))).sum

def phiStack (st : List Get.Frame) : Nat := (st.map (phiFrame P x)).sum

end

theorem sum_flatMap_map (l : List JV) (g : JV → List JV) (w : JV → Nat) :
    ((l.flatMap g).map w).sum = (l.map fun a => ((g a).map w).sum).sum := by
  induction l with
  | nil => simp
  | cons a t ih => simp [List.flatMap_cons, ih]

theorem isDescent_cases (f : Frag) : f = .descent ∨ isDescent f = false := by
  cases f <;> simp [isDescent]

/-- `Get.run` and `Nodes.run` are this loop over different rounds: `stp fr d rest` = (results appended, frames
that replace the popped one) -/
def collect (stp : Get.Frame → JV → List JV → List JV × List Get.Frame) : Nat → List Get.Frame → List JV → List JV
  | 0, _, acc => acc
  | _ + 1, [], acc => acc
  | n + 1, fr :: st, acc =>
    match fr.items with
    | [] => collect stp n st acc
    | d :: rest => collect stp n ((stp fr d rest).2 ++ st) (acc ++ (stp fr d rest).1)

theorem Get.run_eq (sib : Bool) (L P : Frag → JV → List JV) (x : List Frag) :
    Get.run sib L P x = collect (Get.step sib L P x) := by
  funext n
  induction n with
  | zero => rfl
  | succ n ih =>
    funext st acc
    cases st with
    | nil => rfl
    | cons fr t => simp only [Get.run, collect, ih]; cases fr.items <;> rfl

theorem collect_acc (stp : Get.Frame → JV → List JV → List JV × List Get.Frame) :
    ∀ (n : Nat) (st : List Get.Frame) (acc : List JV), collect stp n st acc = acc ++ collect stp n st []
  | 0, _, _ => by simp [collect]
  | _ + 1, [], _ => by simp [collect]
  | n + 1, fr :: t, acc => by
    simp only [collect]
    split
    · exact collect_acc stp n t acc
    · rw [collect_acc stp n _ (acc ++ _), collect_acc stp n _ ([] ++ _)]
      simp [List.append_assoc]

/-- what is asked of a round that pops the top item of `fr` and yields `r` (the results appended, the frames that
replace `fr`), for a reading `den` of a frame and a potential `phi`: the results with what the new frames denote are
what `fr` denoted, the potential drops, and no new frame is empty -/
def RoundOk (den : Get.Frame → List JV) (phi : Get.Frame → Nat) (fr : Get.Frame) (r : List JV × List Get.Frame) : Prop :=
  r.1 ++ r.2.flatMap den = den fr ∧ (r.2.map phi).sum + 1 ≤ phi fr ∧ ∀ f ∈ r.2, f.items ≠ []

/-- The one argument every collecting machine goes through: if every round is `RoundOk`, the loop with fuel at least
the potential of the stack returns `acc ++` what the stack denotes. -/
theorem collect_ok (stp : Get.Frame → JV → List JV → List JV × List Get.Frame)
    (den : Get.Frame → List JV) (phi : Get.Frame → Nat) (hpos : ∀ fr, fr.items ≠ [] → 1 ≤ phi fr)
    (hstep : ∀ fr d rest, fr.items = d :: rest → RoundOk den phi fr (stp fr d rest)) :
    ∀ (n : Nat) (st : List Get.Frame) (acc : List JV),
      (∀ f ∈ st, f.items ≠ []) → (st.map phi).sum ≤ n → collect stp n st acc = acc ++ st.flatMap den
  | _, [], acc, _, _ => by cases ‹Nat› <;> simp [collect]
  | 0, fr :: t, acc, hne, hphi => by
    have := hpos fr (hne fr (by simp))
    simp only [List.map_cons, List.sum_cons] at hphi
    omega
  | n + 1, fr :: t, acc, hne, hphi => by
    cases hit : fr.items with
    | nil => exact absurd hit (hne fr (by simp))
    | cons d rest =>
      obtain ⟨hden, hlt, hne'⟩ := hstep fr d rest hit
      simp only [List.map_cons, List.sum_cons] at hphi
      simp only [collect, hit]
      rw [collect_ok stp den phi hpos hstep n _ _
        (fun f hf => (List.mem_append.mp hf).elim (hne' f) fun h => hne f (List.mem_cons_of_mem _ h))
        (by rw [List.map_append, List.sum_append_nat]; omega)]
      rw [List.flatMap_append, List.flatMap_cons, ← hden]
      simp [List.append_assoc]

theorem isContainer_false_nodesInner (v : JV) (h : isContainer v = false) : nodesInner v = [([], v)] := by
  cases v <;> simp_all [isContainer, nodesInner]

theorem isContainer_false_lastBelow (v : JV) (h : isContainer v = false) : lastBelow v = [] := by
  cases v <;> simp_all [isContainer, lastBelow]

theorem isContainer_false_members (v : JV) (h : isContainer v = false) : members v = [] := by
  cases v <;> simp_all [isContainer, members]

theorem elemsFrom_vals (i : Nat) (xs : List JV) : (elemsFrom i xs).map (·.2) = xs := by
  induction xs generalizing i with
  | nil => simp [elemsFrom]
  | cons a t ih => simp [elemsFrom, ih]

@[simp] theorem pfx_snd (l : Loc) (m : Path × JV) : (pfx l m).2 = m.2 := rfl
@[simp] theorem pfx_fst (l : Loc) (m : Path × JV) : (pfx l m).1 = l :: m.1 := rfl

theorem map_pfx_vals (l : Loc) (ms : List (Path × JV)) : (ms.map (pfx l)).map (·.2) = ms.map (·.2) := by
  simp [Function.comp_def]

theorem nodesInnerL_vals (i : Nat) (xs : List JV) :
    (nodesInnerL i xs).map (·.2) = (xs.filter isContainer).flatMap nodesInnerV := by
  induction xs generalizing i with
  | nil => simp [nodesInnerL]
  | cons a t ih =>
    by_cases h : isContainer a = true
    · simp [nodesInnerL, h, ih, nodesInnerV]
    · have h' : isContainer a = false := by simpa using h
      simp [nodesInnerL, h', ih]

theorem nodesInnerKV_vals (kvs : List (Bytes × JV)) :
    (nodesInnerKV kvs).map (·.2) = ((kvs.map (·.2)).filter isContainer).flatMap nodesInnerV := by
  induction kvs with
  | nil => simp [nodesInnerKV]
  | cons a t ih =>
    by_cases h : isContainer a.2 = true
    · simp [nodesInnerKV, h, ih, nodesInnerV]
    · have h' : isContainer a.2 = false := by simpa using h
      simp [nodesInnerKV, h', ih]

theorem nodesInnerV_eq (v : JV) : nodesInnerV v = ((kidsV v).filter isContainer).flatMap nodesInnerV ++ [v] := by
  cases v with
  | arr xs => simp [nodesInnerV, nodesInner, kidsV, members, nodesInnerL_vals, elemsFrom_vals]
  | obj kvs =>
    simp only [nodesInnerV, nodesInner, kidsV, members, List.map_append, nodesInnerKV_vals, List.map_map]
    simp [Function.comp_def]
  | _ => simp [nodesInnerV, nodesInner, kidsV, members]

theorem lastBelowL_vals (i : Nat) (xs : List JV) :
    (lastBelowL i xs).map (·.2) = (xs.filter isContainer).flatMap lastBelowV := by
  induction xs generalizing i with
  | nil => simp [lastBelowL]
  | cons a t ih =>
    by_cases h : isContainer a = true
    · simp [lastBelowL, h, ih, lastBelowV]
    · have h' : isContainer a = false := by simpa using h
      simp [lastBelowL, h', ih, isContainer_false_lastBelow a h']

theorem lastBelowKV_vals (kvs : List (Bytes × JV)) :
    (lastBelowKV kvs).map (·.2) = ((kvs.map (·.2)).filter isContainer).flatMap lastBelowV := by
  induction kvs with
  | nil => simp [lastBelowKV]
  | cons a t ih =>
    by_cases h : isContainer a.2 = true
    · simp [lastBelowKV, h, ih, lastBelowV]
    · have h' : isContainer a.2 = false := by simpa using h
      simp [lastBelowKV, h', ih, isContainer_false_lastBelow a.2 h']

theorem lastBelowV_eq (v : JV) : lastBelowV v = kidsV v ++ ((kidsV v).filter isContainer).flatMap lastBelowV := by
  cases v with
  | arr xs => simp [lastBelowV, lastBelow, kidsV, members, lastBelowL_vals, elemsFrom_vals]
  | obj kvs =>
    simp only [lastBelowV, lastBelow, kidsV, members, List.map_append, lastBelowKV_vals, List.map_map]
    simp [Function.comp_def]
  | _ => simp [lastBelowV, lastBelow, kidsV, members]

section
variable (sib : Bool) (L P : Frag → JV → List JV) (x : List Frag)

theorem drop_succ_of {fi : Nat} {f : Frag} {r : List Frag} (h : x.drop fi = f :: r) : x.drop (fi + 1) = r := by
  have h1 : (x.drop fi).drop 1 = r := by rw [h]; rfl
  rw [List.drop_drop] at h1
  simpa [Nat.add_comm] using h1

theorem denStack_append (a b : List Get.Frame) :
    denStack sib L P x (a ++ b) = denStack sib L P x a ++ denStack sib L P x b := by
  simp [denStack]

theorem phiStack_append (a b : List Get.Frame) : phiStack P x (a ++ b) = phiStack P x a + phiStack P x b := by
  simp [phiStack]

theorem dFull_false (r : List Frag) : dFull sib L P r false = denV sib L P (.descent :: r) := by
  funext d
  cases r <;> rfl

theorem dSecond_false (r : List Frag) : dSecond sib L P r false = denV sib L P r := by
  funext d
  cases r <;> rfl

theorem sibList_false (f s : JV → List JV) (l : List JV) : sibList false f s l = l.flatMap f := by
  cases l <;> simp [sibList]

theorem sibList_single (f s : JV → List JV) (d : JV) : sibList sib f s [d] = f d := by
  cases sib <;> simp [sibList]

/-- what the items an inner branch pushed denote: the rest of the path on them -/
def fresh (s : List Frag) (l : List JV) : List JV :=
  match s with
  | [] => []
  | .descent :: r => sibList sib (denV sib L P (.descent :: r)) (denV sib L P r) l
  | f :: r => l.flatMap (denV sib L P (f :: r))

theorem fresh_of_frag (g : Frag) (r : List Frag) (l : List JV) (hg : isDescent g = false) :
    fresh sib L P (g :: r) l = l.flatMap (denV sib L P (g :: r)) := by
  cases g with
  | descent => simp [isDescent] at hg
  | _ => rfl

theorem fresh_nil (s : List Frag) : fresh sib L P s [] = [] := by
  unfold fresh
  split <;> simp [sibList]

theorem fresh_single (g : Frag) (r : List Frag) (d : JV) : fresh sib L P (g :: r) [d] = denV sib L P (g :: r) d := by
  cases g <;> simp [fresh, sibList_single]

theorem den_pushed (fi : Nat) (l : List JV) :
    denStack sib L P x (Get.pushed fi l) = fresh sib L P (x.drop fi) l := by
  cases l with
  | nil => simp [Get.pushed, denStack, fresh_nil]
  | cons a t =>
    simp only [Get.pushed, List.isEmpty_cons, Bool.false_eq_true, ↓reduceIte, denStack, List.flatMap_cons,
      List.flatMap_nil, List.append_nil, denFrame, fresh]
    split
    · rfl
    · simp [dFull_false, dSecond_false]
    · rfl

theorem phi_pushed (fi : Nat) (l : List JV) (g : Frag) (r : List Frag) (h : x.drop fi = g :: r) :
    phiStack P x (Get.pushed fi l) = (l.map (Get.cost P (g :: r))).sum := by
  cases l with
  | nil => simp [Get.pushed, phiStack]
  | cons a t =>
    simp only [Get.pushed, List.isEmpty_cons, Bool.false_eq_true, ↓reduceIte, phiStack, List.map_cons,
      List.map_nil, List.sum_cons, List.sum_nil, Nat.add_zero, phiFrame, h]
    cases g with
    | descent => simp only [Get.cost]; rfl
    | _ => simp [Get.cost]

theorem denV_cons_cons (f g : Frag) (r : List Frag) (v : JV) (hf : isDescent f = false) :
    denV sib L P (f :: g :: r) v = fresh sib L P (g :: r) (P f v).reverse := by
  cases f with
  | descent => simp [isDescent] at hf
  | _ => cases g <;> rfl

theorem denV_descent_cons (g : Frag) (r : List Frag) (v : JV) :
    denV sib L P (.descent :: g :: r) v = (nodesInnerV v).flatMap (denV sib L P (g :: r)) := rfl

theorem denV_single (f : Frag) (v : JV) (hf : isDescent f = false) : denV sib L P [f] v = L f v := by
  cases f with
  | descent => simp [isDescent] at hf
  | _ => rfl

theorem cost_cons (f : Frag) (r : List Frag) (v : JV) (hf : isDescent f = false) :
    Get.cost P (f :: r) v = 1 + ((P f v).map (Get.cost P r)).sum := by
  cases f with
  | descent => simp [isDescent] at hf
  | _ => rfl

theorem cost_descent (r : List Frag) (v : JV) : Get.cost P (.descent :: r) v = phiFull P r v := rfl

theorem den_rest (fr : Get.Frame) (df : Bool) (items : List JV) :
    denStack sib L P x (fr.rest df items) = denFrame sib L P x { fr with dflag := df, items := items } := by
  cases items with
  | nil =>
    simp only [Get.Frame.rest, List.isEmpty_nil, ↓reduceIte, denStack, List.flatMap_nil, denFrame]
    split
    · rfl
    · split <;> simp [sibList]
    · simp
  | cons a t => simp [Get.Frame.rest, denStack]

theorem phi_rest (fr : Get.Frame) (df : Bool) (items : List JV) :
    phiStack P x (fr.rest df items) = phiFrame P x { fr with dflag := df, items := items } := by
  cases items with
  | nil =>
    simp only [Get.Frame.rest, List.isEmpty_nil, ↓reduceIte, phiStack, List.map_nil, List.sum_nil, phiFrame]
    split
    · rfl
    · split <;> simp
    · simp
  | cons a t => simp [Get.Frame.rest, phiStack]

theorem rest_nonempty (fr : Get.Frame) (df : Bool) (items : List JV) : ∀ f ∈ fr.rest df items, f.items ≠ [] := by
  cases items with
  | nil => simp [Get.Frame.rest]
  | cons a t => simp [Get.Frame.rest]

theorem pushed_nonempty (fi : Nat) (l : List JV) : ∀ f ∈ Get.pushed fi l, f.items ≠ [] := by
  cases l with
  | nil => simp [Get.pushed]
  | cons a t => simp [Get.pushed]

theorem step_of_nil (fr : Get.Frame) (d : JV) (rest : List JV) (hx : x.drop fr.fi = []) :
    Get.step sib L P x fr d rest = ([], fr.rest fr.dflag rest) := by
  simp [Get.step, hx]

theorem step_of_frag (fr : Get.Frame) (d : JV) (rest : List JV) (f : Frag) (r : List Frag)
    (hx : x.drop fr.fi = f :: r) (hf : isDescent f = false) :
    Get.step sib L P x fr d rest =
      if r.isEmpty then (L f d, fr.rest fr.dflag rest)
      else ([], Get.pushed (fr.fi + 1) (P f d).reverse ++ fr.rest fr.dflag rest) := by
  cases f with
  | descent => simp [isDescent] at hf
  | _ => simp [Get.step, hx]

theorem denFrame_of_frag (fr : Get.Frame) (f : Frag) (r : List Frag)
    (hx : x.drop fr.fi = f :: r) (hf : isDescent f = false) :
    denFrame sib L P x fr = fr.items.flatMap (denV sib L P (f :: r)) := by
  cases f with
  | descent => simp [isDescent] at hf
  | _ => simp [denFrame, hx]

theorem phiFrame_of_frag (fr : Get.Frame) (f : Frag) (r : List Frag)
    (hx : x.drop fr.fi = f :: r) (hf : isDescent f = false) :
    phiFrame P x fr = (fr.items.map (Get.cost P (f :: r))).sum := by
  cases f with
  | descent => simp [isDescent] at hf
  | _ => simp [phiFrame, hx]

theorem phiFull_eq (r : List Frag) (d : JV) :
    phiFull P r d = ((nodesInnerV d).map fun n => 2 + Get.cost P r n).sum := by
  simp [phiFull, nodesInnerV, List.map_map, Function.comp_def]

theorem phiFull_unfold (r : List Frag) (d : JV) :
    phiFull P r d = (((kidsV d).filter isContainer).map (phiFull P r)).sum + (2 + Get.cost P r d) := by
  have hfun : (fun a => ((nodesInnerV a).map fun n => 2 + Get.cost P r n).sum) = phiFull P r := by
    funext a; rw [phiFull_eq]
  rw [phiFull_eq, nodesInnerV_eq]
  simp only [List.map_append, List.sum_append_nat, sum_flatMap_map, List.map_cons, List.map_nil, List.sum_cons,
    List.sum_nil, Nat.add_zero, hfun]

theorem phiFull_ge (r : List Frag) (d : JV) : 2 + Get.cost P r d ≤ phiFull P r d := by
  rw [phiFull_unfold]; omega

theorem dFull_unfold (r : List Frag) (c : Bool) (d : JV) :
    dFull sib L P r c d =
      (if r.isEmpty then kidsV d else []) ++ ((kidsV d).filter isContainer).flatMap (dFull sib L P r true)
        ++ dSecond sib L P r c d := by
  cases r with
  | nil =>
    have h1 : dFull sib L P [] true = lastBelowV := by funext c; simp [dFull]
    simp only [dFull, List.isEmpty_nil, ↓reduceIte, dSecond, h1]
    rw [lastBelowV_eq d]
  | cons a b =>
    have h1 : dFull sib L P (a :: b) true = fun c => (nodesInnerV c).flatMap (denV sib L P (a :: b)) := by
      funext c; simp [dFull]
    simp only [dFull, List.isEmpty_cons, Bool.false_eq_true, ↓reduceIte, List.nil_append, dSecond, h1]
    rw [nodesInnerV_eq d]
    simp [List.flatMap_append, List.flatMap_assoc]

/-- the frames the first pass of a descent puts on top, as `Get.step` builds them (back to front, then reversed)
and in member order; the right side is the body of `First.kidFrames` (Machines.lean, not seen from here;
`first_kidFrames`) -/
theorem kidFrames_eq (fi : Nat) (d : JV) :
    ((((members d).map (·.2)).reverse.filter isContainer).map fun c => (⟨fi, false, true, [c]⟩ : Get.Frame)).reverse
      = ((kidsV d).filter isContainer).map fun c => (⟨fi, false, true, [c]⟩ : Get.Frame) := by
  simp [kidsV, List.filter_reverse, List.map_reverse]

theorem cost_pos (f : Frag) (r : List Frag) (v : JV) : 1 ≤ Get.cost P (f :: r) v := by
  rcases isDescent_cases f with rfl | hf
  · rw [cost_descent]
    have := phiFull_ge P r v
    omega
  · rw [cost_cons P f r v hf]; omega

theorem phiFrame_pos (fr : Get.Frame) (h : fr.items ≠ []) : 1 ≤ phiFrame P x fr := by
  obtain ⟨fi, df, cf, items⟩ := fr
  cases items with
  | nil => exact absurd rfl h
  | cons d rest =>
    cases hx : x.drop fi with
    | nil => simp [phiFrame, hx]
    | cons f r =>
      rcases isDescent_cases f with rfl | hf
      · cases df with
        | true => simp only [phiFrame, hx, ↓reduceIte]; omega
        | false =>
          simp only [phiFrame, hx, Bool.false_eq_true, ↓reduceIte, List.map_cons, List.sum_cons]
          have := phiFull_ge P r d
          omega
      · rw [phiFrame_of_frag P x _ f r hx hf]
        simp only [List.map_cons, List.sum_cons]
        have := cost_pos P f r d
        omega

theorem step_nonempty (fr : Get.Frame) (d : JV) (rest : List JV) :
    ∀ f ∈ (Get.step sib L P x fr d rest).2, f.items ≠ [] := by
  intro f hmem
  unfold Get.step at hmem
  split at hmem
  · exact rest_nonempty _ _ _ f hmem
  · split at hmem
    · simp only [List.mem_append, List.mem_reverse, List.mem_map, List.mem_singleton] at hmem
      rcases hmem with ⟨c, _, rfl⟩ | rfl <;> simp
    · split at hmem
      · exact rest_nonempty _ _ _ f hmem
      · exact List.forall_mem_append.mpr ⟨pushed_nonempty _ _, rest_nonempty _ _ _⟩ f hmem
  · split at hmem
    · exact rest_nonempty _ _ _ f hmem
    · exact List.forall_mem_append.mpr ⟨pushed_nonempty _ _, rest_nonempty _ _ _⟩ f hmem

/-- **a round keeps what the stack denotes and lowers its potential**: the frames that replace a frame, with the
results appended, denote what the frame denoted, need at least one round less, and none of them is empty -/
theorem step_inv (fr : Get.Frame) (d : JV) (rest : List JV) (h : fr.items = d :: rest) :
    RoundOk (denFrame sib L P x) (phiFrame P x) fr (Get.step sib L P x fr d rest) := by
  suffices h2 : (Get.step sib L P x fr d rest).1 ++ denStack sib L P x (Get.step sib L P x fr d rest).2
        = denFrame sib L P x fr ∧ phiStack P x (Get.step sib L P x fr d rest).2 + 1 ≤ phiFrame P x fr from
    ⟨h2.1, h2.2, step_nonempty sib L P x fr d rest⟩
  obtain ⟨fi, df, cf, items⟩ := fr
  simp only at h
  subst h
  cases hx : x.drop fi with
  | nil =>
    rw [step_of_nil sib L P x _ d rest hx]
    simp [den_rest, phi_rest, denFrame, phiFrame, hx]
  | cons f r =>
    rcases isDescent_cases f with rfl | hf
    · cases df with
      | false =>
        -- first pass over `d`: one frame per container member goes on top and the frame stays with `descentFlag` set;
        -- `dFull_unfold` and `phiFull_unfold` are that split of what `d` denotes and of its potential
        simp only [Get.step, hx, Bool.not_false, ↓reduceIte, kidFrames_eq]
        rw [denStack_append, phiStack_append]
        have hk : denStack sib L P x (((kidsV d).filter isContainer).map fun c => (⟨fi, false, true, [c]⟩ : Get.Frame))
            = ((kidsV d).filter isContainer).flatMap (dFull sib L P r true) := by
          simp only [denStack, List.flatMap_map]
          congr 1
          funext c
          simp [denFrame, hx, sibList_single]
        have hk' : phiStack P x (((kidsV d).filter isContainer).map fun c => (⟨fi, false, true, [c]⟩ : Get.Frame))
            = (((kidsV d).filter isContainer).map (phiFull P r)).sum := by
          simp only [phiStack, List.map_map]
          congr 1
          apply List.map_congr_left
          intro c _
          simp [phiFrame, hx]
        rw [hk, hk']
        refine ⟨?_, ?_⟩
        · have hold : denFrame sib L P x ⟨fi, false, cf, d :: rest⟩
              = sibList sib (dFull sib L P r cf) (dSecond sib L P r cf) (d :: rest) := by
            simp [denFrame, hx]
          have hnew : denStack sib L P x [⟨fi, true, cf, d :: rest⟩]
              = if sib then (d :: rest).flatMap (dSecond sib L P r cf)
                else dSecond sib L P r cf d ++ rest.flatMap (dFull sib L P r cf) := by
            simp [denStack, denFrame, hx]
          rw [hold, hnew]
          have hu := dFull_unfold sib L P r cf d
          cases sib <;> simp [sibList, hu, kidsV, List.append_assoc]
        · simp only [phiStack, List.map_cons, List.map_nil, List.sum_cons, List.sum_nil, Nat.add_zero, phiFrame, hx,
            ↓reduceIte, Bool.false_eq_true]
          have := phiFull_unfold P r d
          omega
      | true =>
        have hrest : phiFrame P x ⟨fi, sib, cf, rest⟩ ≤ (rest.map (phiFull P r)).sum := by
          cases sib with
          | false => simp [phiFrame, hx]
          | true =>
            cases rest with
            | nil => simp [phiFrame, hx]
            | cons m ms =>
              simp only [phiFrame, hx, ↓reduceIte, List.map_cons, List.sum_cons]
              have := phiFull_ge P r m
              omega
        cases r with
        | nil =>
          simp only [Get.step, hx, Bool.not_true, Bool.false_eq_true, ↓reduceIte, List.isEmpty_nil, den_rest, phi_rest]
          refine ⟨?_, ?_⟩
          · cases sib <;> cases cf <;> simp [denFrame, hx, dSecond, sibList_false]
          · simp only [phiFrame, hx, ↓reduceIte] at hrest ⊢
            omega
        | cons a b =>
          simp only [Get.step, hx, Bool.not_true, Bool.false_eq_true, ↓reduceIte, List.isEmpty_cons, List.nil_append]
          rw [denStack_append, den_pushed, den_rest, phiStack_append, phi_rest, drop_succ_of x hx,
            phi_pushed P x (fi + 1) [d] a b (drop_succ_of x hx)]
          refine ⟨?_, ?_⟩
          · rw [fresh_single]
            cases sib <;> simp [denFrame, hx, dSecond, sibList_false]
          · simp only [phiFrame, hx, ↓reduceIte, List.map_cons, List.map_nil, List.sum_cons, List.sum_nil] at hrest ⊢
            omega
    · rw [step_of_frag sib L P x _ d rest f r hx hf, denFrame_of_frag sib L P x _ f r hx hf,
        phiFrame_of_frag P x _ f r hx hf]
      cases r with
      | nil =>
        simp only [List.isEmpty_nil, ↓reduceIte, den_rest, phi_rest]
        rw [denFrame_of_frag sib L P x _ f [] hx hf, phiFrame_of_frag P x _ f [] hx hf]
        have := cost_pos P f [] d
        refine ⟨by simp [denV_single sib L P f d hf], ?_⟩
        simp only [List.map_cons, List.sum_cons]
        omega
      | cons g r' =>
        simp only [List.isEmpty_cons, Bool.false_eq_true, ↓reduceIte, List.nil_append]
        rw [denStack_append, den_pushed, den_rest, phiStack_append, phi_rest, drop_succ_of x hx,
          denFrame_of_frag sib L P x _ f (g :: r') hx hf, phiFrame_of_frag P x _ f (g :: r') hx hf,
          phi_pushed P x (fi + 1) _ g r' (drop_succ_of x hx)]
        refine ⟨by simp [denV_cons_cons sib L P f g r' d hf], ?_⟩
        simp only [List.map_cons, List.sum_cons, List.map_reverse, List.sum_reverse_nat]
        rw [cost_cons P f (g :: r') d hf]
        omega

/-- `collect_ok` at `denFrame`/`phiFrame` and the start stack of one item: to add a machine, prove `hstep` for its
round (as `step_inv`, `nodes_step_inv` do) and apply this. -/
theorem collect_denV (stp : Get.Frame → JV → List JV → List JV × List Get.Frame) (f : Frag) (r : List Frag)
    (hstep : ∀ fr d rest, fr.items = d :: rest →
      RoundOk (denFrame sib L P (f :: r)) (phiFrame P (f :: r)) fr (stp fr d rest))
    (d : JV) (n : Nat) (hn : Get.cost P (f :: r) d ≤ n) :
    collect stp n [⟨0, false, false, [d]⟩] [] = denV sib L P (f :: r) d := by
  -- the start stack is the stretch `Get.pushed 0 [d]`
  rw [collect_ok stp (denFrame sib L P (f :: r)) (phiFrame P (f :: r)) (phiFrame_pos P _) hstep n _ [] (by simp)]
  · exact (den_pushed sib L P (f :: r) 0 [d]).trans (fresh_single sib L P f r d)
  · exact Nat.le_trans (Nat.le_of_eq (phi_pushed P (f :: r) 0 [d] f r rfl)) (by simpa using hn)

/-- **the Get machine computes the recursive evaluation**, for every path and every value -/
theorem run_eq_denV (f : Frag) (r : List Frag) (d : JV) (n : Nat) (hn : Get.cost P (f :: r) d ≤ n) :
    Get.run sib L P (f :: r) n [⟨0, false, false, [d]⟩] [] = denV sib L P (f :: r) d := by
  rw [Get.run_eq]
  exact collect_denV sib L P _ f r (step_inv sib L P _) d n hn

end

end OjgVerif.JPath
