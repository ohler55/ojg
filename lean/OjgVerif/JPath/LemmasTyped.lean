import OjgVerif.JPath.LemmasSel
/-! # FirstFound and Has on typed slices and arrays: the remaining deviation, exactly

On typed data get.go FirstFound and has.go Has treat a slice fragment as `reflectGetNth(tv, start)`: end and step
are not consulted (flag `firstTypedSlice`, pinned by TestExprFirst/TestExprHas). `typedView` is that reading as
a path transformation: `[s:e:t]` becomes the index `[s]` (start absent: `[0]`), or a fragment that selects
nothing when the step is written as 0. With it the deviation is characterised exactly: FirstFound/Has on a
typed representation of the path `x` are the first element / the non-emptiness of **Get on the path
`x.map typedView`** (for the code as it is now, where nothing else distinguishes them; for FirstFound the
objects must not be structs, where `reflectGetWildOne` returns the last field).

On gen nodes and Indexed/Keyed collections (neither kind typed) FirstFound's and Has's selection functions are
those on plain data (`first_sel_untyped`, `has_sel_untyped`). -/
namespace OjgVerif.JPath

/-- how FirstFound and Has read a fragment on typed slices and arrays -/
def typedView : Frag → Frag
  | .slice s _ t => if t = some 0 then .union [] else .nth (s.getD 0)
  | f => f

theorem mIdx_nonarr (i : Int) (v : JV) (h : ∀ xs, v ≠ .arr xs) : mIdx i v = [] := by
  cases v with
  | arr xs => exact absurd rfl (h xs)
  | _ => rfl

theorem first_inner_typed (cfg : Cfg) (rep : Rep) (hty : rep.ak.typed = true)
    (hf : cfg.firstTypedSlice = true) (hg : cfg.firstTypedWildOne = false) (f : Frag) (v : JV) :
    First.inner cfg rep f v = (Get.sel cfg rep).inner (typedView f) v := by
  cases f with
  | wild =>
    simp only [First.inner, hg, Bool.false_and, Bool.false_eq_true, ↓reduceIte, typedView, Get.sel, Get.push,
      contOnly, List.filter_reverse, List.reverse_reverse]
  | slice s e t =>
    by_cases ht : t = some 0
    · cases v <;> simp [First.inner, First.sliceInner, hty, hf, ht, typedView, Get.sel, Get.push]
    · have hsm : (contOnly (mIdx (s.getD 0) v)).reverse = contOnly (mIdx (s.getD 0) v) :=
        reverse_small _ (contOnly_small _ (mIdx_small _ v))
      simp only [typedView, ht, ↓reduceIte, Get.sel, Get.push, hsm, First.inner]
      cases v with
      | arr xs => simp [First.sliceInner, hty, hf, ht]
      | _ => simp [First.sliceInner, mIdx, contOnly]
  | _ => simp [First.inner, typedView, Get.sel]

theorem head?_map_unit {α : Type} (g : α → Unit) (l : List α) :
    (l.map g).head? = if l.isEmpty then none else some () := by
  cases l <;> simp

/-- last position on a typed representation: FirstFound returns the first of what Get appends for the viewed
fragment; `g` is the observation (the element, or nothing at all for Has). On a struct `reflectGetWildOne`
returns the *last* field, so only the emptiness is the same there. -/
theorem first_last_typed {γ : Type} (g : Path × JV → γ) (cfg : Cfg) (rep : Rep) (hty : rep.ak.typed = true)
    (hf : cfg.firstTypedSlice = true)
    (hst : rep.ok ≠ OKind.struct ∨ ∀ a b, g a = g b) (f : Frag) (v : JV) :
    ((First.last cfg rep f v).map g).head? = ((Get.last cfg rep (typedView f) v).map g).head? := by
  cases f with
  | child k => rfl
  | nth i => rfl
  | descent | union _ | filter _ => simp only [First.last, typedView, Get.last]; exact head?_map_take_one g _
  | slice s e t =>
    by_cases ht : t = some 0
    · cases v <;> simp [First.last, First.sliceLast, hty, hf, ht, typedView, Get.last]
    · simp only [typedView, ht, ↓reduceIte, Get.last, First.last]
      cases v with
      | arr xs => simp [First.sliceLast, hty, hf, ht]
      | _ => simp [First.sliceLast, mIdx]
  | wild =>
    simp only [First.last, typedView, Get.last]
    cases v with
    | arr xs => simp only [First.wildOne, Get.wildKids]; exact head?_map_take_one g _
    | obj kvs =>
      by_cases hm : (cfg.typedMapWild && decide (rep.ok = OKind.rmap)) = true
      · simp [First.wildOne, Get.wildKids, hm]
      · have hm' : (cfg.typedMapWild && decide (rep.ok = OKind.rmap)) = false := by simpa using hm
        by_cases hs : rep.ok = OKind.struct
        · rcases hst with h | h
          · exact absurd hs h
          · simp only [First.wildOne, Get.wildKids, ↓reduceIte, hs]
            cases kvs with
            | nil => simp
            | cons a t =>
              have hne : ((a :: t).reverse.take 1) ≠ [] := by simp
              cases hrev : (a :: t).reverse.take 1 with
              | nil => exact absurd hrev hne
              | cons b u => simp [h (([Loc.key b.1], b.2)) (([Loc.key a.1], a.2))]
        · simp only [First.wildOne, Get.wildKids, hm', Bool.false_eq_true, ↓reduceIte, hs]
          rw [List.map_map, List.map_map]
          exact head?_map_take_one _ _
    | _ => simp [First.wildOne, Get.wildKids]

/-- **FirstFound on typed slices and arrays, exactly** (skeleton model; `descentSiblings`, `firstTypedWildOne`
off, object kind not a struct): the first of Get's results **for the viewed path** on the same representation -/
theorem first_typed_view (cfg : Cfg) (rep : Rep) (hty : rep.ak.typed = true) (hs : cfg.descentSiblings = false)
    (hf : cfg.firstTypedSlice = true) (hg : cfg.firstTypedWildOne = false) (hst : rep.ok ≠ OKind.struct)
    (x : List Frag) (d : JV) :
    firstM cfg rep x d = ((getS cfg rep (x.map typedView) d).map (·.2)).head? := by
  simp only [firstM, getS, hs]
  rw [← evalSel_map]
  exact evalSel_first (First.sel cfg rep) ((Get.sel cfg rep).via typedView) false (first_inner_typed cfg rep hty hf hg)
    (first_last_typed (·.2) cfg rep hty hf (Or.inl hst)) x d (Or.inr (Or.inl rfl))

/-- **Has on typed slices and arrays, exactly** (skeleton model; `descentSiblings`, `firstTypedWildOne`,
`hasTypedMap`, `hasTypedDescent` off; any object kind): whether Get **for the viewed path** has results -/
theorem has_typed_view (cfg : Cfg) (rep : Rep) (hty : rep.ak.typed = true) (hs : cfg.descentSiblings = false)
    (hf : cfg.firstTypedSlice = true) (hg : cfg.firstTypedWildOne = false)
    (hd : cfg.hasTypedDescent = false) (hh : cfg.hasTypedMap = false) (x : List Frag) (d : JV) :
    hasM cfg rep x d = !(getS cfg rep (x.map typedView) d).isEmpty := by
  simp only [hasM, getS, hs]
  rw [← evalSel_map]
  congr 1
  refine evalSel_isEmpty (Has.sel cfg rep) ((Get.sel cfg rep).via typedView) false
    (fun f v => by simp only [Has.sel]; rw [has_inner_eq_first cfg rep hd hh]; exact first_inner_typed cfg rep hty hf hg f v)
    (fun f v => ?_) x d (Or.inr (Or.inl rfl))
  have := first_last_typed (fun _ => ()) cfg rep hty hf (Or.inr fun _ _ => rfl) f v
  simp only [head?_map_unit] at this
  change (First.last cfg rep f v).isEmpty = (Get.last cfg rep (typedView f) v).isEmpty
  revert this
  cases First.last cfg rep f v <;> cases Get.last cfg rep (typedView f) v <;> simp

theorem untyped_facts (rep : Rep) (ha : rep.ak.typed = false) (ho : rep.ok.typed = false) :
    rep.ok ≠ OKind.rmap ∧ rep.ok ≠ OKind.struct ∧ ∀ v, First.typedNode rep v = false := by
  obtain ⟨ak, ok⟩ := rep
  refine ⟨?_, ?_, ?_⟩
  · intro h; simp only at h; subst h; simp [OKind.typed] at ho
  · intro h; simp only at h; subst h; simp [OKind.typed] at ho
  · intro v; cases v <;> simp_all [First.typedNode]

theorem first_inner_untyped (cfg : Cfg) (rep : Rep) (ha : rep.ak.typed = false) (ho : rep.ok.typed = false)
    (f : Frag) (v : JV) : First.inner cfg rep f v = First.inner cfg Rep.simple f v := by
  obtain ⟨h1, _, h3⟩ := untyped_facts rep ha ho
  cases f with
  | slice s e t => cases v <;> simp [First.inner, First.sliceInner, ha, show Rep.simple.ak.typed = false from rfl]
  | wild => cases v <;> simp [First.inner, h3, simple_untyped, Get.wildKids, h1, show Rep.simple.ok ≠ .rmap by decide]
  | _ => exact get_inner_rep cfg rep _ (fun _ _ _ h => Frag.noConfusion h) (by simp [h1]) (by simp [ho]) v

theorem first_last_untyped (cfg : Cfg) (rep : Rep) (ha : rep.ak.typed = false) (ho : rep.ok.typed = false)
    (f : Frag) (v : JV) : First.last cfg rep f v = First.last cfg Rep.simple f v := by
  obtain ⟨h1, h2, _⟩ := untyped_facts rep ha ho
  obtain ⟨g1, g2, _⟩ := untyped_facts Rep.simple rfl rfl
  have ga : Rep.simple.ak.typed = false := rfl
  have go : Rep.simple.ok.typed = false := rfl
  cases f with
  | slice s e t => cases v <;> simp [First.last, First.sliceLast, ha, ga]
  | wild => cases v <;> simp [First.last, First.wildOne, h1, h2, g1, g2]
  | filter p => cases v <;> simp [First.last, Get.filterKids, ho, go]
  | _ => rfl

theorem first_sel_untyped (cfg : Cfg) (rep : Rep) (ha : rep.ak.typed = false) (ho : rep.ok.typed = false) :
    First.sel cfg rep = First.sel cfg Rep.simple := by
  simp only [First.sel]
  congr 1
  · funext f v; exact first_last_untyped cfg rep ha ho f v
  · funext f v; exact first_inner_untyped cfg rep ha ho f v

theorem has_sel_untyped (cfg : Cfg) (rep : Rep) (ha : rep.ak.typed = false) (ho : rep.ok.typed = false) :
    Has.sel cfg rep = Has.sel cfg Rep.simple := by
  obtain ⟨h1, _, h3⟩ := untyped_facts rep ha ho
  simp only [Has.sel]
  congr 1
  · funext f v; exact first_last_untyped cfg rep ha ho f v
  · funext f v
    obtain ⟨g1, _, g3⟩ := untyped_facts Rep.simple rfl rfl
    simp [Has.inner, h3, g3, first_inner_untyped cfg rep ha ho, h1, g1]
  · funext v; simp [h3, simple_untyped]

end OjgVerif.JPath
