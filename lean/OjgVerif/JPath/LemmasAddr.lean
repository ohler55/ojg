import OjgVerif.JPath.LemmasSel
import OjgVerif.JPMut.LemmasLevel
/-! # Every location the denotation reports is an address

What a path selects is the value at the location it reports (`JPMut.evalG_valAt`, the mutation family's theorem, for
every reading of slices, on data whose objects have unique member names), and the value at a location is addressed by
it (`addr_of_valAt`): the location, read as a path of `child`/`nth` fragments, selects that value and nothing else. -/
namespace OjgVerif.JPath

def keysNodup : List (Bytes × JV) → Bool
  | [] => true
  | m :: r => !(r.any fun m' => m'.1 == m.1) && keysNodup r

mutual
  /-- objects have unique member names, everywhere in the value (a Go map has). This is `JPMut.WF` as a Boolean
  (`WF_of_wf`), so that the hypothesis of the statements in Props/C11 is decided on a concrete value. -/
  def wf : JV → Bool
    | .arr xs => wfL xs
    | .obj kvs => keysNodup kvs && wfKV kvs
    | _ => true
  def wfL : List JV → Bool
    | [] => true
    | x :: r => wf x && wfL r
  def wfKV : List (Bytes × JV) → Bool
    | [] => true
    | m :: r => wf m.2 && wfKV r
end

theorem wfL_mem (xs : List JV) (h : wfL xs = true) (x : JV) (hx : x ∈ xs) : wf x = true := by
  induction xs with
  | nil => simp at hx
  | cons a t ih =>
    simp only [wfL, Bool.and_eq_true] at h
    rcases List.mem_cons.mp hx with rfl | h'
    · exact h.1
    · exact ih h.2 h'

theorem wfKV_mem (kvs : List (Bytes × JV)) (h : wfKV kvs = true) (m : Bytes × JV) (hm : m ∈ kvs) : wf m.2 = true := by
  induction kvs with
  | nil => simp at hm
  | cons a t ih =>
    simp only [wfKV, Bool.and_eq_true] at h
    rcases List.mem_cons.mp hm with rfl | h'
    · exact h.1
    · exact ih h.2 h'

/-- `l` leads from `v` to `c` and to nothing else: one step of an `Addr` (`addr_cons`) -/
def Step (v : JV) (l : Loc) (c : JV) : Prop := sel l.toFrag v = [([l], c)]

theorem step_idx (xs : List JV) (j : Nat) (x : JV) (h : xs[j]? = some x) : Step (.arr xs) (.idx j) x := by
  have hlt : j < xs.length := by
    rcases Nat.lt_or_ge j xs.length with h' | h'
    · exact h'
    · rw [List.getElem?_eq_none h'] at h; cases h
  have hneg : ¬ ((j : Int) < 0) := by omega
  obtain ⟨_, hx⟩ := List.getElem?_eq_some_iff.mp h
  simp [Step, Loc.toFrag, sel, selMember, absIdx, hneg, hlt, hx]

theorem step_key (kvs : List (Bytes × JV)) (k : Bytes) (c : JV) (h : lookup k kvs = some c) :
    Step (.obj kvs) (.key k) c := by
  simp [Step, Loc.toFrag, sel, selMember, h]

theorem eval_of_step (v : JV) (l : Loc) (c : JV) (h : Step v l c) (q : Path) :
    eval ((l :: q).map Loc.toFrag) v = pre [l] (eval (q.map Loc.toFrag) c) := by
  unfold Step at h
  simp only [List.map_cons, eval, h, List.flatMap_cons, List.flatMap_nil, List.append_nil, pre]

/-- `p` leads from `v` to `c` and to nothing else -/
def Addr (v : JV) (p : Path) (c : JV) : Prop := eval (p.map Loc.toFrag) v = [(p, c)]

theorem addr_nil (v : JV) : Addr v [] v := by simp [Addr, eval]

theorem addr_cons (v : JV) (l : Loc) (c : JV) (h : Step v l c) (q : Path) (z : JV) (hq : Addr c q z) :
    Addr v (l :: q) z := by
  unfold Addr at *
  rw [eval_of_step v l c h q, hq]
  simp [pre]

theorem keysNodup_nodup : ∀ (kvs : List (Bytes × JV)), keysNodup kvs = true → (JPMut.keysOf kvs).Nodup
  | [], _ => List.nodup_nil
  | m :: r, h => by
    simp only [keysNodup, Bool.and_eq_true, Bool.not_eq_true', List.any_eq_false, beq_iff_eq] at h
    simp only [JPMut.keysOf, List.map_cons, List.nodup_cons, List.mem_map, not_exists, not_and]
    exact ⟨fun m' hm' he => h.1 m' hm' he, keysNodup_nodup r h.2⟩

mutual
theorem WF_of_wf : ∀ (v : JV), wf v = true → JPMut.WF v
  | .arr xs, h => by simp only [JPMut.WF]; exact WFL_of_wfL xs (by simpa [wf] using h)
  | .obj kvs, h => by
    simp only [wf, Bool.and_eq_true] at h
    simp only [JPMut.WF]; exact ⟨keysNodup_nodup kvs h.1, WFK_of_wfKV kvs h.2⟩
  | .null, _ | .bool _, _ | .int _, _ | .flt _, _ | .big _, _ | .num _, _ | .str _, _ => by simp [JPMut.WF]
theorem WFL_of_wfL : ∀ (xs : List JV), wfL xs = true → JPMut.WFL xs
  | [], _ => by simp [JPMut.WFL]
  | x :: r, h => by
    simp only [wfL, Bool.and_eq_true] at h
    simp only [JPMut.WFL]; exact ⟨WF_of_wf x h.1, WFL_of_wfL r h.2⟩
theorem WFK_of_wfKV : ∀ (kvs : List (Bytes × JV)), wfKV kvs = true → JPMut.WFK kvs
  | [], _ => by simp [JPMut.WFK]
  | m :: r, h => by
    simp only [wfKV, Bool.and_eq_true] at h
    simp only [JPMut.WFK]; exact ⟨WF_of_wf m.2 h.1, WFK_of_wfKV r h.2⟩
end

theorem step_of_child (v : JV) (l : Loc) (c : JV) (h : JPMut.child? l v = some c) : Step v l c := by
  cases v with
  | arr xs => obtain ⟨j, rfl, hj⟩ := JPMut.child?_arr_inv l xs c h; exact step_idx xs j c hj
  | obj kvs =>
    cases l with
    | key k => exact step_key kvs k c h
    | idx i => simp [JPMut.child?] at h
  | _ => simp [JPMut.child?] at h

theorem wf_child (l : Loc) (v c : JV) (hw : wf v = true) (h : JPMut.child? l v = some c) : wf c = true := by
  cases v with
  | arr xs =>
    obtain ⟨j, rfl, hj⟩ := JPMut.child?_arr_inv l xs c h
    exact wfL_mem xs (by simpa [wf] using hw) c (List.mem_of_getElem? hj)
  | obj kvs =>
    cases l with
    | key k =>
      simp only [wf, Bool.and_eq_true] at hw
      obtain ⟨kv, hkv, rfl⟩ := lookup_mem k kvs c h
      exact wfKV_mem kvs hw.2 kv hkv
    | idx i => simp [JPMut.child?] at h
  | _ => simp [JPMut.child?] at h

/-- **the value at a location (`JPMut.valAt`) is addressed by it**; no well-formedness is needed: `valAt` and the
`child` fragment both take the first member of a name -/
theorem addr_of_valAt : ∀ (p : Path) (v c : JV), JPMut.valAt p v = some c → Addr v p c
  | [], v, c, h => by simp only [JPMut.valAt, Option.some.injEq] at h; subst h; exact addr_nil v
  | l :: p, v, c, h => by
    rw [JPMut.valAt_cons] at h
    cases hc : JPMut.child? l v with
    | none => simp [hc] at h
    | some c1 =>
      rw [hc, Option.bind_some] at h
      exact addr_cons v l c1 (step_of_child v l c1 hc) p c (addr_of_valAt p c1 c h)

theorem wf_valAt : ∀ (p : Path) (v c : JV), wf v = true → JPMut.valAt p v = some c → wf c = true
  | [], v, c, hw, h => by simp only [JPMut.valAt, Option.some.injEq] at h; subst h; exact hw
  | l :: p, v, c, hw, h => by
    rw [JPMut.valAt_cons] at h
    cases hc : JPMut.child? l v with
    | none => simp [hc] at h
    | some c1 => rw [hc, Option.bind_some] at h; exact wf_valAt p c1 c (wf_child l v c1 hw hc) h

/-- **every location the denotation reports is an address**: evaluating the normalized path of a selected
element (member names and absolute indexes as `child`/`nth` fragments) on the same data yields exactly that
element, at that location (objects with unique member names). The second conjunct lets the statement be applied
again below a selected element (`descObj_addr`). -/
theorem eval_address : ∀ (x : List Frag) (v : JV), wf v = true → ∀ m ∈ eval x v, Addr v m.1 m.2 ∧ wf m.2 = true := by
  intro x v hw m hm
  have h := (JPMut.evalG_valAt (σ := sliceIdx) x v (WF_of_wf v hw) m (by rw [JPMut.evalG_spec]; exact hm)).1
  exact ⟨addr_of_valAt m.1 v m.2 h, wf_valAt m.1 v m.2 hw h⟩

theorem descObj_addr : ∀ (kvs : List (Bytes × JV)), wfKV kvs = true → ∀ (m : Path × JV), m ∈ descObj kvs →
    ∃ kv q, kv ∈ kvs ∧ m = pfx (.key kv.1) q ∧ Addr kv.2 q.1 q.2 ∧ wf q.2 = true := by
  intro kvs hw m hm
  obtain ⟨kv, hkv, q, hq, rfl⟩ := (JPMut.mem_descObj kvs m).1 hm
  exact ⟨kv, q, hkv, rfl, eval_address [.descent] kv.2 (wfKV_mem kvs hw kv hkv) q (by simpa [eval, sel] using hq)⟩

theorem toFrag_not_descent (p : Path) : endsInDescent (p.map Loc.toFrag) = false := by
  induction p with
  | nil => rfl
  | cons l t ih =>
    cases t with
    | nil => cases l <;> rfl
    | cons l' t' => simpa [endsInDescent] using ih

end OjgVerif.JPath
