import OjgVerif.JPath.LemmasSel
/-! # The reading the code implements against the documented slice semantics (RFC 9535 §2.3.4.2)

`sliceIdx` (what every evaluator of ojg computes, once the deviation flags are off) equals `rfcSliceIdx` for
every step ≥ 0 and, for a negative step, whenever start and end are written and the start lies in
`-n ≤ start < n`. Hence `eval = evalRfc` on paths without a negative-step slice; the remaining class is the
known finding C05-slice-negative-step. -/
namespace OjgVerif.JPath

/-- a positive step: the code's reading is the RFC's, for every start, end and length -/
theorem sliceIdx_eq_rfc_pos (n : Nat) (s e t : Option Int) (hpos : 0 < t.getD 1) :
    sliceIdx n s e t = rfcSliceIdx n s e t := by
  have h0 : t.getD 1 ≠ 0 := by omega
  have hge : 0 ≤ t.getD 1 := by omega
  rw [sliceIdx_unfold]
  simp only [rfcSliceIdx, rfcBounds, h0, false_or, hpos, hge, ↓reduceIte, ← specStart_eq, guard_up _ _ _ _ hpos,
    specStopUp_eq]
  have hs0 : 0 ≤ specStart n s := by rw [specStart_eq]; omega
  by_cases hst : (n : Int) ≤ specStart n s
  · -- nothing either way: the RFC's lower bound is the length, its upper bound at most that
    rw [if_pos hst, Get.lastIdx, if_pos hpos, loopUp_eq, guard_nil]
    · rfl
    · simp only [decide_eq_false_iff_not]; omega
  · rw [if_neg hst, show min (specStart n s) (n : Int) = specStart n s by omega]
    congr 1
    apply lastIdx_stop
    omega

/-- a negative step, start and end written, the start inside the array (from either end): the RFC's reading -/
theorem sliceIdx_eq_rfc_neg (n : Nat) (s0 e0 : Int) (t : Option Int) (hneg : t.getD 1 < 0)
    (hlo : -(n : Int) ≤ s0) (hhi : s0 < n) :
    sliceIdx n (some s0) (some e0) t = rfcSliceIdx n (some s0) (some e0) t := by
  have h0 : t.getD 1 ≠ 0 := by omega
  have hge : ¬ (0 ≤ t.getD 1) := by omega
  have hpos : ¬ (0 < t.getD 1) := by omega
  have hst : ¬ ((n : Int) ≤ specStart n (some s0)) := by
    rw [specStart_eq]; simp only [rfcNormalize, Option.getD_some]; omega
  have hup : min (max (rfcNormalize s0 n) (-1)) ((n : Int) - 1) = specStart n (some s0) := by
    rw [specStart_eq]; simp only [rfcNormalize, Option.getD_some]; omega
  rw [sliceIdx_unfold]
  simp only [rfcSliceIdx, rfcBounds, h0, false_or, hst, hpos, hge, ↓reduceIte, Option.getD_some, hup,
    guard_down _ _ _ _ hpos, specStopDown_eq]
  congr 1
  apply lastIdx_stop
  omega

/-- no slice with a negative step -/
def posStep : Frag → Bool
  | .slice _ _ t => decide (0 ≤ t.getD 1)
  | _ => true

theorem selRfc_eq_sel (f : Frag) (v : JV) (h : posStep f = true) : selRfc f v = sel f v := by
  cases f with
  | slice s e t =>
    have hstep : 0 ≤ t.getD 1 := by simpa [posStep] using h
    cases v with
    | arr xs =>
      simp only [selRfc, sel]
      by_cases h0 : t.getD 1 = 0
      · have h1 : sliceIdx xs.length s e t = [] := by rw [sliceIdx_unfold]; simp [h0]
        have h2 : rfcSliceIdx xs.length s e t = [] := by unfold rfcSliceIdx; simp [h0]
        rw [h1, h2]
      · rw [sliceIdx_eq_rfc_pos xs.length s e t (by omega)]
    | _ => simp [selRfc, sel]
  | _ => rfl

/-- **on a path without a negative-step slice the code's reading is the documented one** -/
theorem evalRfc_eq_eval : ∀ (x : List Frag) (v : JV), x.all posStep = true → evalRfc x v = eval x v
  | [], _, _ => rfl
  | f :: r, v, h => by
    simp only [List.all_cons, Bool.and_eq_true] at h
    simp only [evalRfc, eval, selRfc_eq_sel f v h.1]
    apply flatMap_congr_mem
    intro m _
    rw [evalRfc_eq_eval r m.2 h.2]

end OjgVerif.JPath
