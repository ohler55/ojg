import OjgVerif.JPath.LemmasMach
/-! # The GetNodes machine against its skeleton

`Nodes.step` is `Get.step` except for the round that drops a leaf handed to a descent (node.go has no case for it).
What that round leaves undone yields nothing: the rest of a path that does not end in a bare descent selects nothing
in a leaf. Hence the rounds of `Nodes.run` keep what the stack denotes too (`collect_denV`). FirstNode's round is
to GetNodes's what FirstFound's is to Get's (`first_step_sim`), with the same dropped leaf. -/
namespace OjgVerif.JPath

section
variable (L P : Frag → JV → List JV) (x : List Frag)

/-- a round of GetNodes keeps what the stack denotes, lowers its potential and leaves no empty frame — given that
a path not ending in a bare descent denotes nothing in a leaf (what the dropped leaf would have yielded) -/
theorem nodes_step_inv
    (hleaf : ∀ y v, y ≠ [] → endsInDescent y = false → isContainer v = false → denV false L P y v = [])
    (ht : endsInDescent x = false) (fr : Get.Frame) (d : JV) (rest : List JV) (h : fr.items = d :: rest) :
    RoundOk (denFrame false L P x) (phiFrame P x) fr (Nodes.step false L P x fr d rest) := by
  show _ ++ denStack false L P x _ = _ ∧ phiStack P x _ + 1 ≤ _ ∧ _
  unfold Nodes.step
  split
  · rename_i hd
    unfold Nodes.dropsLeaf at hd
    split at hd
    · rename_i r hx
      simp only [Bool.and_eq_true, Bool.not_eq_true'] at hd
      obtain ⟨fi, df, cf, items⟩ := fr
      obtain ⟨rfl, hv⟩ := hd
      subst h
      have hn : nodesInnerV d = [d] := by simp [nodesInnerV, isContainer_false_nodesInner d hv]
      refine ⟨?_, ?_, rest_nonempty _ _ _⟩
      · cases r with
        | nil => exact absurd hx (drop_ne_descent x ht fi)
        | cons a b =>
          have := hleaf (a :: b) d (by simp) (by simpa [endsInDescent] using endsInDescent_drop x fi _ _ ht hx) hv
          simp [den_rest, denFrame, hx, sibList_false, dFull, hn, this]
      · have := phiFull_ge P r d
        simp only [phi_rest, phiFrame, hx, Bool.false_eq_true, ↓reduceIte, List.map_cons, List.sum_cons]
        omega
    · cases hd
  · exact step_inv false L P x fr d rest h

theorem Nodes.run_eq (sib : Bool) : Nodes.run sib L P x = collect (Nodes.step sib L P x) := by
  funext n
  induction n with
  | zero => rfl
  | succ n ih =>
    funext st acc
    cases st with
    | nil => rfl
    | cons fr t => simp only [Nodes.run, collect, ih]; cases fr.items <;> rfl

end

theorem nodes_last_leaf (cfg : Cfg) (f : Frag) (v : JV) (hf : isDescent f = false) (hv : isContainer v = false) :
    Nodes.last cfg f v = [] := by
  cases f with
  | descent => simp [isDescent] at hf
  | union ms =>
    simp only [Nodes.last]
    have : ∀ m, Nodes.unionLast cfg v m = [] := by
      intro m; cases m <;> cases v <;> simp_all [Nodes.unionLast, mKey, isContainer]
    simp [this]
  | filter _ =>
    cases v with
    | arr _ | obj _ => simp [isContainer] at hv
    | _ => simp [Nodes.last, Nodes.filterKids, Get.filterKids]
  | _ =>
    cases v with
    | arr _ | obj _ => simp [isContainer] at hv
    | _ => rfl

theorem nodes_inner_leaf (cfg : Cfg) (f : Frag) (v : JV) (hf : isDescent f = false) (hv : isContainer v = false) :
    Nodes.inner cfg f v = [] := by
  cases v with
  | arr _ | obj _ => simp [isContainer] at hv
  | _ =>
    cases f with
    | descent => simp [isDescent] at hf
    | union ms => simp [Nodes.inner, Get.push, mMember_leaf _ hv, contOnly]
    | filter _ => simp [Nodes.inner, Nodes.filterKids, Get.filterKids]
    | _ => rfl

/-- **the GetNodes machine computes the skeleton model `nodesM`** (`descentSiblings` off: the code since baff053),
every tree, every path not ending in a bare descent -/
theorem nodesMach_eq_nodesM (cfg : Cfg) (hs : cfg.descentSiblings = false) (x : List Frag) (d : JV)
    (ht : endsInDescent x = false) : nodesMach cfg x d = nodesM cfg x d := by
  cases x with
  | nil => simp [nodesMach, nodesM, evalSel]
  | cons f r =>
    have hsel := denV_eq_evalSel_gen false (Nodes.sel cfg) (Nodes.lastV cfg) (Nodes.pushV cfg) (Or.inl rfl)
      (fun v => by simp [Nodes.sel, Nodes.inner, Get.push, Rep.gen])
      (fun _ _ _ => rfl) (fun f v _ => by simp [Nodes.pushV, Nodes.sel])
    simp only [nodesMach, nodesM, hs]
    rw [Nodes.run_eq, collect_denV false _ _ _ f r (nodes_step_inv _ _ _ (fun y v hy hty hv => by
      rw [hsel y v hty, evalSel_leaf _ false (nodes_last_leaf cfg) (nodes_inner_leaf cfg)
        (fun v hv => by simp [Nodes.sel, Nodes.inner, Get.push, Rep.gen, isContainer_false_nodesInner v hv]) y v hy hty hv]
      rfl) ht) d _ (Nat.le_succ _)]
    exact hsel (f :: r) d ht

section
variable (sib : Bool) (L P : Frag → JV → List JV) (x : List Frag)

theorem firstnode_step_sim (R : Frag → JV → Option JV) (hR : ∀ f d, R f d = (L f d).head?)
    (fr : Get.Frame) (d : JV) (rest : List JV) (hnd : x.drop fr.fi ≠ [Frag.descent]) :
    match FirstNode.step sib R P x fr d rest with
    | .ret v => (Nodes.step sib L P x fr d rest).1.head? = some v
    | .go fs => (Nodes.step sib L P x fr d rest).1 = [] ∧ (Nodes.step sib L P x fr d rest).2 = fs := by
  by_cases hd : Nodes.dropsLeaf x fr d = true
  · simp [FirstNode.step, Nodes.step, hd]
  · have hd' : Nodes.dropsLeaf x fr d = false := by simpa using hd
    simp only [FirstNode.step, Nodes.step, hd', Bool.false_eq_true, ↓reduceIte]
    exact first_step_sim sib L P x R hR fr d rest hnd

theorem FirstNode.run_eq (R : Frag → JV → Option JV) : FirstNode.run sib R P x = search (FirstNode.step sib R P x) := by
  funext n
  induction n with
  | zero => rfl
  | succ n ih =>
    funext st
    cases st with
    | nil => rfl
    | cons fr t => simp only [FirstNode.run, search, ih]; cases fr.items <;> rfl

theorem firstnode_run_sim (R : Frag → JV → Option JV) (hR : ∀ f d, R f d = (L f d).head?)
    (hnd : ∀ fi, x.drop fi ≠ [Frag.descent]) (n : Nat) (st : List Get.Frame) :
    FirstNode.run sib R P x n st = (Nodes.run sib L P x n st []).head? := by
  rw [FirstNode.run_eq, Nodes.run_eq]
  exact search_collect _ _ (fun fr d rest => firstnode_step_sim sib L P x R hR fr d rest (hnd fr.fi)) n st

end

/-- **the FirstNode machine returns the first of what the GetNodes machine returns** (node.go's flags
`firstNodeLast`, `nodesUnionNil`, `nodesFilterRev` off: since 360668e), every tree, every path not ending in a
bare descent -/
theorem firstNodeMach_eq_head (cfg : Cfg) (hl : cfg.firstNodeLast = false) (hu : cfg.nodesUnionNil = false)
    (hr : cfg.nodesFilterRev = false) (x : List Frag) (d : JV) (ht : endsInDescent x = false) :
    firstNodeMach cfg x d = (nodesMach cfg x d).head? := by
  cases x with
  | nil => simp [firstNodeMach, nodesMach]
  | cons f r =>
    simp only [firstNodeMach, nodesMach]
    exact firstnode_run_sim _ (Nodes.lastV cfg) (Nodes.pushV cfg) (f :: r) (FirstNode.ret cfg)
      (fun f d => by simp only [FirstNode.ret, Nodes.lastV, firstNode_last cfg hl hu hr, head?_map_take_one])
      (drop_ne_descent _ ht) _ _

end OjgVerif.JPath
