import OjgVerif.Sen.LemmasSim
import OjgVerif.Sen.LemmasLive
/-! sen.Tokenizer: a reused tokenizer answers what a fresh one answers (`call_tokenizer_ref`).

`Tokenizer.Parse`/`Load` reset `tmp`, `starts`, `noff`, `line`, `mode`, `mi` and (since f540857) `exkey`; they do not
reset `ri`, `rn`, the number accumulator and `quoteDelim`. These are dead on entry: every case of the tokenizer's
switch writes them before it reads them. The proof is a simulation with the relation `SameT`: two states agree on
everything except the scratch fields that are dead in the current mode (`numLive`, `strLive`, `uLive` of
Sen/LemmasLive.lean; which case occurs in which mode is read off the reference tables: `live_facts`,
`fin_n_live`) and the parser-only fields `lastKey`/`lastStrKey`, which the tokenizer never reads. Two such states
differ in scratch and key fields only (`SameT.elim`), so a case of the switch is checked on one state and the
live scratch of its result (`SameT.of_live`); `SameT` is a simulation (`sim_sameT`). -/
namespace OjgVerif.Sen

/-- what matters to the tokenizer: everything except the scratch fields that are dead in the current mode and the
two key fields -/
structure SameT (a b : St) : Prop where
  mode : a.mode = b.mode
  starts : a.starts = b.starts
  stack : a.stack = b.stack
  docs : a.docs = b.docs
  evs : a.evs = b.evs
  exkey : a.exkey = b.exkey
  tmp : a.tmp = b.tmp
  plus : a.plus = b.plus
  feat : a.feat = b.feat
  num : numLive a.mode = true → a.num = b.num
  qd : strLive a.mode = true → a.quoteDelim = b.quoteDelim
  ri : uLive a.mode = true → a.ri = b.ri ∧ a.rn = b.rn

theorem SameT.rfl' (a : St) : SameT a a :=
  ⟨rfl, rfl, rfl, rfl, rfl, rfl, rfl, rfl, rfl, fun _ => rfl, fun _ => rfl, fun _ => ⟨rfl, rfl⟩⟩

theorem SameT.elim {a a' : St} (h : SameT a a') : ∃ num ri rn qd k l,
    a' = { a with num := num, ri := ri, rn := rn, quoteDelim := qd, lastKey := k, lastStrKey := l } ∧
    liveScr a.mode a = liveScr a.mode a' := by
  obtain ⟨h1, h2, h3, h4, h5, h6, h7, h8, h9, h10, h11, h12⟩ := h
  obtain ⟨m, st, sk, d, e, x, t, ri, rn, num, qd, p, lk, lsk, ft⟩ := a'
  simp only at h1 h2 h3 h4 h5 h6 h7 h8 h9
  subst h1 h2 h3 h4 h5 h6 h7 h8 h9
  refine ⟨num, ri, rn, qd, lk, lsk, rfl, ?_⟩
  cases hN : numLive a.mode <;> cases hS : strLive a.mode <;> cases hU : uLive a.mode <;>
    simp_all [liveScr]

theorem liveScr_num {m : Mode} {a a' : St} (h : liveScr m a = liveScr m a') (hN : numLive m = true) : a.num = a'.num := by
  simpa [liveScr, hN] using congrArg Scr.num h

theorem liveScr_qd {m : Mode} {a a' : St} (h : liveScr m a = liveScr m a') (hS : strLive m = true) :
    a.quoteDelim = a'.quoteDelim := by
  simpa [liveScr, hS] using congrArg Scr.qd h

theorem liveScr_u {m : Mode} {a a' : St} (h : liveScr m a = liveScr m a') (hU : uLive m = true) :
    a.ri = a'.ri ∧ a.rn = a'.rn := by
  constructor
  · simpa [liveScr, hU] using congrArg Scr.ri h
  · simpa [liveScr, hU] using congrArg Scr.rn h

theorem SameT.of_live (a : St) {num : Json.Num} {ri rn : Nat} {qd : UInt8} {k l : Bytes}
    (h : liveScr a.mode a =
      liveScr a.mode { a with num := num, ri := ri, rn := rn, quoteDelim := qd, lastKey := k, lastStrKey := l }) :
    SameT a { a with num := num, ri := ri, rn := rn, quoteDelim := qd, lastKey := k, lastStrKey := l } :=
  ⟨rfl, rfl, rfl, rfl, rfl, rfl, rfl, rfl, rfl, liveScr_num h, liveScr_qd h, liveScr_u h⟩

theorem addFeat_sameT (a b : St) (c : Char) (h : SameT a b) : SameT (a.addFeat c) (b.addFeat c) := by
  unfold St.addFeat
  rw [← h.feat]
  split
  · exact h
  · exact { h with feat := rfl }

theorem handleNumT_rel (a a' : St) (h : SameT a a') (hl : numLive a.mode = true) : ExRel Eq SameT a.handleNumT a'.handleNumT := by
  obtain ⟨num, ri, rn, qd, k, l, rfl, hs⟩ := h.elim
  obtain rfl := liveScr_num hs hl
  unfold St.handleNumT
  split
  · rfl
  · exact .of_live _ rfl

theorem addTokenT_rel (a a' : St) (t : Bytes) (h : SameT a a') : SameT (a.addTokenT t) (a'.addTokenT t) := by
  obtain ⟨num, ri, rn, qd, k, l, rfl, hs⟩ := h.elim
  unfold St.addTokenT
  split <;> exact .of_live _ rfl

theorem addStringT_rel (a a' : St) (t : Bytes) (h : SameT a a') : SameT (a.addStringT t) (a'.addStringT t) := by
  obtain ⟨num, ri, rn, qd, k, l, rfl, hs⟩ := h.elim
  unfold St.addStringT
  split <;> exact .of_live _ rfl

theorem flushT_rel (a a' : St) (h : SameT a a') : ExRel Eq SameT (a.flushT refTables) (a'.flushT refTables) := by
  unfold St.flushT
  rw [← h.mode, ← h.tmp]
  cases hfin : refTables.fin a.mode with
  | n => exact handleNumT_rel a a' h (fin_n_live a.mode hfin)
  | t => exact addTokenT_rel a a' _ h
  | _ => exact h

theorem flushCloseT_rel (a a' : St) (h : SameT a a') : ExRel Eq SameT (a.flushCloseT refTables) (a'.flushCloseT refTables) := by
  unfold St.flushCloseT
  rw [← h.mode, ← h.tmp]
  cases hfin : refTables.fin a.mode with
  | absent => rfl
  | n => exact handleNumT_rel a a' h (fin_n_live a.mode hfin)
  | t => exact addTokenT_rel a a' _ h
  | _ => exact h

theorem stepActT_rel (cfg : Cfg) (htk : cfg.tkOld = false) (hmv : cfg.missingValue = false) (a a' : St) (b : UInt8)
    (h : SameT a a') :
    ExRel Eq (OnFst SameT) (stepActT refTables cfg a b) (stepActT refTables cfg a' b) := by
  obtain ⟨f1, f2, f3⟩ := live_facts a.mode b
  obtain ⟨num, ri, rn, qd, k, l, rfl, hl⟩ := h.elim
  unfold stepActT
  simp only [show refTables.act = expected from rfl, htk, Bool.false_eq_true, ↓reduceIte]
  cases hact : expected a.mode b <;> simp only [hact] at f1 f2 f3 ⊢
  case charErr => rfl
  case valPlus | openParen | closeParen => exact ⟨addFeat_sameT _ _ _ h, rfl⟩
  case tokenSpc | tokenNlColon => exact ⟨addTokenT_rel _ _ _ h, rfl⟩
  case numSpc => exact (handleNumT_rel _ _ h (f1 rfl)).bind fun _ _ _ hx => ⟨hx, rfl⟩
  -- the mode stays and no scratch field is touched
  case skipNewline | skipChar | unknown | strOk | tokenOk => exact ⟨.of_live _ hl, rfl⟩
  -- into a mode given by name: what is live there is written here, or nothing is
  case cskipNewline | cskipChar | ccommentStart | ccommentEnd | colonColon | commentStart | commentEnd | valDigit | val0
      | valNeg | valQuote =>
    exact ⟨.of_live _ rfl, rfl⟩
  -- the same once the field that is read is known to be live, hence the same in both states
  case numZero | numFrac | fracE | negDigit | expSign | expDigit =>
    obtain rfl := liveScr_num hl (f1 rfl)
    exact ⟨.of_live _ rfl, rfl⟩
  case strSlash | escOk | escU =>
    obtain rfl := liveScr_qd hl (f2 rfl)
    exact ⟨.of_live _ rfl, rfl⟩
  case tokenStart =>
    split
    · exact ⟨.of_live _ rfl, rfl⟩
    · rfl
  case numDot =>
    obtain rfl := liveScr_num hl (f1 rfl)
    split <;> exact ⟨.of_live _ rfl, rfl⟩
  case numDigit =>
    obtain rfl := liveScr_num hl (f1 rfl)
    exact ⟨.of_live _ (by simp [liveScr, (live_excl a.mode).1 (f1 rfl)]), rfl⟩
  case uOk =>
    obtain ⟨rfl, rfl⟩ := liveScr_u hl (f3 trivial)
    obtain rfl := liveScr_qd hl (f2 rfl)
    split
    · exact ⟨.of_live _ rfl, rfl⟩
    · exact ⟨.of_live _ (by simp [liveScr, (live_excl a.mode).2 (f3 trivial)]), rfl⟩
  case strQuote =>
    obtain rfl := liveScr_qd hl (f2 rfl)
    split
    · exact ⟨addStringT_rel _ _ _ h, rfl⟩
    · exact ⟨.of_live _ hl, rfl⟩
  case numNewline =>
    refine (handleNumT_rel _ _ h (f1 rfl)).bind fun x _ _ hx => ?_
    obtain ⟨_, _, _, _, _, _, rfl, _⟩ := hx.elim
    exact ⟨.of_live _ rfl, rfl⟩
  case tokenColon =>
    obtain ⟨_, _, _, _, _, _, hx, _⟩ := (addTokenT_rel _ _ a.tmp.reverse h).elim
    rw [hx]
    exact ⟨.of_live _ rfl, rfl⟩
  case valSlash =>
    refine (flushT_rel _ _ h).bind fun x _ _ hx => ?_
    obtain ⟨_, _, _, _, _, _, rfl, _⟩ := hx.elim
    exact ⟨.of_live _ rfl, rfl⟩
  case openObject =>
    refine (flushT_rel _ _ h).bind fun x _ _ hx => ?_
    obtain ⟨_, _, _, _, _, _, rfl, hs⟩ := hx.elim
    split
    · rfl
    · exact ⟨.of_live _ hs, rfl⟩
  case openArray =>
    refine (flushT_rel _ _ h).bind fun x _ _ hx => ?_
    obtain ⟨_, _, _, _, _, _, rfl, _⟩ := hx.elim
    split
    · rfl
    · exact ⟨.of_live _ rfl, rfl⟩
  case closeObject =>
    split
    · refine (flushT_rel _ _ h).bind fun x _ _ hx => ?_
      obtain ⟨_, _, _, _, _, _, rfl, hs⟩ := hx.elim
      simp only [hmv, Bool.not_false, Bool.and_true]
      split
      · rfl
      · rename_i hk
        simp only [Bool.not_eq_true', Bool.not_eq_false] at hk
        simp only [hk, ↓reduceIte]
        exact ⟨.of_live _ hs, rfl⟩
    · rfl
  case closeArray =>
    split
    · refine (flushCloseT_rel _ _ h).bind fun x _ _ hx => ?_
      obtain ⟨_, _, _, _, _, _, rfl, _⟩ := hx.elim
      exact ⟨.of_live _ rfl, rfl⟩
    · rfl

section chainT
variable (cfg : Cfg) (ht : cfg.tokenizer = true)
include ht

theorem deliver_relT (a a' : St) (h : SameT a a') : ExRel Eq SameT (deliver refTables cfg a) (deliver refTables cfg a') := by
  obtain ⟨_, _, _, _, _, _, rfl, _⟩ := h.elim
  unfold deliver
  simp only [ht, ↓reduceIte]
  split
  · cases cfg.onlyOne <;> exact .of_live _ rfl
  · exact h

theorem finish_relT (a a' : St) (p : Pos) (h : SameT a a') :
    ExRel KeysE KeysO (finish refTables cfg a p) (finish refTables cfg a' p) := by
  unfold finish
  simp only [ht, ↓reduceIte]
  rw [← h.starts, ← h.mode, ← h.feat, ← h.plus, ← h.tmp, ← h.docs, ← h.evs]
  split
  · rfl
  · cases hfin : refTables.fin a.mode <;> simp only []
    case n =>
      refine (handleNumT_rel a a' h (fin_n_live a.mode hfin)).elim (fun e e' h1 h2 he => ?_) (fun y y' h1 h2 hy => ?_)
      · rw [h1, h2, he]; rfl
      · rw [h1, h2]
        simp only [ExRel, KeysO, Out.noKeys, hy.evs, hy.feat, hy.plus]
    case t =>
      have hy := addTokenT_rel a a' a.tmp.reverse h
      simp only [ExRel, KeysO, Out.noKeys, hy.evs, hy.feat, hy.plus]
    all_goals rfl

variable (htk : cfg.tkOld = false) (hmv : cfg.missingValue = false)
include htk hmv

theorem sim_sameT : Sim refTables cfg SameT KeysE KeysO where
  mode h := h.mode
  feat h := h.feat
  addFeat c h := addFeat_sameT _ _ c h
  act {a a'} i b h := by
    unfold stepAct
    simp only [ht, ↓reduceIte]
    exact stepActT_rel cfg htk hmv a a' b h
  digit {a a'} b h hd :=
    congrArg Json.Num.i (h.num (numDigit_mode a.mode b hd ▸ rfl))
  deliver h := deliver_relT cfg ht _ _ h
  tokenEnd {a a'} h _ := by
    simp only [addTok, ht, ↓reduceIte]
    rw [← h.tmp]
    exact addTokenT_rel a a' _ h
  tokenFn _ _ hc := absurd (ht.symm.trans hc) (by decide)
  err {a a'} p k ft h := by rw [h.plus]; rfl
  bom := rfl
  finish p h := finish_relT cfg ht _ _ p h

/-- **a reused sen.Tokenizer answers what a fresh one answers** (the code as it is: `exkey` reset at entry): the
fields `Tokenizer.Parse`/`Load` do not reset — `ri`, `rn`, the number accumulator, `quoteDelim` — are dead on entry -/
theorem call_tokenizer_ref (hke : cfg.keepExkey = false) (hkp : cfg.keepPlus = false) (prev : St) (chunks : List Bytes) :
    answer (call refTables cfg prev chunks) = answer (call refTables cfg {} chunks) := by
  refine answer_eq ((sim_sameT cfg ht htk hmv).call ?_ chunks)
  simp only [St.entry, hke, hkp, Bool.false_eq_true, ↓reduceIte]
  exact .of_live _ rfl

end chainT

end OjgVerif.Sen
