import OjgVerif.Sen.LemmasSim
import OjgVerif.Sen.LemmasPut
import OjgVerif.Sen.LemmasLive
/-! The scratch fields a sen.Parser entry point does not reset — `ri`, `rn`, `num`, `quoteDelim` (and `exkey`,
which only the tokenizer reads) — are dead on entry: every branch of the machine writes them before it reads
them. `norm` forgets the scratch fields that are dead in the current mode (`num` outside the number modes,
`ri`/`rn` outside `u` mode, `quoteDelim` outside string/esc/u mode, `exkey` always); every case of the switch
commutes with `norm` up to `norm` of its result (`stepActP_norm`), so having the same normal form is a simulation
(`sim_norm`) and calls from states with the same normal form agree (`call_congr_ref`). Which case can occur in
which mode is read off the reference tables (`live_facts` of `LemmasLive.lean`, where `numLive`, `strLive`, `uLive` and
`liveScr` are); `add`/`addToken`/`addString` neither read nor write
the scratch fields and leave a mode in which all of them are dead. -/
namespace OjgVerif.Sen

def setScr (x : Scr) (s : St) : St := { s with num := x.num, ri := x.ri, rn := x.rn, quoteDelim := x.qd, exkey := x.ex }

def norm (s : St) : St := setScr (liveScr s.mode s) s

/-- an outcome of the switch with its state normalised -/
abbrev nr3 (r : Except ErrKind (St × Bool × Bool)) : Except ErrKind (St × Bool × Bool) := r.map (Prod.map norm id)

theorem put_frame (x : Scr) (s : St) (v : JV) (nk : Except ErrKind St) :
    (setScr x s).put v (Except.map (setScr x) nk) = Except.map (setScr x) (s.put v nk) := by
  -- `put` looks at `starts` and the two topmost stack items; once these are known both sides are the same term
  obtain ⟨mode, starts, stack, docs, evs, exkey, tmp, ri, rn, num, qd, plus, lk, lsk, feat⟩ := s
  rcases starts with _ | ⟨_ | i, rest⟩
  · rfl
  · rcases stack with _ | ⟨it, below⟩
    · rfl
    · cases it
      case key k =>
        rcases below with _ | ⟨it2, r⟩
        · rfl
        · cases it2 <;> rfl
      all_goals rfl
  · rfl

theorem add_frame (x : Scr) (s : St) (n : JV) : (setScr x s).add n = Except.map (setScr x) (s.add n) := by
  rw [add_put, add_put]; exact put_frame x s n (.error .expectedKey)

theorem addTokenP_frame (x : Scr) (s : St) (t : Bytes) : (setScr x s).addTokenP t = Except.map (setScr x) (s.addTokenP t) := by
  rw [addTokenP_put, addTokenP_put]; exact put_frame x s _ (.ok { s with mode := .colon, stack := .key t :: s.stack })

theorem addStringP_frame (x : Scr) (s : St) (t : Bytes) : (setScr x s).addStringP t = Except.map (setScr x) (s.addStringP t) := by
  cases hp : s.plus
  · rw [addStringP_put s t hp, addStringP_put (setScr x s) t hp]
    exact put_frame x s (.str t) (.ok { s with mode := .colon, stack := .key t :: s.stack })
  · obtain ⟨mode, starts, stack, docs, evs, exkey, tmp, ri, rn, num, qd, plus, lk, lsk, feat⟩ := s
    cases hp
    unfold St.addStringP
    rcases starts with _ | ⟨_ | i, rest⟩
    · rcases stack with _ | ⟨_ | _ | _ | _ | _, below⟩ <;> try rfl
      rename_i v; cases v <;> rfl
    · rcases stack with _ | ⟨_ | _ | _ | _ | _, below⟩ <;> try rfl
      simp only [setScr, Except.map, ↓reduceIte]
      split <;> rfl
    · rcases stack with _ | ⟨_ | _ | _ | _ | _, below⟩ <;> try rfl
      rename_i v; cases v <;> rfl

theorem addIgnore_frame (x : Scr) (s : St) (n : JV) : (setScr x s).addIgnore n = Except.map (setScr x) (s.addIgnore n) := by
  unfold St.addIgnore
  rw [add_frame]
  cases s.add n with
  | ok a => rfl
  | error e =>
    show (if e.isFault then _ else _) = Except.map (setScr x) (if e.isFault then _ else _)
    split <;> rfl

theorem norm_def (s : St) : norm s = setScr (liveScr s.mode s) s := rfl

theorem norm_num {s : St} (h : numLive s.mode = true) : (norm s).num = s.num := by
  simp only [norm, setScr, liveScr, h, ↓reduceIte]

theorem norm_qd {s : St} (h : strLive s.mode = true) : (norm s).quoteDelim = s.quoteDelim := by
  simp only [norm, setScr, liveScr, h, ↓reduceIte]

theorem norm_u {s : St} (h : uLive s.mode = true) : (norm s).ri = s.ri ∧ (norm s).rn = s.rn := by
  simp only [norm, setScr, liveScr, h, ↓reduceIte, and_self]

/-- what is live in mode `m'` is live in mode `m` -/
def liveLE (m' m : Mode) : Prop :=
  (numLive m' = true → numLive m = true) ∧ (strLive m' = true → strLive m = true) ∧ (uLive m' = true → uLive m = true)

theorem liveLE.rfl {m : Mode} : liveLE m m := ⟨id, id, id⟩

/-- no scratch field is live in mode `m` -/
def deadM (m : Mode) : Prop := numLive m = false ∧ strLive m = false ∧ uLive m = false

theorem deadM_value : deadM .value := ⟨rfl, rfl, rfl⟩
theorem deadM_colon : deadM .colon := ⟨rfl, rfl, rfl⟩

theorem liveLE.dead {m' m : Mode} (h : deadM m') : liveLE m' m := by
  simp [liveLE, h.1, h.2.1, h.2.2]

theorem deadM_of_le {m' m : Mode} (hl : liveLE m' m) (h : deadM m) : deadM m' := by
  obtain ⟨h1, h2, h3⟩ := h
  simpa [liveLE, deadM, h1, h2, h3] using hl

theorem norm_setScr_le {a : St} {m : Mode} (hl : liveLE a.mode m) : norm (setScr (liveScr m a) a) = norm a := by
  obtain ⟨h1, h2, h3⟩ := hl
  have e : liveScr a.mode (setScr (liveScr m a) a) = liveScr a.mode a := by
    cases hN : numLive a.mode <;> cases hS : strLive a.mode <;> cases hU : uLive a.mode <;>
      simp [liveScr, setScr, hN, hS, hU, h1, h2, h3]
  exact congrArg (setScr · a) e

theorem nr3_ok {a a' : St} (c n : Bool) (h : norm a = norm a') : nr3 (.ok (a, c, n)) = nr3 (.ok (a', c, n)) :=
  congrArg (fun x => (Except.ok (x, c, n) : Except ErrKind (St × Bool × Bool))) h

/-- a case of the switch that neither reads nor writes a scratch field and leaves no more of them live: `a` is
its result from `s`, and its result from `norm s` is `a` with the scratch of `norm s` -/
theorem nr3_frame (s : St) {a : St} (c n : Bool) (hl : liveLE a.mode s.mode)
    (hs : liveScr s.mode a = liveScr s.mode s := by rfl) :
    nr3 (.ok (a, c, n)) = nr3 (.ok (setScr (liveScr s.mode s) a, c, n)) := by
  rw [← hs]; exact nr3_ok c n (norm_setScr_le hl).symm

theorem norm_congr {a a' : St} (h2 : liveScr a.mode a = liveScr a'.mode a')
    (h1 : setScr (liveScr a'.mode a') a = setScr (liveScr a'.mode a') a') : norm a = norm a' := by
  unfold norm; rw [h2]; exact h1

theorem norm_dead (a : St) (h : deadM a.mode) : norm a = setScr ⟨{}, 0, 0, 0, false⟩ a := by
  simp [norm, liveScr, h.1, h.2.1, h.2.2]

theorem norm_setScr_dead (X : Scr) (a : St) (h : deadM a.mode) : norm (setScr X a) = norm a := by
  have h' : deadM (setScr X a).mode := h
  rw [norm_dead _ h', norm_dead _ h]
  rfl

theorem norm_idem (s : St) : norm (norm s) = norm s :=
  norm_setScr_le .rfl

theorem deadM_of_left {m : Mode} (h : m = .value ∨ m = .colon) : deadM m := by
  rcases h with rfl | rfl
  · exact deadM_value
  · exact deadM_colon

theorem Left.dead {s a : St} (h : Left s a) : deadM a.mode := deadM_of_left h.mode

theorem flushP_frame (s : St) :
    (norm s).flushP refTables = Except.map (setScr (liveScr s.mode s)) (s.flushP refTables) := by
  unfold St.flushP
  show (match refTables.fin s.mode with
    | .n => (norm s).add (norm s).num.asNum.toJV
    | .t => (norm s).addTokenP s.tmp.reverse
    | _ => .ok (norm s)) = _
  cases hf : refTables.fin s.mode <;> simp only []
  case n => rw [norm_num (fin_n_live _ hf)]; exact add_frame _ s _
  case t => exact addTokenP_frame _ s _
  all_goals rfl

theorem flushCloseP_frame (s : St) :
    (norm s).flushCloseP refTables = Except.map (setScr (liveScr s.mode s)) (s.flushCloseP refTables) := by
  unfold St.flushCloseP
  show (match refTables.fin s.mode with
    | .absent => fault "index out of range [256]"
    | .n => (norm s).addIgnore (norm s).num.asNum.toJV
    | .t => (norm s).addTokenP s.tmp.reverse
    | _ => .ok (norm s)) = _
  cases hf : refTables.fin s.mode <;> simp only []
  case n => rw [norm_num (fin_n_live _ hf)]; exact addIgnore_frame _ s _
  case t => exact addTokenP_frame _ s _
  all_goals rfl

/-- after `flushClose` no scratch field is live, if before it at most the number was and the end marker closes it.
Nothing below goes through this: `stepActP_norm` reads `flushCloseP` through `flushCloseP_frame` and `flushCloseP_left` -/
theorem flushCloseP_dead {s a : St} (hs : strLive s.mode = false ∧ uLive s.mode = false ∧ (numLive s.mode = true → expectedFin s.mode = .n))
    (h : s.flushCloseP refTables = .ok a) : deadM a.mode := by
  rcases flushCloseP_left h with hd | rfl
  · exact hd.dead
  · refine ⟨?_, hs.1, hs.2.1⟩
    cases hn : numLive a.mode
    · rfl
    · unfold St.flushCloseP at h
      rw [show refTables.fin a.mode = .n from hs.2.2 hn] at h
      exact hn.symm.trans (addIgnore_left h).dead.1

theorem addFeat_setScr (X : Scr) (a : St) (c : Char) : (setScr X a).addFeat c = setScr X (a.addFeat c) := by
  unfold St.addFeat
  show (if a.feat.contains c then setScr X a else _) = _
  split <;> rfl

theorem addFeat_norm (s : St) (c : Char) : norm (s.addFeat c) = (norm s).addFeat c := by
  unfold St.addFeat
  show norm (if s.feat.contains c then s else _) = if s.feat.contains c then norm s else _
  split <;> rfl

theorem undelivered_setScr (X : Scr) (a : St) : (setScr X a).undelivered = setScr X a.undelivered := by
  unfold St.undelivered
  show (if a.starts.isEmpty && !a.stack.isEmpty then (setScr X a).addFeat 's' else setScr X a) = _
  split
  · exact addFeat_setScr X a 's'
  · rfl

theorem liveScr_undelivered (m : Mode) (a : St) : liveScr m a.undelivered = liveScr m a := by
  unfold St.undelivered St.addFeat
  split
  · split <;> rfl
  · rfl

theorem nr3_bind {x : Except ErrKind St} (X : Scr) {f : St → Except ErrKind (St × Bool × Bool)}
    (hf : ∀ a, x = .ok a → nr3 (f a) = nr3 (f (setScr X a))) : nr3 (x >>= f) = nr3 (Except.map (setScr X) x >>= f) := by
  cases x with
  | error e => rfl
  | ok a => exact hf a rfl

theorem nr3_helper {x : Except ErrKind St} (X : Scr) (c n : Bool) (hd : ∀ a, x = .ok a → deadM a.mode) :
    nr3 (x >>= fun a => pure (a, c, n)) = nr3 (Except.map (setScr X) x >>= fun a => pure (a, c, n)) :=
  nr3_bind X fun a ha => nr3_ok c n (norm_setScr_dead X a (hd a ha)).symm

/-- the cases that flush, mark a value that is never delivered and go on with `g`, which neither reads nor writes
a scratch field and leaves no more of them live -/
theorem flushP_then (s : St) (g : St → St) (c n : Bool) (hl : ∀ a, liveLE (g a).mode a.mode)
    (hg : ∀ X a, g (setScr X a) = setScr X (g a) := by intros; rfl)
    (hs : ∀ m a, liveScr m (g a) = liveScr m a := by intros; rfl) :
    nr3 (s.flushP refTables >>= fun a => pure (g a.undelivered, c, n)) =
      nr3 ((norm s).flushP refTables >>= fun a => pure (g a.undelivered, c, n)) := by
  rw [flushP_frame]
  refine nr3_bind _ fun a ha => ?_
  rw [undelivered_setScr, hg]
  have hl' : liveLE (g a.undelivered).mode a.mode := undelivered_mode a ▸ hl a.undelivered
  refine nr3_ok c n ?_
  rcases flushP_left ha with hd | rfl
  · exact (norm_setScr_dead _ _ (deadM_of_le hl' hd.dead)).symm
  · rw [← liveScr_undelivered, ← hs]
    exact (norm_setScr_le hl').symm

section switch
variable (cfg : Cfg) (hpf : cfg.plusFault = false) (hmv : cfg.missingValue = false)
include hpf hmv

/-- **every case of the parser's switch commutes with `norm`**: it reads a scratch field only in a mode in which
the field is live (`live_facts`) and writes it on the way into such a mode -/
theorem stepActP_norm (s : St) (i : Bool) (b : UInt8) :
    nr3 (stepActP refTables cfg s i b) = nr3 (stepActP refTables cfg (norm s) i b) := by
  obtain ⟨f1, f2, f3⟩ := live_facts s.mode b
  have hm : (norm s).mode = s.mode := rfl
  have ht : (norm s).tmp = s.tmp := rfl
  have hst : (norm s).starts = s.starts := rfl
  unfold stepActP
  simp only [show refTables.act = expected from rfl, hm, ht, hst]
  cases hact : expected s.mode b <;> simp only [hact] at f1 f2 f3 ⊢
  -- the mode stays and no scratch field is touched
  case skipNewline | skipChar | unknown | strOk | tokenOk => exact nr3_frame s _ _ .rfl
  -- into a mode given by name: what is live there is written here, or nothing is
  case cskipNewline | cskipChar | ccommentStart | ccommentEnd | colonColon | commentStart | commentEnd | valDigit | val0
      | valNeg | valQuote =>
    exact nr3_ok _ _ (norm_congr rfl rfl)
  -- the same once the field that is read is known to be live
  case numZero | numFrac | fracE | negDigit | expSign | expDigit =>
    rw [norm_num (f1 rfl)]; exact nr3_ok _ _ (norm_congr rfl rfl)
  case strSlash | escOk | escU =>
    rw [norm_qd (f2 rfl)]; exact nr3_ok _ _ (norm_congr rfl rfl)
  case tokenStart =>
    split
    · exact nr3_ok _ _ (norm_congr rfl rfl)
    · rfl
  case numDot =>
    rw [norm_num (f1 rfl)]
    split <;> exact nr3_ok _ _ (norm_congr rfl rfl)
  case valPlus | openParen =>
    refine nr3_ok _ _ ?_
    rw [addFeat_norm, addFeat_norm]
    exact congrArg (St.addFeat · _) (norm_congr rfl rfl)
  case numDigit =>
    rw [norm_num (f1 rfl), ← addFeat_norm]
    refine nr3_ok _ _ (norm_congr ?_ rfl)
    simp [liveScr, f1 rfl, (live_excl s.mode).1 (f1 rfl)]
  case uOk =>
    rw [(norm_u (f3 trivial)).1, (norm_u (f3 trivial)).2]
    by_cases hc : s.ri + 1 = 4 <;> simp only [hc, ↓reduceIte]
    · rw [norm_qd (f2 rfl)]; exact nr3_ok _ _ (norm_congr rfl rfl)
    · refine nr3_ok _ _ (norm_congr ?_ rfl)
      simp [liveScr, norm, setScr, f3 trivial, (live_excl s.mode).2 (f3 trivial)]
  case numSpc =>
    rw [norm_num (f1 rfl), norm_def, add_frame]
    exact nr3_helper _ _ _ fun _ h => (add_left h).dead
  case numNewline =>
    rw [norm_num (f1 rfl), norm_def, add_frame]
    exact nr3_bind _ fun _ _ => nr3_ok _ _ (norm_congr rfl rfl)
  case tokenSpc | tokenNlColon =>
    rw [norm_def, addTokenP_frame]
    exact nr3_helper _ _ _ fun _ h => (addTokenP_left h).dead
  case tokenColon =>
    rw [norm_def, addTokenP_frame]
    exact nr3_bind _ fun _ _ => nr3_ok _ _ (norm_congr rfl rfl)
  case strQuote =>
    simp only [hpf, Bool.false_eq_true, ↓reduceIte]
    have hq := norm_qd (f2 rfl)
    by_cases hb : b = s.quoteDelim
    · rw [if_pos hb, if_pos (hb.trans hq.symm), norm_def, addStringP_frame]
      exact nr3_helper _ _ _ fun _ h => deadM_of_left (addStringP_mode_plus h).1
    · rw [if_neg hb, if_neg fun h => hb (h.trans hq)]
      exact nr3_frame s _ _ .rfl
  case openObject =>
    exact flushP_then s (fun u => { u with starts := none :: u.starts, stack := .obj [] :: u.stack }) _ _ fun _ => .rfl
  case valSlash =>
    exact flushP_then s (fun u => { u with mode := .commentStart }) _ _ fun _ => .dead ⟨rfl, rfl, rfl⟩
  case openArray =>
    exact flushP_then s (fun u => startP u u.stack.length .arrMark) _ _ fun _ => .dead ⟨rfl, rfl, rfl⟩
  case closeObject =>
    split
    · rename_i rest _
      rw [flushP_frame]
      refine nr3_bind _ fun a _ => ?_
      rw [show (setScr (liveScr s.mode s) a).stack = a.stack from rfl]
      cases a.stack with
      | nil => rfl
      | cons top below =>
        simp only [hmv, Bool.not_false, Bool.and_true]
        by_cases htk : topIsKey (top :: below) = true
        · simp only [htk, ↓reduceIte]
        · simp only [htk, Bool.false_eq_true, ↓reduceIte]
          rw [show ({ setScr (liveScr s.mode s) a with starts := rest, stack := below } : St) =
            setScr (liveScr s.mode s) { a with starts := rest, stack := below } from rfl, add_frame]
          exact nr3_helper _ _ _ fun _ h => (add_left h).dead
    · rfl
  case closeArray =>
    split
    · rename_i idx rest _
      rw [flushCloseP_frame]
      refine nr3_bind _ fun a _ => ?_
      rw [show (setScr (liveScr s.mode s) a).stack = a.stack from rfl]
      cases splitStack a.stack idx with
      | none => rfl
      | some r =>
        obtain ⟨elems, mk, below⟩ := r
        simp only []
        rw [show ({ setScr (liveScr s.mode s) a with starts := rest, stack := below } : St) =
          setScr (liveScr s.mode s) { a with starts := rest, stack := below } from rfl, add_frame]
        exact nr3_bind _ fun _ _ => nr3_ok _ _ (norm_congr rfl rfl)
    · rfl
  case closeParen =>
    split
    · rename_i idx rest _
      rw [flushCloseP_frame]
      refine nr3_bind _ fun a _ => ?_
      rw [show (setScr (liveScr s.mode s) a).stack = a.stack from rfl]
      cases splitStack a.stack idx with
      | none => rfl
      | some r =>
        obtain ⟨args, mk, below⟩ := r
        cases mk with
        | fnMark name =>
          simp only []
          rw [show ({ setScr (liveScr s.mode s) a with starts := rest, stack := below } : St) =
            setScr (liveScr s.mode s) { a with starts := rest, stack := below } from rfl, addIgnore_frame]
          refine nr3_bind _ fun a2 _ => nr3_ok _ _ ?_
          rw [addFeat_norm, addFeat_norm]
          exact congrArg (St.addFeat · _) (norm_congr rfl rfl)
        | _ => rfl
    · rfl

end switch

theorem addTokenP_norm (s : St) (t : Bytes) : (s.addTokenP t).map norm = ((norm s).addTokenP t).map norm := by
  rw [norm_def, addTokenP_frame]
  cases h : s.addTokenP t with
  | error e => rfl
  | ok a => exact congrArg Except.ok (norm_setScr_dead _ a (addTokenP_left h).dead).symm

theorem entry_norm (cfg : Cfg) (prev prev' : St) (h1 : cfg.keepPlus = true → prev.plus = prev'.plus) (h2 : prev.lastKey = prev'.lastKey)
    (h3 : cfg.keepPlus = true → prev.lastStrKey = prev'.lastStrKey) : norm (prev.entry cfg) = norm (prev'.entry cfg) := by
  cases prev; cases prev'
  cases hk : cfg.keepPlus <;> simp_all [St.entry, norm, setScr, liveScr]

section chain
variable (cfg : Cfg) (hc : cfg.tokenizer = false)
include hc

theorem deliver_norm (s : St) : (deliver refTables cfg s).map norm = (deliver refTables cfg (norm s)).map norm := by
  have hm : (norm s).mode = s.mode := rfl
  have hst : (norm s).starts = s.starts := rfl
  have hk : (norm s).stack = s.stack := rfl
  unfold deliver deliverP
  simp only [hm, hst, hk, hc, Bool.false_eq_true, ↓reduceIte]
  by_cases h : (s.starts.isEmpty && refTables.fin s.mode = EndMark.v) = true
  · simp only [h, ↓reduceIte]
    cases s.stack.getLast? with
    | none => rfl
    | some it => cases cfg.onlyOne <;> exact congrArg Except.ok (norm_congr rfl rfl)
  · simp only [h, Bool.false_eq_true, ↓reduceIte, Except.map, norm_idem]

theorem finish_norm (s : St) (p : Pos) : finish refTables cfg s p = finish refTables cfg (norm s) p := by
  have hm : (norm s).mode = s.mode := rfl
  have hst : (norm s).starts = s.starts := rfl
  have hf : (norm s).feat = s.feat := rfl
  have hp : (norm s).plus = s.plus := rfl
  have hl : (norm s).lastStrKey = s.lastStrKey := rfl
  have hk : (norm s).lastKey = s.lastKey := rfl
  have ht : (norm s).tmp = s.tmp := rfl
  have hd : (norm s).docs = s.docs := rfl
  have he : (norm s).evs = s.evs := rfl
  unfold finish
  simp only [hm, hst, hf, hp, hl, hk, ht, hd, he, hc, Bool.false_eq_true, ↓reduceIte]
  split
  · rfl
  · cases hfin : refTables.fin s.mode <;> simp only []
    case n =>
      rw [norm_num (fin_n_live _ hfin), norm_def, addIgnore_frame]
      cases s.addIgnore s.num.asNum.toJV <;> rfl
    case t =>
      rw [norm_def, addTokenP_frame]
      cases s.addTokenP s.tmp.reverse <;> rfl

variable (hpf : cfg.plusFault = false) (hmv : cfg.missingValue = false)
include hpf hmv

theorem sim_norm : Sim refTables cfg (fun s s' => norm s = norm s') Eq Eq where
  mode {s s'} h := show (norm s).mode = (norm s').mode from congrArg _ h
  feat {s s'} h := show (norm s).feat = (norm s').feat from congrArg _ h
  addFeat c h := by rw [addFeat_norm, addFeat_norm, h]
  act {s s'} i b h := by
    unfold stepAct
    simp only [hc, Bool.false_eq_true, ↓reduceIte]
    have e : nr3 (stepActP refTables cfg s i b) = nr3 (stepActP refTables cfg s' i b) := by
      rw [stepActP_norm cfg hpf hmv s, stepActP_norm cfg hpf hmv s', h]
    exact (ExRel.of_map_eq e).imp
      fun _ _ _ e => ⟨(Prod.mk.inj e).1, (Prod.mk.inj e).2⟩
  digit {s s'} b h hd := by
    have hm : s.mode = s'.mode := show (norm s).mode = (norm s').mode from congrArg _ h
    have hl : numLive s.mode = true := numDigit_mode s.mode b hd ▸ rfl
    rw [← norm_num hl, ← norm_num (s := s') (hm ▸ hl), h]
  deliver {s s'} h := .of_map_eq (by rw [deliver_norm cfg hc s, deliver_norm cfg hc s', h])
  tokenEnd {s s'} h _ := by
    simp only [addTok, hc, Bool.false_eq_true, ↓reduceIte]
    have ht : s.tmp = s'.tmp := show (norm s).tmp = (norm s').tmp from congrArg _ h
    exact .of_map_eq (by rw [ht, addTokenP_norm s, addTokenP_norm s', h])
  tokenFn {s s'} h _ _ := by
    have key : ∀ a : St, norm (startP a a.stack.length (.fnMark a.tmp.reverse)) =
        norm (startP (norm a) (norm a).stack.length (.fnMark (norm a).tmp.reverse)) := fun a => norm_congr rfl rfl
    rw [key s, key s', h]
  err {s s'} p k ft h := by
    show p.err k ft (norm s).plus (norm s).lastStrKey (norm s).lastKey = _
    rw [h]; rfl
  bom := rfl
  finish {s s'} p h := .of_eq (by rw [finish_norm cfg hc s, finish_norm cfg hc s', h])

/-- a parser call over the reference tables depends on the state the previous call left only through
`lastKey` — and, before ece2934 (`keepPlus`), `plus` and `lastStrKey` -/
theorem call_congr_ref (prev prev' : St) (h1 : cfg.keepPlus = true → prev.plus = prev'.plus) (h2 : prev.lastKey = prev'.lastKey)
    (h3 : cfg.keepPlus = true → prev.lastStrKey = prev'.lastStrKey) (chunks : List Bytes) :
    call refTables cfg prev chunks = call refTables cfg prev' chunks :=
  ((sim_norm cfg hc hpf hmv).call (entry_norm cfg prev prev' h1 h2 h3) chunks).eq

end chain

end OjgVerif.Sen
