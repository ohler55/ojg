import OjgVerif.Sen.LemmasSim
import OjgVerif.Sen.LemmasPut
/-! A stale `lastKey` is harmless (sen.Parser profile, the code as it is): `call_lastKey_ref`.

`Parse`/`ParseReader` do not reset `lastKey` (the key of the member stored last). It is read by the `valPlus`
case only, which copies it into `lastStrKey`; the string that follows the `+` looks that copy up in the map
on top of the build stack. The proof is a simulation between a run and the same run started with other
values in the two key fields, with the relation `KRel`: the states agree except for `lastKey` while every
open map on the stack is empty (`allEmpty`) and for `lastStrKey` unless a `+` is pending over a non-empty
map — the states in which the fields are dead. Storing a member overwrites `lastKey` in both runs before a
map becomes non-empty; a lookup in an empty map fails whatever the key. The unary invariant `KInv` (a
pending `+` is followed by white space and a quoted string only; which cases can occur in those modes is
read off the reference tables: `pm_facts`) excludes that a member is stored between a `+` and its string.
`KRel` from a state that satisfies `KInv` is a simulation (`sim_keys`, the obligations of `Sim`). -/
namespace OjgVerif.Sen

/-- every map that is still open on the build stack is empty -/
def allEmpty : List Item → Bool
  | [] => true
  | .obj kvs :: r => kvs.isEmpty && allEmpty r
  | _ :: r => allEmpty r

def St.setKeys (s : St) (k l : Bytes) : St := { s with lastKey := k, lastStrKey := l }

/-- `s'` is `s` with other values in the two key fields where they are dead: `lastKey` while every open map
is empty, `lastStrKey` unless a `+` is pending over a non-empty map -/
def KRel (s s' : St) : Prop :=
  ∃ k l, s' = s.setKeys k l ∧ (allEmpty s.stack = false → k = s.lastKey) ∧
    (s.plus = true → allEmpty s.stack = false → l = s.lastStrKey)

/-- the modes between a `+` and the end of the string that follows it -/
def pm : Mode → Bool
  | .plus | .string | .esc | .u => true
  | _ => false

/-- a pending `+` is followed by white space and a quoted string only -/
def KInv (s : St) : Prop := s.plus = true → pm s.mode = true

/-- the cases the modes of `pm` can select (`pm_facts`) -/
def inPlusActs : Act → Bool
  | .charErr | .skipChar | .skipNewline | .valQuote | .strOk | .strQuote | .strSlash | .escOk | .escU | .uOk => true
  | _ => false

theorem pm_facts (m : Mode) (b : UInt8) (h : pm m = true) : inPlusActs (expected m b) = true :=
  imp_of_not_or (forall_mode_act (fun m a => !pm m || inPlusActs a) (by decide) m b) h

theorem KInv.of_plus {x : St} (h : x.plus = false) : KInv x := fun hp => by rw [h] at hp; cases hp

theorem KInv.not_pm {s : St} (hI : KInv s) (h : pm s.mode = false) : s.plus = false := by
  cases hp : s.plus with
  | false => rfl
  | true => rw [hI hp] at h; cases h

theorem KInv.plus_false {s : St} (hI : KInv s) (b : UInt8) (h : inPlusActs (expected s.mode b) = false) : s.plus = false := by
  cases hp : s.plus with
  | false => rfl
  | true => have := pm_facts s.mode b (hI hp); rw [h] at this; cases this

theorem allEmpty_cons (it : Item) (r : List Item) (h : allEmpty r = false) : allEmpty (it :: r) = false := by
  cases it <;> simp [allEmpty, h]

theorem allEmpty_append (pre r : List Item) (h : allEmpty r = false) : allEmpty (pre ++ r) = false := by
  induction pre with
  | nil => exact h
  | cons it p ih => exact allEmpty_cons it _ ih

theorem kvInsert_ne (k : Bytes) (v : JV) (kvs : List (Bytes × JV)) : (kvInsert k v kvs).isEmpty = false := by
  induction kvs with
  | nil => simp [kvInsert]
  | cons p r ih =>
    obtain ⟨k', v'⟩ := p
    simp only [kvInsert]
    split <;> simp

theorem KRel.refl (s : St) : KRel s s := ⟨s.lastKey, s.lastStrKey, rfl, fun _ => rfl, fun _ _ => rfl⟩

/-- closes `KRel a (a.setKeys k l)`: `k`, `l` are read off the goal by `rfl`; the side conditions hold because a map
that a member was inserted into is not empty, or are among the hypotheses -/
macro "krel" : tactic => `(tactic| (refine ⟨_, _, rfl, ?_, ?_⟩ <;> simp_all [allEmpty, kvInsert_ne]))

theorem put_KRel (s : St) (v : JV) (nk nk' : Except ErrKind St) (k l : Bytes) (hp : s.plus = false)
    (hk : allEmpty s.stack = false → k = s.lastKey) (hnk : ExRel Eq KRel nk nk') :
    ExRel Eq KRel (s.put v nk) ((s.setKeys k l).put v nk') := by
  obtain ⟨mode, starts, stack, docs, evs, exkey, tmp, ri, rn, num, qd, plus, lk, lsk, feat⟩ := s
  simp only at hp hk; subst hp
  unfold St.put St.setMember
  simp only [St.setKeys]
  rcases starts with _ | ⟨_ | i, rest⟩
  · simp only [ExRel]; krel
  · rcases stack with _ | ⟨it, below⟩
    · simp [fault, ExRel]
    · cases it with
      | key kk =>
        rcases below with _ | ⟨it2, r⟩
        · simp [topIsKey, fault, ExRel]
        · cases it2 <;> simp only [topIsKey, ↓reduceIte, fault, ExRel]
          krel
      | _ => simp only [topIsKey, Bool.false_eq_true, ↓reduceIte]; exact hnk
  · simp only [ExRel]; krel

theorem KRel.pushKey (s : St) (t k l : Bytes) (hp : s.plus = false) (hk : allEmpty s.stack = false → k = s.lastKey) :
    KRel { s with mode := .colon, stack := .key t :: s.stack }
      { s.setKeys k l with mode := .colon, stack := .key t :: (s.setKeys k l).stack } :=
  ⟨k, l, rfl, hk, fun h => by rw [show _ = s.plus from rfl, hp] at h; cases h⟩

theorem add_KRel (s : St) (n : JV) (k l : Bytes) (hp : s.plus = false) (hk : allEmpty s.stack = false → k = s.lastKey) :
    ExRel Eq KRel (s.add n) ((s.setKeys k l).add n) := by
  rw [add_put, add_put]; exact put_KRel s n _ _ k l hp hk rfl

theorem addTokenP_KRel (s : St) (t : Bytes) (k l : Bytes) (hp : s.plus = false)
    (hk : allEmpty s.stack = false → k = s.lastKey) : ExRel Eq KRel (s.addTokenP t) ((s.setKeys k l).addTokenP t) := by
  rw [addTokenP_put, addTokenP_put]; exact put_KRel s _ _ _ k l hp hk (KRel.pushKey s t k l hp hk)

theorem addIgnore_KRel (s : St) (n : JV) (k l : Bytes) (hp : s.plus = false)
    (hk : allEmpty s.stack = false → k = s.lastKey) : ExRel Eq KRel (s.addIgnore n) ((s.setKeys k l).addIgnore n) := by
  unfold St.addIgnore
  refine (add_KRel s n k l hp hk).elim (fun e e' h1 h2 he => ?_) (fun a a' h1 h2 h => ?_)
  · cases he
    rw [h1, h2]
    simp only []
    split
    · rfl
    · exact ⟨k, l, rfl, hk, fun h => by rw [show ({ s with mode := Mode.value } : St).plus = s.plus from rfl, hp] at h; cases h⟩
  · rw [h1, h2]; exact h

/-- `addString`: the only reader of `lastStrKey` -/
theorem addStringP_KRel (s : St) (t : Bytes) (k l : Bytes) (hk : allEmpty s.stack = false → k = s.lastKey)
    (hl : s.plus = true → allEmpty s.stack = false → l = s.lastStrKey) :
    ExRel Eq KRel (s.addStringP t) ((s.setKeys k l).addStringP t) := by
  cases hp : s.plus
  · rw [addStringP_put s t hp, addStringP_put (s.setKeys k l) t hp]
    exact put_KRel s _ _ _ k l hp hk (KRel.pushKey s t k l hp hk)
  · obtain ⟨mode, starts, stack, docs, evs, exkey, tmp, ri, rn, num, qd, plus, lk, lsk, feat⟩ := s
    cases hp
    simp only at hk hl
    unfold St.addStringP
    simp only [St.setKeys, ExRel, ↓reduceIte, forall_const] at hl ⊢
    rcases starts with _ | ⟨_ | i, rest⟩
    · rcases stack with _ | ⟨it, below⟩
      · simp
      · cases it with
        | val v => cases v <;> simp only [] <;> krel
        | _ => simp
    · rcases stack with _ | ⟨it, below⟩
      · simp [fault]
      · cases it with
        | obj kvs =>
          simp only []
          cases kvs with
          | nil => simp [kvLookup]  -- a lookup in an empty map fails whatever the key
          | cons p r =>
            -- the map is not empty, so `l` is the `lastStrKey` of `s`
            have hne : allEmpty (Item.obj (p :: r) :: below) = false := by simp [allEmpty]
            have hl' := hl hne
            subst hl'
            cases hlk : kvLookup l (p :: r) with
            | none => simp
            | some v =>
              cases v <;> simp only []
              krel
        | _ => simp
    · rcases stack with _ | ⟨it, below⟩
      · simp
      · cases it with
        | val v => cases v <;> simp only [] <;> krel
        | _ => simp

theorem flushP_KRel (s : St) (k l : Bytes) (hp : s.plus = false) (hk : allEmpty s.stack = false → k = s.lastKey) :
    ExRel Eq KRel (s.flushP refTables) ((s.setKeys k l).flushP refTables) := by
  unfold St.flushP
  have hm : (s.setKeys k l).mode = s.mode := rfl
  rw [hm]
  split
  · exact add_KRel s _ k l hp hk
  · exact addTokenP_KRel s _ k l hp hk
  · exact ⟨k, l, rfl, hk, fun h => by rw [hp] at h; cases h⟩

theorem flushCloseP_KRel (s : St) (k l : Bytes) (hp : s.plus = false) (hk : allEmpty s.stack = false → k = s.lastKey) :
    ExRel Eq KRel (s.flushCloseP refTables) ((s.setKeys k l).flushCloseP refTables) := by
  unfold St.flushCloseP
  have hm : (s.setKeys k l).mode = s.mode := rfl
  rw [hm]
  split
  · rfl
  · exact addIgnore_KRel s _ k l hp hk
  · exact addTokenP_KRel s _ k l hp hk
  · exact ⟨k, l, rfl, hk, fun h => by rw [hp] at h; cases h⟩

theorem addFeat_setKeys (a : St) (c : Char) (k l : Bytes) : (a.setKeys k l).addFeat c = (a.addFeat c).setKeys k l := by
  unfold St.addFeat
  have : (a.setKeys k l).feat = a.feat := rfl
  rw [this]
  split <;> rfl

theorem splitStack_below (stack : List Item) (idx : Nat) (e : List JV) (mk : Item) (below : List Item)
    (h : splitStack stack idx = some (e, mk, below)) (hb : allEmpty below = false) : allEmpty stack = false := by
  unfold splitStack at h
  split at h
  · cases h
  · split at h
    · rename_i m bl heq
      simp only [Option.some.injEq, Prod.mk.injEq] at h
      obtain ⟨_, _, rfl⟩ := h
      have := List.take_append_drop (stack.length - (idx + 1)) stack
      rw [heq] at this
      rw [← this]
      exact allEmpty_append _ _ (allEmpty_cons _ _ hb)
    · cases h

theorem KRel.setMode {a a' : St} (h : KRel a a') (m : Mode) : KRel { a with mode := m } { a' with mode := m } := by
  obtain ⟨k, l, rfl, h1, h2⟩ := h
  exact ⟨k, l, rfl, h1, h2⟩

theorem KRel.addFeat {a a' : St} (c : Char) (h : KRel a a') : KRel (a.addFeat c) (a'.addFeat c) := by
  obtain ⟨k, l, rfl, h1, h2⟩ := h
  rw [addFeat_setKeys]
  refine ⟨k, l, rfl, ?_, ?_⟩
  · rw [addFeat_feat]; exact h1
  · rw [addFeat_feat]; exact h2

theorem KRel.undelivered {a a' : St} (h : KRel a a') : KRel a.undelivered a'.undelivered := by
  unfold St.undelivered
  -- with `a'` spelt as `a.setKeys k l` its test is the test of `a`
  obtain ⟨k, l, rfl, _, _⟩ := id h
  show KRel _ (if a.starts.isEmpty && !a.stack.isEmpty then _ else _)
  split
  · exact h.addFeat 's'
  · exact h

section switchK
variable (cfg : Cfg) (hpf : cfg.plusFault = false) (hmv : cfg.missingValue = false)
include hpf hmv

theorem stepActP_KRel (s : St) (k l : Bytes) (i : Bool) (b : UInt8) (hI : KInv s)
    (hk : allEmpty s.stack = false → k = s.lastKey)
    (hl : s.plus = true → allEmpty s.stack = false → l = s.lastStrKey) :
    ExRel Eq (OnFst fun a a' => KRel a a' ∧ KInv a) (stepActP refTables cfg s i b)
      (stepActP refTables cfg (s.setKeys k l) i b) := by
  have hnp := hI.plus_false b
  unfold stepActP
  simp only [show refTables.act = expected from rfl, show (s.setKeys k l).mode = s.mode from rfl,
    show (s.setKeys k l).starts = s.starts from rfl, show (s.setKeys k l).num = s.num from rfl]
  cases hact : expected s.mode b <;> simp only [hact] at hnp ⊢
  case charErr => rfl
  -- a `+` may be pending: the mode stays, or is one of the string modes
  case skipNewline | skipChar | strOk | unknown => exact ⟨⟨⟨k, l, rfl, hk, hl⟩, hI⟩, rfl⟩
  case valQuote | strSlash | escOk | escU => exact ⟨⟨⟨k, l, rfl, hk, hl⟩, fun _ => rfl⟩, rfl⟩
  case uOk =>
    refine ⟨⟨⟨k, l, rfl, hk, hl⟩, fun hp => ?_⟩, rfl⟩
    show pm (if s.ri + 1 = 4 then Mode.string else s.mode) = true
    split
    · rfl
    · exact hI hp
  case strQuote =>
    simp only [hpf, Bool.false_eq_true, ↓reduceIte, show (s.setKeys k l).quoteDelim = s.quoteDelim from rfl,
      show (s.setKeys k l).tmp = s.tmp from rfl]
    split
    · exact (addStringP_KRel s _ k l hk hl).bind fun a _ ha h => ⟨⟨h, .of_plus (addStringP_mode_plus ha).2⟩, rfl⟩
    · exact ⟨⟨⟨k, l, rfl, hk, hl⟩, hI⟩, rfl⟩
  case valPlus =>
    exact ⟨⟨KRel.addFeat 'p' ⟨k, k, rfl, hk, fun _ => hk⟩, fun _ => by rw [addFeat_feat]; rfl⟩, rfl⟩
  -- no `+` is pending in the other cases, before or after
  case cskipNewline | colonColon | cskipChar | valDigit | val0 | valNeg | numFrac | fracE | tokenOk | numZero | negDigit
      | expSign | expDigit | commentStart | commentEnd | ccommentStart | ccommentEnd =>
    exact ⟨⟨⟨k, l, rfl, hk, hl⟩, .of_plus (hnp rfl)⟩, rfl⟩
  case tokenStart =>
    split
    · exact ⟨⟨⟨k, l, rfl, hk, hl⟩, .of_plus (hnp rfl)⟩, rfl⟩
    · rfl
  case numDot => split <;> exact ⟨⟨⟨k, l, rfl, hk, hl⟩, .of_plus (hnp rfl)⟩, rfl⟩
  case numDigit =>
    rw [show ((s.setKeys k l).addFeat 'i').feat = (s.addFeat 'i').feat by rw [addFeat_setKeys]; rfl]
    exact ⟨⟨⟨k, l, rfl, hk, hl⟩, .of_plus (hnp rfl)⟩, rfl⟩
  case openParen =>
    exact ⟨⟨KRel.addFeat 'f' ⟨k, l, rfl, hk, hl⟩, .of_plus ((addFeat_plus _ _).trans (hnp rfl))⟩, rfl⟩
  case numSpc =>
    exact (add_KRel s _ k l (hnp rfl) hk).bind fun a _ ha h => ⟨⟨h, .of_plus ((add_left ha).plus.trans (hnp rfl))⟩, rfl⟩
  case numNewline =>
    exact (add_KRel s _ k l (hnp rfl) hk).bind fun a _ ha h =>
      ⟨⟨h.setMode _, .of_plus ((add_left ha).plus.trans (hnp rfl))⟩, rfl⟩
  case tokenSpc | tokenNlColon =>
    exact (addTokenP_KRel s _ k l (hnp rfl) hk).bind fun a _ ha h =>
      ⟨⟨h, .of_plus ((addTokenP_left ha).plus.trans (hnp rfl))⟩, rfl⟩
  case tokenColon =>
    exact (addTokenP_KRel s _ k l (hnp rfl) hk).bind fun a _ ha h =>
      ⟨⟨h.setMode _, .of_plus ((addTokenP_left ha).plus.trans (hnp rfl))⟩, rfl⟩
  case valSlash | openObject | openArray =>
    refine (flushP_KRel s k l (hnp rfl) hk).bind fun a _ ha h => ?_
    obtain ⟨k', l', e, h1, h2⟩ := h.undelivered
    rw [e]
    exact ⟨⟨⟨k', l', rfl, h1, h2⟩, .of_plus ((undelivered_plus a).trans ((Left.or_plus (flushP_left ha)).trans (hnp rfl)))⟩, rfl⟩
  case closeObject =>
    split
    · rename_i rest _
      refine (flushP_KRel s k l (hnp rfl) hk).bind fun a _ ha h => ?_
      have hpa : a.plus = false := (Left.or_plus (flushP_left ha)).trans (hnp rfl)
      obtain ⟨k, l, rfl, hka, _⟩ := h
      rw [show (a.setKeys k l).stack = a.stack from rfl]
      cases hstk : a.stack with
      | nil => rfl
      | cons top below =>
        simp only [hmv, Bool.not_false, Bool.and_true]
        split
        · rfl
        · exact (add_KRel { a with starts := rest, stack := below } top.toJV k l hpa
            fun h => hka (by rw [hstk]; exact allEmpty_cons _ _ h)).bind fun a2 _ ha2 h =>
              ⟨⟨h, .of_plus ((add_left ha2).plus.trans hpa)⟩, rfl⟩
    · rfl
  case closeArray =>
    split
    · rename_i idx rest _
      refine (flushCloseP_KRel s k l (hnp rfl) hk).bind fun a _ ha h => ?_
      have hpa : a.plus = false := (Left.or_plus (flushCloseP_left ha)).trans (hnp rfl)
      obtain ⟨k, l, rfl, hka, _⟩ := h
      rw [show (a.setKeys k l).stack = a.stack from rfl]
      cases hsp : splitStack a.stack idx with
      | none => rfl
      | some x =>
        obtain ⟨elems, mk, below⟩ := x
        simp only []
        exact (add_KRel { a with starts := rest, stack := below } (.arr elems) k l hpa
          fun h => hka (splitStack_below _ _ _ _ _ hsp h)).bind fun a2 _ ha2 h =>
            ⟨⟨h.setMode _, .of_plus ((add_left ha2).plus.trans hpa)⟩, rfl⟩
    · rfl
  case closeParen =>
    split
    · rename_i idx rest _
      refine (flushCloseP_KRel s k l (hnp rfl) hk).bind fun a _ ha h => ?_
      have hpa : a.plus = false := (Left.or_plus (flushCloseP_left ha)).trans (hnp rfl)
      obtain ⟨k, l, rfl, hka, _⟩ := h
      rw [show (a.setKeys k l).stack = a.stack from rfl]
      cases hsp : splitStack a.stack idx with
      | none => rfl
      | some x =>
        obtain ⟨args, mk, below⟩ := x
        cases mk with
        | fnMark name =>
          simp only []
          exact (addIgnore_KRel { a with starts := rest, stack := below } _ k l hpa
            fun h => hka (splitStack_below _ _ _ _ _ hsp h)).bind fun a2 _ ha2 h =>
              ⟨⟨(h.setMode _).addFeat 'f', .of_plus ((addFeat_plus _ _).trans ((addIgnore_left ha2).plus.trans hpa))⟩, rfl⟩
        | _ => rfl
    · rfl

end switchK

theorem pm_absent (m : Mode) (h : pm m = true) : expectedFin m = .absent := by
  cases m <;> simp [pm] at h <;> rfl

theorem KInv.fin_plus {s : St} (hI : KInv s) (h : expectedFin s.mode ≠ .absent) : s.plus = false := by
  cases hp : s.plus with
  | false => rfl
  | true => exact absurd (pm_absent _ (hI hp)) h

section chainK
variable (cfg : Cfg) (hc : cfg.tokenizer = false)
include hc

theorem deliver_KRel {s s' : St} (h : KRel s s') : ExRel Eq KRel (deliver refTables cfg s) (deliver refTables cfg s') := by
  obtain ⟨k, l, rfl, hk, hl⟩ := h
  unfold deliver deliverP
  simp only [hc, Bool.false_eq_true, ↓reduceIte]
  rw [show (s.setKeys k l).starts = s.starts from rfl, show (s.setKeys k l).mode = s.mode from rfl,
    show (s.setKeys k l).stack = s.stack from rfl]
  split
  · cases s.stack.getLast? with
    | none => rfl
    | some it => exact ⟨k, l, rfl, fun h => (by cases h), fun _ h => (by cases h)⟩
  · exact ⟨k, l, rfl, hk, hl⟩

theorem deliver_KInv (s a : St) (hI : KInv s) (h : deliver refTables cfg s = .ok a) : KInv a := by
  unfold deliver deliverP at h
  simp only [hc, Bool.false_eq_true, ↓reduceIte] at h
  split at h
  · rename_i hcond
    simp only [Bool.and_eq_true, decide_eq_true_eq] at hcond
    have hp := hI.fin_plus (by rw [show expectedFin s.mode = _ from hcond.2]; nofun)
    split at h <;> cases h
    exact .of_plus hp
  · cases h; exact hI

theorem finish_KRel (s : St) (p : Pos) (k l : Bytes) (hI : KInv s) (hk : allEmpty s.stack = false → k = s.lastKey) :
    ExRel KeysE KeysO (finish refTables cfg s p) (finish refTables cfg (s.setKeys k l) p) := by
  unfold finish
  simp only [hc, Bool.false_eq_true, ↓reduceIte]
  rw [show (s.setKeys k l).starts = s.starts from rfl, show (s.setKeys k l).mode = s.mode from rfl,
    show (s.setKeys k l).feat = s.feat from rfl, show (s.setKeys k l).plus = s.plus from rfl,
    show (s.setKeys k l).num = s.num from rfl, show (s.setKeys k l).tmp = s.tmp from rfl,
    show (s.setKeys k l).docs = s.docs from rfl, show (s.setKeys k l).evs = s.evs from rfl]
  have hp := hI.fin_plus
  split
  · rfl
  · cases hfin : refTables.fin s.mode <;> simp only []
    case n =>
      refine (addIgnore_KRel s s.num.asNum.toJV k l (hp (by rw [show expectedFin s.mode = _ from hfin]; simp)) hk).elim
        (fun e e' h1 h2 he => ?_) (fun a a' h1 h2 ha => ?_)
      · cases he; rw [h1, h2]; rfl
      · obtain ⟨k', l', rfl, _, _⟩ := ha
        rw [h1, h2]
        simp only [show (a.setKeys k' l').stack = a.stack from rfl]
        cases a.stack.getLast? <;> rfl
    case t =>
      refine (addTokenP_KRel s s.tmp.reverse k l (hp (by rw [show expectedFin s.mode = _ from hfin]; simp)) hk).elim
        (fun e e' h1 h2 he => ?_) (fun a a' h1 h2 ha => ?_)
      · cases he; rw [h1, h2]; rfl
      · obtain ⟨k', l', rfl, _, _⟩ := ha
        rw [h1, h2]
        simp only [show (a.setKeys k' l').stack = a.stack from rfl]
        cases a.stack.getLast? <;> rfl
    all_goals rfl

variable (hpf : cfg.plusFault = false) (hmv : cfg.missingValue = false)
include hpf hmv

theorem sim_keys : Sim refTables cfg (fun s s' => KRel s s' ∧ KInv s) KeysE KeysO where
  mode := fun ⟨⟨_, _, e, _, _⟩, _⟩ => e ▸ rfl
  feat := fun ⟨⟨_, _, e, _, _⟩, _⟩ => e ▸ rfl
  addFeat c := fun ⟨h, hI⟩ => ⟨h.addFeat c, fun hp => by rw [addFeat_feat] at hp ⊢; exact hI hp⟩
  act {s _} i b := fun ⟨⟨k, l, e, hk, hl⟩, hI⟩ => by
    subst e
    unfold stepAct
    simp only [hc, Bool.false_eq_true, ↓reduceIte]
    exact stepActP_KRel cfg hpf hmv s k l i b hI hk hl
  digit _ := fun ⟨⟨_, _, e, _, _⟩, _⟩ _ => e ▸ rfl
  deliver := fun ⟨h, hI⟩ => (deliver_KRel cfg hc h).imp fun _ _ ha hr => ⟨hr, deliver_KInv cfg hc _ _ hI ha⟩
  tokenEnd {s _} := fun ⟨⟨k, l, e, hk, _⟩, hI⟩ hm => by
    subst e
    have hp := hI.not_pm (by rw [hm]; rfl)
    simp only [addTok, hc, Bool.false_eq_true, ↓reduceIte]
    exact (addTokenP_KRel s _ k l hp hk).imp fun a _ ha hr => ⟨hr, .of_plus ((addTokenP_left ha).plus.trans hp)⟩
  tokenFn {s _} := fun ⟨⟨k, l, e, hk, hl⟩, hI⟩ hm _ => by
    subst e
    exact ⟨⟨k, l, rfl, hk, hl⟩, .of_plus (hI.not_pm (by rw [hm]; rfl))⟩
  err p k ft := fun ⟨⟨_, _, e, _, _⟩, _⟩ => e ▸ rfl
  bom := rfl
  finish p := fun ⟨⟨k, l, e, hk, _⟩, hI⟩ => e ▸ finish_KRel cfg hc _ p k l hI hk

/-- **a stale `lastKey` is harmless** (sen.Parser profile, the code as it is): what a call answers —
documents, error kind, line and column, deviation marks — does not depend on the `lastKey` the previous
calls left on the instance. (`lastKey` is read by a `+` only; the string that follows looks the copy up in
the map on top of the stack, and while no member of this call has been stored — which overwrites
`lastKey` — every open map is empty.) -/
theorem call_lastKey_ref (hkp : cfg.keepPlus = false) (prev : St) (k : Bytes) (chunks : List Bytes) :
    answer (call refTables cfg prev chunks) = answer (call refTables cfg { prev with lastKey := k } chunks) := by
  refine answer_eq ((sim_keys cfg hc hpf hmv).call ⟨⟨k, (prev.entry cfg).lastStrKey, ?_, fun h => (by cases h), fun _ _ => rfl⟩, ?_⟩ chunks)
  · simp only [St.entry, hkp, Bool.false_eq_true, ↓reduceIte, St.setKeys]
  · exact .of_plus (by simp only [St.entry, hkp, Bool.false_eq_true, ↓reduceIte])

end chainK

end OjgVerif.Sen
