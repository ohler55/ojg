import OjgVerif.Sen.Lemmas
/-! Which scratch field of the machine is live in which mode: the number accumulator in the number modes (`numLive`),
`quoteDelim` in the string modes (`strLive`), `ri`/`rn` in `u` mode (`uLive`). `liveScr m s` is the scratch of `s` with what
is dead in mode `m` forgotten. That a case of either switch reads a scratch field only in a mode in which it is live is read
off the reference tables (`live_facts`; `fin_n_live` for the end marker). The parser's argument (`LemmasReset.lean`) and
the tokenizer's (`LemmasTokReuse.lean`) both start from here. -/
namespace OjgVerif.Sen

def numLive : Mode → Bool
  | .neg | .zero | .digit | .dot | .frac | .expSign | .expZero | .exp => true
  | _ => false
def strLive : Mode → Bool
  | .string | .esc | .u => true
  | _ => false
def uLive : Mode → Bool
  | .u => true
  | _ => false

/-- the scratch fields of a parser -/
structure Scr where
  num : Json.Num
  ri : Nat
  rn : Nat
  qd : UInt8
  ex : Bool

/-- the scratch fields with the ones that are dead in mode `m` forgotten -/
def liveScr (m : Mode) (s : St) : Scr :=
  { num := if numLive m then s.num else {}, ri := if uLive m then s.ri else 0, rn := if uLive m then s.rn else 0,
    qd := if strLive m then s.quoteDelim else 0, ex := false }

def needsNum : Act → Bool
  | .numSpc | .numNewline | .numDot | .numFrac | .fracE | .numDigit | .negDigit | .numZero | .expSign | .expDigit => true
  | _ => false
def needsStr : Act → Bool
  | .strQuote | .strSlash | .escOk | .escU | .uOk => true
  | _ => false

theorem live_facts (m : Mode) (b : UInt8) :
    (needsNum (expected m b) = true → numLive m = true) ∧ (needsStr (expected m b) = true → strLive m = true) ∧
    (expected m b = .uOk → uLive m = true) := by
  have := forall_mode_act (fun m a => (!needsNum a || numLive m) && (!needsStr a || strLive m) && (!(a == .uOk) || uLive m))
    (by decide) m b
  simp only [Bool.and_eq_true] at this
  exact ⟨imp_of_not_or this.1.1, imp_of_not_or this.1.2, fun h => imp_of_not_or this.2 (by rw [h]; rfl)⟩

/-! `numLive`, `strLive`, `uLive` at each mode, for `simp` once the mode is a constructor (`live_excl`, `fin_n_live`,
`entry_norm`); a further `Mode` needs its three lines here. -/
@[simp] theorem numLive_value : numLive .value = false := rfl
@[simp] theorem strLive_value : strLive .value = false := rfl
@[simp] theorem uLive_value : uLive .value = false := rfl
@[simp] theorem numLive_token : numLive .token = false := rfl
@[simp] theorem strLive_token : strLive .token = false := rfl
@[simp] theorem uLive_token : uLive .token = false := rfl
@[simp] theorem numLive_colon : numLive .colon = false := rfl
@[simp] theorem strLive_colon : strLive .colon = false := rfl
@[simp] theorem uLive_colon : uLive .colon = false := rfl
@[simp] theorem numLive_neg : numLive .neg = true := rfl
@[simp] theorem strLive_neg : strLive .neg = false := rfl
@[simp] theorem uLive_neg : uLive .neg = false := rfl
@[simp] theorem numLive_zero : numLive .zero = true := rfl
@[simp] theorem strLive_zero : strLive .zero = false := rfl
@[simp] theorem uLive_zero : uLive .zero = false := rfl
@[simp] theorem numLive_digit : numLive .digit = true := rfl
@[simp] theorem strLive_digit : strLive .digit = false := rfl
@[simp] theorem uLive_digit : uLive .digit = false := rfl
@[simp] theorem numLive_dot : numLive .dot = true := rfl
@[simp] theorem strLive_dot : strLive .dot = false := rfl
@[simp] theorem uLive_dot : uLive .dot = false := rfl
@[simp] theorem numLive_frac : numLive .frac = true := rfl
@[simp] theorem strLive_frac : strLive .frac = false := rfl
@[simp] theorem uLive_frac : uLive .frac = false := rfl
@[simp] theorem numLive_expSign : numLive .expSign = true := rfl
@[simp] theorem strLive_expSign : strLive .expSign = false := rfl
@[simp] theorem uLive_expSign : uLive .expSign = false := rfl
@[simp] theorem numLive_expZero : numLive .expZero = true := rfl
@[simp] theorem strLive_expZero : strLive .expZero = false := rfl
@[simp] theorem uLive_expZero : uLive .expZero = false := rfl
@[simp] theorem numLive_exp : numLive .exp = true := rfl
@[simp] theorem strLive_exp : strLive .exp = false := rfl
@[simp] theorem uLive_exp : uLive .exp = false := rfl
@[simp] theorem numLive_string : numLive .string = false := rfl
@[simp] theorem strLive_string : strLive .string = true := rfl
@[simp] theorem uLive_string : uLive .string = false := rfl
@[simp] theorem numLive_esc : numLive .esc = false := rfl
@[simp] theorem strLive_esc : strLive .esc = true := rfl
@[simp] theorem uLive_esc : uLive .esc = false := rfl
@[simp] theorem numLive_u : numLive .u = false := rfl
@[simp] theorem strLive_u : strLive .u = true := rfl
@[simp] theorem uLive_u : uLive .u = true := rfl
@[simp] theorem numLive_plus : numLive .plus = false := rfl
@[simp] theorem strLive_plus : strLive .plus = false := rfl
@[simp] theorem uLive_plus : uLive .plus = false := rfl
@[simp] theorem numLive_space : numLive .space = false := rfl
@[simp] theorem strLive_space : strLive .space = false := rfl
@[simp] theorem uLive_space : uLive .space = false := rfl
@[simp] theorem numLive_commentStart : numLive .commentStart = false := rfl
@[simp] theorem strLive_commentStart : strLive .commentStart = false := rfl
@[simp] theorem uLive_commentStart : uLive .commentStart = false := rfl
@[simp] theorem numLive_comment : numLive .comment = false := rfl
@[simp] theorem strLive_comment : strLive .comment = false := rfl
@[simp] theorem uLive_comment : uLive .comment = false := rfl
@[simp] theorem numLive_ccomment : numLive .ccomment = false := rfl
@[simp] theorem strLive_ccomment : strLive .ccomment = false := rfl
@[simp] theorem uLive_ccomment : uLive .ccomment = false := rfl
@[simp] theorem numLive_ccommentEnd : numLive .ccommentEnd = false := rfl
@[simp] theorem strLive_ccommentEnd : strLive .ccommentEnd = false := rfl
@[simp] theorem uLive_ccommentEnd : uLive .ccommentEnd = false := rfl

theorem live_excl (m : Mode) : (numLive m = true → strLive m = false ∧ uLive m = false) ∧
    (uLive m = true → numLive m = false ∧ strLive m = true) := by
  cases m <;> simp

theorem fin_n_live (m : Mode) (h : expectedFin m = .n) : numLive m = true := by
  cases m <;> simp_all [expectedFin]

end OjgVerif.Sen
