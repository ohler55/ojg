import OjgVerif.Sen.LemmasPut
import OjgVerif.Sen.LemmasPost
/-! C06 (SEN), sen.Parser profile: the stack-shape invariant of the machine and what follows from it.

`wf starts stack`: the build stack matches the container stack — an open object is its map with at
most one `gen.Key` above it; an open array or token function is its placeholder with only finished
values above it, and `p.starts` holds exactly the height of the stack below the placeholder; at depth 0
the stack holds only finished values. `SInv` adds: a pending `+` was pending when the call began or has
been marked (`p`).

Steps are specified by postconditions (`Post` of `LemmasPost.lean`): which errors may come out and what holds of the state that
does. Every case of the `switch` keeps `SInv`, fails with a run-time fault only in the code before 285bbf9
(`plusFault`: `addString` with its unchecked type assertions) with a `+` pending, and never without progress
(`stepActP_safe`; which case can occur in which mode is read off the alphabets of the reference tables,
`modeActs`). -/
namespace OjgVerif.Sen

/-- entries that count as finished values of an array, a function call or the top level: values, and
maps whose `}` has been read (the `{a:}` path leaves one behind) -/
def isValue : Item → Bool
  | .val _ => true
  | .obj _ => true
  | _ => false

def isMark : Item → Bool
  | .arrMark => true
  | .fnMark _ => true
  | _ => false

def dropValues : List Item → List Item
  | [] => []
  | it :: r => if isValue it then dropValues r else it :: r

/-- the build stack matches the container stack -/
def wf : List (Option Nat) → List Item → Bool
  | [], stack => stack.all isValue
  | none :: rest, .key _ :: .obj _ :: below => wf rest below
  | none :: rest, .obj _ :: below => wf rest below
  | none :: _, _ => false
  | some idx :: rest, stack =>
    match dropValues stack with
    | mk :: below => isMark mk && idx == below.length && wf rest below
    | [] => false

theorem wf_push_val (starts : List (Option Nat)) (stack : List Item) (v : JV)
    (h : wf starts stack = true) (hs : topIsObj starts = false) : wf starts (.val v :: stack) = true := by
  cases starts with
  | nil => simpa [wf, isValue] using h
  | cons st rest =>
    cases st with
    | none => simp [topIsObj] at hs
    | some idx => simpa [wf, dropValues, isValue] using h

theorem wf_obj {rest : List (Option Nat)} {stack : List Item} (h : wf (none :: rest) stack = true) :
    ∃ kvs below, (stack = .obj kvs :: below ∨ ∃ k, stack = .key k :: .obj kvs :: below) ∧ wf rest below = true := by
  unfold wf at h
  split at h
  · next heq => cases heq
  · next heq => cases heq; exact ⟨_, _, .inr ⟨_, rfl⟩, h⟩
  · next heq => cases heq; exact ⟨_, _, .inl rfl, h⟩
  · cases h
  · next heq => cases heq

theorem wf_open (starts : List (Option Nat)) (stack : List Item) (mk : Item) (hm : isMark mk = true)
    (h : wf starts stack = true) : wf (some stack.length :: starts) (mk :: stack) = true := by
  cases mk <;> simp [wf, dropValues, isValue, isMark, h] at hm ⊢

theorem wf_val_congr (starts : List (Option Nat)) (stack : List Item) (v v' : JV) :
    wf starts (.val v :: stack) = wf starts (.val v' :: stack) := by
  rcases starts with _ | ⟨_ | idx, rest⟩ <;> rfl

theorem dropValues_spec : ∀ (stack : List Item) (mk : Item) (below : List Item),
    dropValues stack = mk :: below → ∃ seg, stack = seg ++ mk :: below := by
  intro stack
  induction stack with
  | nil => intro mk below h; simp [dropValues] at h
  | cons it r ih =>
    intro mk below h
    simp only [dropValues] at h
    split at h
    · obtain ⟨seg, hs⟩ := ih mk below h
      exact ⟨it :: seg, by rw [hs]; rfl⟩
    · cases h; exact ⟨[], rfl⟩

theorem splitStack_wf (rest : List (Option Nat)) (stack : List Item) (idx : Nat)
    (h : wf (some idx :: rest) stack = true) :
    ∃ elems mk below, splitStack stack idx = some (elems, mk, below) ∧ wf rest below = true := by
  simp only [wf] at h
  split at h
  · rename_i mk below hd
    simp only [Bool.and_eq_true, beq_iff_eq] at h
    obtain ⟨seg, hs⟩ := dropValues_spec stack mk below hd
    refine ⟨((stack.take (stack.length - (idx + 1))).map Item.toJV).reverse, mk, below, ?_, h.2⟩
    unfold splitStack
    have hl : stack.length = seg.length + (below.length + 1) := by rw [hs]; simp
    have hi : idx = below.length := h.1.2
    have h1 : ¬ stack.length < idx + 1 := by omega
    have h2 : stack.length - (idx + 1) = seg.length := by omega
    simp only [h1, ↓reduceIte, h2]
    rw [hs, List.drop_left]
  · cases h

/-- an error of kind `e` is no run-time fault and not the no-progress outcome, unless `x` — and then it is a
run-time fault -/
def Allowed (x : Prop) (e : ErrKind) : Prop := e.isFault = true → e ≠ .hang ∧ x

theorem Allowed.plain {x : Prop} {e : ErrKind} (h : e.isFault = false) : Allowed x e :=
  fun h' => absurd (h ▸ h') Bool.false_ne_true

theorem Allowed.not_fault {e : ErrKind} (h : Allowed False e) : e.isFault = false :=
  Bool.eq_false_iff.mpr fun hf => (h hf).2

theorem Allowed.imp {x y : Prop} {e : ErrKind} (h : Allowed x e) (hxy : x → y) : Allowed y e :=
  fun hf => (h hf).imp_right hxy

theorem Allowed.fault {x : Prop} {w : String} (hx : x) : Allowed x (.fault w) := fun _ => ⟨nofun, hx⟩

/-- `a` has no `+` pending that `s` did not have, and all the marks of `s` -/
def Marks (s a : St) : Prop := (a.plus = true → s.plus = true) ∧ ∀ d, d ∈ s.feat → d ∈ a.feat

theorem Marks.of_eq {s a : St} (hp : a.plus = s.plus) (hf : a.feat = s.feat) : Marks s a :=
  ⟨fun h => hp ▸ h, fun _ h => hf ▸ h⟩

theorem Marks.trans {s a b : St} (h1 : Marks s a) (h2 : Marks a b) : Marks s b :=
  ⟨fun h => h1.1 (h2.1 h), fun d h => h2.2 d (h1.2 d h)⟩

theorem Marks.addFeat {s a : St} (m : Marks s a) (c : Char) : Marks s (a.addFeat c) :=
  ⟨fun h => m.1 (addFeat_plus a c ▸ h), fun d h => addFeat_mem a c d (m.2 d h)⟩

/-- the stack shape holds of `a`, whose `starts` are those of `s`; no new `+`, no mark lost -/
def Kept (s a : St) : Prop := wf a.starts a.stack = true ∧ a.starts = s.starts ∧ Marks s a

theorem Kept.wf {s a : St} (k : Kept s a) : wf a.starts a.stack = true := k.1
theorem Kept.starts {s a : St} (k : Kept s a) : a.starts = s.starts := k.2.1
theorem Kept.marks {s a : St} (k : Kept s a) : Marks s a := k.2.2

theorem Kept.addFeat {s a : St} (k : Kept s a) (c : Char) : Kept s (a.addFeat c) :=
  ⟨by rw [addFeat_feat]; exact k.wf, by rw [addFeat_feat]; exact k.starts, k.marks.addFeat c⟩

theorem Kept.undelivered {s a : St} (k : Kept s a) : Kept s a.undelivered := by
  unfold St.undelivered; split
  · exact k.addFeat 's'
  · exact k

/-- `Kept`, and there is something on the stack to deliver, unless `x`: what the end-of-document test asks for
(`deliver_safe`). The stack may be shorter than that of `s`: `setMember` pops the member name. -/
def Deliverable (x : Prop) (s a : St) : Prop := Kept s a ∧ (a.stack ≠ [] ∨ x)

/-- the invariant: the build stack matches the container stack, and a pending `+` was pending when the call
began (`q`) or has been marked (`p`) -/
def SInv (q : Prop) (s : St) : Prop := wf s.starts s.stack = true ∧ (s.plus = true → q ∨ 'p' ∈ s.feat)

theorem SInv.of_marks {q : Prop} {s a : St} (hI : SInv q s) (m : Marks s a) (hw : wf a.starts a.stack = true) :
    SInv q a :=
  ⟨hw, fun hp => (hI.2 (m.1 hp)).imp_right (m.2 _)⟩

theorem Kept.inv {q : Prop} {s a : St} (k : Kept s a) (hI : SInv q s) : SInv q a := hI.of_marks k.marks k.wf

theorem SInv.addFeat {q : Prop} {s : St} (hI : SInv q s) (c : Char) : SInv q (s.addFeat c) :=
  hI.of_marks ((.of_eq rfl rfl : Marks s s).addFeat c) (by rw [addFeat_feat]; exact hI.1)

theorem add_err (s : St) (n : JV) (e : ErrKind) (h : s.add n = .error e) : topIsObj s.starts = true := by
  unfold St.add at h
  split at h
  · next heq => rw [heq]; rfl
  · cases h

section add
variable {x : Prop} (s : St) (h : wf s.starts s.stack = true)
include h

/-- `noKey` is taken in an object with the map itself on top, and there a member name of any spelling may be pushed:
the premise of `hk` -/
theorem put_post (v : JV) (noKey : Except ErrKind St)
    (hk : (∀ k, wf s.starts (.key k :: s.stack) = true) → Post (Allowed x) (Deliverable x s) noKey) :
    Post (Allowed x) (Deliverable x s) (s.put v noKey) := by
  obtain ⟨mode, starts, stack, docs, evs, exkey, tmp, ri, rn, num, qd, plus, lk, lsk, feat⟩ := s
  unfold St.put
  rcases starts with _ | ⟨_ | idx, rest⟩
  case cons.none =>
    obtain ⟨kvs, below, rfl | ⟨k, rfl⟩, hw⟩ := wf_obj h
    · exact hk fun _ => hw
    · exact ⟨⟨hw, rfl, .of_eq rfl rfl⟩, .inl (List.cons_ne_nil _ _)⟩
  all_goals exact ⟨⟨wf_push_val _ _ _ h rfl, rfl, .of_eq rfl rfl⟩, .inl (List.cons_ne_nil _ _)⟩

theorem add_post (n : JV) : Post (Allowed x) (Deliverable x s) (s.add n) := by
  rw [add_put]; exact put_post s h n _ fun _ => .plain rfl

theorem addTokenP_post (t : Bytes) : Post (Allowed x) (Deliverable x s) (s.addTokenP t) := by
  rw [addTokenP_put]; exact put_post s h _ _ fun hw => ⟨⟨hw t, rfl, .of_eq rfl rfl⟩, .inl (List.cons_ne_nil _ _)⟩

theorem addStringP_post (str : Bytes) : Post (Allowed x) (Deliverable x s) (s.addStringP str) := by
  cases hp : s.plus
  · rw [addStringP_put s str hp]
    exact put_post s h _ _ fun hw => ⟨⟨hw str, rfl, .of_eq rfl rfl⟩, .inl (List.cons_ne_nil _ _)⟩
  obtain ⟨mode, starts, stack, docs, evs, exkey, tmp, ri, rn, num, qd, plus, lk, lsk, feat⟩ := s
  cases hp
  unfold St.addStringP
  rcases starts with _ | ⟨_ | idx, rest⟩
  case cons.none =>
    obtain ⟨kvs, below, rfl | ⟨k, rfl⟩, hw⟩ := wf_obj h
    · simp only [↓reduceIte]
      split
      · exact ⟨⟨hw, rfl, ⟨nofun, fun _ => id⟩⟩, .inl (List.cons_ne_nil _ _)⟩
      · exact .plain rfl
    · exact .plain rfl
  all_goals
    simp only [↓reduceIte]
    split
    · exact ⟨⟨wf_val_congr _ _ _ _ ▸ h, rfl, ⟨nofun, fun _ => id⟩⟩, .inl (List.cons_ne_nil _ _)⟩
    · exact .plain rfl

theorem addStringPOld_post (str : Bytes) (hx : s.plus = true → x) :
    Post (Allowed x) (Deliverable x s) (s.addStringPOld str) := by
  cases hp : s.plus
  · rw [addStringPOld_put s str hp]
    exact put_post s h _ _ fun hw => ⟨⟨hw str, rfl, .of_eq rfl rfl⟩, .inl (List.cons_ne_nil _ _)⟩
  have hq := hx hp
  obtain ⟨mode, starts, stack, docs, evs, exkey, tmp, ri, rn, num, qd, plus, lk, lsk, feat⟩ := s
  cases hp
  unfold St.addStringPOld
  rcases starts with _ | ⟨_ | idx, rest⟩
  case cons.none =>
    obtain ⟨kvs, below, rfl | ⟨k, rfl⟩, hw⟩ := wf_obj h
    · simp only [↓reduceIte]
      split
      · exact ⟨⟨hw, rfl, ⟨nofun, fun _ => id⟩⟩, .inr hq⟩
      · exact .fault hq
    · exact .fault hq
  all_goals
    simp only [↓reduceIte]
    split
    · exact ⟨⟨h, rfl, ⟨nofun, fun _ => id⟩⟩, .inr hq⟩
    · exact ⟨⟨wf_val_congr _ _ _ _ ▸ h, rfl, ⟨nofun, fun _ => id⟩⟩, .inr hq⟩
    · exact .fault hq

/-- every error of `add` arises in an object (`add_err`), so outside one `addIgnore` has pushed its value; `closeParen`
at depth 0 and `finish_safe` deliver it -/
theorem addIgnore_post (n : JV) :
    Post (Allowed x) (fun a => Kept s a ∧ (topIsObj s.starts = false → a.stack ≠ [])) (s.addIgnore n) := by
  have ha := add_post (x := False) s h n
  have he := add_err s n
  unfold St.addIgnore
  revert ha he
  cases s.add n with
  | ok a => exact fun g _ => ⟨g.1, fun _ => g.2.resolve_right id⟩
  | error e =>
    intro ha he
    simp only [ha.not_fault]
    exact ⟨⟨h, rfl, .of_eq rfl rfl⟩, fun ho => absurd (he e rfl) (by rw [ho]; nofun)⟩

theorem flushP_post : Post (Allowed x) (Kept s) (s.flushP refTables) := by
  unfold St.flushP
  split
  · exact (add_post s h _).mono (fun _ => id) fun _ g => g.1
  · exact (addTokenP_post s h _).mono (fun _ => id) fun _ g => g.1
  · exact ⟨h, rfl, .of_eq rfl rfl⟩

theorem flushCloseP_post (hf : expectedFin s.mode ≠ .absent) : Post (Allowed x) (Kept s) (s.flushCloseP refTables) := by
  unfold St.flushCloseP
  split
  · next heq => exact absurd heq hf
  · exact (addIgnore_post s h _).mono (fun _ => id) fun _ g => g.1
  · exact (addTokenP_post s h _).mono (fun _ => id) fun _ g => g.1
  · exact ⟨h, rfl, .of_eq rfl rfl⟩

end add

/-- the cases that can leave the state in the mode they found it (`strQuote`: when the byte is not the closing
quote) and are followed by the end-of-document test -/
def keepsMode : Act → Bool
  | .strOk | .tokenOk | .numDigit | .strQuote | .unknown => true
  | _ => false

theorem keepsMode_not_endDoc (m : Mode) (b : UInt8) (h : keepsMode (expected m b) = true) : expectedFin m ≠ .v := by
  have := forall_mode_act (fun m a => !keepsMode a || expectedFin m != .v) (by decide) m b
  simpa [h] using this

/-- the only way to a run-time fault: the code BEFORE 285bbf9 (`plusFault`) with a `+` pending -/
abbrev Old (cfg : Cfg) (s : St) : Prop := cfg.plusFault = true ∧ s.plus = true

/-- what one `switch` case guarantees: no run-time fault and no stop without progress (unless `Old`); the
invariant; and, where the end-of-document test follows, a document to deliver (unless `Old`) -/
def StepSafe (q : Prop) (cfg : Cfg) (s : St) : Except ErrKind (St × Bool × Bool) → Prop :=
  Post (Allowed (Old cfg s)) fun r =>
    SInv q r.1 ∧ (r.2.1 = false → r.1.starts = [] → expectedFin r.1.mode = .v → r.1.stack ≠ [] ∨ Old cfg s)

section switch
variable {q : Prop} {cfg : Cfg} {s : St}

theorem StepSafe.ok {s1 : St} {cont nl : Bool} (hI : SInv q s1)
    (hd : cont = false → s1.starts = [] → expectedFin s1.mode = .v → s1.stack ≠ [] ∨ Old cfg s) :
    StepSafe q cfg s (.ok (s1, cont, nl)) := ⟨hI, hd⟩

theorem StepSafe.deliverable {a : St} {nl : Bool} (hI : SInv q s) (g : Deliverable (Old cfg s) s a) :
    StepSafe q cfg s (.ok (a, false, nl)) := ⟨g.1.inv hI, fun _ _ _ => g.2⟩

/-- `add` below a map that `}` has just finished (what the case leaves when a member name had no value) -/
theorem add_objTop_post {x : Prop} (s : St) (n : JV) (kvs : List (Bytes × JV)) (bl : List Item)
    (hk : s.stack = .obj kvs :: bl) (h : wf s.starts bl = true) : Post (Allowed x) (Deliverable x s) (s.add n) := by
  obtain ⟨mode, starts, stack, docs, evs, exkey, tmp, ri, rn, num, qd, plus, lk, lsk, feat⟩ := s
  cases hk
  unfold St.add
  rcases starts with _ | ⟨_ | idx, rest⟩
  case cons.none => exact .plain rfl
  all_goals exact ⟨⟨by simpa [wf, dropValues, isValue] using h, rfl, .of_eq rfl rfl⟩, .inl (List.cons_ne_nil _ _)⟩

theorem stepActP_safe (cfg : Cfg) (s : St) (i : Bool) (b : UInt8) (hI : SInv q s) :
    StepSafe q cfg s (stepActP refTables cfg s i b) := by
  have hk : keepsMode (refTables.act s.mode b) = true → _ := keepsMode_not_endDoc s.mode b
  have hcl : refTables.act s.mode b = .closeArray ∨ _ → _ := close_fin s.mode b
  unfold stepActP
  cases hact : refTables.act s.mode b
  case skipNewline | cskipNewline | colonColon | skipChar | cskipChar | valQuote | strSlash | escOk | valNeg | escU |
      fracE | expSign | uOk | commentEnd =>
    exact .ok hI nofun
  case valDigit | val0 | numFrac | numZero | negDigit | expDigit | commentStart | ccommentStart | ccommentEnd =>
    exact .ok hI fun _ _ => nofun
  case strOk | tokenOk | unknown =>
    exact .ok hI fun _ _ hf => absurd hf (hk (hact ▸ rfl))
  case numDigit =>
    refine .ok ⟨hI.1, fun hp => (hI.2 hp).imp_right fun h => ?_⟩ fun _ _ hf => absurd hf (hk (hact ▸ rfl))
    simp only []
    split
    · exact addFeat_mem s 'i' 'p' h
    · exact h
  case numDot =>
    simp only []; split
    · exact .ok hI nofun
    · exact .ok hI fun _ _ => nofun
  case tokenStart => simp only [refTables, tokenStart_tokenOk s.mode b hact, ↓reduceIte]; exact .ok hI nofun
  case charErr => simp only []; refine Allowed.plain ?_; split <;> rfl
  case valPlus =>
    refine .ok ⟨by rw [addFeat_feat]; exact hI.1, fun _ => .inr (addFeat_self _ 'p')⟩ fun _ _ hf => ?_
    rw [addFeat_feat] at hf; cases hf
  case openParen =>
    refine .ok (hI.of_marks ((.of_eq rfl rfl : Marks s (startP s _ _)).addFeat 'f') ?_) nofun
    rw [addFeat_feat]
    exact wf_open _ _ _ rfl hI.1
  case numSpc | numNewline => exact (add_post s hI.1 _).bind fun a g => StepSafe.deliverable hI g
  case tokenSpc | tokenColon | tokenNlColon => exact (addTokenP_post s hI.1 _).bind fun a g => StepSafe.deliverable hI g
  case valSlash =>
    exact (flushP_post s hI.1).bind fun a k => StepSafe.ok (k.undelivered.inv hI) fun _ _ => nofun
  case openObject =>
    exact (flushP_post s hI.1).bind fun a k =>
      StepSafe.ok (hI.of_marks k.undelivered.marks k.undelivered.wf) nofun
  case openArray =>
    exact (flushP_post s hI.1).bind fun a k =>
      StepSafe.ok (hI.of_marks k.undelivered.marks (wf_open _ _ _ rfl k.undelivered.wf)) nofun
  case strQuote =>
    simp only []; split
    · refine Post.bind ?_ fun a g => StepSafe.deliverable hI g
      split
      · next hpf => exact addStringPOld_post s hI.1 _ fun hp => ⟨hpf, hp⟩
      · exact addStringP_post s hI.1 _
    · exact .ok hI fun _ _ hf => absurd hf (hk (hact ▸ rfl))
  case closeObject =>
    simp only []; split
    · next rest hs =>
      -- the closers: `wf` of the flushed state gives the shape of the container that is popped (`wf_obj`,
      -- `splitStack_wf`) and `wf` of what lies below it, which is where the finished container is added
      refine (flushP_post s hI.1).bind fun a k => ?_
      have hw := k.wf; rw [k.starts, hs] at hw
      obtain ⟨kvs, below, hst | ⟨key, hst⟩, hwb⟩ := wf_obj hw
      · simp only [hst, topIsKey, Bool.false_and, Bool.false_eq_true, ↓reduceIte]
        exact (add_post _ hwb _).bind fun a2 g =>
          ⟨hI.of_marks (k.marks.trans g.1.marks) g.1.wf, fun _ _ _ => g.2⟩
      · simp only [hst, topIsKey, Bool.true_and, ↓reduceIte]
        cases cfg.missingValue
        · exact Allowed.plain rfl
        · exact (add_objTop_post _ _ kvs below rfl hwb).bind fun a2 g =>
            ⟨hI.of_marks ((k.marks.addFeat 'v').trans g.1.marks) g.1.wf, fun _ _ _ => g.2⟩
    · exact Allowed.plain rfl
  case closeArray =>
    simp only []; split
    · next idx rest hs =>
      refine (flushCloseP_post s hI.1 (hcl (.inl hact))).bind fun a k => ?_
      have hw := k.wf; rw [k.starts, hs] at hw
      obtain ⟨elems, mk, below, hsp, hwb⟩ := splitStack_wf rest a.stack idx hw
      simp only [hsp]
      exact (add_post _ hwb _).bind fun a2 g =>
        ⟨hI.of_marks (k.marks.trans g.1.marks) g.1.wf, fun _ _ _ => g.2⟩
    · exact Allowed.plain rfl
  case closeParen =>
    simp only []; split
    · next idx rest hs =>
      refine (flushCloseP_post s hI.1 (hcl (.inr hact))).bind fun a k => ?_
      have hw := k.wf; rw [k.starts, hs] at hw
      obtain ⟨args, mk, below, hsp, hwb⟩ := splitStack_wf rest a.stack idx hw
      simp only [hsp]
      cases mk
      case fnMark name =>
        refine (addIgnore_post _ hwb _).bind fun a2 g =>
          ⟨hI.of_marks ((k.marks.trans g.1.marks : Marks s { a2 with mode := .value }).addFeat 'f') ?_,
            fun _ hst _ => .inl ?_⟩
        · rw [addFeat_feat]; exact g.1.wf
        · rw [addFeat_feat] at hst ⊢
          rw [show a2.starts = rest from g.1.starts] at hst
          exact g.2 (by rw [show rest = [] from hst]; rfl)
      all_goals exact Allowed.plain rfl
    · exact Allowed.plain rfl
end switch

section toEntry
variable {q : Prop} (cfg : Cfg) (hc : cfg.tokenizer = false)
include hc

theorem deliver_safe {x : Prop} (s : St) (hI : SInv q s)
    (hd : s.starts = [] → expectedFin s.mode = .v → s.stack ≠ [] ∨ x) :
    Post (Allowed x) (fun a => SInv q a ∧ Marks s a) (deliver refTables cfg s) := by
  unfold deliver deliverP
  simp only [hc, Bool.false_eq_true, ↓reduceIte]
  split
  · next h =>
    simp only [Bool.and_eq_true, List.isEmpty_iff, decide_eq_true_eq] at h
    split
    · next hk => exact .fault ((hd h.1 h.2).resolve_left fun hne => hne (List.getLast?_eq_none_iff.mp hk))
    · exact ⟨⟨by rw [h.1]; rfl, hI.2⟩, .of_eq rfl rfl⟩
  · exact ⟨hI, .of_eq rfl rfl⟩

theorem stepCore_safe (s : St) (f : Fast) (b : UInt8) (hI : SInv q s) :
    Post (Allowed (Old cfg s)) (fun r => SInv q r.1) (stepCore refTables cfg s f b) := by
  have hA := stepActP_safe cfg s f.inFast b hI
  unfold stepCore stepAct
  simp only [hc, Bool.false_eq_true, ↓reduceIte]
  revert hA
  cases stepActP refTables cfg s f.inFast b with
  | error e => exact id
  | ok r =>
    obtain ⟨s1, cont, nl⟩ := r
    rintro ⟨hI1, hd⟩
    cases cont
    · have := deliver_safe cfg hc s1 hI1 (hd rfl)
      revert this
      simp only [Bool.false_eq_true, ↓reduceIte]
      cases deliver refTables cfg s1 with
      | error e => exact id
      | ok a => exact fun h => h.1
    · exact hI1

theorem tokenEndFast_safe (s : St) (f : Fast) (b : UInt8) (hI : SInv q s) :
    Post (Allowed (Old cfg s)) (fun r => SInv q r.1) (tokenEndFast refTables cfg s f b) := by
  unfold tokenEndFast
  simp only [hc, Bool.not_false, Bool.and_true, Bool.false_eq_true, ↓reduceIte]
  split
  · exact hI.of_marks ((.of_eq rfl rfl : Marks s (startP s _ _)).addFeat 'f')
      (by rw [addFeat_feat]; exact wf_open _ _ _ rfl hI.1)
  · have := addTokenP_post (x := Old cfg s) s hI.1 s.tmp.reverse
    revert this
    cases s.addTokenP s.tmp.reverse with
    | error e => exact id
    | ok a =>
      intro g
      have := deliver_safe cfg hc a (g.1.inv hI) fun _ _ => g.2
      revert this
      simp only []
      cases deliver refTables cfg a with
      | error e => exact id
      | ok a2 =>
        intro h
        exact (stepCore_safe cfg hc a2 _ b h.1).mono (fun _ he => he.imp (And.imp_right fun hp => g.1.marks.1 (h.2.1 hp)))
          fun _ => id

theorem step_safe (s : St) (f : Fast) (b : UInt8) (l : Bool) (hI : SInv q s) :
    Post (Allowed (Old cfg s)) (fun r => SInv q r.1) (step refTables cfg s f b l) := by
  unfold step
  split
  · split
    · exact hI
    · exact hI.addFeat 'm'
  · split
    · exact tokenEndFast_safe cfg hc s _ b hI
    · split
      · exact (stepCore_safe cfg hc _ _ b (hI.addFeat 'k')).mono
          (fun _ he => he.imp (And.imp_right fun hp => addFeat_plus s 'k' ▸ hp)) fun _ => id
      · exact stepCore_safe cfg hc s _ b hI

theorem finish_safe (s : St) (p : Pos) (hw : wf s.starts s.stack = true) :
    Post (fun e => e.kind.isFault = false) (fun _ => True) (finish refTables cfg s p) := by
  unfold finish
  simp only [hc, Bool.false_eq_true, ↓reduceIte]
  split
  · rfl
  · next hst =>
    have hst : topIsObj s.starts = false := by
      rw [show s.starts = [] by simpa using hst]; rfl
    split
    · rfl
    · have := addIgnore_post (x := False) s hw s.num.asNum.toJV
      revert this
      cases s.addIgnore s.num.asNum.toJV with
      | error k => exact Allowed.not_fault
      | ok a =>
        intro h
        simp only []
        split
        · next hk => exact absurd (List.getLast?_eq_none_iff.mp hk) (h.2 hst)
        · trivial
    · have := addTokenP_post (x := False) s hw s.tmp.reverse
      revert this
      cases s.addTokenP s.tmp.reverse with
      | error k => exact Allowed.not_fault
      | ok a =>
        intro h
        simp only []
        split
        · next hk => exact absurd (List.getLast?_eq_none_iff.mp hk) (h.2.resolve_right id)
        · trivial
    · trivial

end toEntry

theorem cellFeat_mem (T : Tables) (cfg : Cfg) (s : St) (b : UInt8) (d : Char) (h : d ∈ s.feat) :
    d ∈ (cellFeat T cfg s b).feat := by
  unfold cellFeat
  split <;> (try split) <;> first | exact h | exact addFeat_mem _ _ d h

section entry
variable (cfg : Cfg) (hc : cfg.tokenizer = false)
include hc

/-- **how a call of the parser machine may fail**: never in the no-progress state, and in a run-time fault
(failed type assertion, index out of range, nil-map write) only if the code is the one before 285bbf9
(`plusFault`) and a `+` was pending on the instance when the call began (excluded since ece2934) or the run
has gone through the `valPlus` case before (mark `p`) -/
theorem call_sound_ref (prev : St) (chunks : List Bytes) :
    Post (fun e => Allowed (cfg.plusFault = true ∧ ((cfg.keepPlus = true ∧ prev.plus = true) ∨ 'p' ∈ e.feat)) e.kind)
      (fun _ => True) (call refTables cfg prev chunks) := by
  have hI : SInv (cfg.keepPlus = true ∧ prev.plus = true) (prev.entry cfg) := by
    refine ⟨rfl, fun h => .inl ?_⟩
    change (if cfg.keepPlus = true then prev.plus else false) = true at h
    split at h
    · exact ⟨‹_›, h⟩
    · cases h
  exact call_post
    (fun s f b l p hI => (step_safe cfg hc s f b l hI).mono
      (fun k hk => hk.imp (And.imp_right fun hp => (hI.2 hp).imp_right (cellFeat_mem _ _ _ _ 'p'))) fun _ => id)
    (fun s p hI => (finish_safe cfg hc s p hI.1).mono (fun _ => Allowed.plain) fun _ => id)
    (Allowed.plain rfl) prev hI chunks

theorem call_safe_ref (prev : St) (hp : cfg.keepPlus = true → prev.plus = false) (chunks : List Bytes) :
    ∀ e, call refTables cfg prev chunks = .error e → ∀ w, e.kind = .fault w → cfg.plusFault = true ∧ 'p' ∈ e.feat := by
  intro e he w hw
  have := call_sound_ref cfg hc prev chunks
  rw [he] at this
  obtain ⟨-, h1, h2⟩ := this (hw ▸ rfl)
  exact ⟨h1, h2.resolve_left fun ⟨hk, hpp⟩ => by rw [hp hk] at hpp; cases hpp⟩

/-- **the parser machine never reaches the no-progress state** -/
theorem call_noHang_ref (prev : St) (chunks : List Bytes) (e : Err)
    (h : call refTables cfg prev chunks = .error e) : e.kind ≠ .hang := by
  intro hk
  have := call_sound_ref cfg hc prev chunks
  rw [h] at this
  exact (this (hk ▸ rfl)).1 hk

end entry
end OjgVerif.Sen
