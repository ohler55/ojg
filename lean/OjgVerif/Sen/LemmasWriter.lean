import OjgVerif.Common.JVInduction
import OjgVerif.Sen.WriterIndent
/-! Facts about the writer models alone (`tightVal`, `indentVal`, `senWrite`; no parser): what the layout proofs
(Props/C10Layout.lean, Props/C10Indent.lean) and the streaming theorem (Props/C10Stream.lean) share. -/
namespace OjgVerif.Sen

theorem tree_ind {PV : JV → Prop} {PE : List JV → Prop} {PM : List (Bytes × JV) → Prop}
    (scalar : ∀ v, needSep v = true → PV v) (arr : ∀ xs, PE xs → PV (.arr xs)) (obj : ∀ kvs, PM kvs → PV (.obj kvs))
    (enil : PE []) (econs : ∀ x r, PV x → PE r → PE (x :: r))
    (mnil : PM []) (mcons : ∀ k v r, PV v → PM r → PM ((k, v) :: r)) :
    (∀ v, PV v) ∧ (∀ xs, PE xs) ∧ (∀ kvs, PM kvs) :=
  Match.tree_induction (fun v h => scalar v (by cases v <;> first | rfl | cases h)) arr obj enil econs mnil mcons

theorem tightElems_cons (o : WOpts) (x : JV) (r : List JV) :
    tightElems o (x :: r) = tightVal o x ++ ((if needSep x && !r.isEmpty then [32] else []) ++ tightElems o r) := by
  cases r <;> simp [tightElems]

theorem indentVal_scalar (o : WOpts) (io : IOpts) (depth : Nat) (v : JV) (hs : needSep v = true) :
    indentVal o io depth v = tightVal o v := by
  cases v with
  | arr xs => cases hs
  | obj kvs => cases hs
  | bool b => cases b <;> rfl
  | _ => rfl

theorem senWrite_scalar (o : WOpts) (io : IOpts) (v : JV) (hs : needSep v = true) : senWrite o io v = tightVal o v := by
  unfold senWrite
  split
  · exact indentVal_scalar o io 0 v hs
  · rfl

end OjgVerif.Sen
