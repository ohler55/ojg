import OjgVerif.Sen.Lemmas
/-! Postconditions of the SEN machine, the unary counterpart of `ExRel` and `Sim` of `LemmasSim.lean`: `Post E P x`
says that `x` fails with an error in `E` or succeeds with a result in `P`. An invariant that one byte's work keeps,
failing only with errors in `E`, holds along a whole call, which then fails only in `E` (`call_post`), for any table
set, either profile and any invariant; the parser's safety argument takes the stack shape for it, the tokenizer's
takes none. -/
namespace OjgVerif.Sen

def Post {ε α : Type} (E : ε → Prop) (P : α → Prop) : Except ε α → Prop
  | .error e => E e
  | .ok a => P a

theorem Post.bind {ε α β : Type} {E : ε → Prop} {P : α → Prop} {Q : β → Prop} {x : Except ε α}
    {f : α → Except ε β} (hx : Post E P x) (hf : ∀ a, P a → Post E Q (f a)) : Post E Q (x >>= f) := by
  cases x with
  | error e => exact hx
  | ok a => exact hf a hx

theorem Post.mono {ε α : Type} {E E' : ε → Prop} {P P' : α → Prop} {x : Except ε α}
    (hx : Post E P x) (hE : ∀ e, E e → E' e) (hP : ∀ a, P a → P' a) : Post E' P' x := by
  cases x with
  | error e => exact hE e hx
  | ok a => exact hP a hx

section lift
variable {T : Tables} {cfg : Cfg} {I : St → Prop} {E : Err → Prop}
  (hstep : ∀ s f b l (p : Pos), I s →
    Post (fun k => E (p.err k (cellFeat T cfg s b).feat s.plus s.lastStrKey s.lastKey)) (fun r => I r.1)
      (step T cfg s f b l))
include hstep

theorem runBytes_post (bs : Bytes) : ∀ (s : St) (f : Fast) (p : Pos), I s →
    Post E (fun r => I r.1) (runBytes T cfg s f p bs) := by
  induction bs with
  | nil => exact fun s f p hI => hI
  | cons b r ih =>
    intro s f p hI
    have hs := hstep s f b r.isEmpty p hI
    simp only [runBytes]
    revert hs
    cases step T cfg s f b r.isEmpty with
    | error k => exact id
    | ok x => exact fun hs => ih _ _ _ hs

theorem runChunks_post (cs : List Bytes) : ∀ (s : St) (p : Pos), I s →
    Post E (fun r => I r.1) (runChunks T cfg s p cs) := by
  induction cs with
  | nil => exact fun s p hI => hI
  | cons c rest ih =>
    intro s p hI
    have hb := runBytes_post hstep c s {} { p with off := 0 } hI
    simp only [runChunks]
    revert hb
    cases runBytes T cfg s {} { p with off := 0 } c with
    | error e => exact id
    | ok x => exact fun hb => ih _ _ hb

theorem call_post (hfin : ∀ s p, I s → Post E (fun _ => True) (finish T cfg s p))
    (hbom : E { line := 1, col := 3, kind := .bom }) (prev : St) (h0 : I (prev.entry cfg)) (chunks : List Bytes) :
    Post E (fun _ => True) (call T cfg prev chunks) := by
  refine callWith_rel (P := fun x _ => Post E (fun _ => True) x) (T' := T) (cfg' := cfg) (prev' := prev) rfl _ _ _
    (hfin _ _ h0) hbom (fun cs => ?_) chunks
  have hr := runChunks_post hstep cs (prev.entry cfg) {} h0
  unfold afterBom
  revert hr
  cases runChunks T cfg (prev.entry cfg) {} cs with
  | error e => exact id
  | ok x => exact fun hr => hfin x.1 x.2 hr

end lift

end OjgVerif.Sen
