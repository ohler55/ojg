import OjgVerif.Sen.LemmasPost
/-! sen.Tokenizer profile: the machine never ends in a run-time fault or in the no-progress state. The
tokenizer has no build stack; the only run-time fault of its switch is `p.mode[256]` read without a length
test in `closeArray` (every mode table with that code has the 257th byte: `close_fin`), the only
no-progress outcome is a token start that is not a token byte (`tokenStart_tokenOk`). -/
namespace OjgVerif.Sen

/-- not a run-time fault and not the no-progress state -/
abbrev Quiet {α : Type} (r : Except ErrKind α) : Prop := Post (fun e => e.isFault = false) (fun _ => True) r

theorem handleNumT_quiet (s : St) : Quiet s.handleNumT := by
  unfold St.handleNumT
  split
  · rfl
  · trivial

theorem flushT_quiet (s : St) : Quiet (s.flushT refTables) := by
  unfold St.flushT
  split
  · exact handleNumT_quiet s
  · trivial
  · trivial

theorem flushCloseT_quiet (s : St) (h : expectedFin s.mode ≠ .absent) : Quiet (s.flushCloseT refTables) := by
  unfold St.flushCloseT
  split
  · next heq => exact absurd heq h
  · exact handleNumT_quiet s
  · trivial
  · trivial

theorem stepActT_quiet (cfg : Cfg) (s : St) (b : UInt8) : Quiet (stepActT refTables cfg s b) := by
  have hcl : refTables.act s.mode b = .closeArray ∨ _ → _ := close_fin s.mode b
  unfold stepActT
  cases hact : refTables.act s.mode b
  case tokenStart => simp only [refTables, tokenStart_tokenOk s.mode b hact, ↓reduceIte]; trivial
  case openObject | openArray =>
    refine (flushT_quiet s).bind fun a _ => ?_
    split
    · rfl
    · trivial
  case closeObject =>
    simp only []; split
    · refine (flushT_quiet s).bind fun a _ => ?_
      split
      · rfl
      · trivial
    · rfl
  case closeArray =>
    simp only []; split
    · exact (flushCloseT_quiet s (hcl (.inl hact))).bind fun a _ => trivial
    · rfl
  case numSpc | numNewline => exact (handleNumT_quiet s).bind fun a _ => trivial
  case valSlash => exact (flushT_quiet s).bind fun a _ => trivial
  case numDot | commentEnd | ccommentStart | ccommentEnd | cskipChar | cskipNewline => simp only []; split <;> trivial
  case strQuote => simp only []; split <;> (try split) <;> trivial
  case charErr => simp only []; show ErrKind.isFault _ = false; split <;> rfl
  all_goals trivial

section tokChain
variable (cfg : Cfg) (ht : cfg.tokenizer = true)
include ht

theorem deliverT_quiet (s : St) : Quiet (deliver refTables cfg s) := by
  unfold deliver
  simp only [ht, ↓reduceIte]
  split <;> trivial

theorem stepCoreT_quiet (s : St) (f : Fast) (b : UInt8) : Quiet (stepCore refTables cfg s f b) := by
  have hA := stepActT_quiet cfg s b
  unfold stepCore stepAct
  simp only [ht, ↓reduceIte]
  revert hA
  cases stepActT refTables cfg s b with
  | error e => exact id
  | ok r =>
    intro _
    simp only []
    split
    · trivial
    · have := deliverT_quiet cfg ht r.1
      revert this
      cases deliver refTables cfg r.1 with
      | error e => exact id
      | ok a => exact id

theorem tokenEndFastT_quiet (s : St) (f : Fast) (b : UInt8) : Quiet (tokenEndFast refTables cfg s f b) := by
  unfold tokenEndFast
  simp only [ht, Bool.not_true, Bool.and_false, Bool.false_eq_true, ↓reduceIte]
  have := deliverT_quiet cfg ht (s.addTokenT s.tmp.reverse)
  revert this
  cases deliver refTables cfg (s.addTokenT s.tmp.reverse) with
  | error e => exact id
  | ok a => exact fun _ => stepCoreT_quiet cfg ht a _ b

theorem stepT_quiet (s : St) (f : Fast) (b : UInt8) (l : Bool) : Quiet (step refTables cfg s f b l) := by
  unfold step
  split
  · trivial
  · split
    · exact tokenEndFastT_quiet cfg ht s _ b
    · exact stepCoreT_quiet cfg ht _ _ b

theorem finishT_quiet (s : St) (p : Pos) :
    Post (fun e => e.kind.isFault = false) (fun _ => True) (finish refTables cfg s p) := by
  unfold finish
  simp only [ht, ↓reduceIte]
  split
  · rfl
  · split
    · rfl
    · have := handleNumT_quiet s
      revert this
      cases s.handleNumT with
      | error k => exact id
      | ok a => exact id
    · trivial
    · trivial

/-- **the tokenizer machine never ends in a run-time fault or in the no-progress state**: every prior
instance state, every configuration of the tokenizer profile (old or repaired switch), input, chunking -/
theorem call_quiet_tok_ref (prev : St) (chunks : List Bytes) (e : Err)
    (h : call refTables cfg prev chunks = .error e) : e.kind.isFault = false := by
  have := call_post (I := fun _ => True) (E := fun e => e.kind.isFault = false)
    (fun s f b l p _ => (stepT_quiet cfg ht s f b l).mono (fun _ => id) fun _ _ => trivial)
    (fun s p _ => finishT_quiet cfg ht s p) rfl prev trivial chunks
  rw [h] at this
  exact this

end tokChain

end OjgVerif.Sen
