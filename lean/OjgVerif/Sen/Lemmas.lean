import OjgVerif.Common.ByteTables
import OjgVerif.Sen.Tables
/-! The regenerated tables are the reference tables (`TablesOK senTables`, kernel evaluation row by row);
which cases of the switch each mode of the reference can select (`modeActs`), so that facts about modes and
cases are checked on 20 short lists; the machine over any `TablesOK` table set is the machine over the
reference; and the BOM handling of the reference is that of the JSON machine. -/
namespace OjgVerif.Sen

theorem Mode.mem_all (m : Mode) : m ∈ Mode.all := by
  cases m <;> decide

def cellsOK (tbl : Mode → Array UInt8) : Bool :=
  Mode.all.all fun m =>
    ((tbl m).toList.take 256).map decode == (List.range 256).map fun i => expected m (UInt8.ofNat i)

def finsOK (tbl : Mode → Array UInt8) : Bool :=
  Mode.all.all fun m => decodeFin (tbl m) == expectedFin m

/-- the nine bytes the reference sends to `escOk` -/
def escBytes : List UInt8 := [34, 39, 47, 92, 98, 102, 110, 114, 116]

theorem escOk_mem (b : UInt8) (h : expected .esc b = .escOk) : b ∈ escBytes := by
  simp only [expected] at h
  split at h
  · next hb => simpa [escBytes, or_assoc] using hb
  · split at h <;> cases h

def escOK (esc : Array UInt8) : Bool :=
  escBytes.all fun b => esc.getD b.toNat 0 == unesc b

/-- the cases of the switch that each reference mode table can select -/
def modeActs : Mode → List Act
  | .value => [.skipChar, .skipNewline, .valQuote, .closeParen, .valPlus, .valNeg, .valSlash, .val0, .valDigit,
               .openArray, .closeArray, .openObject, .closeObject, .tokenStart, .charErr]
  | .token => [.tokenSpc, .tokenNlColon, .openParen, .closeParen, .valSlash, .tokenColon, .openArray, .closeArray,
               .openObject, .closeObject, .tokenOk, .charErr]
  | .colon => [.skipChar, .skipNewline, .colonColon, .charErr]
  | .neg => [.numZero, .negDigit, .charErr]
  | .zero => .numDot :: .fracE :: numEndActs
  | .digit => .numDigit :: .numDot :: .fracE :: numEndActs
  | .dot => [.numFrac, .charErr]
  | .frac => .numFrac :: .fracE :: numEndActs
  | .expSign => [.expSign, .expDigit, .charErr]
  | .expZero => [.expDigit, .charErr]
  | .exp => .expDigit :: numEndActs
  | .string => [.strQuote, .strSlash, .charErr, .strOk]
  | .esc => [.escOk, .escU, .charErr]
  | .u => [.uOk, .charErr]
  | .plus => [.skipChar, .skipNewline, .valQuote, .charErr]
  | .space => [.skipChar, .skipNewline, .charErr]
  | .commentStart => [.ccommentStart, .commentStart, .charErr]
  | .comment => [.commentEnd, .skipChar, .charErr]
  | .ccomment => [.skipNewline, .ccommentEnd, .skipChar, .charErr]
  | .ccommentEnd => [.cskipNewline, .commentEnd, .cskipChar, .charErr]
where numEndActs : List Act :=
  [.numSpc, .numNewline, .closeParen, .valSlash, .openArray, .closeArray, .openObject, .closeObject, .charErr]

theorem ite_mem {α : Type} {l : List α} {c : Prop} [Decidable c] {a b : α} (ha : a ∈ l) (hb : b ∈ l) :
    (if c then a else b) ∈ l := by
  split <;> assumption

theorem expected_mem (m : Mode) (b : UInt8) : expected m b ∈ modeActs m := by
  cases m <;> simp only [expected, expectedNumEnd] <;> repeat' (apply ite_mem)
  all_goals decide

/-- what holds of every action a mode can take holds of every cell of the reference: facts that do not depend
on the byte are checked on the 20 alphabets, not on the 5120 cells -/
theorem forall_mode_act (P : Mode → Act → Bool) (h : (Mode.all.all fun m => (modeActs m).all (P m)) = true)
    (m : Mode) (b : UInt8) : P m (expected m b) = true := by
  simp only [List.all_eq_true] at h
  exact h m (Mode.mem_all m) _ (expected_mem m b)

theorem imp_of_not_or {a b : Bool} (h : (!a || b) = true) (ha : a = true) : b = true := by
  subst ha; exact h

theorem escOk_only_in_esc (m : Mode) (b : UInt8) (h : expected m b = .escOk) : m = .esc := by
  have := forall_mode_act (fun m a => !(a == .escOk) || m == .esc) (by decide) m b
  simpa [h] using this

theorem numDigit_mode (m : Mode) (b : UInt8) (h : expected m b = .numDigit) : m = .digit := by
  have := forall_mode_act (fun m a => !(a == .numDigit) || m == .digit) (by decide) m b
  simpa [h] using this

theorem close_fin (m : Mode) (b : UInt8)
    (h : expected m b = .closeArray ∨ expected m b = .closeParen) : expectedFin m ≠ .absent := by
  have := forall_mode_act (fun m a => !(a == .closeArray || a == .closeParen) || expectedFin m != .absent)
    (by decide) m b
  rcases h with h | h <;> simpa [h] using this

theorem tokenStart_value (m : Mode) (b : UInt8) (h : expected m b = .tokenStart) : m = .value := by
  have := forall_mode_act (fun m a => !(a == .tokenStart) || m == .value) (by decide) m b
  simpa [h] using this

theorem value_tokenStart (b : UInt8) (h : expected .value b = .tokenStart) : isTokenStart b = true := by
  by_cases hd : isTokenStart b = true
  · exact hd
  · have : expected .value b ∈ [Act.skipChar, .skipNewline, .valQuote, .closeParen, .valPlus, .valNeg, .valSlash, .val0,
        .valDigit, .openArray, .closeArray, .openObject, .closeObject, .charErr] := by
      simp only [expected, Bool.eq_false_iff.mpr hd, Bool.false_eq_true, ↓reduceIte]; repeat' apply ite_mem
      all_goals decide
    rw [h] at this
    exact absurd this (by decide)

/-- a byte that starts a token goes on in one: the value row and the token row test the same delimiters before they
look for a token byte, except `(` and `:`, which start no token; and a start byte is a token byte -/
theorem tokenStart_tokenOk (m : Mode) (b : UInt8) (h : expected m b = .tokenStart) : expected .token b = .tokenOk := by
  rw [tokenStart_value m b h] at h
  have hts := value_tokenStart b h
  by_cases h1 : isSep b = true
  · simp [expected, h1] at h
  have hne : ∀ c : UInt8, expected .value c ≠ .tokenStart → b ≠ c := fun c hc e => hc (e ▸ h)
  have h10 := hne 10 (by decide); have h40 := hne 40 (by decide); have h41 := hne 41 (by decide)
  have h47 := hne 47 (by decide); have h58 := hne 58 (by decide); have h91 := hne 91 (by decide)
  have h93 := hne 93 (by decide); have h123 := hne 123 (by decide); have h125 := hne 125 (by decide)
  simp only [expected, h1, h10, h40, h41, h47, h58, h91, h93, h123, h125, isTokenByte, hts, Bool.true_or, ↓reduceIte,
    Bool.false_eq_true]

/-- **Every cell of the 20 regenerated `sen/maps.go` mode tables, every end marker and every consulted
unescape entry is the reference transition** (re-checked against `Gen.Sen` on every build) -/
theorem senTables_ok : TablesOK senTables where
  act := by
    intro m b
    have h1 : cellsOK senTbl = true := by decide +kernel
    simp only [cellsOK, List.all_eq_true, beq_iff_eq] at h1
    have := getD_of_rows (senTbl m) decode (fun i => expected m (UInt8.ofNat i)) 0 (h1 m (Mode.mem_all m)) b.toNat b.toNat_lt
    simpa [senTables] using this
  fin := by
    intro m
    have h2 : finsOK senTbl = true := by decide +kernel
    simp only [finsOK, List.all_eq_true, beq_iff_eq] at h2
    simpa [senTables] using h2 m (Mode.mem_all m)
  esc := by
    intro b hb
    have h3 : escOK Gen.Sen.escByteMap = true := by decide +kernel
    simp only [escOK, List.all_eq_true, beq_iff_eq] at h3
    simpa [senTables] using h3 b (escOk_mem b hb)
  bomP := by decide
  bomT := by decide

theorem TablesOK.ref : TablesOK refTables := ⟨fun _ _ => rfl, fun _ => rfl, fun _ _ => rfl, rfl, rfl⟩

theorem TablesOK.bom {T : Tables} (hT : TablesOK T) (cfg : Cfg) : T.bom cfg = {} := by
  unfold Tables.bom; rw [hT.bomP, hT.bomT]; split <;> rfl

/-- the action codes of `sen/maps.go` are pairwise distinct: no test of `decode` shadows a later one -/
theorem codes_distinct : codeList.Nodup := by decide +kernel

/-- a table set that passes `TablesOK` is the reference but for its unescape table, which the machine reads at
the nine `escOk` bytes only -/
theorem TablesOK.eq {T : Tables} (hT : TablesOK T) : T = { refTables with escByte := T.escByte } := by
  obtain ⟨act, fin, esc, bp, bt⟩ := T
  obtain rfl : act = expected := funext fun m => funext (hT.act m)
  obtain rfl : fin = expectedFin := funext hT.fin
  obtain rfl : bp = {} := hT.bomP
  obtain rfl : bt = {} := hT.bomT
  rfl

section esc
variable {e : UInt8 → UInt8} (he : ∀ b, expected .esc b = .escOk → e b = unesc b) (cfg : Cfg)
include he

theorem stepAct_esc (s : St) (i : Bool) (b : UInt8) :
    stepAct { refTables with escByte := e } cfg s i b = stepAct refTables cfg s i b := by
  unfold stepAct stepActP stepActT
  rw [show ({ refTables with escByte := e } : Tables).act = expected from rfl]
  cases hact : expected s.mode b
  case escOk =>
    simp only []
    rw [he b (escOk_only_in_esc _ _ hact ▸ hact)]
    rfl
  all_goals rfl

theorem stepCore_esc (s : St) (f : Fast) (b : UInt8) :
    stepCore { refTables with escByte := e } cfg s f b = stepCore refTables cfg s f b := by
  unfold stepCore
  rw [stepAct_esc he]
  rfl

theorem step_esc (s : St) (f : Fast) (b : UInt8) (l : Bool) :
    step { refTables with escByte := e } cfg s f b l = step refTables cfg s f b l := by
  unfold step tokenEndFast
  simp only [stepCore_esc he]
  rfl

theorem runBytes_esc (s : St) (f : Fast) (p : Pos) (bs : Bytes) :
    runBytes { refTables with escByte := e } cfg s f p bs = runBytes refTables cfg s f p bs := by
  induction bs generalizing s f p with
  | nil => rfl
  | cons b r ih =>
    simp only [runBytes, step_esc he]
    split
    · rfl
    · exact ih _ _ _

theorem runChunks_esc (s : St) (p : Pos) (cs : List Bytes) :
    runChunks { refTables with escByte := e } cfg s p cs = runChunks refTables cfg s p cs := by
  induction cs generalizing s p with
  | nil => rfl
  | cons c r ih =>
    simp only [runChunks, runBytes_esc he]
    split
    · rfl
    · exact ih _ _

end esc

/-- **The machine over a table set that passes `TablesOK` is the machine over the readable reference**:
same documents / callbacks, same error kind, line and column, same deviation marks, for the parser and
the tokenizer profile, every configuration, every prior instance state and every chunking. -/
theorem call_eq_ref {T : Tables} (hT : TablesOK T) (cfg : Cfg) (prev : St) (chunks : List Bytes) :
    call T cfg prev chunks = call refTables cfg prev chunks := by
  rw [hT.eq]
  unfold call callWith
  simp only [runChunks_esc hT.esc]
  rfl

theorem run_eq_ref {T : Tables} (hT : TablesOK T) (cfg : Cfg) (chunks : List Bytes) :
    run T cfg chunks = run refTables cfg chunks :=
  call_eq_ref hT cfg {} chunks

/-- `addToken` of the front-end in use (`addTokenWith` of the token fast path) -/
def addTok (cfg : Cfg) (s : St) : Except ErrKind St :=
  if cfg.tokenizer then .ok (s.addTokenT s.tmp.reverse) else s.addTokenP s.tmp.reverse

theorem tokenEndFast_eq (T : Tables) (cfg : Cfg) (s : St) (f : Fast) (b : UInt8) :
    tokenEndFast T cfg s f b =
      if b = 40 && !cfg.tokenizer then
        .ok ((startP s s.stack.length (.fnMark s.tmp.reverse)).addFeat 'f', { f with tokFast := false }, false)
      else
        match addTok cfg s with
        | .error e => .error e
        | .ok s1 =>
          match deliver T cfg s1 with
          | .error e => .error e
          | .ok s2 => stepCore T cfg s2 { f with tokFast := false } b := rfl

/-- what a call does once the BOM decision is made: the read buffers, then the end of input -/
def afterBom (T : Tables) (cfg : Cfg) (s : St) (cs : List Bytes) : Except Err Out :=
  match runChunks T cfg s {} cs with
  | .error e => .error e
  | .ok (s', p) => finish T cfg s' p

theorem callWith_eq (T : Tables) (cfg : Cfg) (tu : List Bytes → List Bytes) (brr br : Bytes → Json.BomRes) (prev : St)
    (chunks : List Bytes) :
    callWith T cfg tu brr br prev chunks =
      match (if cfg.reader then tu (chunks.filter (!·.isEmpty)) else chunks) with
      | [] => finish T cfg (prev.entry cfg) {}
      | c :: rest =>
        match (if cfg.reader then brr c else br c) with
        | .bad => .error { line := 1, col := 3, kind := .bom }
        | .strip r => afterBom T cfg (prev.entry cfg) (r :: rest)
        | .keep => afterBom T cfg (prev.entry cfg) (c :: rest) := rfl

theorem callWith_rel {P : Except Err Out → Except Err Out → Prop} {T T' : Tables} {cfg cfg' : Cfg}
    (hr : cfg.reader = cfg'.reader) (tu : List Bytes → List Bytes) (brr br : Bytes → Json.BomRes) {prev prev' : St}
    (h0 : P (finish T cfg (prev.entry cfg) {}) (finish T' cfg' (prev'.entry cfg') {}))
    (hbad : P (.error { line := 1, col := 3, kind := .bom }) (.error { line := 1, col := 3, kind := .bom }))
    (htail : ∀ cs, P (afterBom T cfg (prev.entry cfg) cs) (afterBom T' cfg' (prev'.entry cfg') cs)) (chunks : List Bytes) :
    P (callWith T cfg tu brr br prev chunks) (callWith T' cfg' tu brr br prev' chunks) := by
  rw [callWith_eq, callWith_eq, ← hr]
  split
  · exact h0
  · split
    · exact hbad
    · exact htail _
    · exact htail _

theorem topUpAuxN_four (acc : Bytes) (cs : List Bytes) : topUpAuxN 4 acc cs = Json.topUpAux acc cs := by
  induction cs generalizing acc with
  | nil => rfl
  | cons d rest ih =>
    simp only [topUpAuxN, Json.topUpAux, ih]

theorem topUpN_four : topUpN 4 = Json.topUp := by
  funext cs
  cases cs with
  | nil => rfl
  | cons c r => exact topUpAuxN_four c r

theorem bomRuleReaderN_three : bomRuleReaderN 3 = Json.bomRuleReader := by
  funext bs
  unfold bomRuleReaderN
  split
  next r => cases r <;> simp [Json.bomRuleReader]
  next h =>
    unfold Json.bomRuleReader
    split
    next r => exact absurd rfl (h r)
    next => rfl

theorem bomRuleN_three : bomRuleN 3 = Json.bomRule := by
  funext bs
  unfold bomRuleN
  split
  next b1 b2 r => cases r <;> simp [Json.bomRule]
  next h =>
    unfold Json.bomRule
    split
    next b1 b2 r => exact absurd rfl (h b1 b2 r)
    next => rfl

/-- with the length tests of the source (`TablesOK.bom`) a call prepares its input as the JSON machine does -/
theorem call_of_bom {T : Tables} {cfg : Cfg} (h : T.bom cfg = {}) (prev : St) (chunks : List Bytes) :
    call T cfg prev chunks = callWith T cfg Json.topUp Json.bomRuleReader Json.bomRule prev chunks := by
  unfold call
  rw [h, topUpN_four, bomRuleReaderN_three, bomRuleN_three]

theorem call_ref (cfg : Cfg) (prev : St) (chunks : List Bytes) :
    call refTables cfg prev chunks = callWith refTables cfg Json.topUp Json.bomRuleReader Json.bomRule prev chunks :=
  call_of_bom (TablesOK.ref.bom cfg) prev chunks

end OjgVerif.Sen
