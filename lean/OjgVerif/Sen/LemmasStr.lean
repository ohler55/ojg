import OjgVerif.Sen.Tables
import OjgVerif.Sen.Writer
import OjgVerif.Writer.LemmasUtf8
/-! Lemmas for C10: what the parser machine (over the reference tables) reads when it is given the
text `AppendSENString` writes — the quoted form, byte class by byte class, and the bare form. The two
generated tables are tied by row-wise kernel-evaluated facts: `Gen.Root.senMap` of the writer against the reference
`expected` of the parser's tables (that `Gen.Sen.*` agree with the reference, `senTables_ok`, enters only at the entry
point: `C10.parsesTo_of_fin`). -/
namespace OjgVerif.Sen
open OjgVerif.Writer (utf8Decode runeError sanLoop sanitize fffd illFormedHead)

/-- a test of every row of a 256-entry table, entry against index, gives the fact for every byte; the table is
walked once (a lookup per byte walks it 256 times) -/
theorem forall_row (a : Array UInt8) (hs : a.size = 256) (P : UInt8 → UInt8 → Prop) [∀ c b, Decidable (P c b)]
    (h : (((List.range 256).zip a.toList).all fun x => decide (P x.2 (UInt8.ofNat x.1))) = true) (b : UInt8) :
    P (a.getD b.toNat 0) b := by
  have hb : b.toNat < a.size := hs ▸ b.toNat_lt
  have hm : (b.toNat, a[b.toNat]) ∈ (List.range 256).zip a.toList :=
    List.mem_iff_getElem.mpr ⟨b.toNat, by simpa [hs] using b.toNat_lt, by simp⟩
  simpa [Array.getD, hb] using of_decide_eq_true (List.all_eq_true.mp h _ hm)

theorem forall_senClass (P : UInt8 → UInt8 → Prop) [∀ c b, Decidable (P c b)]
    (h : (((List.range 256).zip Gen.Root.senMap.toList).all fun x => decide (P x.2 (UInt8.ofNat x.1))) = true) (b : UInt8) :
    P (senClass b) b :=
  forall_row _ (by decide +kernel) P h b

theorem class8_iff (b : UInt8) : senClass b = c8 ↔ 128 ≤ b :=
  forall_senClass (fun c b => c = c8 ↔ 128 ≤ b) (by decide +kernel) b

theorem lt_of_class {b : UInt8} (h : senClass b ≠ c8) : b < 128 :=
  UInt8.not_le.mp fun hb => h ((class8_iff b).mpr hb)

/-- every byte the loop copies verbatim into a quoted string is taken by the parser's string mode as itself: a
`strOk` byte, or the single quote (which does not end a double-quoted string) -/
theorem raw_in_string (b : UInt8)
    (h : senClass b = cO ∨ senClass b = c0 ∨ senClass b = cX ∨ senClass b = cH ∨ senClass b = c8) :
    expected .string b = .strOk ∨ b = 39 :=
  forall_senClass (fun c b => c = cO ∨ c = c0 ∨ c = cX ∨ c = cH ∨ c = c8 → expected .string b = .strOk ∨ b = 39)
    (by decide +kernel) b h

theorem high_strOk (b : UInt8) (h : 128 ≤ b) : expected .string b = .strOk :=
  (raw_in_string b (.inr (.inr (.inr (.inr ((class8_iff b).mpr h)))))).resolve_right
    fun e => absurd (e ▸ h) (by decide)

/-- every other class letter is a two-character escape the parser undoes: `\` then the letter gives the byte
back -/
theorem class_escape (b : UInt8)
    (h : ¬ (senClass b = cO ∨ senClass b = c0 ∨ senClass b = cX ∨ senClass b = cDot ∨ senClass b = cH ∨ senClass b = c8)) :
    expected .esc (senClass b) = .escOk ∧ unesc (senClass b) = b :=
  forall_senClass (fun c b => ¬ (c = cO ∨ c = c0 ∨ c = cX ∨ c = cDot ∨ c = cH ∨ c = c8) →
    expected .esc c = .escOk ∧ unesc c = b) (by decide +kernel) b h

theorem hex_roundtrip (b : UInt8) :
    isHex (hexDigit ((b >>> 4) &&& 0x0f)) = true ∧ isHex (hexDigit (b &&& 0x0f)) = true ∧
      Json.hexDigitVal (hexDigit ((b >>> 4) &&& 0x0f)) * 16 + Json.hexDigitVal (hexDigit (b &&& 0x0f)) = b.toNat := by
  -- sixteen cells of the table, then the two nibbles of `b`
  have key : ∀ n : Fin 16, isHex (hexDigit (UInt8.ofNat n.val)) = true ∧
      Json.hexDigitVal (hexDigit (UInt8.ofNat n.val)) = n.val := by decide +kernel
  have hlt := b.toNat_lt
  obtain ⟨hhi, hlo⟩ := Writer.nibbles b
  have h1 := key ⟨_, show ((b >>> 4) &&& 0x0f).toNat < 16 by omega⟩
  have h2 := key ⟨_, show (b &&& 0x0f).toNat < 16 by omega⟩
  simp only [UInt8.ofNat_toNat] at h1 h2
  exact ⟨h1.1, h2.1, by rw [h1.2, h2.2, hhi, hlo]; omega⟩

theorem utf8Enc_ascii (b : UInt8) (h : b < 128) : Json.utf8Enc b.toNat = [b] := by
  simp [Json.utf8Enc, show b.toNat < 128 by simpa [UInt8.lt_iff_toNat_lt] using h]

section steps
variable (cfg : Cfg) (hc : cfg.tokenizer = false)

/-- the fast-path record after a byte of a string, an escape or a token -/
def fS (f : Fast) : Fast := { inFast := false, tokFast := f.tokFast, nlSkipping := false }

theorem fS_idem (f : Fast) : fS (fS f) = fS f := rfl
theorem fS_nl (f : Fast) : (fS f).nlSkipping = false := rfl
theorem fS_eq {f : Fast} (hf : f.nlSkipping = false) (hi : f.inFast = false) : fS f = f := by
  cases f; simp_all [fS]

include hc

theorem step_valQuote (st : St) (f : Fast) (l : Bool) (hm : st.mode = .value) :
    step refTables cfg st f 34 l = .ok ({ st with quoteDelim := 34, tmp := [], mode := .string }, fS f, false) := by
  simp [step, stepCore, stepAct, stepActP, nextFast, refTables, hm, hc, expected, fS, isSep, isBlank]

theorem step_raw (st : St) (f : Fast) (b : UInt8) (l : Bool) (hm : st.mode = .string) (hq : st.quoteDelim = 34)
    (hf : f.nlSkipping = false) (hb : expected .string b = .strOk ∨ b = 39) :
    step refTables cfg st f b l = .ok ({ st with tmp := b :: st.tmp }, fS f, false) := by
  rcases hb with hb | rfl
  · simp [step, stepCore, stepAct, stepActP, deliver, nextFast, refTables, hm, hb, hf, hc, expectedFin, fS]
  · simp [step, stepCore, stepAct, stepActP, deliver, nextFast, refTables, hm, hq, hf, hc, expected, expectedFin, fS]

theorem step_strSlash (st : St) (f : Fast) (l : Bool) (hm : st.mode = .string) (hf : f.nlSkipping = false) :
    step refTables cfg st f 92 l = .ok ({ st with mode := .esc }, fS f, false) := by
  simp [step, stepCore, stepAct, stepActP, nextFast, refTables, hm, hf, hc, expected, fS]

theorem step_escOk (st : St) (f : Fast) (c : UInt8) (l : Bool) (hm : st.mode = .esc)
    (hb : expected .esc c = .escOk) (hf : f.nlSkipping = false) :
    step refTables cfg st f c l = .ok ({ st with tmp := unesc c :: st.tmp, mode := .string }, fS f, false) := by
  simp [step, stepCore, stepAct, stepActP, nextFast, refTables, hm, hb, hf, hc, fS]

theorem step_escU (st : St) (f : Fast) (l : Bool) (hm : st.mode = .esc) (hf : f.nlSkipping = false) :
    step refTables cfg st f 117 l = .ok ({ st with mode := .u, rn := 0, ri := 0 }, fS f, false) := by
  simp [step, stepCore, stepAct, stepActP, nextFast, refTables, hm, hf, hc, expected, fS]

theorem step_uOk (st : St) (f : Fast) (b : UInt8) (l : Bool) (hm : st.mode = .u)
    (hb : isHex b = true) (hf : f.nlSkipping = false) :
    step refTables cfg st f b l =
      .ok ({ st with
              ri := st.ri + 1
              rn := st.rn * 16 + Json.hexDigitVal b
              tmp := (if st.ri + 1 = 4 then (Json.utf8Enc (st.rn * 16 + Json.hexDigitVal b)).reverse ++ st.tmp else st.tmp)
              mode := (if st.ri + 1 = 4 then Mode.string else st.mode) }, fS f, false) := by
  simp [step, stepCore, stepAct, stepActP, nextFast, refTables, hm, hb, hf, hc, expected, fS]

theorem step_quoteEnd (hpf : cfg.plusFault = false) (st : St) (f : Fast) (l : Bool) (hm : st.mode = .string)
    (hq : st.quoteDelim = 34) (hf : f.nlSkipping = false) :
    step refTables cfg st f 34 l =
      (match st.addStringP st.tmp.reverse with
       | .error e => .error e
       | .ok s1 => match deliver refTables cfg s1 with
         | .error e => .error e
         | .ok s2 => .ok (s2, fS f, false)) := by
  simp [step, stepCore, stepAct, stepActP, nextFast, refTables, hm, hf, hc, hq, hpf, expected, fS]
  cases st.addStringP st.tmp.reverse with
  | error e => simp [Functor.map, Except.map]
  | ok a =>
    simp only [Functor.map, Except.map]
    generalize deliver _ cfg a = d
    cases d <;> rfl

theorem step_tokenStart (st : St) (f : Fast) (b : UInt8) (l : Bool) (hm : st.mode = .value)
    (hb : expected .value b = .tokenStart) (ht : expected .token b = .tokenOk) (hs : expected .space b ≠ .skipChar) :
    step refTables cfg st f b l =
      .ok ({ st with tmp := [b], mode := .token }, { inFast := false, tokFast := cfg.tokSlow, nlSkipping := false }, false) := by
  simp [step, stepCore, stepAct, stepActP, nextFast, refTables, hm, hb, ht, hs, hc]

theorem step_tokenOk (st : St) (f : Fast) (b : UInt8) (l : Bool) (hm : st.mode = .token)
    (hb : expected .token b = .tokenOk) (hf : f.nlSkipping = false) :
    step refTables cfg st f b l = .ok ({ st with tmp := b :: st.tmp }, fS f, false) := by
  simp [step, stepCore, stepAct, stepActP, deliver, nextFast, refTables, hm, hb, hf, hc, expectedFin, fS]

end steps

/-- the bytes the text `senBody` produces stands for (what the string reader gives back): every
escape undone, the three special characters re-encoded -/
def senDenote (html : Bool) : Nat → Bool → Bytes → Bytes
  | _, _, [] => []
  | skip+1, copy, b :: r =>
    if copy then b :: senDenote html skip copy r else senDenote html skip copy r
  | 0, _, b :: r =>
    if senClass b = c8 then
      if (utf8Decode (b :: r)).1 = 0x2028 then [0xE2, 0x80, 0xA8] ++ senDenote html ((utf8Decode (b :: r)).2 - 1) false r
      else if (utf8Decode (b :: r)).1 = 0x2029 then [0xE2, 0x80, 0xA9] ++ senDenote html ((utf8Decode (b :: r)).2 - 1) false r
      else if (utf8Decode (b :: r)).1 = runeError then fffd ++ senDenote html ((utf8Decode (b :: r)).2 - 1) false r
      else b :: senDenote html ((utf8Decode (b :: r)).2 - 1) true r
    else b :: senDenote html 0 true r

/-- the first `k` bytes are from 0x80 up -/
def highPrefix : Nat → Bytes → Prop
  | 0, _ => True
  | _+1, [] => True
  | k+1, b :: r => 128 ≤ b ∧ highPrefix k r

theorem decode_highPrefix (b : UInt8) (r : Bytes) (hb : 128 ≤ b) : highPrefix ((utf8Decode (b :: r)).2 - 1) r := by
  rcases Writer.decode_cases b r hb with h | ⟨b1, r', n, rfl, h1, hd, _⟩ | ⟨b1, b2, r', n, rfl, h1, h2, hd, _⟩ |
      ⟨b1, b2, b3, r', n, rfl, h1, h2, h3, hd, _⟩
  · rw [h]; simp [highPrefix]
  · rw [hd]; simp [highPrefix, h1]
  · rw [hd]; simp [highPrefix, h1, h2]
  · rw [hd]; simp [highPrefix, h1, h2, h3]

theorem senBody_c8 (html copy : Bool) (b : UInt8) (r : Bytes) (h4 : senClass b = c8) :
    senBody html 0 copy (b :: r) =
      if (utf8Decode (b :: r)).1 = 0x2028 then esc2028 ++ senBody html ((utf8Decode (b :: r)).2 - 1) false r
      else if (utf8Decode (b :: r)).1 = 0x2029 then esc2029 ++ senBody html ((utf8Decode (b :: r)).2 - 1) false r
      else if (utf8Decode (b :: r)).1 = runeError then escFFFD ++ senBody html ((utf8Decode (b :: r)).2 - 1) false r
      else b :: senBody html ((utf8Decode (b :: r)).2 - 1) true r := by
  simp only [senBody]
  simp [h4, c8, cO, c0, cX, cDot, cH]

theorem senDenote_c8 (html copy : Bool) (b : UInt8) (r : Bytes) (h4 : senClass b = c8) :
    senDenote html 0 copy (b :: r) =
      if (utf8Decode (b :: r)).1 = 0x2028 then [0xE2, 0x80, 0xA8] ++ senDenote html ((utf8Decode (b :: r)).2 - 1) false r
      else if (utf8Decode (b :: r)).1 = 0x2029 then [0xE2, 0x80, 0xA9] ++ senDenote html ((utf8Decode (b :: r)).2 - 1) false r
      else if (utf8Decode (b :: r)).1 = runeError then fffd ++ senDenote html ((utf8Decode (b :: r)).2 - 1) false r
      else b :: senDenote html ((utf8Decode (b :: r)).2 - 1) true r := by
  simp only [senDenote, h4, ↓reduceIte]

theorem senDenote_low (html copy : Bool) (b : UInt8) (r : Bytes) (h : senClass b ≠ c8) :
    senDenote html 0 copy (b :: r) = b :: senDenote html 0 true r := by
  simp only [senDenote, h, ↓reduceIte]

section runs
variable (cfg : Cfg) (hc : cfg.tokenizer = false)

theorem runBytes_cons_ok {st st' : St} {f f' : Fast} {p : Pos} {b : UInt8} {r : Bytes} {nl : Bool}
    (h : ∀ l, step refTables cfg st f b l = .ok (st', f', nl)) :
    runBytes refTables cfg st f p (b :: r) = runBytes refTables cfg st' f' (p.next nl) r := by
  simp [runBytes, h]

/-- inside a double-quoted string the machine reads the text `t` as the bytes `d`: it comes back to string mode with
`d` appended to the pending string (`ri`, `rn` are scratch of `\u`) -/
def ReadsAs (t d : Bytes) : Prop :=
  ∀ (st : St) (f : Fast) (p : Pos) (rest : Bytes), st.mode = .string → st.quoteDelim = 34 → f.nlSkipping = false →
    f.inFast = false →
    ∃ ri rn p', runBytes refTables cfg st f p (t ++ rest) =
      runBytes refTables cfg { st with ri := ri, rn := rn, tmp := d.reverse ++ st.tmp } f p' rest

theorem ReadsAs.nil : ReadsAs cfg [] [] := fun st _ p _ _ _ _ _ => ⟨st.ri, st.rn, p, rfl⟩

theorem ReadsAs.append {t1 d1 t2 d2 : Bytes} (h1 : ReadsAs cfg t1 d1) (h2 : ReadsAs cfg t2 d2) :
    ReadsAs cfg (t1 ++ t2) (d1 ++ d2) := by
  intro st f p rest hm hq hf hi
  obtain ⟨ri, rn, p1, e1⟩ := h1 st f p (t2 ++ rest) hm hq hf hi
  obtain ⟨ri', rn', p2, e2⟩ := h2 { st with ri := ri, rn := rn, tmp := d1.reverse ++ st.tmp } f p1 rest hm hq hf hi
  exact ⟨ri', rn', p2, by rw [List.append_assoc, e1, e2]; simp⟩

include hc

theorem ReadsAs.raw {b : UInt8} (hb : expected .string b = .strOk ∨ b = 39) : ReadsAs cfg [b] [b] := by
  intro st f p rest hm hq hf hi
  exact ⟨st.ri, st.rn, p.next false, by
    rw [List.singleton_append, runBytes_cons_ok cfg fun l => step_raw cfg hc st f b l hm hq hf hb, fS_eq hf hi]; rfl⟩

theorem ReadsAs.esc {c b : UInt8} (hb : expected .esc c = .escOk) (hu : unesc c = b) : ReadsAs cfg [92, c] [b] := by
  subst hu
  intro st f p rest hm hq hf hi
  refine ⟨st.ri, st.rn, (p.next false).next false, ?_⟩
  rw [List.cons_append, List.singleton_append, runBytes_cons_ok cfg fun l => step_strSlash cfg hc st f l hm hf,
    runBytes_cons_ok cfg fun l => step_escOk cfg hc _ _ c l rfl hb rfl, fS_idem, fS_eq hf hi]
  simp [hm]

theorem ReadsAs.u (h1 h2 h3 h4 : UInt8) (d : Bytes) (x1 : isHex h1 = true) (x2 : isHex h2 = true) (x3 : isHex h3 = true)
    (x4 : isHex h4 = true)
    (hd : Json.utf8Enc (((Json.hexDigitVal h1 * 16 + Json.hexDigitVal h2) * 16 + Json.hexDigitVal h3) * 16 +
      Json.hexDigitVal h4) = d) :
    ReadsAs cfg [92, 117, h1, h2, h3, h4] d := by
  intro st f p rest hm hq hf hi
  refine ⟨4, ((Json.hexDigitVal h1 * 16 + Json.hexDigitVal h2) * 16 + Json.hexDigitVal h3) * 16 + Json.hexDigitVal h4,
    (((((p.next false).next false).next false).next false).next false).next false, ?_⟩
  simp only [List.cons_append, List.nil_append]
  rw [runBytes_cons_ok cfg fun l => step_strSlash cfg hc st f l hm hf,
    runBytes_cons_ok cfg fun l => step_escU cfg hc _ _ l rfl rfl,
    runBytes_cons_ok cfg fun l => step_uOk cfg hc _ _ h1 l rfl x1 rfl,
    runBytes_cons_ok cfg fun l => step_uOk cfg hc _ _ h2 l (by simp) x2 rfl,
    runBytes_cons_ok cfg fun l => step_uOk cfg hc _ _ h3 l (by simp) x3 rfl,
    runBytes_cons_ok cfg fun l => step_uOk cfg hc _ _ h4 l (by simp) x4 rfl]
  simp [hm, hd, fS_eq hf hi]

theorem ReadsAs.u00 {b : UInt8} (hb : b < 128) : ReadsAs cfg (u00 b) [b] := by
  obtain ⟨x3, x4, hv⟩ := hex_roundtrip b
  refine ReadsAs.u cfg hc 48 48 _ _ _ rfl rfl x3 x4 ?_
  simpa [show Json.hexDigitVal 48 = 0 from rfl, hv] using utf8Enc_ascii b hb

/-- **the string reader undoes the writer's loop**: the machine reads the body the loop writes as `senDenote` (the
hypothesis: while the loop copies the tail of a multi-byte sequence, those bytes are from 0x80 up) -/
theorem reads_body (html : Bool) : ∀ (s : Bytes) (skip : Nat) (copy : Bool), (copy = true → highPrefix skip s) →
    ReadsAs cfg (senBody html skip copy s) (senDenote html skip copy s) := by
  intro s
  induction s with
  | nil => intro skip copy _; simpa [senBody, senDenote] using ReadsAs.nil cfg
  | cons b r ih =>
    intro skip copy hp
    have raw := fun h => ReadsAs.raw cfg hc (b := b) h
    cases skip with
    | succ k =>
      cases copy with
      | true =>
        obtain ⟨hb, hk⟩ := hp rfl
        simpa [senBody, senDenote] using (raw (.inl (high_strOk b hb))).append cfg (ih k true fun _ => hk)
      | false => simpa [senBody, senDenote] using ih k false nofun
    | zero =>
      by_cases h8 : senClass b = c8
      · -- a multi-byte sequence: the three special characters as `\uXXXX`, every other one copied
        have hb := (class8_iff b).mp h8
        have skipped := ih ((utf8Decode (b :: r)).2 - 1) false nofun
        rw [senBody_c8 html copy b r h8, senDenote_c8 html copy b r h8]
        split
        · exact (ReadsAs.u cfg hc 50 48 50 56 _ rfl rfl rfl rfl (by decide)).append cfg skipped
        split
        · exact (ReadsAs.u cfg hc 50 48 50 57 _ rfl rfl rfl rfl (by decide)).append cfg skipped
        split
        · exact (ReadsAs.u cfg hc 102 102 102 100 _ rfl rfl rfl rfl (by decide)).append cfg skipped
        · exact (raw (.inl (high_strOk b hb))).append cfg (ih _ true fun _ => decode_highPrefix b r hb)
      · -- every other class: one piece of text that reads as the byte itself
        rw [senDenote_low html copy b r h8]
        suffices h : ∃ t, senBody html 0 copy (b :: r) = t ++ senBody html 0 true r ∧ ReadsAs cfg t [b] by
          obtain ⟨t, e, ht⟩ := h
          rw [e]; exact ht.append cfg (ih 0 true fun _ => trivial)
        by_cases h1 : senClass b = cO ∨ senClass b = c0 ∨ senClass b = cX
        · exact ⟨[b], by rcases h1 with h | h | h <;> simp [senBody, h, cO, c0, cX],
            raw (raw_in_string b (by rcases h1 with h | h | h <;> simp [h]))⟩
        have h1' := not_or.mp h1
        have h1'' := not_or.mp h1'.2
        by_cases h2 : senClass b = cDot
        · exact ⟨u00 b, by simp [senBody, h2, cO, c0, cX, cDot], ReadsAs.u00 cfg hc (lt_of_class h8)⟩
        by_cases h3 : senClass b = cH
        · cases html with
          | true => exact ⟨u00 b, by simp [senBody, h3, cO, c0, cX, cDot, cH], ReadsAs.u00 cfg hc (lt_of_class h8)⟩
          | false => exact ⟨[b], by simp [senBody, h3, cO, c0, cX, cDot, cH], raw (raw_in_string b (by simp [h3]))⟩
        · obtain ⟨he, hu⟩ := class_escape b (by simp [h1'.1, h1''.1, h1''.2, h2, h3, h8])
          exact ⟨[92, senClass b], by simp [senBody, h1'.1, h1''.1, h1''.2, h2, h3, h8], ReadsAs.esc cfg hc he hu⟩

/-- `reads_body` with `ReadsAs` written out: from string mode (opened by `"`), the machine run over the body the loop
writes arrives, still in string mode, with exactly `senDenote` appended to the pending string -/
theorem body_run (html : Bool) : ∀ (s : Bytes) (skip : Nat) (copy : Bool) (st : St) (f : Fast) (p : Pos) (rest : Bytes),
    st.mode = .string → st.quoteDelim = 34 → f.nlSkipping = false → f.inFast = false →
    (copy = true → highPrefix skip s) →
    ∃ ri rn p', runBytes refTables cfg st f p (senBody html skip copy s ++ rest) =
      runBytes refTables cfg { st with ri := ri, rn := rn, tmp := (senDenote html skip copy s).reverse ++ st.tmp } f p' rest :=
  fun s skip copy st f p rest hm hq hf hi hp => reads_body cfg hc html s skip copy hp st f p rest hm hq hf hi

theorem token_run : ∀ (s : Bytes) (st : St) (f : Fast) (p : Pos) (rest : Bytes),
    st.mode = .token → f.nlSkipping = false → f.inFast = false → (∀ x ∈ s, expected .token x = .tokenOk) →
    ∃ p', runBytes refTables cfg st f p (s ++ rest) =
      runBytes refTables cfg { st with tmp := s.reverse ++ st.tmp } f p' rest := by
  intro s
  induction s with
  | nil => intro st f p rest _ _ _ _; exact ⟨p, by simp⟩
  | cons b r ih =>
    intro st f p rest hm hf hi hx
    rw [List.cons_append, runBytes_cons_ok cfg (fun l => step_tokenOk cfg hc st f b l hm (hx b List.mem_cons_self) hf),
      fS_eq hf hi]
    obtain ⟨p', h⟩ := ih { st with tmp := b :: st.tmp } f (p.next false) rest hm hf hi
      (fun x hx' => hx x (List.mem_cons_of_mem _ hx'))
    exact ⟨p', by rw [h]; simp⟩

end runs

/-- the machine's `\u` step encodes with `Json.utf8Enc`, `Writer.decode_cases` speaks of `Json.Spec.utf8Enc`: the same
text twice -/
theorem utf8Enc_eq (r : Nat) : Json.utf8Enc r = Json.Spec.utf8Enc r := by
  unfold Json.utf8Enc Json.Spec.utf8Enc
  rfl

theorem sanLoop_ill (b : UInt8) (r : Bytes) (h : utf8Decode (b :: r) = (runeError, 1)) :
    sanLoop 0 (b :: r) = fffd ++ sanLoop 0 r := by
  simp [sanLoop, illFormedHead, h]

theorem sanLoop_ok (b : UInt8) (r : Bytes) (n w : Nat) (h : utf8Decode (b :: r) = (n, w)) (hw : w ≠ 1) :
    sanLoop 0 (b :: r) = b :: sanLoop (w - 1) r := by
  simp [sanLoop, illFormedHead, h, hw]

/-- `senDenote` follows `sanLoop`; bytes it passes over (`copy = false`, after one of the three special characters) are
bytes `sanLoop` copies, and there the two agree because the character was re-encoded to the same bytes -/
theorem denote_san (html : Bool) (s : Bytes) :
    (∀ c, senDenote html 0 c s = sanLoop 0 s) ∧ (∀ k, senDenote html k true s = sanLoop k s) ∧
      ∀ k, senDenote html k false s = sanLoop 0 (s.drop k) := by
  induction s with
  | nil => exact ⟨fun c => by simp [senDenote, sanLoop], fun k => by cases k <;> simp [senDenote, sanLoop],
      fun k => by cases k <;> simp [senDenote, sanLoop]⟩
  | cons b r ih =>
    obtain ⟨ih0, ihT, ihF⟩ := ih
    have zero : ∀ c, senDenote html 0 c (b :: r) = sanLoop 0 (b :: r) := by
      intro c
      by_cases h8 : senClass b = c8
      · rw [senDenote_c8 html c b r h8]
        rcases Writer.decode_cases b r ((class8_iff b).mp h8) with h | ⟨b1, r', m, rfl, _, hd, hm⟩ |
            ⟨b1, b2, r', m, rfl, _, _, hd, he⟩ | ⟨b1, b2, b3, r', m, rfl, _, _, _, hd, hm⟩
        · rw [sanLoop_ill b r h, h]; simp [ih0, runeError]
        · rw [sanLoop_ok b _ m 2 hd (by decide), hd, if_neg (by omega), if_neg (by omega),
            if_neg (by unfold runeError; omega), ihT]
        · -- only here can the character be one of the three: its encoding is `b b1 b2`
          rw [sanLoop_ok b _ m 3 hd (by decide), hd]
          have sp : ∀ L, L = Json.utf8Enc m → L ++ senDenote html (3 - 1) false (b1 :: b2 :: r') =
              b :: sanLoop (3 - 1) (b1 :: b2 :: r') := by
            intro L hL; rw [hL, utf8Enc_eq, he, ihF]; simp [sanLoop]
          split
          next h => exact sp _ (by cases h; decide)
          split
          next h => exact sp _ (by cases h; decide)
          split
          next h => exact sp _ (by cases h; decide)
          · rw [ihT]
        · rw [sanLoop_ok b _ m 4 hd (by decide), hd, if_neg (by omega), if_neg (by omega),
            if_neg (by unfold runeError; omega), ihT]
      · rw [Writer.san_ascii b r (lt_of_class h8), senDenote_low html c b r h8, ih0]
    exact ⟨zero, fun | 0 => zero true | k + 1 => by simp [senDenote, sanLoop, ihT],
      fun | 0 => zero false | k + 1 => by simp [senDenote, ihF]⟩

/-- **what the parser reads back from the quoted body is the sanitised string** -/
theorem senDenote_eq_sanitize (html : Bool) (s : Bytes) : senDenote html 0 true s = sanitize s :=
  (denote_san html s).1 true

/-- a byte the loop lets pass without asking for quotes -/
def bareByte (html : Bool) (b : UInt8) : Prop :=
  senClass b = cO ∨ senClass b = c0 ∨ (senClass b = cH ∧ html = false ∧ b ≠ 38) ∨ 128 ≤ b

/-- when the loop asks for no quotes it has copied the string unchanged, the sanitiser changes nothing (no head is
ill-formed: that would have forced the quotes) and every byte is of a bare class -/
theorem force_false (html : Bool) : ∀ (s : Bytes) (k : Nat), highPrefix k s → senForce html k s = false →
    senBody html k true s = s ∧ sanLoop k s = s ∧ ∀ x ∈ s, bareByte html x := by
  intro s
  induction s with
  | nil => intro k _ _; cases k <;> simp [senBody, sanLoop]
  | cons b r ih =>
    intro k hk hf
    -- the head is copied by both loops and is a bare byte; the rest goes on without asking for quotes
    suffices h : ∃ k', highPrefix k' r ∧ senForce html k' r = false ∧ senBody html k true (b :: r) = b :: senBody html k' true r ∧
        sanLoop k (b :: r) = b :: sanLoop k' r ∧ bareByte html b by
      obtain ⟨k', hk', hf', e1, e2, hb⟩ := h
      obtain ⟨h1, h2, h3⟩ := ih k' hk' hf'
      exact ⟨by rw [e1, h1], by rw [e2, h2], List.forall_mem_cons.mpr ⟨hb, h3⟩⟩
    cases k with
    | succ k => exact ⟨k, hk.2, hf, by simp [senBody], by simp [sanLoop], .inr (.inr (.inr hk.1))⟩
    | zero =>
      by_cases h8 : senClass b = c8
      · have hb := (class8_iff b).mp h8
        have hf2 : ¬ ((utf8Decode (b :: r)).1 = 0x2028 ∨ (utf8Decode (b :: r)).1 = 0x2029 ∨
            (utf8Decode (b :: r)).1 = runeError) ∧ senForce html ((utf8Decode (b :: r)).2 - 1) r = false := by
          simpa [senForce, h8, c8, cO, c0, cX, cDot, cH, or_assoc] using hf
        obtain ⟨hn, hf'⟩ := hf2
        have hn' := not_or.mp hn
        have hn'' := not_or.mp hn'.2
        refine ⟨_, decode_highPrefix b r hb, hf', ?_, ?_, .inr (.inr (.inr hb))⟩
        · rw [senBody_c8 html true b r h8, if_neg hn'.1, if_neg hn''.1, if_neg hn''.2]
        · simp [sanLoop, illFormedHead, hn''.2]
      · have san := Writer.san_ascii b r (lt_of_class h8)
        by_cases hO : senClass b = cO ∨ senClass b = c0
        · refine ⟨0, trivial, ?_, ?_, san, hO.elim .inl (.inr ∘ .inl)⟩
          · rcases hO with h | h <;> simpa [senForce, h, cO, c0] using hf
          · rcases hO with h | h <;> simp [senBody, h, cO, c0, cX]
        by_cases hH : senClass b = cH
        · have hf2 : (html = false ∧ ¬ b = 38) ∧ senForce html 0 r = false := by
            simpa [senForce, hH, cH, cO, c0, cX, cDot] using hf
          obtain ⟨⟨rfl, h38⟩, hf'⟩ := hf2
          exact ⟨0, trivial, hf', by simp [senBody, hH, cH, cO, c0, cX, cDot], san, .inr (.inr (.inl ⟨hH, rfl, h38⟩))⟩
        · simp [senForce, not_or.mp hO, hH, h8] at hf

/-- a byte from 0x80 up is none of the ASCII bytes the tables single out: it starts and continues a token -/
theorem high_token (b : UInt8) (h : 128 ≤ b) :
    expected .value b = .tokenStart ∧ expected .token b = .tokenOk ∧ expected .space b ≠ .skipChar := by
  have ne : ∀ c : UInt8, c < 128 → (b = c) = False := fun c hc => by
    simp only [eq_iff_iff, iff_false]; rintro rfl; simp only [UInt8.le_iff_toNat_le, UInt8.lt_iff_toNat_lt] at h hc; omega
  have nl : ∀ c : UInt8, c < 128 → (b ≤ c) = False := fun c hc => by
    simp only [eq_iff_iff, iff_false]; simp only [UInt8.le_iff_toNat_le, UInt8.lt_iff_toNat_lt] at h hc ⊢; omega
  simp [expected, isSep, isBlank, isDigit19, isDigit, isTokenStart, isTokenByte, h, ne, nl]

/-- **every byte the writer leaves bare continues a parser token**: classes `o`, `0`, `h` without `&`, and
the bytes from 0x80 up, against `tokenMap` (row-wise over the writer's and the parser's generated table for the ASCII
half). Before 9fd0aeb the loop had no test for `&` (`bareByte` without `b ≠ 38`) and the cells of backtick and `|` were `o`;
the two cells are regenerated data, the `&` half is kept as the witness `C10.C10_nontoken_before` -/
theorem bare_tokenOk (html : Bool) (b : UInt8) (h : bareByte html b) : expected .token b = .tokenOk := by
  by_cases hb : 128 ≤ b
  · exact (high_token b hb).2.1
  · exact forall_senClass (fun c b => ¬ 128 ≤ b → c = cO ∨ c = c0 ∨ c = cH ∧ b ≠ 38 → expected .token b = .tokenOk)
      (by decide +kernel) b hb (by
        rcases h with h | h | h | h
        · exact .inl h
        · exact .inr (.inl h)
        · exact .inr (.inr ⟨h.1, h.2.2⟩)
        · exact absurd h hb)

theorem first_tokenStart (html : Bool) (b : UInt8) (hb : bareByte html b) (h0 : senClass b ≠ c0) (h1 : b ≠ 43)
    (h2 : b ≠ 45) :
    expected .value b = .tokenStart ∧ expected .token b = .tokenOk ∧ expected .space b ≠ .skipChar := by
  by_cases h8 : 128 ≤ b
  · exact high_token b h8
  · have hc : senClass b = cO ∨ senClass b = cH ∧ b ≠ 38 := by
      rcases hb with h | h | h | h
      · exact .inl h
      · exact absurd h h0
      · exact .inr ⟨h.1, h.2.2⟩
      · exact absurd h h8
    have h := forall_senClass (fun c b => ¬ 128 ≤ b → c = cO ∨ c = cH ∧ b ≠ 38 → b ≠ 43 → b ≠ 45 →
      expected .value b = .tokenStart ∧ expected .space b ≠ .skipChar) (by decide +kernel) b h8 hc h1 h2
    exact ⟨h.1, bare_tokenOk html b hb, h.2⟩

end OjgVerif.Sen
