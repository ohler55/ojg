import OjgVerif.Writer.LemmasUtf8
/-! Well-formed UTF-8 (Table 3-7 of the Unicode standard, as an inductive predicate that does not mention
the decoder) is left unchanged by the U+FFFD sanitiser: `sanitize_valid`. -/
namespace OjgVerif.Sen
open OjgVerif.Writer

/-- **well-formed UTF-8 byte sequences** (Unicode standard, Table 3-7): a concatenation of
`00..7F` | `C2..DF 80..BF` | `E0 A0..BF 80..BF` | `E1..EC 80..BF 80..BF` | `ED 80..9F 80..BF` |
`EE..EF 80..BF 80..BF` | `F0 90..BF 80..BF 80..BF` | `F1..F3 80..BF 80..BF 80..BF` | `F4 80..8F 80..BF 80..BF`
(`lo3`/`hi3`/`lo4`/`hi4` are the bounds of the second byte that depend on the first) -/
inductive WellFormedUtf8 : Bytes → Prop
  | nil : WellFormedUtf8 []
  | one (b : UInt8) (r : Bytes) (h : b < 0x80) : WellFormedUtf8 r → WellFormedUtf8 (b :: r)
  | two (b0 b1 : UInt8) (r : Bytes) (h0 : 0xC2 ≤ b0 ∧ b0 < 0xE0) (h1 : isCont b1 = true) :
      WellFormedUtf8 r → WellFormedUtf8 (b0 :: b1 :: r)
  | three (b0 b1 b2 : UInt8) (r : Bytes) (h0 : 0xE0 ≤ b0 ∧ b0 < 0xF0) (h1 : lo3 b0 ≤ b1 ∧ b1 ≤ hi3 b0)
      (h2 : isCont b2 = true) : WellFormedUtf8 r → WellFormedUtf8 (b0 :: b1 :: b2 :: r)
  | four (b0 b1 b2 b3 : UInt8) (r : Bytes) (h0 : 0xF0 ≤ b0 ∧ b0 < 0xF5) (h1 : lo4 b0 ≤ b1 ∧ b1 ≤ hi4 b0)
      (h2 : isCont b2 = true) (h3 : isCont b3 = true) : WellFormedUtf8 r → WellFormedUtf8 (b0 :: b1 :: b2 :: b3 :: r)

theorem not_lt_of_le {lo b c : UInt8} (h : lo ≤ b) (hc : c ≤ lo) : ¬ b < c := by
  simp only [UInt8.le_iff_toNat_le, UInt8.lt_iff_toNat_lt] at *; omega

theorem sanLoop_two (b0 b1 : UInt8) (r : Bytes) (h0 : 0xC2 ≤ b0 ∧ b0 < 0xE0) (h1 : isCont b1 = true) :
    sanLoop 0 (b0 :: b1 :: r) = b0 :: b1 :: sanLoop 0 r := by
  have c := fun c hc => not_lt_of_le (c := c) h0.1 hc
  have hd : (utf8Decode (b0 :: b1 :: r)).2 = 2 := by
    simp [utf8Decode, c 0x80 (by decide), c 0xC2 (by decide), h0.2, h1]
  simp [sanLoop, illFormedHead, hd]

theorem sanLoop_three (b0 b1 b2 : UInt8) (r : Bytes) (h0 : 0xE0 ≤ b0 ∧ b0 < 0xF0) (h1 : lo3 b0 ≤ b1 ∧ b1 ≤ hi3 b0)
    (h2 : isCont b2 = true) : sanLoop 0 (b0 :: b1 :: b2 :: r) = b0 :: b1 :: b2 :: sanLoop 0 r := by
  have c := fun c hc => not_lt_of_le (c := c) h0.1 hc
  have hd : (utf8Decode (b0 :: b1 :: b2 :: r)).2 = 3 := by
    simp [utf8Decode, c 0x80 (by decide), c 0xC2 (by decide), c 0xE0 (by decide), h0.2, h1.1, h1.2, h2]
  simp [sanLoop, illFormedHead, hd]

theorem sanLoop_four (b0 b1 b2 b3 : UInt8) (r : Bytes) (h0 : 0xF0 ≤ b0 ∧ b0 < 0xF5) (h1 : lo4 b0 ≤ b1 ∧ b1 ≤ hi4 b0)
    (h2 : isCont b2 = true) (h3 : isCont b3 = true) :
    sanLoop 0 (b0 :: b1 :: b2 :: b3 :: r) = b0 :: b1 :: b2 :: b3 :: sanLoop 0 r := by
  have c := fun c hc => not_lt_of_le (c := c) h0.1 hc
  have hd : (utf8Decode (b0 :: b1 :: b2 :: b3 :: r)).2 = 4 := by
    simp [utf8Decode, c 0x80 (by decide), c 0xC2 (by decide), c 0xE0 (by decide), c 0xF0 (by decide), h0.2, h1.1, h1.2, h2,
      h3]
  simp [sanLoop, illFormedHead, hd]

theorem sanitize_valid (s : Bytes) (h : WellFormedUtf8 s) : sanitize s = s := by
  unfold sanitize
  induction h with
  | nil => rfl
  | one b r hb _ ih => rw [san_ascii b r hb, ih]
  | two b0 b1 r h0 h1 _ ih => rw [sanLoop_two b0 b1 r h0 h1, ih]
  | three b0 b1 b2 r h0 h1 h2 _ ih => rw [sanLoop_three b0 b1 b2 r h0 h1 h2, ih]
  | four b0 b1 b2 b3 r h0 h1 h2 h3 _ ih => rw [sanLoop_four b0 b1 b2 b3 r h0 h1 h2 h3, ih]

/-- and a byte that does not start a well-formed sequence becomes U+FFFD (EF BF BD): the lone
continuation byte 0x80, the truncated lead 0xC3, the overlong C0 80 (two replacements) -/
example : sanitize [97, 0x80, 98] = [97, 0xEF, 0xBF, 0xBD, 98] := by decide
example : sanitize [0xC3] = [0xEF, 0xBF, 0xBD] := by decide
example : sanitize [0xC0, 0x80] = [0xEF, 0xBF, 0xBD, 0xEF, 0xBF, 0xBD] := by decide

/-- non-vacuity: "é€😀a" is well-formed -/
example : WellFormedUtf8 [0xC3, 0xA9, 0xE2, 0x82, 0xAC, 0xF0, 0x9F, 0x98, 0x80, 97] :=
  .two _ _ _ (by decide) (by decide) (.three _ _ _ _ (by decide) (by decide) (by decide)
    (.four _ _ _ _ _ (by decide) (by decide) (by decide) (by decide) (.one _ _ (by decide) .nil)))

end OjgVerif.Sen
