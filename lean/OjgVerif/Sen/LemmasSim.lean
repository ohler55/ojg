import OjgVerif.Sen.Lemmas
/-! Simulations of the SEN machine. `ExRel E R` relates two outcomes that fail alike (up to `E`) or succeed with
results related by `R`. A relation on machine states that the pieces of one byte's work respect (`Sim`: the
switch, the end-of-document test, the ending of a token, the end of input) relates whole calls started from
related states (`Sim.call`), for the parser and the tokenizer profile alike. `answer` is what two calls are compared by
when the key fields the instance is left with may differ (`KeysE`, `KeysO` as the `E`, `O` of a `Sim`: `answer_eq`).
The same lifting for a property of one run is `call_post` of `LemmasPost.lean`. -/
namespace OjgVerif.Sen

def ExRel {ε ε' α β : Type} (E : ε → ε' → Prop) (R : α → β → Prop) : Except ε α → Except ε' β → Prop
  | .error e, .error e' => E e e'
  | .ok a, .ok b => R a b
  | _, _ => False

namespace ExRel
variable {ε ε' α β γ δ : Type} {E : ε → ε' → Prop} {R : α → β → Prop} {x : Except ε α} {y : Except ε' β}

theorem elim {P : Prop} (h : ExRel E R x y) (he : ∀ e e', x = .error e → y = .error e' → E e e' → P)
    (ho : ∀ a b, x = .ok a → y = .ok b → R a b → P) : P :=
  match x, y, h with
  | .error _, .error _, h => he _ _ rfl rfl h
  | .ok _, .ok _, h => ho _ _ rfl rfl h
  | .error _, .ok _, h => False.elim h
  | .ok _, .error _, h => False.elim h

theorem imp {R' : α → β → Prop} (h : ExRel E R x y) (hR : ∀ a b, x = .ok a → R a b → R' a b) : ExRel E R' x y :=
  match x, y, h with
  | .error _, .error _, h => h
  | .ok _, .ok _, h => hR _ _ rfl h
  | .error _, .ok _, h => False.elim h
  | .ok _, .error _, h => False.elim h

theorem bind {Q : γ → δ → Prop} {f : α → Except ε γ} {g : β → Except ε' δ} (h : ExRel E R x y)
    (hf : ∀ a b, x = .ok a → R a b → ExRel E Q (f a) (g b)) : ExRel E Q (x >>= f) (y >>= g) :=
  match x, y, h with
  | .error _, .error _, h => h
  | .ok _, .ok _, h => hf _ _ rfl h
  | .error _, .ok _, h => False.elim h
  | .ok _, .error _, h => False.elim h

theorem eq {x y : Except ε α} (h : ExRel Eq Eq x y) : x = y :=
  match x, y, h with
  | .error _, .error _, h => congrArg _ h
  | .ok _, .ok _, h => congrArg _ h
  | .error _, .ok _, h => False.elim h
  | .ok _, .error _, h => False.elim h

theorem of_eq {x y : Except ε α} (h : x = y) : ExRel Eq Eq x y :=
  match x, y, h with
  | .error _, _, rfl => rfl
  | .ok _, _, rfl => rfl

theorem of_map_eq {f : α → γ} {g : β → γ} {x : Except ε α} {y : Except ε β} (h : x.map f = y.map g) :
    ExRel Eq (fun a b => f a = g b) x y :=
  match x, y, h with
  | .error _, .error _, h => Except.error.inj h
  | .ok _, .ok _, h => Except.ok.inj h
  | .error _, .ok _, h => nomatch h
  | .ok _, .error _, h => nomatch h

end ExRel

/-- the results of a step or run: states related by `R`, the rest (fast-path record, flags, position) equal -/
abbrev OnFst {α α' β : Type} (R : α → α' → Prop) (x : α × β) (y : α' × β) : Prop := R x.1 y.1 ∧ x.2 = y.2

theorem nextFast_congr (cfg : Cfg) {a : Act} {i i' : UInt64} (f : Fast) (h : a = .numDigit → i = i') :
    nextFast cfg a i f = nextFast cfg a i' f := by
  cases a
  case numDigit => rw [h rfl]
  all_goals rfl

/-- `R` is respected by everything a call does with a state. `E` and `O` say what of an error and of a result
is compared. -/
structure Sim (T : Tables) (cfg : Cfg) (R : St → St → Prop) (E : Err → Err → Prop) (O : Out → Out → Prop) : Prop where
  mode : ∀ {s s'}, R s s' → s.mode = s'.mode
  feat : ∀ {s s'}, R s s' → s.feat = s'.feat
  addFeat : ∀ {s s'} (c : Char), R s s' → R (s.addFeat c) (s'.addFeat c)
  act : ∀ {s s'} (i : Bool) (b : UInt8), R s s' →
    ExRel Eq (OnFst R) (stepAct T cfg s i b) (stepAct T cfg s' i b)
  /-- the integer fast path reads `num.i` -/
  digit : ∀ {s s'} (b : UInt8), R s s' → T.act s.mode b = .numDigit → s.num.i = s'.num.i
  deliver : ∀ {s s'}, R s s' → ExRel Eq R (deliver T cfg s) (deliver T cfg s')
  tokenEnd : ∀ {s s'}, R s s' → s.mode = .token →
    ExRel Eq R (addTok cfg s) (addTok cfg s')
  tokenFn : ∀ {s s'}, R s s' → s.mode = .token → cfg.tokenizer = false →
    R (startP s s.stack.length (.fnMark s.tmp.reverse)) (startP s' s'.stack.length (.fnMark s'.tmp.reverse))
  err : ∀ {s s'} (p : Pos) (k : ErrKind) (ft : List Char), R s s' →
    E (p.err k ft s.plus s.lastStrKey s.lastKey) (p.err k ft s'.plus s'.lastStrKey s'.lastKey)
  bom : E { line := 1, col := 3, kind := .bom } { line := 1, col := 3, kind := .bom }
  finish : ∀ {s s'} (p : Pos), R s s' → ExRel E O (finish T cfg s p) (finish T cfg s' p)

namespace Sim
variable {T : Tables} {cfg : Cfg} {R : St → St → Prop} {E : Err → Err → Prop} {O : Out → Out → Prop}
  (h : Sim T cfg R E O) {s s' : St}
include h

theorem stepCore (hr : R s s') (f : Fast) (b : UInt8) :
    ExRel Eq (OnFst R) (stepCore T cfg s f b) (stepCore T cfg s' f b) := by
  unfold Sen.stepCore
  rw [← h.mode hr, ← nextFast_congr cfg f (h.digit b hr)]
  refine (h.act f.inFast b hr).elim (fun e e' h1 h2 he => ?_) (fun x x' h1 h2 hx => ?_)
  · rw [h1, h2]; exact he
  · obtain ⟨a, c, n⟩ := x
    obtain ⟨a', c', n'⟩ := x'
    obtain ⟨ha, hcn⟩ := hx
    cases hcn
    rw [h1, h2]
    cases c
    · exact (h.deliver ha).elim (fun e e' h3 h4 he => by simp only [h3, h4]; exact he)
        (fun d d' h3 h4 hd => by simp only [h3, h4]; exact ⟨hd, rfl⟩)
    · exact ⟨ha, rfl⟩

theorem tokenEndFast (hr : R s s') (hm : s.mode = .token) (f : Fast) (b : UInt8) :
    ExRel Eq (OnFst R) (tokenEndFast T cfg s f b) (tokenEndFast T cfg s' f b) := by
  rw [tokenEndFast_eq, tokenEndFast_eq]
  split
  · rename_i hb
    simp only [Bool.and_eq_true, decide_eq_true_eq, Bool.not_eq_true'] at hb
    exact ⟨h.addFeat 'f' (h.tokenFn hr hm hb.2), rfl⟩
  · refine (h.tokenEnd hr hm).elim (fun e e' h1 h2 he => ?_) (fun a a' h1 h2 ha => ?_)
    · simp only [h1, h2]; exact he
    · simp only [h1, h2]
      exact (h.deliver ha).elim (fun e e' h3 h4 he => by simp only [h3, h4]; exact he)
        (fun d d' h3 h4 hd => by simp only [h3, h4]; exact h.stepCore hd _ b)

theorem step (hr : R s s') (f : Fast) (b : UInt8) (l : Bool) :
    ExRel Eq (OnFst R) (step T cfg s f b l) (step T cfg s' f b l) := by
  unfold Sen.step
  rw [← h.mode hr]
  split
  · split
    · exact ⟨hr, rfl⟩
    · exact ⟨h.addFeat 'm' hr, rfl⟩
  · split
    · rename_i hc
      exact h.tokenEndFast hr (by simp only [Bool.and_eq_true, decide_eq_true_eq] at hc; exact hc.1.1) _ b
    · split
      · exact h.stepCore (h.addFeat 'k' hr) _ b
      · exact h.stepCore hr _ b

theorem cellFeat (hr : R s s') (b : UInt8) : (cellFeat T cfg s b).feat = (cellFeat T cfg s' b).feat := by
  unfold Sen.cellFeat
  rw [← h.mode hr]
  -- every arm is the state itself or `addFeat` of it
  split <;> (try split) <;> first | exact h.feat hr | exact h.feat (h.addFeat _ hr)

theorem runBytes (bs : Bytes) : ∀ {s s'}, R s s' → ∀ (f : Fast) (p : Pos),
    ExRel E (OnFst R) (runBytes T cfg s f p bs) (runBytes T cfg s' f p bs) := by
  induction bs with
  | nil => exact fun hr f p => ⟨hr, rfl⟩
  | cons b r ih =>
    intro s s' hr f p
    simp only [Sen.runBytes]
    refine (h.step hr f b r.isEmpty).elim (fun e e' h1 h2 he => ?_) (fun x x' h1 h2 hx => ?_)
    · cases he
      rw [h1, h2, h.cellFeat hr b]
      exact h.err p e _ hr
    · obtain ⟨a, f1, n⟩ := x
      obtain ⟨a', f1', n'⟩ := x'
      obtain ⟨ha, hfn⟩ := hx
      cases hfn
      rw [h1, h2]
      exact ih ha f1 _

theorem runChunks (cs : List Bytes) : ∀ {s s'}, R s s' → ∀ (p : Pos),
    ExRel E (OnFst R) (runChunks T cfg s p cs) (runChunks T cfg s' p cs) := by
  induction cs with
  | nil => exact fun hr p => ⟨hr, rfl⟩
  | cons c rest ih =>
    intro s s' hr p
    simp only [Sen.runChunks]
    refine (h.runBytes c hr {} { p with off := 0 }).elim (fun e e' h1 h2 he => ?_) (fun x x' h1 h2 hx => ?_)
    · rw [h1, h2]; exact he
    · obtain ⟨a, f1, p1⟩ := x
      obtain ⟨a', f1', p1'⟩ := x'
      obtain ⟨ha, hfp⟩ := hx
      cases hfp
      rw [h1, h2]
      exact ih ha p1

theorem call {prev prev' : St} (he : R (prev.entry cfg) (prev'.entry cfg)) (chunks : List Bytes) :
    ExRel E O (call T cfg prev chunks) (call T cfg prev' chunks) :=
  callWith_rel rfl _ _ _ (h.finish {} he) h.bom (fun cs => by
    unfold afterBom
    exact (h.runChunks cs he {}).elim (fun e e' h1 h2 he => by rw [h1, h2]; exact he)
      (fun x x' h1 h2 hx => by
        obtain ⟨a, p⟩ := x
        obtain ⟨a', p'⟩ := x'
        obtain ⟨ha, hp⟩ := hx
        cases hp
        rw [h1, h2]
        exact h.finish p ha)) chunks

end Sim

/-- an error / a result without the two key fields (what the instance is left with, not what it answers) -/
def Err.noKeys (e : Err) : Err := { e with lastStrKey := [], lastKey := [] }
def Out.noKeys (o : Out) : Out := { o with lastStrKey := [], lastKey := [] }

/-- what a call answers: documents / callbacks, error kind and position, deviation marks — without the `lastKey` /
`lastStrKey` the instance is left with -/
def answer (r : Except Err Out) : Except Err Out :=
  match r with
  | .error e => .error e.noKeys
  | .ok o => .ok o.noKeys

/-- what two calls answer is compared without the key fields -/
abbrev KeysE (e e' : Err) : Prop := e.noKeys = e'.noKeys
abbrev KeysO (o o' : Out) : Prop := o.noKeys = o'.noKeys

theorem answer_eq {x y : Except Err Out} (h : ExRel KeysE KeysO x y) : answer x = answer y :=
  match x, y, h with
  | .error _, .error _, h => congrArg Except.error h
  | .ok _, .ok _, h => congrArg Except.ok h
  | .error _, .ok _, h => False.elim h
  | .ok _, .error _, h => False.elim h

end OjgVerif.Sen
