import OjgVerif.Sen.Lemmas
/-! What the helpers of the parser's switch do to a state, apart from any invariant: `addFeat` and `undelivered` change
the marks only; `add`, `addToken` and `addString` with no `+` pending are one function `St.put`; whatever they, `addIgnore`
and the two flushes answer differs from the state they started from in `mode` (then `value` or `colon`), `stack` and
`lastKey` only (`Left`). The safety argument and the simulations all read the helpers through these. -/
namespace OjgVerif.Sen

theorem addFeat_feat (s : St) (c : Char) : s.addFeat c = { s with feat := (s.addFeat c).feat } := by
  unfold St.addFeat; split <;> rfl

theorem addFeat_plus (s : St) (c : Char) : (s.addFeat c).plus = s.plus := by rw [addFeat_feat]

theorem addFeat_mem (s : St) (c d : Char) (h : d ∈ s.feat) : d ∈ (s.addFeat c).feat := by
  unfold St.addFeat; split
  · exact h
  · exact List.mem_cons_of_mem _ h

theorem addFeat_self (s : St) (c : Char) : c ∈ (s.addFeat c).feat := by
  unfold St.addFeat; split
  · rename_i h; simpa using h
  · exact List.mem_cons_self

theorem undelivered_feat (s : St) : s.undelivered = { s with feat := s.undelivered.feat } := by
  unfold St.undelivered; split
  · exact addFeat_feat s 's'
  · rfl

theorem undelivered_mode (a : St) : a.undelivered.mode = a.mode := by rw [undelivered_feat]

theorem undelivered_starts (a : St) : a.undelivered.starts = a.starts := by rw [undelivered_feat]

theorem undelivered_plus (a : St) : a.undelivered.plus = a.plus := by rw [undelivered_feat]

/-- what `add`, `addToken` and `addString` (no `+` pending) have in common (`add_put`, `addTokenP_put`,
`addStringP_put`): in an object the value goes under
the waiting member name, and `noKey` happens when none waits; elsewhere the value is pushed -/
def St.put (s : St) (v : JV) (noKey : Except ErrKind St) : Except ErrKind St :=
  match s.starts with
  | none :: _ =>
    match s.stack with
    | [] => fault "index out of range"
    | _ => if topIsKey s.stack then ({ s with mode := .value } : St).setMember v else noKey
  | _ => .ok { s with mode := .value, stack := .val v :: s.stack }

theorem add_put (s : St) (n : JV) : s.add n = s.put n (.error .expectedKey) := rfl

theorem addTokenP_put (s : St) (t : Bytes) :
    s.addTokenP t = s.put (tokenValue t) (.ok { s with mode := .colon, stack := .key t :: s.stack }) := rfl

theorem addStringP_put (s : St) (str : Bytes) (hp : s.plus = false) :
    s.addStringP str = s.put (.str str) (.ok { s with mode := .colon, stack := .key str :: s.stack }) := by
  unfold St.addStringP St.put
  rw [hp]
  rcases s.starts with _ | ⟨_ | idx, rest⟩ <;> rfl

theorem addStringPOld_put (s : St) (str : Bytes) (hp : s.plus = false) :
    s.addStringPOld str = s.put (.str str) (.ok { s with mode := .colon, stack := .key str :: s.stack }) := by
  unfold St.addStringPOld St.put
  rw [hp]
  rcases s.starts with _ | ⟨_ | idx, rest⟩ <;> rfl

/-- what `add`, `addToken`, `addIgnore` (and `addString` with no `+` pending) leave of a state: the mode is `value`
or `colon`, the build stack and `lastKey` are theirs, nothing else changes -/
structure Left (s a : St) : Prop where
  mode : a.mode = .value ∨ a.mode = .colon
  rest : a = { s with mode := a.mode, stack := a.stack, lastKey := a.lastKey }

theorem Left.plus {s a : St} (h : Left s a) : a.plus = s.plus := by rw [h.rest]
theorem Left.num {s a : St} (h : Left s a) : a.num = s.num := by rw [h.rest]

theorem setMember_left {s a : St} {n : JV} (h : s.setMember n = .ok a) :
    a = { s with stack := a.stack, lastKey := a.lastKey } := by
  unfold St.setMember at h
  split at h
  · split at h
    · cases h; rfl
    · cases h
    · cases h
  · cases h

theorem put_left {s a : St} {v : JV} {nk : Except ErrKind St} (h : s.put v nk = .ok a) (hnk : nk = .ok a → Left s a) :
    Left s a := by
  unfold St.put at h
  split at h
  · split at h
    · cases h
    · split at h
      · have := setMember_left h
        exact ⟨.inl (by rw [this]), by rw [this]⟩
      · exact hnk h
  · cases h; exact ⟨.inl rfl, rfl⟩

theorem add_left {s a : St} {n : JV} (h : s.add n = .ok a) : Left s a := by
  rw [add_put] at h; exact put_left h nofun

theorem addTokenP_left {s a : St} {t : Bytes} (h : s.addTokenP t = .ok a) : Left s a := by
  rw [addTokenP_put] at h
  exact put_left h fun e => by cases e; exact ⟨.inr rfl, rfl⟩

theorem addIgnore_left {s a : St} {n : JV} (h : s.addIgnore n = .ok a) : Left s a := by
  unfold St.addIgnore at h
  split at h
  · cases h; exact add_left (by assumption)
  · split at h
    · cases h
    · cases h; exact ⟨.inl rfl, rfl⟩

theorem addStringP_mode_plus {s a : St} {t : Bytes} (h : s.addStringP t = .ok a) :
    (a.mode = .value ∨ a.mode = .colon) ∧ a.plus = false := by
  cases hp : s.plus
  · rw [addStringP_put s t hp] at h
    have := put_left h fun e => by cases e; exact ⟨.inr rfl, rfl⟩
    exact ⟨this.mode, this.plus.trans hp⟩
  · -- after a `+` the string is appended to the one before it, which leaves mode `value`
    unfold St.addStringP at h
    simp only [hp, ↓reduceIte] at h
    split at h
    · split at h
      · cases h
      · split at h
        · cases h; exact ⟨.inl rfl, rfl⟩
        · cases h
      · cases h
    · split at h
      · cases h; exact ⟨.inl rfl, rfl⟩
      · cases h

theorem flushP_left {T : Tables} {s a : St} (h : s.flushP T = .ok a) : Left s a ∨ a = s := by
  unfold St.flushP at h
  split at h
  · exact .inl (add_left h)
  · exact .inl (addTokenP_left h)
  · cases h; exact .inr rfl

theorem flushCloseP_left {T : Tables} {s a : St} (h : s.flushCloseP T = .ok a) : Left s a ∨ a = s := by
  unfold St.flushCloseP at h
  split at h
  · cases h
  · exact .inl (addIgnore_left h)
  · exact .inl (addTokenP_left h)
  · cases h; exact .inr rfl

theorem Left.or_plus {s a : St} (h : Left s a ∨ a = s) : a.plus = s.plus := by
  rcases h with h | rfl
  · exact h.plus
  · rfl

end OjgVerif.Sen
