import OjgVerif.Sen.LemmasPut
import OjgVerif.Json.NumFast
/-! The machine as it is (integer fast loop and token-end fast path on) against the repaired machine: a call
whose run takes neither of the two known fast-path deviations (findings C03sen-int19, C03sen-token-end-chunk;
`deviates`, a decidable predicate of configuration, prior state, input and chunking: `devStep` at some byte) is
the call of the machine with both fast paths switched off (`call_eq_repaired`). Lock-step simulation: the states
are equal, only the fast-path record differs; the integer loop's digit step is `AddDigit` unless the accumulator
equals `BigLimit` (`Json.fast_digit_eq_slow`); the token-end case of the switch on white space does what the
fast path does (`wsTokenEnd`: add the token, the end-of-document test, the same byte again in the new mode,
where it is skipped: `ws_acts`). `C03sen.Repaired`, the hypothesis of `C03sen.chunks_irrelevant`, is declared here,
beside `Cfg.rep`, which meets it (`Repaired.rep`): `nextFast_rest` and the two white-space lemmas are stated over it. -/
namespace OjgVerif.Sen

/-- the machine with the integer fast loop and the token-end fast path switched off -/
def Cfg.rep (cfg : Cfg) : Cfg := { cfg with fastInt := false, tokSlow := false }

end OjgVerif.Sen
namespace OjgVerif.C03sen
open OjgVerif.Sen

/-- the three fast-path deviations are switched off -/
structure Repaired (cfg : Cfg) : Prop where
  fastInt : cfg.fastInt = false
  tokSlow : cfg.tokSlow = false
  nlSkip : cfg.nlSkip = false

theorem Repaired.rep {cfg : Cfg} (h : cfg.nlSkip = false) : Repaired cfg.rep := ⟨rfl, rfl, h⟩

end OjgVerif.C03sen
namespace OjgVerif.Sen
open OjgVerif.Json (BigLimit)
open OjgVerif.C03sen (Repaired)

/-- **this byte takes one of the two known fast-path deviations**: the integer fast loop reads a digit while
the accumulator equals `BigLimit` (the 19th digit after 922337203685477580), or a bare token that did not
start in the current read buffer is ended by a byte other than space, tab, CR, LF -/
def devStep (cfg : Cfg) (s : St) (f : Fast) (b : UInt8) : Bool :=
  (f.inFast && refTables.act s.mode b == .numDigit && s.num.i == BigLimit) ||
  (s.mode == .token && refTables.act .token b != .tokenOk && !f.tokFast && cfg.tokSlow && !isWsNl b)

/-- inside the integer fast loop the number is not in text form; and the newline skip is not running (`nlSkip` is
off), which lets `step_sim` leave its branch of `step` aside -/
def FastInv (cfg : Cfg) (s : St) (f : Fast) : Prop :=
  (f.inFast = true → cfg.tokenizer = false ∧ s.num.big = []) ∧ f.nlSkipping = false

/-- the digit row answers `numDigit` on digits only: its other branches are among the cases that end a number -/
theorem numDigit_isDigit (m : Mode) (b : UInt8) (h : expected m b = .numDigit) : Json.isDigitB b := by
  rw [numDigit_mode m b h] at h
  by_cases hd : isDigit b = true
  · simpa [isDigit, Json.isDigitB, UInt8.le_iff_toNat_le] using hd
  · have : (if b = 46 then Act.numDot else if isE b = true then .fracE else expectedNumEnd b) ∈
        Act.numDot :: .fracE :: modeActs.numEndActs := by
      unfold expectedNumEnd; repeat' apply ite_mem
      all_goals decide
    simp only [expected, hd, Bool.false_eq_true, ↓reduceIte] at h
    rw [h] at this
    exact absurd this (by decide)

/-- the modes a finished token (and the end-of-document test after it) can leave -/
def afterTok (m : Mode) : Prop := m = .value ∨ m = .colon ∨ m = .space

theorem ws_acts (b : UInt8) (h : isWsNl b = true) :
    expected .token b = (if b = 10 then .tokenNlColon else .tokenSpc) ∧
    ∀ m, afterTok m → expected m b = (if b = 10 then .skipNewline else .skipChar) := by
  simp only [isWsNl, Bool.or_eq_true, decide_eq_true_eq] at h
  rcases h with ((rfl | rfl) | rfl) | rfl <;> exact ⟨rfl, by rintro _ (rfl | rfl | rfl) <;> rfl⟩

theorem stepAct_rep (cfg : Cfg) (s : St) (i : Bool) (b : UInt8) :
    stepAct refTables cfg.rep s i b = stepAct refTables cfg s i b := by
  unfold stepAct stepActP stepActT
  rfl

theorem deliver_rep (cfg : Cfg) (s : St) : deliver refTables cfg.rep s = deliver refTables cfg s := by
  unfold deliver deliverP
  rfl

/-- off `BigLimit` the integer fast loop sets no mark `i`: the test of the `numDigit` case of `stepActP`
(`… && s.num.i.toNat * 10 + (b - 48).toNat ≤ 9223372036854775807`, the largest int64) fails -/
theorem big_gt (x : UInt64) (h1 : BigLimit ≤ x) (h2 : x ≠ BigLimit) (d : Nat) :
    ¬ x.toNat * 10 + d ≤ 9223372036854775807 := by
  have hBL : BigLimit.toNat = 922337203685477580 := rfl
  have h1' : BigLimit.toNat ≤ x.toNat := by rwa [UInt64.le_iff_toNat_le] at h1
  have h2' : x.toNat ≠ BigLimit.toNat := fun h => h2 (UInt64.toNat_inj.mp h)
  omega

theorem stepActP_noFast (cfg : Cfg) (s : St) (b : UInt8) (hinv : s.num.big = [])
    (hnd : ¬ (expected s.mode b = .numDigit ∧ s.num.i = BigLimit)) :
    stepActP refTables cfg s true b = stepActP refTables cfg s false b := by
  by_cases hd : expected s.mode b = .numDigit
  · have hne : s.num.i ≠ BigLimit := fun h => hnd ⟨hd, h⟩
    have hb := numDigit_isDigit s.mode b hd
    unfold stepActP
    simp only [refTables, hd, ↓reduceIte, Bool.true_and, Bool.false_and, Bool.false_eq_true]
    have hnum := Json.fast_digit_eq_slow s.num b hinv hne hb
    rw [hnum]
    by_cases hle : BigLimit ≤ s.num.i
    · have := big_gt s.num.i hle hne (b - 48).toNat
      simp only [hle, decide_true, Bool.true_and, this, decide_false, Bool.false_eq_true, ↓reduceIte]
    · simp only [hle, decide_false, Bool.false_and, Bool.false_eq_true, ↓reduceIte]
  · unfold stepActP
    simp only [refTables]
    cases h : expected s.mode b <;> first | rfl | (exact absurd h hd)

theorem deliver_ok (cfg : Cfg) (s a : St) (h : deliver refTables cfg s = .ok a) :
    a.num = s.num ∧ (afterTok s.mode → afterTok a.mode) := by
  have hm : afterTok (if cfg.onlyOne = true then Mode.space else Mode.value) := by
    split
    · exact .inr (.inr rfl)
    · exact .inl rfl
  unfold deliver deliverP at h
  split at h
  · split at h
    · cases h; exact ⟨rfl, fun _ => hm⟩
    · split at h
      · cases h
      · cases h; exact ⟨rfl, fun _ => hm⟩
  · cases h; exact ⟨rfl, id⟩

theorem addTok_ok (cfg : Cfg) (s a : St) (h : addTok cfg s = .ok a) : afterTok a.mode ∧ a.num = s.num := by
  unfold addTok at h
  split at h
  · cases h
    unfold St.addTokenT St.emit
    split
    · exact ⟨.inr (.inl rfl), rfl⟩
    · exact ⟨.inl rfl, rfl⟩
  · exact ⟨(addTokenP_left h).mode.imp id .inl, (addTokenP_left h).num⟩

theorem afterTok_noDigit (m : Mode) (hm : afterTok m) (b : UInt8) : expected m b ≠ .numDigit := by
  intro h
  have := numDigit_mode m b h
  rcases hm with h1 | h1 | h1 <;> rw [h1] at this <;> cases this

theorem nextFast_rest {c : Cfg} (h : Repaired c) (a : Act) (i : UInt64) : nextFast c a i {} = {} := by
  cases a <;> simp [nextFast, h.fastInt, h.tokSlow, h.nlSkip]

theorem ws_stepAct (c : Cfg) (s : St) (i : Bool) (b : UInt8) (hm : s.mode = .token) (hw : isWsNl b = true) :
    stepAct refTables c s i b = (addTok c s).map fun s1 => (s1, false, decide (b = 10)) := by
  have ha : refTables.act s.mode b = _ := hm ▸ (ws_acts b hw).1
  unfold stepAct addTok
  cases c.tokenizer
  · unfold stepActP
    rw [ha]
    by_cases h10 : b = 10 <;> simp only [h10, ↓reduceIte] <;> cases s.addTokenP s.tmp.reverse <;> rfl
  · unfold stepActT
    rw [ha]
    by_cases h10 : b = 10 <;> simp only [h10, ↓reduceIte] <;> rfl

theorem ws_skipped {c : Cfg} (h : Repaired c) (s : St) (b : UInt8) (hm : afterTok s.mode) (hw : isWsNl b = true) :
    stepCore refTables c s {} b = .ok (s, {}, decide (b = 10)) := by
  have ha : refTables.act s.mode b = _ := (ws_acts b hw).2 _ hm
  unfold stepCore stepAct
  rw [nextFast_rest h]
  cases c.tokenizer
  · unfold stepActP
    rw [ha]
    by_cases h10 : b = 10 <;> simp only [h10, ↓reduceIte] <;> rfl
  · unfold stepActT
    rw [ha]
    by_cases h10 : b = 10 <;> simp only [h10, ↓reduceIte] <;> rfl

theorem wsTokenEnd {c : Cfg} (h : Repaired c) (s : St) (b : UInt8) (hm : s.mode = .token) (hw : isWsNl b = true) :
    stepCore refTables c s {} b = tokenEndFast refTables c s {} b := by
  have hb40 : b ≠ 40 := by rintro rfl; cases hw
  rw [tokenEndFast_eq]
  unfold stepCore
  rw [ws_stepAct c s _ b hm hw, nextFast_rest h]
  simp only [hb40, decide_false, Bool.false_and, Bool.false_eq_true, ↓reduceIte]
  cases h1 : addTok c s with
  | error e => rfl
  | ok s1 =>
    simp only [Except.map]
    cases hd : deliver refTables c s1 with
    | error e => rfl
    | ok s2 =>
      exact (ws_skipped h s2 b ((deliver_ok c s1 s2 hd).2 (addTok_ok c s s1 h1).1) hw).symm

theorem nextFast_nl (cfg : Cfg) (hnl : cfg.nlSkip = false) (a : Act) (i : UInt64) (f : Fast) :
    (nextFast cfg a i f).nlSkipping = false := by
  unfold nextFast; cases a <;> simp [hnl]

theorem nextFast_inFast (cfg : Cfg) (a : Act) (i : UInt64) (f : Fast) (h : (nextFast cfg a i f).inFast = true) :
    (a = .valDigit ∧ cfg.tokenizer = false) ∨ (a = .numDigit ∧ f.inFast = true) := by
  unfold nextFast at h
  cases a <;> simp at h
  · exact Or.inl ⟨rfl, h.2⟩
  · exact Or.inr ⟨rfl, h.1⟩

theorem Fast.nl_eq (f : Fast) (h : f.nlSkipping = false) : ({ f with nlSkipping := false } : Fast) = f := by
  cases f; simp_all

/-- the outcome of a step with the fast-path record set to rest -/
def dropF (r : Except ErrKind (St × Fast × Bool)) : Except ErrKind (St × Fast × Bool) :=
  match r with
  | .error e => .error e
  | .ok (s, _, n) => .ok (s, {}, n)

/-- the outcome of a step of the machine as it is (`r`) against that of the repaired machine (`r'`): the same but
for the fast-path record, and the invariant of the integer fast loop holds afterwards -/
def FastSim (cfg : Cfg) (r r' : Except ErrKind (St × Fast × Bool)) : Prop :=
  dropF r = r' ∧ ∀ s1 f1 nl, r = .ok (s1, f1, nl) → FastInv cfg s1 f1

section sim
variable (cfg : Cfg) (hnl : cfg.nlSkip = false)
include hnl

theorem stepCore_sim (s : St) (f : Fast) (b : UInt8) (hI : FastInv cfg s f)
    (hnd : ¬ (f.inFast = true ∧ expected s.mode b = .numDigit ∧ s.num.i = BigLimit)) :
    FastSim cfg (stepCore refTables cfg s f b) (stepCore refTables cfg.rep s {} b) := by
  refine ⟨?_, fun s1 f1 nl h => ?_⟩
  · unfold stepCore
    rw [stepAct_rep]
    simp only [deliver_rep, nextFast_rest (.rep hnl)]
    have hA : stepAct refTables cfg s f.inFast b = stepAct refTables cfg s ({} : Fast).inFast b := by
      unfold stepAct
      split
      · rfl
      · cases hf : f.inFast with
        | false => rfl
        | true => exact stepActP_noFast cfg s b (hI.1 hf).2 (fun h => hnd ⟨hf, h.1, h.2⟩)
    rw [hA]
    cases stepAct refTables cfg s ({} : Fast).inFast b with
    | error e => rfl
    | ok r =>
      obtain ⟨s1, c, nl⟩ := r
      simp only []
      split
      · rfl
      · cases deliver refTables cfg s1 with
        | error e => rfl
        | ok s2 => rfl
  · unfold stepCore at h
    cases hA : stepAct refTables cfg s f.inFast b with
    | error e => rw [hA] at h; cases h
    | ok r =>
      obtain ⟨a1, c, n1⟩ := r
      rw [hA] at h
      simp only [] at h
      -- the state after the switch has the number in integer form whenever the fast loop goes on
      have key : (nextFast cfg (refTables.act s.mode b) s.num.i f).inFast = true →
          cfg.tokenizer = false ∧ a1.num.big = [] := by
        intro hf
        rcases nextFast_inFast cfg _ _ f hf with ⟨ha, htk⟩ | ⟨ha, hfi⟩
        · unfold stepAct stepActP at hA
          simp only [htk, Bool.false_eq_true, ↓reduceIte, ha] at hA
          cases hA; exact ⟨htk, rfl⟩
        · obtain ⟨htk, hbig⟩ := hI.1 hfi
          unfold stepAct stepActP at hA
          simp only [htk, Bool.false_eq_true, ↓reduceIte, ha, hfi] at hA
          cases hA
          unfold nextFast at hf
          simp only [ha, hfi, Bool.true_and, Bool.not_eq_true', decide_eq_false_iff_not] at hf
          simp only [hf, ↓reduceIte]
          exact ⟨htk, hbig⟩
      split at h
      · cases h
        exact ⟨key, nextFast_nl cfg hnl _ _ _⟩
      · cases hd : deliver refTables cfg a1 with
        | error e => rw [hd] at h; cases h
        | ok a2 =>
          rw [hd] at h; cases h
          refine ⟨fun hf => ?_, nextFast_nl cfg hnl _ _ _⟩
          rw [(deliver_ok cfg a1 _ hd).1]
          exact key hf

theorem tokenEndFast_sim (s : St) (f : Fast) (b : UInt8) (hI : FastInv cfg s f) :
    FastSim cfg (tokenEndFast refTables cfg s f b) (tokenEndFast refTables cfg.rep s {} b) := by
  rw [tokenEndFast_eq, tokenEndFast_eq]
  have htk : cfg.rep.tokenizer = cfg.tokenizer := rfl
  have hat : addTok cfg.rep s = addTok cfg s := rfl
  rw [htk, hat]
  split
  · refine ⟨rfl, fun s1 f1 nl h => ?_⟩
    cases h
    exact ⟨fun hf => (hI.1 hf).imp id fun h => by rw [addFeat_feat]; exact h, hI.2⟩
  · cases h1 : addTok cfg s with
    | error e => exact ⟨rfl, fun _ _ _ h => by cases h⟩
    | ok a =>
      obtain ⟨hm, hn⟩ := addTok_ok cfg s a h1
      simp only [deliver_rep]
      cases hd : deliver refTables cfg a with
      | error e => exact ⟨rfl, fun _ _ _ h => by cases h⟩
      | ok s2 =>
        -- the byte again in the mode the finished token leaves: not a digit of the fast loop
        obtain ⟨hn2, hm2⟩ := deliver_ok cfg a s2 hd
        simp only []
        exact stepCore_sim cfg hnl s2 { f with tokFast := false } b
          ⟨fun hf => (hI.1 hf).imp id fun h => by rw [hn2, hn]; exact h, hI.2⟩
          fun h => afterTok_noDigit _ (hm2 hm) b h.2.1

theorem step_sim (s : St) (f : Fast) (b : UInt8) (l : Bool) (hI : FastInv cfg s f) (hdev : devStep cfg s f b = false) :
    FastSim cfg (step refTables cfg s f b l) (step refTables cfg.rep s {} b l) := by
  unfold step
  have hf0 : f.nlSkipping = false := hI.2
  simp only [hf0, Bool.false_and, Bool.false_eq_true, ↓reduceIte, Fast.nl_eq f hf0]
  have hrts : cfg.rep.tokSlow = false := rfl
  simp only [hrts, Bool.not_false, Bool.or_true, Bool.and_true]
  have h0 : ({ ({} : Fast) with nlSkipping := false } : Fast) = {} := rfl
  rw [h0]
  simp only [devStep, Bool.or_eq_false_iff] at hdev
  obtain ⟨hd1, hd2⟩ := hdev
  have hnd : ¬ (f.inFast = true ∧ expected s.mode b = .numDigit ∧ s.num.i = BigLimit) := by
    intro ⟨h1, h2, h3⟩
    have : refTables.act s.mode b = .numDigit := h2
    simp [h1, this, h3] at hd1
  by_cases hte : (s.mode = .token && refTables.act .token b ≠ .tokenOk) = true
  · have hmt : s.mode = .token := by
      simp only [Bool.and_eq_true, decide_eq_true_eq] at hte; exact hte.1
    simp only [hte, Bool.true_and, ↓reduceIte]
    by_cases hfast : (f.tokFast || !cfg.tokSlow) = true
    · simp only [hfast, ↓reduceIte]
      exact tokenEndFast_sim cfg hnl s _ b ⟨hI.1, hI.2⟩
    · simp only [hfast, Bool.false_eq_true, ↓reduceIte]
      -- the slow path: the byte must be white space (otherwise it is a deviation)
      have hw : isWsNl b = true := by
        simp only [Bool.and_eq_true, decide_eq_true_eq] at hte
        simp only [Bool.or_eq_true, Bool.not_eq_true', not_or, Bool.not_eq_true, Bool.not_eq_false] at hfast
        simpa [hmt, hte.2, hfast.1, hfast.2] using hd2
      simp only [hw, Bool.not_true, Bool.false_eq_true, ↓reduceIte]
      rw [← wsTokenEnd (.rep hnl) s b hmt hw]
      exact stepCore_sim cfg hnl s f b hI hnd
  · simp only [hte, Bool.false_and, Bool.false_eq_true, ↓reduceIte]
    exact stepCore_sim cfg hnl s f b hI hnd

end sim

/-- some byte of the buffer takes a fast-path deviation (`devStep`) -/
def devBytes (cfg : Cfg) (s : St) (f : Fast) : Bytes → Bool
  | [] => false
  | b :: r =>
    devStep cfg s f b ||
      match step refTables cfg s f b r.isEmpty with
      | .error _ => false
      | .ok (s', f', _) => devBytes cfg s' f' r

def devChunks (cfg : Cfg) (s : St) (p : Pos) : List Bytes → Bool
  | [] => false
  | c :: rest =>
    devBytes cfg s {} c ||
      match runBytes refTables cfg s {} { p with off := 0 } c with
      | .error _ => false
      | .ok (s', _, p') => devChunks cfg s' p' rest

/-- **the run of this call takes a fast-path deviation** (a decidable predicate of configuration,
prior state, input and chunking): at some byte `devStep` holds. It is evaluated on the reference machine
(`refTables`, the JSON machine's BOM rule), which by `call_eq_ref` and `call_ref` is the machine over any table set
that passes `TablesOK` -/
def deviates (cfg : Cfg) (prev : St) (chunks : List Bytes) : Bool :=
  let cs := if cfg.reader then Json.topUp (chunks.filter (!·.isEmpty)) else chunks
  match cs with
  | [] => false
  | c :: rest =>
    match (if cfg.reader then Json.bomRuleReader c else Json.bomRule c) with
    | .bad => false
    | .strip r => devChunks cfg (prev.entry cfg) {} (r :: rest)
    | .keep => devChunks cfg (prev.entry cfg) {} (c :: rest)

/-- the outcome of a buffer run with the fast-path record set to rest -/
def dropFB (r : Except Err (St × Fast × Pos)) : Except Err (St × Fast × Pos) :=
  match r with
  | .error e => .error e
  | .ok (s, _, p) => .ok (s, {}, p)

theorem cellFeat_rep (cfg : Cfg) (s : St) (b : UInt8) : cellFeat refTables cfg.rep s b = cellFeat refTables cfg s b := by
  unfold cellFeat; rfl

theorem finish_rep (cfg : Cfg) (s : St) (p : Pos) : finish refTables cfg.rep s p = finish refTables cfg s p := by
  unfold finish; rfl

section runs
variable (cfg : Cfg) (hnl : cfg.nlSkip = false)
include hnl

theorem runBytes_sim (bs : Bytes) : ∀ (s : St) (f : Fast) (p : Pos), FastInv cfg s f → devBytes cfg s f bs = false →
    dropFB (runBytes refTables cfg s f p bs) = runBytes refTables cfg.rep s {} p bs := by
  induction bs with
  | nil => intro s f p _ _; rfl
  | cons b r ih =>
    intro s f p hI hdev
    simp only [devBytes, Bool.or_eq_false_iff] at hdev
    obtain ⟨hd1, hd2⟩ := hdev
    obtain ⟨hS, hInv⟩ := step_sim cfg hnl s f b r.isEmpty hI hd1
    simp only [runBytes]
    rw [← hS, cellFeat_rep]
    cases h1 : step refTables cfg s f b r.isEmpty with
    | error e => rfl
    | ok x =>
      obtain ⟨s1, f1, nl⟩ := x
      rw [h1] at hd2
      simp only [dropF]
      exact ih s1 f1 _ (hInv s1 f1 nl h1) hd2

theorem runChunks_sim (cs : List Bytes) : ∀ (s : St) (p : Pos), devChunks cfg s p cs = false →
    runChunks refTables cfg s p cs = runChunks refTables cfg.rep s p cs := by
  induction cs with
  | nil => intro s p _; rfl
  | cons c rest ih =>
    intro s p hdev
    simp only [devChunks, Bool.or_eq_false_iff] at hdev
    obtain ⟨hd1, hd2⟩ := hdev
    have hI0 : FastInv cfg s {} := ⟨(fun h => by cases h), rfl⟩
    have hB := runBytes_sim cfg hnl c s {} { p with off := 0 } hI0 hd1
    simp only [runChunks]
    rw [← hB]
    cases h1 : runBytes refTables cfg s {} { p with off := 0 } c with
    | error e => rfl
    | ok x =>
      obtain ⟨s1, f1, p1⟩ := x
      rw [h1] at hd2
      simp only [dropFB]
      exact ih s1 p1 hd2

/-- **a call that takes no fast-path deviation is the call of the repaired machine**: same documents
or callbacks, same error (kind, line, column), same marks, same state left -/
theorem call_eq_repaired (prev : St) (chunks : List Bytes) (h : deviates cfg prev chunks = false) :
    call refTables cfg prev chunks = call refTables cfg.rep prev chunks := by
  rw [call_ref, call_ref, callWith_eq, callWith_eq]
  unfold deviates at h
  rw [show cfg.rep.reader = cfg.reader from rfl, show prev.entry cfg.rep = prev.entry cfg from rfl]
  have tail : ∀ cs, devChunks cfg (prev.entry cfg) {} cs = false →
      afterBom refTables cfg (prev.entry cfg) cs = afterBom refTables cfg.rep (prev.entry cfg) cs := fun cs hd => by
    unfold afterBom
    rw [runChunks_sim cfg hnl _ _ _ hd]
    simp only [finish_rep]
  split
  · exact (finish_rep cfg _ _).symm
  · rename_i c rest heq
    rw [heq] at h
    simp only [] at h
    cases hb : (if cfg.reader = true then Json.bomRuleReader c else Json.bomRule c) with
    | bad => rfl
    | strip r => rw [hb] at h; exact tail _ h
    | keep => rw [hb] at h; exact tail _ h

end runs

end OjgVerif.Sen
