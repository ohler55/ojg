import OjgVerif.JPMut.LemmasModify
/-! # The descent work-list `descGo`, one node at a time

`descGo k` runs itself on the members of a container, in order, and stops at the first member that does not report `.go`;
when all do, it applies `k` to the node holding the members' results. `descGo_all` (all-matches forms) and `descGo_oneForm`
(One forms) package the induction over the members: what is proved about a descent on well-formed data
(LemmasDescent*.lean) instantiates one of the two. `descGo_pred` (LemmasVisit.lean) and `descGo_inv` (LemmasOne.lean) hold
on any data, where the hypothesis `TopNodup` of the two is not available, and are mutual inductions of their own. -/

namespace OjgVerif.JPMut
open OjgVerif.JPath

theorem mapArr_const (F : JV → JV) : ∀ (xs : List JV) (i : Nat), mapArr (fun _ c => F c) i xs = xs.map F
  | [], _ => rfl
  | x :: r, i => by simp [mapArr, mapArr_const F r (i + 1)]

theorem R.out_ok {r : R} {d' : JV} (h : r.out = .ok d') : (r.st = .go ∨ r.st = .stop) ∧ r.d = d' := by
  cases r with
  | mk d s => cases s <;> simp_all [R.out]

theorem descArr_go (k : JV → R) : ∀ (xs : List JV), (∀ x ∈ xs, (descGo k x).st = .go) →
    descArr k xs = ⟨xs.map fun x => (descGo k x).d, .go⟩
  | [], _ => rfl
  | x :: r, h => by
    simp only [descArr, h x (by simp), descArr_go k r (fun y hy => h y (List.mem_cons_of_mem _ hy)), List.map_cons]

theorem descObj_go (k : JV → R) : ∀ (kvs : List (Bytes × JV)), (∀ kv ∈ kvs, (descGo k kv.2).st = .go) →
    descObj k kvs = ⟨kvs.map fun kv => (kv.1, (descGo k kv.2).d), .go⟩
  | [], _ => rfl
  | kv :: r, h => by
    simp only [descObj, h kv (by simp), descObj_go k r (fun y hy => h y (List.mem_cons_of_mem _ hy)), List.map_cons]

theorem descArr_st_go (k : JV → R) : ∀ (xs : List JV), (descArr k xs).st = .go → ∀ x ∈ xs, (descGo k x).st = .go
  | [], _, _, hx => nomatch hx
  | x :: r, h, y, hy => by
    simp only [descArr] at h
    cases hs : (descGo k x).st with
    | go =>
      rw [hs] at h
      rcases List.mem_cons.1 hy with e | hy'
      · rw [e]; exact hs
      · exact descArr_st_go k r h y hy'
    | _ => rw [hs] at h; cases h

theorem descObj_st_go (k : JV → R) : ∀ (kvs : List (Bytes × JV)), (descObj k kvs).st = .go → ∀ kv ∈ kvs, (descGo k kv.2).st = .go
  | [], _, _, hx => nomatch hx
  | x :: r, h, y, hy => by
    simp only [descObj] at h
    cases hs : (descGo k x.2).st with
    | go =>
      rw [hs] at h
      rcases List.mem_cons.1 hy with e | hy'
      · rw [e]; exact hs
      · exact descObj_st_go k r h y hy'
    | _ => rw [hs] at h; cases h

theorem descArr_same (k : JV → R) (xs : List JV) (hsame : ∀ x ∈ xs, (descGo k x).st = .go → (descGo k x).d = x)
    (hst : (descArr k xs).st = .go) : (descArr k xs).xs = xs ∧ ∀ x ∈ xs, (descGo k x).st = .go := by
  have hall := descArr_st_go k xs hst
  rw [descArr_go k xs hall]
  exact ⟨(List.map_congr_left fun x h => hsame x h (hall x h)).trans (List.map_id' xs), hall⟩

theorem descObj_same (k : JV → R) (kvs : List (Bytes × JV))
    (hsame : ∀ kv ∈ kvs, (descGo k kv.2).st = .go → (descGo k kv.2).d = kv.2) (hst : (descObj k kvs).st = .go) :
    (descObj k kvs).kvs = kvs ∧ ∀ kv ∈ kvs, (descGo k kv.2).st = .go := by
  have hall := descObj_st_go k kvs hst
  rw [descObj_go k kvs hall]
  exact ⟨(List.map_congr_left fun kv h => by rw [hsame kv h (hall kv h)]).trans (List.map_id' kvs), hall⟩

theorem descArr_first (k : JV → R) : ∀ (xs : List JV), (∀ x ∈ xs, (descGo k x).st = .go → (descGo k x).d = x) →
    (descArr k xs).st ≠ .go →
    ∃ i x, xs[i]? = some x ∧ (descGo k x).st = (descArr k xs).st ∧ (descArr k xs).xs = xs.set i (descGo k x).d
  | [], _, h => absurd rfl h
  | x :: r, hs, h => by
    simp only [descArr] at h ⊢
    cases hx : (descGo k x).st with
    | go =>
      rw [hx] at h
      obtain ⟨i, y, hy, h1, h2⟩ := descArr_first k r (fun y hy => hs y (List.mem_cons_of_mem _ hy)) h
      exact ⟨i + 1, y, by simpa using hy, h1, by rw [hs x (by simp) hx]; simp [h2]⟩
    | _ => exact ⟨0, x, rfl, hx, rfl⟩

theorem descObj_first (k : JV → R) : ∀ (kvs : List (Bytes × JV)), (∀ kv ∈ kvs, (descGo k kv.2).st = .go → (descGo k kv.2).d = kv.2) →
    (descObj k kvs).st ≠ .go →
    ∃ pre suf kv, kvs = pre ++ kv :: suf ∧ (descGo k kv.2).st = (descObj k kvs).st ∧
      (descObj k kvs).kvs = pre ++ (kv.1, (descGo k kv.2).d) :: suf
  | [], _, h => absurd rfl h
  | x :: r, hs, h => by
    simp only [descObj] at h ⊢
    cases hx : (descGo k x.2).st with
    | go =>
      rw [hx] at h
      obtain ⟨pre, suf, y, hy, h1, h2⟩ := descObj_first k r (fun y hy => hs y (List.mem_cons_of_mem _ hy)) h
      exact ⟨x :: pre, suf, y, by rw [hy]; rfl, h1, by rw [hs x (by simp) hx]; simp [h2]⟩
    | _ => exact ⟨[], r, x, rfl, hx, rfl⟩

theorem descGo_scalar (k : JV → R) {d : JV} (h : isContainer d = false) : descGo k d = ⟨d, .go⟩ := by
  cases d <;> first | rfl | cases h

theorem descGo_node (k : JV → R) {d : JV} (hc : isContainer d = true) (h : ∀ c ∈ kids d, (descGo k c).st = .go) :
    descGo k d = k (mapKids (fun _ c => (descGo k c).d) d) := by
  cases d with
  | arr xs => simp only [descGo, descArr_go k xs h, mapKids, mapArr_const]
  | obj kvs => simp only [descGo, descObj_go k kvs (fun kv hkv => h kv.2 (List.mem_map_of_mem hkv)), mapKids]
  | _ => cases hc

theorem descGo_st_go (k : JV → R) {d : JV} (h : (descGo k d).st = .go) : ∀ c ∈ kids d, (descGo k c).st = .go := by
  cases d with
  | arr xs =>
    apply descArr_st_go k xs
    simp only [descGo] at h
    cases hs : (descArr k xs).st with
    | go => rfl
    | _ => rw [hs] at h; exact h
  | obj kvs =>
    intro c hc
    obtain ⟨kv, hkv, rfl⟩ := List.mem_map.1 hc
    apply descObj_st_go k kvs _ kv hkv
    simp only [descGo] at h
    cases hs : (descObj k kvs).st with
    | go => rfl
    | _ => rw [hs] at h; exact h
  | _ => intro c hc; cases hc

theorem descGo_kid_stop (k : JV → R) {d : JV} (hn : TopNodup d)
    (hsame : ∀ c ∈ kids d, (descGo k c).st = .go → (descGo k c).d = c) (h : ¬ ∀ c ∈ kids d, (descGo k c).st = .go) :
    ∃ l c, child? l d = some c ∧ (descGo k c).st ≠ .go ∧ descGo k d = ⟨putChild l (descGo k c).d d, (descGo k c).st⟩ := by
  cases d with
  | arr xs =>
    have hne : (descArr k xs).st ≠ .go := fun e => h (descArr_st_go k xs e)
    obtain ⟨i, x, hx, h1, h2⟩ := descArr_first k xs hsame hne
    refine ⟨.idx i, x, hx, h1 ▸ hne, ?_⟩
    -- `descGo`'s match takes its catch-all arm: `simp` discharges the arm's side condition with `hne` from the context
    simp only [descGo, putChild, h1, ← h2]
  | obj kvs =>
    have hne : (descObj k kvs).st ≠ .go := fun e => h (fun c hc => by
      obtain ⟨kv, hkv, rfl⟩ := List.mem_map.1 hc
      exact descObj_st_go k kvs e kv hkv)
    obtain ⟨pre, suf, kv, hsplit, h1, h2⟩ := descObj_first k kvs (fun kv hkv => hsame kv.2 (List.mem_map_of_mem hkv)) hne
    have hnot : kv.1 ∉ keysOf pre := by
      have hn' : (keysOf (pre ++ kv :: suf)).Nodup := hsplit ▸ hn
      simp only [keysOf, List.map_append, List.map_cons] at hn'
      exact fun hin => (List.nodup_append.1 hn').2.2 kv.1 hin kv.1 (by simp) rfl
    refine ⟨.key kv.1, kv.2, lookup_of_mem_nodup kvs hn kv (by rw [hsplit]; simp), h1 ▸ hne, ?_⟩
    have e : kvInsert kv.1 (descGo k kv.2).d kvs = (descObj k kvs).kvs := by
      rw [h2, hsplit]; exact kvInsert_split kv.1 _ kv.2 pre suf hnot
    simp only [descGo, putChild, h1, e]
  | _ => exact absurd (fun c hc => nomatch hc) h

/-- all matches: when the rest of the path, run on a node whose members hold `F` of what they held, leaves `F` of the node,
the work-list computes `F` -/
theorem descGo_all (k : JV → R) (F : JV → JV) (P : JV → Prop) (hP : ∀ d, P d → TopNodup d ∧ ∀ c ∈ kids d, P c)
    (hsc : ∀ d, isContainer d = false → F d = d)
    (hnode : ∀ d, P d → isContainer d = true → (k (mapKids (fun _ => F) d)).st = .go → (k (mapKids (fun _ => F) d)).d = F d)
    (d : JV) : P d → (descGo k d).st = .go → (descGo k d).d = F d := by
  induction d using kidsInd with
  | h d ih =>
    intro hp hst
    cases hc : isContainer d with
    | false => rw [descGo_scalar k hc, hsc d hc]
    | true =>
      have hgo := descGo_st_go k hst
      have e : mapKids (fun _ c => (descGo k c).d) d = mapKids (fun _ => F) d :=
        mapKids_congr d (hP d hp).1 fun l c hl =>
          ih c (kid_of_child hl) ((hP d hp).2 c (kid_of_child hl)) (hgo c (kid_of_child hl))
      rw [descGo_node k hc hgo, e] at hst ⊢
      exact hnode d hp hc hst

/-- a One form (`k` returns what it was given when it reports `.go`): an invariant `I` that holds of a node all of whose
members were passed over, and is carried from a member that stopped to its container, holds of the work-list -/
theorem descGo_oneForm (k : JV → R) (I : JV → R → Prop) (P : JV → Prop) (hP : ∀ d, P d → TopNodup d ∧ ∀ c ∈ kids d, P c)
    (hsame : ∀ d r, I d r → r.st = .go → r.d = d)
    (hsc : ∀ d, isContainer d = false → I d ⟨d, .go⟩)
    (hgo : ∀ d, P d → isContainer d = true → (∀ c ∈ kids d, I c ⟨c, .go⟩) → I d (k d))
    (hstop : ∀ d l c rc, P d → child? l d = some c → I c rc → rc.st ≠ .go → I d ⟨putChild l rc.d d, rc.st⟩)
    (d : JV) : P d → I d (descGo k d) := by
  induction d using kidsInd with
  | h d ih =>
    intro hp
    have hkid : ∀ c ∈ kids d, I c (descGo k c) := fun c hc => ih c hc ((hP d hp).2 c hc)
    have hs : ∀ c ∈ kids d, (descGo k c).st = .go → (descGo k c).d = c := fun c hc => hsame c _ (hkid c hc)
    cases hc : isContainer d with
    | false => rw [descGo_scalar k hc]; exact hsc d hc
    | true =>
      by_cases hall : ∀ c ∈ kids d, (descGo k c).st = .go
      · have e : mapKids (fun _ c => (descGo k c).d) d = d :=
          (mapKids_congr d (hP d hp).1 fun l c hl => hs c (kid_of_child hl) (hall c (kid_of_child hl))).trans (mapKids_id d)
        rw [descGo_node k hc hall, e]
        refine hgo d hp hc fun c hc' => ?_
        have := hkid c hc'
        rwa [R_eta _ (hall c hc'), hs c hc' (hall c hc')] at this
      · obtain ⟨l, c, hl, hne, e⟩ := descGo_kid_stop k (hP d hp).1 hs hall
        rw [e]
        exact hstop d l c _ hp hl (hkid c (kid_of_child hl)) hne

end OjgVerif.JPMut
