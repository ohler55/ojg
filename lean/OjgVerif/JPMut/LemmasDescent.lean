import OjgVerif.JPMut.LemmasDescentGo
/-! # Modify through ONE recursive descent: the model's work-list against the denotation

`descGo` works bottom-up: the rest of the path is applied to the members' subtrees first, then to the node itself — as
the node is AFTER those edits. The specification edits all selected locations of the ORIGINAL tree simultaneously
(`updAll`, inner locations first). The two agree when the rest of the path selects on the edited node what it selects on
the original one: it does when the rest has no filter (selection then depends on member names and array lengths only,
`ShapeEq`, and the edits below lie too deep to change those) and no further descent (`modifyM_descent_eq`).
Excluded, exactly: a filter after the descent (known finding C13-descent-filter-reevaluated), a second descent and
repeated union members (C13-repeated-location). -/

namespace OjgVerif.JPMut
open OjgVerif.JPath

variable {σ : SliceFn} [NodupSlice σ]

theorem strip_append (l : Loc) (A B : List Path) : strip l (A ++ B) = strip l A ++ strip l B := by
  simp [strip, List.filterMap_append]

theorem hasNil_append (A B : List Path) : hasNil (A ++ B) = (hasNil A || hasNil B) := by
  simp [hasNil, List.any_append]

theorem strip_lt {l : Loc} {B : List Path} {N : Nat} (h : ∀ b ∈ B, b.length < N + 1) : ∀ b ∈ strip l B, b.length < N :=
  fun b hb => Nat.lt_of_succ_lt_succ (h (l :: b) ((mem_strip l B b).1 hb))

theorem strip_le {l : Loc} {T : List Path} {N : Nat} (h : ∀ p ∈ T, N + 1 ≤ p.length) : ∀ q ∈ strip l T, N ≤ q.length :=
  fun q hq => Nat.le_of_succ_le_succ (h (l :: q) ((mem_strip l T q).1 hq))

theorem strip_sep {l : Loc} {A B : List Path} (h : ∀ a ∈ A, ∀ b ∈ B, b.length < a.length) :
    ∀ a ∈ strip l A, ∀ b ∈ strip l B, b.length < a.length :=
  fun a ha b hb => Nat.lt_of_succ_lt_succ (h _ ((mem_strip l A a).1 ha) _ ((mem_strip l B b).1 hb))

theorem nil_of_lt_zero {B : List Path} (h : ∀ b ∈ B, b.length < 0) : B = [] :=
  List.eq_nil_iff_forall_not_mem.2 fun b hb => absurd (h b hb) (Nat.not_lt_zero _)

theorem strip_all_nil (l : Loc) (B : List Path) (h : ∀ b ∈ B, b = []) : strip l B = [] :=
  List.eq_nil_iff_forall_not_mem.2 fun q hq => nomatch h _ ((mem_strip l B q).1 hq)

theorem sep_cases {A B : List Path} (hlt : ∀ a ∈ A, ∀ b ∈ B, b.length < a.length) : (∀ b ∈ B, b = []) ∨ ∀ l, [l] ∉ A := by
  by_cases hall : ∀ b ∈ B, b = []
  · exact Or.inl hall
  · exact Or.inr fun l h => hall fun b hb => List.length_eq_zero_iff.1 (Nat.lt_one_iff.1 (hlt [l] h b hb))

/-- `N` bounds the lengths in `B` and is what the recursion descends on (callers pass the length of the rest of the path
plus one) -/
theorem updAll_seq (m : JV → JV) : ∀ (N : Nat) (A B : List Path) (d : JV), (∀ b ∈ B, b.length < N) →
    (∀ a ∈ A, ∀ b ∈ B, b.length < a.length) → updAll m (A ++ B) d = updAll m B (updAll m A d)
  | 0, A, B, d, hN, _ => by rw [nil_of_lt_zero hN, List.append_nil, updAll_nil]
  | N + 1, A, B, d, hN, hlt => by
    cases B with
    | nil => rw [List.append_nil, updAll_nil]
    | cons b r =>
      have hA : hasNil A = false := hasNil_false fun hn => absurd (hlt [] hn b (by simp)) (by simp)
      have hk : (fun l c => updAll m (strip l (A ++ b :: r)) c) =
          fun l c => updAll m (strip l (b :: r)) (updAll m (strip l A) c) := by
        funext l c
        rw [strip_append]
        exact updAll_seq m N _ _ c (strip_lt hN) (strip_sep hlt)
      rw [updAll_eq m (A ++ b :: r), updAll_eq m (b :: r), updAll_eq m A, hasNil_append, hA, hk]
      simp only [Bool.false_or, Bool.false_eq_true, if_false, mapKids_comp]

/-- a value with its members blanked: what a filter-free fragment looks at -/
def topShape : JV → JV
  | .arr xs => .arr (xs.map fun _ => .null)
  | .obj kvs => .obj (kvs.map fun m => (m.1, .null))
  | _ => .null

/-- the two values have the same member names / length at the top, and their members do down to depth `n` -/
def ShapeEq : Nat → JV → JV → Prop
  | 0, _, _ => True
  | n + 1, d, d' => topShape d = topShape d' ∧ ∀ l c c', child? l d = some c → child? l d' = some c' → ShapeEq n c c'

theorem ShapeEq.refl : ∀ (n : Nat) (d : JV), ShapeEq n d d
  | 0, _ => trivial
  | n + 1, d => ⟨rfl, fun l c c' h h' => by rw [h] at h'; injection h' with h'; subst h'; exact ShapeEq.refl n c⟩

theorem ShapeEq.mono : ∀ (n : Nat) (d d' : JV), ShapeEq (n + 1) d d' → ShapeEq n d d'
  | 0, _, _, _ => trivial
  | n + 1, _, _, h => ⟨h.1, fun l c c' hc hc' => ShapeEq.mono n c c' (h.2 l c c' hc hc')⟩

theorem topShape_mapKids (g : Loc → JV → JV) (d : JV) : topShape (mapKids g d) = topShape d := by
  cases d with
  | arr xs =>
    have : ∀ (xs : List JV) (i : Nat), (mapArr g i xs).map (fun _ => JV.null) = xs.map fun _ => JV.null := by
      intro xs
      induction xs with
      | nil => intro _; rfl
      | cons x r ih => intro i; simp [mapArr, ih (i + 1)]
    simp [mapKids, topShape, this]
  | obj kvs => simp [mapKids, topShape, List.map_map, Function.comp_def]
  | _ => rfl

theorem shapeEq_mapKids (g : Loc → JV → JV) (d : JV) {n : Nat} (h : ∀ l c, child? l d = some c → ShapeEq n c (g l c)) :
    ShapeEq (n + 1) d (mapKids g d) := by
  refine ⟨(topShape_mapKids g d).symm, fun l c c' hc hc' => ?_⟩
  rw [child?_mapKids, hc] at hc'
  simp only [Option.map_some, Option.some.injEq] at hc'
  exact hc' ▸ h l c hc

theorem updAll_shape (m : JV → JV) : ∀ (N : Nat) (T : List Path) (d : JV), (∀ p ∈ T, N ≤ p.length) → ShapeEq N d (updAll m T d)
  | 0, _, _, _ => trivial
  | N + 1, T, d, h => by
    rw [updAll_eq, hasNil_false fun hn => absurd (h [] hn) (by simp)]
    exact shapeEq_mapKids _ d fun l c _ => updAll_shape m N _ c (strip_le h)

theorem WF_mapKids (g : Loc → JV → JV) (d : JV) (hw : WF d) (hg : ∀ l c, child? l d = some c → WF (g l c)) : WF (mapKids g d) := by
  cases d with
  | arr xs =>
    simp only [mapKids, WF]
    have : ∀ (xs : List JV) (i : Nat), (∀ j x, xs[j]? = some x → WF (g (.idx (i + j)) x)) → WFL (mapArr g i xs) := by
      intro xs
      induction xs with
      | nil => intro _ _; trivial
      | cons x r ih =>
        intro i h
        refine ⟨by simpa using h 0 x (by simp), ih (i + 1) ?_⟩
        intro j y hy
        have := h (j + 1) y (by simpa using hy)
        have e : i + 1 + j = i + (j + 1) := by omega
        rw [e]; exact this
    exact this xs 0 (fun j x hx => by simpa using hg (.idx j) x (by simpa [child?] using hx))
  | obj kvs =>
    simp only [WF] at hw
    simp only [mapKids, WF]
    refine ⟨by simpa [keysOf, List.map_map, Function.comp_def] using hw.1, ?_⟩
    have : ∀ (l : List (Bytes × JV)), (∀ kv ∈ l, WF (g (.key kv.1) kv.2)) → WFK (l.map fun m => (m.1, g (.key m.1) m.2)) := by
      intro l
      induction l with
      | nil => intro _; trivial
      | cons kv r ih => intro h; exact ⟨h kv (by simp), ih (fun kv' h' => h kv' (List.mem_cons_of_mem _ h'))⟩
    exact this kvs (fun kv hkv => hg (.key kv.1) kv.2 (by simpa [child?] using lookup_of_mem_nodup kvs hw.1 kv hkv))
  | _ => exact hw

theorem WF_updAll (m : JV → JV) (hm : ∀ c, WF c → WF (m c)) (d : JV) : ∀ (T : List Path), WF d → WF (updAll m T d) := by
  induction d using kidsInd with
  | h d ih =>
    intro T hw
    have hk := WF_mapKids (fun l c => updAll m (strip l T) c) d hw fun l c hc =>
      ih c (kid_of_child hc) _ (WF_child l d c hw hc)
    rw [updAll_eq]
    split
    · exact hm _ hk
    · exact hk

def isFilterF : Frag → Bool
  | .filter _ => true
  | _ => false

def NoFilter (x : List Frag) : Prop := ∀ f ∈ x, isFilterF f = false

theorem child?_topShape (l : Loc) (d : JV) : child? l (topShape d) = (child? l d).map fun _ => JV.null := by
  cases d with
  | arr xs => cases l <;> simp [topShape, child?]
  | obj kvs =>
    cases l with
    | idx i => rfl
    | key k => exact lookup_map (fun _ _ => .null) k kvs
  | _ => cases l <;> rfl

theorem memberLoc_topShape (d : JV) : memberLoc (topShape d) = memberLoc d := by
  funext mb
  cases mb <;> cases d <;> simp [memberLoc, topShape]

theorem modLastSteps_topShape (dev : Dev) (f : Frag) (hf : isFilterF f = false) (d : JV) :
    modLastSteps dev f (topShape d) = modLastSteps dev f d := by
  cases f with
  | filter p => cases hf
  | nth i => simp only [modLastSteps, memberLoc_topShape]
  | union ms => simp only [modLastSteps, unionLocs, memberLoc_topShape]
  | _ => cases d <;> simp [modLastSteps, topShape, keyLocs, List.map_map, Function.comp_def]

theorem TopNodup_topShape (d : JV) : TopNodup (topShape d) ↔ TopNodup d := by
  cases d <;> simp [TopNodup, topShape, keysOf, List.map_map, Function.comp_def]

theorem goodAt_topShape (dev : Dev) (f : Frag) (hf : isFilterF f = false) (d : JV) : GoodAt σ dev f (topShape d) ↔ GoodAt σ dev f d := by
  cases f with
  | filter p => cases hf
  | union ms => simp only [GoodAt, unionLocs, memberLoc_topShape]
  | slice s e t => cases d <;> simp [GoodAt, topShape]
  | _ => exact Iff.rfl

theorem TopNodup_shape (d d' : JV) (h : topShape d = topShape d') (hn : TopNodup d) : TopNodup d' :=
  (TopNodup_topShape d').1 (h ▸ (TopNodup_topShape d).2 hn)

theorem goodAt_shape (dev : Dev) (f : Frag) (hf : isFilterF f = false) (d d' : JV) (h : topShape d = topShape d')
    (hg : GoodAt σ dev f d) : GoodAt σ dev f d' :=
  (goodAt_topShape dev f hf d').1 (h ▸ (goodAt_topShape dev f hf d).2 hg)

theorem sel_shape (dev : Dev) (f : Frag) (hf : isFilterF f = false) (d d' : JV) (h : topShape d = topShape d') (hn : TopNodup d)
    (hg : GoodAt σ dev f d) (l : Loc) (c : JV) (hc : child? l d = some c) (hsel : ([l], c) ∈ selG σ f d) :
    ∃ c', child? l d' = some c' ∧ ([l], c') ∈ selG σ f d' := by
  have hok := modLastSteps_ok (σ := σ) dev f d hn hg
  have hok' := modLastSteps_ok (σ := σ) dev f d' (TopNodup_shape d d' h hn) (goodAt_shape dev f hf d d' h hg)
  have hst : modLastSteps dev f d = modLastSteps dev f d' := by
    rw [← modLastSteps_topShape dev f hf d, h, modLastSteps_topShape dev f hf d']
  have hsome := congrArg (fun e => (child? l e).isSome) h
  simp only [child?_topShape, hc, Option.map_some, Option.isSome_some, Option.isSome_map] at hsome
  cases hc' : child? l d' with
  | none => rw [hc'] at hsome; cases hsome
  | some c' => exact ⟨c', rfl, (hok'.mem l c' hc').1 (hst ▸ (hok.mem l c hc).2 hsel)⟩

theorem locs_shape (dev : Dev) : ∀ (rest : List Frag), NoDescent rest → NoFilter rest → ∀ (d d' : JV), WF d → WF d' →
    GoodPath σ dev rest d → ShapeEq rest.length d d' → SameSet (locsG σ rest d) (locsG σ rest d') ∧ GoodPath σ dev rest d'
  | [], _, _, d, d', _, _, _, _ => ⟨fun p => by simp [locs_nil], trivial⟩
  | f :: r, hnd, hnf, d, d', hw, hw', hg, hs => by
    have hff : isFilterF f = false := hnf f (by simp)
    have hg' : GoodAt σ dev f d' := goodAt_shape dev f hff d d' hs.1 hg.1
    have hsh := Shape_of (σ := σ) f d (hnd f (by simp)) (WF_top d hw)
    have hsh' := Shape_of (σ := σ) f d' (hnd f (by simp)) (WF_top d' hw')
    have hfwd := sel_shape (σ := σ) dev f hff d d' hs.1 (WF_top d hw) hg.1
    have hbwd := sel_shape (σ := σ) dev f hff d' d hs.1.symm (WF_top d' hw') hg'
    have ih : ∀ l c c', child? l d = some c → child? l d' = some c' → ([l], c) ∈ selG σ f d →
        SameSet (locsG σ r c) (locsG σ r c') ∧ GoodPath σ dev r c' :=
      fun l c c' hc hc' hsel => locs_shape dev r (fun g hg' => hnd g (List.mem_cons_of_mem _ hg'))
        (fun g hg' => hnf g (List.mem_cons_of_mem _ hg')) c c' (WF_child l d c hw hc) (WF_child l d' c' hw' hc')
        (hg.2 ([l], c) hsel) (hs.2 l c c' hc hc')
    refine ⟨fun p => ?_, hg', fun m hm => ?_⟩
    · rw [mem_locs_cons, mem_locs_cons]
      constructor
      · rintro ⟨m, hm, q, hq, rfl⟩
        obtain ⟨l, hl, hc⟩ := hsh m hm
        have hsel : ([l], m.2) ∈ selG σ f d := by rw [← hl]; exact hm
        obtain ⟨c', hc', hsel'⟩ := hfwd l m.2 hc hsel
        exact ⟨([l], c'), hsel', q, ((ih l m.2 c' hc hc' hsel).1 q).1 hq, by rw [hl]⟩
      · rintro ⟨m, hm, q, hq, rfl⟩
        obtain ⟨l, hl, hc'⟩ := hsh' m hm
        have hsel' : ([l], m.2) ∈ selG σ f d' := by rw [← hl]; exact hm
        obtain ⟨c, hc, hsel⟩ := hbwd l m.2 hc' hsel'
        exact ⟨([l], c), hsel, q, ((ih l c m.2 hc hc' hsel).1 q).2 hq, by rw [hl]⟩
    · obtain ⟨l, hl, hc'⟩ := hsh' m hm
      have hsel' : ([l], m.2) ∈ selG σ f d' := by rw [← hl]; exact hm
      obtain ⟨c, hc, hsel⟩ := hbwd l m.2 hc' hsel'
      exact (ih l c m.2 hc hc' hsel).2

abbrev locsD (σ : SliceFn) (rest : List Frag) (d : JV) : List Path := locsG σ (.descent :: rest) d

theorem mem_locsD (rest : List Frag) (d : JV) (p : Path) :
    p ∈ locsD σ rest d ↔ ∃ m ∈ desc d, ∃ q ∈ locsG σ rest m.2, p = m.1 ++ q :=
  mem_locs_cons (σ := σ) .descent rest d p

theorem locsD_len (rest : List Frag) (hnd : NoDescent rest) (d : JV) (hw : WF d) (p : Path) (hp : p ∈ locsD σ rest d) :
    rest.length ≤ p.length := by
  obtain ⟨m, hm, q, hq, rfl⟩ := (mem_locsD rest d p).1 hp
  have := locs_len (σ := σ) rest hnd m.2 (WF_desc d hw m hm) q hq
  simp [this]

theorem mem_locsD_iff (rest : List Frag) (d : JV) (hn : TopNodup d) (p : Path) :
    p ∈ locsD σ rest d ↔ p ∈ locsG σ rest d ∨ ∃ l c q, child? l d = some c ∧ q ∈ locsD σ rest c ∧ p = l :: q := by
  rw [mem_locsD]
  constructor
  · rintro ⟨mm, hm, q, hq, rfl⟩
    rcases (mem_desc d hn mm).1 hm with rfl | ⟨l, c, hc, m', hm', rfl⟩
    · exact Or.inl hq
    · exact Or.inr ⟨l, c, m'.1 ++ q, hc, (mem_locsD rest c _).2 ⟨m', hm', q, hq, rfl⟩, rfl⟩
  · rintro (hp | ⟨l, c, q', hc, hq', rfl⟩)
    · exact ⟨([], d), self_mem_desc d, p, hp, rfl⟩
    · obtain ⟨m', hm', q, hq, rfl⟩ := (mem_locsD rest c q').1 hq'
      exact ⟨pfx l m', (mem_desc d hn _).2 (Or.inr ⟨l, c, hc, m', hm', rfl⟩), q, hq, rfl⟩

/-- what `..rest` selects strictly below a value: in its members -/
def locsBelow (σ : SliceFn) (rest : List Frag) (d : JV) : List Path := (locsD σ rest d).filter fun p => rest.length < p.length

theorem mem_locsBelow (rest : List Frag) (hnd : NoDescent rest) (d : JV) (hw : WF d) (p : Path) :
    p ∈ locsBelow σ rest d ↔ ∃ l c q, child? l d = some c ∧ q ∈ locsD σ rest c ∧ p = l :: q := by
  rw [locsBelow, List.mem_filter, mem_locsD_iff rest d (WF_top d hw), decide_eq_true_eq]
  constructor
  · rintro ⟨h | h, hl⟩
    · rw [locs_len (σ := σ) rest hnd d hw p h] at hl; exact absurd hl (Nat.lt_irrefl _)
    · exact h
  · rintro ⟨l, c, q, hc, hq, rfl⟩
    exact ⟨Or.inr ⟨l, c, q, hc, hq, rfl⟩, Nat.lt_succ_of_le (locsD_len rest hnd c (WF_child l d c hw hc) q hq)⟩

theorem locsD_split (rest : List Frag) (hnd : NoDescent rest) (d : JV) (hw : WF d) :
    SameSet (locsD σ rest d) (locsBelow σ rest d ++ locsG σ rest d) := by
  intro p
  rw [List.mem_append, mem_locsBelow rest hnd d hw, mem_locsD_iff rest d (WF_top d hw)]
  exact or_comm

theorem strip_locsBelow (rest : List Frag) (hnd : NoDescent rest) (d c : JV) (l : Loc) (hw : WF d) (hc : child? l d = some c) :
    SameSet (strip l (locsBelow σ rest d)) (locsD σ rest c) := by
  intro q
  rw [mem_strip, mem_locsBelow rest hnd d hw]
  constructor
  · rintro ⟨l', c', q', hc', hq', e⟩
    injection e with e1 e2
    subst e1 e2
    rw [hc] at hc'
    injection hc' with hc'
    exact hc' ▸ hq'
  · exact fun h => ⟨l, c, q, hc, h, rfl⟩

/-- the two hypotheses of `updAll_seq` for the parts of `locsD_split` -/
theorem locsBelow_sep (rest : List Frag) (hnd : NoDescent rest) (d : JV) (hw : WF d) :
    (∀ b ∈ locsG σ rest d, b.length < rest.length + 1) ∧
      ∀ a ∈ locsBelow σ rest d, ∀ b ∈ locsG σ rest d, b.length < a.length :=
  ⟨fun b hb => by rw [locs_len (σ := σ) rest hnd d hw b hb]; exact Nat.lt_succ_self _,
   fun a ha b hb => by rw [locs_len (σ := σ) rest hnd d hw b hb]; exact of_decide_eq_true (List.mem_filter.1 ha).2⟩

theorem locsBelow_len (rest : List Frag) (hne : rest ≠ []) (d : JV) (p : Path) (hp : p ∈ locsBelow σ rest d) : 2 ≤ p.length := by
  have := of_decide_eq_true (List.mem_filter.1 hp).2
  cases rest with
  | nil => exact absurd rfl hne
  | cons g r => simp only [List.length_cons] at this; omega

theorem locsD_scalar (rest : List Frag) (hne : rest ≠ []) (hnd : NoDescent rest) (d : JV) (hd : isContainer d = false) :
    locsD σ rest d = [] := by
  cases rest with
  | nil => exact absurd rfl hne
  | cons g r =>
    refine List.eq_nil_iff_forall_not_mem.2 fun p hp => ?_
    rcases (mem_locsD_iff (g :: r) d (by cases d <;> trivial) p).1 hp with h | ⟨l, c, _, hc, _⟩
    · rw [locs_scalar (σ := σ) g r d (hnd g (by simp)) hd] at h; cases h
    · rw [child?_scalar l d hd] at hc; cases hc

theorem updAll_locsD_node (g : JV → JV) (rest : List Frag) (hne : rest ≠ []) (hnd : NoDescent rest) (d : JV) (hw : WF d) :
    updAll g (locsD σ rest d) d = updAll g (locsG σ rest d) (mapKids (fun _ c => updAll g (locsD σ rest c) c) d) := by
  obtain ⟨h1, h2⟩ := locsBelow_sep (σ := σ) rest hnd d hw
  rw [updAll_congr g d _ _ (locsD_split rest hnd d hw), updAll_seq g _ _ _ d h1 h2, updAll_eq g (locsBelow σ rest d),
    hasNil_false fun h => absurd (locsBelow_len rest hne d [] h) (by simp)]
  simp only [Bool.false_eq_true, if_false]
  exact congrArg _ (mapKids_congr d (WF_top d hw) fun l c hc => updAll_congr g c _ _ (strip_locsBelow rest hnd d c l hw hc))

/-! The same three facts for `remAll` and `delAll`, from one level of a `DropEdit`. -/

/-- locations `[]` in the set do not count -/
theorem DropEdit.ignore {E : List Path → JV → JV} (hE : DropEdit E) (A B : List Path) (hB : ∀ b ∈ B, b = []) (d : JV) :
    E (A ++ B) d = E A d := by
  rw [hE.step (A ++ B) A (fun _ c => c) d
    (fun l => by rw [List.contains_append, not_contains B [l] (fun h => nomatch hB _ h), Bool.or_false])
    (fun l c => by rw [strip_append, strip_all_nil l B hB, List.append_nil]), mapKids_id]

/-- positions are those of the input: the edits of `A` lie below the containers `B` drops from. `N` bounds the lengths
in `B` and carries the recursion -/
theorem DropEdit.seq {E : List Path → JV → JV} (hE : DropEdit E) : ∀ (N : Nat) (A B : List Path) (d : JV),
    (∀ b ∈ B, b.length < N) → (∀ a ∈ A, ∀ b ∈ B, b.length < a.length) → E (A ++ B) d = E B (E A d)
  | 0, A, B, d, hN, _ => by rw [nil_of_lt_zero hN, List.append_nil, hE.nil]
  | N + 1, A, B, d, hN, hlt => by
    rcases sep_cases hlt with hall | hA
    · rw [hE.ignore A B hall, ← List.nil_append B, hE.ignore [] B hall, hE.nil]
    · rw [hE.inner A hA d]
      exact hE.step (A ++ B) B _ d (fun l => by rw [List.contains_append, not_contains A [l] (hA l), Bool.false_or]) fun l c => by
        rw [strip_append]
        exact DropEdit.seq hE N _ _ c (strip_lt hN) (strip_sep hlt)

/-- a drop at a location of length `N` changes the member list at depth `N` (an update there does not: `updAll_shape`
asks `N ≤ p.length` only), so the locations must be longer than `N` -/
theorem DropEdit.shape {E : List Path → JV → JV} (hE : DropEdit E) : ∀ (N : Nat) (T : List Path) (d : JV),
    (∀ p ∈ T, N + 1 ≤ p.length) → ShapeEq N d (E T d)
  | 0, _, _, _ => trivial
  | N + 1, T, d, h => by
    rw [hE.inner T (fun l hl => absurd (h [l] hl) (by simp)) d]
    exact shapeEq_mapKids _ d fun l c _ => DropEdit.shape hE N _ c (strip_le h)

theorem DropEdit.locsD_node {E : List Path → JV → JV} (hE : DropEdit E) (rest : List Frag) (hne : rest ≠ [])
    (hnd : NoDescent rest) (d : JV) (hw : WF d) :
    E (locsD σ rest d) d = E (locsG σ rest d) (mapKids (fun _ c => E (locsD σ rest c) c) d) := by
  obtain ⟨h1, h2⟩ := locsBelow_sep (σ := σ) rest hnd d hw
  rw [hE.congr d _ _ (locsD_split rest hnd d hw), hE.seq _ _ _ d h1 h2,
    hE.inner _ (fun l h => absurd (locsBelow_len rest hne d [l] h) (by simp)) d]
  exact congrArg _ (mapKids_congr d (WF_top d hw) fun l c hc => hE.congr c _ _ (strip_locsBelow rest hnd d c l hw hc))

mutual
  /-- the rest of the path is good (`GoodPath`) on every node of the value -/
  def GoodD (σ : SliceFn) (dev : Dev) (rest : List Frag) : JV → Prop
    | .arr xs => GoodPath σ dev rest (.arr xs) ∧ GoodDL σ dev rest xs
    | .obj kvs => GoodPath σ dev rest (.obj kvs) ∧ GoodDK σ dev rest kvs
    | .null => True
    | .bool _ => True
    | .int _ => True
    | .flt _ => True
    | .big _ => True
    | .num _ => True
    | .str _ => True
  def GoodDL (σ : SliceFn) (dev : Dev) (rest : List Frag) : List JV → Prop
    | [] => True
    | x :: r => GoodD σ dev rest x ∧ GoodDL σ dev rest r
  def GoodDK (σ : SliceFn) (dev : Dev) (rest : List Frag) : List (Bytes × JV) → Prop
    | [] => True
    | m :: r => GoodD σ dev rest m.2 ∧ GoodDK σ dev rest r
end

theorem goodDL_iff (dev : Dev) (rest : List Frag) : ∀ (xs : List JV), GoodDL σ dev rest xs ↔ ∀ x ∈ xs, GoodD σ dev rest x
  | [] => by simp [GoodDL]
  | x :: r => by simp [GoodDL, goodDL_iff dev rest r]

theorem goodDK_iff (dev : Dev) (rest : List Frag) : ∀ (kvs : List (Bytes × JV)),
    GoodDK σ dev rest kvs ↔ ∀ kv ∈ kvs, GoodD σ dev rest kv.2
  | [] => by simp [GoodDK]
  | x :: r => by simp [GoodDK, goodDK_iff dev rest r]

theorem goodD_iff (dev : Dev) (rest : List Frag) (d : JV) :
    GoodD σ dev rest d ↔ (isContainer d = true → GoodPath σ dev rest d) ∧ ∀ c ∈ kids d, GoodD σ dev rest c := by
  cases d with
  | arr xs => simp only [GoodD, goodDL_iff, kids, isContainer, true_implies]
  | obj kvs => simp only [GoodD, goodDK_iff, kids, isContainer, true_implies, List.forall_mem_map]
  | _ => exact ⟨fun _ => ⟨(fun h => nomatch h), (fun _ h => nomatch h)⟩, fun _ => trivial⟩

/-- One node of the descent. The members' edits lie too deep to change what `rest` selects from the node (`updAll_shape`,
`locs_shape`), so `modF_eq` on the edited node edits at the locations selected in the original one. -/
theorem desc_node (dev : Dev) (m : Modifier) (hm : ∀ c, WF c → WF (m.eff c)) (rest : List Frag) (hne : rest ≠ [])
    (hnd : NoDescent rest) (hnf : NoFilter rest) (d : JV) (hw : WF d) (hg : GoodPath σ dev rest d) :
    modF false dev false m rest false (mapKids (fun _ c => updAll m.eff (locsD σ rest c) c) d) =
      ⟨updAll m.eff (locsD σ rest d) d, .go⟩ := by
  have hw' : WF (mapKids (fun _ c => updAll m.eff (locsD σ rest c) c) d) :=
    WF_mapKids _ d hw (fun l c hc => WF_updAll m.eff hm c _ (WF_child l d c hw hc))
  have hshape : ShapeEq (rest.length + 1) d (mapKids (fun _ c => updAll m.eff (locsD σ rest c) c) d) :=
    shapeEq_mapKids _ d fun l c hc => updAll_shape m.eff rest.length _ c (locsD_len rest hnd c (WF_child l d c hw hc))
  obtain ⟨hsame, hg'⟩ := locs_shape (σ := σ) dev rest hnd hnf d _ hw hw' hg (ShapeEq.mono _ _ _ hshape)
  rw [modF_eq dev m rest hne hnd false _ hw' hg', ← updAll_congr m.eff _ _ _ hsame, updAll_locsD_node m.eff rest hne hnd d hw]

/-- the descent work-list of Modify (all matches, simple data) against the denotation: bottom-up application of the rest of
the path = the simultaneous edit at everything `..rest` selects -/
theorem descGo_upd (dev : Dev) (m : Modifier) (hm : ∀ c, WF c → WF (m.eff c)) (rest : List Frag) (hne : rest ≠ [])
    (hnd : NoDescent rest) (hnf : NoFilter rest) : ∀ (d : JV), WF d → GoodD σ dev rest d →
    descGo (modF false dev false m rest false) d = ⟨updAll m.eff (locsD σ rest d) d, .go⟩ := by
  intro d hw hg
  have hst := descGo_st _ (fun c => modF_st dev m rest false c) d
  rw [R_eta _ hst]
  congr 1
  exact descGo_all _ (fun c => updAll m.eff (locsD σ rest c) c) (fun c => WF c ∧ GoodD σ dev rest c)
    (fun c h => ⟨WF_top c h.1, fun e he => ⟨WF_kid h.1 he, ((goodD_iff dev rest c).1 h.2).2 e he⟩⟩)
    (fun c hc => by rw [locsD_scalar rest hne hnd c hc, updAll_nil])
    (fun c h hc _ => congrArg R.d (desc_node dev m hm rest hne hnd hnf c h.1 (((goodD_iff dev rest c).1 h.2).1 hc)))
    d ⟨hw, hg⟩ hst

theorem descArr_upd (dev : Dev) (m : Modifier) (hm : ∀ c, WF c → WF (m.eff c)) (rest : List Frag) (hne : rest ≠ [])
    (hnd : NoDescent rest) (hnf : NoFilter rest) : ∀ (xs : List JV), WFL xs → GoodDL σ dev rest xs →
    descArr (modF false dev false m rest false) xs = ⟨xs.map fun c => updAll m.eff (locsD σ rest c) c, .go⟩ := by
  intro xs hw hg
  have h := fun x hx => descGo_upd dev m hm rest hne hnd hnf x (WFL_mem xs hw x hx) ((goodDL_iff dev rest xs).1 hg x hx)
  rw [descArr_go _ xs fun x hx => by rw [h x hx]]
  exact congrArg (RL.mk · .go) (List.map_congr_left fun x hx => by rw [h x hx])

theorem descObj_upd (dev : Dev) (m : Modifier) (hm : ∀ c, WF c → WF (m.eff c)) (rest : List Frag) (hne : rest ≠ [])
    (hnd : NoDescent rest) (hnf : NoFilter rest) : ∀ (kvs : List (Bytes × JV)), WFK kvs → GoodDK σ dev rest kvs →
    descObj (modF false dev false m rest false) kvs = ⟨kvs.map fun kv => (kv.1, updAll m.eff (locsD σ rest kv.2) kv.2), .go⟩ := by
  intro kvs hw hg
  have h := fun kv hkv => descGo_upd dev m hm rest hne hnd hnf _ (WFK_mem kvs hw kv hkv) ((goodDK_iff dev rest kvs).1 hg kv hkv)
  rw [descObj_go _ kvs fun kv hkv => by rw [h kv hkv]]
  exact congrArg (RO.mk · .go) (List.map_congr_left fun kv hkv => by rw [h kv hkv])

/-- the fragments before the descent are good on the values they meet, the rest is good on every node the descent reaches -/
def GoodPre (σ : SliceFn) (dev : Dev) (rest : List Frag) : List Frag → JV → Prop
  | [], d => GoodD σ dev rest d
  | f :: pre, d => GoodAt σ dev f d ∧ ∀ m ∈ selG σ f d, GoodPre σ dev rest pre m.2

theorem modF_descent (gen : Bool) (dev : Dev) (one : Bool) (m : Modifier) (rest : List Frag) (hne : rest ≠ []) (d : JV) :
    modF gen dev one m (.descent :: rest) false d = descGo (modF gen dev one m rest false) d := by
  cases rest with
  | nil => exact absurd rfl hne
  | cons g r => rfl

theorem setF_descent (gen : Bool) (dev : Dev) (one : Bool) (a : SetArg) (rest : List Frag) (hne : rest ≠ []) (d : JV) :
    setF gen dev one a (.descent :: rest) false d = descGo (setF gen dev one a rest false) d := by
  cases rest with
  | nil => exact absurd rfl hne
  | cons g r => rfl

theorem locs_tail_scalar (rest : List Frag) (hne : rest ≠ []) (hnd : NoDescent rest) : ∀ (pre : List Frag), NoDescent pre →
    ∀ (c : JV), isContainer c = false → locsG σ (pre ++ .descent :: rest) c = []
  | [], _, c, hc => locsD_scalar (σ := σ) rest hne hnd c hc
  | g :: pre, hp, c, hc => locs_scalar (σ := σ) g _ c (hp g (by simp)) hc

theorem locs_tail_no_nil (rest : List Frag) (hne : rest ≠ []) (hnd : NoDescent rest) : ∀ (pre : List Frag), NoDescent pre →
    ∀ (c : JV), WF c → [] ∉ locsG σ (pre ++ .descent :: rest) c
  | [], _, c, hw => by
    intro h
    have := locsD_len (σ := σ) rest hnd c hw [] h
    have hn : 1 ≤ rest.length := by cases rest with | nil => exact absurd rfl hne | cons g r => simp
    simp only [List.length_nil] at this; omega
  | g :: p, hp, c, hw => by
    intro h
    have := hasNil_locs_cons (σ := σ) g (p ++ .descent :: rest) c (Shape_of (σ := σ) g c (hp g (by simp)) (WF_top c hw))
    rw [List.cons_append] at h
    rw [(hasNil_iff _).2 h] at this
    cases this

theorem modF_preD (dev : Dev) (hsib : dev.descentSiblings = false) (m : Modifier) (hm : ∀ c, WF c → WF (m.eff c))
    (rest : List Frag) (hne : rest ≠ []) (hnd : NoDescent rest) (hnf : NoFilter rest) : ∀ (pre : List Frag), NoDescent pre →
    ∀ (fl : Bool) (d : JV), WF d → GoodPre σ dev rest pre d → (pre = [] → fl = false) →
    modF false dev false m (pre ++ .descent :: rest) fl d = ⟨updAll m.eff (locsG σ (pre ++ .descent :: rest) d) d, .go⟩
  | [], _, fl, d, hw, hg, hfl => by
    rw [hfl rfl, List.nil_append, modF_descent _ _ _ _ rest hne]
    exact descGo_upd (σ := σ) dev m hm rest hne hnd hnf d hw hg
  | f :: pre, hp, fl, d, hw, hg, _ => by
    have hpp : NoDescent pre := fun g hg' => hp g (List.mem_cons_of_mem _ hg')
    have hok := modSteps_ok (σ := σ) dev f d (WF_top d hw) hg.1
    have hst := visitD_st (contOnly f) dev.descentSiblings (fun _ => modF false dev false m (pre ++ .descent :: rest) false)
      (fun _ c => modF_st dev m _ false c) (modSteps dev f d) false d
    rw [List.cons_append, modF_cons false dev false m f (hp f (by simp)), if_neg (by simp), visitD_flag _ _ _ (fun _ _ => by rw [hsib, Bool.and_false]), R_eta _ hst,
      visitD_spec _ _ _ (fun _ _ => rfl) _ d hok.nodup (WF_top d hw)
        (fun c => updAll m.eff (locsG σ (pre ++ .descent :: rest) c) c) ?_ ?_ hst,
      (updAll_edit m.eff).level_steps hok _ (WF_top d hw) (updAll_inner _ f _ d hok.shape)]
    · exact fun l c hc hl _ => congrArg R.d (modF_preD dev hsib m hm rest hne hnd hnf pre hpp false c (WF_child l d c hw hc)
        (hg.2 ([l], c) ((hok.mem l c hc).1 hl)) (fun _ => rfl))
    · intro c _ hsc
      rw [locs_tail_scalar (σ := σ) rest hne hnd pre hpp c hsc, updAll_nil]

theorem getLast?_descent (pre rest : List Frag) (hne : rest ≠ []) : (pre ++ .descent :: rest).getLast? = rest.getLast? := by
  rw [List.getLast?_append]
  cases rest with
  | nil => exact absurd rfl hne
  | cons g r =>
    simp only [List.getLast?_cons_cons]
    cases h : (g :: r).getLast? with
    | none => simp at h
    | some z => rfl

theorem last_not_descent (pre rest : List Frag) (hne : rest ≠ []) (hnd : NoDescent rest) :
    isDescent (pre ++ .descent :: rest).getLast? = false := by
  rw [getLast?_descent pre rest hne]
  exact NoDescent.last hnd

theorem goodPre_wrap (dev : Dev) (rest pre : List Frag) (d : JV) (hg : GoodPre σ dev rest pre d) :
    GoodPre σ dev rest (.nth 0 :: pre) (.arr [d]) := by
  refine ⟨trivial, fun m' hm' => ?_⟩
  rw [selG_wrap, List.mem_singleton] at hm'
  rw [hm']; exact hg

/-- Modify through a descent (all matches, simple data): for a path `pre ++ [..] ++ rest` with ONE recursive descent,
`rest` non-empty and free of filters and descents, the returned tree is the input with the modifier applied at exactly
the locations the path selects (`JPath.eval` includes the descent), inner locations first -/
theorem modifyM_descent_eq (dev : Dev) (hsib : dev.descentSiblings = false) (m : Modifier) (hm : ∀ c, WF c → WF (m.eff c))
    (pre rest : List Frag) (hp : NoDescent pre) (hne : rest ≠ []) (hnd : NoDescent rest) (hnf : NoFilter rest) (d : JV) (hw : WF d)
    (hg : GoodPre σ dev rest pre d) :
    modifyM false dev false m (pre ++ .descent :: rest) d = .ok (updAll m.eff (locsG σ (pre ++ .descent :: rest) d) d) :=
  modifyM_unwrap dev m _ d (last_not_descent pre rest hne hnd) (fun h => by cases pre <;> cases h.1)
    (modF_preD (σ := σ) dev hsib m hm rest hne hnd hnf (.nth 0 :: pre) (noDescent_wrap hp) false (.arr [d])
      (by simp [WF, WFL, hw]) (goodPre_wrap dev rest pre d hg) (fun h => by cases h))

/-- a selected location that has no selected location above it holds the modifier's result — on the subtree as it is after
the edits inside it (nested selections occur below a descent only) -/
theorem updAll_hit_outer (m : JV → JV) : ∀ (p : Path) (T : List Path) (d c : JV), p ∈ T →
    (∀ p' ∈ T, p'.isPrefixOf p = true → p' = p) → valAt p d = some c → ∃ c', valAt p (updAll m T d) = some (m c')
  | [], T, d, c, hp, _, _ => by
    rw [updAll_eq, (hasNil_iff T).2 hp]
    exact ⟨_, rfl⟩
  | l :: q, T, d, c, hp, hout, hv => by
    have hn : hasNil T = false := hasNil_false fun h => nomatch hout [] h (by simp [List.isPrefixOf])
    rw [valAt_cons] at hv
    cases hc : child? l d with
    | none => rw [hc] at hv; cases hv
    | some c0 =>
      rw [hc] at hv
      simp only [Option.bind_some] at hv
      rw [updAll_eq, hn]
      simp only [Bool.false_eq_true, if_false, valAt_cons, child?_mapKids, hc, Option.map_some, Option.bind_some]
      apply updAll_hit_outer m q (strip l T) c0 c ((mem_strip l T q).2 hp) _ hv
      intro p' hp' hpre
      have := hout (l :: p') ((mem_strip l T p').1 hp') (by simpa [isPrefixOf_cons_cons] using hpre)
      simpa using this

end OjgVerif.JPMut
