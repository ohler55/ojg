import OjgVerif.JPMut.LemmasAll
/-! # `Expr.modify` edits exactly the locations the path selects (paths without a descent)

`modF_eq`: on well-formed data, for a path without descent whose unions list no member twice and whose
slices — in the reading of the code — select the indexes of the specification on the arrays they meet
(`GoodAt σ`), the traversal of modify.go ends normally and leaves `updAll m.eff (locsG σ x d) d`: the tree
edited with the modifier at exactly the locations the path selects. -/
namespace OjgVerif.JPMut
open OjgVerif.JPath

variable {σ : SliceFn} [NodupSlice σ]

theorem modSeq_pure (dev : Dev) (m : Modifier) : ∀ (steps : List Loc) (fl : Bool) (d : JV),
    modSeq false dev false m false steps d = visitD false false (fun _ c => ⟨m.eff c, .go⟩) fl steps d
  | [], _, d => rfl
  | l :: ls, fl, d => by
    simp only [modSeq, visitD]
    cases hc : child? l d with
    | none => exact modSeq_pure dev m ls fl d
    | some c =>
      simp only [Bool.false_and, Bool.false_eq_true, if_false, ap, Modifier.eff]
      by_cases hm : (m c).2 = true
      · simp only [hm, if_true]
        exact modSeq_pure dev m ls _ _
      · have hm' : (m c).2 = false := by simpa using hm
        simp only [hm', Bool.false_eq_true, if_false]
        rw [putChild_self l d c hc]
        exact modSeq_pure dev m ls _ d

theorem modSeq_eq (dev : Dev) (m : Modifier) (steps : List Loc) (f : Frag) (d : JV) (hw : TopNodup d)
    (hok : StepsOK σ steps f d) :
    modSeq false dev false m false steps d = ⟨updAll m.eff (locsG σ [f] d) d, .go⟩ := by
  have hst := visitD_st false false (fun _ c => (⟨m.eff c, .go⟩ : R)) (fun _ _ => rfl) steps false d
  rw [modSeq_pure dev m steps false, R_eta _ hst,
    visitD_spec false false _ (fun _ _ => rfl) steps d hok.nodup hw m.eff (fun _ _ _ _ _ => rfl) (fun _ h => by cases h) hst,
    updAll_last _ hok hw]

/-- the fragment behaves in modify.go as in the specification on the value `e`: a union lists no member
of `e` twice; a slice — as modify.go reads it — selects in the array `e` the indexes the specification
selects; a filter does not meet the reflect branch that deletes on null; no descent -/
def GoodAt (σ : SliceFn) (dev : Dev) (f : Frag) (e : JV) : Prop :=
  match f with
  | .child _ => True
  | .nth _ => True
  | .wild => True
  | .union ms => (unionLocs ms e).Nodup
  | .slice s e' t => ∀ xs, e = .arr xs → modIdx dev xs.length s e' t = σ xs.length s e' t
  | .filter _ => dev.filterMapNil = false ∨ ∀ kvs, e ≠ .obj kvs
  | .descent => False

/-- every fragment of the path is good on the values it is applied to -/
def GoodPath (σ : SliceFn) (dev : Dev) : List Frag → JV → Prop
  | [], _ => True
  | f :: r, d => GoodAt σ dev f d ∧ ∀ m ∈ selG σ f d, GoodPath σ dev r m.2

theorem GoodAt.notDescent {dev : Dev} {f : Frag} {e : JV} (h : GoodAt σ dev f e) : isDescentF f = false := by
  cases f <;> simp_all [GoodAt, isDescentF]

theorem stepsOK_sortedKeys (kvs : List (Bytes × JV)) (hw : (keysOf kvs).Nodup) :
    StepsOK σ ((sortedKeys kvs).map Loc.key) .wild (.obj kvs) := by
  have h := stepsOK_wild (σ := σ) (.obj kvs) hw
  have hp : ((sortedKeys kvs).map Loc.key).Perm (keyLocs kvs) := by
    have e : keyLocs kvs = (keysOf kvs).map Loc.key := by simp [keyLocs, keysOf]
    exact e ▸ (sortedKeys_perm kvs).map Loc.key
  exact h.perm (hp.nodup_iff.2 h.nodup) (fun _ => hp.mem_iff)

theorem modLastSteps_ok (dev : Dev) (f : Frag) (d : JV) (hw : TopNodup d) (hg : GoodAt σ dev f d) :
    StepsOK σ (modLastSteps dev f d) f d := by
  cases f with
  | child k => exact stepsOK_child (σ := σ) k d
  | nth i => exact stepsOK_nth (σ := σ) i d
  | wild =>
    have h := stepsOK_wild (σ := σ) d hw
    cases d <;> exact h
  | union ms => exact stepsOK_union (σ := σ) ms d hg
  | slice s e t =>
    have h := stepsOK_slice (σ := σ) s e t d (modIdx dev · s e t) (fun xs h => hg xs h) (fun xs _ => NodupSlice.nodup _ s e t)
    cases d <;> exact h
  | filter p =>
    cases d with
    | arr xs => exact stepsOK_filter (σ := σ) p _ _ (stepsOK_wild (σ := σ) (.arr xs) hw)
    | obj kvs => exact stepsOK_filter (σ := σ) p _ _ (stepsOK_sortedKeys (σ := σ) kvs hw)
    | _ => exact stepsOK_scalar_nil (σ := σ) _ _ rfl rfl
  | descent => cases hg

theorem modSteps_ok (dev : Dev) (f : Frag) (d : JV) (hw : TopNodup d) (hg : GoodAt σ dev f d) :
    StepsOK σ (modSteps dev f d) f d := by
  cases f with
  | child k => exact stepsOK_child (σ := σ) k d
  | nth i => exact stepsOK_nth (σ := σ) i d
  | wild =>
    have h := stepsOK_wild (σ := σ) d hw
    cases d with
    | arr xs => exact h.reverse
    | obj kvs => exact h.reverse
    | _ => exact h
  | union ms => exact (stepsOK_union (σ := σ) ms d hg).reverse
  | slice s e t =>
    have h := stepsOK_slice (σ := σ) s e t d (modIdx dev · s e t) (fun xs h => hg xs h) (fun xs _ => NodupSlice.nodup _ s e t)
    cases d with
    | arr xs => exact h.reverse
    | _ => exact h
  | filter p =>
    cases d with
    | arr xs => exact stepsOK_filter (σ := σ) p _ _ (stepsOK_wild (σ := σ) (.arr xs) hw)
    | obj kvs => exact stepsOK_filter (σ := σ) p _ _ (stepsOK_wild (σ := σ) (.obj kvs) hw)
    | _ => exact stepsOK_scalar_nil (σ := σ) _ _ rfl rfl
  | descent => cases hg

theorem descGo_st (k : JV → R) (hk : ∀ c, (k c).st = .go) : ∀ (d : JV), (descGo k d).st = .go :=
  descGo_pred (· = .go) rfl k hk

theorem descArr_st (k : JV → R) (hk : ∀ c, (k c).st = .go) : ∀ (xs : List JV), (descArr k xs).st = .go :=
  descArr_pred (· = .go) rfl k hk

theorem descObj_st (k : JV → R) (hk : ∀ c, (k c).st = .go) : ∀ (kvs : List (Bytes × JV)), (descObj k kvs).st = .go :=
  descObj_pred (· = .go) rfl k hk

theorem modF_st (dev : Dev) (m : Modifier) : ∀ (x : List Frag) (fl : Bool) (d : JV),
    (modF false dev false m x fl d).st = .go :=
  modF_pred (· = .go) rfl false dev false m (fun h => by cases h) (fun h => by cases h)

theorem modF_fl (gen : Bool) (dev : Dev) (one : Bool) (m : Modifier) (g : Frag) (r : List Frag) (hg : isDescentF g = false)
    (fl : Bool) (c : JV) : modF gen dev one m (g :: r) fl c = modF gen dev one m (g :: r) false c := by
  cases g <;> first | rfl | cases hg

/-- modify.go, all matches, simple data: the tree edited with the modifier at exactly the selected locations -/
theorem modF_eq (dev : Dev) (m : Modifier) : ∀ (x : List Frag), x ≠ [] → NoDescent x → ∀ (fl : Bool) (d : JV), WF d →
    GoodPath σ dev x d → modF false dev false m x fl d = ⟨updAll m.eff (locsG σ x d) d, .go⟩
  | [], h, _, _, _, _, _ => absurd rfl h
  | [f], _, _, fl, d, hw, hg => by
    have hgf : GoodAt σ dev f d := hg.1
    have hok := modLastSteps_ok (σ := σ) dev f d (WF_top d hw) hgf
    rw [modF_cons _ _ _ _ f hgf.notDescent, if_pos (by rfl)]
    simp only [modLast]
    split
    · next hfo =>
      -- a filter on an object: `GoodAt` says that the branch that deletes on null is off
      have hnil : dev.filterMapNil = false := by
        cases f with
        | filter p =>
          cases d with
          | obj kvs => exact hgf.resolve_right (fun h => h _ rfl)
          | _ => cases hfo
        | _ => cases hfo
      rw [hnil]
      exact modSeq_eq dev m _ f d (WF_top d hw) hok
    · exact modSeq_eq dev m _ f d (WF_top d hw) hok
  | f :: g :: r, _, hnd, fl, d, hw, hg => by
    have hndg : isDescentF g = false := hnd g (by simp)
    have hok := modSteps_ok (σ := σ) dev f d (WF_top d hw) hg.1
    have hk : ∀ fl c, modF false dev false m (g :: r) fl c = modF false dev false m (g :: r) false c :=
      fun fl c => modF_fl false dev false m g r hndg fl c
    have hst := visitD_st (contOnly f) dev.descentSiblings (modF false dev false m (g :: r))
      (fun fl c => modF_st dev m (g :: r) fl c) (modSteps dev f d) false d
    rw [modF_cons _ _ _ _ f hg.1.notDescent, if_neg (by simp), R_eta _ hst,
      visitD_spec _ _ _ hk _ d hok.nodup (WF_top d hw) (fun c => updAll m.eff (locsG σ (g :: r) c) c) ?_ ?_ hst,
      (updAll_edit m.eff).level_steps hok (g :: r) (WF_top d hw) (updAll_inner _ f (g :: r) d hok.shape)]
    · intro l c hc hl _
      rw [modF_eq dev m (g :: r) (by simp) (fun f' hf' => hnd f' (List.mem_cons_of_mem _ hf')) false c
        (WF_child l d c hw hc) (hg.2 ([l], c) ((hok.mem l c hc).1 hl))]
    · intro c _ hsc
      rw [locs_scalar (σ := σ) g r c hndg hsc, updAll_nil]

theorem NoDescent.last {x : List Frag} (h : NoDescent x) : isDescent x.getLast? = false := by
  cases hl : x.getLast? with
  | none => rfl
  | some f =>
    have := h f (List.mem_of_getLast? hl)
    cases f <;> simp_all [isDescent, isDescentF]

/-! `modify` runs the path behind an added `Nth(0)` on the wrapper `[d]`: `Nth(0)` selects the wrapper's one element, so
what the path must satisfy on `d` the longer path satisfies on the wrapper. -/

theorem selG_wrap (d : JV) : selG σ (.nth 0) (.arr [d]) = [([.idx 0], d)] := rfl

theorem goodPath_wrap {dev : Dev} {x : List Frag} {d : JV} (hg : GoodPath σ dev x d) :
    GoodPath σ dev (.nth 0 :: x) (.arr [d]) :=
  ⟨trivial, fun m' hm' => by rw [selG_wrap, List.mem_singleton] at hm'; rw [hm']; exact hg⟩

theorem noDescent_wrap {x : List Frag} (hp : NoDescent x) : NoDescent (.nth 0 :: x) :=
  List.forall_mem_cons.2 ⟨rfl, hp⟩

theorem modifyM_unwrap (dev : Dev) (m : Modifier) (x : List Frag) (d : JV) (hlast : isDescent x.getLast? = false)
    (hroot : ¬ (x = [] ∧ dev.rootScalar = true ∧ isContainer d = false))
    (hmain : modF false dev false m (.nth 0 :: x) false (.arr [d]) =
      ⟨updAll m.eff (locsG σ (.nth 0 :: x) (.arr [d])) (.arr [d]), .go⟩) :
    modifyM false dev false m x d = .ok (updAll m.eff (locsG σ x d) d) := by
  have hok : StepsOK σ [.idx 0] (.nth 0) (.arr [d]) := stepsOK_nth 0 (.arr [d])
  have hres : updAll m.eff (locsG σ (.nth 0 :: x) (.arr [d])) (.arr [d]) = .arr [updAll m.eff (locsG σ x d) d] := by
    rw [(updAll_edit m.eff).level_steps hok x trivial (updAll_inner _ _ x _ hok.shape)]
    rfl
  have hr : (x.isEmpty && dev.rootScalar && !isContainer d) = false := by
    cases hx : x.isEmpty <;> cases hr : dev.rootScalar <;> cases hc : isContainer d <;> simp_all
  simp only [modifyM, modifyCore, hlast, Bool.false_eq_true, if_false, Bool.false_and, hr, hmain, hres, unwrap]

/-- Modify on simple data, a path without descent: the returned tree is the input edited with the modifier
at exactly the selected locations -/
theorem modifyM_eq (dev : Dev) (m : Modifier) (x : List Frag) (d : JV) (hnd : NoDescent x) (hw : WF d)
    (hg : GoodPath σ dev x d) (hroot : ¬ (x = [] ∧ dev.rootScalar = true ∧ isContainer d = false)) :
    modifyM false dev false m x d = .ok (updAll m.eff (locsG σ x d) d) := by
  exact modifyM_unwrap dev m x d hnd.last hroot
    (modF_eq dev m (.nth 0 :: x) (by simp) (noDescent_wrap hnd) false (.arr [d]) (by simp [WF, WFL, hw]) (goodPath_wrap hg))

end OjgVerif.JPMut
