import OjgVerif.JPMut.LemmasOneSet
import OjgVerif.JPMut.LemmasDescentOne
/-! # SetOne / DelOne through ONE recursive descent

As for ModifyOne: a One form has edited nothing before its single write, so the descent work-list (members' subtrees first,
then the node) stops at the first place where the rest of the path writes, deletes or creates, and the result is the
all-matches edit at that ONE selected location — or ONE created member. -/

namespace OjgVerif.JPMut
open OjgVerif.JPath

variable {σ : SliceFn} [NodupSlice σ]

mutual
  /-- the rest of the path is good for `set` (`GoodPathS`) on every node of the value -/
  def GoodDS (σ : SliceFn) (dev : Dev) (rest : List Frag) : JV → Prop
    | .arr xs => GoodPathS σ dev rest (.arr xs) ∧ GoodDSL σ dev rest xs
    | .obj kvs => GoodPathS σ dev rest (.obj kvs) ∧ GoodDSK σ dev rest kvs
    | .null => True
    | .bool _ => True
    | .int _ => True
    | .flt _ => True
    | .big _ => True
    | .num _ => True
    | .str _ => True
  def GoodDSL (σ : SliceFn) (dev : Dev) (rest : List Frag) : List JV → Prop
    | [] => True
    | x :: r => GoodDS σ dev rest x ∧ GoodDSL σ dev rest r
  def GoodDSK (σ : SliceFn) (dev : Dev) (rest : List Frag) : List (Bytes × JV) → Prop
    | [] => True
    | m :: r => GoodDS σ dev rest m.2 ∧ GoodDSK σ dev rest r
end

theorem goodDSL_iff (dev : Dev) (rest : List Frag) : ∀ (xs : List JV), GoodDSL σ dev rest xs ↔ ∀ x ∈ xs, GoodDS σ dev rest x
  | [] => by simp [GoodDSL]
  | x :: r => by simp [GoodDSL, goodDSL_iff dev rest r]

theorem goodDSK_iff (dev : Dev) (rest : List Frag) : ∀ (kvs : List (Bytes × JV)),
    GoodDSK σ dev rest kvs ↔ ∀ kv ∈ kvs, GoodDS σ dev rest kv.2
  | [] => by simp [GoodDSK]
  | x :: r => by simp [GoodDSK, goodDSK_iff dev rest r]

theorem goodDS_iff (dev : Dev) (rest : List Frag) (d : JV) :
    GoodDS σ dev rest d ↔ (isContainer d = true → GoodPathS σ dev rest d) ∧ ∀ c ∈ kids d, GoodDS σ dev rest c := by
  cases d with
  | arr xs => simp only [GoodDS, goodDSL_iff, kids, isContainer, true_implies]
  | obj kvs => simp only [GoodDS, goodDSK_iff, kids, isContainer, true_implies, List.forall_mem_map]
  | _ => exact ⟨fun _ => ⟨(fun h => nomatch h), (fun _ h => nomatch h)⟩, fun _ => trivial⟩

abbrev createsD (σ : SliceFn) (v : JV) (rest : List Frag) (d : JV) : List (Path × JV) := createsG σ v (.descent :: rest) d

theorem ownCreates_descent (v : JV) (rest : List Frag) (d : JV) : ownCreates v .descent rest d = [] := by
  cases d <;> rfl

theorem mem_createsD (v : JV) (rest : List Frag) (d : JV) (c : Path × JV) :
    c ∈ createsD σ v rest d ↔ ∃ mm ∈ desc d, ∃ c' ∈ createsG σ v rest mm.2, c = (mm.1 ++ c'.1, c'.2) := by
  simp only [createsD, creates_cons, ownCreates_descent, List.nil_append, List.mem_flatMap, List.mem_map, preC]
  constructor
  · rintro ⟨mm, hm, c', hc', rfl⟩; exact ⟨mm, hm, c', hc', rfl⟩
  · rintro ⟨mm, hm, c', hc', rfl⟩; exact ⟨mm, hm, c', hc', rfl⟩

theorem mem_createsD_iff (v : JV) (rest : List Frag) (d : JV) (hn : TopNodup d) (c : Path × JV) :
    c ∈ createsD σ v rest d ↔
      c ∈ createsG σ v rest d ∨ ∃ l c0 c', child? l d = some c0 ∧ c' ∈ createsD σ v rest c0 ∧ c = (l :: c'.1, c'.2) := by
  rw [mem_createsD]
  constructor
  · rintro ⟨mm, hm, c', hc', rfl⟩
    rcases (mem_desc d hn mm).1 hm with rfl | ⟨l, c0, hc0, m', hm', rfl⟩
    · exact Or.inl hc'
    · exact Or.inr ⟨l, c0, (m'.1 ++ c'.1, c'.2), hc0, (mem_createsD v rest c0 _).2 ⟨m', hm', c', hc', rfl⟩, rfl⟩
  · rintro (h | ⟨l, c0, c', hc0, hc', rfl⟩)
    · exact ⟨([], d), self_mem_desc d, c, h, rfl⟩
    · obtain ⟨m', hm', c'', hc'', rfl⟩ := (mem_createsD v rest c0 c').1 hc'
      exact ⟨pfx l m', (mem_desc d hn _).2 (Or.inr ⟨l, c0, hc0, m', hm', rfl⟩), c'', hc'', rfl⟩

theorem createsD_scalar (v : JV) (rest : List Frag) (hne : rest ≠ []) (hnd : NoDescent rest) (d : JV) (hd : isContainer d = false) :
    createsD σ v rest d = [] := by
  cases rest with
  | nil => exact absurd rfl hne
  | cons g r =>
    refine List.eq_nil_iff_forall_not_mem.2 fun c hc => ?_
    rcases (mem_createsD_iff v (g :: r) d (by cases d <;> trivial) c).1 hc with h | ⟨l, c0, _, hc0, _⟩
    · rw [creates_scalar v g r d (hnd g (by simp)) hd] at h; cases h
    · rw [child?_scalar l d hd] at hc0; cases hc0

theorem createsD_ne (v : JV) (rest : List Frag) (hnd : NoDescent rest) (c : JV) (hw : WF c) (c' : Path × JV)
    (hc' : c' ∈ createsD σ v rest c) : c'.1 ≠ [] := by
  obtain ⟨mm, hm, c'', hc'', rfl⟩ := (mem_createsD v rest c c').1 hc'
  have := creates_ne_nil (σ := σ) v rest hnd mm.2 (WF_desc c hw mm hm) c'' hc''
  exact fun e => this (List.append_eq_nil_iff.1 e).2

/-- what `SetOne` says, for arbitrary location / creation lists in place of those of a path (`setOne_iff_setOneAt`) -/
def SetOneAt (a : SetArg) (T : List Path) (C : JV → List (Path × JV)) (d : JV) (r : R) : Prop :=
  (r.st = .go → r.d = d ∧ T = [] ∧ ∀ v, a = .val v → C v = []) ∧
  (r.st = .stop → (∃ p ∈ T, r.d = singleA a p d) ∨ (∃ v c, a = .val v ∧ c ∈ C v ∧ r.d = insAll [c] d))

theorem setOne_iff_setOneAt {a : SetArg} {x : List Frag} {d : JV} {r : R} :
    SetOne σ a x d r ↔ SetOneAt a (locsG σ x d) (fun v => createsG σ v x d) d r := Iff.rfl

/-- nothing selected, nothing to create below the value -/
def Barren (σ : SliceFn) (a : SetArg) (rest : List Frag) (x : JV) : Prop :=
  locsD σ rest x = [] ∧ ∀ v, a = .val v → createsD σ v rest x = []

theorem setAt_node_go (a : SetArg) (rest : List Frag) (d : JV) (hn : TopNodup d) (r : R)
    (hkids : ∀ l c, child? l d = some c → Barren σ a rest c)
    (hr : SetOneAt a (locsG σ rest d) (fun v => createsG σ v rest d) d r) :
    SetOneAt a (locsD σ rest d) (fun v => createsD σ v rest d) d r := by
  refine ⟨fun hst => ?_, fun hst => ?_⟩
  · obtain ⟨h1, h2, h3⟩ := hr.1 hst
    refine ⟨h1, List.eq_nil_iff_forall_not_mem.2 fun p hp => ?_, fun v hv => List.eq_nil_iff_forall_not_mem.2 fun c hc => ?_⟩
    · rcases (mem_locsD_iff rest d hn p).1 hp with h | ⟨l, c0, q, hc, hq, _⟩
      · rw [h2] at h; cases h
      · rw [(hkids l c0 hc).1] at hq; cases hq
    · rcases (mem_createsD_iff v rest d hn c).1 hc with h | ⟨l, c0, c', hc0, hc', _⟩
      · rw [show createsG σ v rest d = [] from h3 v hv] at h; cases h
      · rw [(hkids l c0 hc0).2 v hv] at hc'; cases hc'
  · rcases hr.2 hst with ⟨p, hp, hd⟩ | ⟨v, c, rfl, hc, hd⟩
    · exact Or.inl ⟨p, (mem_locsD_iff rest d hn p).2 (Or.inl hp), hd⟩
    · exact Or.inr ⟨v, c, rfl, (mem_createsD_iff v rest d hn c).2 (Or.inl hc), hd⟩

theorem setAt_node_stop (a : SetArg) (rest : List Frag) (hne : rest ≠ []) (hnd : NoDescent rest) (d c : JV) (l : Loc) (hw : WF d)
    (hc : child? l d = some c) (rc : R)
    (hrc : SetOneAt a (locsD σ rest c) (fun v => createsD σ v rest c) c rc) (hst : rc.st ≠ .go) :
    SetOneAt a (locsD σ rest d) (fun v => createsD σ v rest d) d ⟨putChild l rc.d d, rc.st⟩ := by
  have hwc := WF_child l d c hw hc
  have hn := WF_top d hw
  refine ⟨fun h => absurd h hst, fun hs => ?_⟩
  rcases hrc.2 hs with ⟨p, hp, hd⟩ | ⟨v, c', rfl, hc', hd⟩
  · have hpne : p ≠ [] := fun e => by
      have := locsD_len (σ := σ) rest hnd c hwc p hp
      cases rest with
      | nil => exact hne rfl
      | cons g r => rw [e] at this; simp at this
    refine Or.inl ⟨l :: p, (mem_locsD_iff rest d hn _).2 (Or.inr ⟨l, c, p, hc, hp, rfl⟩), ?_⟩
    simp only
    rw [hd, singleA_cons a l p hpne d c hn hc]
  · refine Or.inr ⟨v, (l :: c'.1, c'.2), rfl, (mem_createsD_iff v rest d hn _).2 (Or.inr ⟨l, c, c', hc, hc', rfl⟩), ?_⟩
    simp only
    rw [hd]
    exact (insAll_single_cons l c'.1 c'.2 (createsD_ne v rest hnd c hwc c' hc') d c hn hc).symm

theorem descGo_setOne (dev : Dev) (hda : dev.delOneAbsent = false) (a : SetArg) (rest : List Frag) (hne : rest ≠ [])
    (hnd : NoDescent rest) (hl : ∀ f, rest.getLast? = some f → endable f = true) : ∀ (d : JV), WF d → GoodDS σ dev rest d →
    SetOneAt a (locsD σ rest d) (fun v => createsD σ v rest d) d (descGo (setF false dev true a rest false) d) := by
  intro d hw hg
  refine descGo_oneForm _ (fun c r => SetOneAt a (locsD σ rest c) (fun v => createsD σ v rest c) c r)
    (fun c => WF c ∧ GoodDS σ dev rest c)
    (fun c h => ⟨WF_top c h.1, fun e he => ⟨WF_kid h.1 he, ((goodDS_iff dev rest c).1 h.2).2 e he⟩⟩)
    (fun c r h hst => (h.1 hst).1) (fun c hc => ?_) (fun c h hc hk => ?_) (fun c l e rc h hl hrc hst => ?_) d ⟨hw, hg⟩
  · exact ⟨fun _ => ⟨rfl, locsD_scalar (σ := σ) rest hne hnd c hc, fun v _ => createsD_scalar v rest hne hnd c hc⟩,
      fun h => nomatch h⟩
  · exact setAt_node_go a rest c (WF_top c h.1) _ (fun l e hl => ((hk e (kid_of_child hl)).1 rfl).2)
      (setOne_iff_setOneAt.1 (setF_one (σ := σ) dev hda a rest hne hnd hl false c h.1 (((goodDS_iff dev rest c).1 h.2).1 hc)))
  · exact setAt_node_stop a rest hne hnd c e l h.1 hl rc hrc hst

theorem descArr_setOne (dev : Dev) (hda : dev.delOneAbsent = false) (a : SetArg) (rest : List Frag) (hne : rest ≠ [])
    (hnd : NoDescent rest) (hl : ∀ f, rest.getLast? = some f → endable f = true) : ∀ (xs : List JV), WFL xs → GoodDSL σ dev rest xs →
    ((descArr (setF false dev true a rest false) xs).st = .go →
      (descArr (setF false dev true a rest false) xs).xs = xs ∧ ∀ x ∈ xs, Barren σ a rest x) ∧
    ((descArr (setF false dev true a rest false) xs).st = .stop →
      ∃ i x rc, xs[i]? = some x ∧ SetOneAt a (locsD σ rest x) (fun v => createsD σ v rest x) x rc ∧ rc.st = .stop ∧
        (descArr (setF false dev true a rest false) xs).xs = xs.set i rc.d) := by
  intro xs hw hg
  have hx := fun x h => descGo_setOne dev hda a rest hne hnd hl x (WFL_mem xs hw x h) ((goodDSL_iff dev rest xs).1 hg x h)
  have hsame := fun x h hs => ((hx x h).1 hs).1
  refine ⟨fun hst => ?_, fun hst => ?_⟩
  · obtain ⟨h1, hall⟩ := descArr_same _ xs hsame hst
    exact ⟨h1, fun x h => ((hx x h).1 (hall x h)).2⟩
  · obtain ⟨i, x, hi, h1, h2⟩ := descArr_first _ xs hsame (by rw [hst]; simp)
    exact ⟨i, x, _, hi, hx x (List.mem_of_getElem? hi), h1.trans hst, h2⟩

theorem descObj_setOne (dev : Dev) (hda : dev.delOneAbsent = false) (a : SetArg) (rest : List Frag) (hne : rest ≠ [])
    (hnd : NoDescent rest) (hl : ∀ f, rest.getLast? = some f → endable f = true) : ∀ (kvs : List (Bytes × JV)), WFK kvs →
    GoodDSK σ dev rest kvs →
    ((descObj (setF false dev true a rest false) kvs).st = .go →
      (descObj (setF false dev true a rest false) kvs).kvs = kvs ∧ ∀ kv ∈ kvs, Barren σ a rest kv.2) ∧
    ((descObj (setF false dev true a rest false) kvs).st = .stop →
      ∃ pre suf kv rc, kvs = pre ++ kv :: suf ∧ SetOneAt a (locsD σ rest kv.2) (fun v => createsD σ v rest kv.2) kv.2 rc ∧
        rc.st = .stop ∧ (descObj (setF false dev true a rest false) kvs).kvs = pre ++ (kv.1, rc.d) :: suf) := by
  intro kvs hw hg
  have hx := fun kv h => descGo_setOne dev hda a rest hne hnd hl _ (WFK_mem kvs hw kv h) ((goodDSK_iff dev rest kvs).1 hg kv h)
  have hsame := fun kv h hs => ((hx kv h).1 hs).1
  refine ⟨fun hst => ?_, fun hst => ?_⟩
  · obtain ⟨h1, hall⟩ := descObj_same _ kvs hsame hst
    exact ⟨h1, fun kv h => ((hx kv h).1 (hall kv h)).2⟩
  · obtain ⟨pre, suf, kv, hs, h1, h2⟩ := descObj_first _ kvs hsame (by rw [hst]; simp)
    exact ⟨pre, suf, kv, _, hs, hx kv (by rw [hs]; simp), h1.trans hst, h2⟩

theorem tailOK_desc (rest : List Frag) (hne : rest ≠ []) (hnd : NoDescent rest) : ∀ (pre : List Frag), NoDescent pre →
    TailOK σ (pre ++ .descent :: rest)
  | [], _ =>
    ⟨fun c hw p hp e => locs_tail_no_nil (σ := σ) rest hne hnd [] (fun _ h => by cases h) c hw (e ▸ hp),
     fun v c hw c' hc' => createsD_ne v rest hnd c hw c' hc',
     fun c hc => locs_tail_scalar (σ := σ) rest hne hnd [] (fun _ h => by cases h) c hc,
     fun v c hc => createsD_scalar v rest hne hnd c hc⟩
  | g :: p, hp => tailOK_cons g (hp g (by simp)) _

/-- the fragments before the descent are good for `set`, the rest on every node the descent reaches -/
def GoodPreS (σ : SliceFn) (dev : Dev) (rest : List Frag) : List Frag → JV → Prop
  | [], d => GoodDS σ dev rest d
  | f :: pre, d => GoodAtS σ dev f d ∧ ∀ m ∈ selG σ f d, GoodPreS σ dev rest pre m.2

theorem setF_pre_setOne (dev : Dev) (hsib : dev.descentSiblings = false) (hda : dev.delOneAbsent = false) (a : SetArg)
    (rest : List Frag) (hne : rest ≠ []) (hnd : NoDescent rest) (hl : ∀ f, rest.getLast? = some f → endable f = true) :
    ∀ (pre : List Frag), NoDescent pre → ∀ (fl : Bool) (d : JV), WF d → GoodPreS σ dev rest pre d → (pre = [] → fl = false) →
    SetOne σ a (pre ++ .descent :: rest) d (setF false dev true a (pre ++ .descent :: rest) fl d)
  | [], _, fl, d, hw, hg, hfl => by
    rw [hfl rfl, List.nil_append, setF_descent _ _ _ _ rest hne]
    exact setOne_iff_setOneAt.2 (descGo_setOne (σ := σ) dev hda a rest hne hnd hl d hw hg)
  | f :: pre, hp, fl, d, hw, hg, _ => by
    have hndf : isDescentF f = false := hp f (by simp)
    have hpp : NoDescent pre := fun g hg' => hp g (List.mem_cons_of_mem _ hg')
    obtain ⟨g, r, hgr⟩ : ∃ g r, pre ++ .descent :: rest = g :: r := by
      cases pre with
      | nil => exact ⟨_, _, rfl⟩
      | cons g' r' => exact ⟨g', r' ++ .descent :: rest, rfl⟩
    rw [List.cons_append, hgr]
    refine setF_one_cons dev a f g r fl d hndf hw hg.1 (hgr ▸ tailOK_desc (σ := σ) rest hne hnd pre hpp)
      (fun _ _ => by rw [hsib, Bool.and_false]) fun l c hc hs => ?_
    have := setF_pre_setOne dev hsib hda a rest hne hnd hl pre hpp false c (WF_child l d c hw hc) (hg.2 ([l], c) hs) (fun _ => rfl)
    rwa [hgr] at this

/-- SetOne / DelOne through one descent (simple data, `delOneAbsent` and `descentSiblings` off; `rest` non-empty without a further
descent): when no error is reported the data is the input with the value written (the member deleted, the element null) at
ONE location the path selects (`JPath.eval` with its descent clause), or with ONE member created, or the input itself — that
only when nothing is selected and nothing is to be created -/
theorem setOne_descent (dev : Dev) (hsib : dev.descentSiblings = false) (hda : dev.delOneAbsent = false) (a : SetArg)
    (pre rest : List Frag) (hp : NoDescent pre) (hne : rest ≠ []) (hnd : NoDescent rest) (d d' : JV) (hw : WF d)
    (hg : GoodPreS σ dev rest pre d) (h : setM false dev true a (pre ++ .descent :: rest) d = .ok d') :
    OneOKG σ (pre ++ .descent :: rest) d d' a.op := by
  simp only [setM] at h
  by_cases hr : setRefuses (pre ++ .descent :: rest).getLast? = true
  · rw [if_pos hr] at h; cases h
  · rw [if_neg hr] at h
    exact (setF_pre_setOne (σ := σ) dev hsib hda a rest hne hnd (getLast?_descent pre rest hne ▸ endable_of_not_refused hr)
      pre hp false d hw hg (fun _ => rfl)).oneOKG h

end OjgVerif.JPMut
