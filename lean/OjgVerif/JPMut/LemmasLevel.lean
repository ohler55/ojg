import OjgVerif.JPMut.LemmasSteps
/-! # One level of a path, on both sides

The specification edits a tree at the locations `locsG σ (f :: rest) d`; the models visit the members `f` hands on and
apply `rest` to each. Both are brought to the same form, `mapKids G d` with `G` the edit for `rest` on the selected members
and the identity on the others:

* `SetEdit.level` — for every edit of the specification that is a function of the *set* of locations and does nothing at
  the empty set (`updAll m`, `delAll`, `remAll`), given that at this level it only descends; `delAll` and `remAll`, which
  act on the member list of the parent, are `DropEdit`s (one level of the edit as a field; `DropEdit.inner`: it only
  descends when its set holds no one-step location);
* `visitD_spec` — for a visit of pairwise different steps that runs to its end.

The main theorems for Modify, Remove, Del and Set are inductions over the path that put the two together.

At the end, for any path (descents included): what it selects is the value at the location it is selected at (`evalG_valAt`), and
the locations of `x ++ y` are those `y` selects in the values at the locations `x` selects (`mem_locs_split`). -/
namespace OjgVerif.JPMut
open OjgVerif.JPath

variable {σ : SliceFn}

theorem locs_nil (d : JV) : locsG σ [] d = [[]] := rfl

theorem mem_locs_cons (f : Frag) (rest : List Frag) (d : JV) (p : Path) :
    p ∈ locsG σ (f :: rest) d ↔ ∃ m ∈ selG σ f d, ∃ q ∈ locsG σ rest m.2, p = m.1 ++ q := by
  simp only [locsG, evalG, List.mem_map, List.mem_flatMap]
  constructor
  · rintro ⟨a, ⟨m, hm, b, hb, rfl⟩, rfl⟩
    exact ⟨m, hm, b.1, ⟨b, hb, rfl⟩, rfl⟩
  · rintro ⟨m, hm, q, ⟨b, hb, rfl⟩, rfl⟩
    exact ⟨(m.1 ++ b.1, b.2), ⟨m, hm, b, hb, rfl⟩, rfl⟩

theorem Shape.mem_of_step {f : Frag} {d : JV} (hs : Shape σ f d) {m : Path × JV} (hm : m ∈ selG σ f d) {l : Loc} {c : JV}
    (hl : m.1 = [l]) (hc : child? l d = some c) : ([l], c) ∈ selG σ f d := by
  obtain ⟨l', hl', hc'⟩ := hs m hm
  rw [hl] at hl'
  injection hl' with e _
  subst e
  rw [hc] at hc'
  injection hc' with e
  rw [e, ← hl]
  exact hm

theorem hasNil_locs_cons (f : Frag) (rest : List Frag) (d : JV) (hs : Shape σ f d) : hasNil (locsG σ (f :: rest) d) = false := by
  refine hasNil_false fun h => ?_
  obtain ⟨m, hm, q, _, e⟩ := (mem_locs_cons (σ := σ) f rest d []).1 h
  obtain ⟨l, hl, _⟩ := hs m hm
  rw [hl] at e
  cases e

theorem mem_strip_locs (f : Frag) (rest : List Frag) (d : JV) (hs : Shape σ f d) (l : Loc) (q : Path) :
    q ∈ strip l (locsG σ (f :: rest) d) ↔ ∃ c, child? l d = some c ∧ ([l], c) ∈ selG σ f d ∧ q ∈ locsG σ rest c := by
  rw [mem_strip, mem_locs_cons]
  constructor
  · rintro ⟨m, hm, q', hq', e⟩
    obtain ⟨l', hl', hc'⟩ := hs m hm
    rw [hl'] at e
    simp only [List.singleton_append, List.cons.injEq] at e
    obtain ⟨rfl, rfl⟩ := e
    exact ⟨m.2, hc', by rw [← hl']; exact hm, hq'⟩
  · rintro ⟨c, _, hsel, hq⟩
    exact ⟨([l], c), hsel, q, hq, rfl⟩

theorem strip_locs_sel (f : Frag) (rest : List Frag) (d : JV) (hs : Shape σ f d) (l : Loc) (c : JV)
    (hc : child? l d = some c) (hsel : ([l], c) ∈ selG σ f d) :
    SameSet (strip l (locsG σ (f :: rest) d)) (locsG σ rest c) := by
  intro q
  rw [mem_strip_locs f rest d hs]
  constructor
  · rintro ⟨c', hc', _, hq⟩
    rw [hc] at hc'
    cases hc'
    exact hq
  · intro hq
    exact ⟨c, hc, hsel, hq⟩

theorem strip_locs_none (f : Frag) (rest : List Frag) (d : JV) (hs : Shape σ f d) (l : Loc)
    (h : ∀ c, child? l d = some c → ([l], c) ∉ selG σ f d) : SameSet (strip l (locsG σ (f :: rest) d)) [] := by
  intro q
  rw [mem_strip_locs f rest d hs]
  constructor
  · rintro ⟨c, hc, hsel, _⟩
    exact absurd hsel (h c hc)
  · intro h; cases h

theorem strip_locs_not (f : Frag) (rest : List Frag) (d : JV) (hs : Shape σ f d) (l : Loc) (c : JV)
    (hc : child? l d = some c) (hsel : ([l], c) ∉ selG σ f d) :
    SameSet (strip l (locsG σ (f :: rest) d)) [] :=
  strip_locs_none f rest d hs l (fun c' hc' => by rw [hc] at hc'; cases hc'; exact hsel)

theorem locs_nosel (f : Frag) (rest : List Frag) (d : JV) (h : selG σ f d = []) : locsG σ (f :: rest) d = [] := by
  simp [locsG, evalG, h]

theorem locs_single (f : Frag) (d : JV) : SameSet (locsG σ [f] d) ((selG σ f d).map (·.1)) := by
  intro p
  rw [mem_locs_cons]
  simp only [locs_nil, List.mem_singleton, List.mem_map]
  constructor
  · rintro ⟨m, hm, q, rfl, rfl⟩; exact ⟨m, hm, by simp⟩
  · rintro ⟨m, hm, rfl⟩; exact ⟨m, hm, [], rfl, by simp⟩

theorem mem_locs_single (f : Frag) (d c : JV) (l : Loc) (hs : ([l], c) ∈ selG σ f d) : [l] ∈ locsG σ [f] d :=
  (mem_locs_cons (σ := σ) f [] d [l]).2 ⟨([l], c), hs, [], by simp [locs_nil], by simp⟩

def isDescentF : Frag → Bool
  | .descent => true
  | _ => false

def NoDescent (x : List Frag) : Prop := ∀ f ∈ x, isDescentF f = false

section
variable [NodupSlice σ]

theorem Shape_of (f : Frag) (c : JV) (hf : isDescentF f = false) (hw : TopNodup c) : Shape σ f c := by
  cases f with
  | child k => exact (stepsOK_child (σ := σ) k c).shape
  | nth i => exact (stepsOK_nth (σ := σ) i c).shape
  | wild => exact (stepsOK_wild (σ := σ) c hw).shape
  | union ms => exact union_shape ms c
  | slice s e t => exact (stepsOK_slice (σ := σ) s e t c (σ · s e t) (fun _ _ => rfl) (fun _ _ => NodupSlice.nodup _ s e t)).shape
  | filter p => exact (stepsOK_filter (σ := σ) p c _ (stepsOK_wild (σ := σ) c hw)).shape
  | descent => simp [isDescentF] at hf

theorem sel_scalar (f : Frag) (c : JV) (hf : isDescentF f = false) (hc : isContainer c = false) : selG σ f c = [] := by
  apply List.eq_nil_iff_forall_not_mem.2
  intro m hm
  obtain ⟨l, _, hl⟩ := Shape_of (σ := σ) f c hf (by cases c <;> first | trivial | cases hc) m hm
  rw [child?_scalar l c hc] at hl
  cases hl

theorem locs_scalar (g : Frag) (r : List Frag) (c : JV) (hg : isDescentF g = false) (hc : isContainer c = false) :
    locsG σ (g :: r) c = [] :=
  locs_nosel g r c (sel_scalar (σ := σ) g c hg hc)

theorem stepsOK_scalar_nil (f : Frag) (d : JV) (hf : isDescentF f = false) (hd : isContainer d = false) : StepsOK σ [] f d := by
  refine ⟨List.nodup_nil, ?_, ?_⟩
  · intro m hm; rw [sel_scalar (σ := σ) f d hf hd] at hm; cases hm
  · intro l c hc; rw [child?_scalar l d hd] at hc; cases hc

theorem locs_no_nil : ∀ (x : List Frag), x ≠ [] → NoDescent x → ∀ (c : JV), TopNodup c → [] ∉ locsG σ x c
  | [], h, _, _, _ => absurd rfl h
  | g :: r, _, hnd, c, hw => by
    intro h
    have := hasNil_locs_cons (σ := σ) g r c (Shape_of (σ := σ) g c (hnd g (by simp)) hw)
    rw [(hasNil_iff _).2 h] at this
    cases this

theorem locs_len : ∀ (x : List Frag), NoDescent x → ∀ (d : JV), WF d → ∀ p ∈ locsG σ x d, p.length = x.length
  | [], _, d, _, p, hp => by
    simp only [locs_nil, List.mem_singleton] at hp
    rw [hp]; rfl
  | f :: r, hnd, d, hw, p, hp => by
    obtain ⟨m, hm, q, hq, rfl⟩ := (mem_locs_cons (σ := σ) f r d p).1 hp
    obtain ⟨l, hl, hc⟩ := Shape_of (σ := σ) f d (hnd f (by simp)) (WF_top d hw) m hm
    have := locs_len r (fun g hg => hnd g (List.mem_cons_of_mem _ hg)) m.2 (WF_child l d m.2 hw hc) q hq
    simp [hl, this]

theorem no_singleton (f : Frag) (rest : List Frag) (hr : rest ≠ []) (hnd : NoDescent rest) (d : JV) (hw : WF d)
    (hs : Shape σ f d) : ∀ l, [l] ∉ locsG σ (f :: rest) d := by
  intro l hl
  obtain ⟨m', hm', q, hq, e⟩ := (mem_locs_cons (σ := σ) f rest d [l]).1 hl
  obtain ⟨l', hl', hc'⟩ := hs m' hm'
  rw [hl'] at e
  simp only [List.singleton_append, List.cons.injEq] at e
  obtain ⟨_, rfl⟩ := e
  exact locs_no_nil (σ := σ) rest hr hnd m'.2 (WF_top _ (WF_child l' d m'.2 hw hc')) hq

end

theorem not_contains (T : List Path) (p : Path) (h : p ∉ T) : T.contains p = false := by
  simpa using h

theorem strip_singletons (T : List Path) (hs : ∀ p ∈ T, ∃ l, p = [l]) (l : Loc) (hl : [l] ∉ T) : strip l T = [] := by
  cases h : strip l T with
  | nil => rfl
  | cons q r =>
    have hq : q ∈ strip l T := by rw [h]; simp
    have hq' := (mem_strip l T q).1 hq
    obtain ⟨l', e⟩ := hs _ hq'
    injection e with e1 e2
    subst e2
    exact absurd hq' hl

theorem selLocs_singletons (f : Frag) (c : JV) (hs : Shape σ f c) : ∀ p ∈ (selG σ f c).map (·.1), ∃ l, p = [l] := by
  intro p hp
  obtain ⟨m, hm, rfl⟩ := List.mem_map.1 hp
  obtain ⟨l, hl, _⟩ := hs m hm
  exact ⟨l, hl⟩

theorem mem_selLocs (f : Frag) (c : JV) (hs : Shape σ f c) (l : Loc) (v : JV) (hv : child? l c = some v) :
    [l] ∈ (selG σ f c).map (·.1) ↔ ([l], v) ∈ selG σ f c := by
  constructor
  · intro h
    obtain ⟨m, hm, e⟩ := List.mem_map.1 h
    exact hs.mem_of_step hm e hv
  · intro h
    exact List.mem_map.2 ⟨([l], v), h, rfl⟩

theorem selLocs_contains (f : Frag) (c : JV) (hs : Shape σ f c) (l : Loc) (v : JV) (hv : child? l c = some v) (b : Bool)
    (hb : b = true ↔ ([l], v) ∈ selG σ f c) : ((selG σ f c).map (·.1)).contains [l] = b := by
  rw [Bool.eq_iff_iff, List.contains_iff_mem, mem_selLocs f c hs l v hv, hb]

theorem R_eta (r : R) (h : r.st = .go) : r = ⟨r.d, .go⟩ := by
  cases r with
  | mk d s => simp only at h; rw [h]

/-- an edit at a set of locations that does nothing at the empty set and depends on the set only -/
structure SetEdit (E : List Path → JV → JV) : Prop where
  nil : ∀ d, E [] d = d
  congr : ∀ d T T', SameSet T T' → E T d = E T' d

theorem updAll_edit (m : JV → JV) : SetEdit (updAll m) := ⟨updAll_nil m, updAll_congr m⟩

/-- one level of an edit that only descends at this level (`hin`): the selected members get the edit for the rest of
the path, the others stay -/
theorem SetEdit.level {E : List Path → JV → JV} (hE : SetEdit E) (f : Frag) (rest : List Frag) (d : JV) (hw : TopNodup d)
    (hs : Shape σ f d)
    (hin : E (locsG σ (f :: rest) d) d = mapKids (fun l c => E (strip l (locsG σ (f :: rest) d)) c) d)
    (G : Loc → JV → JV)
    (hG1 : ∀ l c, child? l d = some c → ([l], c) ∈ selG σ f d → G l c = E (locsG σ rest c) c)
    (hG2 : ∀ l c, child? l d = some c → ([l], c) ∉ selG σ f d → G l c = c) :
    E (locsG σ (f :: rest) d) d = mapKids G d := by
  rw [hin]
  apply mapKids_congr d hw
  intro l c hc
  by_cases hsel : ([l], c) ∈ selG σ f d
  · rw [hG1 l c hc hsel]; exact hE.congr c _ _ (strip_locs_sel f rest d hs l c hc hsel)
  · rw [hG2 l c hc hsel, hE.congr c _ _ (strip_locs_not f rest d hs l c hc hsel), hE.nil]

theorem SetEdit.strip_steps {E : List Path → JV → JV} (hE : SetEdit E) {steps : List Loc} {f : Frag} {d : JV}
    (hok : StepsOK σ steps f d) (rest : List Frag) (l : Loc) (c : JV) (hc : child? l d = some c) (x : JV) :
    E (strip l (locsG σ (f :: rest) d)) x = if l ∈ steps then E (locsG σ rest c) x else x := by
  by_cases hl : l ∈ steps
  · rw [if_pos hl]
    exact hE.congr x _ _ (strip_locs_sel f rest d hok.shape l c hc ((hok.mem l c hc).1 hl))
  · rw [if_neg hl, hE.congr x _ _ (strip_locs_not f rest d hok.shape l c hc (mt (hok.mem l c hc).2 hl)), hE.nil]

theorem SetEdit.level_steps {E : List Path → JV → JV} (hE : SetEdit E) {steps : List Loc} {f : Frag} {d : JV}
    (hok : StepsOK σ steps f d) (rest : List Frag) (hw : TopNodup d)
    (hin : E (locsG σ (f :: rest) d) d = mapKids (fun l c => E (strip l (locsG σ (f :: rest) d)) c) d) :
    E (locsG σ (f :: rest) d) d = mapKids (fun l c => if l ∈ steps then E (locsG σ rest c) c else c) d := by
  rw [hin]
  exact mapKids_congr d hw (fun l c hc => hE.strip_steps hok rest l c hc c)

/-- an edit that acts on the member list of the parent where a one-step location is in its set (`remAll` drops the member,
`delAll` drops or blanks it) and does nothing at `[]`. One level of it, `step`: of its set the edit reads which one-step
locations it holds and what it does below each member, so it may be run at any `U` with the same one-step locations
after an `F` below that makes up the difference. `updAll` is not one: it acts at `[]`. -/
structure DropEdit (E : List Path → JV → JV) : Prop extends SetEdit E where
  step : ∀ (T U : List Path) (F : Loc → JV → JV) (d : JV), (∀ l, T.contains [l] = U.contains [l]) →
    (∀ l c, E (strip l T) c = E (strip l U) (F l c)) → E T d = E U (mapKids F d)

/-- no one-step location in the set: the edit only descends -/
theorem DropEdit.inner {E : List Path → JV → JV} (hE : DropEdit E) (T : List Path) (h : ∀ l, [l] ∉ T) (d : JV) :
    E T d = mapKids (fun l c => E (strip l T) c) d := by
  rw [hE.step T [] (fun l c => E (strip l T) c) d (fun l => not_contains T _ (h l)) (fun l c => (hE.nil _).symm), hE.nil]

theorem updAll_inner (m : JV → JV) (f : Frag) (rest : List Frag) (d : JV) (hs : Shape σ f d) :
    updAll m (locsG σ (f :: rest) d) d = mapKids (fun l c => updAll m (strip l (locsG σ (f :: rest) d)) c) d := by
  rw [updAll_eq, hasNil_locs_cons f rest d hs]
  rfl

theorem updAll_last (g : JV → JV) {steps : List Loc} {f : Frag} {d : JV} (hok : StepsOK σ steps f d) (hw : TopNodup d) :
    updAll g (locsG σ [f] d) d = mapKids (fun l c => if l ∈ steps then g c else c) d := by
  rw [(updAll_edit g).level_steps hok [] hw (updAll_inner _ f [] d hok.shape)]
  simp only [locs_nil, updAll_here]

theorem StepsOK.nosel {steps : List Loc} {f : Frag} {d : JV} (hok : StepsOK σ steps f d) (h : ∀ l ∈ steps, child? l d = none) :
    selG σ f d = [] := by
  apply List.eq_nil_iff_forall_not_mem.2
  intro m hm
  obtain ⟨l, hl, hc⟩ := hok.shape m hm
  have hmem : l ∈ steps := (hok.mem l m.2 hc).2 (by rw [← hl]; exact hm)
  rw [h l hmem] at hc
  cases hc

/-- a visit of pairwise different steps that runs to its end: the members at the steps get what the rest of the path
makes of them (`S`; a member that is not handed on is one `S` leaves alone), the others stay -/
theorem visitD_spec (cont sib : Bool) (k : Bool → JV → R) (hk : ∀ fl c, k fl c = k false c) (steps : List Loc) (d : JV)
    (hnd : steps.Nodup) (hw : TopNodup d) (S : JV → JV)
    (hrec : ∀ l c, child? l d = some c → l ∈ steps → (k false c).st = .go → (k false c).d = S c)
    (hsc : ∀ c, cont = true → isContainer c = false → S c = c)
    (hst : (visitD cont sib k false steps d).st = .go) :
    (visitD cont sib k false steps d).d = mapKids (fun l c => if l ∈ steps then S c else c) d := by
  obtain ⟨h1, h2⟩ := visitD_go cont sib k hk steps false d hnd hw hst
  rw [h1]
  apply mapKids_congr d hw
  intro l c hc
  by_cases hl : l ∈ steps
  · by_cases hp : pass cont c = true
    · simp only [hl, hp, and_self, if_true]
      exact hrec l c hc hl (h2 l hl c hc hp)
    · simp only [hl, hp, and_false, Bool.false_eq_true, if_false, if_true]
      simp only [pass, Bool.not_eq_true', Bool.not_eq_false, Bool.and_eq_true, Bool.not_eq_true'] at hp
      exact (hsc c hp.1 hp.2).symm
  · simp only [hl, false_and, if_false]

theorem mem_descArr : ∀ (xs : List JV) (o : Nat) (m : Path × JV),
    m ∈ JPath.descArr o xs ↔ ∃ j x, xs[j]? = some x ∧ ∃ m' ∈ desc x, m = pfx (.idx (o + j)) m'
  | [], _, m => by simp [JPath.descArr]
  | x :: r, o, m => by
    simp only [JPath.descArr, List.mem_append, List.mem_map, mem_descArr r (o + 1) m]
    constructor
    · rintro (⟨m', hm', rfl⟩ | ⟨j, y, hy, m', hm', rfl⟩)
      · exact ⟨0, x, rfl, m', hm', rfl⟩
      · exact ⟨j + 1, y, hy, m', hm', by rw [Nat.add_assoc, Nat.add_comm 1]⟩
    · rintro ⟨j, y, hy, m', hm', rfl⟩
      cases j with
      | zero =>
        simp only [List.getElem?_cons_zero, Option.some.injEq] at hy
        subst hy
        exact Or.inl ⟨m', hm', rfl⟩
      | succ n => exact Or.inr ⟨n, y, hy, m', hm', by rw [Nat.add_assoc, Nat.add_comm 1]⟩

theorem mem_descObj : ∀ (kvs : List (Bytes × JV)) (m : Path × JV),
    m ∈ JPath.descObj kvs ↔ ∃ kv ∈ kvs, ∃ m' ∈ desc kv.2, m = pfx (.key kv.1) m'
  | [], m => by simp [JPath.descObj]
  | kv :: r, m => by
    simp only [JPath.descObj, List.mem_append, List.mem_map, mem_descObj r m, List.mem_cons]
    constructor
    · rintro (⟨m', hm', rfl⟩ | ⟨kv', hkv', m', hm', rfl⟩)
      · exact ⟨kv, Or.inl rfl, m', hm', rfl⟩
      · exact ⟨kv', Or.inr hkv', m', hm', rfl⟩
    · rintro ⟨kv', hkv', m', hm', rfl⟩
      rcases hkv' with rfl | hkv'
      · exact Or.inl ⟨m', hm', rfl⟩
      · exact Or.inr ⟨kv', hkv', m', hm', rfl⟩

theorem mem_desc (d : JV) (hn : TopNodup d) (m : Path × JV) :
    m ∈ desc d ↔ m = ([], d) ∨ ∃ l c, child? l d = some c ∧ ∃ m' ∈ desc c, m = pfx l m' := by
  cases d with
  | arr xs =>
    simp only [desc, List.mem_append, List.mem_singleton, mem_descArr xs 0 m, Nat.zero_add]
    constructor
    · rintro (⟨j, x, hx, m', hm', rfl⟩ | h)
      · exact Or.inr ⟨.idx j, x, hx, m', hm', rfl⟩
      · exact Or.inl h
    · rintro (h | ⟨l, c, hc, m', hm', rfl⟩)
      · exact Or.inr h
      · obtain ⟨j, rfl, hj⟩ := child?_arr_inv l xs c hc
        exact Or.inl ⟨j, c, hj, m', hm', rfl⟩
  | obj kvs =>
    simp only [desc, List.mem_append, List.mem_singleton, mem_descObj kvs m]
    constructor
    · rintro (⟨kv, hkv, m', hm', rfl⟩ | h)
      · exact Or.inr ⟨.key kv.1, kv.2, lookup_of_mem_nodup kvs hn kv hkv, m', hm', rfl⟩
      · exact Or.inl h
    · rintro (h | ⟨l, c, hc, m', hm', rfl⟩)
      · exact Or.inr h
      · obtain ⟨k, rfl, hk⟩ := child?_obj_inv l kvs c hc
        exact Or.inl ⟨(k, c), lookup_mem kvs k c hk, m', hm', rfl⟩
  | _ =>
    simp only [desc, List.mem_singleton]
    constructor
    · intro h; exact Or.inl h
    · rintro (h | ⟨l, c, hc, _⟩)
      · exact h
      · rw [child?_scalar l _ rfl] at hc; cases hc

theorem self_mem_desc (d : JV) : ([], d) ∈ desc d := by
  cases d <;> simp [desc]

theorem WF_desc (d : JV) (hw : WF d) : ∀ m ∈ desc d, WF m.2 := by
  induction d using kidsInd with
  | h d ih =>
    intro m hm
    rcases (mem_desc d (WF_top d hw) m).1 hm with rfl | ⟨l, c, hc, m', hm', rfl⟩
    · exact hw
    · exact ih c (kid_of_child hc) (WF_child l d c hw hc) m' hm'

theorem WF_descObj : ∀ (kvs : List (Bytes × JV)), WFK kvs → ∀ (m : Path × JV), m ∈ JPath.descObj kvs → WF m.2 := by
  intro kvs hw m hm
  obtain ⟨kv, hkv, m', hm', rfl⟩ := (mem_descObj kvs m).1 hm
  exact WF_desc kv.2 (WFK_mem kvs hw kv hkv) m' hm'

section
variable [NodupSlice σ]

theorem valAt_append : ∀ (a b : Path) (d : JV), valAt (a ++ b) d = (valAt a d).bind (valAt b)
  | [], _, _ => rfl
  | l :: a, b, d => by
    simp only [List.cons_append, valAt_cons]
    cases child? l d with
    | none => rfl
    | some c => simp only [Option.bind_some]; exact valAt_append a b c

theorem desc_valAt (d : JV) (hw : WF d) : ∀ m ∈ desc d, valAt m.1 d = some m.2 := by
  induction d using kidsInd with
  | h d ih =>
    intro m hm
    rcases (mem_desc d (WF_top d hw) m).1 hm with rfl | ⟨l, c, hc, m', hm', rfl⟩
    · rfl
    · simp only [pfx, valAt_cons, hc, Option.bind_some]
      exact ih c (kid_of_child hc) (WF_child l d c hw hc) m' hm'

theorem descArr_valAt : ∀ (xs : List JV), WFL xs → ∀ x ∈ xs, ∀ m ∈ desc x, valAt m.1 x = some m.2 :=
  fun xs hw x hx => desc_valAt x (WFL_mem xs hw x hx)

theorem descObj_valAt : ∀ (kvs : List (Bytes × JV)), WFK kvs → ∀ kv ∈ kvs, ∀ m ∈ desc kv.2, valAt m.1 kv.2 = some m.2 :=
  fun kvs hw kv hkv => desc_valAt kv.2 (WFK_mem kvs hw kv hkv)

theorem evalG_append : ∀ (x y : List Frag) (v : JV),
    evalG σ (x ++ y) v = (evalG σ x v).flatMap fun m => (evalG σ y m.2).map fun q => (m.1 ++ q.1, q.2)
  | [], y, v => by simp [evalG]
  | f :: r, y, v => by
    simp only [List.cons_append, evalG, evalG_append r y, List.flatMap_assoc, List.map_flatMap, List.flatMap_map, List.map_map,
      Function.comp_def, List.append_assoc]

theorem evalG_valAt : ∀ (x : List Frag) (d : JV), WF d → ∀ m ∈ evalG σ x d, valAt m.1 d = some m.2 ∧ WF m.2
  | [], d, hw, m, hm => by
    simp only [evalG, List.mem_singleton] at hm
    rw [hm]; exact ⟨rfl, hw⟩
  | f :: r, d, hw, m, hm => by
    simp only [evalG, List.mem_flatMap, List.mem_map] at hm
    obtain ⟨m1, hm1, q, hq, rfl⟩ := hm
    have h1 : valAt m1.1 d = some m1.2 ∧ WF m1.2 := by
      by_cases hf : isDescentF f = true
      · have : f = .descent := by cases f <;> first | rfl | cases hf
        subst this
        exact ⟨desc_valAt d hw m1 hm1, WF_desc d hw m1 hm1⟩
      · obtain ⟨l, hl, hc⟩ := Shape_of (σ := σ) f d (by simpa using hf) (WF_top d hw) m1 hm1
        exact ⟨by rw [hl, valAt_cons, hc]; rfl, WF_child l d m1.2 hw hc⟩
    obtain ⟨h2, h3⟩ := evalG_valAt r m1.2 h1.2 q hq
    exact ⟨by rw [valAt_append, h1.1]; exact h2, h3⟩

theorem mem_locs_split (x y : List Frag) (d : JV) (hw : WF d) (p' : Path) :
    p' ∈ locsG σ (x ++ y) d ↔ ∃ p ∈ locsG σ x d, ∃ c, valAt p d = some c ∧ ∃ q ∈ locsG σ y c, p' = p ++ q := by
  simp only [locsG, evalG_append, List.mem_map, List.mem_flatMap]
  constructor
  · rintro ⟨_, ⟨m, hm, q, hq, rfl⟩, rfl⟩
    exact ⟨m.1, ⟨m, hm, rfl⟩, m.2, (evalG_valAt x d hw m hm).1, q.1, ⟨q, hq, rfl⟩, rfl⟩
  · rintro ⟨_, ⟨m, hm, rfl⟩, c, hv, _, ⟨q, hq, rfl⟩, rfl⟩
    rw [(evalG_valAt x d hw m hm).1] at hv
    injection hv with hv
    subst hv
    exact ⟨_, ⟨m, hm, q, hq, rfl⟩, rfl⟩

end

end OjgVerif.JPMut
