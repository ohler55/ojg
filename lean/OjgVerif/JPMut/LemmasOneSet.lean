import OjgVerif.JPMut.LemmasSet
import OjgVerif.JPMut.LemmasOneExact
/-! # SetOne / DelOne exactly: the single change is the write (deletion) at ONE selected location, or ONE created member

For paths without recursive descent on simple data, with the `delOneAbsent` deviation off: when SetOne/DelOne stop, the
data is `single p d op` for a selected location `p`, or (Set) `insAll [c] d` for one member `c` the path creates; when
they run to the end nothing has changed and nothing is selected (or to be created). -/

namespace OjgVerif.JPMut
open OjgVerif.JPath

variable {σ : SliceFn} [NodupSlice σ]

/-- the edit of Set/Del at one location -/
def singleA (a : SetArg) (p : Path) (d : JV) : JV :=
  match a with
  | .val v => updAll (fun _ => v) [p] d
  | .del => delAll [p] d

/-- the mutation a `SetArg` stands for -/
def SetArg.op : SetArg → Op
  | .val v => .set v
  | .del => .del

theorem singleA_eq (a : SetArg) (p : Path) (d : JV) : singleA a p d = single p d a.op := by
  cases a <;> rfl

theorem delAll_one_key (k : Bytes) (kvs : List (Bytes × JV)) : delAll [[Loc.key k]] (.obj kvs) = .obj (kvErase k kvs) := by
  simp only [delAll]
  rw [delObj_last _ (fun p hp => ⟨.key k, by simpa using hp⟩), kvErase_eq_filter]
  congr 1
  apply List.filter_congr
  intro kv _
  simp

theorem delAll_one_idx (j : Nat) (xs : List JV) : delAll [[Loc.idx j]] (.arr xs) = .arr (xs.set j .null) := by
  simp only [delAll]
  rw [delArr_last _ (fun p hp => ⟨.idx j, by simpa using hp⟩), set_eq_mapArr .null xs j 0]
  congr 1
  apply mapArr_congr
  intro i x _
  simp [eq_comm]

theorem singleA_cons (a : SetArg) (l : Loc) (p : Path) (hp : p ≠ []) (d c : JV) (hn : TopNodup d) (hc : child? l d = some c) :
    singleA a (l :: p) d = putChild l (singleA a p c) d := by
  cases a with
  | val v => exact updAll_single_cons _ l p d c hn hc
  | del => exact delAll_edit.single_cons l p hp d c hn hc

theorem singleA_key (a : SetArg) (k : Bytes) (kvs : List (Bytes × JV)) (c : JV) (hn : (keysOf kvs).Nodup) (hl : lookup k kvs = some c) :
    singleA a [.key k] (.obj kvs) = .obj (writeKey a k kvs) := by
  cases a with
  | val v =>
    simp only [singleA, writeKey]
    rw [updAll_single_cons _ (.key k) [] (.obj kvs) c hn hl, updAll_here]
    rfl
  | del => exact delAll_one_key k kvs

theorem singleA_idx (a : SetArg) (j : Nat) (xs : List JV) (hj : j < xs.length) :
    singleA a [.idx j] (.arr xs) = .arr (xs.set j a.elem) := by
  cases a with
  | val v =>
    simp only [singleA, SetArg.elem]
    have hc : child? (.idx j) (.arr xs) = some xs[j] := by simp [child?, hj]
    rw [updAll_single_cons _ (.idx j) [] (.arr xs) _ trivial hc, updAll_here]
    rfl
  | del => exact delAll_one_idx j xs

theorem insAll_single_cons (l : Loc) (p : Path) (s : JV) (hp : p ≠ []) (d c : JV) (hn : TopNodup d) (hc : child? l d = some c) :
    insAll [(l :: p, s)] d = putChild l (insAll [(p, s)] c) d := by
  rw [insAll_inner _ (fun c' h k e => by cases List.mem_singleton.1 h; exact hp (List.cons.inj e).2) d]
  exact mapKids_at _ l d c _ hn hc (by simp [stripC]) (fun l' c' e => by simp [stripC, Ne.symm e, insAll_nil])

theorem insAll_key (k : Bytes) (s : JV) (kvs : List (Bytes × JV)) (h : lookup k kvs = none) :
    insAll [([Loc.key k], s)] (.obj kvs) = .obj (kvInsert k s kvs) := by
  rw [insAll_new_key k s kvs h, kvInsert_absent k s kvs h]

theorem chain_arr_one (dev : Dev) (v : JV) (i : Int) (r : List Frag) (fl : Bool) (hi : 0 ≤ i)
    (hst : (setF false dev true (.val v) (.nth i :: r) fl (.arr (List.replicate (i.toNat + 1) .null))).st = .stop) :
    skel (.nth i :: r) v = some (setF false dev true (.val v) (.nth i :: r) fl (.arr (List.replicate (i.toNat + 1) .null))).d :=
  (chain_arr_halt false dev v i r fl hi).2 hst

theorem chain_obj_one (dev : Dev) (v : JV) : ∀ (rest : List Frag) (k : Bytes) (fl : Bool),
    (setF false dev true (.val v) (.child k :: rest) fl (.obj [])).st = .stop →
    skel (.child k :: rest) v = some (setF false dev true (.val v) (.child k :: rest) fl (.obj [])).d :=
  fun rest k fl => (chain_obj_halt false dev v rest k fl).2

/-- what a One form of `set` has done: gone on — nothing changed, nothing is selected or to be created —, or stopped after
the write at one selected location or the creation of one member -/
def SetOne (σ : SliceFn) (a : SetArg) (x : List Frag) (d : JV) (r : R) : Prop :=
  (r.st = .go → r.d = d ∧ locsG σ x d = [] ∧ ∀ v, a = .val v → createsG σ v x d = []) ∧
  (r.st = .stop → (∃ p ∈ locsG σ x d, r.d = singleA a p d) ∨
    (∃ v c, a = .val v ∧ c ∈ createsG σ v x d ∧ r.d = insAll [c] d))

theorem setOne_err (a : SetArg) (x : List Frag) (d d' : JV) (e : E) : SetOne σ a x d ⟨d', .err e⟩ :=
  ⟨(fun h => by cases h), fun h => by cases h⟩

theorem setOne_go (a : SetArg) (x : List Frag) (d : JV) (h1 : locsG σ x d = []) (h2 : ∀ v, a = .val v → createsG σ v x d = []) :
    SetOne σ a x d ⟨d, .go⟩ :=
  ⟨fun _ => ⟨rfl, h1, h2⟩, fun h => by cases h⟩

theorem setOne_stop_loc (a : SetArg) (x : List Frag) (d d' : JV) (p : Path) (hp : p ∈ locsG σ x d) (hd : d' = singleA a p d) :
    SetOne σ a x d ⟨d', .stop⟩ :=
  ⟨(fun h => by cases h), fun _ => Or.inl ⟨p, hp, hd⟩⟩

theorem setOne_stop_new (v : JV) (x : List Frag) (d d' : JV) (c : Path × JV) (hc : c ∈ createsG σ v x d) (hd : d' = insAll [c] d) :
    SetOne σ (.val v) x d ⟨d', .stop⟩ :=
  ⟨(fun h => by cases h), fun _ => Or.inr ⟨v, c, rfl, hc, hd⟩⟩

theorem setOne_key (dev : Dev) (hda : dev.delOneAbsent = false) (a : SetArg) (f : Frag) (k : Bytes) (kvs : List (Bytes × JV))
    (hn : (keysOf kvs).Nodup)
    (hsel : ∀ c, lookup k kvs = some c → ([Loc.key k], c) ∈ selG σ f (.obj kvs))
    (hnew : ∀ v, lookup k kvs = none → ([Loc.key k], v) ∈ createsG σ v [f] (.obj kvs)) :
    (oneKey dev true a k kvs = true → SetOne σ a [f] (.obj kvs) ⟨.obj (writeKey a k kvs), .stop⟩) ∧
    (oneKey dev true a k kvs = false → writeKey a k kvs = kvs ∧ a = .del ∧ lookup k kvs = none) := by
  cases hl : lookup k kvs with
  | some c =>
    refine ⟨fun _ => ?_, fun h => by simp [oneKey, hl] at h⟩
    exact setOne_stop_loc a [f] _ _ [.key k] (mem_locs_single f _ c _ (hsel c hl)) (singleA_key a k kvs c hn hl).symm
  | none =>
    cases a with
    | val v =>
      refine ⟨fun _ => ?_, fun h => by simp [oneKey, SetArg.isDel] at h⟩
      exact setOne_stop_new v [f] _ _ ([.key k], v) (hnew v hl) (insAll_key k v kvs hl).symm
    | del =>
      refine ⟨(fun h => by simp [oneKey, SetArg.isDel, hda, hl] at h), fun _ => ⟨kvErase_absent k kvs hl, rfl, rfl⟩⟩

theorem creates_union_obj (v : JV) (ms : List Member) (kvs : List (Bytes × JV)) :
    createsG σ v [.union ms] (.obj kvs) = ((unionKeys ms).filter fun k => (lookup k kvs).isNone).map fun k => ([Loc.key k], v) := by
  rw [creates_single]
  simp [ownCreates]

theorem setLastUnion_one (dev : Dev) (hda : dev.delOneAbsent = false) (a : SetArg) : ∀ (ms : List Member) (d : JV), TopNodup d →
    SetOne σ a [.union ms] d (setLastUnion false dev true a ms d)
  | [], d, _ => setOne_go a _ _ (locs_nosel (σ := σ) _ _ _ rfl) (fun v _ => by rw [creates_single]; cases d <;> rfl)
  | mb :: ms, d, hw => by
    have ih := setLastUnion_one dev hda a ms d hw
    -- a member that selects nothing and creates nothing may be left out of the union
    have skip : selMember d mb = [] →
        (∀ v, a = .val v → ownCreates v (.union (mb :: ms)) [] d = ownCreates v (.union ms) [] d) →
        SetOne σ a [.union (mb :: ms)] d (setLastUnion false dev true a ms d) := by
      intro hs hc
      have eL : locsG σ [.union (mb :: ms)] d = locsG σ [.union ms] d := by simp [locsG, evalG, selG, sel, hs]
      have eC : ∀ v, a = .val v → createsG σ v [.union (mb :: ms)] d = createsG σ v [.union ms] d :=
        fun v hv => by rw [creates_single, creates_single, hc v hv]
      refine ⟨fun h => ?_, fun h => ?_⟩
      · obtain ⟨h1, h2, h3⟩ := ih.1 h
        exact ⟨h1, eL ▸ h2, fun v hv => eC v hv ▸ h3 v hv⟩
      · rcases ih.2 h with ⟨p, hp, e⟩ | ⟨v, c, rfl, hc', e⟩
        · exact Or.inl ⟨p, eL ▸ hp, e⟩
        · exact Or.inr ⟨v, c, rfl, eC v rfl ▸ hc', e⟩
    cases mb with
    | key k =>
      cases d with
      | obj kvs =>
        have hk := setOne_key (σ := σ) dev hda a (.union (.key k :: ms)) k kvs hw
          (fun c hl => List.mem_flatMap.2 ⟨.key k, by simp, by simp [selMember, hl]⟩)
          (fun v hl => by rw [creates_union_obj]; simp [unionKeys, hl])
        simp only [setLastUnion]
        split
        next ho => exact hk.1 ho
        next ho =>
          obtain ⟨h1, h2, h3⟩ := hk.2 (by simpa using ho)
          rw [h1]
          exact skip (by simp [selMember, h3]) (fun v hv => by rw [h2] at hv; cases hv)
      | _ => exact skip rfl (fun _ _ => rfl)
    | idx i =>
      cases d with
      | arr xs =>
        simp only [setLastUnion]
        cases ha : absIdx xs.length i with
        | some j =>
          have hj := absIdx_lt _ _ _ ha
          exact setOne_stop_loc a _ _ _ [.idx j]
            (mem_locs_single _ _ xs[j] _ (List.mem_flatMap.2 ⟨.idx i, by simp, by simp [selMember, ha, hj]⟩)) (singleA_idx a j xs hj).symm
        | none => exact skip (by simp [selMember, ha]) (fun _ _ => rfl)
      | _ => exact skip rfl (fun _ _ => rfl)

theorem setOne_none (a : SetArg) (f : Frag) (d : JV) (hs : selG σ f d = []) (ho : ∀ v, a = .val v → ownCreates v f [] d = []) :
    SetOne σ a [f] d ⟨d, .go⟩ :=
  setOne_go a _ _ (locs_nosel (σ := σ) f [] d hs) (fun v hv => by rw [creates_single, ho v hv])

theorem setLast_one (dev : Dev) (hda : dev.delOneAbsent = false) (a : SetArg) (f : Frag) (d : JV) (hw : TopNodup d)
    (he : endable f = true) : SetOne σ a [f] d (setLast false dev true a f d) := by
  cases f with
  | union ms => exact setLastUnion_one dev hda a ms d hw
  | child k =>
    cases d with
    | obj kvs =>
      have hk := setOne_key (σ := σ) dev hda a (.child k) k kvs hw
        (fun c hl => by simp [selG, sel, selMember, hl])
        (fun v hl => by rw [creates_single]; simp [ownCreates, hl, skel])
      simp only [setLast]
      cases ho : oneKey dev true a k kvs with
      | true => exact hk.1 ho
      | false =>
        obtain ⟨h1, h2, h3⟩ := hk.2 ho
        rw [h1]
        exact setOne_none a _ _ (by simp [selG, sel, selMember, h3]) (fun v hv => by rw [h2] at hv; cases hv)
    | _ => exact setOne_none a _ _ rfl (fun _ _ => rfl)
  | nth i =>
    cases d with
    | arr xs =>
      simp only [setLast]
      cases ha : absIdx xs.length i with
      | none => exact setOne_err a _ _ _ _
      | some j =>
        have hj := absIdx_lt _ _ _ ha
        exact setOne_stop_loc a _ _ _ [.idx j] (mem_locs_single _ _ xs[j] _ (by simp [selG, sel, selMember, ha, hj])) (singleA_idx a j xs hj).symm
    | _ => exact setOne_none a _ _ rfl (fun _ _ => rfl)
  | wild =>
    cases d with
    | obj kvs =>
      cases kvs with
      | nil => exact setOne_none a _ _ rfl (fun _ _ => rfl)
      | cons m r =>
        have hl : lookup m.1 (m :: r) = some m.2 := by simp [lookup]
        refine setOne_stop_loc a _ _ _ [.key m.1] (mem_locs_single _ _ m.2 _ (by simp [selG, sel, members])) ?_
        rw [singleA_key a m.1 (m :: r) m.2 hw hl]
        cases a with
        | val v => simp [SetArg.isDel, writeKey, kvInsert, SetArg.elem]
        | del =>
          -- the first member goes: with pairwise different names that is the deletion of its name
          have hnot : lookup m.1 r = none := (lookup_none_iff m.1 r).2 (List.nodup_cons.1 hw).1
          simp [SetArg.isDel, writeKey, kvErase, kvErase_absent m.1 r hnot]
    | arr xs =>
      cases xs with
      | nil => exact setOne_none a _ _ rfl (fun _ _ => rfl)
      | cons x r =>
        refine setOne_stop_loc a _ _ _ [.idx 0] (mem_locs_single _ _ x _ (by simp [selG, sel, members, elemsFrom])) ?_
        rw [singleA_idx a 0 (x :: r) (by simp)]
        rfl
    | _ => exact setOne_none a _ _ rfl (fun _ _ => rfl)
  | _ => cases he

theorem mem_creates_cons (v : JV) (f : Frag) (rest : List Frag) (d c : JV) (l : Loc) (hs : ([l], c) ∈ selG σ f d)
    (c' : Path × JV) (hc' : c' ∈ createsG σ v rest c) : (l :: c'.1, c'.2) ∈ createsG σ v (f :: rest) d := by
  rw [creates_cons]
  apply List.mem_append_right
  exact List.mem_flatMap.2 ⟨([l], c), hs, List.mem_map.2 ⟨c', hc', rfl⟩⟩

theorem creates_scalar (v : JV) (g : Frag) (r : List Frag) (c : JV) (hg : isDescentF g = false) (hc : isContainer c = false) :
    createsG σ v (g :: r) c = [] := by
  rw [creates_cons, ownCreates_scalar v g r c hc, sel_scalar (σ := σ) g c hg hc]
  rfl

/-- what the traversal needs to know about the rest of the path after an inner fragment -/
structure TailOK (σ : SliceFn) (tail : List Frag) : Prop where
  locs_ne : ∀ c, WF c → ∀ p ∈ locsG σ tail c, p ≠ []
  creates_ne : ∀ v c, WF c → ∀ c' ∈ createsG σ v tail c, c'.1 ≠ []
  locs_sc : ∀ c, isContainer c = false → locsG σ tail c = []
  creates_sc : ∀ v c, isContainer c = false → createsG σ v tail c = []

theorem tailOK_cons (g : Frag) (hg : isDescentF g = false) (r : List Frag) : TailOK σ (g :: r) :=
  ⟨fun c hw p hp e => by
     obtain ⟨mm, hm, q, _, rfl⟩ := (mem_locs_cons (σ := σ) g r c p).1 hp
     obtain ⟨l, hl, _⟩ := Shape_of (σ := σ) g c hg (WF_top c hw) mm hm
     simp [hl] at e,
   fun v c hw c' hc' => by
     rw [creates_cons] at hc'
     rcases List.mem_append.1 hc' with h | h
     · obtain ⟨k, hk⟩ := ownCreates_shape v g _ c c' h
       rw [hk]; simp
     · obtain ⟨mm, hm, h2⟩ := List.mem_flatMap.1 h
       obtain ⟨c0, _, rfl⟩ := List.mem_map.1 h2
       obtain ⟨l, hl, _⟩ := Shape_of (σ := σ) g c hg (WF_top c hw) mm hm
       simp [preC, hl],
   fun c hc => locs_scalar (σ := σ) g r c hg hc,
   fun v c hc => creates_scalar v g r c hg hc⟩

theorem setOne_lift (a : SetArg) (f g : Frag) (r : List Frag) (d c : JV) (l : Loc) (hw : WF d) (ht : TailOK σ (g :: r))
    (hc : child? l d = some c) (hs : ([l], c) ∈ selG σ f d) (rr : R) (hr : SetOne σ a (g :: r) c rr) (hst : rr.st = .stop) :
    SetOne σ a (f :: g :: r) d ⟨putChild l rr.d d, .stop⟩ := by
  have hwc := WF_child l d c hw hc
  rcases hr.2 hst with ⟨p, hp, hd⟩ | ⟨v, c', rfl, hc', hd⟩
  · have hpne : p ≠ [] := ht.locs_ne c hwc p hp
    refine setOne_stop_loc a _ _ _ (l :: p) ((mem_locs_cons (σ := σ) f (g :: r) d _).2 ⟨([l], c), hs, p, hp, rfl⟩) ?_
    rw [hd, singleA_cons a l p hpne d c (WF_top d hw) hc]
  · have hpne : c'.1 ≠ [] := ht.creates_ne v c hwc c' hc'
    refine setOne_stop_new v _ _ _ (l :: c'.1, c'.2) (mem_creates_cons v f (g :: r) d c l hs c' hc') ?_
    rw [hd]
    exact (insAll_single_cons l c'.1 c'.2 hpne d c (WF_top d hw) hc).symm

theorem nothing_of (a : SetArg) (f g : Frag) (r : List Frag) (d : JV)
    (hown : ∀ v, a = .val v → ownCreates v f (g :: r) d = [])
    (hall : ∀ m ∈ selG σ f d, locsG σ (g :: r) m.2 = [] ∧ ∀ v, a = .val v → createsG σ v (g :: r) m.2 = []) :
    locsG σ (f :: g :: r) d = [] ∧ ∀ v, a = .val v → createsG σ v (f :: g :: r) d = [] := by
  refine ⟨List.eq_nil_iff_forall_not_mem.2 fun p hp => ?_, fun v hv => ?_⟩
  · obtain ⟨m, hm, q, hq, _⟩ := (mem_locs_cons (σ := σ) f (g :: r) d p).1 hp
    rw [(hall m hm).1] at hq
    cases hq
  · rw [creates_cons, hown v hv]
    refine List.eq_nil_iff_forall_not_mem.2 fun c hc => ?_
    obtain ⟨m, hm, hc'⟩ := List.mem_flatMap.1 hc
    rw [(hall m hm).2 v hv] at hc'
    cases hc'

/-- One inner step of SetOne / DelOne at a fragment that creates nothing here (`hf`: not a Child): when the rest of the path
does on every selected member what `SetOne` says (`ih`) and leaves the data alone when it goes on (`hk`), the visit of the
members `f` selects does so on the container; a member that is not handed on is a scalar, where the tail selects and creates
nothing (`ht`). -/
theorem setVisit_one (dev : Dev) (a : SetArg) (cont sib : Bool) (f g : Frag) (r : List Frag) (d : JV) (hw : WF d)
    (ht : TailOK σ (g :: r)) (hf : ∀ k, f ≠ .child k) (hok : StepsOK σ (setSteps dev f d) f d) (kk : Bool → JV → R)
    (hk : ∀ fl' c, (kk fl' c).st = .go → (kk fl' c).d = c)
    (ih : ∀ l c, child? l d = some c → ([l], c) ∈ selG σ f d → ∀ fl, SetOne σ a (g :: r) c (kk fl c)) :
    SetOne σ a (f :: g :: r) d (visitD cont sib kk false (setSteps dev f d) d) := by
  have h := visitD_one cont sib _ hk (setSteps dev f d) false d
  refine ⟨fun hst => ?_, fun hst => ?_⟩
  · obtain ⟨h1, h2⟩ := h.1 hst
    refine ⟨h1, nothing_of a f g r d (fun v _ => ownCreates_inner_nil v f g r d hf) fun m hm => ?_⟩
    obtain ⟨l, hl, hc⟩ := hok.shape m hm
    have hsel : ([l], m.2) ∈ selG σ f d := hl ▸ hm
    cases hp : pass cont m.2 with
    | true =>
      obtain ⟨fl', hgo⟩ := h2 l ((hok.mem l m.2 hc).2 hsel) m.2 hc hp
      exact ((ih l m.2 hc hsel fl').1 hgo).2
    | false =>
      have hsc : isContainer m.2 = false := by simp [pass] at hp; exact hp.2
      exact ⟨ht.locs_sc m.2 hsc, fun v _ => ht.creates_sc v m.2 hsc⟩
  · obtain ⟨l, hl, c, fl', hc, _, hst', hd⟩ := h.2 (by rw [hst]; simp)
    rw [hst] at hst'
    have hsel := (hok.mem l c hc).1 hl
    rw [hd]
    exact (setOne_lift a f g r d c l hw ht hc hsel _ (ih l c hc hsel fl') hst').2 rfl

theorem setCreate_one (dev : Dev) (a : SetArg) (key : Bytes) (g : Frag) (r : List Frag) (kvs : List (Bytes × JV))
    (hl : lookup key kvs = none) :
    SetOne σ a (.child key :: g :: r) (.obj kvs) (setCreate a key (g :: r) (setF false dev true a (g :: r)) kvs) := by
  cases a with
  | del =>
    exact setOne_go .del _ _ (locs_nosel (σ := σ) _ _ _ (by simp [selG, sel, selMember, hl])) nofun
  | val v =>
    -- the created chain halts; when it has stopped the new member holds what the specification names
    have hnew : ∀ (rr : R), rr.st ≠ .go → (rr.st = .stop → skel (g :: r) v = some rr.d) →
        SetOne σ (.val v) (.child key :: g :: r) (.obj kvs) ⟨.obj (kvInsert key rr.d kvs), rr.st⟩ := by
      intro rr hgo hs
      refine ⟨fun h => absurd h hgo, fun h => Or.inr ⟨v, ([.key key], rr.d), rfl, ?_, (insAll_key key rr.d kvs hl).symm⟩⟩
      rw [creates_cons]
      exact List.mem_append_left _ (by simp [ownCreates, hl, hs h])
    simp only [setCreate, List.head?_cons]
    cases g with
    | child k' => exact hnew _ (chain_obj_halt false dev v r k' false).1 (chain_obj_halt false dev v r k' false).2
    | nth i =>
      simp only
      split
      · exact setOne_err _ _ _ _ _
      next hi => exact hnew _ (chain_arr_halt false dev v i r false (by omega)).1 (chain_arr_halt false dev v i r false (by omega)).2
    | _ => exact setOne_err _ _ _ _ _

/-- One inner step of SetOne / DelOne: when the rest of the path — which does not see the descent marker (`hfl`) — does on every
selected member what `SetOne` says, the step does so on the container -/
theorem setF_one_cons (dev : Dev) (a : SetArg) (f g : Frag) (r : List Frag) (fl : Bool) (d : JV) (hf : isDescentF f = false)
    (hw : WF d) (hg : GoodAtS σ dev f d) (ht : TailOK σ (g :: r))
    (hfl : ∀ b c, setF false dev true a (g :: r) (b && dev.descentSiblings) c = setF false dev true a (g :: r) false c)
    (ih : ∀ l c, child? l d = some c → ([l], c) ∈ selG σ f d → SetOne σ a (g :: r) c (setF false dev true a (g :: r) false c)) :
    SetOne σ a (f :: g :: r) d (setF false dev true a (f :: g :: r) fl d) := by
  have hkgo := fun c => (setF_inv false dev a (g :: r) false c).1
  rcases setF_step σ false dev true a f g r fl d hf with
    ⟨s, hs, _, _, hgo, e⟩ | ⟨l, c, hc, hs, honly, hown, e⟩ | ⟨key, kvs, rfl, rfl, hlk, e⟩ | ⟨hc, hn, e⟩ <;> rw [e]
  · refine ⟨fun h => ⟨rfl, ?_⟩, fun h => absurd h hs⟩
    obtain ⟨h1, h2⟩ := hgo h
    exact nothing_of a f g r d (fun v _ => h2 v) (fun m hm => by rw [h1] at hm; cases hm)
  · simp only [setFollow]
    split
    · refine ⟨fun hst => ?_, fun hst => (setOne_lift a f g r d c l hw ht hc hs _ (ih l c hc hs) hst).2 rfl⟩
      refine ⟨by rw [hkgo c hst]; exact putChild_self l d c hc, ?_⟩
      exact nothing_of a f g r d (fun v _ => hown v) fun m hm => by rw [honly m hm]; exact ((ih l c hc hs).1 hst).2
    · exact setOne_err a _ _ _ _
  · exact setCreate_one dev a key g r kvs hlk
  · rw [visitD_flag _ _ _ hfl]
    exact setVisit_one dev a _ _ f g r d hw ht hc (setSteps_ok (σ := σ) dev f d (WF_top d hw) hg hc hn) _ (fun _ c => hkgo c)
      (fun l c hc hs _ => ih l c hc hs)

theorem setF_one (dev : Dev) (hda : dev.delOneAbsent = false) (a : SetArg) : ∀ (x : List Frag), x ≠ [] → NoDescent x →
    (∀ f, x.getLast? = some f → endable f = true) → ∀ (fl : Bool) (d : JV), WF d → GoodPathS σ dev x d →
    SetOne σ a x d (setF false dev true a x fl d)
  | [], h, _, _, _, _, _, _ => absurd rfl h
  | [f], _, hnd, hl, fl, d, hw, hg => by
    rw [setF_single_eq _ _ _ _ _ (hnd f (by simp))]
    exact setLast_one dev hda a f d (WF_top d hw) (hl f rfl)
  | f :: g :: r, _, hnd, hl, fl, d, hw, hg =>
    have hndr : NoDescent (g :: r) := fun g' hg' => hnd g' (List.mem_cons_of_mem _ hg')
    setF_one_cons dev a f g r fl d (hnd f (by simp)) hw hg.1 (tailOK_cons g (hndr g (by simp)) r)
      (fun _ c => setF_fl false dev true a g r (hndr g (by simp)) _ c)
      fun l c hc hs => setF_one dev hda a (g :: r) (by simp) hndr (fun f' hf' => hl f' (by rw [List.getLast?_cons_cons]; exact hf'))
        false c (WF_child l d c hw hc) (hg.2 ([l], c) hs)

theorem SetOne.oneOKG {a : SetArg} {x : List Frag} {d d' : JV} {r : R} (hone : SetOne σ a x d r) (h : r.out = .ok d') :
    OneOKG σ x d d' a.op := by
  cases r with
  | mk dd ss =>
    cases ss <;> cases h
    · obtain ⟨h1, h2, h3⟩ := hone.1 rfl
      refine Or.inl ⟨h2, ?_, h1⟩
      cases a with
      | val v => exact h3 v rfl
      | del => trivial
    · rcases hone.2 rfl with ⟨p, hp, hd⟩ | ⟨v, c, rfl, hc, hd⟩
      · exact Or.inr (Or.inl ⟨p, hp, by rw [← singleA_eq]; exact hd⟩)
      · exact Or.inr (Or.inr ⟨c, hc, hd⟩)

end OjgVerif.JPMut
