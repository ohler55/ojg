import OjgVerif.Common.BytesLemmas
import OjgVerif.JPMut.Model
/-! Association lists as the models read and write them: `lookup`, `kvInsert`, `kvErase` against member names (`keysOf`),
the index arithmetic `absIdx`, and the array of `i + 1` nulls that creating the index `i` builds, the value last
(`absIdx_replicate`, `replicate_set_last`). Nothing here speaks of paths or of the traversals. -/
namespace OjgVerif.JPMut
open OjgVerif.JPath

def keysOf (kvs : List (Bytes × JV)) : List Bytes := kvs.map (·.1)

theorem lookup_mem : ∀ (kvs : List (Bytes × JV)) (k : Bytes) (c : JV), lookup k kvs = some c → (k, c) ∈ kvs
  | [], _, _, h => by simp [lookup] at h
  | m :: r, k, c, h => by
    simp only [lookup] at h
    by_cases hk : m.1 = k
    · simp only [hk, if_true, Option.some.injEq] at h
      have : m = (k, c) := by cases m; simp_all
      simp [this]
    · simp only [hk, if_false] at h
      exact List.mem_cons_of_mem _ (lookup_mem r k c h)

theorem lookup_of_mem_nodup : ∀ (kvs : List (Bytes × JV)), (keysOf kvs).Nodup → ∀ m ∈ kvs, lookup m.1 kvs = some m.2
  | [], _, _, h => by cases h
  | y :: r, hn, m, h => by
    simp only [keysOf, List.map_cons, List.nodup_cons] at hn
    cases h with
    | head => simp [lookup]
    | tail _ h' =>
      have hne : y.1 ≠ m.1 := by
        intro he
        exact hn.1 (by rw [he]; exact List.mem_map_of_mem h')
      simp only [lookup, hne, if_false]
      exact lookup_of_mem_nodup r hn.2 m h'

theorem lookup_none_iff (k : Bytes) : ∀ (kvs : List (Bytes × JV)), lookup k kvs = none ↔ k ∉ keysOf kvs
  | [] => by simp [lookup, keysOf]
  | m :: r => by
    simp only [lookup, keysOf, List.map_cons, List.mem_cons, not_or]
    by_cases e : m.1 = k
    · simp [e]
    · have := lookup_none_iff k r
      simp only [keysOf] at this
      have e' : ¬ k = m.1 := fun h => e h.symm
      simp only [e, if_false, this, e', not_false_eq_true, true_and]

theorem lookup_isNone_congr {A B : List (Bytes × JV)} (h : keysOf A = keysOf B) (k : Bytes) :
    (lookup k A).isNone = (lookup k B).isNone := by
  rw [Bool.eq_iff_iff, Option.isNone_iff_eq_none, Option.isNone_iff_eq_none, lookup_none_iff, lookup_none_iff, h]

theorem lookup_append_left (k : Bytes) : ∀ (A B : List (Bytes × JV)) (c : JV), lookup k A = some c → lookup k (A ++ B) = some c
  | [], _, _, h => by simp [lookup] at h
  | m :: r, B, c, h => by
    simp only [lookup, List.cons_append] at h ⊢
    by_cases e : m.1 = k
    · simp only [e, if_true] at h ⊢; exact h
    · simp only [e, if_false] at h ⊢; exact lookup_append_left k r B c h

theorem lookup_map (g : Loc → JV → JV) (k : Bytes) : ∀ kvs : List (Bytes × JV),
    lookup k (kvs.map fun m => (m.1, g (.key m.1) m.2)) = (lookup k kvs).map (g (.key k))
  | [] => rfl
  | m :: r => by
    simp only [List.map_cons, lookup]
    by_cases h : m.1 = k
    · simp [h]
    · simp [h, lookup_map g k r]

theorem kvInsert_eq_map (k : Bytes) (v : JV) : ∀ (kvs : List (Bytes × JV)), (keysOf kvs).Nodup → k ∈ keysOf kvs →
    kvInsert k v kvs = kvs.map fun m => (m.1, if Loc.key m.1 = Loc.key k then v else m.2)
  | [], _, h => by simp [keysOf] at h
  | m :: r, hn, hk => by
    simp only [keysOf, List.map_cons, List.nodup_cons] at hn
    cases m with
    | mk k' v' =>
    by_cases e : k' = k
    · subst e
      simp only [kvInsert, if_true, List.map_cons]
      congr 1
      symm
      calc r.map (fun m => (m.1, if Loc.key m.1 = Loc.key k' then v else m.2))
          = r.map (fun m => m) := by
            apply List.map_congr_left
            intro m' hm'
            have : m'.1 ≠ k' := by
              intro h'; exact hn.1 (by rw [← h']; exact List.mem_map_of_mem (f := (·.1)) hm')
            have : Loc.key m'.1 ≠ Loc.key k' := by intro h'; injection h' with h'; exact this h'
            simp [this]
        _ = r := by simp
    · have hk' : k ∈ keysOf r := by
        simp only [keysOf, List.map_cons, List.mem_cons] at hk
        rcases hk with h | h
        · exact absurd h.symm e
        · exact h
      have hne : Loc.key k' ≠ Loc.key k := by intro h'; injection h' with h'; exact e h'
      simp only [kvInsert, e, if_false, List.map_cons, hne]
      congr 1
      exact kvInsert_eq_map k v r hn.2 hk'

theorem kvInsert_set (k : Bytes) (v : JV) : ∀ (kvs : List (Bytes × JV)) (c : JV), lookup k kvs = some c →
    ∃ j, kvs[j]? = some (k, c) ∧ kvInsert k v kvs = kvs.set j (k, v)
  | [], _, h => by simp [lookup] at h
  | m :: r, c, h => by
    cases m with
    | mk k' v' =>
    simp only [lookup] at h
    by_cases e : k' = k
    · simp only [e, if_true, Option.some.injEq] at h
      subst e; subst h
      exact ⟨0, by simp, by simp [kvInsert]⟩
    · simp only [e, if_false] at h
      obtain ⟨j, h1, h2⟩ := kvInsert_set k v r c h
      exact ⟨j + 1, by simpa using h1, by simp [kvInsert, e, h2]⟩

theorem kvInsert_self (k : Bytes) (c : JV) (kvs : List (Bytes × JV)) (h : lookup k kvs = some c) : kvInsert k c kvs = kvs := by
  obtain ⟨j, h1, h2⟩ := kvInsert_set k c kvs c h
  obtain ⟨hl, he⟩ := List.getElem?_eq_some_iff.1 h1
  rw [h2, ← he, List.set_getElem_self]

theorem kvInsert_absent (k : Bytes) (v : JV) (kvs : List (Bytes × JV)) (h : lookup k kvs = none) :
    kvInsert k v kvs = kvs ++ [(k, v)] :=
  kvInsert_notin k v kvs ((lookup_none_iff k kvs).1 h)

theorem kvInsert_split (k : Bytes) (v c : JV) : ∀ (pre suf : List (Bytes × JV)), k ∉ keysOf pre →
    kvInsert k v (pre ++ (k, c) :: suf) = pre ++ (k, v) :: suf
  | [], _, _ => by simp [kvInsert]
  | e :: pre, suf, h => by
    have hne : e.1 ≠ k := fun e' => h (by simp [keysOf, e'])
    have h' : k ∉ keysOf pre := fun hh => h (by simp only [keysOf, List.map_cons, List.mem_cons]; exact Or.inr hh)
    simp only [List.cons_append, kvInsert, hne, if_false, kvInsert_split k v c pre suf h']

theorem lookup_kvInsert_ne (k k' : Bytes) (v : JV) (h : k' ≠ k) : ∀ (kvs : List (Bytes × JV)), lookup k' (kvInsert k v kvs) = lookup k' kvs
  | [] => by simp [kvInsert, lookup, Ne.symm h]
  | m :: r => by
    cases m with
    | mk k0 v0 =>
    by_cases e : k0 = k
    · subst e; simp [kvInsert, lookup, Ne.symm h]
    · by_cases e' : k0 = k'
      · subst e'; simp [kvInsert, lookup, h]
      · simp [kvInsert, lookup, e, e', lookup_kvInsert_ne k k' v h r]

theorem kvErase_eq_filter (k : Bytes) : ∀ (kvs : List (Bytes × JV)), kvErase k kvs = kvs.filter fun kv => !decide (kv.1 = k)
  | [] => rfl
  | m :: r => by
    simp only [kvErase, List.filter]
    by_cases h : m.1 = k
    · simp [h, kvErase_eq_filter k r]
    · simp [h, kvErase_eq_filter k r]

theorem kvErase_absent (k : Bytes) : ∀ (kvs : List (Bytes × JV)), lookup k kvs = none → kvErase k kvs = kvs
  | [], _ => rfl
  | m :: r, h => by
    simp only [lookup] at h
    by_cases e : m.1 = k
    · simp [e] at h
    · simp only [e, if_false] at h
      simp [kvErase, e, kvErase_absent k r h]

theorem lookup_kvErase (k k' : Bytes) : ∀ (kvs : List (Bytes × JV)), lookup k' (kvErase k kvs) = if k' = k then none else lookup k' kvs
  | [] => by simp [kvErase, lookup]
  | m :: r => by
    have ih := lookup_kvErase k k' r
    by_cases e : m.1 = k
    · simp only [kvErase, e, if_true, ih, lookup]
      by_cases e' : k' = k
      · simp [e']
      · simp [e', Ne.symm e']
    · simp only [kvErase, e, if_false, lookup, ih]
      by_cases e' : k' = k
      · subst e'; simp [e]
      · simp [e']

theorem lookup_filter_none (k : Bytes) (q : Bytes × JV → Bool) : ∀ (kvs : List (Bytes × JV)),
    (∀ kv ∈ kvs, kv.1 = k → q kv = false) → lookup k (kvs.filter q) = none
  | [], _ => rfl
  | kv :: r, h => by
    simp only [List.filter]
    cases hq : q kv with
    | false => exact lookup_filter_none k q r (fun kv' h' => h kv' (List.mem_cons_of_mem _ h'))
    | true =>
      have hne : kv.1 ≠ k := fun e => by rw [h kv (by simp) e] at hq; cases hq
      simp only [lookup, hne, if_false]
      exact lookup_filter_none k q r (fun kv' h' => h kv' (List.mem_cons_of_mem _ h'))

theorem absIdx_lt (n : Nat) (i : Int) (j : Nat) (h : absIdx n i = some j) : j < n := by
  simp only [absIdx] at h
  by_cases hi : i < 0
  · simp only [hi, if_true] at h
    by_cases hh : 0 ≤ i + (n : Int) ∧ i + (n : Int) < n
    · simp only [hh, and_self, if_true, Option.some.injEq] at h; omega
    · simp only [hh, if_false] at h; cases h
  · simp only [hi, if_false] at h
    by_cases hh : 0 ≤ i ∧ i < (n : Int)
    · simp only [hh, and_self, if_true, Option.some.injEq] at h; omega
    · simp only [hh, if_false] at h; cases h

theorem absIdx_nonneg (n : Nat) (i : Int) (j : Nat) (h0 : 0 ≤ i) (hj : j < n) : absIdx n i = some j ↔ i = (j : Int) := by
  have hneg : ¬ i < 0 := by omega
  simp only [absIdx, hneg, if_false]
  by_cases hh : 0 ≤ i ∧ i < (n : Int)
  · simp only [hh, and_self, if_true, Option.some.injEq]
    omega
  · simp only [hh, if_false]
    constructor
    · intro h; cases h
    · intro h; omega

theorem absIdx_replicate (i : Int) (h : 0 ≤ i) : absIdx (i.toNat + 1) i = some i.toNat := by
  have hn : ¬ i < 0 := by omega
  have e : ((i.toNat + 1 : Nat) : Int) = i + 1 := by
    rw [Int.natCast_add, Int.toNat_of_nonneg h]; rfl
  simp only [absIdx, hn, if_false, e]
  have : 0 ≤ i ∧ i < i + 1 := by omega
  simp [this]

theorem replicate_set_last (v : JV) : ∀ (i : Nat), (List.replicate (i + 1) JV.null).set i v = List.replicate i JV.null ++ [v]
  | 0 => rfl
  | n + 1 => by
    have ih := replicate_set_last v n
    rw [List.replicate_succ, List.set_cons_succ, ih, List.replicate_succ]
    rfl

end OjgVerif.JPMut
