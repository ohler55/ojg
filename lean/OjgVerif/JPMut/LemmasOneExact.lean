import OjgVerif.JPMut.LemmasErr
/-! # The One forms exactly: the single change is the edit of ONE SELECTED location

`LemmasOne.lean` shows that a One form changes at most one member of one container. Here, for paths without recursive
descent: the change IS the all-matches edit at one of the selected locations — `updAll m.eff [p] d` for ModifyOne with
`p ∈ locsG σ x d` a location at which the modifier reports a change (the model takes the first in the order modify.go pops
them; which one is not part of the statements); nothing changes only when the modifier reports no change at any selected
location. Second half: RemoveOne is ModifyOne of the path without its last fragment with that fragment's `removeOne` method
(`RemOne`: the method drops one selected member or finds none, `removeOneOf_single`; `ModOneOut.remove`), and `OneOKG`, the
demand of the property on a One form under a reading `σ` of slices, in which the One theorems of the Props files are stated. -/

namespace OjgVerif.JPMut
open OjgVerif.JPath

variable {σ : SliceFn} [NodupSlice σ]

theorem strip_single_same (l : Loc) (p : Path) : strip l [l :: p] = [p] := by simp [strip]

theorem strip_single_ne (l l' : Loc) (p : Path) (h : l' ≠ l) : strip l' [l :: p] = [] := by
  simp [strip, Ne.symm h]

theorem mapKids_at (F : Loc → JV → JV) (l : Loc) (d c v : JV) (hn : TopNodup d) (hc : child? l d = some c) (hl : F l c = v)
    (hne : ∀ l' c', l' ≠ l → F l' c' = c') : mapKids F d = putChild l v d := by
  rw [putChild_eq_mapKids l v d c hn hc]
  apply mapKids_congr d hn
  intro l' c' hc'
  by_cases e : l' = l
  · subst e
    cases hc.symm.trans hc'
    simp [hl]
  · simp [e, hne l' c' e]

theorem updAll_single_cons (m : JV → JV) (l : Loc) (p : Path) (d c : JV) (hn : TopNodup d) (hc : child? l d = some c) :
    updAll m [l :: p] d = putChild l (updAll m [p] c) d := by
  rw [updAll_eq, show hasNil [l :: p] = false by simp [hasNil], if_neg (by simp)]
  exact mapKids_at _ l d c _ hn hc (by rw [strip_single_same]) (fun l' c' e => by rw [strip_single_ne l l' p e, updAll_nil])

theorem DropEdit.single_cons {E : List Path → JV → JV} (hE : DropEdit E) (l : Loc) (p : Path) (hp : p ≠ []) (d c : JV)
    (hn : TopNodup d) (hc : child? l d = some c) : E [l :: p] d = putChild l (E [p] c) d := by
  rw [hE.inner _ (fun l' h => hp (List.cons.inj (List.mem_singleton.1 h)).2.symm) d]
  exact mapKids_at _ l d c _ hn hc (by rw [strip_single_same]) (fun l' c' e => by rw [strip_single_ne l l' p e, hE.nil])

/-- what a One form of `modify` has done: gone on — nothing changed, no selected location wants a change —, or stopped
after the edit of one selected location -/
def ModOne (σ : SliceFn) (m : Modifier) (x : List Frag) (d : JV) (r : R) : Prop :=
  (r.st = .go → r.d = d ∧ ∀ p ∈ locsG σ x d, ∀ c, valAt p d = some c → (m c).2 = false) ∧
  (r.st = .stop → ∃ p ∈ locsG σ x d, ∃ c, valAt p d = some c ∧ (m c).2 = true ∧ r.d = updAll m.eff [p] d) ∧
  Quiet r.st

theorem eff_of_changed (m : Modifier) (c : JV) (h : (m c).2 = true) : m.eff c = (m c).1 := by
  simp [Modifier.eff, h]

/-- what the last fragment of ModifyOne does to one member: stop with the modifier's result, or go on -/
def apOne (m : Modifier) (c : JV) : R := if (m c).2 then ⟨(m c).1, .stop⟩ else ⟨c, .go⟩

theorem modSeq_one_eq (dev : Dev) (m : Modifier) : ∀ (steps : List Loc) (fl : Bool) (d : JV),
    modSeq false dev true m false steps d = visitD false false (fun _ => apOne m) fl steps d
  | [], _, _ => rfl
  | l :: ls, fl, d => by
    simp only [modSeq, visitD, ap, apOne, Bool.false_and, Bool.false_eq_true, if_false, if_true]
    cases hc : child? l d with
    | none => exact modSeq_one_eq dev m ls fl d
    | some c =>
      by_cases hm : (m c).2 = true
      · simp only [hm, if_true]
      · simp only [hm, Bool.false_eq_true, if_false]
        rw [putChild_self l d c hc]
        exact modSeq_one_eq dev m ls _ d

theorem apOne_go (m : Modifier) (c : JV) (h : (apOne m c).st = .go) : (apOne m c).d = c := by
  by_cases hm : (m c).2 = true <;> simp [apOne, hm] at h ⊢

theorem apOne_quiet (m : Modifier) (c : JV) : Quiet (apOne m c).st := by
  by_cases hm : (m c).2 = true <;> simp [apOne, hm, Quiet]

theorem modOne_nil (m : Modifier) (c : JV) : ModOne σ m [] c (apOne m c) := by
  simp only [apOne]
  by_cases hm : (m c).2 = true
  · simp only [hm, if_true]
    exact ⟨nofun, fun _ => ⟨[], by simp [locs_nil], c, rfl, hm, by rw [updAll_here, eff_of_changed m c hm]⟩, Or.inr rfl⟩
  · simp only [hm, Bool.false_eq_true, if_false]
    refine ⟨fun _ => ⟨rfl, fun p hp c' hv => ?_⟩, nofun, Or.inl rfl⟩
    simp only [locs_nil, List.mem_singleton] at hp
    subst hp
    cases hv
    simpa using hm

/-- One inner step of ModifyOne: when the rest of the path does on every selected member what `ModOne` says (`hk`), leaves the
data alone when it goes on (`hgo`), ends quietly (`hq`), and selects nothing in a member that is not handed on (`hsc`), the
visit of the members `f` selects does on the container what `ModOne` says. -/
theorem visitD_modOne (m : Modifier) (f : Frag) (rest : List Frag) (d : JV) (cont sib : Bool) (k : Bool → JV → R) (steps : List Loc)
    (hw : WF d) (hok : StepsOK σ steps f d)
    (hk : ∀ l c, child? l d = some c → ([l], c) ∈ selG σ f d → ∀ fl, ModOne σ m rest c (k fl c))
    (hgo : ∀ fl c, (k fl c).st = .go → (k fl c).d = c) (hq : ∀ fl c, Quiet (k fl c).st)
    (hsc : ∀ c, pass cont c = false → locsG σ rest c = []) :
    ModOne σ m (f :: rest) d (visitD cont sib k false steps d) := by
  have h := visitD_one cont sib k hgo steps false d
  refine ⟨fun hst => ?_, fun hst => ?_, visitD_quiet cont sib k hq steps false d⟩
  · obtain ⟨h1, h2⟩ := h.1 hst
    refine ⟨h1, fun p hp c hv => ?_⟩
    obtain ⟨m', hm', q, hq', rfl⟩ := (mem_locs_cons (σ := σ) f rest d p).1 hp
    obtain ⟨l, hl, hc⟩ := hok.shape m' hm'
    have hsel : ([l], m'.2) ∈ selG σ f d := hl ▸ hm'
    rw [hl] at hv
    simp only [List.singleton_append, valAt_cons, hc, Option.bind_some] at hv
    cases hp' : pass cont m'.2 with
    | true =>
      obtain ⟨fl', hgo'⟩ := h2 l ((hok.mem l m'.2 hc).2 hsel) m'.2 hc hp'
      exact ((hk l m'.2 hc hsel fl').1 hgo').2 q hq' c hv
    | false => rw [hsc m'.2 hp'] at hq'; cases hq'
  · obtain ⟨l, hl, c, fl', hc, _, hst', hd⟩ := h.2 (by rw [hst]; simp)
    rw [hst] at hst'
    have hsel := (hok.mem l c hc).1 hl
    obtain ⟨q, hq', c', hv, hm, hd'⟩ := (hk l c hc hsel fl').2.1 hst'
    refine ⟨l :: q, (mem_locs_cons (σ := σ) f rest d (l :: q)).2 ⟨([l], c), hsel, q, hq', rfl⟩, c', ?_, hm, ?_⟩
    · simp only [valAt_cons, hc, Option.bind_some]; exact hv
    · rw [hd, hd', updAll_single_cons m.eff l q d c (WF_top d hw) hc]

theorem modF_one (dev : Dev) (m : Modifier) (hfm : dev.filterMapNil = false) : ∀ (x : List Frag), x ≠ [] → NoDescent x →
    ∀ (fl : Bool) (d : JV), WF d → GoodPath σ dev x d → ModOne σ m x d (modF false dev true m x fl d)
  | [], h, _, _, _, _, _ => absurd rfl h
  | [f], _, _, fl, d, hw, hg => by
    have e : modF false dev true m [f] fl d = modSeq false dev true m false (modLastSteps dev f d) d := by
      rw [modF_cons _ _ _ _ f hg.1.notDescent, if_pos (by rfl)]
      simp only [modLast, hfm]
      split <;> rfl
    rw [e, modSeq_one_eq dev m _ false]
    exact visitD_modOne m f [] d _ _ _ _ hw (modLastSteps_ok (σ := σ) dev f d (WF_top d hw) hg.1) (fun _ c _ _ _ => modOne_nil m c)
      (fun _ => apOne_go m) (fun _ => apOne_quiet m) (fun c h => nomatch h)
  | f :: g :: r, _, hnd, fl, d, hw, hg => by
    have hndr : NoDescent (g :: r) := fun f' hf' => hnd f' (List.mem_cons_of_mem _ hf')
    rw [modF_cons _ _ _ _ f hg.1.notDescent, if_neg (by simp)]
    exact visitD_modOne m f (g :: r) d _ _ _ _ hw (modSteps_ok (σ := σ) dev f d (WF_top d hw) hg.1)
      (fun l c hc hs fl' => modF_one dev m hfm (g :: r) (by simp) hndr fl' c (WF_child l d c hw hc) (hg.2 ([l], c) hs))
      (fun fl' c => (modF_inv (fun _ _ => True) false dev m (fun _ _ => trivial) (g :: r) fl' c).1)
      (fun fl' c => modF_quiet false dev true m rfl (g :: r) fl' c)
      (fun c hp => locs_scalar (σ := σ) g r c (hnd g (by simp)) (by simp [pass] at hp; exact hp.2))

theorem updAll_single_none (m : JV → JV) (l : Loc) (p : Path) (d : JV) (hn : TopNodup d) (hc : child? l d = none) :
    updAll m [l :: p] d = d := by
  rw [updAll_eq, show hasNil [l :: p] = false by simp [hasNil], if_neg (by simp)]
  refine (mapKids_congr d hn fun l' c' hc' => ?_).trans (mapKids_id d)
  rw [strip_single_ne l l' p (fun e => by rw [e, hc] at hc'; cases hc'), updAll_nil]

theorem updAll_single_noop (m : JV → JV) : ∀ (p : Path) (d : JV), WF d → (∀ c, valAt p d = some c → m c = c) → updAll m [p] d = d
  | [], d, _, h => by rw [updAll_here]; exact h d rfl
  | l :: q, d, hw, h => by
    cases hc : child? l d with
    | none => exact updAll_single_none m l q d (WF_top d hw) hc
    | some c =>
      rw [updAll_single_cons m l q d c (WF_top d hw) hc,
        updAll_single_noop m q c (WF_child l d c hw hc) (fun c' hv => h c' (by simp only [valAt_cons, hc, Option.bind_some]; exact hv)),
        putChild_self l d c hc]

/-- what `modify` returns in a One form with modifier `m` (simple data, a path without recursive descent): the tree as it
was — then no selected location wants a change —, or the tree edited at ONE selected location, one that wanted it -/
def ModOneOut (σ : SliceFn) (m : Modifier) (x : List Frag) (d d' : JV) : Prop :=
  (d' = d ∧ ∀ p ∈ locsG σ x d, ∀ c, valAt p d = some c → (m c).2 = false) ∨
  (∃ p ∈ locsG σ x d, ∃ c, valAt p d = some c ∧ (m c).2 = true ∧ d' = updAll m.eff [p] d)

theorem modifyCore_unwrap (dev : Dev) (m : Modifier) (x : List Frag) (d : JV) (hlast : isDescent x.getLast? = false)
    (hroot : ¬ (x = [] ∧ dev.rootScalar = true ∧ isContainer d = false))
    (hmain : ModOne σ m (.nth 0 :: x) (.arr [d]) (modF false dev true m (.nth 0 :: x) false (.arr [d]))) :
    ∃ d', modifyCore false dev true m x d = .ok d' ∧ ModOneOut σ m x d d' := by
  have hmem : ∀ p, p ∈ locsG σ (.nth 0 :: x) (.arr [d]) ↔ ∃ q ∈ locsG σ x d, p = .idx 0 :: q := by
    intro p
    rw [mem_locs_cons, selG_wrap]
    simp
  have hc0 : child? (.idx 0) (.arr [d]) = some d := rfl
  have hr : (x.isEmpty && dev.rootScalar && !isContainer d) = false := by
    rw [Bool.eq_false_iff]
    intro h
    simp only [Bool.and_eq_true, List.isEmpty_iff, Bool.not_eq_true'] at h
    exact hroot ⟨h.1.1, h.1.2, h.2⟩
  simp only [modifyCore, hlast, hr, Bool.false_eq_true, if_false, Bool.false_and]
  rcases hmain.2.2 with hst | hst <;> rw [hst]
  · obtain ⟨h1, h2⟩ := hmain.1 hst
    refine ⟨_, rfl, Or.inl ⟨by rw [h1]; rfl, fun p hp c hv => ?_⟩⟩
    exact h2 (.idx 0 :: p) ((hmem _).2 ⟨p, hp, rfl⟩) c (by simp only [valAt_cons, hc0, Option.bind_some]; exact hv)
  · obtain ⟨p, hp, c, hv, hm, hd⟩ := hmain.2.1 hst
    obtain ⟨q, hq, rfl⟩ := (hmem p).1 hp
    refine ⟨_, rfl, Or.inr ⟨q, hq, c, ?_, hm, ?_⟩⟩
    · simpa only [valAt_cons, hc0, Option.bind_some] using hv
    · rw [hd, updAll_single_cons m.eff (.idx 0) q (.arr [d]) d trivial hc0]
      rfl

theorem modifyCore_one_exact (dev : Dev) (m : Modifier) (x : List Frag) (d : JV) (hfm : dev.filterMapNil = false) (hnd : NoDescent x)
    (hw : WF d) (hg : GoodPath σ dev x d) (hroot : ¬ (x = [] ∧ dev.rootScalar = true ∧ isContainer d = false)) :
    ∃ d', modifyCore false dev true m x d = .ok d' ∧ ModOneOut σ m x d d' := by
  exact modifyCore_unwrap dev m x d hnd.last hroot
    (modF_one (σ := σ) dev m hfm (.nth 0 :: x) (by simp) (noDescent_wrap hnd) false (.arr [d]) (by simp [WF, WFL, hw])
      (goodPath_wrap hg))

/-- the demand of the property on a One form (`OneOK` of Spec.lean) under the reading `σ` of slices -/
def OneOKG (σ : SliceFn) (x : List Frag) (d d' : JV) (op : Op) : Prop :=
  (locsG σ x d = [] ∧ (match op with | .set v => createsG σ v x d = [] | _ => True) ∧ d' = d) ∨
    (∃ p ∈ locsG σ x d, d' = single p d op) ∨
    match op with
    | .set v => ∃ c ∈ createsG σ v x d, d' = insAll [c] d
    | _ => False

theorem oneOKG_spec (x : List Frag) (d d' : JV) (op : Op) : OneOKG sliceIdx x d d' op ↔ OneOK x d d' op := by
  cases op <;> exact Iff.rfl

theorem ModOneOut.oneOKG {m : Modifier} {x : List Frag} {d d' : JV} (hw : WF d) (h : ModOneOut σ m x d d') :
    OneOKG σ x d d' (.mod m) := by
  rcases h with ⟨rfl, hno⟩ | ⟨p, hp, c, _, _, hd⟩
  · cases hl : locsG σ x d' with
    | nil => exact Or.inl ⟨hl, trivial, rfl⟩
    | cons p T =>
      have hp : p ∈ locsG σ x d' := by rw [hl]; simp
      refine Or.inr (Or.inl ⟨p, hp, (updAll_single_noop m.eff p d' hw fun c hv => ?_).symm⟩)
      simp [Modifier.eff, hno p hp c hv]
  · exact Or.inr (Or.inl ⟨p, hp, hd⟩)

theorem remAll_one_idx (j : Nat) (xs : List JV) : remAll [[Loc.idx j]] (.arr xs) = .arr (xs.eraseIdx j) := by
  simp only [remAll]
  rw [remArr_last _ (fun p hp => ⟨.idx j, by simpa using hp⟩), eraseIdx_eq_dropIdx xs j 0]
  congr 1
  apply dropIdx_congr
  intro i _
  simp [eq_comm]

theorem remAll_one_key (k : Bytes) (kvs : List (Bytes × JV)) : remAll [[Loc.key k]] (.obj kvs) = .obj (kvErase k kvs) := by
  simp only [remAll]
  rw [remObj_last _ (fun p hp => ⟨.key k, by simpa using hp⟩), kvErase_eq_filter]
  congr 1
  apply List.filter_congr
  intro kv _
  simp

theorem upd_single_rem (g : JV → JV) (l : Loc) : ∀ (p : Path) (d c : JV), WF d → valAt p d = some c → g c = remAll [[l]] c →
    updAll g [p] d = remAll [p ++ [l]] d
  | [], d, c, _, hv, hg => by
    cases hv
    rw [updAll_here, hg]; rfl
  | l' :: q, d, c, hw, hv, hg => by
    rw [valAt_cons] at hv
    cases hc : child? l' d with
    | none => rw [hc] at hv; cases hv
    | some c' =>
      rw [hc] at hv
      rw [updAll_single_cons g l' q d c' (WF_top d hw) hc, upd_single_rem g l q c' c (WF_child l' d c' hw hc) hv hg]
      exact (remAll_edit.single_cons l' (q ++ [l]) (by simp) d c' (WF_top d hw) hc).symm

theorem mem_locs_append (y sx : List Frag) (d : JV) (hw : WF d) (p' : Path) :
    p' ∈ locsG σ (sx ++ y) d ↔ ∃ p ∈ locsG σ sx d, ∃ c, valAt p d = some c ∧ ∃ q ∈ locsG σ y c, p' = p ++ q :=
  mem_locs_split sx y d hw p'

theorem selG_nil_of (f : Frag) (c : JV) (hs : Shape σ f c) (h : ∀ l v, child? l c = some v → ([l], v) ∉ selG σ f c) : selG σ f c = [] := by
  apply List.eq_nil_iff_forall_not_mem.2
  intro m hm
  obtain ⟨l, hl, hc⟩ := hs m hm
  exact h l m.2 hc (by rw [← hl]; exact hm)

/-- what a `removeOne` method (or, for Child/Nth, `remove`) does to a value: nothing — then the fragment selects nothing in
it —, or it drops ONE member the fragment selects -/
def RemOne (σ : SliceFn) (f : Frag) (m : Modifier) (c : JV) : Prop :=
  ((m c).2 = false → selG σ f c = []) ∧
  ((m c).2 = true → ∃ l v, ([l], v) ∈ selG σ f c ∧ (m c).1 = remAll [[l]] c)

theorem removeOneOf_single (dev : Dev) (f : Frag) (m : Modifier) (hm : removeOneOf dev f = some m) (c : JV)
    (hw : TopNodup c) (hg : RemGood σ dev f c) : RemOne σ f m c := by
  have hf : isDescentF f = false := by cases f <;> first | rfl | cases hg
  have hs := Shape_of (σ := σ) f c hf hw
  cases c with
  | arr xs =>
    rcases removeOneOf_arr dev f m hm xs with ⟨ha, e⟩ | ⟨j, hj, hp, e⟩ <;> rw [RemOne, e]
    · refine ⟨fun _ => selG_nil_of f _ hs fun l v hc hsel => ?_, nofun⟩
      obtain ⟨j, rfl, hj⟩ := child?_arr_inv l xs v hc
      have := (remPos_sel dev f xs hg j v hj).2 hsel
      rw [anyIdx_false _ _ ha j (List.getElem?_eq_some_iff.1 hj).1] at this
      cases this
    · exact ⟨nofun, fun _ => ⟨.idx j, xs[j], (remPos_sel dev f xs hg j _ (by simp [hj])).1 hp, (remAll_one_idx j xs).symm⟩⟩
  | obj kvs =>
    rcases removeOneOf_obj dev f m hm kvs with ⟨ha, e⟩ | ⟨k, hk, hp, e⟩ <;> rw [RemOne, e]
    · refine ⟨fun _ => selG_nil_of f _ hs fun l v hc hsel => ?_, nofun⟩
      obtain ⟨k, rfl, hk⟩ := child?_obj_inv l kvs v hc
      have := (remKey_sel f hf kvs hw (k, v) (lookup_mem kvs k v hk)).2 hsel
      rw [ha k (lookup_isSome_mem kvs k v hk)] at this
      cases this
    · obtain ⟨kv, hkv, rfl⟩ := List.mem_map.1 hk
      exact ⟨nofun, fun _ => ⟨.key kv.1, kv.2, (remKey_sel f hf kvs hw kv hkv).1 hp, (remAll_one_key kv.1 kvs).symm⟩⟩
  | _ =>
    rw [RemOne, removeOneOf_scalar dev f m hm _ rfl]
    exact ⟨fun _ => sel_scalar (σ := σ) f _ hf rfl, nofun⟩

theorem WF_valAt : ∀ (p : Path) (d c : JV), WF d → valAt p d = some c → WF c
  | [], d, c, hw, hv => by cases hv; exact hw
  | l :: q, d, c, hw, hv => by
    rw [valAt_cons] at hv
    cases hc : child? l d with
    | none => rw [hc] at hv; cases hv
    | some c' =>
      rw [hc] at hv
      exact WF_valAt q c' c (WF_child l d c' hw hc) hv

theorem remPath_at (dev : Dev) (f : Frag) : ∀ (sx : List Frag), NoDescent sx → ∀ (d : JV), WF d → RemPath σ dev f sx d →
    ∀ p ∈ locsG σ sx d, ∀ c, valAt p d = some c → RemGood σ dev f c
  | [], _, d, _, hr, p, hp, c, hv => by
    cases List.mem_singleton.1 hp
    cases hv
    exact hr
  | h :: r, hnd, d, hw, hr, p, hp, c, hv => by
    obtain ⟨m, hm, q, hq, rfl⟩ := (mem_locs_cons (σ := σ) h r d p).1 hp
    obtain ⟨l, hl, hc⟩ := Shape_of (σ := σ) h d (hnd h (by simp)) (WF_top d hw) m hm
    rw [hl] at hv
    simp only [List.singleton_append, valAt_cons, hc, Option.bind_some] at hv
    exact remPath_at dev f r (fun g hg => hnd g (List.mem_cons_of_mem _ hg)) m.2 (WF_child l d m.2 hw hc) (hr m hm) q hq c hv

/-- RemoveOne is ModifyOne of the front part `sx` with the `removeOne` of the last fragment: when the method drops one
selected member or finds none (`hone`), what ModifyOne returns is what the property demands of RemoveOne; the locations of
the whole path are those of `sx` followed by those of `f` (`mem_locs_append`) -/
theorem ModOneOut.remove {m : Modifier} {sx : List Frag} {f : Frag} {d d' : JV} (hw : WF d)
    (hone : ∀ p ∈ locsG σ sx d, ∀ c, valAt p d = some c → RemOne σ f m c) (h : ModOneOut σ m sx d d') :
    OneOKG σ (sx ++ [f]) d d' .rem := by
  have happ := mem_locs_append (σ := σ) [f] sx d hw
  rcases h with ⟨rfl, hno⟩ | ⟨p, hp, c, hv, hch, hd⟩
  · refine Or.inl ⟨List.eq_nil_iff_forall_not_mem.2 fun p' hp' => ?_, trivial, rfl⟩
    obtain ⟨p, hp, c, hv, q, hq, _⟩ := (happ p').1 hp'
    rw [locs_nosel (σ := σ) f [] c ((hone p hp c hv).1 (hno p hp c hv))] at hq
    cases hq
  · obtain ⟨l, v, hsel, he⟩ := (hone p hp c hv).2 hch
    refine Or.inr (Or.inl ⟨p ++ [l], (happ _).2 ⟨p, hp, c, hv, [l], ?_, rfl⟩, ?_⟩)
    · exact mem_locs_single f c v l hsel
    · rw [hd]
      exact upd_single_rem m.eff l p d c hw hv (by rw [eff_of_changed m c hch]; exact he)

end OjgVerif.JPMut
