import OjgVerif.JPMut.LemmasRemove
import OjgVerif.JPMut.LemmasDescent
/-! # Remove through ONE recursive descent = `remAll` at the locations of the full path

Remove on `pre ++ [..] ++ rest ++ [f]` is Modify on `pre ++ [..] ++ rest` with `f`'s remover (`removeM_descent_eq`): the remover
applied, inner first, at the parents the path without `f` selects. For a last fragment that is not a filter that tree is the
specification's `remAll (locsG σ (pre ++ [..] ++ rest ++ [f]) d) d` (`upd_rem_pre`, by induction on `pre`; its base
case `upd_rem_desc` is the statement at the descent, by `kidsInd`): removals below a node lie too deep to
change what `rest ++ [f]` selects from the node (`remAll_shape`), and deeper removals followed by shallower ones compose
(`remAll_seq`); both are `DropEdit.shape`, `DropEdit.seq` (LemmasDescent.lean) at `remAll`. -/

namespace OjgVerif.JPMut
open OjgVerif.JPath

variable {σ : SliceFn} [NodupSlice σ]

theorem remAll_seq : ∀ (N : Nat) (A B : List Path) (d : JV), (∀ b ∈ B, b.length < N) →
    (∀ a ∈ A, ∀ b ∈ B, b.length < a.length) → remAll (A ++ B) d = remAll B (remAll A d) :=
  remAll_edit.seq

theorem remAll_shape : ∀ (N : Nat) (T : List Path) (d : JV), (∀ p ∈ T, N + 1 ≤ p.length) → ShapeEq N d (remAll T d) :=
  remAll_edit.shape

theorem keysOf_remObj_sublist (T : List Path) : ∀ (kvs : List (Bytes × JV)), (keysOf (remObj T kvs)).Sublist (keysOf kvs)
  | [] => List.Sublist.slnil
  | kv :: r => by
    simp only [remObj]
    split
    · exact List.Sublist.cons _ (keysOf_remObj_sublist T r)
    · exact List.Sublist.cons_cons _ (keysOf_remObj_sublist T r)

mutual
  theorem WF_remAll : ∀ (d : JV) (T : List Path), WF d → WF (remAll T d)
    | .arr xs, T, hw => by simp only [remAll, WF]; exact WFL_remArr xs T 0 (by simpa [WF] using hw)
    | .obj kvs, T, hw => by
      simp only [WF] at hw
      simp only [remAll, WF]
      exact ⟨List.Nodup.sublist (keysOf_remObj_sublist T kvs) hw.1, WFK_remObj kvs T hw.2⟩
    | .null, _, hw => hw
    | .bool _, _, hw => hw
    | .int _, _, hw => hw
    | .flt _, _, hw => hw
    | .big _, _, hw => hw
    | .num _, _, hw => hw
    | .str _, _, hw => hw
  theorem WFL_remArr : ∀ (xs : List JV) (T : List Path) (i : Nat), WFL xs → WFL (remArr T i xs)
    | [], _, _, _ => trivial
    | x :: r, T, i, hw => by
      simp only [WFL] at hw
      simp only [remArr]
      split
      · exact WFL_remArr r T (i + 1) hw.2
      · exact ⟨WF_remAll x _ hw.1, WFL_remArr r T (i + 1) hw.2⟩
  theorem WFK_remObj : ∀ (kvs : List (Bytes × JV)) (T : List Path), WFK kvs → WFK (remObj T kvs)
    | [], _, _ => trivial
    | kv :: r, T, hw => by
      simp only [WFK] at hw
      simp only [remObj]
      split
      · exact WFK_remObj r T hw.2
      · exact ⟨WF_remAll kv.2 _ hw.1, WFK_remObj r T hw.2⟩
end

theorem noFilter_snoc (rest : List Frag) (f : Frag) (hnf : NoFilter rest) (hf : isFilterF f = false) : NoFilter (rest ++ [f]) :=
  fun g hg => (List.mem_append.1 hg).elim (hnf g) fun h => List.mem_singleton.1 h ▸ hf

theorem remPath_of_all (dev : Dev) (f : Frag) (h : ∀ c, RemGood σ dev f c) : ∀ (sx : List Frag) (d : JV), RemPath σ dev f sx d
  | [], d => h d
  | _ :: r, _ => fun m _ => remPath_of_all dev f h r m.2

theorem upd_rem_node (dev : Dev) (f : Frag) (m : Modifier) (hm : removeAllOf dev f = some m) (hf : isDescentF f = false)
    (hff : isFilterF f = false) (hrg : ∀ c, RemGood σ dev f c) (rest : List Frag) (hne : rest ≠ []) (hnd : NoDescent rest)
    (hnf : NoFilter rest) (d : JV) (hw : WF d) (hg : GoodPath σ dev rest d) (hg' : GoodPath σ dev (rest ++ [f]) d)
    (ih : ∀ l c, child? l d = some c → updAll m.eff (locsD σ rest c) c = remAll (locsD σ (rest ++ [f]) c) c) :
    updAll m.eff (locsD σ rest d) d = remAll (locsD σ (rest ++ [f]) d) d := by
  have hnd' := noDescent_snoc rest f hnd hf
  have hlen' : (rest ++ [f]).length = rest.length + 1 := by simp
  rw [updAll_locsD_node (σ := σ) m.eff rest hne hnd d hw, remAll_edit.locsD_node (σ := σ) (rest ++ [f]) (by simp) hnd' d hw,
    mapKids_congr d (WF_top d hw) ih]
  have hw2 : WF (mapKids (fun _ c => remAll (locsD σ (rest ++ [f]) c) c) d) :=
    WF_mapKids _ d hw (fun l c hc => WF_remAll c _ (WF_child l d c hw hc))
  have hshape : ShapeEq (rest.length + 1) d (mapKids (fun _ c => remAll (locsD σ (rest ++ [f]) c) c) d) :=
    shapeEq_mapKids _ d fun l c hc => remAll_shape rest.length _ c fun p hp =>
      hlen' ▸ locsD_len (σ := σ) (rest ++ [f]) hnd' c (WF_child l d c hw hc) p hp
  obtain ⟨hsame, _⟩ := locs_shape (σ := σ) dev rest hnd hnf d _ hw hw2 hg (ShapeEq.mono _ _ _ hshape)
  obtain ⟨hsame', _⟩ := locs_shape (σ := σ) dev (rest ++ [f]) hnd' (noFilter_snoc rest f hnf hff) d _ hw hw2 hg'
    (by rw [hlen']; exact hshape)
  rw [updAll_congr m.eff _ _ _ hsame, remAll_congr _ _ _ hsame']
  exact upd_rem (σ := σ) dev f m hm hf rest hnd _ hw2 (remPath_of_all dev f hrg rest _)

theorem upd_rem_desc (dev : Dev) (f : Frag) (m : Modifier) (hm : removeAllOf dev f = some m) (hf : isDescentF f = false)
    (hff : isFilterF f = false) (hrg : ∀ c, RemGood σ dev f c) (rest : List Frag) (hne : rest ≠ []) (hnd : NoDescent rest)
    (hnf : NoFilter rest) : ∀ (d : JV), WF d → GoodD σ dev rest d → GoodD σ dev (rest ++ [f]) d →
    updAll m.eff (locsD σ rest d) d = remAll (locsD σ (rest ++ [f]) d) d := by
  intro d
  induction d using kidsInd with
  | h d ih =>
    intro hw hg hg'
    cases hc : isContainer d with
    | false =>
      rw [locsD_scalar (σ := σ) rest hne hnd d hc, updAll_nil,
        locsD_scalar (σ := σ) (rest ++ [f]) (by simp) (noDescent_snoc rest f hnd hf) d hc, remAll_nil]
    | true =>
      rw [goodD_iff] at hg hg'
      exact upd_rem_node dev f m hm hf hff hrg rest hne hnd hnf d hw (hg.1 hc) (hg'.1 hc) fun l c hl =>
        ih c (kid_of_child hl) (WF_child l d c hw hl) (hg.2 c (kid_of_child hl)) (hg'.2 c (kid_of_child hl))

theorem upd_rem_descL (dev : Dev) (f : Frag) (m : Modifier) (hm : removeAllOf dev f = some m) (hf : isDescentF f = false)
    (hff : isFilterF f = false) (hrg : ∀ c, RemGood σ dev f c) (rest : List Frag) (hne : rest ≠ []) (hnd : NoDescent rest)
    (hnf : NoFilter rest) : ∀ (xs : List JV), WFL xs → GoodDL σ dev rest xs → GoodDL σ dev (rest ++ [f]) xs →
    ∀ x ∈ xs, updAll m.eff (locsD σ rest x) x = remAll (locsD σ (rest ++ [f]) x) x :=
  fun xs hw hg hg' x hx => upd_rem_desc dev f m hm hf hff hrg rest hne hnd hnf x (WFL_mem xs hw x hx)
    ((goodDL_iff dev rest xs).1 hg x hx) ((goodDL_iff dev _ xs).1 hg' x hx)

theorem upd_rem_descK (dev : Dev) (f : Frag) (m : Modifier) (hm : removeAllOf dev f = some m) (hf : isDescentF f = false)
    (hff : isFilterF f = false) (hrg : ∀ c, RemGood σ dev f c) (rest : List Frag) (hne : rest ≠ []) (hnd : NoDescent rest)
    (hnf : NoFilter rest) : ∀ (kvs : List (Bytes × JV)), WFK kvs → GoodDK σ dev rest kvs → GoodDK σ dev (rest ++ [f]) kvs →
    ∀ kv ∈ kvs, updAll m.eff (locsD σ rest kv.2) kv.2 = remAll (locsD σ (rest ++ [f]) kv.2) kv.2 :=
  fun kvs hw hg hg' kv hkv => upd_rem_desc dev f m hm hf hff hrg rest hne hnd hnf kv.2 (WFK_mem kvs hw kv hkv)
    ((goodDK_iff dev rest kvs).1 hg kv hkv) ((goodDK_iff dev _ kvs).1 hg' kv hkv)

theorem upd_rem_pre (dev : Dev) (f : Frag) (m : Modifier) (hm : removeAllOf dev f = some m) (hf : isDescentF f = false)
    (hff : isFilterF f = false) (hrg : ∀ c, RemGood σ dev f c) (rest : List Frag) (hne : rest ≠ []) (hnd : NoDescent rest)
    (hnf : NoFilter rest) : ∀ (pre : List Frag), NoDescent pre → ∀ (d : JV), WF d → GoodPre σ dev rest pre d →
    GoodPre σ dev (rest ++ [f]) pre d →
    updAll m.eff (locsG σ (pre ++ .descent :: rest) d) d = remAll (locsG σ (pre ++ .descent :: rest ++ [f]) d) d
  | [], _, d, hw, hg, hg' => upd_rem_desc dev f m hm hf hff hrg rest hne hnd hnf d hw hg hg'
  | h :: p, hp, d, hw, hg, hg' => by
    have hs := Shape_of (σ := σ) h d (hp h (by simp)) (WF_top d hw)
    have hpp : NoDescent p := fun g hg => hp g (List.mem_cons_of_mem _ hg)
    have e2 : ∀ q : List Frag, q ++ .descent :: rest ++ [f] = q ++ .descent :: (rest ++ [f]) := by intro q; simp
    have hno : ∀ l, [l] ∉ locsG σ (h :: (p ++ .descent :: (rest ++ [f]))) d := by
      intro l hl
      obtain ⟨m', hm', q, hq, e'⟩ := (mem_locs_cons (σ := σ) h _ d [l]).1 hl
      obtain ⟨l', hl', hc'⟩ := hs m' hm'
      rw [hl'] at e'
      simp only [List.singleton_append, List.cons.injEq] at e'
      obtain ⟨_, rfl⟩ := e'
      exact locs_tail_no_nil (σ := σ) (rest ++ [f]) (by simp) (noDescent_snoc rest f hnd hf) p hpp m'.2 (WF_child l' d m'.2 hw hc') hq
    -- both sides only descend at this level; below a selected member the induction hypothesis, below the others nothing
    rw [e2, List.cons_append, List.cons_append, updAll_inner _ h _ d hs]
    symm
    apply remAll_edit.level h _ d (WF_top d hw) hs (remAll_edit.inner _ hno d)
    · intro l c hc hsel
      rw [updAll_congr m.eff c _ _ (strip_locs_sel (σ := σ) h _ d hs l c hc hsel),
        upd_rem_pre dev f m hm hf hff hrg rest hne hnd hnf p hpp c (WF_child l d c hw hc) (hg.2 ([l], c) hsel) (hg'.2 ([l], c) hsel), e2]
    · intro l c hc hsel
      rw [updAll_congr m.eff c _ _ (strip_locs_not (σ := σ) h _ d hs l c hc hsel), updAll_nil]

/-- Remove through a descent (all matches, simple data): for `pre ++ [..] ++ rest ++ [f]` with `rest` non-empty and free of
filters and descents, the returned tree is the input with the last fragment's remover applied — inner locations first — at
exactly the PARENTS the path without `f` selects; and on every well-formed container that remover removes exactly what `f`
selects there (`removeAllOf_eff`: `m.eff c = remAll (what f selects in c) c`) -/
theorem removeM_descent_eq (dev : Dev) (hsib : dev.descentSiblings = false) (pre rest : List Frag) (f : Frag) (m : Modifier)
    (hm : removeAllOf dev f = some m) (hrg : ∀ c, RemGood σ dev f c)
    (hp : NoDescent pre) (hne : rest ≠ []) (hnd : NoDescent rest) (hnf : NoFilter rest) (d : JV) (hw : WF d)
    (hg : GoodPre σ dev rest pre d) :
    removeM false dev false (pre ++ .descent :: rest ++ [f]) d = .ok (updAll m.eff (locsG σ (pre ++ .descent :: rest) d) d) := by
  have hmw : ∀ c, WF c → WF (m.eff c) := fun c hc => by
    rw [removeAllOf_eff (σ := σ) dev f m hm c (WF_top c hc) (hrg c)]
    exact WF_remAll c _ hc
  simp only [removeM, List.getLast?_append, List.getLast?_singleton, Option.some_or, hm, Bool.false_eq_true, if_false,
    List.dropLast_concat]
  exact modifyM_descent_eq (σ := σ) dev hsib m hmw pre rest hp hne hnd hnf d hw hg

/-- Remove through a descent is the specification (all matches, simple data): for `pre ++ [..] ++ rest ++ [f]` with ONE descent,
`rest` non-empty, no filter and no further descent in `rest ++ [f]`: the returned tree is the input with exactly the
members the path selects (`JPath.eval` with its descent clause) removed — `remAll (locsG σ x d) d` -/
theorem removeM_descent_spec (dev : Dev) (hsib : dev.descentSiblings = false) (pre rest : List Frag) (f : Frag) (m : Modifier)
    (hm : removeAllOf dev f = some m) (hf : isDescentF f = false) (hff : isFilterF f = false) (hrg : ∀ c, RemGood σ dev f c)
    (hp : NoDescent pre) (hne : rest ≠ []) (hnd : NoDescent rest) (hnf : NoFilter rest) (d : JV) (hw : WF d)
    (hg : GoodPre σ dev rest pre d) (hg' : GoodPre σ dev (rest ++ [f]) pre d) :
    removeM false dev false (pre ++ .descent :: rest ++ [f]) d = .ok (removeSpecG σ (pre ++ .descent :: rest ++ [f]) d) := by
  rw [removeM_descent_eq (σ := σ) dev hsib pre rest f m hm hrg hp hne hnd hnf d hw hg,
    upd_rem_pre (σ := σ) dev f m hm hf hff hrg rest hne hnd hnf pre hp d hw hg hg']
  rfl

end OjgVerif.JPMut
