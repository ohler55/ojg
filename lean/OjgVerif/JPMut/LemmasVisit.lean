import OjgVerif.JPMut.Lemmas
/-! # The traversal of the models, one level: `visitD` as a simultaneous edit of members

`visitD` re-reads a member, applies the rest of the path and writes the member back, one step after the
other. When the steps are pairwise different this is `mapKids`: every visited member is replaced by the
result of the rest of the path on it, the others stay — in whatever order the steps are listed.

On any data, `visitD_pred` and `descGo_pred`: a property of statuses that `go` has and every run of the rest of the path
has holds of the visit and of the descent work-list; `setF_pred`, `modF_pred` (LemmasAll.lean) and the `_quiet` theorems
(LemmasErr.lean) rest on these two. -/
namespace OjgVerif.JPMut
open OjgVerif.JPath

theorem set_eq_mapArr (v : JV) : ∀ (xs : List JV) (i o : Nat),
    xs.set i v = mapArr (fun l' c => if l' = Loc.idx (o + i) then v else c) o xs
  | [], _, _ => rfl
  | x :: r, 0, o => by
    simp only [List.set_cons_zero, mapArr, Nat.add_zero, if_true]
    congr 1
    have e : mapArr (fun l' c => if l' = Loc.idx o then v else c) (o + 1) r = mapArr (fun _ c => c) (o + 1) r := by
      apply mapArr_congr
      intro j y _
      have : Loc.idx (o + 1 + j) ≠ Loc.idx o := by
        intro h; injection h with h; omega
      simp [this]
    rw [e, mapArr_id]
  | x :: r, i + 1, o => by
    simp only [List.set_cons_succ, mapArr]
    have hne : Loc.idx o ≠ Loc.idx (o + (i + 1)) := by
      intro h; injection h with h; omega
    simp only [hne, if_false]
    congr 1
    have := set_eq_mapArr v r i (o + 1)
    have e : o + 1 + i = o + (i + 1) := by omega
    rw [e] at this
    exact this

theorem lookup_isSome_mem : ∀ (kvs : List (Bytes × JV)) (k : Bytes) (c : JV), lookup k kvs = some c → k ∈ keysOf kvs := by
  intro kvs k c h
  have := lookup_mem kvs k c h
  exact List.mem_map_of_mem (f := (·.1)) this

theorem putChild_eq_mapKids (l : Loc) (v : JV) (d c : JV) (hn : TopNodup d) (h : child? l d = some c) :
    putChild l v d = mapKids (fun l' c' => if l' = l then v else c') d := by
  cases d with
  | arr xs =>
    obtain ⟨i, rfl, _⟩ := child?_arr_inv l xs c h
    simp only [putChild, mapKids]
    rw [set_eq_mapArr v xs i 0, Nat.zero_add]
  | obj kvs =>
    obtain ⟨k, rfl, hk⟩ := child?_obj_inv l kvs c h
    simp only [putChild, mapKids]
    rw [kvInsert_eq_map k v kvs hn (lookup_isSome_mem kvs k c hk)]
  | _ => rw [child?_scalar l _ rfl] at h; cases h

theorem mapArr_comp (g g' : Loc → JV → JV) : ∀ (xs : List JV) (i : Nat),
    mapArr g i (mapArr g' i xs) = mapArr (fun l c => g l (g' l c)) i xs
  | [], _ => rfl
  | x :: r, i => by simp [mapArr, mapArr_comp g g' r (i + 1)]

theorem mapKids_comp (g g' : Loc → JV → JV) (d : JV) :
    mapKids g (mapKids g' d) = mapKids (fun l c => g l (g' l c)) d := by
  cases d with
  | arr xs => simp [mapKids, mapArr_comp]
  | obj kvs => simp [mapKids, List.map_map, Function.comp_def]
  | _ => rfl

theorem TopNodup_mapKids (g : Loc → JV → JV) (d : JV) (h : TopNodup d) : TopNodup (mapKids g d) := by
  cases d with
  | obj kvs => simpa [mapKids, TopNodup, keysOf, List.map_map, Function.comp_def] using h
  | _ => simp [mapKids, TopNodup]

theorem putChild_self (l : Loc) (d c : JV) (h : child? l d = some c) : putChild l c d = d := by
  cases d with
  | arr xs =>
    obtain ⟨i, rfl, hi⟩ := child?_arr_inv l xs c h
    obtain ⟨hl, he⟩ := List.getElem?_eq_some_iff.1 hi
    simp only [putChild, ← he, List.set_getElem_self]
  | obj kvs =>
    obtain ⟨k, rfl, hk⟩ := child?_obj_inv l kvs c h
    simp only [putChild]
    rw [kvInsert_self k c kvs hk]
  | _ => rw [child?_scalar l _ rfl] at h; cases h

/-- the member is handed on -/
def pass (cont : Bool) (c : JV) : Bool := !(cont && !isContainer c)

/-- `visitD` on pairwise different steps, as long as it runs to its end: every visited member is replaced
by what the rest of the path makes of it, and every one of those runs ended normally -/
theorem visitD_go (cont sib : Bool) (k : Bool → JV → R) (hk : ∀ fl c, k fl c = k false c) :
    ∀ (steps : List Loc) (fl : Bool) (d : JV), steps.Nodup → TopNodup d →
      (visitD cont sib k fl steps d).st = .go →
      (visitD cont sib k fl steps d).d =
          mapKids (fun l c => if l ∈ steps ∧ pass cont c = true then (k false c).d else c) d ∧
        ∀ l ∈ steps, ∀ c, child? l d = some c → pass cont c = true → (k false c).st = .go
  | [], fl, d, _, _, _ => by
    simp only [visitD, List.not_mem_nil, false_and, if_false]
    exact ⟨(mapKids_id d).symm, fun l h => by cases h⟩
  | l :: ls, fl, d, hnd, htn, hgo => by
    have hnd' := (List.nodup_cons.1 hnd)
    -- `l` names no member, or one that is not handed on: the step is skipped
    have hskip : (∀ c, child? l d = some c → pass cont c = false) →
        visitD cont sib k fl (l :: ls) d = visitD cont sib k fl ls d →
        (visitD cont sib k fl (l :: ls) d).d =
            mapKids (fun l' c => if l' ∈ l :: ls ∧ pass cont c = true then (k false c).d else c) d ∧
          ∀ l' ∈ l :: ls, ∀ c, child? l' d = some c → pass cont c = true → (k false c).st = .go := by
      intro hno e
      rw [e] at hgo ⊢
      obtain ⟨h1, h2⟩ := visitD_go cont sib k hk ls fl d hnd'.2 htn hgo
      refine ⟨?_, ?_⟩
      · rw [h1]
        apply mapKids_congr d htn
        intro l' c' hc'
        by_cases e' : l' = l
        · subst e'; simp [hno c' hc']
        · simp [e']
      · intro l' hl' c' hc' hp
        rcases List.mem_cons.1 hl' with e' | e'
        · subst e'; rw [hno c' hc'] at hp; cases hp
        · exact h2 l' e' c' hc' hp
    cases hc : child? l d with
    | none => exact hskip (fun c h => by rw [hc] at h; cases h) (by simp only [visitD, hc])
    | some c =>
      by_cases hp : (cont && !isContainer c) = true
      · exact hskip (fun c' h => by rw [hc] at h; cases h; simp [pass, hp]) (by simp only [visitD, hc, hp, if_true])
      · have hp' : (cont && !isContainer c) = false := by simpa using hp
        simp only [visitD, hc, hp', Bool.false_eq_true, if_false] at hgo ⊢
        rw [hk (fl && sib) c] at hgo ⊢
        cases hst : (k false c).st with
        | go =>
          simp only [hst] at hgo ⊢
          have hput := putChild_eq_mapKids l (k false c).d d c htn hc
          obtain ⟨h1, h2⟩ := visitD_go cont sib k hk ls (fl || isContainer c) _ hnd'.2
            (hput ▸ TopNodup_mapKids _ d htn) hgo
          have hother : ∀ l', l' ≠ l → child? l' (putChild l (k false c).d d) = child? l' d := by
            intro l' hne
            rw [hput, child?_mapKids]
            cases child? l' d <;> simp [hne]
          refine ⟨?_, ?_⟩
          · rw [h1, hput, mapKids_comp]
            apply mapKids_congr d htn
            intro l' c' hc'
            by_cases e : l' = l
            · subst e
              rw [hc] at hc'; cases hc'
              simp [pass, hp', hnd'.1]
            · simp [e]
          · intro l' hl' c' hc' hpc
            rcases List.mem_cons.1 hl' with e | e
            · rw [e, hc] at hc'; cases hc'; exact hst
            · exact h2 l' e c' (by rw [hother l' (fun e' => hnd'.1 (e' ▸ e))]; exact hc') hpc
        | _ => simp [hst] at hgo

theorem visitD_pred (P : St → Prop) (hgo : P .go) (cont sib : Bool) (k : Bool → JV → R) (hk : ∀ fl c, P (k fl c).st) :
    ∀ (steps : List Loc) (fl : Bool) (d : JV), P (visitD cont sib k fl steps d).st
  | [], _, _ => hgo
  | l :: ls, fl, d => by
    simp only [visitD]
    cases child? l d with
    | none => exact visitD_pred P hgo cont sib k hk ls fl d
    | some c =>
      by_cases hp : (cont && !isContainer c) = true
      · simp only [hp, if_true]; exact visitD_pred P hgo cont sib k hk ls fl d
      · simp only [hp, Bool.false_eq_true, if_false]
        have := hk (fl && sib) c
        cases hst : (k (fl && sib) c).st with
        | go => exact visitD_pred P hgo cont sib k hk ls _ _
        | _ => rw [hst] at this; exact this

mutual
  theorem descGo_pred (P : St → Prop) (hgo : P .go) (k : JV → R) (hk : ∀ c, P (k c).st) : ∀ (d : JV), P (descGo k d).st
    | .arr xs => by
      simp only [descGo]
      have := descArr_pred P hgo k hk xs
      cases hst : (descArr k xs).st with
      | go => exact hk _
      | _ => rw [hst] at this; exact this
    | .obj kvs => by
      simp only [descGo]
      have := descObj_pred P hgo k hk kvs
      cases hst : (descObj k kvs).st with
      | go => exact hk _
      | _ => rw [hst] at this; exact this
    | .null => hgo
    | .bool _ => hgo
    | .int _ => hgo
    | .flt _ => hgo
    | .big _ => hgo
    | .num _ => hgo
    | .str _ => hgo
  theorem descArr_pred (P : St → Prop) (hgo : P .go) (k : JV → R) (hk : ∀ c, P (k c).st) : ∀ (xs : List JV), P (descArr k xs).st
    | [] => hgo
    | x :: r => by
      simp only [descArr]
      have := descGo_pred P hgo k hk x
      cases hst : (descGo k x).st with
      | go => exact descArr_pred P hgo k hk r
      | _ => rw [hst] at this; exact this
  theorem descObj_pred (P : St → Prop) (hgo : P .go) (k : JV → R) (hk : ∀ c, P (k c).st) : ∀ (kvs : List (Bytes × JV)), P (descObj k kvs).st
    | [] => hgo
    | m :: r => by
      simp only [descObj]
      have := descGo_pred P hgo k hk m.2
      cases hst : (descGo k m.2).st with
      | go => exact descObj_pred P hgo k hk r
      | _ => rw [hst] at this; exact this
end

theorem visitD_st (cont sib : Bool) (k : Bool → JV → R) (hgo : ∀ fl c, (k fl c).st = .go) :
    ∀ (steps : List Loc) (fl : Bool) (d : JV), (visitD cont sib k fl steps d).st = .go :=
  visitD_pred (· = .go) rfl cont sib k hgo

/-- the descent marker reaches the rest of the path as `fl && sib`: a rest that does not tell that from `false` may as well be
given `false` -/
theorem visitD_flag (cont sib : Bool) (k : Bool → JV → R) (hk : ∀ b c, k (b && sib) c = k false c) :
    ∀ (steps : List Loc) (fl : Bool) (d : JV), visitD cont sib k fl steps d = visitD cont sib (fun _ => k false) fl steps d
  | [], _, _ => rfl
  | l :: ls, fl, d => by
    simp only [visitD, hk]
    cases child? l d with
    | none => exact visitD_flag cont sib k hk ls fl d
    | some c =>
      simp only
      split
      · exact visitD_flag cont sib k hk ls fl d
      · split
        · exact visitD_flag cont sib k hk ls _ _
        · rfl

end OjgVerif.JPMut
