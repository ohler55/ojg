import OjgVerif.JPMut.LemmasKV
/-! Well-formed data (`WF`: member names are unique in every object) and the specification's edit `updAll` taken one
level at a time (`updAll_eq`): an edit at a set of locations is the edit of every member at the locations below it
(`mapKids`), followed by the edit of the value itself when "here" is in the set. That the edit depends on the set of
locations only, frame and hit follow by induction on the location. `kids`, `kidsInd`: the members of a container and the
induction from them to the container. -/
namespace OjgVerif.JPMut
open OjgVerif.JPath

mutual
  /-- every object of the value has pairwise different member names -/
  def WF : JV → Prop
    | .arr xs => WFL xs
    | .obj kvs => (keysOf kvs).Nodup ∧ WFK kvs
    | .null => True
    | .bool _ => True
    | .int _ => True
    | .flt _ => True
    | .big _ => True
    | .num _ => True
    | .str _ => True
  def WFL : List JV → Prop
    | [] => True
    | x :: r => WF x ∧ WFL r
  def WFK : List (Bytes × JV) → Prop
    | [] => True
    | m :: r => WF m.2 ∧ WFK r
end

theorem WFL_mem : ∀ (xs : List JV), WFL xs → ∀ x ∈ xs, WF x
  | [], _, _, h => by cases h
  | y :: r, hw, x, h => by
    simp only [WFL] at hw
    cases h with
    | head => exact hw.1
    | tail _ h' => exact WFL_mem r hw.2 x h'

theorem WFK_mem : ∀ (kvs : List (Bytes × JV)), WFK kvs → ∀ m ∈ kvs, WF m.2
  | [], _, _, h => by cases h
  | y :: r, hw, x, h => by
    simp only [WFK] at hw
    cases h with
    | head => exact hw.1
    | tail _ h' => exact WFK_mem r hw.2 x h'

theorem child?_arr_inv (l : Loc) (xs : List JV) (c : JV) (h : child? l (.arr xs) = some c) : ∃ j, l = .idx j ∧ xs[j]? = some c := by
  cases l with
  | idx j => exact ⟨j, rfl, h⟩
  | key k => simp [child?] at h

theorem child?_obj_inv (l : Loc) (kvs : List (Bytes × JV)) (c : JV) (h : child? l (.obj kvs) = some c) :
    ∃ k, l = .key k ∧ lookup k kvs = some c := by
  cases l with
  | idx j => simp [child?] at h
  | key k => exact ⟨k, rfl, h⟩

theorem child?_scalar (l : Loc) (d : JV) (h : isContainer d = false) : child? l d = none := by
  cases d <;> cases l <;> simp_all [child?, isContainer]

theorem WF_child (l : Loc) (d c : JV) (hw : WF d) (h : child? l d = some c) : WF c := by
  cases d with
  | arr xs =>
    obtain ⟨i, rfl, hi⟩ := child?_arr_inv l xs c h
    exact WFL_mem xs (by simpa [WF] using hw) c (List.mem_of_getElem? hi)
  | obj kvs =>
    obtain ⟨k, rfl, hk⟩ := child?_obj_inv l kvs c h
    simp only [WF] at hw
    exact WFK_mem kvs hw.2 (k, c) (lookup_mem kvs k c hk)
  | _ => rw [child?_scalar l _ rfl] at h; cases h

/-- the members of a container -/
def kids : JV → List JV
  | .arr xs => xs
  | .obj kvs => kvs.map (·.2)
  | _ => []

theorem kid_of_child {l : Loc} {d c : JV} (h : child? l d = some c) : c ∈ kids d := by
  cases d with
  | arr xs =>
    obtain ⟨j, _, hj⟩ := child?_arr_inv l xs c h
    exact List.mem_of_getElem? hj
  | obj kvs =>
    obtain ⟨k, _, hk⟩ := child?_obj_inv l kvs c h
    exact List.mem_map.2 ⟨(k, c), lookup_mem kvs k c hk, rfl⟩
  | _ => rw [child?_scalar l _ rfl] at h; cases h

theorem WF_kid {d c : JV} (hw : WF d) (h : c ∈ kids d) : WF c := by
  cases d with
  | arr xs => exact WFL_mem xs (by simpa [WF] using hw) c h
  | obj kvs =>
    obtain ⟨kv, hkv, rfl⟩ := List.mem_map.1 h
    simp only [WF] at hw
    exact WFK_mem kvs hw.2 kv hkv
  | _ => cases h

theorem sizeOf_kid {d c : JV} (h : c ∈ kids d) : sizeOf c < sizeOf d := by
  cases d with
  | arr xs =>
    have := List.sizeOf_lt_of_mem (show c ∈ xs from h)
    simp only [JV.arr.sizeOf_spec]; omega
  | obj kvs =>
    obtain ⟨kv, hkv, rfl⟩ := List.mem_map.1 h
    have := List.sizeOf_lt_of_mem hkv
    cases kv
    simp only [JV.obj.sizeOf_spec, Prod.mk.sizeOf_spec] at this ⊢; omega
  | _ => cases h

/-- Induction from the members (`kids`) to the container: the one induction over data that does not split into array and
object; the facts about `desc` and about the descent work-list (`WF_desc`, `desc_valAt`, `descGo_all`, `descGo_oneForm`,
`upd_rem_desc`) are proved by it, and `goodD_iff` brings `GoodD` to the form it needs. -/
theorem kidsInd {P : JV → Prop} (h : ∀ d, (∀ c ∈ kids d, P c) → P d) (d : JV) : P d :=
  h d fun c _ => kidsInd h c
termination_by sizeOf d
decreasing_by exact sizeOf_kid ‹_›

def mapArr (g : Loc → JV → JV) : Nat → List JV → List JV
  | _, [] => []
  | i, x :: r => g (.idx i) x :: mapArr g (i + 1) r

/-- apply `g` to every member of a container (given its location step) -/
def mapKids (g : Loc → JV → JV) : JV → JV
  | .arr xs => .arr (mapArr g 0 xs)
  | .obj kvs => .obj (kvs.map fun m => (m.1, g (.key m.1) m.2))
  | d => d

theorem mapArr_getElem? (g : Loc → JV → JV) : ∀ (xs : List JV) (i j : Nat),
    (mapArr g i xs)[j]? = (xs[j]?).map (g (.idx (i + j)))
  | [], _, _ => by simp [mapArr]
  | x :: r, i, 0 => by simp [mapArr]
  | x :: r, i, j + 1 => by
    simp only [mapArr, List.getElem?_cons_succ]
    rw [mapArr_getElem? g r (i + 1) j]
    have : i + 1 + j = i + (j + 1) := by omega
    rw [this]

theorem child?_mapKids (g : Loc → JV → JV) (l : Loc) (d : JV) :
    child? l (mapKids g d) = (child? l d).map (g l) := by
  cases d with
  | arr xs =>
    cases l with
    | idx i => simp [mapKids, child?, mapArr_getElem?]
    | key k => simp [mapKids, child?]
  | obj kvs =>
    cases l with
    | idx i => simp [mapKids, child?]
    | key k => simp [mapKids, child?, lookup_map]
  | _ => cases l <;> simp [mapKids, child?]

theorem mapArr_congr {g g' : Loc → JV → JV} : ∀ (xs : List JV) (i : Nat),
    (∀ j x, xs[j]? = some x → g (.idx (i + j)) x = g' (.idx (i + j)) x) → mapArr g i xs = mapArr g' i xs
  | [], _, _ => rfl
  | x :: r, i, h => by
    simp only [mapArr]
    have h0 := h 0 x (by simp)
    simp only [Nat.add_zero] at h0
    rw [h0, mapArr_congr r (i + 1)]
    intro j y hy
    have := h (j + 1) y (by simpa using hy)
    have e : i + 1 + j = i + (j + 1) := by omega
    rw [e]; exact this

/-- the value has pairwise different member names at its top level. `child?` finds the FIRST binding of a name, so two
functions that agree on every member `child?` finds may differ on a later binding of a repeated name: `mapKids_congr`,
and through it `putChild_eq_mapKids`, `visitD_go` and every exactness theorem, needs the names to be unique -/
def TopNodup : JV → Prop
  | .obj kvs => (keysOf kvs).Nodup
  | _ => True

theorem WF_top (d : JV) (h : WF d) : TopNodup d := by
  cases d <;> simp_all [WF, TopNodup]

theorem mapKids_congr {g g' : Loc → JV → JV} (d : JV) (hn : TopNodup d)
    (h : ∀ l c, child? l d = some c → g l c = g' l c) : mapKids g d = mapKids g' d := by
  cases d with
  | arr xs =>
    simp only [mapKids]
    rw [mapArr_congr xs 0]
    intro j x hx
    simpa using h (.idx j) x (by simpa [child?] using hx)
  | obj kvs =>
    simp only [mapKids]
    congr 1
    apply List.map_congr_left
    intro m hm
    rw [h (.key m.1) m.2 (by simpa [child?] using lookup_of_mem_nodup kvs hn m hm)]
  | _ => rfl

theorem mapArr_id : ∀ (xs : List JV) (i : Nat), mapArr (fun _ c => c) i xs = xs
  | [], _ => rfl
  | x :: r, i => by simp [mapArr, mapArr_id r (i + 1)]

theorem mapKids_id (d : JV) : mapKids (fun _ c => c) d = d := by
  cases d with
  | arr xs => simp [mapKids, mapArr_id]
  | obj kvs =>
    simp only [mapKids]
    congr 1
    induction kvs with
    | nil => rfl
    | cons m r ih => simp [ih]
  | _ => rfl

theorem hasNil_iff (T : List Path) : hasNil T = true ↔ [] ∈ T := by
  simp only [hasNil, List.any_eq_true, List.isEmpty_iff]
  constructor
  · rintro ⟨p, hp, rfl⟩; exact hp
  · intro h; exact ⟨[], h, rfl⟩

theorem hasNil_false {T : List Path} (h : [] ∉ T) : hasNil T = false :=
  Bool.eq_false_iff.2 fun e => h ((hasNil_iff T).1 e)

theorem mem_strip (l : Loc) (T : List Path) (q : Path) : q ∈ strip l T ↔ l :: q ∈ T := by
  simp only [strip, List.mem_filterMap]
  constructor
  · rintro ⟨p, hp, h⟩
    cases p with
    | nil => simp at h
    | cons l' q' =>
      by_cases e : l' = l
      · simp only [e, if_true, Option.some.injEq] at h
        subst h; subst e; exact hp
      · simp [e] at h
  · intro h
    exact ⟨l :: q, h, by simp⟩

/-- the two lists name the same set of locations -/
def SameSet (T T' : List Path) : Prop := ∀ p, p ∈ T ↔ p ∈ T'

theorem SameSet.nil_eq {T T' : List Path} (h : SameSet T T') : hasNil T = hasNil T' := by
  have := h []
  rw [← hasNil_iff, ← hasNil_iff] at this
  cases h1 : hasNil T <;> cases h2 : hasNil T' <;> simp_all

theorem SameSet.strip_same {T T' : List Path} (h : SameSet T T') (l : Loc) : SameSet (strip l T) (strip l T') := by
  intro q
  rw [mem_strip, mem_strip]
  exact h _

theorem SameSet.contains_eq {T T' : List Path} (h : SameSet T T') (p : Path) : T.contains p = T'.contains p := by
  have := h p
  cases h1 : T.contains p <;> cases h2 : T'.contains p <;> simp_all

theorem updArr_eq (m : JV → JV) (T : List Path) : ∀ (xs : List JV) (i : Nat),
    updArr m T i xs = mapArr (fun l c => updAll m (strip l T) c) i xs
  | [], _ => rfl
  | x :: r, i => by simp [updArr, mapArr, updArr_eq m T r (i + 1)]

theorem updObj_eq (m : JV → JV) (T : List Path) : ∀ (kvs : List (Bytes × JV)),
    updObj m T kvs = kvs.map fun kv => (kv.1, updAll m (strip (.key kv.1) T) kv.2)
  | [] => rfl
  | kv :: r => by simp [updObj, updObj_eq m T r]

theorem updAll_eq (m : JV → JV) (T : List Path) (d : JV) :
    updAll m T d = if hasNil T then m (mapKids (fun l c => updAll m (strip l T) c) d)
                   else mapKids (fun l c => updAll m (strip l T) c) d := by
  cases d <;> simp [updAll, mapKids, updArr_eq, updObj_eq]

theorem strip_nil (l : Loc) : strip l [] = [] := rfl

mutual
  theorem updAll_nil (m : JV → JV) : ∀ (d : JV), updAll m [] d = d
    | .arr xs => by simp [updAll, hasNil, updArr_nil m xs 0]
    | .obj kvs => by simp [updAll, hasNil, updObj_nil m kvs]
    | .null => by simp [updAll, hasNil]
    | .bool _ => by simp [updAll, hasNil]
    | .int _ => by simp [updAll, hasNil]
    | .flt _ => by simp [updAll, hasNil]
    | .big _ => by simp [updAll, hasNil]
    | .num _ => by simp [updAll, hasNil]
    | .str _ => by simp [updAll, hasNil]
  theorem updArr_nil (m : JV → JV) : ∀ (xs : List JV) (i : Nat), updArr m [] i xs = xs
    | [], _ => rfl
    | x :: r, i => by simp [updArr, strip_nil, updAll_nil m x, updArr_nil m r (i + 1)]
  theorem updObj_nil (m : JV → JV) : ∀ (kvs : List (Bytes × JV)), updObj m [] kvs = kvs
    | [] => rfl
    | kv :: r => by simp [updObj, strip_nil, updAll_nil m kv.2, updObj_nil m r]
end

mutual
  theorem updAll_congr (m : JV → JV) : ∀ (d : JV) (T T' : List Path), SameSet T T' → updAll m T d = updAll m T' d
    | .arr xs, T, T', h => by simp [updAll, h.nil_eq, updArr_congr m xs T T' h 0]
    | .obj kvs, T, T', h => by simp [updAll, h.nil_eq, updObj_congr m kvs T T' h]
    | .null, T, T', h => by simp [updAll, h.nil_eq]
    | .bool _, T, T', h => by simp [updAll, h.nil_eq]
    | .int _, T, T', h => by simp [updAll, h.nil_eq]
    | .flt _, T, T', h => by simp [updAll, h.nil_eq]
    | .big _, T, T', h => by simp [updAll, h.nil_eq]
    | .num _, T, T', h => by simp [updAll, h.nil_eq]
    | .str _, T, T', h => by simp [updAll, h.nil_eq]
  theorem updArr_congr (m : JV → JV) : ∀ (xs : List JV) (T T' : List Path), SameSet T T' → ∀ i, updArr m T i xs = updArr m T' i xs
    | [], _, _, _, _ => rfl
    | x :: r, T, T', h, i => by
      simp [updArr, updAll_congr m x _ _ (h.strip_same (.idx i)), updArr_congr m r T T' h (i + 1)]
  theorem updObj_congr (m : JV → JV) : ∀ (kvs : List (Bytes × JV)) (T T' : List Path), SameSet T T' → updObj m T kvs = updObj m T' kvs
    | [], _, _, _ => rfl
    | kv :: r, T, T', h => by
      simp [updObj, updAll_congr m kv.2 _ _ (h.strip_same (.key kv.1)), updObj_congr m r T T' h]
end

theorem updAll_here (m : JV → JV) (c : JV) : updAll m [[]] c = m c := by
  rw [updAll_eq]
  have : hasNil [[]] = true := rfl
  simp only [this, if_true]
  have hs : ∀ l, strip l [[]] = [] := fun _ => rfl
  simp only [hs, updAll_nil, mapKids_id]

theorem touched_nil (T : List Path) : touched T [] = !T.isEmpty := by
  cases T with
  | nil => rfl
  | cons p r => simp [touched]

theorem eq_nil_of_untouched_nil {T : List Path} (h : touched T [] = false) : T = [] := by
  cases T with
  | nil => rfl
  | cons p r => simp [touched_nil] at h

theorem isPrefixOf_cons_cons (l : Loc) (p q : Path) : (l :: p).isPrefixOf (l :: q) = p.isPrefixOf q := by
  simp [List.isPrefixOf]

theorem touched_strip (l : Loc) (T : List Path) (q : Path) (h : touched T (l :: q) = false) :
    touched (strip l T) q = false := by
  simp only [touched, List.any_eq_false, Bool.or_eq_true, not_or, Bool.not_eq_true] at h ⊢
  intro p hp
  have := h (l :: p) ((mem_strip l T p).1 hp)
  simpa [isPrefixOf_cons_cons] using this

theorem not_contains_of_untouched (T : List Path) (l : Loc) (q : Path) (h : touched T (l :: q) = false) : T.contains [l] = false := by
  cases hc : T.contains [l] with
  | false => rfl
  | true =>
    have hm := List.contains_iff_mem.1 hc
    simp only [touched, List.any_eq_false, Bool.or_eq_true, not_or, Bool.not_eq_true] at h
    have := (h [l] hm).1
    simp [List.isPrefixOf] at this

theorem not_hasNil_of_untouched (T : List Path) (l : Loc) (q : Path) (h : touched T (l :: q) = false) :
    hasNil T = false := by
  refine hasNil_false fun hn => ?_
  simp only [touched, List.any_eq_false, Bool.or_eq_true, not_or, Bool.not_eq_true] at h
  have := h [] hn
  simp [List.isPrefixOf] at this

theorem valAt_cons (l : Loc) (p : Path) (d : JV) : valAt (l :: p) d = (child? l d).bind (valAt p) := by
  simp only [valAt]
  cases child? l d <;> rfl

theorem updAll_frame (m : JV → JV) : ∀ (q : Path) (T : List Path) (d : JV), touched T q = false →
    valAt q (updAll m T d) = valAt q d
  | [], T, d, h => by
    rw [eq_nil_of_untouched_nil h, updAll_nil]
  | l :: q, T, d, h => by
    rw [updAll_eq, not_hasNil_of_untouched T l q h]
    simp only [Bool.false_eq_true, if_false, valAt_cons, child?_mapKids]
    cases hc : child? l d with
    | none => rfl
    | some c =>
      simp only [Option.map_some, Option.bind_some]
      exact updAll_frame m q (strip l T) c (touched_strip l T q h)

/-- `p` is the only location of `T` at, above or below `p` -/
def Alone (T : List Path) (p : Path) : Prop := ∀ p' ∈ T, (p'.isPrefixOf p = true ∨ p.isPrefixOf p' = true) → p' = p

theorem Alone.strip_alone {T : List Path} {l : Loc} {p : Path} (h : Alone T (l :: p)) : Alone (strip l T) p := by
  intro p' hp' hc
  have := h (l :: p') ((mem_strip l T p').1 hp') (by simpa [isPrefixOf_cons_cons] using hc)
  simpa using this

theorem updAll_hit (m : JV → JV) : ∀ (p : Path) (T : List Path) (d : JV), p ∈ T → Alone T p →
    valAt p (updAll m T d) = (valAt p d).map m
  | [], T, d, hp, ha => by
    -- every location of the set is "here"
    have hall : SameSet T [[]] := fun p' =>
      ⟨fun h' => List.mem_singleton.2 (ha p' h' (Or.inr (by simp [List.isPrefixOf]))), fun h' => List.mem_singleton.1 h' ▸ hp⟩
    rw [updAll_congr m d T _ hall, updAll_here]
    rfl
  | l :: p, T, d, hp, ha => by
    have hn : hasNil T = false := hasNil_false fun hn => by
      have := ha [] hn (Or.inl (by simp [List.isPrefixOf]))
      simp at this
    rw [updAll_eq, hn]
    simp only [Bool.false_eq_true, if_false, valAt_cons, child?_mapKids]
    cases hc : child? l d with
    | none => rfl
    | some c =>
      simp only [Option.map_some, Option.bind_some]
      exact updAll_hit m p (strip l T) c ((mem_strip l T p).2 hp) ha.strip_alone

end OjgVerif.JPMut
