import OjgVerif.JPMut.LemmasDel
/-! # Set writes the new value at exactly the selected locations and creates what the path names; Del deletes
exactly the selected members (paths without a descent)

`setF_spec`, `setM_spec`: when Set or Del (all matches, simple data, a path without recursive descent whose unions list
no member twice and whose slices — as set.go reads them — select the indexes of the specification on the arrays they
meet) reports no error, the data afterwards is what the specification says (`argSpecG`): for Set `setSpecG σ x v d` —
the new value at every selected location, the members created along name/index chains (`createsG σ`), everything else
as it was (`setM_eq`); for Del `delAll (locsG σ x d) d` — selected object members gone, selected array elements null
(`delM_eq`). One induction over the path serves both: set.go is one traversal, and the two specifications have the same
shape one level at a time (`argSpec_level`). The cases of an inner step come from `setF_step` (LemmasAll). -/
namespace OjgVerif.JPMut
open OjgVerif.JPath

variable {σ : SliceFn} [NodupSlice σ]

def preC (p : Path) (c : Path × JV) : Path × JV := (p ++ c.1, c.2)

theorem creates_cons (v : JV) (f : Frag) (r : List Frag) (d : JV) :
    createsG σ v (f :: r) d = ownCreates v f r d ++ (selG σ f d).flatMap fun m => (createsG σ v r m.2).map (preC m.1) := rfl

theorem stripC_append (l : Loc) (A B : List (Path × JV)) : stripC l (A ++ B) = stripC l A ++ stripC l B := by
  simp [stripC, List.filterMap_append]

theorem stripC_map_same (l : Loc) : ∀ (X : List (Path × JV)), stripC l (X.map (preC [l])) = X
  | [] => rfl
  | c :: r => by
    have := stripC_map_same l r
    simp only [stripC] at this ⊢
    simp [preC, this]

theorem stripC_map_other (l l' : Loc) (h : l' ≠ l) : ∀ (X : List (Path × JV)), stripC l (X.map (preC [l'])) = []
  | [] => rfl
  | c :: r => by
    have := stripC_map_other l l' h r
    simp only [stripC] at this ⊢
    simp [preC, h, this]

/-- creations hung below one-step locations other than `[l]`: none lies below `l` -/
theorem stripC_nested_none (F : Path × JV → List (Path × JV)) (l : Loc) (L : List (Path × JV))
    (hs : ∀ m ∈ L, ∃ l', m.1 = [l']) (hno : ∀ m ∈ L, m.1 ≠ [l]) :
    stripC l (L.flatMap fun m => (F m).map (preC m.1)) = [] := by
  induction L with
  | nil => rfl
  | cons b L ih =>
    obtain ⟨lb, hlb⟩ := hs b (by simp)
    have hne : lb ≠ l := by intro e; exact hno b (by simp) (by rw [hlb, e])
    simp only [List.flatMap_cons, stripC_append, hlb, stripC_map_other l lb hne, List.nil_append]
    exact ih (fun m hm => hs m (List.mem_cons_of_mem _ hm)) (fun m hm => hno m (List.mem_cons_of_mem _ hm))

/-- creations hung below pairwise different one-step locations: below `l` lie those of the one member at `[l]` -/
theorem stripC_nested (F : Path × JV → List (Path × JV)) (l : Loc) : ∀ (L : List (Path × JV)),
    (L.map (·.1)).Nodup → (∀ m ∈ L, ∃ l', m.1 = [l']) → ∀ m ∈ L, m.1 = [l] →
    stripC l (L.flatMap fun m => (F m).map (preC m.1)) = F m
  | [], _, _, m, hm, _ => by cases hm
  | a :: L, hn, hs, m, hm, hml => by
    simp only [List.map_cons, List.nodup_cons] at hn
    simp only [List.flatMap_cons, stripC_append]
    have hsL : ∀ m' ∈ L, ∃ l', m'.1 = [l'] := fun m' hm' => hs m' (List.mem_cons_of_mem _ hm')
    rcases List.mem_cons.1 hm with rfl | hm'
    · -- no later member sits at the same step
      rw [hml, stripC_map_same, stripC_nested_none F l L hsL
        (fun m' hm' e => hn.1 (by rw [hml, ← e]; exact List.mem_map_of_mem (f := (·.1)) hm')), List.append_nil]
    · obtain ⟨la, hla⟩ := hs a (by simp)
      have hne : la ≠ l := by
        intro e
        apply hn.1
        rw [hla, e, ← hml]
        exact List.mem_map_of_mem (f := (·.1)) hm'
      rw [hla, stripC_map_other l la hne, List.nil_append]
      exact stripC_nested F l L hn.2 hsL m hm' hml

theorem nested_not_key (F : Path × JV → List (Path × JV)) (L : List (Path × JV)) (hs : ∀ m ∈ L, ∃ l', m.1 = [l'])
    (hF : ∀ m ∈ L, ∀ c ∈ F m, c.1 ≠ []) :
    ∀ c ∈ L.flatMap (fun m => (F m).map (preC m.1)), ∀ k, c.1 ≠ [Loc.key k] := by
  intro c hc k
  obtain ⟨m, hm, hc'⟩ := List.mem_flatMap.1 hc
  obtain ⟨c0, hc0, rfl⟩ := List.mem_map.1 hc'
  obtain ⟨l', hl'⟩ := hs m hm
  have := hF m hm c0 hc0
  simp only [preC, hl', List.singleton_append]
  intro e
  injection e with _ e2
  exact this e2

theorem ownCreates_shape (v : JV) (f : Frag) (r : List Frag) (d : JV) : ∀ c ∈ ownCreates v f r d, ∃ k, c.1 = [Loc.key k] := by
  intro c hc
  cases f with
  | child k =>
    cases d with
    | obj kvs =>
      simp only [ownCreates] at hc
      split at hc
      · obtain ⟨s, _, rfl⟩ := List.mem_map.1 hc; exact ⟨k, rfl⟩
      · cases hc
    | _ => simp [ownCreates] at hc
  | union ms =>
    cases d with
    | obj kvs =>
      simp only [ownCreates] at hc
      split at hc
      · obtain ⟨k, _, rfl⟩ := List.mem_map.1 hc; exact ⟨k, rfl⟩
      · cases hc
    | _ => simp [ownCreates] at hc
  | _ => simp [ownCreates] at hc

theorem creates_ne_nil (v : JV) : ∀ (x : List Frag), NoDescent x → ∀ (d : JV), WF d → ∀ c ∈ createsG σ v x d, c.1 ≠ []
  | [], _, _, _, c, hc => by simp [createsG] at hc
  | f :: r, hnd, d, hw, c, hc => by
    rw [creates_cons] at hc
    rcases List.mem_append.1 hc with hc | hc
    · obtain ⟨k, hk⟩ := ownCreates_shape v f r d c hc
      rw [hk]; simp
    · obtain ⟨m, hm, hc'⟩ := List.mem_flatMap.1 hc
      obtain ⟨c0, _, rfl⟩ := List.mem_map.1 hc'
      obtain ⟨l, hl, _⟩ := Shape_of (σ := σ) f d (hnd f (by simp)) (WF_top d hw) m hm
      simp [preC, hl]

theorem elemsFrom_paths (xs : List JV) (o : Nat) : (elemsFrom o xs).map (·.1) = (List.range' o xs.length).map fun j => [Loc.idx j] := by
  induction xs generalizing o with
  | nil => rfl
  | cons x r ih => simp [elemsFrom, List.range'_succ, ih (o + 1)]

theorem selMember_paths (d : JV) (mb : Member) : (selMember d mb).map (·.1) = ((memberLoc d mb).toList.filter fun l => (child? l d).isSome).map fun l => [l] := by
  rw [selMember_eq]
  cases memberLoc d mb with
  | none => rfl
  | some l => cases hc : child? l d <;> simp [hc]

theorem sel_union_paths (ms : List Member) (d : JV) :
    (selG σ (.union ms) d).map (·.1) = ((unionLocs ms d).filter fun l => (child? l d).isSome).map fun l => [l] := by
  simp only [selG, sel, unionLocs]
  induction ms with
  | nil => rfl
  | cons mb r ih =>
    simp only [List.flatMap_cons, List.map_append, ih, selMember_paths, List.filterMap_cons]
    cases memberLoc d mb with
    | none => simp
    | some l =>
      simp only [Option.toList_some]
      by_cases hc : (child? l d).isSome = true <;> simp [hc]

theorem sel_wild_nodup (d : JV) (hw : TopNodup d) : ((selG σ .wild d).map (·.1)).Nodup := by
  cases d with
  | arr xs =>
    simp only [selG, sel, members, elemsFrom_paths]
    exact nodup_map_inj _ (fun a b h => by injection h with h; injection h) List.nodup_range'
  | obj kvs =>
    simp only [selG, sel, members, List.map_map]
    have : (kvs.map ((fun m => m.1) ∘ fun m => ([Loc.key m.1], m.2))) = (keysOf kvs).map fun k => [Loc.key k] := by
      simp [keysOf, List.map_map, Function.comp_def]
    rw [this]
    exact nodup_map_inj _ (fun a b h => by injection h with h; injection h) hw
  | _ => simp [selG, sel, members]

theorem sel_paths_nodup (f : Frag) (d : JV) (hw : TopNodup d) (hf : isDescentF f = false)
    (hu : ∀ ms, f = .union ms → (unionLocs ms d).Nodup) : ((selG σ f d).map (·.1)).Nodup := by
  have hsing : ∀ a b : Loc, [a] = [b] → a = b := fun a b h => by injection h
  cases f with
  | descent => cases hf
  | child k =>
    simp only [selG, sel]
    rw [selMember_paths]
    exact nodup_map_inj _ hsing ((memberLoc_toList_nodup d _).sublist List.filter_sublist)
  | nth i =>
    simp only [selG, sel]
    rw [selMember_paths]
    exact nodup_map_inj _ hsing ((memberLoc_toList_nodup d _).sublist List.filter_sublist)
  | wild => exact sel_wild_nodup (σ := σ) d hw
  | union ms =>
    rw [sel_union_paths]
    exact nodup_map_inj _ hsing (List.Nodup.sublist List.filter_sublist (hu ms rfl))
  | slice s e t =>
    cases d with
    | arr xs =>
      simp only [selG]
      have : ((σ xs.length s e t).flatMap fun j => (xs[j]?).toList.map fun c => ([Loc.idx j], c)).map (·.1) =
          ((σ xs.length s e t).filter fun j => (xs[j]?).isSome).map fun j => [Loc.idx j] := by
        induction σ xs.length s e t with
        | nil => rfl
        | cons j r ih =>
          simp only [List.flatMap_cons, List.map_append, ih]
          cases hx : xs[j]? <;> simp [hx]
      rw [this]
      exact nodup_map_inj _ (fun a b h => by injection h with h; injection h)
        ((NodupSlice.nodup _ s e t).sublist List.filter_sublist)
    | _ => simp [selG]
  | filter p =>
    have hwild := sel_wild_nodup (σ := σ) d hw
    simp only [selG, sel] at hwild ⊢
    exact List.Nodup.sublist (List.Sublist.map _ List.filter_sublist) hwild

theorem updAll_mapKids (m : JV → JV) (T : List Path) (hn : hasNil T = false) (G : Loc → JV → JV) (d : JV) :
    updAll m T (mapKids G d) = mapKids (fun l c => updAll m (strip l T) (G l c)) d := by
  rw [updAll_eq, hn]
  simp only [Bool.false_eq_true, if_false]
  rw [mapKids_comp]

/-- One level of `setSpecG` when `f` itself creates nothing here (`hown`): it is `mapKids G` for any `G` that is the rest of the
path's `setSpecG` on the selected members and the identity on the others. `setSpecG` is `updAll` after `insAll`, so it is no
`SetEdit` and `SetEdit.level` does not apply; this is its counterpart. The creations all lie below a selected member and none
at a one-step location (`nested_not_key`, from `creates_ne_nil`), so `insAll` only descends (`insAll_inner`); below the step `l`
they are those of the member selected at `l` (`stripC_nested`; it needs the selected locations pairwise different, hence `hu`)
and below an unselected step there are none (`stripC_nested_none`). -/
theorem setSpec_level (v : JV) (f g : Frag) (r : List Frag) (d : JV) (hw : WF d) (hnd : NoDescent (f :: g :: r))
    (hu : ∀ ms, f = .union ms → (unionLocs ms d).Nodup) (hown : ownCreates v f (g :: r) d = []) (G : Loc → JV → JV)
    (hG1 : ∀ l c, child? l d = some c → ([l], c) ∈ selG σ f d → G l c = setSpecG σ (g :: r) v c)
    (hG2 : ∀ l c, child? l d = some c → ([l], c) ∉ selG σ f d → G l c = c) :
    setSpecG σ (f :: g :: r) v d = mapKids G d := by
  have hndf : isDescentF f = false := hnd f (by simp)
  have hndr : NoDescent (g :: r) := fun g' hg' => hnd g' (List.mem_cons_of_mem _ hg')
  have hs := Shape_of (σ := σ) f d hndf (WF_top d hw)
  have hsing : ∀ m ∈ selG σ f d, ∃ l', m.1 = [l'] := fun m hm => by obtain ⟨l, hl, _⟩ := hs m hm; exact ⟨l, hl⟩
  have hsn := sel_paths_nodup (σ := σ) f d (WF_top d hw) hndf hu
  simp only [setSpecG]
  rw [creates_cons, hown, List.nil_append]
  have hnk := nested_not_key (fun m => createsG σ v (g :: r) m.2) (selG σ f d) hsing (by
    intro m hm c hc
    obtain ⟨l, _, hcl⟩ := hs m hm
    exact creates_ne_nil (σ := σ) v (g :: r) hndr m.2 (WF_child l d m.2 hw hcl) c hc)
  rw [insAll_inner _ hnk, updAll_mapKids _ _ (hasNil_locs_cons (σ := σ) f (g :: r) d hs)]
  apply mapKids_congr d (WF_top d hw)
  intro l c hc
  by_cases hsel : ([l], c) ∈ selG σ f d
  · rw [hG1 l c hc hsel, updAll_congr _ _ _ _ (strip_locs_sel (σ := σ) f (g :: r) d hs l c hc hsel),
      stripC_nested (fun m => createsG σ v (g :: r) m.2) l (selG σ f d) hsn hsing ([l], c) hsel rfl]
    rfl
  · rw [hG2 l c hc hsel, updAll_congr _ _ _ _ (strip_locs_not (σ := σ) f (g :: r) d hs l c hc hsel), updAll_nil,
      stripC_nested_none (fun m => createsG σ v (g :: r) m.2) l (selG σ f d) hsing
        (fun m hm e => hsel (hs.mem_of_step hm e hc)), insAll_nil]

theorem keysOf_map_snd (kvs : List (Bytes × JV)) (g : Bytes × JV → JV) : keysOf (kvs.map fun kv => (kv.1, g kv)) = keysOf kvs := by
  simp [keysOf, List.map_map, Function.comp_def]

theorem creates_single (v : JV) (f : Frag) (d : JV) : createsG σ v [f] d = ownCreates v f [] d := by
  simp [createsG]

theorem insAll_new_key (k : Bytes) (s : JV) (kvs : List (Bytes × JV)) (h : lookup k kvs = none) :
    insAll [([Loc.key k], s)] (.obj kvs) = .obj (kvs ++ [(k, s)]) := by
  simp only [insAll, insObj_eq, newMembers, h, Option.isNone_none, if_true]
  congr 2
  refine (List.map_congr_left fun kv hkv => ?_).trans (List.map_id' kvs)
  have hk : Loc.key k ≠ Loc.key kv.1 := by
    intro e; injection e with e
    exact (lookup_none_iff k kvs).1 h (e ▸ List.mem_map_of_mem (f := (·.1)) hkv)
  simp [stripC, hk, insAll_nil]

theorem setSpec_create (v : JV) (k : Bytes) (rest : List Frag) (kvs : List (Bytes × JV)) (h : lookup k kvs = none) :
    setSpecG σ (.child k :: rest) v (.obj kvs) =
      match skel rest v with
      | some s => .obj (kvs ++ [(k, s)])
      | none => .obj kvs := by
  have hsel : selG σ (.child k) (.obj kvs) = [] := by simp [selG, sel, selMember, h]
  simp only [setSpecG, locs_nosel (σ := σ) (.child k) rest (.obj kvs) hsel, updAll_nil, creates_cons, hsel, List.flatMap_nil,
    List.append_nil, ownCreates, h, Option.isNone_none, if_true]
  cases skel rest v with
  | none => simp [insAll_nil]
  | some s => simp [insAll_new_key k s kvs h]

theorem chain_arr (dev : Dev) (v : JV) (i : Int) (r : List Frag) (fl : Bool) (hi : 0 ≤ i)
    (hst : (setF false dev false (.val v) (.nth i :: r) fl (.arr (List.replicate (i.toNat + 1) .null))).st = .go) :
    skel (.nth i :: r) v = some (setF false dev false (.val v) (.nth i :: r) fl (.arr (List.replicate (i.toNat + 1) .null))).d := by
  cases r with
  | nil =>
    rw [setF_single_eq _ _ _ _ _ rfl]
    simp only [setLast, List.length_replicate, absIdx_replicate i hi, skel, hi, true_and, SetArg.elem, replicate_set_last,
      List.isEmpty_nil, if_true]
  | cons g r' =>
    rw [setF_nth_eq] at hst
    simp only [List.length_replicate, absIdx_replicate i hi] at hst
    have : (List.replicate (i.toNat + 1) JV.null)[i.toNat]? = some JV.null := by simp
    simp only [this, setFollow, isContainer, Bool.false_eq_true, if_false] at hst
    cases hst

theorem chain_obj (dev : Dev) (v : JV) : ∀ (rest : List Frag) (k : Bytes) (fl : Bool),
    (setF false dev false (.val v) (.child k :: rest) fl (.obj [])).st = .go →
    skel (.child k :: rest) v = some (setF false dev false (.val v) (.child k :: rest) fl (.obj [])).d
  | [], k, fl, _ => by
    rw [setF_single_eq _ _ _ _ _ rfl]
    simp [setLast, writeKey, kvInsert, skel]
  | g :: r, k, fl, hst => by
    rw [setF_child_eq] at hst ⊢
    simp only [lookup, setCreate, List.head?_cons] at hst ⊢
    cases g with
    | child k' =>
      simp only at hst ⊢
      have ih := chain_obj dev v r k' false hst
      simp only [skel] at ih ⊢
      rw [ih]
      simp [kvInsert]
    | nth i =>
      simp only at hst ⊢
      by_cases hi : i < 0
      · simp [hi] at hst
      · simp only [hi, if_false] at hst ⊢
        have ih := chain_arr dev v i r false (by omega) hst
        simp only [skel] at ih ⊢
        rw [ih]
        simp [kvInsert]
    | _ => cases hst

theorem setSpec_last_plain (v : JV) (f : Frag) (d : JV) (h : ownCreates v f [] d = []) :
    setSpecG σ [f] v d = updAll (fun _ => v) (locsG σ [f] d) d := by
  simp only [setSpecG, creates_single, h, insAll_nil]

theorem setSpec_nosel_cons (v : JV) (f : Frag) (rest : List Frag) (d : JV) (ho : ownCreates v f rest d = []) (hs : selG σ f d = []) :
    setSpecG σ (f :: rest) v d = d := by
  simp only [setSpecG, locs_nosel (σ := σ) f rest d hs, updAll_nil, creates_cons, ho, hs, List.flatMap_nil, List.append_nil, insAll_nil]

def insKeys (v : JV) : List Bytes → List (Bytes × JV) → List (Bytes × JV)
  | [], kvs => kvs
  | k :: ks, kvs => insKeys v ks (kvInsert k v kvs)

theorem setLastUnion_val_obj (dev : Dev) (v : JV) : ∀ (ms : List Member) (kvs : List (Bytes × JV)),
    setLastUnion false dev false (.val v) ms (.obj kvs) = ⟨.obj (insKeys v (unionKeys ms) kvs), .go⟩
  | [], kvs => rfl
  | .key k :: ms, kvs => by
    simp only [setLastUnion, writeKey, unionKeys, insKeys]
    exact setLastUnion_val_obj dev v ms _
  | .idx i :: ms, kvs => by
    simp only [setLastUnion, unionKeys]
    exact setLastUnion_val_obj dev v ms _

theorem newMembers_fresh (v : JV) : ∀ (ks : List Bytes) (A : List (Bytes × JV)), ks.Nodup → (∀ k ∈ ks, lookup k A = none) →
    newMembers A (ks.map fun k => ([Loc.key k], v)) = ks.map fun k => (k, v)
  | [], _, _, _ => rfl
  | k :: ks, A, hn, ha => by
    have hn' := List.nodup_cons.1 hn
    simp only [List.map_cons, newMembers, ha k (by simp), Option.isNone_none, if_true]
    rw [newMembers_fresh v ks _ hn'.2]
    intro k' hk'
    rw [lookup_none_iff]
    simp only [keysOf, List.map_append, List.map_cons, List.map_nil, List.mem_append, List.mem_singleton, not_or]
    exact ⟨(lookup_none_iff k' A).1 (ha k' (List.mem_cons_of_mem _ hk')), fun e => hn'.1 (e ▸ hk')⟩

theorem insKeys_eq (v : JV) : ∀ (ks : List Bytes) (kvs : List (Bytes × JV)), ks.Nodup → (keysOf kvs).Nodup →
    insKeys v ks kvs = (kvs.map fun kv => (kv.1, if kv.1 ∈ ks then v else kv.2)) ++
      (ks.filter fun k => (lookup k kvs).isNone).map fun k => (k, v)
  | [], kvs, _, _ => by simp [insKeys]
  | k :: ks, kvs, hn, hk => by
    have hn' := List.nodup_cons.1 hn
    simp only [insKeys]
    cases hl : lookup k kvs with
    | some c =>
      -- the member exists: it gets the value, the names are as before
      have hkeys := keysOf_map_snd kvs (fun m => if Loc.key m.1 = Loc.key k then v else m.2)
      rw [kvInsert_eq_map k v kvs hk (lookup_isSome_mem kvs k c hl), insKeys_eq v ks _ hn'.2 (hkeys ▸ hk), List.map_map]
      congr 1
      · apply List.map_congr_left
        intro kv _
        by_cases e : kv.1 = k <;> simp [e]
      · congr 1
        simp only [List.filter_cons, hl, Option.isNone_some, Bool.false_eq_true, if_false]
        exact List.filter_congr (fun k' _ => lookup_isNone_congr hkeys k')
    | none =>
      -- the member is new: it is appended, and is the first of the added members
      have hknot : k ∉ keysOf kvs := (lookup_none_iff k kvs).1 hl
      have hk1 : (keysOf (kvs ++ [(k, v)])).Nodup := by
        simp only [keysOf, List.map_append, List.map_cons, List.map_nil]
        exact List.nodup_append.2 ⟨hk, by simp, fun a ha b hb => by rw [List.mem_singleton.1 hb]; exact fun e => hknot (e ▸ ha)⟩
      rw [kvInsert_absent k v kvs hl, insKeys_eq v ks _ hn'.2 hk1]
      simp only [List.map_append, List.map_cons, List.map_nil, List.filter_cons, hl, Option.isNone_none, if_true,
        List.append_assoc, List.singleton_append, ite_self]
      congr 1
      · apply List.map_congr_left
        intro kv hkv
        have : kv.1 ≠ k := fun e => hknot (e ▸ List.mem_map_of_mem (f := (·.1)) hkv)
        simp [this]
      · congr 2
        apply List.filter_congr
        intro k' hk'
        have hne : k' ≠ k := fun e => hn'.1 (e ▸ hk')
        rw [Bool.eq_iff_iff, Option.isNone_iff_eq_none, Option.isNone_iff_eq_none, lookup_none_iff, lookup_none_iff]
        simp [keysOf, hne]

theorem unionKeys_nodup (ms : List Member) (kvs : List (Bytes × JV)) (h : (unionLocs ms (.obj kvs)).Nodup) : (unionKeys ms).Nodup := by
  rw [unionKeys_locs] at h
  exact (List.pairwise_map.1 h).imp (fun hab e => hab (by rw [e]))

theorem setSpec_union_obj (v : JV) (ms : List Member) (kvs : List (Bytes × JV)) (hw : (keysOf kvs).Nodup)
    (hg : (unionLocs ms (.obj kvs)).Nodup) :
    setSpecG σ [.union ms] v (.obj kvs) =
      .obj ((kvs.map fun kv => (kv.1, if kv.1 ∈ unionKeys ms then v else kv.2)) ++
        ((unionKeys ms).filter fun k => (lookup k kvs).isNone).map fun k => (k, v)) := by
  have hok := stepsOK_union (σ := σ) ms (.obj kvs) hg
  have hab : ∀ k ∈ (unionKeys ms).filter (fun k => (lookup k kvs).isNone), lookup k kvs = none :=
    fun k hk => by simpa using (List.mem_filter.1 hk).2
  -- the created members are new: no existing member is extended
  have hins : insObj (((unionKeys ms).filter fun k => (lookup k kvs).isNone).map fun k => ([Loc.key k], v)) kvs = kvs := by
    rw [insObj_eq]
    refine (List.map_congr_left fun kv hkv => ?_).trans (List.map_id' kvs)
    have hstrip : stripC (.key kv.1) (((unionKeys ms).filter fun k => (lookup k kvs).isNone).map fun k => ([Loc.key k], v)) = [] := by
      simp only [stripC, List.filterMap_map]
      apply List.filterMap_eq_nil_iff.2
      intro k hk
      have hne : Loc.key k ≠ Loc.key kv.1 := by
        intro e; injection e with e
        have := lookup_of_mem_nodup kvs hw kv hkv
        rw [← e, hab k hk] at this
        cases this
      simp [hne]
    rw [hstrip, insAll_nil]
  simp only [setSpecG, creates_single, ownCreates, List.isEmpty_nil, if_true, insAll, hins,
    newMembers_fresh v _ kvs ((unionKeys_nodup ms kvs hg).sublist List.filter_sublist) hab]
  rw [updAll_eq, hasNil_locs_cons (σ := σ) (.union ms) [] (.obj kvs) hok.shape]
  simp only [Bool.false_eq_true, if_false, mapKids, List.map_append, List.map_map]
  congr 2
  · apply List.map_congr_left
    intro kv hkv
    have hc : child? (.key kv.1) (.obj kvs) = some kv.2 := lookup_of_mem_nodup kvs hw kv hkv
    rw [(updAll_edit _).strip_steps hok [] _ _ hc, locs_nil, updAll_here, unionKeys_locs]
    simp
  · -- the added members are not selected
    apply List.map_congr_left
    intro k hk
    simp only [Function.comp_def]
    rw [updAll_congr _ _ _ _ (strip_locs_none (σ := σ) (.union ms) [] (.obj kvs) hok.shape (.key k)
      (fun c hc => by rw [show child? (.key k) (.obj kvs) = lookup k kvs from rfl, hab k hk] at hc; cases hc)), updAll_nil]

theorem map_snd_eq_mapKids (v : JV) (kvs : List (Bytes × JV)) :
    JV.obj (kvs.map fun m => (m.1, v)) = mapKids (fun _ _ => v) (.obj kvs) := rfl

theorem ownCreates_scalar (v : JV) (f : Frag) (r : List Frag) (d : JV) (hd : isContainer d = false) : ownCreates v f r d = [] := by
  cases f <;> cases d <;> simp_all [ownCreates, isContainer]

theorem setLast_set (dev : Dev) (v : JV) (f : Frag) (d : JV) (hw : TopNodup d) (he : endable f = true) (hg : GoodAtS σ dev f d)
    (hst : (setLast false dev false (.val v) f d).st = .go) :
    (setLast false dev false (.val v) f d).d = setSpecG σ [f] v d := by
  by_cases hcont : isContainer d = true
  case neg =>
    have hd : isContainer d = false := by simpa using hcont
    rw [setLast_scalar _ _ _ _ f d hd]
    exact (setSpec_nosel_cons v f [] d (ownCreates_scalar v f [] d hd) (sel_scalar (σ := σ) f d hg.notDescent hd)).symm
  have hok := modLastSteps_ok (σ := σ) dev f d hw (hg.last he)
  cases d with
  | arr xs =>
    rw [setLast_arr dev (.val v) f xs he hst, setSpec_last_plain v f _ (by cases f <;> rfl), updAll_last _ hok hw]
    rfl
  | obj kvs =>
    cases f with
    | child k =>
      simp only [setLast, writeKey]
      cases hl : lookup k kvs with
      | none => rw [kvInsert_absent k v kvs hl, setSpec_create v k [] kvs hl]; rfl
      | some c =>
        rw [setSpec_last_plain v _ _ (by simp [ownCreates, hl]), updAll_last _ hok hw]
        simp only [modLastSteps, List.mem_singleton]
        exact putChild_eq_mapKids (.key k) v (.obj kvs) c hw hl
    | nth i => exact (setSpec_nosel_cons v _ [] _ rfl (hok.nosel (fun l hl => by cases hl))).symm
    | wild =>
      simp only [setLast, SetArg.isDel, Bool.false_eq_true, if_false, SetArg.elem]
      rw [map_snd_eq_mapKids, setSpec_last_plain v _ _ rfl, updAll_last _ hok hw]
      apply mapKids_congr (.obj kvs) hw
      intro l c hc
      obtain ⟨k, rfl, hk⟩ := child?_obj_inv l kvs c hc
      rw [if_pos (show Loc.key k ∈ modLastSteps dev .wild (.obj kvs) from
        (mem_keyLocs kvs _).2 ⟨k, lookup_isSome_mem kvs k c hk, rfl⟩)]
    | union ms =>
      simp only [setLast, setLastUnion_val_obj]
      rw [insKeys_eq v _ kvs (unionKeys_nodup ms kvs hg) hw, setSpec_union_obj v ms kvs hw hg]
    | _ => cases he
  | _ => cases hcont

/-- what `Expr.set` must leave: the specification of Set, or of Del -/
def argSpecG (σ : SliceFn) : SetArg → List Frag → JV → JV
  | .val v, x, d => setSpecG σ x v d
  | .del, x, d => delSpecG σ x d

theorem argSpec_nosel (a : SetArg) (f : Frag) (rest : List Frag) (d : JV) (ho : ∀ v, a = .val v → ownCreates v f rest d = [])
    (hs : selG σ f d = []) : argSpecG σ a (f :: rest) d = d := by
  cases a with
  | val v => exact setSpec_nosel_cons v f rest d (ho v rfl) hs
  | del => simp only [argSpecG, delSpecG, locs_nosel (σ := σ) f rest d hs, delAll_nil]

theorem argSpec_scalar (a : SetArg) (g : Frag) (r : List Frag) (c : JV) (hg : isDescentF g = false) (hc : isContainer c = false) :
    argSpecG σ a (g :: r) c = c :=
  argSpec_nosel a g r c (fun v _ => ownCreates_scalar v g r c hc) (sel_scalar (σ := σ) g c hg hc)

theorem argSpec_level (a : SetArg) {steps : List Loc} {f : Frag} {d : JV} (g : Frag) (r : List Frag) (hw : WF d)
    (hnd : NoDescent (f :: g :: r)) (hu : ∀ ms, f = .union ms → (unionLocs ms d).Nodup) (hown : ∀ v, ownCreates v f (g :: r) d = [])
    (hok : StepsOK σ steps f d) :
    argSpecG σ a (f :: g :: r) d = mapKids (fun l c => if l ∈ steps then argSpecG σ a (g :: r) c else c) d := by
  cases a with
  | val v =>
    exact setSpec_level v f g r d hw hnd hu (hown v) _ (fun l c hc hsel => if_pos ((hok.mem l c hc).2 hsel))
      (fun l c hc hsel => if_neg (mt (hok.mem l c hc).1 hsel))
  | del =>
    exact delAll_edit.level_steps hok (g :: r) (WF_top d hw)
      (delAll_edit.inner _ (no_singleton (σ := σ) f (g :: r) (by simp) (fun g' hg' => hnd g' (List.mem_cons_of_mem _ hg')) d hw hok.shape) d)

theorem setLast_spec (dev : Dev) (a : SetArg) (f : Frag) (d : JV) (hw : TopNodup d) (he : endable f = true) (hg : GoodAtS σ dev f d)
    (hst : (setLast false dev false a f d).st = .go) : (setLast false dev false a f d).d = argSpecG σ a [f] d := by
  cases a with
  | val v => exact setLast_set dev v f d hw he hg hst
  | del => exact setLast_del dev f d hw he hg hst

theorem setFollow_eq_visit (l : Loc) (c : JV) (k : Bool → JV → R) (d : JV) (sib : Bool) (hc : child? l d = some c)
    (hcont : isContainer c = true) : setFollow l c k d = visitD true sib k false [l] d := by
  simp only [setFollow, hcont, if_true, visitD, hc, Bool.not_true, Bool.and_false, Bool.false_eq_true, if_false, Bool.false_and]
  cases hs : (k false c).st <;> simp only [hs, visitD]

theorem ownCreates_inner_nil (v : JV) (f g : Frag) (r : List Frag) (d : JV) (hf : ∀ k, f ≠ .child k) : ownCreates v f (g :: r) d = [] := by
  cases f with
  | child k => exact absurd rfl (hf k)
  | _ => cases d <;> rfl

theorem stepsOK_single {f : Frag} {d c : JV} {l : Loc} (hc : child? l d = some c) (hsel : ([l], c) ∈ selG σ f d)
    (honly : ∀ m ∈ selG σ f d, m = ([l], c)) : StepsOK σ [l] f d :=
  ⟨by simp, fun m hm => ⟨l, by rw [honly m hm], by rw [honly m hm]; exact hc⟩, fun l' c' hc' =>
    ⟨fun h' => by rw [List.mem_singleton.1 h'] at hc' ⊢; rw [hc] at hc'; cases hc'; exact hsel,
     fun h' => by have := honly _ h'; simp only [Prod.mk.injEq, List.cons.injEq, and_true] at this; simp [this.1]⟩⟩

/-- Set and Del (all matches, simple data, no descent): when no error is reported the data is what the specification says -/
theorem setF_spec (dev : Dev) (a : SetArg) : ∀ (x : List Frag), x ≠ [] → NoDescent x →
    (∀ f, x.getLast? = some f → endable f = true) → ∀ (fl : Bool) (d : JV), WF d → GoodPathS σ dev x d →
    (setF false dev false a x fl d).st = .go → (setF false dev false a x fl d).d = argSpecG σ a x d
  | [], h, _, _, _, _, _, _, _ => absurd rfl h
  | [f], _, hnd, hl, fl, d, hw, hg, hst => by
    rw [setF_single_eq _ _ _ _ f (hnd f (by simp))] at hst ⊢
    exact setLast_spec dev a f d (WF_top d hw) (hl f rfl) hg.1 hst
  | f :: g :: r, _, hnd, hl, fl, d, hw, hg, hst => by
    have hndg : isDescentF g = false := hnd g (by simp)
    have hndr : NoDescent (g :: r) := fun g' hg' => hnd g' (List.mem_cons_of_mem _ hg')
    have hlr : ∀ f', (g :: r).getLast? = some f' → endable f' = true := by
      intro f' hf'; exact hl f' (by rw [List.getLast?_cons_cons]; exact hf')
    have hvisit : ∀ (cont : Bool) (steps : List Loc), StepsOK σ steps f d → (∀ v, ownCreates v f (g :: r) d = []) →
        (visitD cont dev.descentSiblings (setF false dev false a (g :: r)) false steps d).st = .go →
        (visitD cont dev.descentSiblings (setF false dev false a (g :: r)) false steps d).d = argSpecG σ a (f :: g :: r) d := by
      intro cont steps hok hown hv
      rw [visitD_spec cont _ _ (fun fl c => setF_fl false dev false a g r hndg fl c) steps d hok.nodup (WF_top d hw)
        (argSpecG σ a (g :: r)) ?_ (fun c _ hc => argSpec_scalar a g r c hndg hc) hv, argSpec_level a g r hw hnd (fun ms e => by subst e; exact hg.1) hown hok]
      intro l c hc hl' hgo
      exact setF_spec dev a (g :: r) (by simp) hndr hlr false c (WF_child l d c hw hc) (hg.2 ([l], c) ((hok.mem l c hc).1 hl')) hgo
    rcases setF_step σ false dev false a f g r fl d (hnd f (by simp)) with
      ⟨s, _, _, _, hgo, e⟩ | ⟨l, c, hc, hsel, honly, hown, e⟩ | ⟨key, kvs, rfl, rfl, hlk, e⟩ | ⟨hf, hn, e⟩ <;> rw [e] at hst ⊢
    · obtain ⟨h1, h2⟩ := hgo hst
      exact (argSpec_nosel a f (g :: r) d (fun v _ => h2 v) h1).symm
    · -- following one member (Child, Nth) is visiting its step; a member that is not a container is an error
      have hcont : isContainer c = true := by
        cases h : isContainer c with
        | true => rfl
        | false => simp [setFollow, h] at hst
      rw [setFollow_eq_visit l c _ d dev.descentSiblings hc hcont] at hst ⊢
      exact hvisit true _ (stepsOK_single hc hsel honly) hown hst
    · cases a with
      | del => exact (argSpec_nosel .del (.child key) (g :: r) (.obj kvs) (fun _ h => by cases h) (by simp [selG, sel, selMember, hlk])).symm
      | val v =>
        simp only [setCreate, List.head?_cons, argSpecG] at hst ⊢
        rw [setSpec_create v key (g :: r) kvs hlk]
        cases g with
        | child k' =>
          simp only at hst ⊢
          rw [chain_obj dev v r k' false hst, kvInsert_absent key _ kvs hlk]
        | nth i =>
          simp only at hst ⊢
          by_cases hi : i < 0
          · simp [hi] at hst
          · simp only [hi, if_false] at hst ⊢
            rw [chain_arr dev v i r false (by omega) hst, kvInsert_absent key _ kvs hlk]
        | _ => cases hst
    · exact hvisit _ _ (setSteps_ok (σ := σ) dev f d (WF_top d hw) hg.1 hf hn) (fun v => ownCreates_inner_nil v _ g r d hf) hst

theorem setF_eq (dev : Dev) (v : JV) : ∀ (x : List Frag), x ≠ [] → NoDescent x → (∀ f, x.getLast? = some f → endable f = true) →
    ∀ (fl : Bool) (d : JV), WF d → GoodPathS σ dev x d →
    (setF false dev false (.val v) x fl d).st = .go → (setF false dev false (.val v) x fl d).d = setSpecG σ x v d :=
  setF_spec dev (.val v)

theorem delF_eq (dev : Dev) : ∀ (x : List Frag), x ≠ [] → NoDescent x → (∀ f, x.getLast? = some f → endable f = true) →
    ∀ (fl : Bool) (d : JV), WF d → GoodPathS σ dev x d →
    (setF false dev false .del x fl d).st = .go → (setF false dev false .del x fl d).d = delAll (locsG σ x d) d :=
  setF_spec dev .del

/-- Set and Del on simple data, a path without descent: if no error is reported, the data afterwards is what the
specification says -/
theorem setM_spec (dev : Dev) (a : SetArg) (x : List Frag) (d d' : JV) (hnd : NoDescent x) (hw : WF d) (hg : GoodPathS σ dev x d)
    (h : setM false dev false a x d = .ok d') : d' = argSpecG σ a x d := by
  simp only [setM] at h
  split at h
  · cases h
  · next hr =>
    have hx : x ≠ [] := by
      intro e; subst e; exact hr rfl
    have hns := setF_nostop false dev a x false d
    have hsp := setF_spec dev a x hx hnd (endable_of_not_refused hr) false d hw hg
    cases hv : setF false dev false a x false d with
    | mk dd ss =>
      rw [hv] at h hns hsp
      cases ss with
      | go => injection h with h; rw [← h]; exact hsp rfl
      | stop => exact absurd rfl hns
      | _ => cases h

/-- Set: the new value at every selected location, the members created along name/index chains, everything else as
it was -/
theorem setM_eq (dev : Dev) (v : JV) (x : List Frag) (d d' : JV) (hnd : NoDescent x) (hw : WF d) (hg : GoodPathS σ dev x d)
    (h : setM false dev false (.val v) x d = .ok d') : d' = setSpecG σ x v d :=
  setM_spec dev (.val v) x d d' hnd hw hg h

/-- Del: the selected object members gone, the selected array elements null, everything else as it was -/
theorem delM_eq (dev : Dev) (x : List Frag) (d d' : JV) (hnd : NoDescent x) (hw : WF d) (hg : GoodPathS σ dev x d)
    (h : setM false dev false .del x d = .ok d') : d' = delAll (locsG σ x d) d :=
  setM_spec dev .del x d d' hnd hw hg h

end OjgVerif.JPMut
