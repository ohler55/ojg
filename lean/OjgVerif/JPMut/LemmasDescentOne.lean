import OjgVerif.JPMut.LemmasOneExact
import OjgVerif.JPMut.LemmasDescent
/-! # ModifyOne / RemoveOne through ONE recursive descent

A One form makes a single edit, so nothing it looks at has been edited before: the work-list of the descent (members first, then
the node) stops at the first selected location at which the modifier reports a change, and the result is the all-matches edit
at that ONE location (`updAll m.eff [p] d`, `p ∈ locsG σ x d` with the descent clause of `JPath.eval`). No shape argument and
no hypothesis about filters is needed for that. `descGo_one` and what follows from it say that `p` is selected and wanted a
change, not that it is the first such location. -/

namespace OjgVerif.JPMut
open OjgVerif.JPath

variable {σ : SliceFn} [NodupSlice σ]

/-- what `ModOne` says, for an arbitrary location list `T` in place of `locsG σ x d` (`modOne_iff_oneAt`); the node step
of a descent passes between two such lists, `locsG σ rest d` and `locsD σ rest d`, on one run -/
def OneAt (m : Modifier) (T : List Path) (d : JV) (r : R) : Prop :=
  (r.st = .go → r.d = d ∧ ∀ p ∈ T, ∀ c, valAt p d = some c → (m c).2 = false) ∧
  (r.st = .stop → ∃ p ∈ T, ∃ c, valAt p d = some c ∧ (m c).2 = true ∧ r.d = updAll m.eff [p] d) ∧
  Quiet r.st

theorem modOne_iff_oneAt {m : Modifier} {x : List Frag} {d : JV} {r : R} : ModOne σ m x d r ↔ OneAt m (locsG σ x d) d r := Iff.rfl

theorem oneAt_node_go (m : Modifier) (rest : List Frag) (d : JV) (hn : TopNodup d) (r : R)
    (hkids : ∀ l c, child? l d = some c → ∀ p ∈ locsD σ rest c, ∀ c', valAt p c = some c' → (m c').2 = false)
    (hr : OneAt m (locsG σ rest d) d r) : OneAt m (locsD σ rest d) d r := by
  refine ⟨fun hst => ?_, fun hst => ?_, hr.2.2⟩
  · obtain ⟨h1, h2⟩ := hr.1 hst
    refine ⟨h1, fun p hp c hv => ?_⟩
    rcases (mem_locsD_iff rest d hn p).1 hp with h | ⟨l, c0, q, hc, hq, rfl⟩
    · exact h2 p h c hv
    · simp only [valAt_cons, hc, Option.bind_some] at hv
      exact hkids l c0 hc q hq c hv
  · obtain ⟨p, hp, c, hv, hm, hd⟩ := hr.2.1 hst
    exact ⟨p, (mem_locsD_iff rest d hn p).2 (Or.inl hp), c, hv, hm, hd⟩

theorem oneAt_node_stop (m : Modifier) (rest : List Frag) (d c : JV) (l : Loc) (hn : TopNodup d) (hc : child? l d = some c) (rc : R)
    (hrc : OneAt m (locsD σ rest c) c rc) (hst : rc.st ≠ .go) : OneAt m (locsD σ rest d) d ⟨putChild l rc.d d, rc.st⟩ := by
  have hst : rc.st = .stop := hrc.2.2.resolve_left hst
  obtain ⟨p, hp, c', hv, hm, hd⟩ := hrc.2.1 hst
  rw [hst]
  refine ⟨(fun h => by cases h), fun _ => ⟨l :: p, (mem_locsD_iff rest d hn _).2 (Or.inr ⟨l, c, p, hc, hp, rfl⟩), c', ?_, hm, ?_⟩,
    Or.inr rfl⟩
  · simp only [valAt_cons, hc, Option.bind_some]; exact hv
  · simp only
    rw [hd, updAll_single_cons m.eff l p d c hn hc]

/-- no selected location below the value wants a change -/
def NoWish (σ : SliceFn) (m : Modifier) (rest : List Frag) (x : JV) : Prop :=
  ∀ p ∈ locsD σ rest x, ∀ c, valAt p x = some c → (m c).2 = false

theorem oneAt_quiet_cases {m : Modifier} {T : List Path} {d : JV} {r : R} (h : OneAt m T d r) : r.st = .go ∨ r.st = .stop := h.2.2

theorem descGo_one (dev : Dev) (m : Modifier) (hfm : dev.filterMapNil = false) (rest : List Frag) (hne : rest ≠ [])
    (hnd : NoDescent rest) : ∀ (d : JV), WF d → GoodD σ dev rest d →
    OneAt m (locsD σ rest d) d (descGo (modF false dev true m rest false) d) := by
  intro d hw hg
  refine descGo_oneForm _ (fun c r => OneAt m (locsD σ rest c) c r) (fun c => WF c ∧ GoodD σ dev rest c)
    (fun c h => ⟨WF_top c h.1, fun e he => ⟨WF_kid h.1 he, ((goodD_iff dev rest c).1 h.2).2 e he⟩⟩)
    (fun c r h hst => (h.1 hst).1) (fun c hc => ?_) (fun c h hc hk => ?_) (fun c l e rc h hl hrc hst => ?_) d ⟨hw, hg⟩
  · rw [locsD_scalar (σ := σ) rest hne hnd c hc]
    exact ⟨fun _ => ⟨rfl, fun _ hp => nomatch hp⟩, (fun h => nomatch h), Or.inl rfl⟩
  · exact oneAt_node_go m rest c (WF_top c h.1) _ (fun l e hl => ((hk e (kid_of_child hl)).1 rfl).2)
      (modOne_iff_oneAt.1 (modF_one (σ := σ) dev m hfm rest hne hnd false c h.1 (((goodD_iff dev rest c).1 h.2).1 hc)))
  · exact oneAt_node_stop m rest c e l (WF_top c h.1) hl rc hrc hst

theorem descArr_one (dev : Dev) (m : Modifier) (hfm : dev.filterMapNil = false) (rest : List Frag) (hne : rest ≠ [])
    (hnd : NoDescent rest) : ∀ (xs : List JV), WFL xs → GoodDL σ dev rest xs →
    ((descArr (modF false dev true m rest false) xs).st = .go →
      (descArr (modF false dev true m rest false) xs).xs = xs ∧ ∀ x ∈ xs, NoWish σ m rest x) ∧
    ((descArr (modF false dev true m rest false) xs).st = .stop →
      ∃ i x rc, xs[i]? = some x ∧ OneAt m (locsD σ rest x) x rc ∧ rc.st = .stop ∧
        (descArr (modF false dev true m rest false) xs).xs = xs.set i rc.d) ∧
    Quiet (descArr (modF false dev true m rest false) xs).st := by
  intro xs hw hg
  have hx := fun x h => descGo_one dev m hfm rest hne hnd x (WFL_mem xs hw x h) ((goodDL_iff dev rest xs).1 hg x h)
  have hsame := fun x h hs => ((hx x h).1 hs).1
  refine ⟨fun hst => ?_, fun hst => ?_, descArr_quiet _ (fun c => modF_quiet false dev true m (by simp) rest false c) xs⟩
  · obtain ⟨h1, hall⟩ := descArr_same _ xs hsame hst
    exact ⟨h1, fun x h => ((hx x h).1 (hall x h)).2⟩
  · obtain ⟨i, x, hi, h1, h2⟩ := descArr_first _ xs hsame (by rw [hst]; simp)
    exact ⟨i, x, _, hi, hx x (List.mem_of_getElem? hi), h1.trans hst, h2⟩

theorem descObj_one (dev : Dev) (m : Modifier) (hfm : dev.filterMapNil = false) (rest : List Frag) (hne : rest ≠ [])
    (hnd : NoDescent rest) : ∀ (kvs : List (Bytes × JV)), WFK kvs → GoodDK σ dev rest kvs →
    ((descObj (modF false dev true m rest false) kvs).st = .go →
      (descObj (modF false dev true m rest false) kvs).kvs = kvs ∧ ∀ kv ∈ kvs, NoWish σ m rest kv.2) ∧
    ((descObj (modF false dev true m rest false) kvs).st = .stop →
      ∃ pre suf kv rc, kvs = pre ++ kv :: suf ∧ OneAt m (locsD σ rest kv.2) kv.2 rc ∧ rc.st = .stop ∧
        (descObj (modF false dev true m rest false) kvs).kvs = pre ++ (kv.1, rc.d) :: suf) ∧
    Quiet (descObj (modF false dev true m rest false) kvs).st := by
  intro kvs hw hg
  have hx := fun kv h => descGo_one dev m hfm rest hne hnd _ (WFK_mem kvs hw kv h) ((goodDK_iff dev rest kvs).1 hg kv h)
  have hsame := fun kv h hs => ((hx kv h).1 hs).1
  refine ⟨fun hst => ?_, fun hst => ?_, descObj_quiet _ (fun c => modF_quiet false dev true m (by simp) rest false c) kvs⟩
  · obtain ⟨h1, hall⟩ := descObj_same _ kvs hsame hst
    exact ⟨h1, fun kv h => ((hx kv h).1 (hall kv h)).2⟩
  · obtain ⟨pre, suf, kv, hs, h1, h2⟩ := descObj_first _ kvs hsame (by rw [hst]; simp)
    exact ⟨pre, suf, kv, _, hs, hx kv (by rw [hs]; simp), h1.trans hst, h2⟩

theorem modF_pre_one (dev : Dev) (hsib : dev.descentSiblings = false) (m : Modifier) (hfm : dev.filterMapNil = false)
    (rest : List Frag) (hne : rest ≠ []) (hnd : NoDescent rest) : ∀ (pre : List Frag), NoDescent pre →
    ∀ (fl : Bool) (d : JV), WF d → GoodPre σ dev rest pre d → (pre = [] → fl = false) →
    OneAt m (locsG σ (pre ++ .descent :: rest) d) d (modF false dev true m (pre ++ .descent :: rest) fl d)
  | [], _, fl, d, hw, hg, hfl => by
    rw [hfl rfl, List.nil_append, modF_descent _ _ _ _ rest hne]
    exact descGo_one (σ := σ) dev m hfm rest hne hnd d hw hg
  | f :: pre, hp, fl, d, hw, hg, _ => by
    have hpp : NoDescent pre := fun g hg' => hp g (List.mem_cons_of_mem _ hg')
    rw [List.cons_append, modF_cons false dev true m f (hp f (by simp)), if_neg (by simp), visitD_flag _ _ _ (fun _ _ => by rw [hsib, Bool.and_false])]
    refine modOne_iff_oneAt.1 (visitD_modOne m f _ d _ dev.descentSiblings _ _ hw (modSteps_ok (σ := σ) dev f d (WF_top d hw) hg.1)
      (fun l c hc hs _ => modOne_iff_oneAt.2 (modF_pre_one dev hsib m hfm rest hne hnd pre hpp false c (WF_child l d c hw hc)
        (hg.2 ([l], c) hs) (fun _ => rfl)))
      (fun _ c h => (modF_inv (fun _ _ => True) false dev m (fun _ _ => trivial) _ false c).1 h)
      (fun _ c => modF_quiet false dev true m (by simp) _ false c) (fun c hpass => ?_))
    simp only [pass, Bool.not_eq_false', Bool.and_eq_true, Bool.not_eq_true'] at hpass
    exact locs_tail_scalar (σ := σ) rest hne hnd pre hpp c hpass.2

/-- ModifyOne through one descent (simple data; `rest` non-empty, no further descent; filters ARE allowed): no error; the
returned tree is the modifier applied at ONE selected location that wanted a change (which of them is not stated; the
work-list takes members' subtrees before the node), or the input itself when no selected location wants one -/
theorem modifyOne_descent (dev : Dev) (hsib : dev.descentSiblings = false) (m : Modifier) (hfm : dev.filterMapNil = false)
    (pre rest : List Frag) (hp : NoDescent pre) (hne : rest ≠ []) (hnd : NoDescent rest) (d : JV) (hw : WF d)
    (hg : GoodPre σ dev rest pre d) :
    ∃ d', modifyM false dev true m (pre ++ .descent :: rest) d = .ok d' ∧ ModOneOut σ m (pre ++ .descent :: rest) d d' :=
  modifyCore_unwrap dev m _ d (last_not_descent pre rest hne hnd) (fun h => by cases pre <;> cases h.1)
    (modOne_iff_oneAt.2 (modF_pre_one (σ := σ) dev hsib m hfm rest hne hnd (.nth 0 :: pre) (noDescent_wrap hp) false (.arr [d])
      (by simp [WF, WFL, hw]) (goodPre_wrap dev rest pre d hg) (fun h => by cases h)))

theorem mem_locs_append_desc (y rest pre : List Frag) (d : JV) (hw : WF d) (p' : Path) :
    p' ∈ locsG σ (pre ++ .descent :: rest ++ y) d ↔
      ∃ p ∈ locsG σ (pre ++ .descent :: rest) d, ∃ c, valAt p d = some c ∧ ∃ q ∈ locsG σ y c, p' = p ++ q :=
  mem_locs_split (pre ++ .descent :: rest) y d hw p'

/-- RemoveOne through one descent (simple data): no error; the returned tree is the input with ONE selected member removed
(`remAll [q] d`, `q` a location the full path selects), or the input as it was when nothing is selected -/
theorem removeOne_descent (dev : Dev) (hsib : dev.descentSiblings = false) (hfm : dev.filterMapNil = false) (pre rest : List Frag)
    (f : Frag) (hf : isDescentF f = false) (hrg : ∀ c, RemGood σ dev f c) (hp : NoDescent pre) (hne : rest ≠ [])
    (hnd : NoDescent rest) (d : JV) (hw : WF d) (hg : GoodPre σ dev rest pre d) :
    ∃ d', removeM false dev true (pre ++ .descent :: rest ++ [f]) d = .ok d' ∧
      OneOKG σ (pre ++ .descent :: rest ++ [f]) d d' .rem := by
  obtain ⟨m, hm⟩ : ∃ m, removeOneOf dev f = some m := by
    cases f <;> first | exact ⟨_, rfl⟩ | cases hf
  obtain ⟨d', h1, h2⟩ := modifyOne_descent (σ := σ) dev hsib m hfm pre rest hp hne hnd d hw hg
  simp only [removeM, List.getLast?_append, List.getLast?_singleton, Option.some_or, hm, if_true, List.dropLast_concat]
  simp only [modifyM] at h1
  refine ⟨d', h1, ?_⟩
  exact h2.remove hw fun p _ c hv =>
    removeOneOf_single (σ := σ) dev f m hm c (WF_top c (WF_valAt p d c hw hv)) (hrg c)

end OjgVerif.JPMut
