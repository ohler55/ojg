import OjgVerif.JPMut.LemmasDel
import OjgVerif.JPMut.LemmasOne
/-! # The frame condition does not depend on success

`setF_frame`: whatever `Expr.set` reports — a result, a One form's early stop, or an ERROR after some edits have
been made in place — every location that is not at, above or below a selected location (or, Set, a member the
path may create) holds what it held. Proved directly on the traversal (induction over the path, one level at a
time: `frame_put`, `visitD_frame`; the cases of an inner step of `Expr.set`: `setF_step`), not through the exactness
theorems, which speak about error-free calls only.

`modF_quiet`: `Expr.modify` has no error exit of its own once `nv.(gen.Node)` cannot fail: an erroring
Modify/Remove (last fragment a Descent, a fragment without `remove`) has not touched the data. -/

namespace OjgVerif.JPMut
open OjgVerif.JPath

variable {σ : SliceFn} [NodupSlice σ]

theorem Frame.refl (T : List Path) (d : JV) : Frame T d d := fun _ _ => rfl

theorem Frame.trans {T : List Path} {d d1 d2 : JV} (h1 : Frame T d d1) (h2 : Frame T d1 d2) : Frame T d d2 :=
  fun q hq => (h2 q hq).trans (h1 q hq)

theorem Frame.mono {T T' : List Path} {d d' : JV} (h : ∀ p ∈ T, p ∈ T') (hf : Frame T d d') : Frame T' d d' := by
  refine fun q hq => hf q ?_
  simp only [touched, List.any_eq_false] at hq ⊢
  exact fun p hp => hq p (h p hp)

theorem child?_putChild (l l' : Loc) (v d c : JV) (hn : TopNodup d) (h : child? l d = some c) :
    child? l' (putChild l v d) = if l' = l then some v else child? l' d := by
  rw [putChild_eq_mapKids l v d c hn h, child?_mapKids]
  by_cases e : l' = l
  · subst e; simp [h]
  · cases child? l' d <;> simp [e]

theorem frame_top (T : List Path) (d d' : JV) (h0 : T = [] → d' = d) (hc : ∀ l, [l] ∉ T → child? l d' = child? l d) :
    Frame T d d' := by
  intro q hq
  cases q with
  | nil =>
    rw [h0 (eq_nil_of_untouched_nil hq)]
  | cons l q' =>
    have hl : [l] ∉ T := fun hm => by
      have := not_contains_of_untouched T l q' hq
      rw [List.contains_iff_mem.2 hm] at this
      cases this
    rw [valAt_cons, valAt_cons, hc l hl]

theorem frame_member (T : List Path) (l : Loc) (d d' : JV) (hl : [l] ∈ T) (hc : ∀ l', l' ≠ l → child? l' d' = child? l' d) :
    Frame T d d' :=
  frame_top T d d' (fun e => by rw [e] at hl; cases hl) (fun l' hn => hc l' (fun e => hn (e ▸ hl)))

theorem frame_put (l : Loc) (d c c' : JV) (Tc T : List Path) (hn : TopNodup d) (h : child? l d = some c)
    (hf : Frame Tc c c') (hT : ∀ p ∈ Tc, l :: p ∈ T) : Frame T d (putChild l c' d) := by
  intro q hq
  cases q with
  | nil =>
    have hT0 : T = [] := eq_nil_of_untouched_nil hq
    have hTc : Tc = [] := by
      cases Tc with
      | nil => rfl
      | cons p r => have := hT p (by simp); rw [hT0] at this; cases this
    subst hTc
    have := hf [] rfl
    simp only [valAt, Option.some.injEq] at this
    rw [this, putChild_self l d c h]
  | cons l' q' =>
    rw [valAt_cons, valAt_cons, child?_putChild l l' c' d c hn h]
    by_cases e : l' = l
    · subst e
      simp only [if_true, h, Option.bind_some]
      apply hf
      simp only [touched, List.any_eq_false, Bool.or_eq_true, not_or, Bool.not_eq_true] at hq ⊢
      intro p hp
      have := hq (l' :: p) (hT p hp)
      simpa [isPrefixOf_cons_cons] using this
    · simp only [e, if_false]

/-- The frame through `visitD`. `d0` is the data before the visit and `S` the whole step list: the hypotheses about the members
(`hk`: the rest of the path keeps the frame `Tc l c` of the member at `l`; `hT`: those frames, put below `l`, lie in `T`) are
stated once against `d0`, while the recursion runs on the data `d` as edited so far, in which the steps still to come hold what
they held in `d0`. -/
theorem visitD_frame (cont sib : Bool) (k : Bool → JV → R) (T : List Path) (Tc : Loc → JV → List Path) (d0 : JV) (S : List Loc)
    (hk : ∀ l ∈ S, ∀ c fl, child? l d0 = some c → Frame (Tc l c) c (k fl c).d)
    (hT : ∀ l ∈ S, ∀ c, child? l d0 = some c → ∀ p ∈ Tc l c, l :: p ∈ T) :
    ∀ (steps : List Loc) (fl : Bool) (d : JV), steps.Nodup → TopNodup d → (∀ l ∈ steps, l ∈ S ∧ child? l d = child? l d0) →
      Frame T d (visitD cont sib k fl steps d).d
  | [], _, d, _, _, _ => Frame.refl T d
  | l :: ls, fl, d, hnd, htn, hsame => by
    have hnd' := List.nodup_cons.1 hnd
    have hrest : ∀ l' ∈ ls, l' ∈ S ∧ child? l' d = child? l' d0 := fun l' h' => hsame l' (List.mem_cons_of_mem _ h')
    have ih := visitD_frame cont sib k T Tc d0 S hk hT ls
    simp only [visitD]
    cases hc : child? l d with
    | none => exact ih fl d hnd'.2 htn hrest
    | some c =>
      simp only
      split
      · exact ih fl d hnd'.2 htn hrest
      · have hlS := (hsame l (by simp)).1
        have hc0 : child? l d0 = some c := (hsame l (by simp)).2 ▸ hc
        have hput : Frame T d (putChild l (k (fl && sib) c).d d) :=
          frame_put l d c _ (Tc l c) T htn hc (hk l hlS c _ hc0) (hT l hlS c hc0)
        split
        · refine hput.trans (ih _ _ hnd'.2 (by rw [putChild_eq_mapKids l _ d c htn hc]; exact TopNodup_mapKids _ d htn) fun l' hl' => ?_)
          rw [child?_putChild l l' _ d c htn hc, if_neg fun (e : l' = l) => hnd'.1 (e ▸ hl')]
          exact hrest l' hl'
        · exact hput

/-- the locations at which Set may add a member (Del adds none) -/
def crG (σ : SliceFn) : SetArg → List Frag → JV → List Path
  | .val _, x, d => createRootsG σ x d
  | .del, _, _ => []

/-- the locations outside which `Expr.set` changes nothing, whatever it reports. Indexed by `SetArg`, as `setF_frame` needs it;
the property's `frameSet` (Spec.lean) is indexed by `Op`, its form under a reading `σ` of slices is `C13.frameSetG`
(Props/C13b.lean), and `setFrameG σ a x d` is `frameSetG σ x d a.op` (for Del up to `++ []`: `C13.setFrame_sub_frameSet`). -/
def setFrameG (σ : SliceFn) (a : SetArg) (x : List Frag) (d : JV) : List Path := locsG σ x d ++ crG σ a x d

theorem mem_setFrame_cons (a : SetArg) (f : Frag) (rest : List Frag) (d c : JV) (l : Loc) (hs : ([l], c) ∈ selG σ f d)
    (p : Path) (hp : p ∈ setFrameG σ a rest c) : l :: p ∈ setFrameG σ a (f :: rest) d := by
  simp only [setFrameG, List.mem_append] at hp ⊢
  rcases hp with hp | hp
  · left
    exact (mem_locs_cons (σ := σ) f rest d (l :: p)).2 ⟨([l], c), hs, p, hp, rfl⟩
  · right
    cases a with
    | del => cases hp
    | val v =>
      simp only [crG, createRootsG, List.mem_append, List.mem_flatMap, List.mem_map]
      right
      exact ⟨([l], c), hs, p, hp, rfl⟩

theorem mem_setFrame_single (a : SetArg) (f : Frag) (d c : JV) (l : Loc) (hs : ([l], c) ∈ selG σ f d) :
    [l] ∈ setFrameG σ a [f] d :=
  List.mem_append_left _ (mem_locs_single f d c l hs)

theorem child?_writeKey_ne (a : SetArg) (k : Bytes) (kvs : List (Bytes × JV)) (l' : Loc) (h : l' ≠ .key k) :
    child? l' (.obj (writeKey a k kvs)) = child? l' (.obj kvs) := by
  cases l' with
  | idx i => rfl
  | key k' =>
    have hne : k' ≠ k := fun e => h (by rw [e])
    cases a with
    | val v => simp only [child?, writeKey]; exact lookup_kvInsert_ne k k' v hne kvs
    | del => simp only [child?, writeKey, lookup_kvErase, hne, if_false]

theorem child?_set_ne (j : Nat) (v : JV) (xs : List JV) (l' : Loc) (h : l' ≠ .idx j) :
    child? l' (.arr (xs.set j v)) = child? l' (.arr xs) := by
  cases l' with
  | key k => rfl
  | idx i =>
    have hne : j ≠ i := fun e => h (by rw [e])
    simp [child?, hne]

theorem frame_writeKey (T : List Path) (a : SetArg) (k : Bytes) (kvs : List (Bytes × JV))
    (h : a.isDel = false ∨ (lookup k kvs).isSome = true → [Loc.key k] ∈ T) : Frame T (.obj kvs) (.obj (writeKey a k kvs)) := by
  by_cases hw : a.isDel = false ∨ (lookup k kvs).isSome = true
  · exact frame_member T (.key k) _ _ (h hw) (child?_writeKey_ne a k kvs)
  · -- Del of a name that is not there
    have : writeKey a k kvs = kvs := by
      cases a with
      | val v => exact absurd (Or.inl rfl) hw
      | del =>
        cases hl : lookup k kvs with
        | none => exact kvErase_absent k kvs hl
        | some c => exact absurd (Or.inr (by simp [hl])) hw
    rw [this]
    exact Frame.refl T _

theorem mem_setFrame_key (a : SetArg) (f : Frag) (k : Bytes) (kvs : List (Bytes × JV))
    (hsel : ∀ c, lookup k kvs = some c → ([Loc.key k], c) ∈ selG σ f (.obj kvs))
    (hnew : lookup k kvs = none → [Loc.key k] ∈ createRootsG σ [f] (.obj kvs))
    (h : a.isDel = false ∨ (lookup k kvs).isSome = true) : [Loc.key k] ∈ setFrameG σ a [f] (.obj kvs) := by
  cases hl : lookup k kvs with
  | some c => exact mem_setFrame_single a f _ c _ (hsel c hl)
  | none =>
    cases a with
    | del => rw [hl] at h; simp [SetArg.isDel] at h
    | val v => exact List.mem_append_right _ (hnew hl)

/-- the union members still to be written land inside the frame `T` -/
def UnionIn (T : List Path) (a : SetArg) (ms : List Member) (d : JV) : Prop :=
  ∀ m ∈ ms,
    match m, d with
    | .key k, .obj kvs => (a.isDel = false ∨ (lookup k kvs).isSome = true) → [Loc.key k] ∈ T
    | .idx i, .arr xs => ∀ j, absIdx xs.length i = some j → [Loc.idx j] ∈ T
    | _, _ => True

theorem UnionIn.tail {T : List Path} {a : SetArg} {m : Member} {ms : List Member} {d : JV} (h : UnionIn T a (m :: ms) d) :
    UnionIn T a ms d := fun m' hm' => h m' (List.mem_cons_of_mem _ hm')

theorem lookup_writeKey_isSome (a : SetArg) (k k' : Bytes) (kvs : List (Bytes × JV))
    (h : (lookup k' (writeKey a k kvs)).isSome = true) : a.isDel = false ∨ (lookup k' kvs).isSome = true := by
  cases a with
  | val v => exact Or.inl rfl
  | del =>
    simp only [writeKey, lookup_kvErase] at h
    split at h
    · cases h
    · exact Or.inr h

theorem setLastUnion_frame (gen : Bool) (dev : Dev) (one : Bool) (a : SetArg) (T : List Path) : ∀ (ms : List Member) (d : JV),
    UnionIn T a ms d → Frame T d (setLastUnion gen dev one a ms d).d
  | [], d, _ => Frame.refl T d
  | m :: ms, d, hu => by
    have ih := setLastUnion_frame gen dev one a T ms
    cases m with
    | key k =>
      cases d with
      | obj kvs =>
        have h1 := frame_writeKey T a k kvs (hu (.key k) (by simp))
        simp only [setLastUnion]
        split
        · exact h1
        · refine h1.trans (ih _ fun m' hm' => ?_)
          have := hu m' (List.mem_cons_of_mem _ hm')
          cases m' with
          | idx i => trivial
          | key k' => exact fun hh => this (hh.elim Or.inl (lookup_writeKey_isSome a k k' kvs))
      | _ => exact ih _ hu.tail
    | idx i =>
      cases d with
      | arr xs =>
        simp only [setLastUnion]
        cases ha : absIdx xs.length i with
        | some j =>
          have h1 : Frame T (.arr xs) (.arr (xs.set j a.elem)) :=
            frame_member T (.idx j) _ _ (hu (.idx i) (by simp) j ha) (child?_set_ne j a.elem xs)
          simp only
          split
          · exact h1
          · refine h1.trans (ih _ fun m' hm' => ?_)
            have := hu m' (List.mem_cons_of_mem _ hm')
            cases m' with
            | key k' => trivial
            | idx i' => simpa using this
        | none =>
          simp only
          split
          · exact Frame.refl T _
          · exact ih _ hu.tail
      | _ => exact ih _ hu.tail

theorem mem_unionLocs_key (ms : List Member) (d : JV) (k : Bytes) (h : Member.key k ∈ ms) : Loc.key k ∈ unionLocs ms d := by
  simp only [unionLocs, List.mem_filterMap]
  exact ⟨.key k, h, rfl⟩

theorem mem_unionLocs_idx (ms : List Member) (xs : List JV) (i : Int) (j : Nat) (h : Member.idx i ∈ ms)
    (ha : absIdx xs.length i = some j) : Loc.idx j ∈ unionLocs ms (.arr xs) := by
  simp only [unionLocs, List.mem_filterMap]
  exact ⟨.idx i, h, by simp [memberLoc, ha]⟩

theorem unionIn_init (a : SetArg) (ms : List Member) (d : JV) : UnionIn (setFrameG σ a [.union ms] d) a ms d := by
  intro m hm
  cases m with
  | key k =>
    cases d with
    | obj kvs =>
      refine mem_setFrame_key a (.union ms) k kvs (fun c hl => List.mem_flatMap.2 ⟨.key k, hm, by simp [selMember, hl]⟩) fun hl => ?_
      simp only [createRootsG, List.isEmpty_nil, if_true]
      refine List.mem_append_left _ (List.mem_map.2 ⟨k, List.mem_filter.2 ⟨(mem_unionKeys ms k).2 ?_, by simp [hl]⟩, rfl⟩)
      exact List.any_eq_true.2 ⟨.key k, hm, by simp⟩
    | _ => trivial
  | idx i =>
    cases d with
    | arr xs =>
      intro j ha
      have hj := absIdx_lt _ _ _ ha
      exact mem_setFrame_single a _ _ xs[j] _ (List.mem_flatMap.2 ⟨.idx i, hm, by simp [selMember, ha, hj]⟩)
    | _ => trivial

theorem frame_all (T : List Path) (d d' : JV) (hin : ∀ l c, child? l d = some c → [l] ∈ T)
    (hsub : ∀ l, child? l d = none → child? l d' = none) (h0 : (∀ l, child? l d = none) → d' = d) : Frame T d d' := by
  have hnone : ∀ l, [l] ∉ T → child? l d = none := fun l hl => by
    cases hc : child? l d with
    | none => rfl
    | some c => exact absurd (hin l c hc) hl
  refine frame_top T d d' (fun hT => h0 fun l => hnone l (by rw [hT]; exact List.not_mem_nil)) fun l hl => ?_
  rw [hnone l hl, hsub l (hnone l hl)]

theorem setLast_wild_obj (gen : Bool) (dev : Dev) (one : Bool) (a : SetArg) (kvs : List (Bytes × JV)) :
    ∃ kvs', (setLast gen dev one a .wild (.obj kvs)).d = .obj kvs' ∧ (∀ k, lookup k kvs = none → lookup k kvs' = none) ∧
      (kvs = [] → kvs' = []) := by
  cases one with
  | true =>
    cases kvs with
    | nil => exact ⟨[], rfl, fun _ h => h, fun _ => rfl⟩
    | cons m r =>
      refine ⟨_, rfl, fun k hk => ?_, nofun⟩
      simp only [lookup] at hk
      split at hk
      · cases hk
      · split <;> simp [lookup, *]
  | false =>
    refine ⟨_, rfl, fun k hk => ?_, fun h => by subst h; simp⟩
    split
    · rfl
    · rw [lookup_map (fun _ _ => a.elem) k kvs, hk]; rfl

theorem setLast_wild_arr (gen : Bool) (dev : Dev) (one : Bool) (a : SetArg) (xs : List JV) :
    ∃ xs', (setLast gen dev one a .wild (.arr xs)).d = .arr xs' ∧ xs'.length = xs.length := by
  cases one with
  | true => cases xs <;> exact ⟨_, rfl, by simp⟩
  | false => exact ⟨_, rfl, by simp⟩

theorem setLast_frame (gen : Bool) (dev : Dev) (one : Bool) (a : SetArg) (f : Frag) (d : JV) (hw : TopNodup d)
    (hg : GoodAtS σ dev f d) : Frame (setFrameG σ a [f] d) d (setLast gen dev one a f d).d := by
  cases f with
  | union ms => exact setLastUnion_frame gen dev one a _ ms d (unionIn_init a ms d)
  | child k =>
    cases d with
    | obj kvs =>
      exact frame_writeKey _ a k kvs (mem_setFrame_key a (.child k) k kvs (fun c hl => by simp [selG, sel, selMember, hl])
        fun hl => by simp [createRootsG, hl, startsChain])
    | _ => exact Frame.refl _ _
  | nth i =>
    cases d with
    | arr xs =>
      simp only [setLast]
      cases ha : absIdx xs.length i with
      | none => exact Frame.refl _ _
      | some j =>
        have hj := absIdx_lt _ _ _ ha
        exact frame_member _ (.idx j) _ _ (mem_setFrame_single a (.nth i) _ xs[j] _ (by simp [selG, sel, selMember, ha, hj]))
          (child?_set_ne j a.elem xs)
    | _ => exact Frame.refl _ _
  | wild =>
    -- every member there is is selected, and none is added
    have hok := stepsOK_wild (σ := σ) d hw
    cases d with
    | obj kvs =>
      obtain ⟨kvs', e, hsub, h0⟩ := setLast_wild_obj gen dev one a kvs
      rw [e]
      refine frame_all _ _ _ (fun l c hc => ?_) (fun l hl => ?_) (fun h => ?_)
      · obtain ⟨k, rfl, hk⟩ := child?_obj_inv l kvs c hc
        exact mem_setFrame_single a .wild _ c _ ((hok.mem _ c hc).1 ((mem_keyLocs kvs _).2 ⟨k, lookup_isSome_mem kvs k c hk, rfl⟩))
      · cases l with
        | idx i => rfl
        | key k => exact hsub k hl
      · cases kvs with
        | nil => rw [h0 rfl]
        | cons m r => exact absurd (h (.key m.1)) (by simp [child?, lookup])
    | arr xs =>
      obtain ⟨xs', e, hlen⟩ := setLast_wild_arr gen dev one a xs
      rw [e]
      refine frame_all _ _ _ (fun l c hc => ?_) (fun l hl => ?_) (fun h => ?_)
      · obtain ⟨j, rfl, hj⟩ := child?_arr_inv l xs c hc
        exact mem_setFrame_single a .wild _ c _
          ((hok.mem _ c hc).1 ((mem_idxLocs _ _).2 ⟨j, (List.getElem?_eq_some_iff.1 hj).1, rfl⟩))
      · cases l with
        | key k => rfl
        | idx j =>
          have hj : xs.length ≤ j := by simpa [child?] using hl
          exact List.getElem?_eq_none (hlen ▸ hj)
      · cases xs with
        | nil => rw [List.length_eq_zero_iff.1 hlen]
        | cons x r => exact absurd (h (.idx 0)) (by simp [child?])
    | _ => exact Frame.refl _ _
  | _ => exact Frame.refl _ _

theorem setCreate_d (a : SetArg) (key : Bytes) (rest : List Frag) (k : Bool → JV → R) (kvs : List (Bytes × JV)) :
    (setCreate a key rest k kvs).d = .obj kvs ∨
      (startsChain rest = true ∧ a.isDel = false ∧ ∃ c, (setCreate a key rest k kvs).d = .obj (kvInsert key c kvs)) := by
  cases a with
  | del => exact Or.inl rfl
  | val v =>
    cases rest with
    | nil => exact Or.inl rfl
    | cons g r =>
      cases g with
      | child k' => exact Or.inr ⟨rfl, rfl, _, rfl⟩
      | nth i =>
        simp only [setCreate, List.head?_cons]
        split
        · exact Or.inl rfl
        next hi => exact Or.inr ⟨by simpa [startsChain] using hi, rfl, _, rfl⟩
      | _ => exact Or.inl rfl

/-- `Expr.set` (Set, SetOne, Del, DelOne; simple and gen data; a path without recursive descent), WHATEVER it reports:
every location that is not at, above or below a selected location or a member the path may create holds what it held -/
theorem setF_frame (gen : Bool) (dev : Dev) (one : Bool) (a : SetArg) : ∀ (x : List Frag), NoDescent x → ∀ (fl : Bool) (d : JV), WF d →
    GoodPathS σ dev x d → Frame (setFrameG σ a x d) d (setF gen dev one a x fl d).d
  | [], _, _, d, _, _ => Frame.refl _ d
  | [f], hnd, fl, d, hw, hg => by
    rw [setF_single_eq _ _ _ _ _ (hnd f (by simp))]
    exact setLast_frame gen dev one a f d (WF_top d hw) hg.1
  | f :: g :: r, hnd, fl, d, hw, hg => by
    have ih : ∀ l c, child? l d = some c → ([l], c) ∈ selG σ f d → ∀ fl,
        Frame (setFrameG σ a (g :: r) c) c (setF gen dev one a (g :: r) fl c).d :=
      fun l c hc hs fl => setF_frame gen dev one a (g :: r) (fun g' hg' => hnd g' (List.mem_cons_of_mem _ hg')) fl c
        (WF_child l d c hw hc) (hg.2 ([l], c) hs)
    rcases setF_step σ gen dev one a f g r fl d (hnd f (by simp)) with
      ⟨s, _, _, _, _, e⟩ | ⟨l, c, hc, hs, _, _, e⟩ | ⟨key, kvs, rfl, rfl, hl, e⟩ | ⟨hf, hn, e⟩ <;> rw [e]
    · exact Frame.refl _ _
    · simp only [setFollow]
      split
      · exact frame_put l d c _ _ _ (WF_top _ hw) hc (ih l c hc hs false) (mem_setFrame_cons a f (g :: r) d c l hs)
      · exact Frame.refl _ _
    · -- a member is added only where the path may create one
      rcases setCreate_d a key (g :: r) (setF gen dev one a (g :: r)) kvs with e' | ⟨hs, ha, c, e'⟩ <;> rw [e']
      · exact Frame.refl _ _
      · refine frame_member _ (.key key) _ _ (List.mem_append_right _ ?_) (child?_writeKey_ne (.val c) key kvs)
        cases a with
        | del => cases ha
        | val v =>
          simp only [crG, createRootsG]
          exact List.mem_append_left _ (by simp [hl, hs])
    · have hok := setSteps_ok (σ := σ) dev f d (WF_top d hw) hg.1 hf hn
      refine visitD_frame _ dev.descentSiblings _ _ (fun _ c => setFrameG σ a (g :: r) c) d (setSteps dev f d)
        (fun l hl c fl hc => ih l c hc ((hok.mem l c hc).1 hl) fl)
        (fun l hl c hc => mem_setFrame_cons a f (g :: r) d c l ((hok.mem l c hc).1 hl)) _ false d
        hok.nodup (WF_top d hw) (fun _ h => ⟨h, rfl⟩)

/-- Set / SetOne / Del / DelOne, whatever is reported (a result, an error after partial edits): the frame holds -/
theorem setM_frame (gen : Bool) (dev : Dev) (one : Bool) (a : SetArg) (x : List Frag) (d : JV) (hnd : NoDescent x) (hw : WF d)
    (hg : GoodPathS σ dev x d) : Frame (setFrameG σ a x d) d ((setM gen dev one a x d).data d) := by
  simp only [setM]
  split
  · exact Frame.refl _ _
  · have := setF_frame (σ := σ) gen dev one a x hnd false d hw hg
    cases hv : setF gen dev one a x false d with
    | mk dd ss =>
      rw [hv] at this
      cases ss <;> simp only [R.out, Out.data] <;> first | exact this | exact Frame.refl _ _

/-- the traversal goes on or a One form has stopped: no error, no fault -/
def Quiet (s : St) : Prop := s = .go ∨ s = .stop

theorem quiet_cases {s : St} (h : Quiet s) {P : St → Prop} (hgo : P .go) (hstop : P .stop) : P s := by
  rcases h with h | h <;> rw [h] <;> assumption

/-! `Quiet` is a property of statuses that `go` and `stop` have: the `_pred` theorems give it for every part of a traversal of
`Expr.modify` whose `gen.Node` assertion cannot fail. -/

theorem visitD_quiet (cont sib : Bool) (k : Bool → JV → R) (hk : ∀ fl c, Quiet (k fl c).st) :
    ∀ (steps : List Loc) (fl : Bool) (d : JV), Quiet (visitD cont sib k fl steps d).st :=
  visitD_pred Quiet (Or.inl rfl) cont sib k hk

theorem descArr_quiet (k : JV → R) (hk : ∀ c, Quiet (k c).st) : ∀ (xs : List JV), Quiet (descArr k xs).st :=
  descArr_pred Quiet (Or.inl rfl) k hk

theorem descObj_quiet (k : JV → R) (hk : ∀ c, Quiet (k c).st) : ∀ (kvs : List (Bytes × JV)), Quiet (descObj k kvs).st :=
  descObj_pred Quiet (Or.inl rfl) k hk

theorem modSeq_quiet (gen : Bool) (dev : Dev) (one : Bool) (m : Modifier) (h : (gen && dev.genModifyNil) = false) (nd : Bool) :
    ∀ (steps : List Loc) (d : JV), Quiet (modSeq gen dev one m nd steps d).st :=
  modSeq_pred Quiet (Or.inl rfl) gen dev one m nd (fun _ => Or.inr rfl) (fun hb => by rw [h] at hb; cases hb)

/-- `Expr.modify` (every path, descent included; all matches or One): once the `gen.Node` assertion cannot fail the
traversal has no error exit -/
theorem modF_quiet (gen : Bool) (dev : Dev) (one : Bool) (m : Modifier) (h : (gen && dev.genModifyNil) = false) :
    ∀ (x : List Frag) (fl : Bool) (d : JV), Quiet (modF gen dev one m x fl d).st :=
  modF_pred Quiet (Or.inl rfl) gen dev one m (fun _ => Or.inr rfl) (fun hb => by rw [h] at hb; cases hb)

/-- Modify / ModifyOne (every path): an error means the request was refused before anything was touched -/
theorem modifyCore_err_same (gen : Bool) (dev : Dev) (one : Bool) (m : Modifier) (h : (gen && dev.genModifyNil) = false)
    (x : List Frag) (d d' : JV) (e : E) (he : modifyCore gen dev one m x d = .err e d') : d' = d ∧ e = .lastDescent := by
  simp only [modifyCore] at he
  split at he
  · injection he with h1 h2; exact ⟨h2.symm, h1.symm⟩
  · split at he
    · cases he
    · have hq := modF_quiet (gen && !x.isEmpty) dev one m (by rw [Bool.and_right_comm, h, Bool.false_and]) (.nth 0 :: x) false (.arr [d])
      rcases hq with hst | hst <;> rw [hst] at he <;> cases he

/-- Remove / RemoveOne (every path): an error means the request was refused before anything was touched -/
theorem removeM_err_same (gen : Bool) (dev : Dev) (one : Bool) (h : (gen && dev.genModifyNil) = false)
    (x : List Frag) (d d' : JV) (e : E) (he : removeM gen dev one x d = .err e d') : d' = d := by
  simp only [removeM] at he
  split at he
  · injection he with _ h2; exact h2.symm
  · split at he
    · injection he with _ h2; exact h2.symm
    · exact (modifyCore_err_same gen dev one _ h _ d d' e he).1

end OjgVerif.JPMut
