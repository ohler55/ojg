import OjgVerif.JPMut.LemmasSet
import OjgVerif.JPMut.LemmasDescent
/-! # Del through a recursive descent at the head of the path (`$..rest`)

`Expr.set` runs on the path as it is (no wrapper), so `Del $..a.b` is `descGo` of the rest of the path on the root. Del creates
nothing: when no error is reported the data is `delAll` at exactly the locations `JPath.eval` selects — selected object members
gone, selected array elements null. Deletions below a node lie too deep to change what the rest of the path selects from the
node (`delAll_shape`); deeper deletions followed by shallower ones compose (`delAll_seq`): `DropEdit.shape`, `DropEdit.seq`
(LemmasDescent.lean) at `delAll`. The rest of the path must be free of filters and descents, and good (`GoodPath`,
`GoodPathS`) on every value — which it is for the code as it is when it has no union. -/

namespace OjgVerif.JPMut
open OjgVerif.JPath

variable {σ : SliceFn} [NodupSlice σ]

theorem delAll_seq : ∀ (N : Nat) (A B : List Path) (d : JV), (∀ b ∈ B, b.length < N) →
    (∀ a ∈ A, ∀ b ∈ B, b.length < a.length) → delAll (A ++ B) d = delAll B (delAll A d) :=
  delAll_edit.seq

theorem delAll_shape : ∀ (N : Nat) (T : List Path) (d : JV), (∀ p ∈ T, N + 1 ≤ p.length) → ShapeEq N d (delAll T d) :=
  delAll_edit.shape

theorem keysOf_delObj_sublist (T : List Path) : ∀ (kvs : List (Bytes × JV)), (keysOf (delObj T kvs)).Sublist (keysOf kvs)
  | [] => List.Sublist.slnil
  | kv :: r => by
    simp only [delObj]
    split
    · exact List.Sublist.cons _ (keysOf_delObj_sublist T r)
    · exact List.Sublist.cons_cons _ (keysOf_delObj_sublist T r)

mutual
  theorem WF_delAll : ∀ (d : JV) (T : List Path), WF d → WF (delAll T d)
    | .arr xs, T, hw => by simp only [delAll, WF]; exact WFL_delArr xs T 0 (by simpa [WF] using hw)
    | .obj kvs, T, hw => by
      simp only [WF] at hw
      simp only [delAll, WF]
      exact ⟨List.Nodup.sublist (keysOf_delObj_sublist T kvs) hw.1, WFK_delObj kvs T hw.2⟩
    | .null, _, hw => hw
    | .bool _, _, hw => hw
    | .int _, _, hw => hw
    | .flt _, _, hw => hw
    | .big _, _, hw => hw
    | .num _, _, hw => hw
    | .str _, _, hw => hw
  theorem WFL_delArr : ∀ (xs : List JV) (T : List Path) (i : Nat), WFL xs → WFL (delArr T i xs)
    | [], _, _, _ => trivial
    | x :: r, T, i, hw => by
      simp only [WFL] at hw
      simp only [delArr]
      split
      · exact ⟨trivial, WFL_delArr r T (i + 1) hw.2⟩
      · exact ⟨WF_delAll x _ hw.1, WFL_delArr r T (i + 1) hw.2⟩
  theorem WFK_delObj : ∀ (kvs : List (Bytes × JV)) (T : List Path), WFK kvs → WFK (delObj T kvs)
    | [], _, _ => trivial
    | kv :: r, T, hw => by
      simp only [WFK] at hw
      simp only [delObj]
      split
      · exact WFK_delObj r T hw.2
      · exact ⟨WF_delAll kv.2 _ hw.1, WFK_delObj r T hw.2⟩
end

theorem del_node (dev : Dev) (rest : List Frag) (hne : rest ≠ []) (hnd : NoDescent rest) (hnf : NoFilter rest)
    (hl : ∀ f, rest.getLast? = some f → endable f = true)
    (hgm : ∀ c, GoodPath σ dev rest c) (hgs : ∀ c, GoodPathS σ dev rest c) (d : JV) (hw : WF d)
    (hst : (setF false dev false .del rest false (mapKids (fun _ c => delAll (locsD σ rest c) c) d)).st = .go) :
    (setF false dev false .del rest false (mapKids (fun _ c => delAll (locsD σ rest c) c) d)).d = delAll (locsD σ rest d) d := by
  obtain ⟨k, hk⟩ : ∃ k, rest.length = k + 1 := by
    cases rest with
    | nil => exact absurd rfl hne
    | cons g r => exact ⟨r.length, by simp⟩
  have hw' : WF (mapKids (fun _ c => delAll (locsD σ rest c) c) d) :=
    WF_mapKids _ d hw (fun l c hc => WF_delAll c _ (WF_child l d c hw hc))
  have hshape : ShapeEq rest.length d (mapKids (fun _ c => delAll (locsD σ rest c) c) d) :=
    hk ▸ shapeEq_mapKids _ d fun l c hc => delAll_shape k _ c fun p hp =>
      hk ▸ locsD_len (σ := σ) rest hnd c (WF_child l d c hw hc) p hp
  obtain ⟨hsame, _⟩ := locs_shape (σ := σ) dev rest hnd hnf d _ hw hw' (hgm d) hshape
  rw [delF_eq (σ := σ) dev rest hne hnd hl false _ hw' (hgs _) hst, ← delAll_congr _ _ _ hsame]
  exact (delAll_edit.locsD_node (σ := σ) rest hne hnd d hw).symm

theorem descGo_del (dev : Dev) (rest : List Frag) (hne : rest ≠ []) (hnd : NoDescent rest) (hnf : NoFilter rest)
    (hl : ∀ f, rest.getLast? = some f → endable f = true) (hgm : ∀ c, GoodPath σ dev rest c) (hgs : ∀ c, GoodPathS σ dev rest c) :
    ∀ (d : JV), WF d → (descGo (setF false dev false .del rest false) d).st = .go →
      (descGo (setF false dev false .del rest false) d).d = delAll (locsD σ rest d) d :=
  descGo_all _ (fun c => delAll (locsD σ rest c) c) WF (fun c h => ⟨WF_top c h, fun e he => WF_kid h he⟩)
    (fun c hc => by rw [locsD_scalar rest hne hnd c hc, delAll_nil])
    (fun c h _ hst => del_node dev rest hne hnd hnf hl hgm hgs c h hst)

theorem descArr_del (dev : Dev) (rest : List Frag) (hne : rest ≠ []) (hnd : NoDescent rest) (hnf : NoFilter rest)
    (hl : ∀ f, rest.getLast? = some f → endable f = true) (hgm : ∀ c, GoodPath σ dev rest c) (hgs : ∀ c, GoodPathS σ dev rest c) :
    ∀ (xs : List JV), WFL xs → (descArr (setF false dev false .del rest false) xs).st = .go →
      (descArr (setF false dev false .del rest false) xs).xs = xs.map fun c => delAll (locsD σ rest c) c := by
  intro xs hw hst
  have hall := descArr_st_go _ xs hst
  rw [descArr_go _ xs hall]
  exact List.map_congr_left fun x hx => descGo_del dev rest hne hnd hnf hl hgm hgs x (WFL_mem xs hw x hx) (hall x hx)

theorem descObj_del (dev : Dev) (rest : List Frag) (hne : rest ≠ []) (hnd : NoDescent rest) (hnf : NoFilter rest)
    (hl : ∀ f, rest.getLast? = some f → endable f = true) (hgm : ∀ c, GoodPath σ dev rest c) (hgs : ∀ c, GoodPathS σ dev rest c) :
    ∀ (kvs : List (Bytes × JV)), WFK kvs → (descObj (setF false dev false .del rest false) kvs).st = .go →
      (descObj (setF false dev false .del rest false) kvs).kvs = kvs.map fun kv => (kv.1, delAll (locsD σ rest kv.2) kv.2) := by
  intro kvs hw hst
  have hall := descObj_st_go _ kvs hst
  rw [descObj_go _ kvs hall]
  exact List.map_congr_left fun kv hkv => by
    rw [descGo_del dev rest hne hnd hnf hl hgm hgs kv.2 (WFK_mem kvs hw kv hkv) (hall kv hkv)]

/-- Del through a descent at the head of the path (`$..rest`; all matches, simple data; `rest` non-empty, free of filters and
descents, good on every value): when no error is reported the data is the input with the selected object members gone and the
selected array elements null — `delAll` at exactly the locations `JPath.eval` (descent clause included) selects -/
theorem delM_descent (dev : Dev) (rest : List Frag) (hne : rest ≠ []) (hnd : NoDescent rest) (hnf : NoFilter rest)
    (hgm : ∀ c, GoodPath σ dev rest c) (hgs : ∀ c, GoodPathS σ dev rest c) (d d' : JV) (hw : WF d)
    (h : setM false dev false .del (.descent :: rest) d = .ok d') : d' = delSpecG σ (.descent :: rest) d := by
  simp only [setM] at h
  by_cases hr : setRefuses (Frag.descent :: rest).getLast? = true
  · rw [if_pos hr] at h; cases h
  · rw [if_neg hr] at h
    obtain ⟨hst, rfl⟩ := R.out_ok h
    have e := setF_descent false dev false .del rest hne d
    rw [e] at hst ⊢
    exact descGo_del (σ := σ) dev rest hne hnd hnf (getLast?_descent [] rest hne ▸ endable_of_not_refused hr) hgm hgs d hw
      (hst.resolve_right (e ▸ setF_nostop false dev .del (.descent :: rest) false d))

end OjgVerif.JPMut
