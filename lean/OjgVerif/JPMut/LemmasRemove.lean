import OjgVerif.JPMut.LemmasModify
/-! Remove removes exactly the selected members (paths without a descent). Remove is `modify` of the path without its
last fragment, with that fragment's `remove` as modifier. The positions and names a `remove` tests (`remPos`, `remKey`)
are those of the members its fragment selects and it drops all that pass, so it removes from a container exactly the
members the fragment selects in it (`removeAllOf_eff`); editing the parents with that remover is `remAll` at the
locations of the whole path (`upd_rem`). Hence the returned tree is `remAll (locsG σ x d) d` (`removeM_eq`): selected
members gone, the survivors of an array in their order. -/
namespace OjgVerif.JPMut
open OjgVerif.JPath

variable {σ : SliceFn} [NodupSlice σ]

mutual
  theorem remAll_nil : ∀ (d : JV), remAll [] d = d
    | .arr xs => by simp [remAll, remArr_nil xs 0]
    | .obj kvs => by simp [remAll, remObj_nil kvs]
    | .null => rfl
    | .bool _ => rfl
    | .int _ => rfl
    | .flt _ => rfl
    | .big _ => rfl
    | .num _ => rfl
    | .str _ => rfl
  theorem remArr_nil : ∀ (xs : List JV) (i : Nat), remArr [] i xs = xs
    | [], _ => rfl
    | x :: r, i => by simp [remArr, strip_nil, remAll_nil x, remArr_nil r (i + 1)]
  theorem remObj_nil : ∀ (kvs : List (Bytes × JV)), remObj [] kvs = kvs
    | [] => rfl
    | kv :: r => by simp [remObj, strip_nil, remAll_nil kv.2, remObj_nil r]
end

mutual
  theorem remAll_congr : ∀ (d : JV) (T T' : List Path), SameSet T T' → remAll T d = remAll T' d
    | .arr xs, T, T', h => by simp [remAll, remArr_congr xs T T' h 0]
    | .obj kvs, T, T', h => by simp [remAll, remObj_congr kvs T T' h]
    | .null, _, _, _ => rfl
    | .bool _, _, _, _ => rfl
    | .int _, _, _, _ => rfl
    | .flt _, _, _, _ => rfl
    | .big _, _, _, _ => rfl
    | .num _, _, _, _ => rfl
    | .str _, _, _, _ => rfl
  theorem remArr_congr : ∀ (xs : List JV) (T T' : List Path), SameSet T T' → ∀ i, remArr T i xs = remArr T' i xs
    | [], _, _, _, _ => rfl
    | x :: r, T, T', h, i => by
      simp only [remArr]
      rw [h.contains_eq [Loc.idx i], remAll_congr x _ _ (h.strip_same (.idx i)), remArr_congr r T T' h (i + 1)]
  theorem remObj_congr : ∀ (kvs : List (Bytes × JV)) (T T' : List Path), SameSet T T' → remObj T kvs = remObj T' kvs
    | [], _, _, _ => rfl
    | kv :: r, T, T', h => by
      simp only [remObj]
      rw [h.contains_eq [Loc.key kv.1], remAll_congr kv.2 _ _ (h.strip_same (.key kv.1)), remObj_congr r T T' h]
end

theorem remArr_step (T U : List Path) (F : Loc → JV → JV) (hc : ∀ l, T.contains [l] = U.contains [l])
    (hk : ∀ l c, remAll (strip l T) c = remAll (strip l U) (F l c)) : ∀ (xs : List JV) (i : Nat),
    remArr T i xs = remArr U i (mapArr F i xs)
  | [], _ => rfl
  | x :: r, i => by simp only [remArr, mapArr, hc, hk, remArr_step T U F hc hk r (i + 1)]

theorem remObj_step (T U : List Path) (F : Loc → JV → JV) (hc : ∀ l, T.contains [l] = U.contains [l])
    (hk : ∀ l c, remAll (strip l T) c = remAll (strip l U) (F l c)) : ∀ (kvs : List (Bytes × JV)),
    remObj T kvs = remObj U (kvs.map fun kv => (kv.1, F (.key kv.1) kv.2))
  | [] => rfl
  | kv :: r => by simp only [remObj, List.map_cons, hc, hk, remObj_step T U F hc hk r]

theorem remAll_edit : DropEdit remAll :=
  ⟨⟨remAll_nil, remAll_congr⟩, fun T U F d hc hk => by
    cases d <;> simp only [remAll, mapKids, remArr_step T U F hc hk, remObj_step T U F hc hk]⟩

theorem remArr_last (T : List Path) (hs : ∀ p ∈ T, ∃ l, p = [l]) : ∀ (xs : List JV) (i : Nat),
    remArr T i xs = dropIdx (fun j => T.contains [Loc.idx j]) i xs
  | [], _ => rfl
  | x :: r, i => by
    simp only [remArr, dropIdx]
    by_cases hc : T.contains [Loc.idx i] = true
    · simp only [hc, if_true, remArr_last T hs r (i + 1)]
    · have hn : [Loc.idx i] ∉ T := fun h => hc (List.contains_iff_mem.2 h)
      simp only [hc, Bool.false_eq_true, if_false, strip_singletons T hs _ hn, remAll_nil, remArr_last T hs r (i + 1)]

theorem remObj_last (T : List Path) (hs : ∀ p ∈ T, ∃ l, p = [l]) : ∀ (kvs : List (Bytes × JV)),
    remObj T kvs = kvs.filter fun kv => !T.contains [Loc.key kv.1]
  | [] => rfl
  | kv :: r => by
    simp only [remObj]
    by_cases hc : T.contains [Loc.key kv.1] = true
    · simp only [hc, if_true, remObj_last T hs r]
      rw [List.filter_cons_of_neg (by simpa using List.contains_iff_mem.1 hc)]
    · have hn : [Loc.key kv.1] ∉ T := fun h => hc (List.contains_iff_mem.2 h)
      simp only [hc, Bool.false_eq_true, if_false, strip_singletons T hs _ hn, remAll_nil, remObj_last T hs r]
      rw [List.filter_cons_of_pos (by simpa using hc)]

theorem dropIdx_congr (p q : Nat → Bool) : ∀ (xs : List JV) (o : Nat),
    (∀ j, j < xs.length → p (o + j) = q (o + j)) → dropIdx p o xs = dropIdx q o xs
  | [], _, _ => rfl
  | x :: r, o, h => by
    have h0 := h 0 (by simp)
    simp only [Nat.add_zero] at h0
    simp only [dropIdx, h0]
    rw [dropIdx_congr p q r (o + 1)]
    intro j hj
    have := h (j + 1) (by simpa using hj)
    have e : o + 1 + j = o + (j + 1) := by omega
    rw [e]; exact this

theorem dropIdx_none (p : Nat → Bool) (xs : List JV) (o : Nat) (h : ∀ j, j < xs.length → p (o + j) = false) : dropIdx p o xs = xs := by
  rw [dropIdx_congr p (fun _ => false) xs o h]
  clear h
  induction xs generalizing o with
  | nil => rfl
  | cons x r ih => simp only [dropIdx, Bool.false_eq_true, if_false, ih]

theorem dropIdx_all (p : Nat → Bool) (xs : List JV) (o : Nat) (h : ∀ j, j < xs.length → p (o + j) = true) : dropIdx p o xs = [] := by
  rw [dropIdx_congr p (fun _ => true) xs o h]
  clear h
  induction xs generalizing o with
  | nil => rfl
  | cons x r ih => simp only [dropIdx, if_true, ih]

theorem anyIdx_false (p : Nat → Bool) (n : Nat) (h : anyIdx p n = false) : ∀ j, j < n → p j = false := by
  intro j hj
  simp only [anyIdx, List.any_eq_false, List.mem_range] at h
  simpa using h j hj

theorem dropIdx_anyIdx_false (p : Nat → Bool) (xs : List JV) (h : anyIdx p xs.length = false) : dropIdx p 0 xs = xs :=
  dropIdx_none p xs 0 (fun j hj => by simpa using anyIdx_false p _ h j hj)

theorem filter_any_false {α : Type} (q : α → Bool) (l : List α) (h : l.any q = false) : l.filter (fun a => !q a) = l := by
  rw [List.filter_eq_self]
  intro a ha
  simp only [List.any_eq_false] at h
  simpa using h a ha

theorem filter_eq_dropIdx (p : JV → Bool) (q : Nat → Bool) : ∀ (xs : List JV) (o : Nat),
    (∀ j v, xs[j]? = some v → q (o + j) = p v) → xs.filter (fun v => !p v) = dropIdx q o xs
  | [], _, _ => rfl
  | x :: r, o, h => by
    have h0 := h 0 x (by simp)
    simp only [Nat.add_zero] at h0
    have ih := filter_eq_dropIdx p q r (o + 1) (by
      intro j v hv
      have := h (j + 1) v (by simpa using hv)
      have e : o + 1 + j = o + (j + 1) := by omega
      rw [e]; exact this)
    simp only [dropIdx, h0]
    cases hp : p x with
    | true => simp [List.filter, hp, ih]
    | false => simp [List.filter, hp, ih]

theorem eraseIdx_eq_dropIdx : ∀ (xs : List JV) (j o : Nat), xs.eraseIdx j = dropIdx (fun i => decide (i = o + j)) o xs
  | [], _, _ => rfl
  | x :: r, 0, o => by
    simp only [List.eraseIdx_cons_zero, dropIdx, Nat.add_zero, decide_true, if_true]
    rw [dropIdx_none]
    intro i _
    simp; omega
  | x :: r, j + 1, o => by
    simp only [List.eraseIdx_cons_succ, dropIdx]
    have : decide (o = o + (j + 1)) = false := by simp
    simp only [this, Bool.false_eq_true, if_false]
    congr 1
    have := eraseIdx_eq_dropIdx r j (o + 1)
    have e : o + 1 + j = o + (j + 1) := by omega
    rw [e] at this
    exact this

/-- what the specification removes from a container for the last fragment `f` -/
def remOf (σ : SliceFn) (f : Frag) (c : JV) : JV := remAll ((selG σ f c).map (·.1)) c

theorem remOf_arr (f : Frag) (xs : List JV) (hs : Shape σ f (.arr xs)) :
    remOf σ f (.arr xs) = .arr (dropIdx (fun j => ((selG σ f (.arr xs)).map (·.1)).contains [Loc.idx j]) 0 xs) := by
  simp only [remOf, remAll, remArr_last _ (selLocs_singletons (σ := σ) f _ hs)]

theorem remOf_obj (f : Frag) (kvs : List (Bytes × JV)) (hs : Shape σ f (.obj kvs)) :
    remOf σ f (.obj kvs) = .obj (kvs.filter fun kv => !((selG σ f (.obj kvs)).map (·.1)).contains [Loc.key kv.1]) := by
  simp only [remOf, remAll, remObj_last _ (selLocs_singletons (σ := σ) f _ hs)]

theorem remOf_nosel (f : Frag) (c : JV) (h : selG σ f c = []) : remOf σ f c = c := by
  simp [remOf, h, remAll_nil]

theorem remOf_scalar (f : Frag) (c : JV) (hf : isDescentF f = false) (hc : isContainer c = false) : remOf σ f c = c :=
  remOf_nosel f c (sel_scalar (σ := σ) f c hf hc)

/-- what makes the `remove` method of the last fragment remove what the specification selects in `c` -/
def RemGood (σ : SliceFn) (dev : Dev) (f : Frag) (c : JV) : Prop :=
  match f with
  | .union ms => dev.removeUnionNeg = false ∨ ∀ i, Member.idx i ∈ ms → 0 ≤ i
  | .slice s e t => ∀ xs, c = .arr xs → ∀ i, i < xs.length → remSel dev xs.length s e t i = (σ xs.length s e t).contains i
  | .descent => False
  | _ => True

theorem eff_pair (c c' : JV) (b : Bool) (h : b = false → c' = c) : Modifier.eff (fun _ => (c', b)) c = c' := by
  cases b <;> simp_all [Modifier.eff]

theorem eff_ite (b : Bool) (c c' : JV) (h : b = false → c' = c) :
    (if (if b = true then (c', true) else (c, false)).2 = true then (if b = true then (c', true) else (c, false)).1 else c) = c' := by
  cases b <;> simp_all

/-! Every `remove` and `removeOne` tests the positions of an array (`remPos`) or the names of an object (`remKey`); these are the
positions and names of the members its fragment selects (`remPos_sel`, `remKey_sel`). `remove` drops every member that passes. -/

def remPos (dev : Dev) (f : Frag) (xs : List JV) : Nat → Bool :=
  match f with
  | .nth i => fun j => decide (absIdx xs.length i = some j)
  | .wild => fun _ => true
  | .union ms => hasN dev xs.length ms
  | .slice s e t => remSel dev xs.length s e t
  | .filter p => fun j => p (xs.getD j .null)
  | _ => fun _ => false

def remKey (f : Frag) (kvs : List (Bytes × JV)) : Bytes → Bool :=
  match f with
  | .child k => fun k' => decide (k' = k)
  | .wild => fun _ => true
  | .union ms => hasKey ms
  | .filter p => fun k => p (lookupD k kvs)
  | _ => fun _ => false

theorem hasN_sel (dev : Dev) (ms : List Member) (xs : List JV) (hg : RemGood σ dev (.union ms) (.arr xs)) (j : Nat) (v : JV)
    (hv : xs[j]? = some v) : hasN dev xs.length ms j = true ↔ ([Loc.idx j], v) ∈ selG σ (.union ms) (.arr xs) := by
  have hjn := (List.getElem?_eq_some_iff.1 hv).1
  rw [← union_mem (σ := σ) ms (.arr xs) (.idx j) v hv]
  simp only [hasN, List.any_eq_true, unionLocs, List.mem_filterMap]
  refine exists_congr fun mb => and_congr_right fun hmb => ?_
  cases mb with
  | key k => simp [memberLoc]
  | idx i' =>
    have : absIdx xs.length i' = some j ↔ memberLoc (.arr xs) (.idx i') = some (.idx j) := by
      cases h : absIdx xs.length i' <;> simp [memberLoc, h]
    rw [← this]
    by_cases hf : dev.removeUnionNeg = true
    · rcases hg with hg | hg
      · rw [hg] at hf; cases hf
      · simp only [hf, if_true, decide_eq_true_eq]
        exact (absIdx_nonneg xs.length i' j (hg i' hmb) hjn).symm
    · simp only [hf, Bool.false_eq_true, if_false, decide_eq_true_eq]

theorem hasKey_sel (ms : List Member) (kvs : List (Bytes × JV)) (hn : (keysOf kvs).Nodup) (kv : Bytes × JV) (hkv : kv ∈ kvs) :
    hasKey ms kv.1 = true ↔ ([Loc.key kv.1], kv.2) ∈ selG σ (.union ms) (.obj kvs) := by
  rw [← union_mem (σ := σ) ms (.obj kvs) (.key kv.1) kv.2 (lookup_of_mem_nodup kvs hn kv hkv)]
  simp only [hasKey, List.any_eq_true, unionLocs, List.mem_filterMap]
  refine exists_congr fun mb => and_congr_right fun _ => ?_
  cases mb with
  | key k => simp [memberLoc]
  | idx i' => simp [memberLoc]

theorem remPos_sel (dev : Dev) (f : Frag) (xs : List JV) (hg : RemGood σ dev f (.arr xs)) (j : Nat) (v : JV) (hv : xs[j]? = some v) :
    remPos dev f xs j = true ↔ ([Loc.idx j], v) ∈ selG σ f (.arr xs) := by
  have hjn := (List.getElem?_eq_some_iff.1 hv).1
  cases f with
  | descent => cases hg
  | child k => simp [remPos, selG, sel, selMember]
  | nth i =>
    rw [← (stepsOK_nth (σ := σ) i (.arr xs)).mem (.idx j) v hv]
    cases h : absIdx xs.length i <;> simp [remPos, memberLoc, h, eq_comm]
  | wild =>
    rw [← (stepsOK_wild (σ := σ) (.arr xs) trivial).mem (.idx j) v hv]
    simpa [remPos, mem_idxLocs] using hjn
  | union ms => exact hasN_sel dev ms xs hg j v hv
  | slice s e t =>
    have hok := stepsOK_slice (σ := σ) s e t (.arr xs) (σ · s e t) (fun _ _ => rfl) (fun _ _ => NodupSlice.nodup _ s e t)
    rw [← hok.mem (.idx j) v hv]
    simp [remPos, hg xs rfl j hjn]
  | filter p =>
    have hok := stepsOK_filter (σ := σ) p (.arr xs) _ (stepsOK_wild (σ := σ) (.arr xs) trivial)
    rw [← hok.mem (.idx j) v hv, mem_filterLocs p (.arr xs) _ (.idx j) v hv]
    simpa [remPos, List.getD, hv, mem_idxLocs] using fun _ => hjn

theorem remKey_sel (f : Frag) (hf : isDescentF f = false) (kvs : List (Bytes × JV)) (hn : (keysOf kvs).Nodup) (kv : Bytes × JV) (hkv : kv ∈ kvs) :
    remKey f kvs kv.1 = true ↔ ([Loc.key kv.1], kv.2) ∈ selG σ f (.obj kvs) := by
  have hlk := lookup_of_mem_nodup kvs hn kv hkv
  have hk : kv.1 ∈ keysOf kvs := List.mem_map_of_mem (f := (·.1)) hkv
  cases f with
  | descent => cases hf
  | child k =>
    rw [← (stepsOK_child (σ := σ) k (.obj kvs)).mem (.key kv.1) kv.2 hlk]
    simp [remKey]
  | nth i => simp [remKey, selG, sel, selMember]
  | slice s e t => simp [remKey, selG]
  | wild =>
    rw [← (stepsOK_wild (σ := σ) (.obj kvs) hn).mem (.key kv.1) kv.2 hlk]
    simpa [remKey, mem_keyLocs] using hk
  | union ms => exact hasKey_sel ms kvs hn kv hkv
  | filter p =>
    have hok := stepsOK_filter (σ := σ) p (.obj kvs) _ (stepsOK_wild (σ := σ) (.obj kvs) hn)
    rw [← hok.mem (.key kv.1) kv.2 hlk, mem_filterLocs p (.obj kvs) _ (.key kv.1) kv.2 hlk]
    simpa [remKey, lookupD, hlk, mem_keyLocs] using fun _ => hk

theorem removeAllOf_arr (dev : Dev) (f : Frag) (m : Modifier) (hm : removeAllOf dev f = some m) (xs : List JV) :
    m.eff (.arr xs) = .arr (dropIdx (remPos dev f xs) 0 xs) := by
  have scan : ∀ p : Nat → Bool, Modifier.eff (fun c => if anyIdx p xs.length then (JV.arr (dropIdx p 0 xs), true) else (c, false)) (.arr xs) =
      .arr (dropIdx p 0 xs) := fun p => eff_ite _ _ _ (fun ha => by rw [dropIdx_anyIdx_false _ _ ha])
  cases f with
  | descent => cases hm
  | child k => cases Option.some.inj hm; exact (congrArg JV.arr (dropIdx_none _ xs 0 fun _ _ => rfl)).symm
  | nth i =>
    cases Option.some.inj hm
    cases ha : absIdx xs.length i with
    | none => simp only [Modifier.eff, remNth, ha, remPos]; exact (congrArg JV.arr (dropIdx_none _ xs 0 fun _ _ => by simp)).symm
    | some j =>
      simp only [Modifier.eff, remNth, ha, remPos, if_true]
      rw [eraseIdx_eq_dropIdx xs j 0]
      exact congrArg JV.arr (dropIdx_congr _ _ xs 0 fun j' _ => by simp [eq_comm])
  | wild =>
    cases Option.some.inj hm
    rw [show remPos dev .wild xs = fun _ => true from rfl, dropIdx_all (fun _ => true) xs 0 (fun _ _ => rfl)]
    cases xs <;> simp [Modifier.eff, remWild]
  | union ms => cases Option.some.inj hm; exact scan _
  | slice s e t => cases Option.some.inj hm; exact scan _
  | filter p =>
    cases Option.some.inj hm
    have e' : Modifier.eff (remFilter p) (.arr xs) = .arr (xs.filter fun v => !p v) :=
      eff_ite _ _ _ (fun ha => by rw [filter_any_false _ _ ha])
    rw [e', filter_eq_dropIdx p (fun j => p (xs.getD j .null)) xs 0 (by intro j v hv; simp [List.getD, hv])]
    rfl

theorem removeAllOf_obj (dev : Dev) (f : Frag) (m : Modifier) (hm : removeAllOf dev f = some m) (kvs : List (Bytes × JV))
    (hn : (keysOf kvs).Nodup) : m.eff (.obj kvs) = .obj (kvs.filter fun kv => !remKey f kvs kv.1) := by
  have none : ∀ g : Frag, (remKey g kvs = fun _ => false) → JV.obj kvs = .obj (kvs.filter fun kv => !remKey g kvs kv.1) :=
    fun g e => by rw [e]; exact congrArg JV.obj (List.filter_eq_self.2 fun _ _ => rfl).symm
  cases f with
  | descent => cases hm
  | child k =>
    cases Option.some.inj hm
    rw [show remKey (.child k) kvs = fun k' => decide (k' = k) from rfl, ← kvErase_eq_filter]
    apply eff_ite
    intro hb
    cases hl : lookup k kvs with
    | none => rw [kvErase_absent k kvs hl]
    | some v => simp [hl] at hb
  | nth i => cases Option.some.inj hm; exact none (.nth i) rfl
  | slice s e t => cases Option.some.inj hm; exact none (.slice s e t) rfl
  | wild =>
    cases Option.some.inj hm
    rw [show remKey .wild kvs = fun _ => true from rfl, List.filter_eq_nil_iff.2 (fun _ _ => by simp)]
    cases kvs <;> simp [Modifier.eff, remWild]
  | union ms =>
    cases Option.some.inj hm
    exact eff_ite _ _ _ (fun ha => by rw [filter_any_false _ _ ha])
  | filter p =>
    cases Option.some.inj hm
    have e' : Modifier.eff (remFilter p) (.obj kvs) = .obj (kvs.filter fun kv => !(fun kv => p kv.2) kv) :=
      eff_ite _ _ _ (fun ha => by rw [filter_any_false _ _ ha])
    rw [e']
    exact congrArg JV.obj (List.filter_congr fun kv hkv => by simp [remKey, lookupD, lookup_of_mem_nodup kvs hn kv hkv])

theorem removeAllOf_eff (dev : Dev) (f : Frag) (m : Modifier) (hm : removeAllOf dev f = some m) (c : JV)
    (hw : TopNodup c) (hg : RemGood σ dev f c) : m.eff c = remOf σ f c := by
  have hf : isDescentF f = false := by cases f <;> first | rfl | cases hg
  have hs := Shape_of (σ := σ) f c hf hw
  cases c with
  | arr xs =>
    rw [removeAllOf_arr dev f m hm xs, remOf_arr f xs hs]
    congr 1
    apply dropIdx_congr
    intro j hj
    simp only [Nat.zero_add]
    obtain ⟨v, hv⟩ : ∃ v, xs[j]? = some v := ⟨xs[j], by simp [hj]⟩
    exact (selLocs_contains f (.arr xs) hs (.idx j) v hv _ (remPos_sel dev f xs hg j v hv)).symm
  | obj kvs =>
    rw [removeAllOf_obj dev f m hm kvs hw, remOf_obj f kvs hs]
    congr 1
    apply List.filter_congr
    intro kv hkv
    rw [selLocs_contains f (.obj kvs) hs (.key kv.1) kv.2 (lookup_of_mem_nodup kvs hw kv hkv) _ (remKey_sel f hf kvs hw kv hkv)]
  | _ =>
    rw [remOf_scalar f _ hf rfl]
    -- every remover hands back what is not a container
    cases f <;> first | (cases Option.some.inj hm; rfl) | cases hf

theorem noDescent_snoc (rest : List Frag) (f : Frag) (hnd : NoDescent rest) (hf : isDescentF f = false) : NoDescent (rest ++ [f]) :=
  fun g hg => (List.mem_append.1 hg).elim (hnd g) fun h => List.mem_singleton.1 h ▸ hf

/-- the remover of the last fragment is good on every value the path before it selects -/
def RemPath (σ : SliceFn) (dev : Dev) (f : Frag) : List Frag → JV → Prop
  | [], d => RemGood σ dev f d
  | h :: r, d => ∀ m ∈ selG σ h d, RemPath σ dev f r m.2

theorem upd_rem (dev : Dev) (f : Frag) (m : Modifier) (hm : removeAllOf dev f = some m) (hf : isDescentF f = false) :
    ∀ (sx : List Frag), NoDescent sx → ∀ (d : JV), WF d → RemPath σ dev f sx d →
      updAll m.eff (locsG σ sx d) d = remAll (locsG σ (sx ++ [f]) d) d
  | [], _, d, hw, hr => by
    rw [locs_nil, updAll_here, removeAllOf_eff dev f m hm d (WF_top d hw) hr]
    exact (remAll_congr d _ _ (locs_single (σ := σ) f d)).symm
  | h :: r, hnd, d, hw, hr => by
    have hs := Shape_of (σ := σ) h d (hnd h (by simp)) (WF_top d hw)
    have hndr : NoDescent r := fun g hg => hnd g (List.mem_cons_of_mem _ hg)
    -- both sides only descend at this level; below a selected member the induction hypothesis, below the others nothing
    rw [updAll_inner _ h r d hs]
    symm
    apply remAll_edit.level h (r ++ [f]) d (WF_top d hw) hs
      (remAll_edit.inner _ (no_singleton (σ := σ) h (r ++ [f]) (by simp) (noDescent_snoc r f hndr hf) d hw hs) d)
    · intro l c hc hsel
      rw [updAll_congr m.eff c _ _ (strip_locs_sel (σ := σ) h r d hs l c hc hsel)]
      exact upd_rem dev f m hm hf r hndr c (WF_child l d c hw hc) (hr ([l], c) hsel)
    · intro l c hc hsel
      rw [updAll_congr m.eff c _ _ (strip_locs_not (σ := σ) h r d hs l c hc hsel), updAll_nil]

/-- Remove on simple data, a path without descent: the returned tree is the input with exactly the
selected members removed -/
theorem removeM_eq (dev : Dev) (sx : List Frag) (f : Frag) (d : JV) (hnd : NoDescent (sx ++ [f])) (hw : WF d)
    (hg : GoodPath σ dev sx d) (hr : RemPath σ dev f sx d) :
    removeM false dev false (sx ++ [f]) d = .ok (remAll (locsG σ (sx ++ [f]) d) d) := by
  have hf : isDescentF f = false := hnd f (by simp)
  have hndx : NoDescent sx := fun g hg => hnd g (List.mem_append_left _ hg)
  obtain ⟨m, hm⟩ : ∃ m, removeAllOf dev f = some m := by
    cases f <;> simp_all [removeAllOf, isDescentF]
  simp only [removeM, List.getLast?_append, List.getLast?_singleton, Option.some_or, hm, Bool.false_eq_true, if_false,
    List.dropLast_concat]
  by_cases hroot : sx = [] ∧ dev.rootScalar = true ∧ isContainer d = false
  · obtain ⟨rfl, h2, h3⟩ := hroot
    have : isDescent ([] : List Frag).getLast? = false := rfl
    simp only [modifyCore, this, Bool.false_eq_true, if_false, List.isEmpty_nil, h2, h3, Bool.not_false, Bool.and_self, if_true,
      List.nil_append]
    congr 1
    have : locsG σ [f] d = [] := locs_scalar (σ := σ) f [] d hf h3
    rw [this, remAll_nil]
  · have := modifyM_eq dev m sx d hndx hw hg hroot
    simp only [modifyM] at this
    rw [this, upd_rem dev f m hm hf sx hndx d hw hr]

end OjgVerif.JPMut
