import OjgVerif.JPMut.LemmasRemove
/-! set.go: the members its inner fragments hand on and what its last fragment writes; and the specification of Del
(`delAll`) one level at a time: it descends where no one-step location is in the set and deletes (objects) or nulls
(arrays) where only such locations are; at the end of the file the same for the creations of Set (`insAll`).
`GoodPathS` is the hypothesis of the main theorem for Set and Del (`setF_spec` in LemmasSet): no union lists a member
twice, and the slices, as set.go reads them, select the indexes of the specification on the arrays they meet. -/
namespace OjgVerif.JPMut
open OjgVerif.JPath

variable {σ : SliceFn} [NodupSlice σ]

mutual
  theorem delAll_nil : ∀ (d : JV), delAll [] d = d
    | .arr xs => by simp [delAll, delArr_nil xs 0]
    | .obj kvs => by simp [delAll, delObj_nil kvs]
    | .null => rfl
    | .bool _ => rfl
    | .int _ => rfl
    | .flt _ => rfl
    | .big _ => rfl
    | .num _ => rfl
    | .str _ => rfl
  theorem delArr_nil : ∀ (xs : List JV) (i : Nat), delArr [] i xs = xs
    | [], _ => rfl
    | x :: r, i => by simp [delArr, strip_nil, delAll_nil x, delArr_nil r (i + 1)]
  theorem delObj_nil : ∀ (kvs : List (Bytes × JV)), delObj [] kvs = kvs
    | [] => rfl
    | kv :: r => by simp [delObj, strip_nil, delAll_nil kv.2, delObj_nil r]
end

mutual
  theorem delAll_congr : ∀ (d : JV) (T T' : List Path), SameSet T T' → delAll T d = delAll T' d
    | .arr xs, T, T', h => by simp [delAll, delArr_congr xs T T' h 0]
    | .obj kvs, T, T', h => by simp [delAll, delObj_congr kvs T T' h]
    | .null, _, _, _ => rfl
    | .bool _, _, _, _ => rfl
    | .int _, _, _, _ => rfl
    | .flt _, _, _, _ => rfl
    | .big _, _, _, _ => rfl
    | .num _, _, _, _ => rfl
    | .str _, _, _, _ => rfl
  theorem delArr_congr : ∀ (xs : List JV) (T T' : List Path), SameSet T T' → ∀ i, delArr T i xs = delArr T' i xs
    | [], _, _, _, _ => rfl
    | x :: r, T, T', h, i => by
      simp only [delArr]
      rw [h.contains_eq [Loc.idx i], delAll_congr x _ _ (h.strip_same (.idx i)), delArr_congr r T T' h (i + 1)]
  theorem delObj_congr : ∀ (kvs : List (Bytes × JV)) (T T' : List Path), SameSet T T' → delObj T kvs = delObj T' kvs
    | [], _, _, _ => rfl
    | kv :: r, T, T', h => by
      simp only [delObj]
      rw [h.contains_eq [Loc.key kv.1], delAll_congr kv.2 _ _ (h.strip_same (.key kv.1)), delObj_congr r T T' h]
end

theorem delArr_step (T U : List Path) (F : Loc → JV → JV) (hc : ∀ l, T.contains [l] = U.contains [l])
    (hk : ∀ l c, delAll (strip l T) c = delAll (strip l U) (F l c)) : ∀ (xs : List JV) (i : Nat),
    delArr T i xs = delArr U i (mapArr F i xs)
  | [], _ => rfl
  | x :: r, i => by simp only [delArr, mapArr, hc, hk, delArr_step T U F hc hk r (i + 1)]

theorem delObj_step (T U : List Path) (F : Loc → JV → JV) (hc : ∀ l, T.contains [l] = U.contains [l])
    (hk : ∀ l c, delAll (strip l T) c = delAll (strip l U) (F l c)) : ∀ (kvs : List (Bytes × JV)),
    delObj T kvs = delObj U (kvs.map fun kv => (kv.1, F (.key kv.1) kv.2))
  | [] => rfl
  | kv :: r => by simp only [delObj, List.map_cons, hc, hk, delObj_step T U F hc hk r]

theorem delAll_edit : DropEdit delAll :=
  ⟨⟨delAll_nil, delAll_congr⟩, fun T U F d hc hk => by
    cases d <;> simp only [delAll, mapKids, delArr_step T U F hc hk, delObj_step T U F hc hk]⟩

theorem delArr_last (T : List Path) (hs : ∀ p ∈ T, ∃ l, p = [l]) : ∀ (xs : List JV) (i : Nat),
    delArr T i xs = mapArr (fun l c => if T.contains [l] then JV.null else c) i xs
  | [], _ => rfl
  | x :: r, i => by
    simp only [delArr, mapArr]
    by_cases hc : T.contains [Loc.idx i] = true
    · simp only [hc, if_true, delArr_last T hs r (i + 1)]
    · have hn : [Loc.idx i] ∉ T := fun h => hc (List.contains_iff_mem.2 h)
      simp only [hc, Bool.false_eq_true, if_false, strip_singletons T hs _ hn, delAll_nil, delArr_last T hs r (i + 1)]

theorem delObj_last (T : List Path) (hs : ∀ p ∈ T, ∃ l, p = [l]) : ∀ (kvs : List (Bytes × JV)),
    delObj T kvs = kvs.filter fun kv => !T.contains [Loc.key kv.1]
  | [] => rfl
  | kv :: r => by
    simp only [delObj]
    by_cases hc : T.contains [Loc.key kv.1] = true
    · simp only [hc, if_true, delObj_last T hs r]
      rw [List.filter_cons_of_neg (by simpa using List.contains_iff_mem.1 hc)]
    · have hn : [Loc.key kv.1] ∉ T := fun h => hc (List.contains_iff_mem.2 h)
      simp only [hc, Bool.false_eq_true, if_false, strip_singletons T hs _ hn, delAll_nil, delObj_last T hs r]
      rw [List.filter_cons_of_pos (by simpa using hc)]

theorem delAll_last_arr (f : Frag) (xs : List JV) (hs : Shape σ f (.arr xs)) (p : Loc → Bool)
    (hp : ∀ j v, xs[j]? = some v → (p (.idx j) = true ↔ ([Loc.idx j], v) ∈ selG σ f (.arr xs))) :
    delAll (locsG σ [f] (.arr xs)) (.arr xs) = mapKids (fun l c => if p l then JV.null else c) (.arr xs) := by
  rw [delAll_congr _ _ _ (locs_single (σ := σ) f _)]
  simp only [delAll, delArr_last _ (selLocs_singletons (σ := σ) f _ hs), mapKids]
  congr 1
  apply mapArr_congr
  intro j v hv
  simp only [Nat.zero_add]
  rw [selLocs_contains f (.arr xs) hs (.idx j) v hv (p (.idx j)) (hp j v hv)]

theorem delAll_last_obj (f : Frag) (kvs : List (Bytes × JV)) (hn : (keysOf kvs).Nodup) (hs : Shape σ f (.obj kvs)) (p : Bytes × JV → Bool)
    (hp : ∀ kv ∈ kvs, (p kv = true ↔ ([Loc.key kv.1], kv.2) ∈ selG σ f (.obj kvs))) :
    delAll (locsG σ [f] (.obj kvs)) (.obj kvs) = .obj (kvs.filter fun kv => !p kv) := by
  rw [delAll_congr _ _ _ (locs_single (σ := σ) f _)]
  simp only [delAll, delObj_last _ (selLocs_singletons (σ := σ) f _ hs)]
  congr 1
  apply List.filter_congr
  intro kv hkv
  rw [selLocs_contains f (.obj kvs) hs (.key kv.1) kv.2 (lookup_of_mem_nodup kvs hn kv hkv) (p kv) (hp kv hkv)]

theorem delAll_nosel (f : Frag) (d : JV) (h : selG σ f d = []) : delAll (locsG σ [f] d) d = d := by
  rw [delAll_congr _ _ _ (locs_single (σ := σ) f d), h]
  exact delAll_nil d

/-- the fragment behaves in set.go as in the specification on the value `e` -/
def GoodAtS (σ : SliceFn) (dev : Dev) (f : Frag) (e : JV) : Prop :=
  match f with
  | .union ms => (unionLocs ms e).Nodup
  | .slice s e' t => ∀ xs, e = .arr xs → setIdx dev xs.length s e' t = σ xs.length s e' t
  | .descent => False
  | _ => True

def GoodPathS (σ : SliceFn) (dev : Dev) : List Frag → JV → Prop
  | [], _ => True
  | f :: r, d => GoodAtS σ dev f d ∧ ∀ m ∈ selG σ f d, GoodPathS σ dev r m.2

/-- the fragment kinds set.go accepts in last position -/
def endable : Frag → Bool
  | .child _ => true
  | .nth _ => true
  | .wild => true
  | .union _ => true
  | _ => false

theorem GoodAtS.notDescent {dev : Dev} {f : Frag} {e : JV} (h : GoodAtS σ dev f e) : isDescentF f = false := by
  cases f <;> simp_all [GoodAtS, isDescentF]

/-- set.go's last fragment has no step list of its own. For the four kinds it can end with, the members it writes are
those `modLastSteps` lists, and `GoodAtS` says what `GoodAt` says (the two differ for slices and filters, which cannot be
last in set.go): the theorems about `setLast` below are stated with the step function of modify.go -/
theorem GoodAtS.last {dev : Dev} {f : Frag} {e : JV} (h : GoodAtS σ dev f e) (he : endable f = true) : GoodAt σ dev f e := by
  cases f <;> first | exact h | cases he

theorem endable_of_not_refused {x : List Frag} (hr : ¬ setRefuses x.getLast? = true) : ∀ f, x.getLast? = some f → endable f = true := by
  intro f hf
  rw [hf] at hr
  cases f <;> first | rfl | exact absurd rfl hr

theorem setSteps_ok (dev : Dev) (f : Frag) (d : JV) (hw : TopNodup d) (hg : GoodAtS σ dev f d)
    (hf : ∀ k, f ≠ .child k) (hf' : ∀ i, f ≠ .nth i) : StepsOK σ (setSteps dev f d) f d := by
  cases f with
  | child k => exact absurd rfl (hf k)
  | nth i => exact absurd rfl (hf' i)
  | wild =>
    have h := stepsOK_wild (σ := σ) d hw
    cases d <;> exact h
  | union ms => exact (stepsOK_union (σ := σ) ms d hg).reverse
  | slice s e t =>
    have h := stepsOK_slice (σ := σ) s e t d (setIdx dev · s e t) (fun xs h => hg xs h) (fun xs _ => NodupSlice.nodup _ s e t)
    cases d <;> exact h
  | filter p =>
    cases d with
    | arr xs => exact stepsOK_filter (σ := σ) p _ _ (stepsOK_wild (σ := σ) (.arr xs) hw)
    | obj kvs => exact stepsOK_filter (σ := σ) p _ _ (stepsOK_wild (σ := σ) (.obj kvs) hw)
    | _ => exact stepsOK_scalar_nil (σ := σ) _ _ rfl rfl
  | descent => cases hg

theorem filter_filter_key (k : Bytes) (ms : List Member) (kvs : List (Bytes × JV)) :
    (kvs.filter fun kv => !decide (kv.1 = k)).filter (fun kv => !hasKey ms kv.1) =
      kvs.filter fun kv => !hasKey (.key k :: ms) kv.1 := by
  rw [List.filter_filter]
  apply List.filter_congr
  intro kv _
  have e : hasKey (.key k :: ms) kv.1 = (decide (k = kv.1) || hasKey ms kv.1) := by simp [hasKey, List.any_cons]
  rw [e]
  by_cases h1 : kv.1 = k
  · simp [h1]
  · have h1' : ¬ k = kv.1 := fun h => h1 h.symm
    simp [h1, h1']

theorem setLastUnion_del_obj (dev : Dev) : ∀ (ms : List Member) (kvs : List (Bytes × JV)),
    setLastUnion false dev false .del ms (.obj kvs) = ⟨.obj (kvs.filter fun kv => !hasKey ms kv.1), .go⟩
  | [], kvs => by
    simp only [setLastUnion, hasKey, List.any_nil, Bool.not_false]
    rw [List.filter_eq_self.2 (by intro a _; rfl)]
  | .key k :: ms, kvs => by
    simp only [setLastUnion, oneKey, Bool.false_and, Bool.false_eq_true, if_false, writeKey]
    rw [setLastUnion_del_obj dev ms, kvErase_eq_filter, filter_filter_key]
  | .idx i :: ms, kvs => by
    simp only [setLastUnion]
    rw [setLastUnion_del_obj dev ms]
    congr 2

theorem memberLoc_set (xs : List JV) (j : Nat) (v : JV) (mb : Member) :
    memberLoc (.arr (xs.set j v)) mb = memberLoc (.arr xs) mb := by
  cases mb <;> simp [memberLoc]

theorem unionLocs_set (ms : List Member) (xs : List JV) (j : Nat) (v : JV) :
    unionLocs ms (.arr (xs.set j v)) = unionLocs ms (.arr xs) := by
  simp only [unionLocs]
  induction ms with
  | nil => rfl
  | cons mb r ih => simp only [List.filterMap_cons, memberLoc_set, ih]

theorem setLastUnion_arr (dev : Dev) (a : SetArg) : ∀ (ms : List Member) (xs : List JV),
    setLastUnion false dev false a ms (.arr xs) =
      ⟨mapKids (fun l c => if l ∈ unionLocs ms (.arr xs) then a.elem else c) (.arr xs), .go⟩
  | [], xs => by simp [setLastUnion, unionLocs, mapKids_id]
  | .key k :: ms, xs => by
    simp only [setLastUnion]
    rw [setLastUnion_arr dev a ms]
    congr 1
    apply mapKids_congr (.arr xs) trivial
    intro l c hc
    obtain ⟨j, rfl, _⟩ := child?_arr_inv l xs c hc
    simp [unionLocs, memberLoc]
  | .idx i :: ms, xs => by
    simp only [setLastUnion, Bool.false_and, Bool.false_eq_true, if_false]
    cases ha : absIdx xs.length i with
    | none =>
      simp only
      rw [setLastUnion_arr dev a ms]
      congr 1
      apply mapKids_congr (.arr xs) trivial
      intro l c _
      simp [unionLocs, memberLoc, ha]
    | some j =>
      simp only
      rw [setLastUnion_arr dev a ms, unionLocs_set]
      congr 1
      have hj : j < xs.length := absIdx_lt _ _ _ ha
      obtain ⟨c0, hc0⟩ : ∃ c0, child? (.idx j) (.arr xs) = some c0 := ⟨xs[j], by simp [child?, hj]⟩
      have := putChild_eq_mapKids (.idx j) a.elem (.arr xs) c0 trivial hc0
      simp only [putChild] at this
      rw [this, mapKids_comp]
      apply mapKids_congr (.arr xs) trivial
      intro l c _
      simp only [unionLocs, List.filterMap_cons, memberLoc, ha, Option.map_some, List.mem_cons]
      by_cases e : l = .idx j
      · simp [e]
      · simp [e]

theorem map_const_eq_mapArr (v : JV) : ∀ (xs : List JV) (o : Nat), xs.map (fun _ => v) = mapArr (fun _ _ => v) o xs
  | [], _ => rfl
  | x :: r, o => by simp [mapArr, map_const_eq_mapArr v r (o + 1)]

theorem setLastUnion_scalar (gen : Bool) (dev : Dev) (one : Bool) (a : SetArg) : ∀ (ms : List Member) (c : JV),
    isContainer c = false → setLastUnion gen dev one a ms c = ⟨c, .go⟩ := by
  intro ms
  induction ms with
  | nil => intro c _; rfl
  | cons mb r ih =>
    intro c hc
    cases mb <;> cases c <;> first | exact ih _ hc | cases hc

theorem setLast_scalar (gen : Bool) (dev : Dev) (one : Bool) (a : SetArg) (f : Frag) (d : JV) (hd : isContainer d = false) :
    setLast gen dev one a f d = ⟨d, .go⟩ := by
  cases f with
  | union ms => simp only [setLast]; exact setLastUnion_scalar gen dev one a ms d hd
  | _ => cases d <;> first | rfl | cases hd

theorem setLast_arr (dev : Dev) (a : SetArg) (f : Frag) (xs : List JV) (he : endable f = true)
    (hst : (setLast false dev false a f (.arr xs)).st = .go) :
    (setLast false dev false a f (.arr xs)).d =
      mapKids (fun l c => if l ∈ modLastSteps dev f (.arr xs) then a.elem else c) (.arr xs) := by
  cases f with
  | child k =>
    refine (mapKids_id _).symm.trans (mapKids_congr _ trivial ?_)
    intro l c hc
    obtain ⟨j, rfl, _⟩ := child?_arr_inv l xs c hc
    simp [modLastSteps]
  | nth i =>
    simp only [setLast] at hst ⊢
    cases ha : absIdx xs.length i with
    | none => simp [ha] at hst
    | some j =>
      obtain ⟨c0, hc0⟩ : ∃ c0, child? (.idx j) (.arr xs) = some c0 :=
        ⟨xs[j]'(absIdx_lt _ _ _ ha), by simp [child?]⟩
      simp only [modLastSteps, memberLoc, ha, Option.map_some, Option.toList_some, List.mem_singleton]
      exact putChild_eq_mapKids (.idx j) a.elem (.arr xs) c0 trivial hc0
  | wild =>
    simp only [setLast, Bool.false_eq_true, if_false, map_const_eq_mapArr _ xs 0]
    refine mapKids_congr (g := fun _ _ => a.elem) (.arr xs) trivial ?_
    intro l c hc
    obtain ⟨j, rfl, hj⟩ := child?_arr_inv l xs c hc
    rw [if_pos (show Loc.idx j ∈ modLastSteps dev .wild (.arr xs) from
      (mem_idxLocs _ _).2 ⟨j, (List.getElem?_eq_some_iff.1 hj).1, rfl⟩)]
  | union ms => simp only [setLast, setLastUnion_arr]; rfl
  | _ => cases he

theorem setLast_del (dev : Dev) (f : Frag) (d : JV) (hw : TopNodup d) (he : endable f = true) (hg : GoodAtS σ dev f d)
    (hst : (setLast false dev false .del f d).st = .go) :
    (setLast false dev false .del f d).d = delAll (locsG σ [f] d) d := by
  by_cases hcont : isContainer d = true
  case neg =>
    have hd : isContainer d = false := by simpa using hcont
    rw [setLast_scalar _ _ _ _ f d hd]
    exact (delAll_nosel _ _ (sel_scalar (σ := σ) f d hg.notDescent hd)).symm
  have hok := modLastSteps_ok (σ := σ) dev f d hw (hg.last he)
  cases d with
  | arr xs =>
    rw [setLast_arr dev .del f xs he hst, delAll_last_arr f xs hok.shape (fun l => decide (l ∈ modLastSteps dev f (.arr xs)))
      (fun j v hv => by simpa using hok.mem (.idx j) v hv)]
    simp only [decide_eq_true_eq]
    rfl
  | obj kvs =>
    rw [delAll_last_obj f kvs hw hok.shape (fun kv => decide (Loc.key kv.1 ∈ modLastSteps dev f (.obj kvs)))
      (fun kv hkv => by simpa using hok.mem (.key kv.1) kv.2 (lookup_of_mem_nodup kvs hw kv hkv))]
    cases f with
    | child k => simp [setLast, writeKey, kvErase_eq_filter, modLastSteps]
    | nth i =>
      simp only [setLast, modLastSteps, memberLoc, Option.toList_none, List.not_mem_nil, decide_false, Bool.not_false]
      rw [List.filter_eq_self.2 (fun _ _ => rfl)]
    | wild =>
      simp only [setLast, SetArg.isDel, if_true, Bool.false_eq_true, if_false]
      congr 1
      symm
      rw [List.filter_eq_nil_iff]
      intro kv hkv
      have : Loc.key kv.1 ∈ modLastSteps dev .wild (.obj kvs) := List.mem_map.2 ⟨kv, hkv, rfl⟩
      simp [this]
    | union ms => simp only [setLast, setLastUnion_del_obj, hasKey_eq ms kvs]; rfl
    | _ => cases he
  | _ => cases hcont

theorem setF_nostop (gen : Bool) (dev : Dev) (a : SetArg) : ∀ (x : List Frag) (fl : Bool) (d : JV),
    (setF gen dev false a x fl d).st ≠ .stop :=
  setF_pred (· ≠ .stop) (by simp) (by simp) gen dev false a (fun h => by cases h) (fun _ => ⟨by simp, by simp⟩)

theorem setF_fl (gen : Bool) (dev : Dev) (one : Bool) (a : SetArg) (g : Frag) (r : List Frag) (hg : isDescentF g = false)
    (fl : Bool) (c : JV) : setF gen dev one a (g :: r) fl c = setF gen dev one a (g :: r) false c := by
  cases g <;> first | rfl | cases hg

/-! `insAll`, the creations of Set: with nothing to create it is the identity, and it only descends when no creation
sits at a one-step location. -/

theorem stripC_nil (l : Loc) : stripC l [] = [] := rfl

theorem newMembers_nil (kvs : List (Bytes × JV)) : newMembers kvs [] = [] := rfl

mutual
  theorem insAll_nil : ∀ (d : JV), insAll [] d = d
    | .arr xs => by simp [insAll, insArr_nil xs 0]
    | .obj kvs => by simp [insAll, insObj_nil kvs, newMembers_nil]
    | .null => rfl
    | .bool _ => rfl
    | .int _ => rfl
    | .flt _ => rfl
    | .big _ => rfl
    | .num _ => rfl
    | .str _ => rfl
  theorem insArr_nil : ∀ (xs : List JV) (i : Nat), insArr [] i xs = xs
    | [], _ => rfl
    | x :: r, i => by simp [insArr, stripC_nil, insAll_nil x, insArr_nil r (i + 1)]
  theorem insObj_nil : ∀ (kvs : List (Bytes × JV)), insObj [] kvs = kvs
    | [] => rfl
    | kv :: r => by simp [insObj, stripC_nil, insAll_nil kv.2, insObj_nil r]
end

theorem insArr_eq (C : List (Path × JV)) : ∀ (xs : List JV) (i : Nat),
    insArr C i xs = mapArr (fun l c => insAll (stripC l C) c) i xs
  | [], _ => rfl
  | x :: r, i => by simp [insArr, mapArr, insArr_eq C r (i + 1)]

theorem insObj_eq (C : List (Path × JV)) : ∀ (kvs : List (Bytes × JV)),
    insObj C kvs = kvs.map fun kv => (kv.1, insAll (stripC (.key kv.1) C) kv.2)
  | [] => rfl
  | kv :: r => by simp [insObj, insObj_eq C r]

theorem newMembers_none (C : List (Path × JV)) (h : ∀ c ∈ C, ∀ k, c.1 ≠ [Loc.key k]) : ∀ (kvs : List (Bytes × JV)), newMembers kvs C = [] := by
  induction C with
  | nil => intro kvs; rfl
  | cons c r ih =>
    intro kvs
    have hc := h c (by simp)
    have hr : ∀ c' ∈ r, ∀ k, c'.1 ≠ [Loc.key k] := fun c' hc' => h c' (List.mem_cons_of_mem _ hc')
    cases c with
    | mk p s =>
      cases p with
      | nil => simp only [newMembers]; exact ih hr kvs
      | cons l q =>
        cases q with
        | cons l2 q2 => simp only [newMembers]; exact ih hr kvs
        | nil =>
          cases l with
          | idx i => simp only [newMembers]; exact ih hr kvs
          | key k => exact absurd rfl (hc k)

theorem insAll_inner (C : List (Path × JV)) (h : ∀ c ∈ C, ∀ k, c.1 ≠ [Loc.key k]) (d : JV) :
    insAll C d = mapKids (fun l c => insAll (stripC l C) c) d := by
  cases d <;> simp [insAll, mapKids, insArr_eq, insObj_eq, newMembers_none C h]

end OjgVerif.JPMut
