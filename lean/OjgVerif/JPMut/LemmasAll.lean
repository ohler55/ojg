import OjgVerif.JPMut.LemmasLevel
/-! Facts about the models that hold for every path, descents and filters included. `setF_step` is the case analysis
of an inner step of `Expr.set` that every induction over it uses (but `setF_gen`, which rewrites with the definition), `modF_ind` the induction over `Expr.modify`. A
property of statuses that holds of the exits a traversal has holds of its outcome (`setF_pred`, `modF_pred`); so with
the `genUnionOOB` deviation off no traversal of set.go ends in a run-time fault or in the unmodelled stale-variable
state, and `modify` never does. With `genUnionOOB` and `genModifyNil` off the model on gen data is the model on simple
data (`setF_gen`, `modF_gen`). -/
namespace OjgVerif.JPMut
open OjgVerif.JPath

theorem setF_single_eq (gen : Bool) (dev : Dev) (one : Bool) (a : SetArg) (f : Frag) (hf : isDescentF f = false) (fl : Bool) (d : JV) :
    setF gen dev one a [f] fl d = setLast gen dev one a f d := by
  cases f <;> simp_all [setF, isDescentF]

theorem setF_child_eq (gen : Bool) (dev : Dev) (one : Bool) (a : SetArg) (key : Bytes) (g : Frag) (r : List Frag) (fl : Bool)
    (kvs : List (Bytes × JV)) :
    setF gen dev one a (.child key :: g :: r) fl (.obj kvs) =
      match lookup key kvs with
      | some c => setFollow (.key key) c (setF gen dev one a (g :: r)) (.obj kvs)
      | none => setCreate a key (g :: r) (setF gen dev one a (g :: r)) kvs := rfl

theorem setF_nth_eq (gen : Bool) (dev : Dev) (one : Bool) (a : SetArg) (i : Int) (g : Frag) (r : List Frag) (fl : Bool)
    (xs : List JV) :
    setF gen dev one a (.nth i :: g :: r) fl (.arr xs) =
      match absIdx xs.length i with
      | some j =>
        match xs[j]? with
        | some c => setFollow (.idx j) c (setF gen dev one a (g :: r)) (.arr xs)
        | none => ⟨.arr xs, .err .outOfBounds⟩
      | none => ⟨.arr xs, .err .outOfBounds⟩ := rfl

theorem setF_union_eq (gen : Bool) (dev : Dev) (one : Bool) (a : SetArg) (ms : List Member) (g : Frag) (r : List Frag) (fl : Bool)
    (d : JV) :
    setF gen dev one a (.union ms :: g :: r) fl d =
      if gen && dev.genUnionOOB && unionOOB ms d then ⟨d, .stale⟩
      else visitD true dev.descentSiblings (setF gen dev one a (g :: r)) false (setSteps dev (.union ms) d) d := rfl

/-- One inner step of `Expr.set` at a fragment other than a Descent, on any data: it leaves the data alone — with a status other
than `stop` and `fault`, the stale state only where it can arise, and `go` only when `f` selects and creates nothing here —,
follows the one member `f` selects, creates the member a name asks for, or visits the members `f` hands on (on well-formed
data the selected ones: `setSteps_ok`). Every induction over `Expr.set` that speaks of the data or the status takes its cases from here; `σ` only reads the slices of
the selection facts. -/
theorem setF_step (σ : SliceFn) (gen : Bool) (dev : Dev) (one : Bool) (a : SetArg) (f g : Frag) (r : List Frag) (fl : Bool) (d : JV)
    (hf : isDescentF f = false) :
    (∃ s, s ≠ .stop ∧ s ≠ .fault ∧ (s = .stale → (gen && dev.genUnionOOB) = true) ∧
      (s = .go → selG σ f d = [] ∧ ∀ v, ownCreates v f (g :: r) d = []) ∧
      setF gen dev one a (f :: g :: r) fl d = ⟨d, s⟩) ∨
    (∃ l c, child? l d = some c ∧ ([l], c) ∈ selG σ f d ∧ (∀ m ∈ selG σ f d, m = ([l], c)) ∧
      (∀ v, ownCreates v f (g :: r) d = []) ∧
      setF gen dev one a (f :: g :: r) fl d = setFollow l c (setF gen dev one a (g :: r)) d) ∨
    (∃ key kvs, f = .child key ∧ d = .obj kvs ∧ lookup key kvs = none ∧
      setF gen dev one a (f :: g :: r) fl d = setCreate a key (g :: r) (setF gen dev one a (g :: r)) kvs) ∨
    ((∀ k, f ≠ .child k) ∧ (∀ i, f ≠ .nth i) ∧
      setF gen dev one a (f :: g :: r) fl d =
        visitD (contOnly f) dev.descentSiblings (setF gen dev one a (g :: r)) false (setSteps dev f d) d) := by
  cases f with
  | descent => cases hf
  | child k =>
    cases d with
    | obj kvs =>
      rw [setF_child_eq]
      cases hl : lookup k kvs with
      | some c =>
        exact Or.inr (Or.inl ⟨.key k, c, hl, by simp [selG, sel, selMember, hl], by simp [selG, sel, selMember, hl],
          by simp [ownCreates, hl], rfl⟩)
      | none => exact Or.inr (Or.inr (Or.inl ⟨k, kvs, rfl, rfl, hl, rfl⟩))
    | _ => exact Or.inl ⟨.go, nofun, nofun, nofun, fun _ => ⟨rfl, fun _ => rfl⟩, rfl⟩
  | nth i =>
    cases d with
    | arr xs =>
      rw [setF_nth_eq]
      cases ha : absIdx xs.length i with
      | none => exact Or.inl ⟨.err .outOfBounds, nofun, nofun, nofun, nofun, rfl⟩
      | some j =>
        cases hx : xs[j]? with
        | none => exact Or.inl ⟨.err .outOfBounds, nofun, nofun, nofun, nofun, by simp only [hx]⟩
        | some c =>
          exact Or.inr (Or.inl ⟨.idx j, c, hx, by simp [selG, sel, selMember, ha, hx], by simp [selG, sel, selMember, ha, hx],
            fun _ => rfl, by simp only [hx]⟩)
    | _ => exact Or.inl ⟨.go, nofun, nofun, nofun, fun _ => ⟨rfl, fun _ => rfl⟩, rfl⟩
  | union ms =>
    rw [setF_union_eq]
    split
    next h => exact Or.inl ⟨.stale, nofun, nofun, fun _ => by simp only [Bool.and_eq_true] at h ⊢; exact h.1, nofun, rfl⟩
    · exact Or.inr (Or.inr (Or.inr ⟨nofun, nofun, rfl⟩))
  | _ => exact Or.inr (Or.inr (Or.inr ⟨nofun, nofun, rfl⟩))

theorem setF_descent_cases (gen : Bool) (dev : Dev) (one : Bool) (a : SetArg) (g : Frag) (r : List Frag) (fl : Bool) (d : JV) :
    setF gen dev one a (.descent :: g :: r) fl d =
      if fl then setF gen dev one a (g :: r) false d else descGo (setF gen dev one a (g :: r) false) d := rfl

theorem modF_cons (gen : Bool) (dev : Dev) (one : Bool) (m : Modifier) (f : Frag) (hf : isDescentF f = false) (rest : List Frag)
    (fl : Bool) (d : JV) :
    modF gen dev one m (f :: rest) fl d =
      if rest.isEmpty then modLast gen dev one m f d
      else visitD (contOnly f) dev.descentSiblings (modF gen dev one m rest) false (modSteps dev f d) d := by
  cases f <;> first | rfl | cases hf

/-- Induction over `Expr.modify`. `P d r` relates the value `d` a traversal starts from to what it returns; a relation that the
two exits have (`h0`: the empty path; `hlast`: the last fragment) and that `visitD` and `descGo` keep when the continuation has
it (`hvisit`, `hdesc`), every traversal has. -/
theorem modF_ind (gen : Bool) (dev : Dev) (one : Bool) (m : Modifier) (P : JV → R → Prop) (h0 : ∀ d, P d ⟨d, .go⟩)
    (hlast : ∀ f d, P d (modLast gen dev one m f d))
    (hvisit : ∀ cont sib k, (∀ fl c, P c (k fl c)) → ∀ steps fl d, P d (visitD cont sib k fl steps d))
    (hdesc : ∀ k, (∀ c, P c (k c)) → ∀ d, P d (descGo k d)) :
    ∀ (x : List Frag) (fl : Bool) (d : JV), P d (modF gen dev one m x fl d)
  | [], _, d => h0 d
  | f :: rest, fl, d => by
    have ih := modF_ind gen dev one m P h0 hlast hvisit hdesc rest
    cases hf : isDescentF f with
    | false =>
      rw [modF_cons gen dev one m f hf]
      split
      · exact hlast f d
      · exact hvisit _ _ _ ih _ _ d
    | true =>
      cases f <;> cases hf
      simp only [modF]
      split
      · exact h0 d
      · split
        · exact ih false d
        · exact hdesc _ (ih false) d

/-! `Expr.set` and `Expr.modify` end with `go`, with an error, with `stop` (One forms only) or — set.go's Union on a
`gen.Array` with the `genUnionOOB` deviation — in a fault or the stale-variable state. -/

section
variable (P : St → Prop)

theorem setLastUnion_pred (hgo : P .go) (gen : Bool) (dev : Dev) (one : Bool) (a : SetArg) (hstop : one = true → P .stop)
    (hfault : (gen && dev.genUnionOOB) = true → P .fault) :
    ∀ (ms : List Member) (d : JV), P (setLastUnion gen dev one a ms d).st
  | [], _ => hgo
  | m :: ms, d => by
    have ih := setLastUnion_pred hgo gen dev one a hstop hfault ms
    cases m with
    | key k =>
      cases d with
      | obj kvs =>
        simp only [setLastUnion]
        split
        · next h => exact hstop (by simp only [oneKey, Bool.and_eq_true] at h; exact h.1)
        · exact ih _
      | _ => simp only [setLastUnion]; exact ih _
    | idx i =>
      cases d with
      | arr xs =>
        simp only [setLastUnion]
        cases absIdx xs.length i with
        | some j =>
          simp only
          split
          · next h => exact hstop h
          · exact ih _
        | none =>
          simp only
          split
          · next h => exact hfault h
          · exact ih _
      | _ => simp only [setLastUnion]; exact ih _

theorem setLast_pred (hgo : P .go) (herr : ∀ e, P (.err e)) (gen : Bool) (dev : Dev) (one : Bool) (a : SetArg) (hstop : one = true → P .stop)
    (hfault : (gen && dev.genUnionOOB) = true → P .fault) (f : Frag) (d : JV) : P (setLast gen dev one a f d).st := by
  have hsi : ∀ b : Bool, (b = true → one = true) → P (stopIf b) := by
    intro b hb
    cases b
    · exact hgo
    · exact hstop (hb rfl)
  cases f with
  | child k =>
    cases d with
    | obj kvs => exact hsi _ (fun h => by simp only [oneKey, Bool.and_eq_true] at h; exact h.1)
    | _ => exact hgo
  | nth i =>
    cases d with
    | arr xs =>
      simp only [setLast]
      cases absIdx xs.length i with
      | some j => exact hsi one id
      | none => exact herr _
    | _ => exact hgo
  | wild =>
    cases d with
    | obj kvs =>
      simp only [setLast]
      cases one with
      | false => exact hgo
      | true => cases kvs <;> first | exact hgo | exact hstop rfl
    | arr xs =>
      simp only [setLast]
      cases one with
      | false => exact hgo
      | true => cases xs <;> first | exact hgo | exact hstop rfl
    | _ => exact hgo
  | union ms => exact setLastUnion_pred P hgo gen dev one a hstop hfault ms d
  | _ => exact hgo

theorem setFollow_pred (herr : ∀ e, P (.err e)) (l : Loc) (c : JV) (k : Bool → JV → R) (hk : ∀ fl c, P (k fl c).st) (d : JV) :
    P (setFollow l c k d).st := by
  simp only [setFollow]
  cases isContainer c
  · exact herr _
  · exact hk false c

theorem setCreate_pred (hgo : P .go) (herr : ∀ e, P (.err e)) (a : SetArg) (key : Bytes) (rest : List Frag) (k : Bool → JV → R) (hk : ∀ fl c, P (k fl c).st)
    (kvs : List (Bytes × JV)) : P (setCreate a key rest k kvs).st := by
  cases a with
  | del => exact hgo
  | val v =>
    simp only [setCreate]
    cases rest.head? with
    | none => exact herr _
    | some f =>
      cases f with
      | child k' => exact hk false _
      | nth i =>
        simp only
        split
        · exact herr _
        · exact hk false _
      | _ => exact herr _

theorem setF_pred (hgo : P .go) (herr : ∀ e, P (.err e)) (gen : Bool) (dev : Dev) (one : Bool) (a : SetArg)
    (hstop : one = true → P .stop) (hbad : (gen && dev.genUnionOOB) = true → P .fault ∧ P .stale) :
    ∀ (x : List Frag) (fl : Bool) (d : JV), P (setF gen dev one a x fl d).st
  | [], _, _ => hgo
  | [f], fl, d => by
    have hl := setLast_pred P hgo herr gen dev one a hstop (fun h => (hbad h).1) f d
    cases f <;> first | exact hgo | exact hl
  | f :: g :: r, fl, d => by
    have ih := setF_pred hgo herr gen dev one a hstop hbad (g :: r)
    cases hf : isDescentF f with
    | true =>
      cases f <;> cases hf
      rw [setF_descent_cases]
      split
      · exact ih false d
      · exact descGo_pred P hgo _ (ih false) d
    | false =>
      rcases setF_step sliceIdx gen dev one a f g r fl d hf with
        ⟨s, h1, h2, h3, _, e⟩ | ⟨l, c, _, _, _, _, e⟩ | ⟨key, kvs, rfl, rfl, _, e⟩ | ⟨_, _, e⟩ <;> rw [e]
      · cases s with
        | go => exact hgo
        | err e0 => exact herr e0
        | stale => exact (hbad (h3 rfl)).2
        | stop => exact absurd rfl h1
        | fault => exact absurd rfl h2
      · exact setFollow_pred P herr l c _ ih _
      · exact setCreate_pred P hgo herr a key _ _ ih kvs
      · exact visitD_pred P hgo _ _ _ ih _ _ _

theorem modSeq_pred (hgo : P .go) (gen : Bool) (dev : Dev) (one : Bool) (m : Modifier) (nd : Bool) (hstop : one = true → P .stop)
    (hbad : (gen && dev.genModifyNil) = true → P (.err .notNode)) :
    ∀ (steps : List Loc) (d : JV), P (modSeq gen dev one m nd steps d).st
  | [], _ => hgo
  | l :: ls, d => by
    have ih := modSeq_pred hgo gen dev one m nd hstop hbad ls
    simp only [modSeq]
    cases child? l d with
    | none => exact ih d
    | some c =>
      simp only
      cases hap : ap gen dev m c with
      | same => exact ih d
      | bad =>
        refine hbad ?_
        cases hg : (gen && dev.genModifyNil) with
        | true => rfl
        | false =>
          simp only [ap, hg, Bool.false_and, Bool.false_eq_true, if_false] at hap
          split at hap <;> cases hap
      | new v =>
        simp only
        split
        · next h => exact hstop h
        · exact ih _

theorem modLast_pred (hgo : P .go) (gen : Bool) (dev : Dev) (one : Bool) (m : Modifier) (hstop : one = true → P .stop)
    (hbad : (gen && dev.genModifyNil) = true → P (.err .notNode)) (f : Frag) (d : JV) :
    P (modLast gen dev one m f d).st := by
  simp only [modLast]
  split
  · exact modSeq_pred P hgo false dev one m _ hstop (fun h => by cases h) _ d
  · exact modSeq_pred P hgo gen dev one m _ hstop hbad _ d

theorem modF_pred (hgo : P .go) (gen : Bool) (dev : Dev) (one : Bool) (m : Modifier) (hstop : one = true → P .stop)
    (hbad : (gen && dev.genModifyNil) = true → P (.err .notNode)) :
    ∀ (x : List Frag) (fl : Bool) (d : JV), P (modF gen dev one m x fl d).st :=
  modF_ind gen dev one m (fun _ r => P r.st) (fun _ => hgo) (modLast_pred P hgo gen dev one m hstop hbad)
    (visitD_pred P hgo) (descGo_pred P hgo)

end

/-- the traversal did not end in a run-time fault -/
def Safe (s : St) : Prop := s ≠ .fault ∧ s ≠ .stale

theorem safe_go : Safe .go := ⟨by simp, by simp⟩
theorem safe_stop : Safe .stop := ⟨by simp, by simp⟩
theorem safe_err (e : E) : Safe (.err e) := ⟨by simp, by simp⟩

theorem descArr_safe (k : JV → R) (hk : ∀ c, Safe (k c).st) : ∀ (xs : List JV), Safe (descArr k xs).st :=
  descArr_pred Safe safe_go k hk

theorem descObj_safe (k : JV → R) (hk : ∀ c, Safe (k c).st) : ∀ (kvs : List (Bytes × JV)), Safe (descObj k kvs).st :=
  descObj_pred Safe safe_go k hk

theorem setF_safe (gen : Bool) (dev : Dev) (one : Bool) (a : SetArg) (h : (gen && dev.genUnionOOB) = false) :
    ∀ (x : List Frag) (fl : Bool) (d : JV), Safe (setF gen dev one a x fl d).st :=
  setF_pred Safe safe_go safe_err gen dev one a (fun _ => safe_stop) (fun h' => by rw [h] at h'; cases h')

theorem modF_safe (gen : Bool) (dev : Dev) (one : Bool) (m : Modifier) :
    ∀ (x : List Frag) (fl : Bool) (d : JV), Safe (modF gen dev one m x fl d).st :=
  modF_pred Safe safe_go gen dev one m (fun _ => safe_stop) (fun _ => safe_err _)

/-- the entry point reports a result or an error -/
def Out.Reported : Out → Prop
  | .ok _ => True
  | .err _ _ => True
  | .fault _ => False
  | .unmodelled => False

theorem out_reported (r : R) (h : Safe r.st) : r.out.Reported := by
  obtain ⟨d, s⟩ := r
  cases s <;> first | trivial | exact absurd rfl h.1 | exact absurd rfl h.2

theorem setM_reported (gen : Bool) (dev : Dev) (one : Bool) (a : SetArg) (x : List Frag) (d : JV)
    (h : (gen && dev.genUnionOOB) = false) : (setM gen dev one a x d).Reported := by
  simp only [setM]
  split
  · trivial
  · exact out_reported _ (setF_safe gen dev one a h x false d)

theorem modifyCore_reported (gen : Bool) (dev : Dev) (one : Bool) (m : Modifier) (x : List Frag) (d : JV) :
    (modifyCore gen dev one m x d).Reported := by
  simp only [modifyCore]
  split
  · trivial
  · split
    · trivial
    · have := modF_safe (gen && !x.isEmpty) dev one m (.nth 0 :: x) false (.arr [d])
      cases hst : (modF (gen && !x.isEmpty) dev one m (.nth 0 :: x) false (.arr [d])).st with
      | fault => rw [hst] at this; exact absurd rfl this.1
      | stale => rw [hst] at this; exact absurd rfl this.2
      | _ => trivial

theorem modifyM_reported (gen : Bool) (dev : Dev) (one : Bool) (m : Modifier) (x : List Frag) (d : JV) :
    (modifyM gen dev one m x d).Reported := modifyCore_reported gen dev one m x d

theorem removeM_reported (gen : Bool) (dev : Dev) (one : Bool) (x : List Frag) (d : JV) :
    (removeM gen dev one x d).Reported := by
  simp only [removeM]
  split
  · trivial
  · split
    · trivial
    · exact modifyCore_reported gen dev one _ _ d

theorem setLastUnion_gen (dev : Dev) (one : Bool) (a : SetArg) (h : dev.genUnionOOB = false) :
    ∀ (ms : List Member) (d : JV), setLastUnion true dev one a ms d = setLastUnion false dev one a ms d
  | [], _ => rfl
  | m :: ms, d => by
    cases m with
    | key k =>
      cases d with
      | obj kvs => simp only [setLastUnion, setLastUnion_gen dev one a h ms]
      | _ => simp only [setLastUnion, setLastUnion_gen dev one a h ms]
    | idx i =>
      cases d with
      | arr xs =>
        simp only [setLastUnion, h, Bool.and_false, Bool.false_eq_true, if_false, setLastUnion_gen dev one a h ms]
      | _ => simp only [setLastUnion, setLastUnion_gen dev one a h ms]

theorem setLast_gen (dev : Dev) (one : Bool) (a : SetArg) (h : dev.genUnionOOB = false) (f : Frag) (d : JV) :
    setLast true dev one a f d = setLast false dev one a f d := by
  cases f <;> simp only [setLast, setLastUnion_gen dev one a h]

theorem setF_gen (dev : Dev) (one : Bool) (a : SetArg) (h : dev.genUnionOOB = false) :
    ∀ (x : List Frag), setF true dev one a x = setF false dev one a x
  | [] => by funext fl d; rfl
  | f :: rest => by
    have ih := setF_gen dev one a h rest
    funext fl d
    cases f <;> simp only [setF, ih, setLast_gen dev one a h, h, Bool.and_false, Bool.false_and, Bool.false_eq_true, if_false]

theorem setM_gen (dev : Dev) (one : Bool) (a : SetArg) (h : dev.genUnionOOB = false) (x : List Frag) (d : JV) :
    setM true dev one a x d = setM false dev one a x d := by
  simp only [setM, setF_gen dev one a h]

theorem ap_gen (dev : Dev) (m : Modifier) (h : dev.genModifyNil = false) (g : Bool) (c : JV) : ap g dev m c = ap false dev m c := by
  simp [ap, h]

theorem modSeq_gen (dev : Dev) (one : Bool) (m : Modifier) (h : dev.genModifyNil = false) (g nd : Bool) :
    ∀ (steps : List Loc) (d : JV), modSeq g dev one m nd steps d = modSeq false dev one m nd steps d
  | [], _ => rfl
  | l :: ls, d => by
    simp only [modSeq, ap_gen dev m h g, modSeq_gen dev one m h g nd ls]

theorem modLast_gen (dev : Dev) (one : Bool) (m : Modifier) (h : dev.genModifyNil = false) (g : Bool) (f : Frag) (d : JV) :
    modLast g dev one m f d = modLast false dev one m f d := by
  simp only [modLast, modSeq_gen dev one m h g]

theorem modF_gen (dev : Dev) (one : Bool) (m : Modifier) (h : dev.genModifyNil = false) (g : Bool) :
    ∀ (x : List Frag), modF g dev one m x = modF false dev one m x
  | [] => by funext fl d; rfl
  | f :: rest => by
    have ih := modF_gen dev one m h g rest
    funext fl d
    cases f <;> simp only [modF, ih, modLast_gen dev one m h g]

theorem modifyCore_gen (dev : Dev) (one : Bool) (m : Modifier) (h : dev.genModifyNil = false) (x : List Frag) (d : JV) :
    modifyCore true dev one m x d = modifyCore false dev one m x d := by
  simp only [modifyCore, modF_gen dev one m h]

theorem modifyM_gen (dev : Dev) (one : Bool) (m : Modifier) (h : dev.genModifyNil = false) (x : List Frag) (d : JV) :
    modifyM true dev one m x d = modifyM false dev one m x d := modifyCore_gen dev one m h x d

theorem removeM_gen (dev : Dev) (one : Bool) (h : dev.genModifyNil = false) (x : List Frag) (d : JV) :
    removeM true dev one x d = removeM false dev one x d := by
  simp only [removeM, modifyCore_gen dev one _ h]

end OjgVerif.JPMut
