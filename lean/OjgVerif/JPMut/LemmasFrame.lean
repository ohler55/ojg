import OjgVerif.JPMut.LemmasDel
/-! # Hit and frame of the specification's edits for Del and Set (facts about Spec.lean only)

`delAll` and `insAll` leave a member at which nothing is selected or created in its place and go on below it
(`child?_delAll`, `child?_insAll`); frame and hit follow by induction on the location. What the edits of Del and Remove do
at a selected location is stated in Props/C13.lean, in the namespace of the property. -/
namespace OjgVerif.JPMut
open OjgVerif.JPath

variable {σ : SliceFn} [NodupSlice σ]

theorem delArr_getElem? (T : List Path) : ∀ (xs : List JV) (o j : Nat),
    (delArr T o xs)[j]? = (xs[j]?).map fun x => if T.contains [Loc.idx (o + j)] then JV.null else delAll (strip (.idx (o + j)) T) x
  | [], _, _ => by simp [delArr]
  | x :: r, o, 0 => by simp [delArr]
  | x :: r, o, j + 1 => by
    simp only [delArr, List.getElem?_cons_succ]
    rw [delArr_getElem? T r (o + 1) j]
    have : o + 1 + j = o + (j + 1) := by omega
    rw [this]

theorem delObj_lookup (T : List Path) (k : Bytes) : ∀ (kvs : List (Bytes × JV)),
    lookup k (delObj T kvs) = if T.contains [Loc.key k] then none else (lookup k kvs).map (delAll (strip (.key k) T))
  | [] => by simp [delObj, lookup]
  | kv :: r => by
    have ih := delObj_lookup T k r
    simp only [delObj]
    by_cases hc : T.contains [Loc.key kv.1] = true
    · simp only [hc, if_true, ih]
      by_cases e : kv.1 = k
      · subst e; simp only [hc, if_true]
      · simp only [lookup, e, if_false]
    · simp only [hc, Bool.false_eq_true, if_false, lookup]
      by_cases e : kv.1 = k
      · subst e; simp only [hc, Bool.false_eq_true, if_false, if_true, Option.map_some]
      · simp only [e, if_false, ih]

theorem child?_delAll (T : List Path) (l : Loc) (d : JV) (h : T.contains [l] = false) :
    child? l (delAll T d) = (child? l d).map (delAll (strip l T)) := by
  cases d with
  | arr xs =>
    cases l with
    | idx i =>
      simp only [delAll, child?, delArr_getElem?, Nat.zero_add, h, Bool.false_eq_true, if_false]
    | key k => simp [delAll, child?]
  | obj kvs =>
    cases l with
    | idx i => simp [delAll, child?]
    | key k => simp only [delAll, child?, delObj_lookup, h, Bool.false_eq_true, if_false]
  | _ => cases l <;> simp [delAll, child?]

/-- frame of Del: what is not at, above or below a selected location is untouched -/
theorem delAll_frame : ∀ (q : Path) (T : List Path) (d : JV), touched T q = false → valAt q (delAll T d) = valAt q d
  | [], T, d, h => by
    rw [eq_nil_of_untouched_nil h, delAll_nil]
  | l :: q, T, d, h => by
    rw [valAt_cons, valAt_cons, child?_delAll T l d (not_contains_of_untouched T l q h)]
    cases hc : child? l d with
    | none => rfl
    | some c =>
      simp only [Option.map_some, Option.bind_some]
      exact delAll_frame q (strip l T) c (touched_strip l T q h)

theorem child?_insAll (C : List (Path × JV)) (l : Loc) (d c : JV) (h : child? l d = some c) :
    child? l (insAll C d) = some (insAll (stripC l C) c) := by
  cases d with
  | arr xs =>
    obtain ⟨i, rfl, hi⟩ := child?_arr_inv l xs c h
    simp [insAll, child?, insArr_eq, mapArr_getElem?, hi]
  | obj kvs =>
    obtain ⟨k, rfl, hk⟩ := child?_obj_inv l kvs c h
    simp only [insAll, child?, insObj_eq]
    exact lookup_append_left _ _ _ _ (by rw [lookup_map (fun l c => insAll (stripC l C) c) k kvs, hk]; rfl)
  | _ => rw [child?_scalar l _ rfl] at h; cases h

theorem touchedC_strip (l : Loc) (C : List (Path × JV)) (q : Path) (h : touched (C.map (·.1)) (l :: q) = false) :
    touched ((stripC l C).map (·.1)) q = false := by
  simp only [touched, List.any_eq_false, Bool.or_eq_true, not_or, Bool.not_eq_true, List.mem_map] at h ⊢
  rintro p ⟨c, hc, rfl⟩
  simp only [stripC, List.mem_filterMap] at hc
  obtain ⟨c0, hc0, hm⟩ := hc
  cases c0 with
  | mk p0 s0 =>
    cases p0 with
    | nil => simp at hm
    | cons l' q' =>
      by_cases e : l' = l
      · subst e
        simp only [if_true, Option.some.injEq] at hm
        subst hm
        have := h (l' :: q') ⟨(l' :: q', s0), hc0, rfl⟩
        simpa [isPrefixOf_cons_cons] using this
      · simp [e] at hm

theorem insAll_frame : ∀ (q : Path) (C : List (Path × JV)) (d c : JV), valAt q d = some c →
    touched (C.map (·.1)) q = false → valAt q (insAll C d) = some c
  | [], C, d, c, hv, h => by
    rw [List.map_eq_nil_iff.1 (eq_nil_of_untouched_nil h), insAll_nil]; exact hv
  | l :: q, C, d, c, hv, h => by
    rw [valAt_cons] at hv ⊢
    cases hc : child? l d with
    | none => rw [hc] at hv; cases hv
    | some c0 =>
      rw [hc] at hv
      simp only [Option.bind_some] at hv
      rw [child?_insAll C l d c0 hc]
      simp only [Option.bind_some]
      exact insAll_frame q (stripC l C) c0 c hv (touchedC_strip l C q h)

theorem insAll_keeps : ∀ (q : Path) (C : List (Path × JV)) (d : JV), (valAt q d).isSome → (valAt q (insAll C d)).isSome
  | [], _, _, _ => rfl
  | l :: q, C, d, h => by
    rw [valAt_cons] at h ⊢
    cases hc : child? l d with
    | none => rw [hc] at h; cases h
    | some c0 =>
      rw [hc] at h
      rw [child?_insAll C l d c0 hc]
      exact insAll_keeps q (stripC l C) c0 h

theorem locs_exist (x : List Frag) (d : JV) (hw : WF d) : ∀ p ∈ locsG σ x d, (valAt p d).isSome :=
  fun p hp => by
    obtain ⟨m, hm, rfl⟩ := List.mem_map.1 hp
    rw [(evalG_valAt x d hw m hm).1]; rfl

/-- hit of Set: afterwards every selected location that stands alone among the selected ones holds the new value -/
theorem setSpec_hit (v : JV) (x : List Frag) (d : JV) (hw : WF d) (p : Path) (hp : p ∈ locsG σ x d)
    (ha : Alone (locsG σ x d) p) : valAt p (setSpecG σ x v d) = some v := by
  simp only [setSpecG]
  rw [updAll_hit (fun _ => v) p (locsG σ x d) _ hp ha]
  have := insAll_keeps p (createsG σ v x d) d (locs_exist (σ := σ) x d hw p hp)
  cases h : valAt p (insAll (createsG σ v x d) d) with
  | none => rw [h] at this; cases this
  | some c => rfl

/-- frame of Set: a location that exists and is not at, above or below a selected location or a created member
holds what it held -/
theorem setSpec_frame (v : JV) (x : List Frag) (d c : JV) (q : Path) (hv : valAt q d = some c)
    (h1 : touched (locsG σ x d) q = false) (h2 : touched ((createsG σ v x d).map (·.1)) q = false) :
    valAt q (setSpecG σ x v d) = some c := by
  simp only [setSpecG]
  rw [updAll_frame (fun _ => v) q (locsG σ x d) _ h1]
  exact insAll_frame q (createsG σ v x d) d c hv h2

end OjgVerif.JPMut
