import OjgVerif.JPMut.LemmasDel
/-! `Dev.current`: what `Slice.remove` drops is what modify.go's slice loop visits. From /repo 18e5d18 on `inStep` aligns
a negative step from the start of the range, so on an array of length `n` the positions `Slice.remove` drops are
exactly the indexes `for i := start; i <= end; i += step` (resp. `end <= i`) visits (`remSel_current`): index
arithmetic over the normalised bounds (`incBounds_spec`). -/
namespace OjgVerif.JPMut
open OjgVerif.JPath

theorem mem_takeWhile_of_pairwise {α : Type} (R : α → α → Prop) (p : α → Bool) (hp : ∀ a b, R a b → p b = true → p a = true) :
    ∀ (l : List α), l.Pairwise R → ∀ x, x ∈ l.takeWhile p ↔ x ∈ l ∧ p x = true
  | [], _, x => by simp
  | a :: r, hl, x => by
    have hl' := List.pairwise_cons.1 hl
    simp only [List.takeWhile]
    cases hpa : p a with
    | true =>
      simp only [List.mem_cons, mem_takeWhile_of_pairwise R p hp r hl'.2 x]
      constructor
      · rintro (rfl | h)
        · exact ⟨Or.inl rfl, hpa⟩
        · exact ⟨Or.inr h.1, h.2⟩
      · rintro ⟨rfl | h, h2⟩
        · exact Or.inl rfl
        · exact Or.inr ⟨h, h2⟩
    | false =>
      simp only [List.not_mem_nil, false_iff, not_and, List.mem_cons]
      rintro (rfl | h) h2
      · rw [hpa] at h2; cases h2
      · have := hp a x (hl'.1 x h) h2
        rw [hpa] at this; cases this

theorem incBounds_spec (n : Nat) (s e t : Option Int) (b : Bnd) (h : incBounds n s e t = some b) :
    0 ≤ b.start ∧ b.start < n ∧ 0 ≤ b.stop ∧ b.stop < n ∧ b.step ≠ 0 := by
  unfold incBounds at h
  simp only [] at h
  generalize (if s.getD 0 < 0 then s.getD 0 + (n : Int) else s.getD 0) = start at h
  generalize he1 : (if e.getD (-1) < 0 then e.getD (-1) + (n : Int) else e.getD (-1)) = e1 at h
  generalize he2 : (if (n : Int) ≤ e1 then (n : Int) - 1 else e1) = e2 at h
  by_cases hc : start < 0 ∨ e2 < 0 ∨ (n : Int) ≤ start ∨ t.getD 1 = 0
  · rw [if_pos hc] at h; cases h
  · rw [if_neg hc] at h
    injection h with h
    subst h
    simp only [not_or, Int.not_lt, Int.not_le] at hc
    refine ⟨hc.1, hc.2.2.1, hc.2.1, ?_, hc.2.2.2⟩
    simp only
    rw [← he2]
    split <;> omega

theorem mem_progression_iff (n : Nat) (a d x : Int) : x ∈ progression n a d ↔ ∃ k : Nat, k < n ∧ x = a + k * d := by
  simp only [progression, List.mem_map, List.mem_range]
  constructor
  · rintro ⟨k, hk, rfl⟩; exact ⟨k, hk, rfl⟩
  · rintro ⟨k, hk, rfl⟩; exact ⟨k, hk, rfl⟩

theorem prog_iff (n : Nat) (a d i : Int) (hd : 0 < d) (hlt : i - a < n) :
    (∃ k : Nat, k < n ∧ i = a + k * d) ↔ a ≤ i ∧ (i - a) % d = 0 := by
  constructor
  · rintro ⟨k, _, rfl⟩
    have hk : 0 ≤ (k : Int) * d := Int.mul_nonneg (by omega) (Int.le_of_lt hd)
    refine ⟨by omega, ?_⟩
    rw [show a + ↑k * d - a = ↑k * d by omega, Int.mul_emod_left]
  · rintro ⟨h1, h3⟩
    have hdiv : (i - a) / d * d = i - a := Int.ediv_mul_cancel (Int.dvd_of_emod_eq_zero h3)
    have hq : 0 ≤ (i - a) / d := Int.ediv_nonneg (by omega) (Int.le_of_lt hd)
    refine ⟨((i - a) / d).toNat, ?_, ?_⟩
    · have hle : (i - a) / d * 1 ≤ (i - a) / d * d := Int.mul_le_mul_of_nonneg_left (by omega) hq
      omega
    · rw [Int.toNat_of_nonneg hq, hdiv]; omega

theorem incRange_up (n : Nat) (b : Bnd) (hs : 0 ≤ b.start) (hstop : b.stop < n) (hd : 0 < b.step) (i : Nat) (hi : i < n) :
    i ∈ incRange n b ↔ (b.start ≤ (i : Int) ∧ (i : Int) ≤ b.stop ∧ ((i : Int) - b.start) % b.step = 0) := by
  simp only [incRange, hd, if_true, List.mem_map]
  have hmono : ∀ x, x ∈ (progression n b.start b.step).takeWhile (fun y => decide (y ≤ b.stop)) ↔
      x ∈ progression n b.start b.step ∧ decide (x ≤ b.stop) = true :=
    mem_takeWhile_of_pairwise (· < ·) _ (by
      intro a c hac hc
      simp only [decide_eq_true_eq] at hc ⊢
      omega) _ (progression_pairwise_lt n b.start b.step hd)
  have key := prog_iff n b.start b.step i hd (by omega)
  constructor
  · rintro ⟨x, hx, hxi⟩
    obtain ⟨hm, hle⟩ := (hmono x).1 hx
    simp only [decide_eq_true_eq] at hle
    have hx0 : 0 ≤ x := mem_progression_ge n _ _ (Int.le_of_lt hd) x hm |> Int.le_trans hs
    have hxe : x = (i : Int) := by omega
    rw [hxe, mem_progression_iff] at hm
    rw [hxe] at hle
    exact ⟨(key.1 hm).1, hle, (key.1 hm).2⟩
  · rintro ⟨h1, h2, h3⟩
    exact ⟨(i : Int), (hmono _).2 ⟨(mem_progression_iff _ _ _ _).2 (key.2 ⟨h1, h3⟩), by simpa using h2⟩, by simp⟩

theorem incRange_down (n : Nat) (b : Bnd) (hs : b.start < n) (hstop : 0 ≤ b.stop) (hd : b.step < 0) (i : Nat) :
    i ∈ incRange n b ↔ (b.stop ≤ (i : Int) ∧ (i : Int) ≤ b.start ∧ (b.start - (i : Int)) % (-b.step) = 0) := by
  have hnd : ¬ 0 < b.step := by omega
  simp only [incRange, hnd, if_false, List.mem_map]
  have hmono : ∀ x, x ∈ (progression n b.start b.step).takeWhile (fun y => decide (b.stop ≤ y)) ↔
      x ∈ progression n b.start b.step ∧ decide (b.stop ≤ x) = true :=
    mem_takeWhile_of_pairwise (· > ·) _ (by
      intro a c hac hc
      simp only [decide_eq_true_eq] at hc ⊢
      omega) _ (progression_pairwise_gt n b.start b.step hd)
  -- the progression read downwards is the progression of the negated numbers read upwards
  have key : (∃ k : Nat, k < n ∧ (i : Int) = b.start + k * b.step) ↔ (i : Int) ≤ b.start ∧ (b.start - (i : Int)) % (-b.step) = 0 := by
    have := prog_iff n (-b.start) (-b.step) (-(i : Int)) (by omega) (by omega)
    rw [show -(i : Int) - -b.start = b.start - i by omega] at this
    rw [← show (-b.start ≤ -(i : Int)) ↔ ((i : Int) ≤ b.start) from by omega, ← this]
    refine exists_congr fun k => and_congr_right fun _ => ?_
    rw [Int.mul_neg]; omega
  constructor
  · rintro ⟨x, hx, hxi⟩
    obtain ⟨hm, hle⟩ := (hmono x).1 hx
    simp only [decide_eq_true_eq] at hle
    have hxe : x = (i : Int) := by omega
    rw [hxe, mem_progression_iff] at hm
    rw [hxe] at hle
    exact ⟨hle, (key.1 hm).1, (key.1 hm).2⟩
  · rintro ⟨h1, h2, h3⟩
    exact ⟨(i : Int), (hmono _).2 ⟨(mem_progression_iff _ _ _ _).2 (key.2 ⟨h2, h3⟩), by simpa using h1⟩, by simp⟩

theorem remSel_current (n : Nat) (s e t : Option Int) (i : Nat) (hi : i < n) :
    remSel Dev.current n s e t i = (modIdx Dev.current n s e t).contains i := by
  have hc : Dev.current.sliceInclusive = true := rfl
  have he : Dev.current.removeStepEnd = false := rfl
  simp only [remSel, modIdx, inclIdx, hc, if_true]
  cases hb : incBounds n s e t with
  | none => simp
  | some b =>
    obtain ⟨h1, h2, h3, h4, h5⟩ := incBounds_spec n s e t b hb
    simp only [inStep, he, Bool.false_eq_true, if_false]
    by_cases hd : 0 < b.step
    · simp only [hd, if_true]
      rw [Bool.eq_iff_iff, decide_eq_true_eq]
      simpa using (incRange_up n b h1 h4 hd i hi).symm
    · simp only [hd, if_false]
      rw [Bool.eq_iff_iff, decide_eq_true_eq]
      simpa using (incRange_down n b h2 h3 (by omega) i).symm

theorem modIdx_current (n : Nat) (s e t : Option Int) : modIdx Dev.current n s e t = inclIdx n s e t :=
  if_pos rfl

theorem setIdx_current (n : Nat) (s e t : Option Int) : setIdx Dev.current n s e t = inclIdx n s e t := by
  simp [setIdx, inclIdx, Dev.current]

theorem remSel_incl (n : Nat) (s e t : Option Int) (i : Nat) (hi : i < n) :
    remSel Dev.current n s e t i = (inclIdx n s e t).contains i := by
  rw [remSel_current n s e t i hi, modIdx_current]

theorem inclIdx_nodup (n : Nat) (s e t : Option Int) : (inclIdx n s e t).Nodup := by
  simp only [inclIdx]
  cases hb : incBounds n s e t with
  | none => exact List.nodup_nil
  | some b =>
    obtain ⟨h1, _, h3, _, h5⟩ := incBounds_spec n s e t b hb
    simp only [incRange]
    by_cases hd : 0 < b.step
    · simp only [hd, if_true]; exact up_nodup n b.start b.step _ h1 hd
    · simp only [hd, if_false]
      exact down_nodup n b.start b.step _ (fun i hi => by simp only [decide_eq_true_eq] at hi; omega) (by omega)

instance : NodupSlice inclIdx := ⟨inclIdx_nodup⟩

theorem goodAt_incl (f : Frag) (e : JV) (hf : isDescentF f = false) (hu : ∀ ms, f = .union ms → (unionLocs ms e).Nodup) :
    GoodAt inclIdx Dev.current f e := by
  cases f with
  | filter p => exact Or.inl rfl
  | union ms => exact hu ms rfl
  | slice s e' t => intro xs _; rfl
  | descent => cases hf
  | _ => trivial

theorem goodAtS_incl (f : Frag) (e : JV) (hf : isDescentF f = false) (hu : ∀ ms, f = .union ms → (unionLocs ms e).Nodup) :
    GoodAtS inclIdx Dev.current f e := by
  cases f with
  | slice s e' t => intro xs _; exact setIdx_current _ s e' t
  | union ms => exact hu ms rfl
  | descent => cases hf
  | _ => trivial

theorem remGood_incl (f : Frag) (c : JV) (hf : isDescentF f = false) : RemGood inclIdx Dev.current f c := by
  cases f with
  | union ms => exact Or.inl rfl
  | slice s e t => intro xs _ i hi; exact remSel_incl xs.length s e t i hi
  | descent => cases hf
  | _ => trivial

end OjgVerif.JPMut
