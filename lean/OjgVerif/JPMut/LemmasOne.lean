import OjgVerif.JPMut.LemmasRemove
/-! # The One forms change at most one member (every path, every deviation set, simple and gen data)

`OneChange Q d d'`: the tree `d'` is `d` with one member of one container written, added or deleted.
`setOne_atMost`, `modifyOne_atMost`, `removeOne_atMost`: whatever SetOne/DelOne/ModifyOne/RemoveOne report — a
result or an error — the data afterwards is the data before or differs from it by one such change (for
RemoveOne: one container has lost one member). Proved by an invariant of the traversal: as long as the status is
`go` nothing has changed (`Inv`).

What every statement about a One form rests on is here as well: `visitD_one` (the visit halts at the first member whose
run does not go on, with the data otherwise as they were) and what a `removeOne` method does to an array and to an object
(`removeOneOf_arr`, `removeOneOf_obj`). -/
namespace OjgVerif.JPMut
open OjgVerif.JPath

/-- one member of one container of the tree is written (`put*`: its new content is related to the old one by `Q`),
added (`ins`) or deleted (`eraseKey`, `eraseAt`); `in*`: the change is inside a member -/
inductive OneChange (Q : JV → JV → Prop) : JV → JV → Prop
  | putA (i : Nat) (v : JV) (xs : List JV) (c : JV) : xs[i]? = some c → Q c v → OneChange Q (.arr xs) (.arr (xs.set i v))
  | putO (j : Nat) (k : Bytes) (v : JV) (kvs : List (Bytes × JV)) (c : JV) : kvs[j]? = some (k, c) → Q c v →
      OneChange Q (.obj kvs) (.obj (kvs.set j (k, v)))
  | ins (k : Bytes) (v : JV) (kvs : List (Bytes × JV)) : OneChange Q (.obj kvs) (.obj (kvs ++ [(k, v)]))
  | eraseKey (k : Bytes) (kvs : List (Bytes × JV)) : OneChange Q (.obj kvs) (.obj (kvErase k kvs))
  | eraseAt (j : Nat) (kvs : List (Bytes × JV)) : OneChange Q (.obj kvs) (.obj (kvs.eraseIdx j))
  | inA (i : Nat) (xs : List JV) (c c' : JV) : xs[i]? = some c → OneChange Q c c' → OneChange Q (.arr xs) (.arr (xs.set i c'))
  | inO (j : Nat) (k : Bytes) (kvs : List (Bytes × JV)) (c c' : JV) : kvs[j]? = some (k, c) → OneChange Q c c' →
      OneChange Q (.obj kvs) (.obj (kvs.set j (k, c')))

def AtMostOne (Q : JV → JV → Prop) (d d' : JV) : Prop := d' = d ∨ OneChange Q d d'

/-- the invariant of a One form: as long as the traversal goes on nothing has changed, and whatever the status at
most one member has -/
def Inv (Q : JV → JV → Prop) (d : JV) (r : R) : Prop := (r.st = .go → r.d = d) ∧ AtMostOne Q d r.d

theorem inv_same (Q : JV → JV → Prop) (d : JV) (s : St) : Inv Q d ⟨d, s⟩ := ⟨fun _ => rfl, Or.inl rfl⟩

theorem inv_halt {Q : JV → JV → Prop} {d d' : JV} {s : St} (hs : s ≠ .go) (h : AtMostOne Q d d') : Inv Q d ⟨d', s⟩ :=
  ⟨fun e => absurd e hs, h⟩

theorem putChild_set (l : Loc) (v d c : JV) (h : child? l d = some c) :
    (∃ i xs, d = .arr xs ∧ xs[i]? = some c ∧ putChild l v d = .arr (xs.set i v)) ∨
    ∃ j k kvs, d = .obj kvs ∧ kvs[j]? = some (k, c) ∧ putChild l v d = .obj (kvs.set j (k, v)) := by
  cases l with
  | idx i =>
    cases d with
    | arr xs => exact Or.inl ⟨i, xs, rfl, h, rfl⟩
    | _ => cases h
  | key k =>
    cases d with
    | obj kvs =>
      obtain ⟨j, h1, h2⟩ := kvInsert_set k v kvs c h
      exact Or.inr ⟨j, k, kvs, rfl, h1, congrArg JV.obj h2⟩
    | _ => cases h

theorem putChild_put (Q : JV → JV → Prop) (l : Loc) (d c v : JV) (h : child? l d = some c) (hq : Q c v) :
    OneChange Q d (putChild l v d) := by
  rcases putChild_set l v d c h with ⟨i, xs, rfl, hx, e⟩ | ⟨j, k, kvs, rfl, hx, e⟩ <;> rw [e]
  · exact .putA i v xs c hx hq
  · exact .putO j k v kvs c hx hq

theorem inv_put (Q : JV → JV → Prop) (l : Loc) (d c : JV) (r : R) (h : child? l d = some c) (hr : Inv Q c r) :
    Inv Q d ⟨putChild l r.d d, r.st⟩ := by
  refine ⟨fun hgo => ?_, ?_⟩
  · rw [show r.d = c from hr.1 hgo]; exact putChild_self l d c h
  · rcases hr.2 with e | hc
    · exact Or.inl (by rw [show r.d = c from e]; exact putChild_self l d c h)
    · rcases putChild_set l r.d d c h with ⟨i, xs, rfl, hx, e⟩ | ⟨j, k, kvs, rfl, hx, e⟩ <;> rw [e]
      · exact Or.inr (.inA i xs c r.d hx hc)
      · exact Or.inr (.inO j k kvs c r.d hx hc)

theorem visitD_cons_one (cont sib : Bool) (k : Bool → JV → R) (hk : ∀ fl c, (k fl c).st = .go → (k fl c).d = c)
    (fl : Bool) (l : Loc) (ls : List Loc) (d : JV) :
    (∃ fl', visitD cont sib k fl (l :: ls) d = visitD cont sib k fl' ls d ∧
        ∀ c, child? l d = some c → pass cont c = true → ∃ fl', (k fl' c).st = .go) ∨
      ∃ c, child? l d = some c ∧ pass cont c = true ∧ (k (fl && sib) c).st ≠ .go ∧
        visitD cont sib k fl (l :: ls) d = ⟨putChild l (k (fl && sib) c).d d, (k (fl && sib) c).st⟩ := by
  cases hc : child? l d with
  | none => exact Or.inl ⟨fl, by simp only [visitD, hc], fun _ h => nomatch h⟩
  | some c =>
    cases hp : cont && !isContainer c with
    | true => exact Or.inl ⟨fl, by simp only [visitD, hc, hp, if_true], fun c' h hp' => by cases h; simp [pass, hp] at hp'⟩
    | false =>
      simp only [visitD, hc, hp, Bool.false_eq_true, if_false]
      split
      next hst =>
        rw [hk _ _ hst, putChild_self l d c hc]
        exact Or.inl ⟨_, rfl, fun c' h _ => by cases h; exact ⟨_, hst⟩⟩
      next hst => exact Or.inr ⟨c, rfl, by simp [pass, hp], hst, rfl⟩

/-- a One form's `visitD`: as long as the rest of the path leaves the data alone when it goes on, either every handed-on
member let it go on (nothing changed), or the first member whose run did not go on carries the result -/
theorem visitD_one (cont sib : Bool) (k : Bool → JV → R) (hk : ∀ fl c, (k fl c).st = .go → (k fl c).d = c) :
    ∀ (steps : List Loc) (fl : Bool) (d : JV),
      ((visitD cont sib k fl steps d).st = .go →
        (visitD cont sib k fl steps d).d = d ∧
          ∀ l ∈ steps, ∀ c, child? l d = some c → pass cont c = true → ∃ fl', (k fl' c).st = .go) ∧
      ((visitD cont sib k fl steps d).st ≠ .go →
        ∃ l ∈ steps, ∃ c fl', child? l d = some c ∧ pass cont c = true ∧ (k fl' c).st = (visitD cont sib k fl steps d).st ∧
          (visitD cont sib k fl steps d).d = putChild l (k fl' c).d d)
  | [], _, d => ⟨fun _ => ⟨rfl, fun _ h => by cases h⟩, fun h => absurd rfl h⟩
  | l :: ls, fl, d => by
    rcases visitD_cons_one cont sib k hk fl l ls d with ⟨fl', e, hl⟩ | ⟨c, hc, hp, hst, e⟩
    · rw [e]
      have ih := visitD_one cont sib k hk ls fl' d
      exact ⟨fun h => ⟨(ih.1 h).1, List.forall_mem_cons.2 ⟨hl, (ih.1 h).2⟩⟩,
        fun h => let ⟨l', hl', r⟩ := ih.2 h; ⟨l', List.mem_cons_of_mem _ hl', r⟩⟩
    · rw [e]
      exact ⟨fun h => absurd h hst, fun _ => ⟨l, List.mem_cons_self, c, _, hc, hp, rfl, rfl⟩⟩

theorem visitD_inv (Q : JV → JV → Prop) (cont sib : Bool) (k : Bool → JV → R) (hk : ∀ fl c, Inv Q c (k fl c))
    (steps : List Loc) (fl : Bool) (d : JV) : Inv Q d (visitD cont sib k fl steps d) := by
  have h := visitD_one cont sib k (fun fl c => (hk fl c).1) steps fl d
  refine ⟨fun hgo => (h.1 hgo).1, ?_⟩
  by_cases hgo : (visitD cont sib k fl steps d).st = .go
  · exact Or.inl (h.1 hgo).1
  · obtain ⟨l, _, c, fl', hc, _, _, hd⟩ := h.2 hgo
    rw [hd]
    exact (inv_put Q l d c _ hc (hk fl' c)).2

/-- the invariant for the element loop of a descent: nothing changed, or one element changed inside -/
def InvL (Q : JV → JV → Prop) (xs : List JV) (r : RL) : Prop :=
  (r.st = .go → r.xs = xs) ∧ (r.xs = xs ∨ ∃ i c c', xs[i]? = some c ∧ OneChange Q c c' ∧ r.xs = xs.set i c')

def InvO (Q : JV → JV → Prop) (kvs : List (Bytes × JV)) (r : RO) : Prop :=
  (r.st = .go → r.kvs = kvs) ∧
    (r.kvs = kvs ∨ ∃ j k c c', kvs[j]? = some (k, c) ∧ OneChange Q c c' ∧ r.kvs = kvs.set j (k, c'))

mutual
  theorem descGo_inv (Q : JV → JV → Prop) (k : JV → R) (hk : ∀ c, Inv Q c (k c)) : ∀ (d : JV), Inv Q d (descGo k d)
    | .arr xs => by
      have hl := descArr_inv Q k hk xs
      simp only [descGo]
      split
      next hst => rw [hl.1 hst]; exact hk _
      next hst =>
        refine inv_halt hst ?_
        rcases hl.2 with e | ⟨i, c, c', h1, h2, h3⟩
        · exact Or.inl (congrArg JV.arr e)
        · exact Or.inr (h3 ▸ .inA i xs c c' h1 h2)
    | .obj kvs => by
      have hl := descObj_inv Q k hk kvs
      simp only [descGo]
      split
      next hst => rw [hl.1 hst]; exact hk _
      next hst =>
        refine inv_halt hst ?_
        rcases hl.2 with e | ⟨j, k', c, c', h1, h2, h3⟩
        · exact Or.inl (congrArg JV.obj e)
        · exact Or.inr (h3 ▸ .inO j k' kvs c c' h1 h2)
    | .null => inv_same Q _ .go
    | .bool _ => inv_same Q _ .go
    | .int _ => inv_same Q _ .go
    | .flt _ => inv_same Q _ .go
    | .big _ => inv_same Q _ .go
    | .num _ => inv_same Q _ .go
    | .str _ => inv_same Q _ .go
  theorem descArr_inv (Q : JV → JV → Prop) (k : JV → R) (hk : ∀ c, Inv Q c (k c)) : ∀ (xs : List JV), InvL Q xs (descArr k xs)
    | [] => ⟨fun _ => rfl, Or.inl rfl⟩
    | x :: r => by
      have hx := descGo_inv Q k hk x
      simp only [descArr]
      split
      next hst =>
        -- the head went on unchanged: what the tail did is one place further on
        have hr := descArr_inv Q k hk r
        rw [hx.1 hst]
        refine ⟨fun h => congrArg (x :: ·) (hr.1 h), ?_⟩
        rcases hr.2 with e | ⟨i, c, c', h1, h2, h3⟩
        · exact Or.inl (congrArg (x :: ·) e)
        · exact Or.inr ⟨i + 1, c, c', h1, h2, congrArg (x :: ·) h3⟩
      next hst =>
        refine ⟨fun h => absurd h hst, ?_⟩
        rcases hx.2 with e | hc
        · exact Or.inl (congrArg (· :: r) e)
        · exact Or.inr ⟨0, x, _, rfl, hc, rfl⟩
  theorem descObj_inv (Q : JV → JV → Prop) (k : JV → R) (hk : ∀ c, Inv Q c (k c)) : ∀ (kvs : List (Bytes × JV)), InvO Q kvs (descObj k kvs)
    | [] => ⟨fun _ => rfl, Or.inl rfl⟩
    | m :: r => by
      have hx := descGo_inv Q k hk m.2
      simp only [descObj]
      split
      next hst =>
        have hr := descObj_inv Q k hk r
        rw [hx.1 hst]
        refine ⟨fun h => congrArg (m :: ·) (hr.1 h), ?_⟩
        rcases hr.2 with e | ⟨j, k', c, c', h1, h2, h3⟩
        · exact Or.inl (congrArg (m :: ·) e)
        · exact Or.inr ⟨j + 1, k', c, c', h1, h2, congrArg (m :: ·) h3⟩
      next hst =>
        refine ⟨fun h => absurd h hst, ?_⟩
        rcases hx.2 with e | hc
        · exact Or.inl (congrArg (fun v => (m.1, v) :: r) e)
        · exact Or.inr ⟨0, m.1, m.2, _, rfl, hc, rfl⟩
end

/-- for Set/Del every new content is allowed -/
def QAny : JV → JV → Prop := fun _ _ => True

theorem writeKey_one (a : SetArg) (k : Bytes) (kvs : List (Bytes × JV)) : AtMostOne QAny (.obj kvs) (.obj (writeKey a k kvs)) := by
  cases a with
  | del => exact Or.inr (.eraseKey k kvs)
  | val v =>
    cases hl : lookup k kvs with
    | none => exact Or.inr (by simp only [writeKey]; rw [kvInsert_absent k v kvs hl]; exact .ins k v kvs)
    | some c => exact Or.inr (putChild_put QAny (.key k) (.obj kvs) c v hl trivial)

theorem set_one (xs : List JV) (j : Nat) (v : JV) (hj : j < xs.length) : OneChange QAny (.arr xs) (.arr (xs.set j v)) :=
  .putA j v xs xs[j] (by simp [hj]) trivial

/-- DelOne that does not stop at a name (the delOneAbsent deviation off): the member is absent, nothing is deleted -/
theorem oneKey_false (dev : Dev) (a : SetArg) (k : Bytes) (kvs : List (Bytes × JV)) (h : oneKey dev true a k kvs = false) :
    writeKey a k kvs = kvs := by
  simp only [oneKey, Bool.true_and, Bool.not_eq_false', Bool.and_eq_true, Bool.not_eq_true', Option.isNone_iff_eq_none] at h
  obtain ⟨⟨h1, _⟩, h3⟩ := h
  cases a with
  | val v => simp [SetArg.isDel] at h1
  | del => exact kvErase_absent k kvs h3

theorem setLastUnion_inv (gen : Bool) (dev : Dev) (a : SetArg) : ∀ (ms : List Member) (d : JV),
    Inv QAny d (setLastUnion gen dev true a ms d)
  | [], d => inv_same QAny d .go
  | m :: ms, d => by
    have ih := setLastUnion_inv gen dev a ms
    cases m with
    | key k =>
      cases d with
      | obj kvs =>
        simp only [setLastUnion]
        split
        · exact inv_halt (by simp) (writeKey_one a k kvs)
        next hk => rw [oneKey_false dev a k kvs (by simpa using hk)]; exact ih _
      | _ => exact ih _
    | idx i =>
      cases d with
      | arr xs =>
        simp only [setLastUnion]
        cases ha : absIdx xs.length i with
        | some j => exact inv_halt (by simp) (Or.inr (set_one xs j _ (absIdx_lt _ _ _ ha)))
        | none =>
          simp only
          split
          · exact inv_same QAny _ .fault
          · exact ih _
      | _ => exact ih _

theorem setLast_inv (gen : Bool) (dev : Dev) (a : SetArg) (f : Frag) (d : JV) : Inv QAny d (setLast gen dev true a f d) := by
  cases f with
  | child k =>
    cases d with
    | obj kvs =>
      simp only [setLast, stopIf]
      split
      · exact inv_halt (by simp) (writeKey_one a k kvs)
      next hk => rw [oneKey_false dev a k kvs (by simpa using hk)]; exact inv_same QAny _ .go
    | _ => exact inv_same QAny _ .go
  | nth i =>
    cases d with
    | arr xs =>
      simp only [setLast]
      cases ha : absIdx xs.length i with
      | some j => exact inv_halt (by simp [stopIf]) (Or.inr (set_one xs j _ (absIdx_lt _ _ _ ha)))
      | none => exact inv_same QAny _ _
    | _ => exact inv_same QAny _ .go
  | wild =>
    cases d with
    | obj kvs =>
      cases kvs with
      | nil => exact inv_same QAny _ .go
      | cons m r =>
        refine inv_halt (s := .stop) (by simp) (Or.inr ?_)
        split
        · exact .eraseAt 0 (m :: r)
        · exact .putO 0 m.1 a.elem (m :: r) m.2 rfl trivial
    | arr xs =>
      cases xs with
      | nil => exact inv_same QAny _ .go
      | cons x r => exact inv_halt (s := .stop) (by simp) (Or.inr (set_one (x :: r) 0 a.elem (by simp)))
    | _ => exact inv_same QAny _ .go
  | union ms => exact setLastUnion_inv gen dev a ms d
  | _ => exact inv_same QAny _ .go

theorem setFollow_inv (l : Loc) (c : JV) (k : Bool → JV → R) (hk : ∀ fl c, Inv QAny c (k fl c)) (d : JV)
    (hc : child? l d = some c) : Inv QAny d (setFollow l c k d) := by
  simp only [setFollow]
  split
  · exact inv_put QAny l d c _ hc (hk false c)
  · exact inv_same QAny _ _

/-- the array a One form creates for `[i]…` ends in the write or in an error, it never just goes on; when it stops,
what has been built is what the specification names (`skel`) -/
theorem chain_arr_halt (gen : Bool) (dev : Dev) (v : JV) (i : Int) (r : List Frag) (fl : Bool) (hi : 0 ≤ i) :
    let res := setF gen dev true (.val v) (.nth i :: r) fl (.arr (List.replicate (i.toNat + 1) .null))
    res.st ≠ .go ∧ (res.st = .stop → skel (.nth i :: r) v = some res.d) := by
  cases r with
  | nil =>
    rw [setF_single_eq _ _ _ _ _ rfl]
    simp [setLast, absIdx_replicate i hi, stopIf, skel, hi, SetArg.elem, replicate_set_last]
  | cons g r' =>
    rw [setF_nth_eq]
    simp [absIdx_replicate i hi, setFollow, isContainer]

theorem chain_obj_halt (gen : Bool) (dev : Dev) (v : JV) : ∀ (rest : List Frag) (k : Bytes) (fl : Bool),
    let res := setF gen dev true (.val v) (.child k :: rest) fl (.obj [])
    res.st ≠ .go ∧ (res.st = .stop → skel (.child k :: rest) v = some res.d)
  | [], k, fl => by
    rw [setF_single_eq _ _ _ _ _ rfl]
    simp [setLast, stopIf, oneKey, SetArg.isDel, writeKey, kvInsert, skel]
  | g :: r, k, fl => by
    rw [setF_child_eq]
    simp only [lookup, setCreate, List.head?_cons]
    cases g with
    | child k' =>
      have ih := chain_obj_halt gen dev v r k' false
      exact ⟨ih.1, fun hst => by simp only [skel] at ih ⊢; rw [ih.2 hst]; rfl⟩
    | nth i =>
      by_cases hi : i < 0
      · simp [hi]
      · have ih := chain_arr_halt gen dev v i r false (by omega)
        simp only [hi, if_false]
        exact ⟨ih.1, fun hst => by simp only [skel] at ih ⊢; rw [ih.2 hst]; rfl⟩
    | _ => simp

theorem setCreate_inv (gen : Bool) (dev : Dev) (a : SetArg) (key : Bytes) (g : Frag) (r : List Frag) (kvs : List (Bytes × JV)) :
    Inv QAny (.obj kvs) (setCreate a key (g :: r) (setF gen dev true a (g :: r)) kvs) := by
  cases a with
  | del => exact inv_same QAny _ .go
  | val v =>
    simp only [setCreate, List.head?_cons]
    cases g with
    | child k' => exact inv_halt (chain_obj_halt gen dev v r k' false).1 (writeKey_one (.val _) key kvs)
    | nth i =>
      by_cases hi : i < 0
      · simp only [hi, if_true]; exact inv_same QAny _ _
      · simp only [hi, if_false]
        exact inv_halt (chain_arr_halt gen dev v i r false (by omega)).1 (writeKey_one (.val _) key kvs)
    | _ => exact inv_same QAny _ _

theorem setF_inv (gen : Bool) (dev : Dev) (a : SetArg) : ∀ (x : List Frag) (fl : Bool) (d : JV),
    Inv QAny d (setF gen dev true a x fl d)
  | [], _, d => inv_same QAny d .go
  | [f], fl, d => by
    cases f with
    | descent => exact inv_same QAny d .go
    | _ => rw [setF_single_eq _ _ _ _ _ rfl]; exact setLast_inv gen dev a _ d
  | f :: g :: r, fl, d => by
    have ih := setF_inv gen dev a (g :: r)
    cases hf : isDescentF f with
    | true =>
      cases f <;> cases hf
      rw [setF_descent_cases]
      split
      · exact ih false d
      · exact descGo_inv QAny _ (ih false) d
    | false =>
      rcases setF_step sliceIdx gen dev true a f g r fl d hf with
        ⟨s, _, _, _, _, e⟩ | ⟨l, c, hc, _, _, _, e⟩ | ⟨key, kvs, rfl, rfl, _, e⟩ | ⟨_, _, e⟩ <;> rw [e]
      · exact inv_same QAny _ _
      · exact setFollow_inv l c _ ih _ hc
      · exact setCreate_inv gen dev a key g r kvs
      · exact visitD_inv QAny _ _ _ ih _ _ _

/-- the data an outcome carries -/
def Out.data (d : JV) : Out → JV
  | .ok d' => d'
  | .err _ d' => d'
  | .fault d' => d'
  | .unmodelled => d

/-- SetOne / DelOne (every path, every deviation set, simple and gen data): whatever is reported, the data
afterwards is the data before or differs from it by one member of one container written, added or deleted -/
theorem setOne_atMost (gen : Bool) (dev : Dev) (a : SetArg) (x : List Frag) (d : JV) :
    AtMostOne QAny d ((setM gen dev true a x d).data d) := by
  simp only [setM]
  split
  · left; rfl
  · have := setF_inv gen dev a x false d
    cases hv : setF gen dev true a x false d with
    | mk dd ss =>
      rw [hv] at this
      cases ss <;> simp only [R.out, Out.data] <;> first | exact this.2 | (left; rfl)

theorem eraseChild_one (Q : JV → JV → Prop) (l : Loc) (d : JV) : AtMostOne Q d (eraseChild l d) := by
  cases l with
  | idx i => left; cases d <;> rfl
  | key k =>
    cases d with
    | obj kvs => exact Or.inr (.eraseKey k kvs)
    | _ => left; rfl

theorem ap_new (gen : Bool) (dev : Dev) (m : Modifier) (c v : JV) (h : ap gen dev m c = .new v) : (m c).2 = true ∧ v = (m c).1 := by
  simp only [ap] at h
  split at h
  next h2 =>
    split at h
    · cases h
    · exact ⟨h2, by injection h with h; exact h.symm⟩
  · cases h

theorem modSeq_inv (Q : JV → JV → Prop) (gen : Bool) (dev : Dev) (m : Modifier) (hm : ∀ c, (m c).2 = true → Q c (m c).1) (nd : Bool) :
    ∀ (steps : List Loc) (d : JV), Inv Q d (modSeq gen dev true m nd steps d)
  | [], d => inv_same Q d .go
  | l :: ls, d => by
    simp only [modSeq]
    cases hc : child? l d with
    | none => exact modSeq_inv Q gen dev m hm nd ls d
    | some c =>
      simp only
      cases hap : ap gen dev m c with
      | same => exact modSeq_inv Q gen dev m hm nd ls d
      | bad => exact inv_same Q _ _
      | new v =>
        refine inv_halt (s := .stop) (by simp) ?_
        split
        · exact eraseChild_one Q l d
        · obtain ⟨h2, rfl⟩ := ap_new gen dev m c v hap
          exact Or.inr (putChild_put Q l d c _ hc (hm c h2))

theorem modLast_inv (Q : JV → JV → Prop) (gen : Bool) (dev : Dev) (m : Modifier) (hm : ∀ c, (m c).2 = true → Q c (m c).1)
    (f : Frag) (d : JV) : Inv Q d (modLast gen dev true m f d) := by
  simp only [modLast]
  split <;> exact modSeq_inv Q _ dev m hm _ _ d

theorem modF_inv (Q : JV → JV → Prop) (gen : Bool) (dev : Dev) (m : Modifier) (hm : ∀ c, (m c).2 = true → Q c (m c).1) :
    ∀ (x : List Frag) (fl : Bool) (d : JV), Inv Q d (modF gen dev true m x fl d) :=
  modF_ind gen dev true m (Inv Q) (inv_same Q · .go) (modLast_inv Q gen dev m hm) (visitD_inv Q) (descGo_inv Q)

theorem oneChange_wrap (Q : JV → JV → Prop) (d y : JV) (h : OneChange Q (.arr [d]) y) :
    ∃ d', y = .arr [d'] ∧ (Q d d' ∨ OneChange Q d d') := by
  cases h with
  | putA i v xs c hx hq =>
    cases i with
    | zero => cases hx; exact ⟨v, rfl, Or.inl hq⟩
    | succ n => cases hx
  | inA i xs c c' hx hc =>
    cases i with
    | zero => cases hx; exact ⟨c', rfl, Or.inr hc⟩
    | succ n => cases hx

/-- what `modify` returns in a One form: the root as it was, the root replaced by a modifier result (the path `$`),
or the root with one member of one container changed -/
def RootOne (Q : JV → JV → Prop) (d d' : JV) : Prop := d' = d ∨ Q d d' ∨ OneChange Q d d'

theorem modifyCore_one (Q : JV → JV → Prop) (gen : Bool) (dev : Dev) (m : Modifier) (hm : ∀ c, (m c).2 = true → Q c (m c).1)
    (x : List Frag) (d : JV) : RootOne Q d ((modifyCore gen dev true m x d).data d) := by
  simp only [modifyCore]
  split
  · left; rfl
  · split
    · left; rfl
    · have hun : RootOne Q d (unwrap d (modF (gen && !x.isEmpty) dev true m (.nth 0 :: x) false (.arr [d])).d) := by
        rcases (modF_inv Q (gen && !x.isEmpty) dev m hm (.nth 0 :: x) false (.arr [d])).2 with e | hc
        · left; rw [e]; rfl
        · obtain ⟨d', hy, hq⟩ := oneChange_wrap Q d _ hc
          rw [hy]
          right; exact hq
      split
      · exact hun
      · left; rfl
      · left; rfl
      · exact hun

/-- ModifyOne (every path, every deviation set, simple and gen data): whatever is reported, the returned tree (after an
error: the data) is the root as it was, the modifier's result on the root (path `$`), or the root with ONE member of
one container replaced by the modifier's result on it (in the reflect branch of a filter on a map: deleted) -/
theorem modifyOne_atMost (gen : Bool) (dev : Dev) (m : Modifier) (x : List Frag) (d : JV) :
    RootOne (fun c v => v = (m c).1) d ((modifyM gen dev true m x d).data d) :=
  modifyCore_one (fun c v => v = (m c).1) gen dev m (fun _ _ => rfl) x d

/-! Every `removeOne` (for Child and Nth: `remove`) tests the positions of an array (`remPos`) or the names of an object
(`remKey`, both in LemmasRemove) and takes out ONE member that passes — the first in index order, the last for a slice that steps backwards,
the first in sorted key order —, or reports no change when none passes. -/

theorem dropFirstIdx_spec (p : Nat → Bool) : ∀ (xs : List JV) (o : Nat), (∃ j, j < xs.length ∧ p (o + j) = true) →
    ∃ j, j < xs.length ∧ p (o + j) = true ∧ dropFirstIdx p o xs = xs.eraseIdx j
  | [], _, h => by obtain ⟨j, hj, _⟩ := h; simp at hj
  | x :: r, o, h => by
    simp only [dropFirstIdx]
    by_cases h0 : p o = true
    · exact ⟨0, by simp, by simpa using h0, by simp [h0]⟩
    · have : ∃ j, j < r.length ∧ p (o + 1 + j) = true := by
        obtain ⟨j, hj, hp⟩ := h
        cases j with
        | zero => exact absurd hp (by simpa using h0)
        | succ n => exact ⟨n, by simpa using hj, by rw [← hp]; congr 1; omega⟩
      obtain ⟨j, hj, hp, he⟩ := dropFirstIdx_spec p r (o + 1) this
      refine ⟨j + 1, by simpa using hj, by rw [← hp]; congr 1; omega, ?_⟩
      simp [h0, he]

theorem anyIdx_true (p : Nat → Bool) (n : Nat) (h : anyIdx p n = true) : ∃ j, j < n ∧ p j = true := by
  simpa only [anyIdx, List.any_eq_true, List.mem_range] using h

theorem dropFirstIdx_hit (p : Nat → Bool) (xs : List JV) (h : anyIdx p xs.length = true) :
    ∃ j, j < xs.length ∧ p j = true ∧ dropFirstIdx p 0 xs = xs.eraseIdx j := by
  simpa using dropFirstIdx_spec p xs 0 (by simpa using anyIdx_true p _ h)

theorem dropLastIdx_hit (p : Nat → Bool) (xs : List JV) (h : anyIdx p xs.length = true) :
    ∃ j, j < xs.length ∧ p j = true ∧ dropLastIdx p xs = xs.eraseIdx j := by
  simp only [dropLastIdx]
  cases hf : (List.range xs.length).reverse.find? p with
  | some j =>
    have h2 := List.mem_of_find?_eq_some hf
    simp only [List.mem_reverse, List.mem_range] at h2
    exact ⟨j, h2, List.find?_some hf, rfl⟩
  | none =>
    obtain ⟨j, hj, hp⟩ := anyIdx_true p _ h
    have := List.find?_eq_none.1 hf j (by simp [hj])
    rw [hp] at this; exact absurd rfl this

theorem any_eq_anyIdx (p : JV → Bool) (xs : List JV) : xs.any p = anyIdx (fun i => p (xs.getD i .null)) xs.length := by
  rw [Bool.eq_iff_iff]
  simp only [List.any_eq_true, anyIdx, List.mem_range]
  constructor
  · rintro ⟨v, hv, hp⟩
    obtain ⟨j, hj, rfl⟩ := List.getElem_of_mem hv
    exact ⟨j, hj, by simpa [List.getD, hj] using hp⟩
  · rintro ⟨j, hj, hp⟩
    exact ⟨xs[j], List.getElem_mem hj, by simpa [List.getD, hj] using hp⟩

theorem removeOneOf_arr (dev : Dev) (f : Frag) (m : Modifier) (hm : removeOneOf dev f = some m) (xs : List JV) :
    (anyIdx (remPos dev f xs) xs.length = false ∧ m (.arr xs) = (.arr xs, false)) ∨
    ∃ j, j < xs.length ∧ remPos dev f xs j = true ∧ m (.arr xs) = (.arr (xs.eraseIdx j), true) := by
  -- the shape Union, Slice and Filter share
  have scan : ∀ (p : Nat → Bool) (ys : List JV), (anyIdx p xs.length = true → ∃ j, j < xs.length ∧ p j = true ∧ ys = xs.eraseIdx j) →
      (anyIdx p xs.length = false ∧ (if anyIdx p xs.length then (JV.arr ys, true) else (JV.arr xs, false)) = (JV.arr xs, false)) ∨
      ∃ j, j < xs.length ∧ p j = true ∧ (if anyIdx p xs.length then (JV.arr ys, true) else (JV.arr xs, false)) = (.arr (xs.eraseIdx j), true) := by
    intro p ys h
    cases ha : anyIdx p xs.length with
    | false => exact Or.inl ⟨rfl, rfl⟩
    | true =>
      obtain ⟨j, hj, hp, he⟩ := h ha
      exact Or.inr ⟨j, hj, hp, by rw [he]; rfl⟩
  cases f with
  | descent => cases hm
  | child k => cases hm; exact Or.inl ⟨by simp [anyIdx, remPos], rfl⟩
  | nth i =>
    cases hm
    cases ha : absIdx xs.length i with
    | none => exact Or.inl ⟨by simp [anyIdx, remPos, ha], by simp [remNth, ha]⟩
    | some j => exact Or.inr ⟨j, absIdx_lt _ _ _ ha, by simp [remPos, ha], by simp [remNth, ha]⟩
  | wild =>
    cases hm
    cases xs with
    | nil => exact Or.inl ⟨rfl, rfl⟩
    | cons x r => exact Or.inr ⟨0, by simp, rfl, rfl⟩
  | union ms => cases hm; exact scan _ _ (dropFirstIdx_hit _ xs)
  | slice s e t =>
    cases hm
    refine scan _ _ fun h => ?_
    split
    · exact dropLastIdx_hit _ xs h
    · exact dropFirstIdx_hit _ xs h
  | filter p =>
    cases hm
    simp only [remFilterOne, any_eq_anyIdx]
    exact scan _ _ (dropFirstIdx_hit _ xs)

theorem removeOneOf_obj (dev : Dev) (f : Frag) (m : Modifier) (hm : removeOneOf dev f = some m) (kvs : List (Bytes × JV)) :
    ((∀ k ∈ keysOf kvs, remKey f kvs k = false) ∧ m (.obj kvs) = (.obj kvs, false)) ∨
    ∃ k, k ∈ keysOf kvs ∧ remKey f kvs k = true ∧ m (.obj kvs) = (.obj (kvErase k kvs), true) := by
  -- the shape Wildcard, Union and Filter share
  have scan : ∀ (q : Bytes → Bool),
      ((∀ k ∈ keysOf kvs, q k = false) ∧
        (match firstKey q kvs with | some k => (JV.obj (kvErase k kvs), true) | none => (JV.obj kvs, false)) = (JV.obj kvs, false)) ∨
      ∃ k, k ∈ keysOf kvs ∧ q k = true ∧
        (match firstKey q kvs with | some k => (JV.obj (kvErase k kvs), true) | none => (JV.obj kvs, false)) = (.obj (kvErase k kvs), true) := by
    intro q
    cases hk : firstKey q kvs with
    | none => exact Or.inl ⟨fun k hk' => by simpa using List.find?_eq_none.1 hk k ((mem_sortedKeys k kvs).2 hk'), rfl⟩
    | some k => exact Or.inr ⟨k, (mem_sortedKeys k kvs).1 (List.mem_of_find?_eq_some hk), List.find?_some hk, rfl⟩
  cases f with
  | descent => cases hm
  | child k =>
    cases hm
    cases hl : lookup k kvs with
    | none =>
      refine Or.inl ⟨fun k' hk' => ?_, by simp [remChild, hl]⟩
      have := (lookup_none_iff k kvs).1 hl
      simp only [remKey, decide_eq_false_iff_not]
      intro e; exact this (e ▸ hk')
    | some c => exact Or.inr ⟨k, lookup_isSome_mem kvs k c hl, by simp [remKey], by simp [remChild, hl]⟩
  | nth i => cases hm; exact Or.inl ⟨fun _ _ => rfl, rfl⟩
  | slice s e t => cases hm; exact Or.inl ⟨fun _ _ => rfl, rfl⟩
  | wild => cases hm; exact scan _
  | union ms => cases hm; exact scan _
  | filter p => cases hm; exact scan _

theorem removeOneOf_scalar (dev : Dev) (f : Frag) (m : Modifier) (hm : removeOneOf dev f = some m) (c : JV)
    (hc : isContainer c = false) : m c = (c, false) := by
  cases f <;> cases hm <;> cases c <;> first | rfl | cases hc

/-- the container has lost one member (all bindings of one name, or one element) — or is as it was -/
def Drop (c v : JV) : Prop :=
  (∃ k kvs, c = .obj kvs ∧ v = .obj (kvErase k kvs)) ∨ (∃ j xs, c = .arr xs ∧ v = .arr (xs.eraseIdx j))

theorem removeOneOf_drop (dev : Dev) (f : Frag) (m : Modifier) (h : removeOneOf dev f = some m) (c : JV) (hc : (m c).2 = true) :
    Drop c (m c).1 := by
  cases c with
  | arr xs =>
    rcases removeOneOf_arr dev f m h xs with ⟨_, e⟩ | ⟨j, _, _, e⟩ <;> rw [e] at hc ⊢
    · cases hc
    · exact Or.inr ⟨j, xs, rfl, rfl⟩
  | obj kvs =>
    rcases removeOneOf_obj dev f m h kvs with ⟨_, e⟩ | ⟨k, _, _, e⟩ <;> rw [e] at hc ⊢
    · cases hc
    · exact Or.inl ⟨k, kvs, rfl, rfl⟩
  | _ => rw [removeOneOf_scalar dev f m h _ rfl] at hc; cases hc

/-- RemoveOne (every path, every deviation set, simple and gen data): whatever is reported, the returned tree is the root
as it was, or the root with ONE container — the root itself or one member of one container — having lost one member -/
theorem removeOne_atMost (gen : Bool) (dev : Dev) (x : List Frag) (d : JV) :
    RootOne Drop d ((removeM gen dev true x d).data d) := by
  simp only [removeM]
  cases hl : x.getLast? with
  | none => left; rfl
  | some f =>
    simp only [if_true]
    cases hm : removeOneOf dev f with
    | none => left; rfl
    | some m => exact modifyCore_one Drop gen dev m (removeOneOf_drop dev f m hm) x.dropLast d

end OjgVerif.JPMut
