import OjgVerif.JPath.Spec
/-! # Path mutations: what they must do (specification, repository independent)

The locations a mutation works on are the locations the path *selects* — `locs x d`, taken from the
denotation of paths shared with C05/C11 (`JPath.eval`). A mutation is then a *simultaneous* edit of the
tree at a set of locations:

* `updAll m T d`   — every location of `T` gets `m (old value)`; where one selected location lies inside
  another the inner one is edited first (bottom up), so for a constant `m` the outer one wins;
* `delAll T d`     — selected object members disappear, selected array elements become `null`;
* `remAll T d`     — selected object members and array elements disappear, the later siblings of a
  removed element move up by exactly the number of removed elements before them;
* `insAll C d`     — members that do not exist yet are added (Set only).

Formalisation choices (the property text is silent; each is the reading the code implements
consistently):

* *Del versus Remove.* `Del` cannot hand back a shortened slice, so "a removed member is gone" reads:
  object members disappear under Del and Remove; array elements disappear under Remove and become
  `null` under Del.
* *What Set creates.* "the elements it creates along a child/index path": where a name fragment finds no
  such member in an existing object and the rest of the path consists of names and ends in a name or in
  a non-negative index (`skel`), the member is created holding the chain of objects (and the final
  array, `null`-filled up to the index) that leads to the new value. A name in *last* position always
  writes its member (existing or not); so does a name listed in a union in last position. Creation
  happens wherever the path gets to, also below a wildcard or a descent (`$..a.b` gives every object
  that has no `a` the member `a: {b: v}`).
* *Nested selections* (only a descent can select a location inside another selected location): "Get at
  each selected location returns the new value" is demanded of the outermost selected locations (the
  inner ones no longer exist, or lie inside the new value).
* *The One forms* change at most one location and do what the all-matches form does at one of them: the
  result is the input edited at one selected (or one created) location; the input itself only when nothing
  is selected or to be created (`OneOK`).
* *Errors.* Which requests are impossible is not specified; whatever is reported as an error must leave
  everything outside the selected and created locations as it was (`Frame`, `frameSet`).
* `valAt` of a location below an array element counts positions in the tree it is applied to; for
  Remove the frame is therefore expressed by `remAll` (the exact result), not by positions.
-/
namespace OjgVerif.JPMut
open OjgVerif.JPath

/-- the member of a container at one location step -/
def child? : Loc → JV → Option JV
  | .idx i, .arr xs => xs[i]?
  | .key k, .obj kvs => lookup k kvs
  | _, _ => none

/-- the value at a location (`none`: no such location) -/
def valAt : Path → JV → Option JV
  | [], d => some d
  | l :: p, d =>
    match child? l d with
    | some c => valAt p c
    | none => none

/-- a reading of slices: the indexes `[s:e:t]` selects in an array of length `n`, in selection order -/
abbrev SliceFn := Nat → Option Int → Option Int → Option Int → List Nat

/-- `JPath.sel` with the reading `σ` of slices (`selG sliceIdx = sel`, `selG_spec`) -/
def selG (σ : SliceFn) : Frag → JV → List (Path × JV)
  | .slice s e t, v =>
    match v with
    | .arr xs => (σ xs.length s e t).flatMap fun j => (xs[j]?).toList.map fun c => ([.idx j], c)
    | _ => []
  | f, v => sel f v

/-- `JPath.eval` with the reading `σ` of slices -/
def evalG (σ : SliceFn) : List Frag → JV → List (Path × JV)
  | [], v => [([], v)]
  | f :: r, v => (selG σ f v).flatMap fun m => (evalG σ r m.2).map fun q => (m.1 ++ q.1, q.2)

theorem selG_spec (f : Frag) (v : JV) : selG sliceIdx f v = sel f v := by
  cases f <;> rfl

theorem evalG_spec : ∀ (x : List Frag) (v : JV), evalG sliceIdx x v = eval x v
  | [], _ => rfl
  | f :: r, v => by
    simp only [evalG, eval, selG_spec]
    congr 1
    funext m
    rw [evalG_spec r m.2]

/-- the locations a path selects under the reading `σ` of slices -/
def locsG (σ : SliceFn) (x : List Frag) (d : JV) : List Path := (evalG σ x d).map (·.1)

/-- the locations a path selects — the same ones Get returns the values of (`JPath.eval`, `locs_eq_eval`) -/
def locs (x : List Frag) (d : JV) : List Path := locsG sliceIdx x d

theorem locs_eq_eval (x : List Frag) (d : JV) : locs x d = (eval x d).map (·.1) := by
  simp [locs, locsG, evalG_spec]

/-- the locations of `T` below the step `l`, relative to it -/
def strip (l : Loc) (T : List Path) : List Path :=
  T.filterMap fun p =>
    match p with
    | [] => none
    | l' :: q => if l' = l then some q else none

/-- the set contains the location "here" -/
def hasNil (T : List Path) : Bool := T.any fun p => p.isEmpty

/-- `q` is at, above or below one of the locations of `T` -/
def touched (T : List Path) (q : Path) : Bool := T.any fun p => p.isPrefixOf q || q.isPrefixOf p

/-- the selected locations that do not lie inside another selected location -/
def outer (T : List Path) : List Path :=
  T.filter fun p => !(T.any fun q => q.isPrefixOf p && q.length < p.length)

mutual
  /-- edit every location of `T` with `m`, inner locations first -/
  def updAll (m : JV → JV) (T : List Path) : JV → JV
    | .arr xs => if hasNil T then m (.arr (updArr m T 0 xs)) else .arr (updArr m T 0 xs)
    | .obj kvs => if hasNil T then m (.obj (updObj m T kvs)) else .obj (updObj m T kvs)
    | .null => if hasNil T then m .null else .null
    | .bool b => if hasNil T then m (.bool b) else .bool b
    | .int i => if hasNil T then m (.int i) else .int i
    | .flt t => if hasNil T then m (.flt t) else .flt t
    | .big t => if hasNil T then m (.big t) else .big t
    | .num t => if hasNil T then m (.num t) else .num t
    | .str s => if hasNil T then m (.str s) else .str s
  def updArr (m : JV → JV) (T : List Path) : Nat → List JV → List JV
    | _, [] => []
    | i, x :: r => updAll m (strip (.idx i) T) x :: updArr m T (i + 1) r
  def updObj (m : JV → JV) (T : List Path) : List (Bytes × JV) → List (Bytes × JV)
    | [] => []
    | kv :: r => (kv.1, updAll m (strip (.key kv.1) T) kv.2) :: updObj m T r
end

mutual
  /-- Del: selected object members disappear, selected array elements become `null` -/
  def delAll (T : List Path) : JV → JV
    | .arr xs => .arr (delArr T 0 xs)
    | .obj kvs => .obj (delObj T kvs)
    | .null => .null
    | .bool b => .bool b
    | .int i => .int i
    | .flt t => .flt t
    | .big t => .big t
    | .num t => .num t
    | .str s => .str s
  def delArr (T : List Path) : Nat → List JV → List JV
    | _, [] => []
    | i, x :: r => (if T.contains [.idx i] then JV.null else delAll (strip (.idx i) T) x) :: delArr T (i + 1) r
  def delObj (T : List Path) : List (Bytes × JV) → List (Bytes × JV)
    | [] => []
    | kv :: r =>
      if T.contains [.key kv.1] then delObj T r
      else (kv.1, delAll (strip (.key kv.1) T) kv.2) :: delObj T r
end

mutual
  /-- Remove: selected object members and array elements disappear; array elements are numbered as in
  the input, so the survivors keep their order and close up -/
  def remAll (T : List Path) : JV → JV
    | .arr xs => .arr (remArr T 0 xs)
    | .obj kvs => .obj (remObj T kvs)
    | .null => .null
    | .bool b => .bool b
    | .int i => .int i
    | .flt t => .flt t
    | .big t => .big t
    | .num t => .num t
    | .str s => .str s
  def remArr (T : List Path) : Nat → List JV → List JV
    | _, [] => []
    | i, x :: r =>
      if T.contains [.idx i] then remArr T (i + 1) r
      else remAll (strip (.idx i) T) x :: remArr T (i + 1) r
  def remObj (T : List Path) : List (Bytes × JV) → List (Bytes × JV)
    | [] => []
    | kv :: r =>
      if T.contains [.key kv.1] then remObj T r
      else (kv.1, remAll (strip (.key kv.1) T) kv.2) :: remObj T r
end

/-- the value a created member holds: the chain of objects (and the final `null`-filled array) that the
rest of the path names, around the new value; `none`: the rest of the path does not say what to build -/
def skel : List Frag → JV → Option JV
  | [], v => some v
  | f :: r, v =>
    match f with
    | .child k => (skel r v).map fun s => JV.obj [(k, s)]
    | .nth i => if 0 ≤ i ∧ r.isEmpty then some (.arr (List.replicate i.toNat .null ++ [v])) else none
    | _ => none

/-- the rest of the path starts the way a creatable chain starts -/
def startsChain : List Frag → Bool
  | [] => true
  | .child _ :: _ => true
  | .nth i :: _ => decide (0 ≤ i)
  | _ => false

/-- the names of a union, in listed order -/
def unionKeys : List Member → List Bytes
  | [] => []
  | .key k :: r => k :: unionKeys r
  | .idx _ :: r => unionKeys r

/-- the members Set creates *in this value* for the fragment `f` followed by `r` (location, content) -/
def ownCreates (v : JV) (f : Frag) (r : List Frag) (d : JV) : List (Path × JV) :=
  match f, d with
  | .child k, .obj kvs =>
    if (lookup k kvs).isNone then (skel r v).toList.map fun s => ([Loc.key k], s) else []
  | .union ms, .obj kvs =>
    if r.isEmpty then ((unionKeys ms).filter fun k => (lookup k kvs).isNone).map fun k => ([Loc.key k], v) else []
  | _, _ => []

/-- every member Set creates, with its content (reading `σ` of slices) -/
def createsG (σ : SliceFn) (v : JV) : List Frag → JV → List (Path × JV)
  | [], _ => []
  | f :: r, d =>
    ownCreates v f r d ++ (selG σ f d).flatMap fun m => (createsG σ v r m.2).map fun c => (m.1 ++ c.1, c.2)

/-- every member Set creates, with its content -/
def creates (v : JV) : List Frag → JV → List (Path × JV) := createsG sliceIdx v

/-- the locations at which Set may add a member, whether or not the request can be completed (frame of
an erroneous Set: `$.a[1].b` on `{}` adds `a: [null, null]` and then reports that it can not go on) -/
def createRootsG (σ : SliceFn) : List Frag → JV → List Path
  | [], _ => []
  | f :: r, d =>
    (match f, d with
      | .child k, .obj kvs => if (lookup k kvs).isNone ∧ startsChain r then [[Loc.key k]] else []
      | .union ms, .obj kvs =>
        if r.isEmpty then ((unionKeys ms).filter fun k => (lookup k kvs).isNone).map fun k => [Loc.key k] else []
      | _, _ => []) ++
    (selG σ f d).flatMap fun m => (createRootsG σ r m.2).map fun c => m.1 ++ c

def createRoots : List Frag → JV → List Path := createRootsG sliceIdx

/-- the creations below the step `l`, relative to it -/
def stripC (l : Loc) (C : List (Path × JV)) : List (Path × JV) :=
  C.filterMap fun c =>
    match c.1 with
    | [] => none
    | l' :: q => if l' = l then some (q, c.2) else none

/-- the members to add to an object with the members `kvs`: first creation per name wins -/
def newMembers (kvs : List (Bytes × JV)) : List (Path × JV) → List (Bytes × JV)
  | [] => []
  | c :: r =>
    match c.1 with
    | [.key k] =>
      if (lookup k kvs).isNone then (k, c.2) :: newMembers (kvs ++ [(k, c.2)]) r else newMembers kvs r
    | _ => newMembers kvs r

mutual
  /-- add the created members -/
  def insAll (C : List (Path × JV)) : JV → JV
    | .arr xs => .arr (insArr C 0 xs)
    | .obj kvs => .obj (insObj C kvs ++ newMembers kvs C)
    | .null => .null
    | .bool b => .bool b
    | .int i => .int i
    | .flt t => .flt t
    | .big t => .big t
    | .num t => .num t
    | .str s => .str s
  def insArr (C : List (Path × JV)) : Nat → List JV → List JV
    | _, [] => []
    | i, x :: r => insAll (stripC (.idx i) C) x :: insArr C (i + 1) r
  def insObj (C : List (Path × JV)) : List (Bytes × JV) → List (Bytes × JV)
    | [] => []
    | kv :: r => (kv.1, insAll (stripC (.key kv.1) C) kv.2) :: insObj C r
end

/-- a modifier function as the library takes it: (new value, changed) -/
abbrev Modifier := JV → JV × Bool

/-- what a modifier does to a value -/
def Modifier.eff (m : Modifier) (v : JV) : JV := if (m v).2 then (m v).1 else v

def setSpecG (σ : SliceFn) (x : List Frag) (v : JV) (d : JV) : JV :=
  updAll (fun _ => v) (locsG σ x d) (insAll (createsG σ v x d) d)

def delSpecG (σ : SliceFn) (x : List Frag) (d : JV) : JV := delAll (locsG σ x d) d

def removeSpecG (σ : SliceFn) (x : List Frag) (d : JV) : JV := remAll (locsG σ x d) d

def modifySpecG (σ : SliceFn) (x : List Frag) (m : Modifier) (d : JV) : JV := updAll m.eff (locsG σ x d) d

/-- the four mutators under the specification's reading of slices (the property) -/
def setSpec (x : List Frag) (v : JV) (d : JV) : JV := setSpecG sliceIdx x v d

def delSpec (x : List Frag) (d : JV) : JV := delSpecG sliceIdx x d

def removeSpec (x : List Frag) (d : JV) : JV := removeSpecG sliceIdx x d

def modifySpec (x : List Frag) (m : Modifier) (d : JV) : JV := modifySpecG sliceIdx x m d

/-- a mutation: Set with a value, Del, Modify with a modifier, Remove -/
inductive Op where
  | set (v : JV)
  | del
  | mod (m : Modifier)
  | rem

/-- the tree a mutation (all matches) must leave under the reading `σ` of slices -/
def expectedG (σ : SliceFn) (x : List Frag) (d : JV) : Op → JV
  | .set v => setSpecG σ x v d
  | .del => delSpecG σ x d
  | .mod m => modifySpecG σ x m d
  | .rem => removeSpecG σ x d

/-- the tree the property demands after the mutation (all matches) -/
def expected (x : List Frag) (d : JV) : Op → JV := expectedG sliceIdx x d

/-- the locations outside which nothing may change, whatever the outcome (for Remove the containers of the
selected members: positions inside them shift) -/
def frameSet (x : List Frag) (d : JV) : Op → List Path
  | .set _ => locs x d ++ createRoots x d
  | .del => locs x d
  | .mod _ => locs x d
  | .rem => (locs x d).map List.dropLast

/-- the edit of one location only -/
def single (p : Path) (d : JV) : Op → JV
  | .set v => updAll (fun _ => v) [p] d
  | .del => delAll [p] d
  | .mod m => updAll m.eff [p] d
  | .rem => remAll [p] d

/-- frame: every location that is not at, above or below a location of `T` holds what it held -/
def Frame (T : List Path) (d d' : JV) : Prop := ∀ q, touched T q = false → valAt q d' = valAt q d

/-- what the property demands of the tree `d'` a One form leaves: the edit of ONE selected location, or (Set) one
created member; the tree as it was only when nothing is selected (and, for Set, nothing is to be created).
*Formalisation choice*: "the One forms change at most one location" is read together with their purpose — they do what
the all-matches form does at one of the selected locations: a One form that stops without an edit although a location
is selected contradicts it (the edit itself may be the identity: a modifier that reports no change, a value that is
already there). -/
def OneOK (x : List Frag) (d d' : JV) (op : Op) : Prop :=
  (locs x d = [] ∧ (match op with | .set v => creates v x d = [] | _ => True) ∧ d' = d) ∨
    (∃ p ∈ locs x d, d' = single p d op) ∨
    match op with
    | .set v => ∃ c ∈ creates v x d, d' = insAll [c] d
    | _ => False

/-! The clauses of the property as decidable tests: the driver judges the real code with them. -/

mutual
  /-- every location of a value -/
  def allPaths : JV → List Path
    | .arr xs => [] :: allPathsArr 0 xs
    | .obj kvs => [] :: allPathsObj kvs
    | _ => [[]]
  def allPathsArr : Nat → List JV → List Path
    | _, [] => []
    | i, x :: r => (allPaths x).map (Loc.idx i :: ·) ++ allPathsArr (i + 1) r
  def allPathsObj : List (Bytes × JV) → List Path
    | [] => []
    | kv :: r => (allPaths kv.2).map (Loc.key kv.1 :: ·) ++ allPathsObj r
end

/-- equality of values up to the order of object members (the canonical text sorts them) -/
def sameV (a b : JV) : Bool := a.render == b.render

def sameO : Option JV → Option JV → Bool
  | none, none => true
  | some a, some b => sameV a b
  | _, _ => false

/-- frame: every location of either tree that is not at, above or below a location of `T` holds the
same value in both trees -/
def frameB (T : List Path) (d d' : JV) : Bool :=
  (allPaths d ++ allPaths d').all fun q => touched T q || sameO (valAt q d) (valAt q d')

/-- hit: every outermost location of `T` holds `v` -/
def hitB (T : List Path) (v : JV) (d' : JV) : Bool :=
  (outer T).all fun p => sameO (valAt p d') (some v)

end OjgVerif.JPMut
