/-! # The unwrap loop of `registerComposer` over a type GRAPH (C06rec)

`registerComposer` (alt/recomposer.go) walks from the type of a field down to the element type:

```go
ft := f.Type
var seen []reflect.Type
unwrap:
for {
	switch ft.Kind() {
	case reflect.Array, reflect.Slice, reflect.Map, reflect.Ptr:
		if ft.Name() != "" {
			for _, st := range seen { if st == ft { break unwrap } }
			seen = append(seen, ft)
		}
		ft = ft.Elem()
	default:
		break unwrap
	}
}
```

Go types form a graph: a NAMED container type may contain itself (`type Tree map[string]Tree`,
`type A []B; type B []A`, `type P *P`); an unnamed type is a finite term over named types. The model:
a table of named types (`tbl[i]` is the shape of named type `i`) and shapes `WT` that refer to named
types by number. `walk guard` is the loop with (`true`, the code since /repo 041b92d) or without
(`false`, the code before) the seen-list; `none` = the fuel ran out.

`walk_terminates`: with the seen-list the loop ends on EVERY table and start type, within
`(tbl.length + 1) * (maxBody tbl + 2) + size ft` steps (unbounded tables, by a lexicographic measure:
named types not yet seen, then the size of the current unnamed term). `walk_unguarded_spins`: without
it the loop never ends on `type Tree map[string]Tree`, whatever the fuel (finding
`C06-recompose-selfcontaining-container`, fixed). That the SOURCE has the seen-list is the generated
fact `Gen.Reflect.altRegisterWalkSeenGuard`; that `reflect`'s `Kind/Name/Elem` behave like the table is
below the model. -/
namespace OjgVerif.Reflect.Walk

inductive WT where
  /-- not a container kind (struct, scalar, interface, func …): the loop stops -/
  | leaf
  /-- an UNNAMED container type: `[]e`, `[n]e`, `map[string]e`, `*e` -/
  | cont (e : WT)
  /-- the named type number `i` of the table -/
  | named (i : Nat)
  deriving DecidableEq, Repr

/-- `tbl[i]`: the underlying shape of named type `i` — `cont e` for a named container type with element
`e`, anything else for a named type that is not a container -/
abbrev Table := List WT

def size : WT → Nat
  | .leaf => 0
  | .cont e => size e + 1
  | .named _ => 0

def walk (guard : Bool) (tbl : Table) : Nat → WT → List Nat → Option WT
  | 0, _, _ => none
  | _ + 1, .leaf, _ => some .leaf
  | f + 1, .cont e, seen => walk guard tbl f e seen
  | f + 1, .named i, seen =>
    match tbl[i]? with
    | some (.cont e) => if guard && seen.contains i then some (.named i) else walk guard tbl f e (i :: seen)
    | _ => some (.named i)

/-- the largest element term of a named container type -/
def maxBody : Table → Nat
  | [] => 0
  | .cont e :: r => max (size e) (maxBody r)
  | _ :: r => maxBody r

theorem body_le_maxBody : ∀ (tbl : Table) (i : Nat) (e : WT), tbl[i]? = some (.cont e) → size e ≤ maxBody tbl
  | [], i, e, h => by simp at h
  | t :: r, 0, e, h => by
    simp only [List.getElem?_cons_zero, Option.some.injEq] at h
    subst h
    simp only [maxBody]
    omega
  | t :: r, i + 1, e, h => by
    have := body_le_maxBody r i e (by simpa using h)
    cases t <;> simp only [maxBody] <;> omega

/-- how many of the named types `0 … n-1` the walk has not gone through yet -/
def unseen : Nat → List Nat → Nat
  | 0, _ => 0
  | n + 1, seen => (if seen.contains n then 0 else 1) + unseen n seen

theorem contains_cons_ne (i m : Nat) (seen : List Nat) (h : m ≠ i) : (i :: seen).contains m = seen.contains m := by
  simp only [List.contains_cons]
  have : (m == i) = false := by simpa using h
  rw [this, Bool.false_or]

theorem unseen_cons_le (i : Nat) (seen : List Nat) : ∀ n, unseen n (i :: seen) ≤ unseen n seen
  | 0 => Nat.le_refl _
  | n + 1 => by
    have ih := unseen_cons_le i seen n
    simp only [unseen]
    by_cases hn : n = i
    · subst hn
      have : (n :: seen).contains n = true := by simp
      rw [this]
      simp only [↓reduceIte]
      split <;> omega
    · rw [contains_cons_ne i n seen hn]
      omega

theorem unseen_cons_lt (i : Nat) (seen : List Nat) (hs : seen.contains i = false) :
    ∀ n, i < n → unseen n (i :: seen) + 1 ≤ unseen n seen
  | 0, h => by omega
  | n + 1, h => by
    simp only [unseen]
    by_cases hn : n = i
    · subst hn
      have h1 : (n :: seen).contains n = true := by simp
      have h2 := unseen_cons_le n seen n
      rw [h1, hs]
      simp only [↓reduceIte, Bool.false_eq_true]
      omega
    · have ih := unseen_cons_lt i seen hs n (by omega)
      rw [contains_cons_ne i n seen hn]
      omega

theorem unseen_le (seen : List Nat) : ∀ n, unseen n seen ≤ n
  | 0 => Nat.le_refl _
  | n + 1 => by
    have := unseen_le seen n
    simp only [unseen]
    split <;> omega

/-- **the guarded loop terminates**: enough fuel for the lexicographic measure -/
theorem walk_some (tbl : Table) : ∀ (f : Nat) (ft : WT) (seen : List Nat),
    unseen tbl.length seen * (maxBody tbl + 2) + size ft < f → (walk true tbl f ft seen).isSome = true := by
  intro f
  induction f with
  | zero => intro ft seen h; omega
  | succ f ih =>
    intro ft seen h
    cases ft with
    | leaf => rfl
    | cont e =>
      simp only [walk]
      apply ih
      simp only [size] at h
      omega
    | named i =>
      simp only [walk]
      cases hi : tbl[i]? with
      | none => rfl
      | some t =>
        cases t with
        | leaf => rfl
        | named _ => rfl
        | cont e =>
          simp only [Bool.true_and]
          cases hs : seen.contains i with
          | true => rfl
          | false =>
            simp only [Bool.false_eq_true, ↓reduceIte]
            apply ih
            have hlt : i < tbl.length := (List.getElem?_eq_some_iff.1 hi).1
            have h1 := unseen_cons_lt i seen hs tbl.length hlt
            have h2 := body_le_maxBody tbl i e hi
            simp only [size] at h
            have h3 : (unseen tbl.length (i :: seen) + 1) * (maxBody tbl + 2) ≤ unseen tbl.length seen * (maxBody tbl + 2) :=
              Nat.mul_le_mul_right _ h1
            rw [Nat.add_mul] at h3
            omega

theorem walk_terminates (tbl : Table) (ft : WT) :
    (walk true tbl ((tbl.length + 1) * (maxBody tbl + 2) + size ft + 1) ft []).isSome = true := by
  apply walk_some
  have : unseen tbl.length [] ≤ tbl.length := unseen_le [] tbl.length
  have := Nat.mul_le_mul_right (maxBody tbl + 2) this
  rw [Nat.add_mul]
  omega

/-- `type Tree map[string]Tree` -/
def treeTbl : Table := [.cont (.named 0)]

/-- **without the seen-list the loop never ends** on a self-containing named container, whatever the fuel -/
theorem walk_unguarded_spins : ∀ (f : Nat) (seen : List Nat), walk false treeTbl f (.named 0) seen = none := by
  intro f
  induction f with
  | zero => intro seen; rfl
  | succ n ih =>
    intro seen
    simp only [walk, treeTbl, List.getElem?_cons_zero, Bool.false_and, Bool.false_eq_true, ↓reduceIte]
    exact ih _

/-- with it, it ends at the second meeting: on `Tree` (`type P *P` has the same table), on
`type A []B; type B []A` entered through an unnamed `[]A`, and the third walk stops at a named type that is
not a container -/
theorem walk_guarded_examples :
    walk true treeTbl 3 (.named 0) [] = some (.named 0) ∧
    walk true [.cont (.named 1), .cont (.named 0)] 4 (.cont (.named 0)) [] = some (.named 0) ∧
    walk true [.cont (.cont (.named 0)), .leaf] 9 (.cont (.cont (.named 1))) [] = some (.named 1) := by
  decide

end OjgVerif.Reflect.Walk
