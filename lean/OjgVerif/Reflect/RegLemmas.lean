import OjgVerif.Reflect.Registry
/-! The registry map, equality of types, the simulation "a run with a registry
that satisfies the invariant = the run in which every struct type is decoded with its own field
index" (level by level: `recBody_sim`, by fuel: `recompG_sim`), "registration keeps the invariant"
(`registerT_keyed`) and "it reports no panic, from any registry" (`registerT_quiet`; both in `registerT_inv`),
for the code as it is (a composer found under a name counts only for the type it was made for) and for the
code before /repo 6d5fecb (lookup by name alone).
The hypothesis of `registerT_inv` about `goodT` holds of every type (`goodT_true`) and its proof does not use it:
`indexType` answers `some _` on a struct by definition, so the case `none` of `registerCore` closes by `cases`. -/
namespace OjgVerif.Reflect

theorem find_set (r : Registry) (k : Bytes) (c : Composer) (k' : Bytes) :
    (r.set k c).find k' = if k = k' then some c else r.find k' := by
  unfold Registry.set
  induction r with
  | nil => simp [kvInsert, Registry.find]
  | cons hd rest ih =>
    obtain ⟨k0, c0⟩ := hd
    simp only [kvInsert]
    by_cases h0 : k0 = k
    · subst h0
      simp only [↓reduceIte, Registry.find]
      by_cases h1 : k0 = k' <;> simp [h1]
    · simp only [h0, ↓reduceIte, Registry.find, ih]
      by_cases h1 : k0 = k'
      · subst h1
        have : ¬ k = k0 := fun h => h0 h.symm
        simp [this]
      · simp [h1]

mutual
  theorem typeBeq_eq : ∀ (a b : GoType), typeBeq a b = true → a = b
    | .bool, b | .str, b | .bytes, b | .iface, b => by cases b <;> intro h <;> first | rfl | cases h
    | .int x, b | .float x, b => by
      cases b <;> intro h <;> first | cases h | skip
      rw [beq_iff_eq.1 h]
    | .slice a, b | .map a, b | .ptr a, b => by
      cases b <;> intro h <;> first | cases h | skip
      rw [typeBeq_eq a _ h]
    | .array n a, b => by
      cases b <;> intro h <;> first | cases h | skip
      simp only [typeBeq, Bool.and_eq_true, beq_iff_eq] at h
      rw [h.1, typeBeq_eq a _ h.2]
    | .struct n p fs, b => by
      cases b <;> intro h <;> first | cases h | skip
      simp only [typeBeq, Bool.and_eq_true, beq_iff_eq] at h
      rw [h.1.1, h.1.2, fieldsBeq_eq fs _ h.2]
  theorem fieldsBeq_eq : ∀ (a b : List (FieldHdr × GoType)), fieldsBeq a b = true → a = b
    | [], [] => fun _ => rfl
    | [], _ :: _ | _ :: _, [] => nofun
    | (h, t) :: r, (g, u) :: s => by
      simp only [fieldsBeq, Bool.and_eq_true, beq_iff_eq]
      intro hh
      rw [hh.1.1, typeBeq_eq t u hh.1.2, fieldsBeq_eq r s hh.2]
end

section Sim
variable (I : Registry → Prop)

/-- how the results of two runs for one slot are compared: the first keeps `I` and, under the proposition `A`, fills the
slot as the second does. In the loop lemmas `A` is `False` in mode 0, `True` for `[]byte`, otherwise that the element
type (for the fields of a struct: the struct type) has no interface slot (`noIface`). -/
abbrev StepSim (A : Prop) (st₁ st₂ : Step) : Prop :=
  I st₁.reg ∧ (A → st₁.slot = st₂.slot)

/-- what every loop of the decoder does with the result for one slot: go on with the value and the registry, or stop
at a result that is not `ok`. The body of `ptrStep` and the last `match` of `stepFields` are of this form as they stand
(`stop := id`); the `cons` cases of `stepList` and `stepKvs` take the stopping result apart in their second arm, a
`match` that does not unfold to this one while the result is a variable: `stepList_cons`, `stepKvs_cons`. -/
def Step.bind {α : Type} (st : Step) (next : GoVal → Registry → α) (stop : Step → α) : α :=
  match st with
  | ⟨.ok v, r'⟩ => next v r'
  | st => stop st

theorem stepList_cons (one : Registry → JV → Step) (r : Registry) (j : JV) (rest : List JV) (acc : List GoVal) :
    stepList one r (j :: rest) acc =
      (one r j).bind (fun v r' => stepList one r' rest (v :: acc)) fun st => ((none, st.slot), st.reg) := by
  simp only [stepList, Step.bind]
  cases one r j with | mk s r' => cases s <;> rfl

theorem stepKvs_cons (one : Registry → JV → Step) (r : Registry) (k : Bytes) (j : JV) (rest : List (Bytes × JV))
    (acc : List (Bytes × GoVal)) :
    stepKvs one r ((k, j) :: rest) acc =
      (one r j).bind (fun v r' => stepKvs one r' rest ((k, v) :: acc)) fun st => ((none, st.slot), st.reg) := by
  simp only [stepKvs, Step.bind]
  cases one r j with | mk s r' => cases s <;> rfl

/-- two results for one slot that compare (`h`), continued so that the ends compare (`hn`) or both stopped, compare
at the end; `fin` is what is done to the outcome of the loop (`listFinish`, `kvsFinish`, nothing), and a stopped loop
ends in the result that stopped it (`hstop`) -/
theorem bind_sim {α : Type} (fin : α → Step) (A : Prop) {st₁ st₂ : Step} (h : StepSim I A st₁ st₂)
    (next₁ next₂ : GoVal → Registry → α) (stop : Step → α) (hstop : ∀ st, fin (stop st) = st)
    (hn : ∀ v, StepSim I A (fin (next₁ v st₁.reg)) (fin (next₂ v st₂.reg))) :
    StepSim I A (fin (st₁.bind next₁ stop)) (fin (st₂.bind next₂ stop)) := by
  obtain ⟨s1, r1⟩ := st₁
  obtain ⟨s2, r2⟩ := st₂
  refine ⟨?_, fun ha => ?_⟩
  · cases s1 with
    | ok v => exact (hn v).1
    | _ => exact (hstop _).symm ▸ h.1
  · obtain rfl : s1 = s2 := h.2 ha
    cases s1 with
    | ok v => exact (hn v).2 ha
    | _ => show (fin (stop _)).slot = (fin (stop _)).slot; rw [hstop, hstop]

theorem stepList_sim (mk : List GoVal → GoVal) (A : Prop) (one₁ one₂ : Registry → JV → Step)
    (h : ∀ r r₂ j, I r → StepSim I A (one₁ r j) (one₂ r₂ j)) :
    ∀ (xs : List JV) (r r₂ : Registry) (acc : List GoVal), I r →
      StepSim I A (listFinish mk (stepList one₁ r xs acc)) (listFinish mk (stepList one₂ r₂ xs acc)) := by
  intro xs
  induction xs with
  | nil => exact fun _ _ _ hr => ⟨hr, fun _ => rfl⟩
  | cons x rest ih =>
    intro r r₂ acc hr
    rw [stepList_cons, stepList_cons]
    exact bind_sim I (listFinish mk) A (h r r₂ x hr) _ _ _ (fun _ => rfl) fun v => ih _ _ (v :: acc) (h r r₂ x hr).1

theorem stepKvs_sim (mk : List (Bytes × GoVal) → GoVal) (A : Prop) (one₁ one₂ : Registry → JV → Step)
    (h : ∀ r r₂ j, I r → StepSim I A (one₁ r j) (one₂ r₂ j)) :
    ∀ (xs : List (Bytes × JV)) (r r₂ : Registry) (acc : List (Bytes × GoVal)), I r →
      StepSim I A (kvsFinish mk (stepKvs one₁ r xs acc)) (kvsFinish mk (stepKvs one₂ r₂ xs acc)) := by
  intro xs
  induction xs with
  | nil => exact fun _ _ _ hr => ⟨hr, fun _ => rfl⟩
  | cons x rest ih =>
    intro r r₂ acc hr
    rw [stepKvs_cons, stepKvs_cons]
    exact bind_sim I (kvsFinish mk) A (h r r₂ x.2 hr) _ _ _ (fun _ => rfl) fun v => ih _ _ ((x.1, v) :: acc) (h r r₂ x.2 hr).1

theorem stepFields_sim (A : Prop) (P : GoType → Prop) (im : List (Bytes × IdxEntry)) (zero : GoType → GoVal)
    (setv₁ setv₂ : Registry → JV → GoType → IdxEntry → Step)
    (t : GoType) (vm : List (Bytes × JV))
    (hT : ∀ idx ft, typeAt t idx = some ft → P ft)
    (h : ∀ r r₂ m ft e, I r → P ft → StepSim I A (setv₁ r m ft e) (setv₂ r₂ m ft e)) :
    ∀ (idxs : List (Bytes × IdxEntry)) (r r₂ : Registry) (cur : GoVal), I r →
      StepSim I A (stepFields im zero setv₁ t vm r idxs cur) (stepFields im zero setv₂ t vm r₂ idxs cur) := by
  intro idxs
  induction idxs with
  | nil => intro r r₂ cur hr; exact ⟨hr, fun _ => rfl⟩
  | cons ke rest ih =>
    intro r r₂ cur hr
    obtain ⟨k, e⟩ := ke
    simp only [stepFields]
    cases fieldDatum im vm k e with
    | none => exact ih r r₂ cur hr
    | some m =>
      simp only
      by_cases hn : isNull m = true
      · simp only [hn, ↓reduceIte]; exact ih r r₂ cur hr
      · simp only [hn, Bool.false_eq_true, ↓reduceIte]
        cases hta : typeAt t e.index with
        | none => exact ⟨hr, fun _ => rfl⟩
        | some ft =>
          simp only
          by_cases hro : readOnlyAt t e.index = true
          · simp only [hro, ↓reduceIte]; exact ⟨hr, fun _ => rfl⟩
          · simp only [hro, Bool.false_eq_true, ↓reduceIte]
            have hx := h r r₂ m ft e hr (hT _ _ hta)
            exact bind_sim I id A hx _ _ id (fun _ => rfl) fun _ => ih _ _ _ hx.1

/-- a predicate on types that passes to the component types -/
structure Her (P : GoType → Prop) : Prop where
  slice : ∀ e, P (.slice e) → P e
  array : ∀ n e, P (.array n e) → P e
  map : ∀ e, P (.map e) → P e
  ptr : ∀ e, P (.ptr e) → P e
  field : ∀ (n p : Bytes) (fs : List (FieldHdr × GoType)) (i : Nat) (ht : FieldHdr × GoType),
    P (.struct n p fs) → fs[i]? = some ht → P ht.2

theorem typeAt_her {P : GoType → Prop} (hP : Her P) : ∀ (idx : List Nat) (t ft : GoType), P t → typeAt t idx = some ft → P ft := by
  intro idx
  induction idx with
  | nil => intro t ft ht h; simp only [typeAt, Option.some.injEq] at h; subst h; exact ht
  | cons i rest ih =>
    intro t ft ht h
    cases t with
    | struct n p fs =>
      simp only [typeAt] at h
      cases hf : fs[i]? with
      | none => simp [hf] at h
      | some x =>
        simp only [hf] at h
        have hx := hP.field n p fs i x ht hf
        cases rest with
        | nil => simp only [Option.some.injEq] at h; subst h; exact hx
        | cons j r2 =>
          simp only at h
          cases hx2 : x.2 with
          | ptr e => simp only [hx2] at h hx; exact ih _ _ (hP.ptr e hx) h
          | _ => simp only [hx2] at h hx; exact ih _ _ hx h
    | _ => simp [typeAt] at h

/-- What is proved of two runs level by level: from a registry in `I` and a type in `Q` the first run
leaves a registry in `I`, and on a type without interface slots both fill the slot alike. In mode 0
(`recAny`) the target type is not consulted, so nothing is asked of it and only the registry is followed.
The second run starts from ANY registry `r₂`: it stands for the ideal lookup `composerPure`, which never reads its
registry. -/
def Agree (Q : GoType → Prop) (rec₁ rec₂ : Rec) : Prop :=
  ∀ (r r₂ : Registry) (mode : Nat) (j : JV) (t : GoType) (sf : Option IdxEntry), I r → (mode ≠ 0 → Q t) →
    I (rec₁ r mode j t sf).reg ∧
      (mode ≠ 0 → noIface t = true → (rec₁ r mode j t sf).slot = (rec₂ r₂ mode j t sf).slot)

theorem ptrStep_sim (Q : GoType → Prop) (rec₁ rec₂ : Rec) (hrec : Agree I Q rec₁ rec₂) (r r₂ : Registry) (x : JV)
    (pe : GoType) (hr : I r) (hq : Q pe) :
    StepSim I (noIface pe = true) (ptrStep rec₁ r x pe) (ptrStep rec₂ r₂ x pe) := by
  have h := hrec r r₂ 1 x pe none hr (fun _ => hq)
  simp only [ptrStep]
  by_cases hnull : isNull x = true
  · simp only [hnull, ↓reduceIte]; exact ⟨hr, fun _ => rfl⟩
  · simp only [hnull, Bool.false_eq_true, ↓reduceIte]
    exact bind_sim I id _ ⟨h.1, h.2 (by decide)⟩ _ _ id (fun _ => rfl) fun _ => ⟨h.1, fun _ => rfl⟩

theorem noIface_her : Her (fun t => noIface t = true) := by
  refine ⟨fun _ h => h, fun _ _ h => h, fun _ h => h, fun _ h => h, fun n p fs i ht h hi => ?_⟩
  simp only [noIface] at h
  induction fs generalizing i with
  | nil => cases hi
  | cons hd rest ih =>
    simp only [noIfaceFields, Bool.and_eq_true] at h
    cases i with
    | zero => cases hi; exact h.1
    | succ k => exact ih k h.2 hi

theorem elemStep_sim (Q : GoType → Prop) (hQ : Her Q) (rec₁ rec₂ : Rec) (hrec : Agree I Q rec₁ rec₂) (e : GoType)
    (hq : Q e) (r r₂ : Registry) (x : JV) (hr : I r) :
    StepSim I (noIface e = true) (elemStep rec₁ e r x) (elemStep rec₂ e r₂ x) := by
  cases e with
  | ptr pe =>
    simp only [elemStep, noIface]
    exact ptrStep_sim I Q rec₁ rec₂ hrec r r₂ x pe hr (hQ.ptr pe hq)
  | _ =>
    simp only [elemStep]
    have := hrec r r₂ 2 x _ none hr (fun _ => hq)
    exact ⟨this.1, fun hn => this.2 (by decide) hn⟩

theorem mapElemStep_sim (Q : GoType → Prop) (hQ : Her Q) (rec₁ rec₂ : Rec) (hrec : Agree I Q rec₁ rec₂) (e : GoType)
    (hq : Q e) (r r₂ : Registry) (x : JV) (hr : I r) :
    StepSim I (noIface e = true) (mapElemStep rec₁ e r x) (mapElemStep rec₂ e r₂ x) := by
  cases e with
  | iface =>
    exact ⟨(hrec r r₂ 0 x .iface none hr (fun h => absurd rfl h)).1, nofun⟩
  | ptr pe =>
    simp only [mapElemStep, noIface]
    exact ptrStep_sim I Q rec₁ rec₂ hrec r r₂ x pe hr (hQ.ptr pe hq)
  | _ =>
    simp only [mapElemStep]
    have := hrec r r₂ 1 x _ none hr (fun _ => hq)
    exact ⟨this.1, fun hn => this.2 (by decide) hn⟩

/-- one level: if the recursive calls agree, and the composer lookup returns the type's own index and
keeps `I`, then the level agrees -/
theorem recBody_sim (Q : GoType → Prop) (hQ : Her Q) (ck : Bytes) (cf₁ : ComposerFor) (rec₁ rec₂ : Rec)
    (hfind : ∀ r k c, I r → Registry.find r k = some c → Q c.rtype)
    (hcf : ∀ r r₂ n p fs, I r → Q (.struct n p fs) →
      I (cf₁ r n p fs).2 ∧ (cf₁ r n p fs).1.map (·.indexes) = (composerPure r₂ n p fs).1.map (·.indexes))
    (hrec : Agree I Q rec₁ rec₂) : Agree I Q (recBody cf₁ ck rec₁) (recBody composerPure ck rec₂) := by
  intro r r₂ mode j t sf hr hq
  have hN := noIface_her
  simp only [recBody]
  by_cases hm : mode = 0
  · -- recompAny: only the registry matters
    simp only [hm, ↓reduceIte, ne_eq, not_true_eq_false, false_imp_iff, and_true]
    simp only [recAny]
    cases j with
    | arr xs =>
      exact (stepList_sim I _ False (fun r' x => rec₁ r' 0 x .iface none) (fun r' x => rec₂ r' 0 x .iface none)
        (fun a b x ha => ⟨(hrec a b 0 x .iface none ha (fun h => absurd rfl h)).1, fun h => h.elim⟩) xs r r₂ [] hr).1
    | obj kvs =>
      simp only
      cases hl : createKeyComposer ck r kvs with
      | some c =>
        have hqc : Q c.rtype := by
          simp only [createKeyComposer] at hl
          cases hj : jvLookup kvs ck with
          | none => simp [hj] at hl
          | some x => cases x <;> simp only [hj] at hl <;> first | exact hfind r _ c hr hl | simp at hl
        simp only
        have := (hrec r r₂ 2 (.obj kvs) c.rtype none hr (fun _ => hqc)).1
        cases h1 : rec₁ r 2 (.obj kvs) c.rtype none with
        | mk s1 r1 => rw [h1] at this; cases s1 <;> exact this
      | none =>
        simp only
        exact (stepKvs_sim I _ False (fun r' x => rec₁ r' 0 x .iface none) (fun r' x => rec₂ r' 0 x .iface none)
          (fun a b x ha => ⟨(hrec a b 0 x .iface none ha (fun h => absurd rfl h)).1, fun h => h.elim⟩) kvs r r₂ [] hr).1
    | _ => exact hr
  · have hq' := hq hm
    simp only [hm, ↓reduceIte, ne_eq, not_false_eq_true, true_imp_iff]
    by_cases hz : (mode = 1 && isNull j) = true
    · simp only [hz, ↓reduceIte]; exact ⟨hr, fun _ => trivial⟩
    · simp only [hz, Bool.false_eq_true, ↓reduceIte]
      cases t with
      | iface =>
        simp only [noIface, Bool.false_eq_true, false_imp_iff, and_true]
        by_cases hn : isNull j = true
        · simp only [hn, ↓reduceIte]; exact hr
        · simp only [hn, Bool.false_eq_true, ↓reduceIte]
          exact (hrec r r₂ 0 j .iface none hr (fun h => absurd rfl h)).1
      | ptr e =>
        simp only [noIface]
        exact ptrStep_sim I Q rec₁ rec₂ hrec r r₂ j e hr (hQ.ptr e hq')
      | bytes =>
        simp only [recBytes]
        cases j with
        | arr xs =>
          have := stepList_sim I bytesOf True (fun r' x => ⟨scalarSlot (.int 6) x none, r'⟩) (fun r' x => ⟨scalarSlot (.int 6) x none, r'⟩)
            (fun a b x ha => ⟨ha, fun _ => rfl⟩) xs r r₂ [] hr
          exact ⟨this.1, fun _ => this.2 trivial⟩
        | _ => exact ⟨hr, fun _ => rfl⟩
      | slice e =>
        simp only [noIface, recSlice]
        cases j with
        | arr xs =>
          exact stepList_sim I _ (noIface e = true) (elemStep rec₁ e) (elemStep rec₂ e)
            (fun a b x ha => elemStep_sim I Q hQ rec₁ rec₂ hrec e (hQ.slice e hq') a b x ha) xs r r₂ [] hr
        | _ => exact ⟨hr, fun _ => rfl⟩
      | array n e =>
        simp only [noIface, recArray]
        cases j with
        | arr xs =>
          exact stepList_sim I _ (noIface e = true) (fun r' x => rec₁ r' 2 x e none)
            (fun r' x => rec₂ r' 2 x e none)
            (fun a b x ha => by
              have := hrec a b 2 x e none ha (fun _ => hQ.array n e hq')
              exact ⟨this.1, fun hn => this.2 (by decide) hn⟩) (xs.take n) r r₂ [] hr
        | _ => exact ⟨hr, fun _ => rfl⟩
      | map e =>
        simp only [noIface, recMap]
        cases j with
        | null => exact ⟨hr, fun _ => rfl⟩
        | obj kvs =>
          exact stepKvs_sim I _ (noIface e = true) (mapElemStep rec₁ e) (mapElemStep rec₂ e)
            (fun a b x ha => mapElemStep_sim I Q hQ rec₁ rec₂ hrec e (hQ.map e hq') a b x ha) kvs r r₂ [] hr
        | _ => exact ⟨hr, fun _ => rfl⟩
      | struct name pkg fs =>
        simp only [recStruct]
        cases j with
        | obj vm =>
          simp only
          have hc := hcf r r₂ name pkg fs hr hq'
          cases h1 : cf₁ r name pkg fs with
          | mk oc r1 =>
            cases h2 : composerPure r₂ name pkg fs with
            | mk oc2 r2 =>
              rw [h1, h2] at hc
              simp only at hc
              cases oc with
              | none =>
                cases oc2 with
                | none => exact ⟨hc.1, fun _ => rfl⟩
                | some c2 => simp at hc
              | some c =>
                cases oc2 with
                | none => simp at hc
                | some c2 =>
                  simp only [Option.map_some, Option.some.injEq] at hc
                  simp only
                  rw [hc.2]
                  exact stepFields_sim I (noIface (.struct name pkg fs) = true)
                    (fun ft => Q ft ∧ (noIface (.struct name pkg fs) = true → noIface ft = true)) _ (zeroVal fuelZ)
                    (fun r'' m ft e => rec₁ r'' 2 m ft (some e)) (fun r'' m ft e => rec₂ r'' 2 m ft (some e))
                    (.struct name pkg fs) vm
                    (fun idx ft hta => ⟨typeAt_her hQ idx _ ft hq' hta, fun hn => typeAt_her hN idx _ ft hn hta⟩)
                    (fun a b m ft e ha hft => by
                      have := hrec a b 2 m ft (some e) ha (fun _ => hft.1)
                      exact ⟨this.1, fun hn => this.2 (by decide) (hft.2 hn)⟩)
                    c2.indexes r1 r2 _ hc.1
        | _ => exact ⟨hr, fun _ => rfl⟩
      | _ => exact ⟨hr, fun _ => rfl⟩

theorem recompG_sim (Q : GoType → Prop) (hQ : Her Q) (ck : Bytes) (cf : Nat → ComposerFor)
    (hfind : ∀ r k c, I r → Registry.find r k = some c → Q c.rtype)
    (hcf : ∀ f r r₂ n p fs, I r → Q (.struct n p fs) →
      I (cf f r n p fs).2 ∧ (cf f r n p fs).1.map (·.indexes) = (composerPure r₂ n p fs).1.map (·.indexes)) :
    ∀ f, Agree I Q (recompG cf ck f) (recompG (fun _ => composerPure) ck f) := by
  intro f
  induction f with
  | zero => intro r r₂ mode j t sf hr _; exact ⟨hr, fun _ _ => rfl⟩
  | succ n ih => exact recBody_sim I Q hQ ck (cf n) _ _ hfind (hcf n) ih

end Sim

/-- every composer holds the index of the struct type it was made for, its type satisfies `Q`, and
its key is related to the type by `K`. `fuelI` is written because the model's callers of `indexType` pass it;
`indexType` ignores its first argument. -/
def InvG (K : Bytes → GoType → Prop) (Q : GoType → Prop) (r : Registry) : Prop :=
  ∀ k c, r.find k = some c → indexType fuelI c.rtype = some c.indexes ∧ Q c.rtype ∧ K k c.rtype

theorem invG_nil (K : Bytes → GoType → Prop) (Q : GoType → Prop) : InvG K Q [] := by
  intro k c h; simp [Registry.find] at h

theorem invG_set {K : Bytes → GoType → Prop} {Q : GoType → Prop} {r : Registry} (hr : InvG K Q r) (k : Bytes) (c : Composer)
    (h1 : indexType fuelI c.rtype = some c.indexes) (h2 : Q c.rtype) (h3 : K k c.rtype) : InvG K Q (r.set k c) := by
  intro k' c' hf
  rw [find_set] at hf
  by_cases hk : k = k'
  · subst hk
    simp only [↓reduceIte, Option.some.injEq] at hf
    subst hf
    exact ⟨h1, h2, h3⟩
  · simp only [hk, ↓reduceIte] at hf
    exact hr k' c' hf

theorem her_deref {Q : GoType → Prop} (hQ : Her Q) (e : GoType) (he : Q e) (n p : Bytes) (fs : List (FieldHdr × GoType))
    (h : derefT e = .struct n p fs) : Q (.struct n p fs) := by
  cases e with
  | ptr e' => exact (show e' = _ from h) ▸ hQ.ptr _ he
  | struct _ _ _ => exact (show _ = _ from h) ▸ he
  | _ => cases h

theorem her_elem1 {Q : GoType → Prop} (hQ : Her Q) (t : GoType) (hq : Q t) (n p : Bytes) (fs : List (FieldHdr × GoType))
    (h : derefT (elem1 t) = .struct n p fs) : Q (.struct n p fs) := by
  cases t with
  | slice e => exact her_deref hQ e (hQ.slice e hq) n p fs h
  | array k e => exact her_deref hQ e (hQ.array k e hq) n p fs h
  | map e => exact her_deref hQ e (hQ.map e hq) n p fs h
  | ptr e => exact her_deref hQ e (hQ.ptr e hq) n p fs h
  | struct _ _ _ => exact her_deref hQ _ hq n p fs h
  | _ => cases h

theorem her_elemAll {Q : GoType → Prop} (hQ : Her Q) : ∀ (t : GoType), Q t → ∀ (n p : Bytes) (fs : List (FieldHdr × GoType)),
    derefT (elemAll t) = .struct n p fs → Q (.struct n p fs)
  | .slice e, hq, n, p, fs, h => her_elemAll hQ e (hQ.slice e hq) n p fs h
  | .array k e, hq, n, p, fs, h => her_elemAll hQ e (hQ.array k e hq) n p fs h
  | .map e, hq, n, p, fs, h => her_elemAll hQ e (hQ.map e hq) n p fs h
  | .ptr e, hq, n, p, fs, h => her_elemAll hQ e (hQ.ptr e hq) n p fs h
  | .struct _ _ _, hq, n, p, fs, h => her_deref hQ _ hq n p fs h
  | .bytes, _, _, _, _, h | .bool, _, _, _, _, h | .int _, _, _, _, _, h | .float _, _, _, _, _, h | .str, _, _, _, _, h
  | .iface, _, _, _, _, h => nomatch h

theorem her_walkElem {Q : GoType → Prop} (hQ : Her Q) (deep : Bool) (t : GoType) (hq : Q t) (n p : Bytes)
    (fs : List (FieldHdr × GoType)) (h : derefT (walkElem deep t) = .struct n p fs) : Q (.struct n p fs) := by
  cases deep with
  | false => exact her_elem1 hQ t hq n p fs (by simpa [walkElem] using h)
  | true => exact her_elemAll hQ t hq n p fs (by simpa [walkElem] using h)

mutual
  /-- `indexType` succeeds for every struct type (since /repo b19f06c no embedded field makes it panic), so
  the hypothesis `goodT` of `registerT_inv` always holds -/
  theorem goodT_true : ∀ (t : GoType), goodT t = true
    | .slice e | .array _ e | .map e | .ptr e => by simp only [goodT]; exact goodT_true e
    | .struct n p fs => by simp only [goodT, indexType, Option.isSome_some, Bool.true_and]; exact goodFields_true fs
    | .bool | .int _ | .float _ | .str | .bytes | .iface => rfl
  theorem goodFields_true : ∀ (fs : List (FieldHdr × GoType)), goodFields fs = true
    | [] => rfl
    | (_, t) :: r => by simp only [goodFields, goodT_true t, goodFields_true r, Bool.and_self]
end

theorem her_true : Her (fun _ => True) :=
  ⟨fun _ _ => trivial, fun _ _ _ => trivial, fun _ _ => trivial, fun _ _ => trivial, fun _ _ _ _ _ _ _ => trivial⟩

/-- `registerT` reports no panic, from any registry: `registerCore` reports one only when `indexType` answers `none`,
which it does for no struct type, or when the field walk (a `registerT` with less fuel) reported one -/
theorem regFields_quiet (deep : Bool) (reg1 : Registry → GoType → RegOut) (h : ∀ r t, (reg1 r t).panicked = false) :
    ∀ (fs : List (FieldHdr × GoType)) (r : Registry), (regFields deep reg1 r fs).2 = false
  | [], _ => rfl
  | (_, t) :: rest, r => by
    simp only [regFields]
    split
    · exact regFields_quiet deep reg1 h rest r
    · split
      · exact regFields_quiet deep reg1 h rest r
      · have h1 := h r (walkElem deep t)
        cases hr1 : reg1 r (walkElem deep t) with
        | mk r' c' p' =>
          rw [hr1] at h1
          cases h1
          exact regFields_quiet deep reg1 h rest r'

theorem registerT_quiet (g : Bool) : ∀ (f : Nat) (r : Registry) (t : GoType), (registerT g f r t).panicked = false
  | 0, r, t => by
    simp only [registerT, registerCore, indexType]
    split
    · split <;> rfl
    · rfl
  | f + 1, r, t => by
    simp only [registerT, registerCore, indexType]
    split
    · split
      · rfl
      · exact regFields_quiet g _ (registerT_quiet g f) _ _
    · rfl

section Reg
variable (K : Bytes → GoType → Prop) (Q : GoType → Prop)

/-- a composer accepted under one of the two names of a type is the composer of that type: by the type
test of the code as it is (`b = false`, nothing to show), or — for the code before /repo 6d5fecb (`b = true`) —
by what `K` and `Q` say -/
def LookupOK (b : Bool) : Prop :=
  ∀ (k n p : Bytes) (fs : List (FieldHdr × GoType)) (T' : GoType), (k = n ∨ k = fullName n p) →
    Q (.struct n p fs) → Q T' → K k T' → b = true → T' = .struct n p fs

/-- the keys of the registry determine its composers: `Q` passes to component types, a type is filed
under its two names, and a lookup under one of them finds the type's own composer -/
structure Keyed (b : Bool) : Prop where
  her : Her Q
  keys : ∀ n p fs, Q (.struct n p fs) → K n (.struct n p fs) ∧ K (fullName n p) (.struct n p fs)
  lookup : LookupOK K Q b

theorem regFields_inv (deep : Bool) (reg1 : Registry → GoType → RegOut) (hQ : Her Q)
    (hreg1 : ∀ r t, InvG K Q r → (∀ n p fs, derefT t = .struct n p fs → Q (.struct n p fs)) → InvG K Q (reg1 r t).reg) :
    ∀ (fs : List (FieldHdr × GoType)) (r : Registry), InvG K Q r → (∀ ht ∈ fs, Q ht.2) →
      InvG K Q (regFields deep reg1 r fs).1 := by
  intro fs
  induction fs with
  | nil => intro r hr _; exact hr
  | cons hd rest ih =>
    intro r hr hfs
    obtain ⟨h, t⟩ := hd
    have hrest : ∀ ht ∈ rest, Q ht.2 := fun ht hm => hfs ht (List.mem_cons_of_mem _ hm)
    simp only [regFields]
    split
    · exact ih r hr hrest
    · split
      · exact ih r hr hrest
      · have h1 := hreg1 r (walkElem deep t) hr
          (fun n p fs hd => her_walkElem hQ deep t (hfs (h, t) List.mem_cons_self) n p fs hd)
        cases hr1 : reg1 r (walkElem deep t) with
        | mk r' c' p' =>
          rw [hr1] at h1
          cases p' with
          | true => exact h1
          | false => exact ih r' h1 hrest

theorem accepted_is_own (b : Bool) (hL : LookupOK K Q b) (r : Registry) (hr : InvG K Q r) (k n p : Bytes)
    (fs : List (FieldHdr × GoType)) (hk : k = n ∨ k = fullName n p) (hq : Q (.struct n p fs)) (c : Composer)
    (hacc : acceptedUnder b r k (.struct n p fs) = some c) :
    indexType fuelI (.struct n p fs) = some c.indexes := by
  simp only [acceptedUnder] at hacc
  cases hf : r.find k with
  | none => simp [hf] at hacc
  | some c0 =>
    simp only [hf] at hacc
    by_cases ha : (b || typeBeq c0.rtype (.struct n p fs)) = true
    · simp only [ha, ↓reduceIte, Option.some.injEq] at hacc
      subst hacc
      obtain ⟨h1, h2, h3⟩ := hr k c0 hf
      have : c0.rtype = .struct n p fs := by
        by_cases hb : b = true
        · exact hL k n p fs c0.rtype hk hq h2 h3 hb
        · have : typeBeq c0.rtype (.struct n p fs) = true := by
            cases b with
            | true => exact absurd rfl hb
            | false => simpa using ha
          exact typeBeq_eq _ _ this
      rw [← this]; exact h1
    · simp [ha] at hacc

/-- One level of `registerComposer`, the field walk being any `walk` that keeps the invariant: the invariant is kept,
and the composer returned holds the type's own field index (whether it was found under the full name or made and
filed under both names). -/
theorem registerCore_inv (b : Bool) (hC : Keyed K Q b) (walk : Option (Registry → GoType → RegOut))
    (hwalk : ∀ w, walk = some w → ∀ r t, InvG K Q r → (∀ n p fs, derefT t = .struct n p fs → Q (.struct n p fs)) →
      InvG K Q (w r t).reg)
    (r : Registry) (t : GoType) (hr : InvG K Q r) (ht : ∀ n p fs, derefT t = .struct n p fs → Q (.struct n p fs)) :
    InvG K Q (registerCore (!b) walk r t).reg ∧
      (∀ n p fs, derefT t = .struct n p fs →
        ∃ c, (registerCore (!b) walk r t).comp = some c ∧ indexType fuelI (.struct n p fs) = some c.indexes) := by
  simp only [registerCore]
  cases hd : derefT t with
  | struct name pkg fs =>
    have hq : Q (.struct name pkg fs) := ht name pkg fs hd
    -- the third claim, for whichever composer `c` is returned
    have hcomp : ∀ c : Composer, indexType fuelI (.struct name pkg fs) = some c.indexes →
        ∀ n p fs', GoType.struct name pkg fs = .struct n p fs' →
          ∃ c', some c = some c' ∧ indexType fuelI (.struct n p fs') = some c'.indexes :=
      fun c hc _ _ _ heq => heq ▸ ⟨c, rfl, hc⟩
    simp only
    rw [Bool.not_not]
    cases hacc : acceptedUnder b r (fullName name pkg) (.struct name pkg fs) with
    | some c => exact ⟨hr, hcomp c (accepted_is_own K Q b hC.lookup r hr _ name pkg fs (Or.inr rfl) hq c hacc)⟩
    | none =>
      cases him : indexType fuelI (.struct name pkg fs) with
      | none => cases him
      | some im =>
        simp only
        have hk := hC.keys name pkg fs hq
        have hr1 : InvG K Q ((r.set name ⟨name, fullName name pkg, .struct name pkg fs, im⟩).set (fullName name pkg)
            ⟨name, fullName name pkg, .struct name pkg fs, im⟩) :=
          invG_set (invG_set hr name _ him hq hk.1) (fullName name pkg) _ him hq hk.2
        cases walk with
        | none => exact ⟨hr1, hcomp _ him⟩
        | some w =>
          simp only
          have hfs : ∀ ht ∈ fs.reverse, Q ht.2 := by
            intro ht hm
            obtain ⟨i, hi⟩ := List.mem_iff_getElem?.mp (List.mem_reverse.mp hm)
            exact hC.her.field name pkg fs i ht hq hi
          have := regFields_inv K Q (!b) w hC.her (hwalk w rfl) fs.reverse _ hr1 hfs
          exact ⟨this, hcomp _ him⟩
  | _ => exact ⟨hr, fun n p fs heq => nomatch heq⟩

/-- registration keeps the invariant and returns the type's own field index -/
theorem registerT_keyed (b : Bool) (hC : Keyed K Q b) :
    ∀ (f : Nat) (r : Registry) (t : GoType), InvG K Q r → (∀ n p fs, derefT t = .struct n p fs → Q (.struct n p fs)) →
      InvG K Q (registerT (!b) f r t).reg ∧
        (∀ n p fs, derefT t = .struct n p fs →
          ∃ c, (registerT (!b) f r t).comp = some c ∧ indexType fuelI (.struct n p fs) = some c.indexes)
  | 0 => registerCore_inv K Q b hC none nofun
  | f + 1 => registerCore_inv K Q b hC (some (registerT (!b) f)) fun w hw r t hr ht => by
    cases hw
    exact (registerT_keyed b hC f r t hr ht).1

theorem registerT_inv (b : Bool) (hQ : Her Q) (hgood : ∀ t, Q t → goodT t = true)
    (hK : ∀ n p fs, Q (.struct n p fs) → K n (.struct n p fs) ∧ K (fullName n p) (.struct n p fs))
    (hL : LookupOK K Q b) :
    ∀ (f : Nat) (r : Registry) (t : GoType), InvG K Q r → (∀ n p fs, derefT t = .struct n p fs → Q (.struct n p fs)) →
      InvG K Q (registerT (!b) f r t).reg ∧ (registerT (!b) f r t).panicked = false ∧
        (∀ n p fs, derefT t = .struct n p fs →
          ∃ c, (registerT (!b) f r t).comp = some c ∧ indexType fuelI (.struct n p fs) = some c.indexes) :=
  fun f r t hr ht =>
    have h := registerT_keyed K Q b ⟨hQ, hK, hL⟩ f r t hr ht
    ⟨h.1, registerT_quiet _ f r t, h.2⟩

theorem composerFor_good (b : Bool) (hC : Keyed K Q b) (f : Nat) (r r₂ : Registry) (n p : Bytes) (fs : List (FieldHdr × GoType))
    (hr : InvG K Q r) (hq : Q (.struct n p fs)) :
    InvG K Q (composerFor b f r n p fs).2 ∧
      (composerFor b f r n p fs).1.map (·.indexes) = (composerPure r₂ n p fs).1.map (·.indexes) := by
  cases him : indexType fuelI (.struct n p fs) with
  | none => cases him
  | some im =>
    simp only [composerPure, him, composerFor]
    cases hacc : acceptedUnder b r n (.struct n p fs) with
    | some c =>
      have := accepted_is_own K Q b hC.lookup r hr n n p fs (Or.inl rfl) hq c hacc
      rw [him] at this
      simp only [Option.some.injEq] at this
      simp only [Option.map_some, this]
      exact ⟨hr, trivial⟩
    | none =>
      simp only
      have hreg := registerT_keyed K Q b hC f r (.struct n p fs) hr (fun n' p' fs' heq => by
        simp only [derefT, GoType.struct.injEq] at heq
        obtain ⟨rfl, rfl, rfl⟩ := heq
        exact hq)
      obtain ⟨c, hc1, hc2⟩ := hreg.2 n p fs rfl
      have hp := registerT_quiet (!b) f r (.struct n p fs)
      cases hrt : registerT (!b) f r (.struct n p fs) with
      | mk r' oc pp =>
        rw [hrt] at hreg hc1 hp
        simp only at hreg hc1 hp
        rw [hp, hc1]
        simp only [Option.map_some]
        rw [him] at hc2
        simp only [Option.some.injEq] at hc2
        rw [hc2]
        exact ⟨hreg.1, rfl⟩

theorem recompV_sim (b : Bool) (hC : Keyed K Q b) (ck : Bytes) (f : Nat) :
    Agree (InvG K Q) Q (recompV b ck f) (recompG (fun _ => composerPure) ck f) :=
  recompG_sim (InvG K Q) Q hC.her ck (composerFor b) (fun _ k c hr hf => (hr k c hf).2.1)
    (fun f r r₂ n p fs hr hq => composerFor_good K Q b hC f r r₂ n p fs hr hq) f

/-- what a history may contain for the invariant to survive -/
def EventOK : Event → Prop
  | .register t => ∀ n p fs, derefT t = .struct n p fs → Q (.struct n p fs)
  | .recompose t _ => Q t

theorem regAfter_inv (b : Bool) (hC : Keyed K Q b) (ck : Bytes) :
    ∀ (h : List Event) (r : Registry), InvG K Q r → (∀ e ∈ h, EventOK Q e) → InvG K Q (h.foldl (playEvent b ck) r) := by
  intro h
  induction h with
  | nil => intro r hr _; exact hr
  | cons e rest ih =>
    intro r hr hev
    simp only [List.foldl_cons]
    apply ih
    · have he := hev e List.mem_cons_self
      cases e with
      | register t => exact (registerT_keyed K Q b hC fuelR r t hr he).1
      | recompose t j => exact (recompV_sim K Q b hC ck 256 r [] 1 j t none hr (fun _ => he)).1
    · exact fun e' hm => hev e' (List.mem_cons_of_mem _ hm)

theorem recompose_eq_pure (b : Bool) (hC : Keyed K Q b) (ck : Bytes) (h : List Event) (hev : ∀ e ∈ h, EventOK Q e) (t : GoType) (hq : Q t)
    (hn : noIface t = true) (j : JV) :
    recompose b ck (regAfter b ck h) t j = recomposePure ck t j := by
  have hinv := regAfter_inv K Q b hC ck h [] (invG_nil K Q) hev
  exact (recompV_sim K Q b hC ck 256 (regAfter b ck h) [] 1 j t none hinv (fun _ => hq)).2 (by decide) hn

end Reg

theorem eventOK_true (e : Event) : EventOK (fun _ => True) e := by
  cases e with
  | register t => exact fun _ _ _ _ => trivial
  | recompose t j => exact trivial

/-! Comparing values in witnesses: `GoVal` has no `DecidableEq`. -/

mutual
  def valBeq : GoVal → GoVal → Bool
    | .bool a, .bool b => a == b
    | .int a, .int b => a == b
    | .flt a, .flt b => a == b
    | .str a, .str b => a == b
    | .nilBytes, .nilBytes => true
    | .bytes a, .bytes b => a == b
    | .nilSlice, .nilSlice => true
    | .slice a, .slice b => valsBeq a b
    | .arr a, .arr b => valsBeq a b
    | .nilMap, .nilMap => true
    | .map a, .map b => kvsBeq a b
    | .nilPtr, .nilPtr => true
    | .ptr a, .ptr b => valBeq a b
    | .nilIface, .nilIface => true
    | .iface t a, .iface u b => typeBeq t u && valBeq a b
    | .struct a, .struct b => valsBeq a b
    | _, _ => false
  def valsBeq : List GoVal → List GoVal → Bool
    | [], [] => true
    | x :: r, y :: s => valBeq x y && valsBeq r s
    | _, _ => false
  def kvsBeq : List (Bytes × GoVal) → List (Bytes × GoVal) → Bool
    | [], [] => true
    | (k, x) :: r, (l, y) :: s => k == l && valBeq x y && kvsBeq r s
    | _, _ => false
end

def slotIs (s : Slot) (v : GoVal) : Bool :=
  match s with
  | .ok x => valBeq x v
  | _ => false

theorem slot_ne_of_slotIs {a b : Slot} {v : GoVal} (ha : slotIs a v = false) (hb : slotIs b v = true) : a ≠ b := by
  intro h; rw [h, hb] at ha; cases ha

end OjgVerif.Reflect
