import OjgVerif.Common.BytesLemmas
import OjgVerif.Reflect.Lemmas
import OjgVerif.Reflect.RoundTripSpec
/-! # Recompose inverts Decompose on values (C16, title clause): lemmas and the core induction

The statement side (`norm`, `structOK`, `rtOK`) is in `RoundTripSpec.lean`. Here: one struct level
without embedded fields (`recStruct_flat`: the recomposer's walk over the field index finds, for every
field, the member the encoder wrote for it, in whatever order the index lists the fields), the text of
the `,string` option (`atoi_intText`, `asStr_tagHasString`), and the induction on values: `rt_core_vf`, between the
reference encoder `refVal` and the decoder with the ideal registry `pureCF` (`rt_core` is `rt_core_vf` under a
further hypothesis `vf ≤ n`, which it does not use). The last section is about the encoder: `alt` of `Dev.current` under
`o` is `alt` under `effOpts o`, where no run meets a deviation (`encode_alt_eff`, `untriggered_alt_eff`); with it
`Props/C16inv.lean` passes from `refEncode` to `encode .alt Dev.current`, and from `recomposePure` to a
registry with a history by `Props/C16.lean`. -/
namespace OjgVerif.Reflect

theorem normL_eq_map : ∀ xs : List GoVal, normL xs = xs.map norm
  | [] => rfl
  | x :: r => by simp [normL, normL_eq_map r]

theorem normK_eq_map : ∀ xs : List (Bytes × GoVal), normK xs = xs.map fun kv => (kv.1, norm kv.2)
  | [] => rfl
  | (k, x) :: r => by simp [normK, normK_eq_map r]

theorem listSet_eq_set : ∀ (l : List GoVal) (i : Nat) (x : GoVal), listSet l i x = l.set i x
  | [], _, _ => rfl
  | _ :: _, 0, _ => rfl
  | a :: r, i + 1, x => by simp [listSet, listSet_eq_set r i x]

theorem jvLookup_none_of_not_mem : ∀ (M : List (Bytes × JV)) (c : Bytes), (∀ m, (c, m) ∉ M) → jvLookup M c = none
  | [], _, _ => rfl
  | (k, v) :: r, c, h => by
    simp only [jvLookup]
    by_cases hk : k = c
    · subst hk; exact absurd (List.mem_cons_self) (h v)
    · simp only [hk, ↓reduceIte]
      exact jvLookup_none_of_not_mem r c (fun m hm => h m (List.mem_cons_of_mem _ hm))

theorem jvLookup_some_of_unique : ∀ (M : List (Bytes × JV)) (c : Bytes) (m0 : JV), (c, m0) ∈ M →
    (∀ m, (c, m) ∈ M → m = m0) → jvLookup M c = some m0
  | [], _, _, h, _ => by cases h
  | (k, v) :: r, c, m0, h, hu => by
    simp only [jvLookup]
    by_cases hk : k = c
    · subst hk
      simp only [↓reduceIte]
      rw [hu v List.mem_cons_self]
    · simp only [hk, ↓reduceIte]
      apply jvLookup_some_of_unique r c m0
      · rcases List.mem_cons.1 h with h | h
        · cases h; exact absurd rfl hk
        · exact h
      · exact fun m hm => hu m (List.mem_cons_of_mem _ hm)


theorem structOK_at {o : Opts} {fs : List (FieldHdr × GoType)} (hs : structOK o fs = true) {p : Nat} {h : FieldHdr} {t : GoType}
    (hp : fs[p]? = some (h, t)) : fieldOKAt o fs h p = true := by
  have := (List.all_eq_true.1 hs) ((h, t), p) (List.mem_zipIdx_iff_getElem?.2 hp)
  exact this

theorem fieldOKAt_other {o : Opts} {fs : List (FieldHdr × GoType)} {h : FieldHdr} {p : Nat} {k : Bytes}
    (hf : fieldOKAt o fs h p = true) (hk : idxKeyOf h = some k) {q : Nat} {h' : FieldHdr} {t' : GoType}
    (hq : fs[q]? = some (h', t')) (hne : q ≠ p) :
    (∀ pk', planKeyOf o h' = some pk' → pk' ∉ triedKeys o fs h k) ∧ idxKeyOf h' ≠ some k := by
  simp only [fieldOKAt, hk, Bool.and_eq_true] at hf
  have := (List.all_eq_true.1 hf.2.2) ((h', t'), q) (List.mem_zipIdx_iff_getElem?.2 hq)
  simp only [Bool.or_eq_true, beq_iff_eq, hne, false_or, Bool.and_eq_true, bne_iff_ne, ne_eq] at this
  refine ⟨?_, this.2⟩
  intro pk' hpk hmem
  have h1 := this.1
  rw [hpk] at h1
  simp only [Bool.not_eq_true'] at h1
  have := List.contains_iff_mem.2 hmem
  rw [this] at h1
  cases h1

theorem exported_of_idxKey {h : FieldHdr} {k : Bytes} (hk : idxKeyOf h = some k) : unexported h.name = false := by
  cases hu : unexported h.name with
  | false => rfl
  | true => simp [idxKeyOf, hu] at hk

def NoEmb (fs : List (FieldHdr × GoType)) : Prop := ∀ ht ∈ fs, ht.1.embedded = false

theorem indexFields_cons_noEmb (h : FieldHdr) (t : GoType) (rest : List (FieldHdr × GoType)) (i : Nat)
    (he : h.embedded = false) :
    indexFields ((h, t) :: rest) i =
      if unexported h.name then indexFields rest (i + 1)
      else match idxKeyOf h with
        | none => indexFields rest (i + 1)
        | some k => kvInsert k ⟨h.name, [i], h.tag⟩ (indexFields rest (i + 1)) := by
  simp only [indexFields, he, Bool.false_eq_true, ↓reduceIte, plainEntry, idxKeyOf]
  by_cases hu : unexported h.name = true
  · simp [hu]
  · simp only [hu, Bool.false_eq_true, ↓reduceIte]
    by_cases ht : h.tag.isEmpty = true
    · simp [ht]
    · simp only [ht, Bool.false_eq_true, ↓reduceIte, Bool.not_false]
      rfl

/-- no two fields are filed under one index key -/
def IdxDistinct (fs : List (FieldHdr × GoType)) : Prop :=
  ∀ (p q : Nat) (h : FieldHdr) (t : GoType) (h' : FieldHdr) (t' : GoType) (k : Bytes),
    fs[p]? = some (h, t) → fs[q]? = some (h', t') → p ≠ q → idxKeyOf h = some k → idxKeyOf h' ≠ some k

/-- the index entry of field number `hp.2` -/
def entryAt (hp : (FieldHdr × GoType) × Nat) : Option (Bytes × IdxEntry) :=
  (idxKeyOf hp.1.1).map fun k => (k, ⟨hp.1.1.name, [hp.2], hp.1.1.tag⟩)

/-- with distinct keys no insertion replaces an entry: the index lists the entries of the fields, last
field first -/
theorem indexFields_flat : ∀ (fs : List (FieldHdr × GoType)) (i0 : Nat), NoEmb fs → IdxDistinct fs →
    indexFields fs i0 = (fs.zipIdx i0).reverse.filterMap entryAt
  | [], _, _, _ => rfl
  | (h, t) :: rest, i0, hne, hd => by
    have he : h.embedded = false := hne (h, t) List.mem_cons_self
    have ih := indexFields_flat rest (i0 + 1) (fun ht hht => hne ht (List.mem_cons_of_mem _ hht))
      (fun p q h t h' t' k h1 h2 hpq => hd (p + 1) (q + 1) h t h' t' k (by simpa using h1) (by simpa using h2) (by omega))
    rw [indexFields_cons_noEmb h t rest i0 he, ih]
    simp only [List.zipIdx_cons, List.reverse_cons, List.filterMap_append, List.filterMap_cons, List.filterMap_nil, entryAt]
    cases hk : idxKeyOf h with
    | none => simp
    | some k =>
      rw [exported_of_idxKey hk]
      simp only [Bool.false_eq_true, ↓reduceIte, Option.map_some]
      apply kvInsert_fresh
      intro x hx hxk
      simp only [List.mem_filterMap, List.mem_reverse] at hx
      obtain ⟨⟨⟨h', t'⟩, i⟩, hm, hx⟩ := hx
      obtain ⟨_, hp⟩ := List.mem_zipIdx_iff_le_and_getElem?_sub.1 hm
      simp only [entryAt] at hx
      cases hk' : idxKeyOf h' with
      | none => simp [hk'] at hx
      | some k' =>
        simp only [hk', Option.map_some, Option.some.injEq] at hx
        subst hx
        exact hd 0 (i - (i0 + 1) + 1) h t h' t' k rfl (by simpa using hp) (by omega) hk (hxk ▸ hk')

theorem mem_indexFields {fs : List (FieldHdr × GoType)} (hne : NoEmb fs) (hd : IdxDistinct fs) (ke : Bytes × IdxEntry) :
    ke ∈ indexFields fs 0 ↔ ∃ p h t, fs[p]? = some (h, t) ∧ idxKeyOf h = some ke.1 ∧ ke.2 = ⟨h.name, [p], h.tag⟩ := by
  rw [indexFields_flat fs 0 hne hd]
  simp only [List.mem_filterMap, List.mem_reverse, Prod.exists, List.mem_zipIdx_iff_getElem?, entryAt]
  constructor
  · rintro ⟨h, t, p, hp, he⟩
    cases hk : idxKeyOf h with
    | none => simp [hk] at he
    | some k => simp only [hk, Option.map_some, Option.some.injEq] at he; subst he; exact ⟨p, h, t, hp, hk, rfl⟩
  · rintro ⟨p, h, t, hp, hk, he⟩
    exact ⟨h, t, p, hp, by simp [hk, ← he]⟩

theorem isIface_match (enc : Bool → GoType → GoVal → JV) (t : GoType) (x : GoVal) (key : Bytes) :
    (match t with
      | .iface => [(key, enc true t x)]
      | _ => [(key, enc false t x)]) = [(key, enc (isIface t) t x)] := by
  cases t <;> rfl

/-- what a written field's member holds: the text of a bool / integer / float under the `,string`
option in force, otherwise the encoding of the value -/
def memberJV (o : Opts) (enc : Bool → GoType → GoVal → JV) (h : FieldHdr) (t : GoType) (x : GoVal) : JV :=
  match (if asStrOf o h then scalarText x else none) with
  | some s => .str s
  | none => enc (isIface t) t x

theorem memberJV_cases (o : Opts) (enc : Bool → GoType → GoVal → JV) (h : FieldHdr) (t : GoType) (x : GoVal) :
    (asStrOf o h = true ∧ ∃ s, scalarText x = some s ∧ memberJV o enc h t x = .str s) ∨
      memberJV o enc h t x = enc (isIface t) t x := by
  unfold memberJV
  cases asStrOf o h with
  | false => exact Or.inr rfl
  | true =>
    cases hs : scalarText x with
    | none => exact Or.inr rfl
    | some s => exact Or.inl ⟨rfl, s, rfl, rfl⟩

theorem refField_eq (o : Opts) (enc : Bool → GoType → GoVal → JV) (h : FieldHdr) (t : GoType) (x : GoVal)
    (hu : unexported h.name = false) :
    refField o enc h t x =
      match planKeyOf o h with
      | none => []
      | some pk => if tagOmitOf o h && isEmptyVal x then [] else [(pk, memberJV o enc h t x)] := by
  unfold memberJV asStrOf
  unfold refField planKeyOf tagOmitOf
  rw [show (if (o.useTags && !h.tag.isEmpty) = true then parseTag h.tag else some ([], false, false)) = tagView o h from rfl]
  generalize tagView o h = tv
  cases tv with
  | none => simp [hu]
  | some r =>
    obtain ⟨p, tagOmit, asStr⟩ := r
    simp only [hu, Bool.false_eq_true, ↓reduceIte]
    split
    · rfl
    · cases hst : (if asStr = true then scalarText x else none) with
      | some s => rfl
      | none => cases t <;> rfl

/-- the members field number `hp.2` contributes when it is not flattened -/
def memberAt (o : Opts) (enc : Bool → GoType → GoVal → JV) (vs : List GoVal) (hp : (FieldHdr × GoType) × Nat) : List (Bytes × JV) :=
  if unexported hp.1.1.name then []
  else
    match vs[hp.2]? with
    | some x => refField o enc hp.1.1 hp.1.2 x
    | none => []

theorem refPass_flat (o : Opts) (enc : Bool → GoType → GoVal → JV)
    (sub : List (FieldHdr × GoType) → List GoVal → List (Bytes × JV)) (vs : List GoVal) :
    ∀ (fs : List (FieldHdr × GoType)) (i0 : Nat), NoEmb fs →
      refPass o enc sub vs fs i0 = (fs.zipIdx i0).reverse.flatMap (memberAt o enc vs)
  | [], _, _ => rfl
  | (h, t) :: rest, i0, hne => by
    have he : h.embedded = false := hne (h, t) List.mem_cons_self
    rw [refPass, refPass_flat o enc sub vs rest (i0 + 1) fun ht hht => hne ht (List.mem_cons_of_mem _ hht)]
    simp only [he, Bool.false_and, Bool.false_eq_true, ↓reduceIte, List.zipIdx_cons, List.reverse_cons, List.flatMap_append,
      List.flatMap_cons, List.flatMap_nil, List.append_nil, memberAt]
    split
    · simp
    · cases (vs[i0]? : Option GoVal) <;> simp

theorem refPass_mem (o : Opts) (enc : Bool → GoType → GoVal → JV)
    (sub : List (FieldHdr × GoType) → List GoVal → List (Bytes × JV)) (vs : List GoVal)
    (fs : List (FieldHdr × GoType)) (hne : NoEmb fs) (km : Bytes × JV) :
      (km ∈ refPass o enc sub vs fs 0 ↔
        ∃ (p : Nat) (h : FieldHdr) (t : GoType) (x : GoVal), fs[p]? = some (h, t) ∧ unexported h.name = false ∧ vs[p]? = some x ∧ km ∈ refField o enc h t x) := by
  rw [refPass_flat o enc sub vs fs 0 hne]
  simp only [List.mem_flatMap, List.mem_reverse, Prod.exists, List.mem_zipIdx_iff_getElem?, memberAt]
  constructor
  · rintro ⟨h, t, p, hp, hm⟩
    split at hm
    · cases hm
    next hu =>
      split at hm
      next x hx => exact ⟨p, h, t, x, hp, Bool.eq_false_iff.2 hu, hx, hm⟩
      · cases hm
  · rintro ⟨p, h, t, x, hp, hu, hx, hm⟩
    exact ⟨h, t, p, hp, by simpa [hu, hx] using hm⟩

theorem otherLookup_of_ok (im : List (Bytes × IdxEntry)) (vm : List (Bytes × JV)) (k c : Bytes)
    (h : c = k ∨ claimedName im k c = false) : otherLookup im vm k c = jvLookup vm c := by
  unfold otherLookup
  rcases h with rfl | h
  · simp [claimedName]
  · simp [h]

theorem otherLookup_none (im : List (Bytes × IdxEntry)) (vm : List (Bytes × JV)) (k c : Bytes)
    (h : (c = k ∨ claimedName im k c = false) → jvLookup vm c = none) : otherLookup im vm k c = none := by
  cases hc : claimedName im k c with
  | true => simp [otherLookup, hc]
  | false => rw [otherLookup_of_ok im vm k c (Or.inr hc)]; exact h (Or.inr hc)

theorem fieldDatum_eq (im : List (Bytes × IdxEntry)) (vm : List (Bytes × JV)) (k : Bytes) (e : IdxEntry) :
    fieldDatum im vm k e = (candidates k e.name).findSome? (otherLookup im vm k) := by
  simp only [fieldDatum, candidates, List.findSome?_cons, List.findSome?_nil, otherLookup_of_ok im vm k k (Or.inl rfl)]
  cases jvLookup vm k <;> cases otherLookup im vm k e.name <;> cases otherLookup im vm k (lowerFirst e.name) <;>
    cases otherLookup im vm k (asciiLowerAll (lowerFirst e.name)) <;> rfl

theorem fieldDatum_none (im : List (Bytes × IdxEntry)) (vm : List (Bytes × JV)) (k : Bytes) (e : IdxEntry)
    (hn : ∀ c ∈ candidates k e.name, (c = k ∨ claimedName im k c = false) → jvLookup vm c = none) :
    fieldDatum im vm k e = none := by
  rw [fieldDatum_eq, List.findSome?_eq_none_iff]
  exact fun c hc => otherLookup_none im vm k c (hn c hc)

/-- `triedKeys` before the claimed names are filtered out -/
def triedBase (o : Opts) (h : FieldHdr) (k : Bytes) : List Bytes :=
  match planKeyOf o h with
  | some pk => if tagOmitOf o h then candidates k h.name else pk :: (candidates k h.name).takeWhile (· != pk)
  | none => candidates k h.name

theorem triedKeys_eq (o : Opts) (fs : List (FieldHdr × GoType)) (h : FieldHdr) (k : Bytes) :
    triedKeys o fs h k = (triedBase o h k).filter fun c => c == k || !isIdxKey fs c := rfl

theorem mem_tried (o : Opts) (fs : List (FieldHdr × GoType)) (h : FieldHdr) (k c : Bytes)
    (hb : c ∈ triedBase o h k) (hc : c = k ∨ isIdxKey fs c = false) : c ∈ triedKeys o fs h k := by
  rw [triedKeys_eq, List.mem_filter]
  refine ⟨hb, ?_⟩
  rcases hc with rfl | hc
  · simp
  · simp [hc]

theorem triedBase_all (o : Opts) (h : FieldHdr) (k : Bytes) (hh : planKeyOf o h = none ∨ tagOmitOf o h = true) :
    triedBase o h k = candidates k h.name := by
  unfold triedBase
  cases hp : planKeyOf o h with
  | none => rfl
  | some pk =>
    rcases hh with hh | hh
    · rw [hp] at hh; cases hh
    · simp [hh]

theorem triedBase_pk (o : Opts) (h : FieldHdr) (k pk : Bytes) (hp : planKeyOf o h = some pk)
    (hin : pk ∈ candidates k h.name) : pk ∈ triedBase o h k := by
  unfold triedBase
  simp only [hp]
  split
  · exact hin
  · exact List.mem_cons_self

theorem triedBase_before (o : Opts) (h : FieldHdr) (k pk c : Bytes) (hp : planKeyOf o h = some pk)
    (hc : c ∈ (candidates k h.name).takeWhile (· != pk)) : c ∈ triedBase o h k := by
  unfold triedBase
  simp only [hp]
  split
  · exact (List.takeWhile_sublist _).subset hc
  · exact List.mem_cons_of_mem _ hc

theorem findSome?_of_takeWhile {α β : Type} [BEq α] [LawfulBEq α] (f : α → Option β) (a : α) (b : β) (hf : f a = some b) :
    ∀ (l : List α), a ∈ l → (∀ c ∈ l.takeWhile (· != a), f c = none) → l.findSome? f = some b
  | [], h, _ => nomatch h
  | x :: r, h, hn => by
    by_cases hx : x = a
    · rw [List.findSome?_cons, hx, hf]
    · have hxa : (x != a) = true := by simpa using hx
      rw [List.takeWhile_cons, hxa] at hn
      rw [List.findSome?_cons, hn x List.mem_cons_self]
      exact findSome?_of_takeWhile f a b hf r ((List.mem_cons.1 h).resolve_left (Ne.symm hx))
        fun c hc => hn c (List.mem_cons_of_mem _ hc)

/-- the ORDER of the lookups matters here: the member is found under `pk` as soon as every name tried
BEFORE `pk` (and not claimed by another index entry) has no member -/
theorem fieldDatum_some_ordered (im : List (Bytes × IdxEntry)) (vm : List (Bytes × JV)) (k : Bytes) (e : IdxEntry)
    (pk : Bytes) (m0 : JV)
    (hs : jvLookup vm pk = some m0) (hin : pk ∈ candidates k e.name) (hpk : pk = k ∨ claimedName im k pk = false)
    (hn : ∀ c ∈ (candidates k e.name).takeWhile (· != pk), (c = k ∨ claimedName im k c = false) → jvLookup vm c = none) :
    fieldDatum im vm k e = some m0 := by
  rw [fieldDatum_eq]
  exact findSome?_of_takeWhile _ pk m0 ((otherLookup_of_ok im vm k pk hpk).trans hs) _ hin
    fun c hc => otherLookup_none im vm k c (hn c hc)

/-- slot `p` holds a value equal (up to `norm`) to the original field value -/
def SlotGood (vs : List GoVal) (p : Nat) (w : GoVal) : Prop := ∃ v, vs[p]? = some v ∧ norm w = norm v

/-- What `recStruct_flat` knows of an index entry before the walk starts: it is the entry of an exported
field `p`, and either the walk passes it by (no datum, or a null one) and the zero value is right for slot
`p`, or `setv` turns its datum into a value that is right for slot `p` and leaves the registry alone.
`zeroVal 63 t` (here and in `InvF`, `recStruct_flat`) is what slot `p` holds when the walk starts: `recStruct` starts
from `zeroVal fuelZ (.struct …)` with `fuelZ = 64`, whose fields are `zeroVal 63 _` by unfolding. -/
def EntOK (im : List (Bytes × IdxEntry)) (fs : List (FieldHdr × GoType)) (vs : List GoVal) (vm : List (Bytes × JV))
    (setv : Registry → JV → GoType → IdxEntry → Step) (ke : Bytes × IdxEntry) : Prop :=
  ∃ p h t, fs[p]? = some (h, t) ∧ ke.2.index = [p] ∧ unexported h.name = false ∧
    (((fieldDatum im vm ke.1 ke.2 = none ∨ ∃ m, fieldDatum im vm ke.1 ke.2 = some m ∧ isNull m = true) ∧
        SlotGood vs p (zeroVal 63 t)) ∨
     (∃ m x, fieldDatum im vm ke.1 ke.2 = some m ∧ isNull m = false ∧ (∀ r, setv r m t ke.2 = ⟨.ok x, r⟩) ∧ SlotGood vs p x))

/-- The invariant of the walk, `rem` being the entries still to come: every slot is right already, or still
zero with its entry among `rem`. -/
def InvF (fs : List (FieldHdr × GoType)) (vs : List GoVal) (rem : List (Bytes × IdxEntry)) (ws : List GoVal) : Prop :=
  ws.length = fs.length ∧
    ∀ p h t, fs[p]? = some (h, t) →
      ∃ w, ws[p]? = some w ∧ (SlotGood vs p w ∨ (w = zeroVal 63 t ∧ ∃ ke ∈ rem, ke.2.index = [p]))

theorem stepFields_flat (im : List (Bytes × IdxEntry)) (name pkg : Bytes) (fs : List (FieldHdr × GoType)) (vs : List GoVal) (vm : List (Bytes × JV))
    (zero : GoType → GoVal) (setv : Registry → JV → GoType → IdxEntry → Step) :
    ∀ (I : List (Bytes × IdxEntry)) (ws : List GoVal),
      (∀ ke ∈ I, EntOK im fs vs vm setv ke) → InvF fs vs I ws →
      ∃ ws', InvF fs vs [] ws' ∧
        ∀ r, stepFields im zero setv (.struct name pkg fs) vm r I (.struct ws) = ⟨.ok (.struct ws'), r⟩
  | [], ws, _, hinv => ⟨ws, hinv, fun _ => rfl⟩
  | (k, e) :: rest, ws, hent, hinv => by
    obtain ⟨p, h, t, hp, hidx, hu, hcase⟩ := hent (k, e) List.mem_cons_self
    have hent' : ∀ ke ∈ rest, EntOK im fs vs vm setv ke := fun ke hm => hent ke (List.mem_cons_of_mem _ hm)
    simp only at hidx hcase
    rcases hcase with ⟨hskip, hgood⟩ | ⟨m, x, hd, hnn, hset, hgood⟩
    · have hinv' : InvF fs vs rest ws := by
        refine ⟨hinv.1, ?_⟩
        intro p' h' t' hp'
        obtain ⟨w, hw, hor⟩ := hinv.2 p' h' t' hp'
        refine ⟨w, hw, ?_⟩
        rcases hor with hg | ⟨hz, ke, hke, hki⟩
        · exact Or.inl hg
        · rcases List.mem_cons.1 hke with rfl | hke
          · simp only [hidx, List.cons.injEq, and_true] at hki
            subst hki
            rw [hp] at hp'; cases hp'
            exact Or.inl (hz ▸ hgood)
          · exact Or.inr ⟨hz, ke, hke, hki⟩
      obtain ⟨ws', h2, h1⟩ := stepFields_flat im name pkg fs vs vm zero setv rest ws hent' hinv'
      refine ⟨ws', h2, ?_⟩
      intro r
      rw [← h1 r]
      rcases hskip with hn | ⟨m, hm, hnull⟩
      · simp only [stepFields, hn]
      · simp only [stepFields, hm, hnull, ↓reduceIte]
    · have hplt : p < ws.length := by
        rw [hinv.1]
        exact (List.getElem?_eq_some_iff.1 hp).1
      have hinv' : InvF fs vs rest (listSet ws p x) := by
        refine ⟨by rw [listSet_eq_set, List.length_set]; exact hinv.1, ?_⟩
        intro p' h' t' hp'
        by_cases hpp : p' = p
        · subst hpp
          exact ⟨x, by rw [listSet_eq_set, List.getElem?_set_self hplt], Or.inl hgood⟩
        · obtain ⟨w, hw, hor⟩ := hinv.2 p' h' t' hp'
          refine ⟨w, by rw [listSet_eq_set, List.getElem?_set_ne (Ne.symm hpp)]; exact hw, ?_⟩
          rcases hor with hg | ⟨hz, ke, hke, hki⟩
          · exact Or.inl hg
          · rcases List.mem_cons.1 hke with rfl | hke
            · simp only [hidx, List.cons.injEq, and_true] at hki
              exact absurd hki.symm hpp
            · exact Or.inr ⟨hz, ke, hke, hki⟩
      obtain ⟨ws', h2, h1⟩ := stepFields_flat im name pkg fs vs vm zero setv rest (listSet ws p x) hent' hinv'
      refine ⟨ws', h2, ?_⟩
      intro r
      rw [← h1 r]
      obtain ⟨old, hold⟩ : ∃ old, ws[p]? = some old := ⟨ws[p], List.getElem?_eq_getElem hplt⟩
      simp only [stepFields, hd, hnn, Bool.false_eq_true, ↓reduceIte, hidx, typeAt, hp, readOnlyAt, hu, Bool.or_self,
        hset, setAt, hold]

theorem structOK_noEmb {o : Opts} {fs : List (FieldHdr × GoType)} (hs : structOK o fs = true) : NoEmb fs := by
  intro ht hm
  obtain ⟨p, hp⟩ := List.getElem?_of_mem hm
  have := structOK_at (h := ht.1) (t := ht.2) hs hp
  simp only [fieldOKAt, Bool.and_eq_true, Bool.not_eq_true'] at this
  exact this.1

theorem structOK_distinct {o : Opts} {fs : List (FieldHdr × GoType)} (hs : structOK o fs = true) : IdxDistinct fs := by
  intro p q h t h' t' k hp hq hpq hk
  exact (fieldOKAt_other (structOK_at hs hp) hk hq (fun e => hpq e.symm)).2

theorem any_key_iff (fs : List (FieldHdr × GoType)) (hne : NoEmb fs) (hdist : IdxDistinct fs) (c : Bytes) :
    (indexFields fs 0).any (fun ke => ke.1 == c) = isIdxKey fs c := by
  rw [Bool.eq_iff_iff]
  simp only [List.any_eq_true, beq_iff_eq, isIdxKey]
  constructor
  · rintro ⟨ke, hke, hc⟩
    obtain ⟨p, h, t, hp, hk, _⟩ := (mem_indexFields hne hdist ke).1 hke
    exact ⟨(h, t), List.mem_of_getElem? hp, by rw [hk, hc]⟩
  · rintro ⟨ht, hm, hk⟩
    obtain ⟨p, hp⟩ := List.getElem?_of_mem hm
    exact ⟨_, (mem_indexFields hne hdist (c, _)).2 ⟨p, ht.1, ht.2, hp, hk, rfl⟩, rfl⟩

theorem claimed_iff (fs : List (FieldHdr × GoType)) (hne : NoEmb fs) (hdist : IdxDistinct fs) (k c : Bytes) :
    (c = k ∨ claimedName (indexFields fs 0) k c = false) ↔ (c = k ∨ isIdxKey fs c = false) := by
  unfold claimedName
  rw [any_key_iff fs hne hdist c]
  by_cases hck : c = k
  · simp [hck]
  · simp [hck]

section
variable (o : Opts) (enc : Bool → GoType → GoVal → JV) (sub : List (FieldHdr × GoType) → List GoVal → List (Bytes × JV))
  (name pkg : Bytes) {fs : List (FieldHdr × GoType)} {vs : List GoVal} (hs : structOK o fs = true)
  {p : Nat} {h : FieldHdr} {t : GoType} {x : GoVal} {k : Bytes}
  (hp : fs[p]? = some (h, t)) (hx : vs[p]? = some x) (hk : idxKeyOf h = some k)
include hs hp hx hk

/-- The names the decoder tries for a field belong to that field: a member of the encoder's object filed under
one of them is the member the encoder wrote for this very field (not the create-key member, not another
field's). This is what `structOK` is for. -/
theorem tried_member_own {c : Bytes} {m : JV} (hc : c ∈ triedKeys o fs h k)
    (hm : (c, m) ∈ createMember o name pkg ++ refPass o enc sub vs fs 0) :
    planKeyOf o h = some c ∧ (tagOmitOf o h && isEmptyVal x) = false ∧ m = memberJV o enc h t x := by
  have hf := structOK_at hs hp
  rcases List.mem_append.1 hm with hm | hm
  · exfalso
    simp only [createMember] at hm
    by_cases hce : o.createKey.isEmpty = true
    · simp [hce] at hm
    · simp only [hce, Bool.false_eq_true, ↓reduceIte, List.mem_cons, Prod.mk.injEq, List.not_mem_nil, or_false] at hm
      simp only [fieldOKAt, hk, Bool.and_eq_true, Bool.or_eq_true, hce, Bool.not_eq_true'] at hf
      rcases hf.2.1.2 with h2 | h2
      · cases h2
      · rw [← hm.1, List.contains_iff_mem.2 hc] at h2
        cases h2
  · obtain ⟨q, h', t', x', hq, hu', hx', hmem⟩ := (refPass_mem o enc sub vs fs (structOK_noEmb hs) (c, m)).1 hm
    rw [refField_eq o enc h' t' x' hu'] at hmem
    cases hpk : planKeyOf o h' with
    | none => simp [hpk] at hmem
    | some pk' =>
      simp only [hpk] at hmem
      by_cases hom : (tagOmitOf o h' && isEmptyVal x') = true
      · simp [hom] at hmem
      · simp only [hom, Bool.false_eq_true, ↓reduceIte, List.mem_cons, Prod.mk.injEq, List.not_mem_nil, or_false] at hmem
        obtain ⟨rfl, rfl⟩ := hmem
        by_cases hqp : q = p
        · subst hqp
          rw [hp] at hq; cases hq
          rw [hx] at hx'; cases hx'
          exact ⟨hpk, by simpa using hom, rfl⟩
        · exact absurd hc ((fieldOKAt_other hf hk hq hqp).1 c hpk)

/-- What the decoder's lookups resolve to for the index entry of field `p`: the member the encoder wrote for
`p` when it wrote one (found under its key `pk`, every name tried before `pk` having no member), nothing
when the field is never written or was dropped as empty. -/
theorem fieldDatum_own (idx : List Nat) :
    fieldDatum (indexFields fs 0) (createMember o name pkg ++ refPass o enc sub vs fs 0) k ⟨h.name, idx, h.tag⟩ =
      match planKeyOf o h with
      | none => none
      | some _ => if tagOmitOf o h && isEmptyVal x then none else some (memberJV o enc h t x) := by
  have hne := structOK_noEmb hs
  have hdist := structOK_distinct hs
  have hown := fun c hc m hm => tried_member_own o enc sub name pkg hs hp hx hk (c := c) (m := m) hc hm
  -- a field that is not written has no member under any name tried for it
  have hnone : (planKeyOf o h = none ∨ (tagOmitOf o h && isEmptyVal x) = true) →
      fieldDatum (indexFields fs 0) (createMember o name pkg ++ refPass o enc sub vs fs 0) k ⟨h.name, idx, h.tag⟩ = none := by
    intro hor
    have hall : triedBase o h k = candidates k h.name :=
      triedBase_all o h k (hor.imp_right fun h => (Bool.and_eq_true_iff.1 h).1)
    apply fieldDatum_none
    intro c hc hcl
    apply jvLookup_none_of_not_mem
    intro m hm
    obtain ⟨h1, h2, _⟩ := hown c (mem_tried o fs h k c (hall ▸ hc) ((claimed_iff fs hne hdist k c).1 hcl)) m hm
    rcases hor with h | h
    · rw [h] at h1; cases h1
    · rw [h] at h2; cases h2
  cases hpk : planKeyOf o h with
  | none => exact hnone (Or.inl hpk)
  | some pk =>
    by_cases hom : (tagOmitOf o h && isEmptyVal x) = true
    · simp only [hom, ↓reduceIte]; exact hnone (Or.inr hom)
    · simp only [hom, Bool.false_eq_true, ↓reduceIte]
      have hpkc : pk ∈ candidates k h.name ∧ pk ∈ triedKeys o fs h k := by
        have hf := structOK_at hs hp
        simp only [fieldOKAt, hk, hpk, Bool.and_eq_true] at hf
        exact ⟨List.contains_iff_mem.1 hf.2.1.1.1, List.contains_iff_mem.1 hf.2.1.1.2⟩
      have hpkcl : pk = k ∨ claimedName (indexFields fs 0) k pk = false := by
        apply (claimed_iff fs hne hdist k pk).2
        have h2 := (List.mem_filter.1 (triedKeys_eq o fs h k ▸ hpkc.2)).2
        simpa using h2
      apply fieldDatum_some_ordered (indexFields fs 0) _ k _ pk _ _ hpkc.1 hpkcl
      · intro c hc hcl
        apply jvLookup_none_of_not_mem
        intro m hm
        obtain ⟨h1, _, _⟩ := hown c (mem_tried o fs h k c (triedBase_before o h k pk c hpk hc)
          ((claimed_iff fs hne hdist k c).1 hcl)) m hm
        have hne' := List.all_eq_true.mp List.all_takeWhile _ hc
        simp only [bne_iff_ne, ne_eq] at hne'
        exact hne' (Option.some.inj (hpk ▸ h1)).symm
      · apply jvLookup_some_of_unique _ pk
        · apply List.mem_append_right
          apply (refPass_mem o enc sub vs fs hne _).2
          refine ⟨p, h, t, x, hp, exported_of_idxKey hk, hx, ?_⟩
          rw [refField_eq o enc h t x (exported_of_idxKey hk)]
          simp [hpk, hom]
        · exact fun m hm => (hown pk hpkc.2 m hm).2.2

end

/-- One struct level, all fields plain: if every field value that is written and not null is
recomposed to an equal value by `rec`, and every field that is not written, not indexed, or written as
null holds (up to `norm`) the zero value, the struct comes back equal. -/
theorem recStruct_flat (o : Opts) (enc : Bool → GoType → GoVal → JV)
    (sub : List (FieldHdr × GoType) → List GoVal → List (Bytes × JV)) (rec : Rec)
    (name pkg : Bytes) (fs : List (FieldHdr × GoType)) (vs : List GoVal)
    (hs : structOK o fs = true) (hlen : vs.length = fs.length)
    (hfld : ∀ (p : Nat) (h : FieldHdr) (t : GoType) (x : GoVal), fs[p]? = some (h, t) → vs[p]? = some x →
      ((idxKeyOf h = none ∨ planKeyOf o h = none ∨ (tagOmitOf o h && isEmptyVal x) = true ∨
          isNull (memberJV o enc h t x) = true) → norm (zeroVal 63 t) = norm x) ∧
      (∀ k pk, idxKeyOf h = some k → planKeyOf o h = some pk → isNull (memberJV o enc h t x) = false →
          ∃ y, (∀ r idx, rec r 2 (memberJV o enc h t x) t (some ⟨h.name, idx, h.tag⟩) = ⟨.ok y, r⟩) ∧ norm y = norm x)) :
    ∃ v', norm v' = norm (.struct vs) ∧
      ∀ r, recStruct composerPure rec r name pkg fs (.obj (createMember o name pkg ++ refPass o enc sub vs fs 0)) = ⟨.ok v', r⟩ := by
  have hne := structOK_noEmb hs
  have hdist := structOK_distinct hs
  have hval : ∀ p ht, fs[p]? = some ht → ∃ x, vs[p]? = some x := fun p ht hp =>
    ⟨vs[p]'(hlen ▸ (List.getElem?_eq_some_iff.1 hp).1), List.getElem?_eq_getElem _⟩
  let M := createMember o name pkg ++ refPass o enc sub vs fs 0
  -- every index entry is passed by with the zero value right for its slot, or sets its slot right
  have hent : ∀ ke ∈ indexFields fs 0, EntOK (indexFields fs 0) fs vs M (fun r'' m ft e => rec r'' 2 m ft (some e)) ke := by
    intro ke hke
    obtain ⟨p, h, t, hp, hk, he⟩ := (mem_indexFields hne hdist ke).1 hke
    obtain ⟨k, e⟩ := ke
    simp only at hk he
    subst he
    obtain ⟨x, hx⟩ := hval p _ hp
    have hd := fieldDatum_own o enc sub name pkg hs hp hx hk [p]
    have hz := (hfld p h t x hp hx).1
    refine ⟨p, h, t, hp, rfl, exported_of_idxKey hk, ?_⟩
    cases hpk : planKeyOf o h with
    | none =>
      rw [hpk] at hd
      exact Or.inl ⟨Or.inl hd, x, hx, hz (Or.inr (Or.inl hpk))⟩
    | some pk =>
      rw [hpk] at hd
      by_cases hom : (tagOmitOf o h && isEmptyVal x) = true
      · exact Or.inl ⟨Or.inl (by simpa [hom] using hd), x, hx, hz (Or.inr (Or.inr (Or.inl hom)))⟩
      · simp only [hom, Bool.false_eq_true, ↓reduceIte] at hd
        cases hnull : isNull (memberJV o enc h t x) with
        | true => exact Or.inl ⟨Or.inr ⟨_, hd, hnull⟩, x, hx, hz (Or.inr (Or.inr (Or.inr hnull)))⟩
        | false =>
          obtain ⟨y, hy, hyn⟩ := (hfld p h t x hp hx).2 k pk hk hpk hnull
          exact Or.inr ⟨_, y, hd, hnull, fun r => hy r [p], x, hx, hyn⟩
  have hinv : InvF fs vs (indexFields fs 0) (fs.map fun ht => zeroVal 63 ht.2) := by
    refine ⟨by simp, ?_⟩
    intro p h t hp
    refine ⟨zeroVal 63 t, by simp [List.getElem?_map, hp], ?_⟩
    obtain ⟨x, hx⟩ := hval p _ hp
    cases hk : idxKeyOf h with
    | none => exact Or.inl ⟨x, hx, (hfld p h t x hp hx).1 (Or.inl hk)⟩
    | some k =>
      exact Or.inr ⟨rfl, _, (mem_indexFields hne hdist (k, _)).2 ⟨p, h, t, hp, hk, rfl⟩, rfl⟩
  obtain ⟨ws', h2, h1⟩ := stepFields_flat (indexFields fs 0) name pkg fs vs M (zeroVal fuelZ) (fun r'' m ft e => rec r'' 2 m ft (some e))
    (indexFields fs 0) _ hent hinv
  refine ⟨.struct ws', ?_, ?_⟩
  · simp only [norm, normL_eq_map, GoVal.struct.injEq]
    apply List.ext_getElem?
    intro p
    simp only [List.getElem?_map]
    by_cases hplt : p < fs.length
    · obtain ⟨w, hw, hor⟩ := h2.2 p (fs[p]).1 (fs[p]).2 (List.getElem?_eq_getElem hplt)
      rcases hor with ⟨v, hv, hn⟩ | ⟨_, ke, hke, _⟩
      · simp [hw, hv, hn]
      · cases hke
    · have h3 : ws'[p]? = none := List.getElem?_eq_none (by rw [h2.1]; omega)
      have h4 : vs[p]? = none := List.getElem?_eq_none (by rw [hlen]; omega)
      simp [h3, h4]
  · intro r
    simp only [recStruct, composerPure, indexType]
    rw [← h1 r]
    rfl

theorem fieldsRT_spec (o : Opts) (chk : GoType → GoVal → Bool) :
    ∀ (fs : List (FieldHdr × GoType)) (vs : List GoVal), fieldsRT o chk fs vs = true →
      vs.length = fs.length ∧
        ∀ (p : Nat) (h : FieldHdr) (t : GoType) (x : GoVal), fs[p]? = some (h, t) → vs[p]? = some x → fieldChk o chk h t x = true
  | [], [], _ => ⟨rfl, by intro p h t x hp; simp at hp⟩
  | [], _ :: _, h => by simp [fieldsRT] at h
  | _ :: _, [], h => by simp [fieldsRT] at h
  | (h0, t0) :: fr, x0 :: vr, h => by
    simp only [fieldsRT, Bool.and_eq_true] at h
    obtain ⟨hl, hr⟩ := fieldsRT_spec o chk fr vr h.2
    refine ⟨by simp [hl], ?_⟩
    intro p h' t' x' hp hx
    cases p with
    | zero =>
      simp only [List.getElem?_cons_zero, Option.some.injEq, Prod.mk.injEq] at hp hx
      obtain ⟨rfl, rfl⟩ := hp
      subst hx
      exact h.1
    | succ p => exact hr p h' t' x' (by simpa using hp) (by simpa using hx)

theorem zeroLike_norm (t : GoType) (x : GoVal) (h : zeroLike t x = true) : norm (zeroVal 63 t) = norm x := by
  unfold zeroLike at h
  split at h
  all_goals first
    | rfl
    | cases h
    | (simp only [Bool.not_eq_true'] at h; subst h; rfl)
    | (simp only [beq_iff_eq] at h; subst h; rfl)
    | (simp only [List.isEmpty_iff] at h; subst h; rfl)
    | (simp only [floatIsZero, Bool.or_eq_true, decide_eq_true_eq] at h
       rcases h with rfl | rfl <;> rfl)

theorem bytesAsJV_not_null (n : Nat) (b : Bytes) : isNull (bytesAsJV n b) = false := by
  unfold bytesAsJV
  split
  · rfl
  · split <;> rfl

theorem rtOK_other {t : GoType} {v : GoVal} (h : shaped t v = false) (o : Opts) (n : Nat) : rtOK o (n + 1) t v = false := by
  unfold rtOK
  split <;> first | rfl | cases h

theorem refVal_not_null (o : Opts) (tf vf : Nat) (vi : Bool) (hs : (vi && o.strict) = false) (e : GoType) (x : GoVal)
    (h1 : isPtrT e = false) (h2 : isIface e = false) : isNull (refVal o tf vf vi e x) = false := by
  cases vf with
  | zero => rfl
  | succ n =>
    cases e, x using shape_cases
    case other h => rw [refVal_other h]; rfl
    case nilIface | iface => cases h2
    case nilPtr | ptr => cases h1
    case nilBytes | bytes => exact bytesAsJV_not_null _ _
    case nilSlice e => cases e <;> simp [refVal, hs, isNull]
    all_goals rfl

theorem empty_norm_zero (o : Opts) (m : Nat) (t : GoType) (x : GoVal) (hok : rtOK o m t x = true)
    (he : isEmptyVal x = true) : norm (zeroVal 63 t) = norm x := by
  cases m with
  | zero => cases hok
  | succ n =>
    cases t, x using shape_cases
    case other h => rw [rtOK_other h] at hok; cases hok
    case arr k e xs =>
      simp only [isEmptyVal, List.isEmpty_iff] at he; subst he
      simp only [rtOK, Bool.and_eq_true, beq_iff_eq, List.length_nil] at hok
      rw [← hok.1.1]; rfl
    all_goals first
      | rfl
      | (simp only [isEmptyVal, Bool.not_eq_true'] at he; subst he; rfl)
      | (simp only [isEmptyVal, beq_iff_eq] at he; subst he; rfl)
      | (simp only [isEmptyVal, List.isEmpty_iff] at he; subst he; rfl)
      | (simp only [isEmptyVal, floatIsZero, Bool.or_eq_true, decide_eq_true_eq] at he
         rcases he with rfl | rfl <;> rfl)
      | cases hok
      | cases he

/-- a value the round trip speaks about that the reference writes as null is a nil pointer -/
theorem null_is_zero (o : Opts) (tf m : Nat) (vi : Bool) (t : GoType) (hs : (vi && o.strict && isSliceIface t) = false) (x : GoVal)
    (hok : rtOK o m t x = true) (hn : isNull (refVal o tf m vi t x) = true) : norm (zeroVal 63 t) = norm x := by
  cases m with
  | zero => cases hok
  | succ n =>
    cases t, x using shape_cases
    case other h => rw [rtOK_other h] at hok; cases hok
    case nilPtr => rfl
    case ptr e y =>
      simp only [rtOK, Bool.and_eq_true, Bool.not_eq_true'] at hok
      have : refVal o tf (n + 1) vi (.ptr e) (.ptr y) = refVal o tf n false e y := rfl
      rw [this, refVal_not_null o tf n false rfl _ _ hok.1.1 hok.1.2] at hn
      cases hn
    case nilSlice e =>
      cases e
      case iface =>
        have hvs : (vi && o.strict) = false := by simpa [isSliceIface] using hs
        simp [refVal, isNull, hvs] at hn
      all_goals simp [refVal, isNull] at hn
    case nilBytes | bytes => rw [show refVal o tf (n + 1) vi .bytes _ = bytesAsJV o.bytesAs _ from rfl, bytesAsJV_not_null] at hn; cases hn
    all_goals first | (cases hok; done) | cases hn

theorem stepList_all (one : Registry → JV → Step) (g : GoVal → JV) :
    ∀ (xs : List GoVal), (∀ x ∈ xs, ∃ y, norm y = norm x ∧ ∀ r, one r (g x) = ⟨.ok y, r⟩) →
      ∃ ys, ys.map norm = xs.map norm ∧
        ∀ r acc, stepList one r (xs.map g) acc = ((some (acc.reverse ++ ys), .ok .nilPtr), r)
  | [], _ => ⟨[], rfl, by intro r acc; simp [stepList]⟩
  | x :: rest, h => by
    obtain ⟨y, hn, hy⟩ := h x List.mem_cons_self
    obtain ⟨ys, h2, h1⟩ := stepList_all one g rest (fun x' hx' => h x' (List.mem_cons_of_mem _ hx'))
    refine ⟨y :: ys, by simp [hn, h2], ?_⟩
    intro r acc
    simp only [List.map_cons, stepList, hy, h1]
    simp

theorem stepKvs_all (one : Registry → JV → Step) (g : GoVal → JV) :
    ∀ (kvs : List (Bytes × GoVal)), (∀ kv ∈ kvs, ∃ y, norm y = norm kv.2 ∧ ∀ r, one r (g kv.2) = ⟨.ok y, r⟩) →
      ∃ ys, (ys.map fun kv => (kv.1, norm kv.2)) = (kvs.map fun kv => (kv.1, norm kv.2)) ∧
        ∀ r acc, stepKvs one r (kvs.map fun kv => (kv.1, g kv.2)) acc = ((some (acc.reverse ++ ys), .ok .nilPtr), r)
  | [], _ => ⟨[], rfl, by intro r acc; simp [stepKvs]⟩
  | (k, x) :: rest, h => by
    obtain ⟨y, hn, hy⟩ := h (k, x) List.mem_cons_self
    obtain ⟨ys, h2, h1⟩ := stepKvs_all one g rest (fun x' hx' => h x' (List.mem_cons_of_mem _ hx'))
    refine ⟨(k, y) :: ys, by simp [hn, h2], ?_⟩
    intro r acc
    simp only at hy
    simp only [List.map_cons, stepKvs, hy, h1]
    simp

theorem wrapInt6 (n : Nat) (h : n < 256) : wrapInt 6 (n : Int) = (n : Int) := by
  have : intBits 6 = 8 := rfl
  simp only [wrapInt, this]
  have h2 : ((2 : Int) ^ 8) = 256 := rfl
  rw [h2]
  simp only [show ¬ (6 < 5) by omega, ↓reduceIte]
  omega

theorem stepList_bytes (r : Registry) : ∀ (b : Bytes) (acc : List GoVal),
    stepList (fun r' x => ⟨scalarSlot (.int 6) x none, r'⟩) r (b.map fun x => JV.int x.toNat) acc =
      ((some (acc.reverse ++ b.map fun x => GoVal.int x.toNat), .ok .nilPtr), r)
  | [], acc => by simp [stepList]
  | x :: rest, acc => by
    have hx : scalarSlot (.int 6) (.int (x.toNat : Int)) none = .ok (.int (x.toNat : Int)) := by
      simp only [scalarSlot, wrapInt6 x.toNat (UInt8.toNat_lt x)]
    simp only [List.map_cons, stepList, hx, stepList_bytes r rest]
    simp

theorem bytesOf_ints (b : Bytes) : bytesOf (b.map fun x => GoVal.int x.toNat) = .bytes b := by
  simp only [bytesOf, List.map_map, GoVal.bytes.injEq]
  conv => rhs; rw [← List.map_id b]
  apply List.map_congr_left
  intro x _
  simp

theorem bytesAsJV_array (o : Opts) (h : bytesAsArray o = true) (b : Bytes) :
    bytesAsJV o.bytesAs b = .arr (b.map fun x => .int x.toNat) := by
  simp only [bytesAsArray, Bool.and_eq_true, beq_iff_eq, bne_iff_ne, ne_eq] at h
  unfold bytesAsJV
  rw [if_neg h.2, if_pos h.1]

/-- the hypothesis of `rt_core_vf` on `vi`, at a field: there `vi` is `isIface t`, and `interface{}` is not `[]any` -/
theorem sliceIface_cond_field (o : Opts) (t : GoType) : (isIface t && o.strict && isSliceIface t) = false := by
  cases ht : isIface t with
  | false => rfl
  | true => cases t <;> simp [isIface] at ht; simp [isSliceIface]

/-! The `,string` option. `setValue` reads the text back with `strconv.Atoi` (`atoi_intText`: it inverts
the encoder's text) after testing the raw tag for the substring `,string`, where the encoder had parsed the
tag (`asStr_tagHasString`: what the parser accepts the substring test sees). -/

theorem digit_byte : ∀ d, d < 10 → isDigit (d.digitChar.toNat.toUInt8) = true ∧ (d.digitChar.toNat.toUInt8).toNat - 48 = d := by
  decide

theorem natOfDigits_append : ∀ (l1 l2 : Bytes) (acc : Nat),
    natOfDigits (l1 ++ l2) acc = (natOfDigits l1 acc).bind (natOfDigits l2)
  | [], l2, acc => rfl
  | c :: r, l2, acc => by
    simp only [List.cons_append, natOfDigits]
    split
    · exact natOfDigits_append r l2 _
    · rfl

/-- the bytes of a list of characters, as `intText` makes them (the function it maps is written there in place) -/
def toB (cs : List Char) : Bytes := cs.map fun c => c.toNat.toUInt8

theorem natOfDigits_single (d acc : Nat) (hd : d < 10) : natOfDigits (toB (Nat.toDigits 10 d)) acc = some (acc * 10 + d) := by
  rw [Nat.toDigits_of_lt_base hd]
  obtain ⟨h1, h2⟩ := digit_byte d hd
  simp only [toB, List.map_cons, List.map_nil, natOfDigits, h1, ↓reduceIte, h2]

theorem natOfDigits_toDigits (n : Nat) : natOfDigits (toB (Nat.toDigits 10 n)) 0 = some n := by
  induction n using Nat.strongRecOn with
  | _ n ih =>
    by_cases hn : n < 10
    · rw [natOfDigits_single n 0 hn]; simp
    · have hq : 0 < n / 10 := by omega
      have hr : n % 10 < 10 := by omega
      have hsplit := Nat.toDigits_append_toDigits (b := 10) (n := n / 10) (d := n % 10) (by omega) hq hr
      have hn' : 10 * (n / 10) + n % 10 = n := by omega
      rw [hn'] at hsplit
      rw [← hsplit]
      simp only [toB, List.map_append]
      rw [natOfDigits_append]
      have := ih (n / 10) (by omega)
      simp only [toB] at this
      rw [this]
      simp only [Option.bind_some]
      have h2 := natOfDigits_single (n % 10) (n / 10) hr
      simp only [toB] at h2
      rw [h2]
      congr 1
      omega

theorem toB_toDigits_ne_nil (m : Nat) : toB (Nat.toDigits 10 m) ≠ [] := by
  intro h
  have := congrArg List.length h
  simp only [toB, List.length_map, List.length_nil] at this
  exact Nat.toDigits_ne_nil (List.eq_nil_of_length_eq_zero this)

theorem atoi_intText (i : Int) : atoi (intText i) = some i := by
  cases i with
  | ofNat m =>
    have hs : intText (Int.ofNat m) = toB (Nat.toDigits 10 m) := by
      show toB (toString m).toList = _
      rw [Nat.toString_eq_repr, Nat.toList_repr]
    rw [hs]
    have hk := natOfDigits_toDigits m
    have hne := toB_toDigits_ne_nil m
    generalize toB (Nat.toDigits 10 m) = s at hk hne
    cases s with
    | nil => exact absurd rfl hne
    | cons c r =>
      have hd : isDigit c = true := by
        cases hc : isDigit c with
        | true => rfl
        | false => simp [natOfDigits, hc] at hk
      have hc45 : c ≠ 45 := by
        intro h; subst h; revert hd; decide
      simp only [atoi, hc45, ↓reduceIte, hk]
      rfl
  | negSucc m =>
    have hs : intText (Int.negSucc m) = 45 :: toB (Nat.toDigits 10 (m + 1)) := by
      show toB ("-" ++ (m + 1).repr).toList = _
      rw [String.toList_append, Nat.toList_repr]
      rfl
    rw [hs]
    have hk := natOfDigits_toDigits (m + 1)
    have hne := toB_toDigits_ne_nil (m + 1)
    have hemp : (toB (Nat.toDigits 10 (m + 1))).isEmpty = false := by
      cases h : toB (Nat.toDigits 10 (m + 1)) with
      | nil => exact absurd h hne
      | cons _ _ => rfl
    simp only [atoi, ↓reduceIte, hemp, Bool.false_eq_true, hk]
    rfl

theorem splitComma_ne_nil : ∀ tag : Bytes, splitComma tag ≠ []
  | [] => by simp [splitComma]
  | c :: r => by
    simp only [splitComma]
    split
    · simp
    · split <;> simp

theorem splitComma_head_prefix : ∀ (tag p : Bytes) (ps : List Bytes), splitComma tag = p :: ps → ∃ rest, tag = p ++ rest
  | [], p, ps, h => by simp [splitComma] at h; exact ⟨[], by simp [h.1]⟩
  | c :: r, p, ps, h => by
    simp only [splitComma] at h
    by_cases hc : c = 44
    · simp only [hc, ↓reduceIte, List.cons.injEq] at h
      exact ⟨c :: r, by simp [← h.1]⟩
    · simp only [hc, ↓reduceIte] at h
      cases hsr : splitComma r with
      | nil => exact absurd hsr (splitComma_ne_nil r)
      | cons p' ps' =>
        rw [hsr] at h
        simp only [List.cons.injEq] at h
        obtain ⟨rest, hrest⟩ := splitComma_head_prefix r p' ps' hsr
        exact ⟨rest, by rw [← h.1, hrest]; rfl⟩

/-- an option `string` after the first comma shows as the substring `,string` (`44 :: sString`, the pattern that
`tagHasString` binds locally) -/
theorem commaString_infix : ∀ (tag : Bytes), sString ∈ (splitComma tag).tail →
    ∃ i, i ≤ tag.length ∧ (tag.drop i).take (44 :: sString).length = 44 :: sString
  | [], h => by simp [splitComma] at h
  | c :: r, h => by
    have lift : (∃ i, i ≤ r.length ∧ (r.drop i).take (44 :: sString).length = 44 :: sString) →
        ∃ i, i ≤ (c :: r).length ∧ ((c :: r).drop i).take (44 :: sString).length = 44 :: sString := by
      rintro ⟨i, hi, hd⟩
      exact ⟨i + 1, by simp; omega, by simpa using hd⟩
    simp only [splitComma] at h
    by_cases hc : c = 44
    · simp only [hc, ↓reduceIte, List.tail_cons] at h
      cases hsr : splitComma r with
      | nil => exact absurd hsr (splitComma_ne_nil r)
      | cons p' ps' =>
        rw [hsr] at h
        rcases List.mem_cons.1 h with h | h
        · obtain ⟨rest, hrest⟩ := splitComma_head_prefix r p' ps' hsr
          refine ⟨0, by omega, ?_⟩
          rw [hc, hrest, ← h]
          simp [sString]
        · exact lift (commaString_infix r (by rw [hsr]; exact h))
    · simp only [hc, ↓reduceIte] at h
      cases hsr : splitComma r with
      | nil => exact absurd hsr (splitComma_ne_nil r)
      | cons p' ps' =>
        rw [hsr] at h
        exact lift (commaString_infix r (by rw [hsr]; exact h))

theorem asStr_tagHasString (o : Opts) (h : FieldHdr) (ha : asStrOf o h = true) : tagHasString h.tag = true := by
  unfold asStrOf tagView at ha
  split at ha
  · rename_i r heq
    split at heq
    · unfold parseTag at heq
      cases hsp : splitComma h.tag with
      | nil => exact absurd hsp (splitComma_ne_nil _)
      | cons p opts =>
        rw [hsp] at heq
        simp only at heq
        split at heq
        · cases heq
        · simp only [Option.some.injEq] at heq
          rw [← heq] at ha
          simp only at ha
          have hmem : sString ∈ (splitComma h.tag).tail := by
            rw [hsp]; exact List.contains_iff_mem.1 ha
          obtain ⟨i, hi, hd⟩ := commaString_infix h.tag hmem
          unfold tagHasString
          rw [List.any_eq_true]
          exact ⟨i, List.mem_range.2 (by omega), by simpa [sString] using hd⟩
    · simp only [Option.some.injEq] at heq
      rw [← heq] at ha
      cases ha
  · cases ha

theorem strSlot_bool (b : Bool) (e : IdxEntry) (htag : tagHasString e.tag = true) :
    scalarSlot .bool (.str (if b then sTrue else sFalse)) (some e) = .ok (.bool b) := by
  cases b <;> simp [scalarSlot, htag, sTrue, sFalse]

theorem strSlot_int (k : Nat) (i : Int) (e : IdxEntry) (htag : tagHasString e.tag = true) (hw : wrapInt k i = i) :
    scalarSlot (.int k) (.str (intText i)) (some e) = .ok (.int i) := by
  simp [scalarSlot, htag, atoi_intText, hw]

abbrev pureCF : Nat → ComposerFor := fun _ => composerPure

theorem elemStep_eq (ck : Bytes) (f : Nat) (e : GoType) (r : Registry) (j : JV) :
    elemStep (recompG pureCF ck f) e r j =
      if isPtrT e then recompG pureCF ck (f + 1) r 2 j e none else recompG pureCF ck f r 2 j e none := by
  cases e <;> simp [elemStep, isPtrT, recompG, recBody]

theorem mapElemStep_eq (ck : Bytes) (f : Nat) (e : GoType) (he : isIface e = false) (r : Registry) (j : JV) :
    mapElemStep (recompG pureCF ck f) e r j =
      if isPtrT e then recompG pureCF ck (f + 1) r 2 j e none else recompG pureCF ck f r 1 j e none := by
  cases e <;> simp [mapElemStep, isPtrT, recompG, recBody] <;> simp [isIface] at he

/-- a bool or integer field written as a string under the `,string` option is read back by `setValue` -/
theorem strMember_ok (o : Opts) (ck : Bytes) (vf f : Nat) (h : FieldHdr) (t : GoType) (x : GoVal) (s : Bytes)
    (hrt : rtOK o vf t x = true) (ha : asStrOf o h = true) (hfl : isFloatT t = false) (hs : scalarText x = some s)
    (hf : vf ≤ f) (r : Registry) (idx : List Nat) :
    recompG pureCF ck f r 2 (.str s) t (some ⟨h.name, idx, h.tag⟩) = ⟨.ok x, r⟩ := by
  have htag : tagHasString (IdxEntry.mk h.name idx h.tag).tag = true := asStr_tagHasString o h ha
  cases vf with
  | zero => simp [rtOK] at hrt
  | succ vf' =>
    cases f with
    | zero => omega
    | succ f' =>
      cases x with
      | bool b =>
        cases t <;> simp only [rtOK, Bool.false_eq_true] at hrt
        simp only [scalarText, Option.some.injEq] at hs
        subst hs
        simp [recompG, recBody, isNull, strSlot_bool b _ htag]
      | int i =>
        cases t <;> simp only [rtOK, Bool.false_eq_true, beq_iff_eq] at hrt
        simp only [scalarText, Option.some.injEq] at hs
        subst hs
        simp [recompG, recBody, isNull, strSlot_int _ i _ htag hrt]
      | flt ft =>
        cases t <;> simp only [rtOK, Bool.false_eq_true] at hrt
        simp [isFloatT] at hfl
      | _ => simp [scalarText] at hs

theorem recompG_mode (cf : Nat → ComposerFor) (ck : Bytes) (f : Nat) (r : Registry) {mode : Nat} {j : JV} (t : GoType)
    (sf : Option IdxEntry) (hm : mode = 1 ∨ mode = 2) (hj : isNull j = false) :
    recompG cf ck (f + 1) r mode j t sf = recompG cf ck (f + 1) r 2 j t sf := by
  rcases hm with rfl | rfl <;> simp [recompG, recBody, hj]

theorem rt_of_mode2 {cf : Nat → ComposerFor} {ck : Bytes} {f : Nat} {j : JV} {t : GoType} {v : GoVal} (v' : GoVal)
    (hn : norm v' = norm v) (hj : isNull j = false) (h2 : ∀ r sf, recompG cf ck (f + 1) r 2 j t sf = ⟨.ok v', r⟩) :
    ∃ v', norm v' = norm v ∧ ∀ (r : Registry) (sf : Option IdxEntry) (mode : Nat), (mode = 1 ∨ mode = 2) →
      recompG cf ck (f + 1) r mode j t sf = ⟨.ok v', r⟩ :=
  ⟨v', hn, fun r sf _ hm => (recompG_mode cf ck f r t sf hm hj).trans (h2 r sf)⟩

/-- **Recompose inverts the reference encoding**, core induction, over the values `rtOK` admits (no
`interface{}` slots or embedded fields, `[]byte` under `BytesAsArray` only, `,string` not on a float
field): with an ideal registry, recomposing the tree the
reference encoder describes for `v` gives a value equal to `v` up to `norm`, in either mode of
`recomp` (`reflect.New` target or the slot itself), with any registry threaded through unchanged and
any fuel `f ≥ vf`. The hypothesis on `vi` excludes the one value `rtOK` admits that does not come back: a nil
`[]any` that reaches the type switch on its dynamic type (`vi`) under `oj.Marshal` (`strict`) is written `null`,
which `recSlice` refuses; at a field `vi` is `isIface t`, and the hypothesis holds (`sliceIface_cond_field`).
By induction on `vf` alone: the induction hypothesis holds for every `f ≥ vf'`, which covers the
pointer element that `elemStep` hands on with one level more. -/
theorem rt_core_vf (o : Opts) (tf' : Nat) :
    ∀ (vf f : Nat), vf ≤ f → ∀ (vi : Bool) (t : GoType) (v : GoVal),
      (vi && o.strict && isSliceIface t) = false → rtOK o vf t v = true →
      ∃ v', norm v' = norm v ∧ ∀ (r : Registry) (sf : Option IdxEntry) (mode : Nat), (mode = 1 ∨ mode = 2) →
        recompG pureCF o.createKey f r mode (refVal o (tf' + 1) vf vi t v) t sf = ⟨.ok v', r⟩ := by
  intro vf
  induction vf with
  | zero => intro f _ vi t v _ h; simp [rtOK] at h
  | succ vf' IH =>
    intro f hf vi t v hs hok
    cases f with
    | zero => omega
    | succ f' =>
    have hf' : vf' ≤ f' := by omega
    -- an element of a slice or a map: `elemStep_eq`, `mapElemStep_eq` give `one` the form below, and the induction
    -- hypothesis covers both fuels
    have elemOK : ∀ (one : Registry → JV → Step) (m : Nat) (e : GoType) (x : GoVal), (m = 1 ∨ m = 2) →
        (∀ r j, one r j = if isPtrT e then recompG pureCF o.createKey (f' + 1) r 2 j e none
          else recompG pureCF o.createKey f' r m j e none) →
        rtOK o vf' e x = true → ∃ y, norm y = norm x ∧ ∀ r, one r (refVal o (tf' + 1) vf' false e x) = ⟨.ok y, r⟩ := by
      intro one m e x hm hone hx
      cases hp : isPtrT e with
      | true =>
        obtain ⟨y, hy, hrec⟩ := IH (f' + 1) (by omega) false e x rfl hx
        exact ⟨y, hy, fun r => by rw [hone, hp]; exact hrec r none 2 (Or.inr rfl)⟩
      | false =>
        obtain ⟨y, hy, hrec⟩ := IH f' hf' false e x rfl hx
        exact ⟨y, hy, fun r => by rw [hone, hp]; exact hrec r none m hm⟩
    cases t, v using shape_cases
    case other h => rw [rtOK_other h] at hok; cases hok
    case nilIface | iface => cases hok
    case bool | float | str =>
      exact rt_of_mode2 _ rfl rfl fun r sf => by simp [recompG, recBody, refVal, scalarSlot]
    case int k i =>
      simp only [rtOK, beq_iff_eq] at hok
      exact rt_of_mode2 _ rfl rfl fun r sf => by simp [recompG, recBody, refVal, scalarSlot, hok]
    case nilBytes =>
      rw [show refVal o (tf' + 1) (vf' + 1) vi .bytes .nilBytes = .arr ([].map fun x : UInt8 => JV.int x.toNat) from
        bytesAsJV_array o hok []]
      exact rt_of_mode2 (.bytes []) rfl rfl fun r sf => by simp [recompG, recBody, isNull, recBytes, stepList, listFinish, bytesOf]
    case bytes b =>
      rw [show refVal o (tf' + 1) (vf' + 1) vi .bytes (.bytes b) = .arr (b.map fun x => JV.int x.toNat) from
        bytesAsJV_array o hok b]
      exact rt_of_mode2 (.bytes b) rfl rfl fun r sf => by
        simp [recompG, recBody, isNull, recBytes, stepList_bytes, listFinish, bytesOf_ints]
    case nilPtr e =>
      exact ⟨.nilPtr, rfl, fun r sf mode hm => by
        rcases hm with rfl | rfl <;> simp [recompG, recBody, refVal, isNull, ptrStep, zeroVal, fuelZ]⟩
    case ptr e x =>
      simp only [rtOK, Bool.and_eq_true, Bool.not_eq_true'] at hok
      obtain ⟨y, hy, hrec⟩ := IH f' hf' false e x rfl hok.2
      have hnn := refVal_not_null o (tf' + 1) vf' false rfl e x hok.1.1 hok.1.2
      rw [show refVal o (tf' + 1) (vf' + 1) vi (.ptr e) (.ptr x) = refVal o (tf' + 1) vf' false e x from rfl]
      exact rt_of_mode2 (.ptr y) (by simp [norm, hy]) hnn fun r sf => by
        simp [recompG, recBody, hnn, ptrStep, hrec _ none 1 (Or.inl rfl)]
    case nilSlice e =>
      have hrv : refVal o (tf' + 1) (vf' + 1) vi (.slice e) .nilSlice = .arr [] := by
        cases e with
        | iface =>
          have hvs : (vi && o.strict) = false := by simpa [isSliceIface] using hs
          simp [refVal, hvs]
        | _ => simp [refVal]
      rw [hrv]
      exact rt_of_mode2 (.slice []) rfl rfl fun r sf => by simp [recompG, recBody, isNull, recSlice, stepList, listFinish]
    case slice e xs =>
      simp only [rtOK, Bool.and_eq_true, Bool.not_eq_true', List.all_eq_true] at hok
      obtain ⟨ys, hys, hst⟩ := stepList_all (elemStep (recompG pureCF o.createKey f') e)
        (refVal o (tf' + 1) vf' false e) xs (fun x hx => elemOK _ 2 e x (Or.inr rfl) (elemStep_eq _ f' e) (hok.2 x hx))
      exact rt_of_mode2 (.slice ys) (by simp [norm, normL_eq_map, hys]) rfl fun r sf => by
        simp [recompG, recBody, refVal, isNull, recSlice, hst, listFinish]
    case arr k e xs =>
      simp only [rtOK, Bool.and_eq_true, Bool.not_eq_true', List.all_eq_true, beq_iff_eq] at hok
      obtain ⟨ys, hys, hst⟩ := stepList_all (fun r' x => recompG pureCF o.createKey f' r' 2 x e none)
        (refVal o (tf' + 1) vf' false e) xs (fun x hx => by
          obtain ⟨y, hy, hrec⟩ := IH f' hf' false e x rfl (hok.2 x hx)
          exact ⟨y, hy, fun r => hrec r none 2 (Or.inr rfl)⟩)
      have hlen : ys.length = k := by
        have := congrArg List.length hys
        simp only [List.length_map] at this
        rw [this]; exact hok.1.1
      have htake : (xs.map (refVal o (tf' + 1) vf' false e)).take k = xs.map (refVal o (tf' + 1) vf' false e) :=
        List.take_of_length_le (by simp [hok.1.1])
      exact rt_of_mode2 (.arr ys) (by simp [norm, normL_eq_map, hys]) rfl fun r sf => by
        simp [recompG, recBody, refVal, isNull, recArray, htake, hst, listFinish, hlen]
    case nilMap e =>
      exact rt_of_mode2 (.map []) rfl rfl fun r sf => by
        simp [recompG, recBody, refVal, isNull, recMap, stepKvs, kvsFinish, mapFinish]
    case map e kvs =>
      simp only [rtOK, Bool.and_eq_true, Bool.not_eq_true', List.all_eq_true] at hok
      obtain ⟨ys, hys, hst⟩ := stepKvs_all (mapElemStep (recompG pureCF o.createKey f') e)
        (refVal o (tf' + 1) vf' false e) kvs
        (fun kv hkv => elemOK _ 1 e kv.2 (Or.inl rfl) (mapElemStep_eq _ f' e hok.1) (hok.2 kv hkv))
      exact rt_of_mode2 (.map ys) (by simp [norm, normK_eq_map, hys]) rfl fun r sf => by
        simp [recompG, recBody, refVal, isNull, recMap, hst, kvsFinish, mapFinish]
    case struct name pkg fs vs =>
        simp only [rtOK, Bool.and_eq_true] at hok
        obtain ⟨hlen, hflds⟩ := fieldsRT_spec o (rtOK o vf') fs vs hok.2
        obtain ⟨v', hv', hrec⟩ := recStruct_flat o (fun vi ft fv => refVal o (tf' + 1) vf' vi ft fv)
          (refMembers o (fun vi ft fv => refVal o (tf' + 1) vf' vi ft fv) tf') (recompG pureCF o.createKey f')
          name pkg fs vs hok.1 hlen (by
            intro p h t x hp hx
            have hc := hflds p h t x hp hx
            have hmj := memberJV_cases o (fun vi ft fv => refVal o (tf' + 1) vf' vi ft fv) h t x
            unfold fieldChk at hc
            split at hc
            next k pk hk hpk =>
              simp only [Bool.and_eq_true, Bool.not_eq_true'] at hc
              obtain ⟨hfl, hrt⟩ := hc
              refine ⟨fun hor => ?_, fun _ _ _ _ _ => ?_⟩
              · rcases hor with h1 | h1 | h1 | h1
                · rw [hk] at h1; cases h1
                · rw [hpk] at h1; cases h1
                · exact empty_norm_zero o vf' t x hrt (Bool.and_eq_true_iff.1 h1).2
                · rcases hmj with ⟨_, s, _, hm⟩ | hm <;> rw [hm] at h1
                  · cases h1
                  · exact null_is_zero o (tf' + 1) vf' (isIface t) t (sliceIface_cond_field o t) x hrt h1
              · rcases hmj with ⟨ha, s, hsx, hm⟩ | hm <;> rw [hm]
                · exact ⟨x, fun r idx => strMember_ok o o.createKey vf' f' h t x s hrt ha (by simpa [ha] using hfl) hsx hf' r idx,
                    rfl⟩
                · obtain ⟨y, hy, hr⟩ := IH f' hf' (isIface t) t x (sliceIface_cond_field o t) hrt
                  exact ⟨y, fun r idx => hr r (some _) 2 (Or.inr rfl), hy⟩
            next hne => exact ⟨fun _ => zeroLike_norm t x hc, fun k pk hk hpk => (hne k pk hk hpk).elim⟩)
        exact rt_of_mode2 v' hv' rfl fun r sf => by
          simp only [recompG, recBody, refVal, refMembers, isNull]
          simp [hrec]

/-- `rt_core_vf` under the further hypothesis `vf ≤ n`, which is not used -/
theorem rt_core (o : Opts) (tf' : Nat) :
    ∀ (n vf : Nat), vf ≤ n → ∀ (f : Nat), vf ≤ f → ∀ (vi : Bool) (t : GoType) (v : GoVal),
      (vi && o.strict && isSliceIface t) = false → rtOK o vf t v = true →
      ∃ v', norm v' = norm v ∧ ∀ (r : Registry) (sf : Option IdxEntry) (mode : Nat), (mode = 1 ∨ mode = 2) →
        recompG pureCF o.createKey f r mode (refVal o (tf' + 1) vf vi t v) t sf = ⟨.ok v', r⟩ :=
  fun _ vf _ => rt_core_vf o tf' vf

/-! The options as alt reads them: with `UseTags`, `KeyExact` is not read (finding C15-usetags-keyexact). -/

theorem planOf_alt_eff (o : Opts) (tf : Nat) (om : Bool) (fs : List (FieldHdr × GoType)) :
    planOf .alt Dev.current o tf om fs = planOf .alt Dev.current (effOpts o) tf om fs := by
  cases hu : o.useTags with
  | false => simp [effOpts, hu]
  | true =>
    have e1 : (effOpts o).useTags = true := by simp [effOpts, hu]
    have e2 : (effOpts o).keyExact = true := by simp [effOpts, hu]
    have e3 : (effOpts o).nestEmbed = o.nestEmbed := by simp [effOpts, hu]
    simp only [planOf]
    rw [altFindex_cases, altFindex_cases]
    simp only [hu, e1, e2, e3, ↓reduceIte]
    exact altTagFields_congr (te := true) (ke := o.keyExact) (te' := true) (ke' := true) rfl _ _ _

theorem encode_alt_eff (o : Opts) (tf vf : Nat) (t : GoType) (v : GoVal) :
    encode .alt Dev.current (effOpts o) tf vf t v = encode .alt Dev.current o tf vf t v := by
  unfold encode
  have hq : quirksOf .alt Dev.current (effOpts o) = quirksOf .alt Dev.current o := rfl
  have hp : planOf .alt Dev.current (effOpts o) tf = planOf .alt Dev.current o tf := by
    funext om fs; exact (planOf_alt_eff o tf om fs).symm
  rw [hq, hp]
  apply encVal_opts_congr <;> (unfold effOpts; split <;> rfl)

theorem effOpts_tagcond (o : Opts) : (!(effOpts o).useTags || (effOpts o).keyExact) = true := by
  unfold effOpts
  cases hu : o.useTags <;> simp [hu]

/-- for `alt` of the current tree, read under the options as the code reads them, NO run meets a deviation:
the only live one (`tagExact`) is absorbed by `effOpts` -/
theorem untriggered_alt_eff (o : Opts) (tf : Nat) (plan : List (FieldHdr × GoType) → List Finfo) :
    ∀ (vf : Nat) (vi ie : Bool) (t : GoType) (v : GoVal),
      untriggered .alt Dev.current (effOpts o) tf plan vf vi ie t v = true := by
  intro vf
  induction vf with
  | zero => intro vi ie t v; rfl
  | succ n ih =>
    intro vi ie t v
    have hq : quirksOf .alt Dev.current (effOpts o) = ⟨false, false, false, false, false, false⟩ := rfl
    have hl : Dev.current.leak = false := rfl
    have ht : Dev.current.tagExact = true := rfl
    have htc := effOpts_tagcond o
    unfold untriggered
    split <;>
      simp only [hq, ih, hl, ht, Bool.false_and, Bool.not_false, Bool.and_false, Bool.and_true, List.all_eq_true,
        implies_true, Bool.true_and, childOE, Bool.true_or, Bool.not_true, Bool.false_or]
    rw [htc, Bool.true_and, List.all_eq_true]
    intro fi _
    split <;> rfl

end OjgVerif.Reflect
