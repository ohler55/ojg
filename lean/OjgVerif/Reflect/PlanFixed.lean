import OjgVerif.Reflect.Model
/-! The plan the options name for a struct type when every deviation of `Dev` is repaired. It is the plan argument
of `untriggered` in the statements of C15 and C16 and what the driver evaluates for the `rtok` query, so it stands
apart from the lemmas about it (`Reflect/Lemmas.lean`). -/
namespace OjgVerif.Reflect

/-- the plan the options name, with all deviations repaired and `OmitEmpty` off -/
def planFixed (o : Opts) (tf : Nat) (fs : List (FieldHdr × GoType)) : List Finfo :=
  if o.useTags then altTagFields false o.keyExact o.nestEmbed tf fs
  else plainFields o.keyExact o.nestEmbed false tf fs

end OjgVerif.Reflect
