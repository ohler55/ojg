import OjgVerif.Common.Driver
import OjgVerif.Reflect.Model
import OjgVerif.Reflect.Registry
import OjgVerif.Reflect.RoundTripSpec
import OjgVerif.Reflect.PlanFixed
/-! Driver ops of the `reflect` family (line protocol, see `Common/Driver.lean`).

Types and values travel as space separated tokens in prefix form (strings as hex, `-` = empty):

* type: `b` · `i0`…`i9` · `f32` `f64` · `s` · `y` ([]byte) · `I` (interface{}) · `L T` · `A n T` ·
  `M T` · `P T` · `S name pkg n (fname tag|~ e|n T)*`
* value: `t` `f` · `i n` · `d text` · `s hex` · `y hex` / `Y` (nil) · `l n v*` / `L` · `a n v*` ·
  `m n (key v)*` / `M` · `p v` / `P` · `j T v` / `J` · `r n v*`

Ops:
* `enc <oj|sen|alt|ref> <dev> <flags> <bytesAs> <createKey> <type> <value>` — the tree the encoder
  (model) / the reference describes; `<dev>` is `-` or letters of `lxyenmo` (`Dev` flags in the order
  of the structure); `<flags>` eight 0/1: tags exact nest omitnil omitempty fullpath indent strict.
  Answers `panic`, `outside` (not in the modelled fragment) or the canonical tree.
* `rtok <flags> <bytesAs> <createKey> <type> <value>` — `yes` when the hypotheses of the round-trip theorem
  (`rtOK (effOpts o)`, no interface slot, OmitNil/OmitEmpty off) hold, else `no`; with the strict flag set the
  hypotheses of `recompose_inverts_marshal_tree` (the oj.Marshal route: `untriggered .oj`, `rtOK o`).
* `recomp <b|-> <createKey> <history> <type> <tree>` — `Recompose(tree, new(type))` on a recomposer that
  has seen the history; `b`: the code as it is (lookup by bare name), `-`: with the repair.
  `<history>` is `-` or events joined by ` ; `: `R <type>` (RegisterComposer) or `C <type> | <tree>`
  (an earlier Recompose); `<tree>` is the canonical text of `JV.render` (floats: hex of the decimal
  text). Answers the value in token form, `error`, or `outside`. -/
namespace OjgVerif.Reflect
open OjgVerif

def fuelT : Nat := 64

def pFields (p : List String → Option (GoType × List String)) :
    Nat → List String → List (FieldHdr × GoType) → Option (List (FieldHdr × GoType) × List String)
  | 0, r, acc => some (acc.reverse, r)
  | n + 1, nm :: tg :: fl :: r, acc =>
    match ofHex nm, (if tg = "~" then some [] else ofHex tg), p r with
    | some name, some tag, some (t, r') =>
      if fl = "e" ∨ fl = "n" then pFields p n r' ((⟨name, tag, fl = "e"⟩, t) :: acc) else none
    | _, _, _ => none
  | _ + 1, _, _ => none

def pType : Nat → List String → Option (GoType × List String)
  | 0, _ => none
  | _ + 1, [] => none
  | n + 1, tok :: r =>
    if tok = "b" then some (.bool, r)
    else if tok = "f32" then some (.float true, r)
    else if tok = "f64" then some (.float false, r)
    else if tok = "s" then some (.str, r)
    else if tok = "y" then some (.bytes, r)
    else if tok = "I" then some (.iface, r)
    else if tok = "L" then (pType n r).map fun x => (.slice x.1, x.2)
    else if tok = "M" then (pType n r).map fun x => (.map x.1, x.2)
    else if tok = "P" then (pType n r).map fun x => (.ptr x.1, x.2)
    else if tok = "A" then
      match r with
      | k :: r1 =>
        match k.toNat? with
        | some len => (pType n r1).map fun x => (.array len x.1, x.2)
        | none => none
      | [] => none
    else if tok = "S" then
      match r with
      | nm :: pk :: cnt :: r1 =>
        match ofHex nm, ofHex pk, cnt.toNat? with
        | some name, some pkg, some c => (pFields (pType n) c r1 []).map fun x => (.struct name pkg x.1, x.2)
        | _, _, _ => none
      | _ => none
    else
      match tok.toList with
      | ['i', d] => if '0' ≤ d ∧ d ≤ '9' then some (.int (d.toNat - 48), r) else none
      | _ => none

def pVals (p : List String → Option (GoVal × List String)) :
    Nat → List String → List GoVal → Option (List GoVal × List String)
  | 0, r, acc => some (acc.reverse, r)
  | n + 1, r, acc =>
    match p r with
    | some (v, r') => pVals p n r' (v :: acc)
    | none => none

def pKVs (p : List String → Option (GoVal × List String)) :
    Nat → List String → List (Bytes × GoVal) → Option (List (Bytes × GoVal) × List String)
  | 0, r, acc => some (acc.reverse, r)
  | n + 1, k :: r, acc =>
    match ofHex k, p r with
    | some key, some (v, r') => pKVs p n r' ((key, v) :: acc)
    | _, _ => none
  | _ + 1, [], _ => none

def pVal : Nat → List String → Option (GoVal × List String)
  | 0, _ => none
  | _ + 1, [] => none
  | n + 1, tok :: r =>
    if tok = "t" then some (.bool true, r)
    else if tok = "f" then some (.bool false, r)
    else if tok = "Y" then some (.nilBytes, r)
    else if tok = "L" then some (.nilSlice, r)
    else if tok = "M" then some (.nilMap, r)
    else if tok = "P" then some (.nilPtr, r)
    else if tok = "J" then some (.nilIface, r)
    else if tok = "p" then (pVal n r).map fun x => (.ptr x.1, x.2)
    else if tok = "j" then
      match pType fuelT r with
      | some (t, r1) => (pVal n r1).map fun x => (.iface t x.1, x.2)
      | none => none
    else
      match r with
      | [] => none
      | a :: r1 =>
        if tok = "i" then a.toInt?.map fun i => (.int i, r1)
        else if tok = "d" then (ofHex a).map fun b => (.flt b, r1)
        else if tok = "s" then (ofHex a).map fun b => (.str b, r1)
        else if tok = "y" then (ofHex a).map fun b => (.bytes b, r1)
        else
          match a.toNat? with
          | none => none
          | some c =>
            if tok = "l" then (pVals (pVal n) c r1 []).map fun x => (.slice x.1, x.2)
            else if tok = "a" then (pVals (pVal n) c r1 []).map fun x => (.arr x.1, x.2)
            else if tok = "r" then (pVals (pVal n) c r1 []).map fun x => (.struct x.1, x.2)
            else if tok = "m" then (pKVs (pVal n) c r1 []).map fun x => (.map x.1, x.2)
            else none

def toks (s : String) : List String := (s.splitOn " ").filter (· ≠ "")

def readType (s : String) : Option GoType :=
  match pType fuelT (toks s) with
  | some (t, []) => some t
  | _ => none

def readVal (s : String) : Option GoVal :=
  match pVal 256 (toks s) with
  | some (v, []) => some v
  | _ => none

def readDev (s : String) : Option Dev :=
  if s.toList.all (fun c => c = 'l' || c = 'x' || c = 'y' || c = 'e' || c = 'n' || c = 'm' || c = 'o' || c = '-') then
    some ⟨s.contains 'l', s.contains 'x', s.contains 'y', s.contains 'e', s.contains 'n', s.contains 'm', s.contains 'o'⟩
  else none

def readOpts (flags bytesAs ck : String) : Option Opts :=
  match flags.toList.map (fun c => decide (c = '1')), bytesAs.toNat?, ofHex ck with
  | [a, b, c, d, e, f, g, h], some ba, some key =>
    if flags.toList.all (fun c => c = '0' || c = '1') then some ⟨a, b, c, d, e, f, g, h, ba, key⟩ else none
  | _, _, _ => none

mutual
  def hasPanic : JV → Bool
    | .num t => t == [112, 97, 110, 105, 99]
    | .arr xs => anyPanic xs
    | .obj kvs => anyPanicKv kvs
    | _ => false
  def anyPanic : List JV → Bool
    | [] => false
    | x :: r => hasPanic x || anyPanic r
  def anyPanicKv : List (Bytes × JV) → Bool
    | [] => false
    | (_, x) :: r => hasPanic x || anyPanicKv r
end

def outcome (v : JV) : String := if hasPanic v then "panic" else v.render

/-! ### the fragment -/

mutual
  def typeInFragment : GoType → Bool
    | .ptr (.ptr _) => false
    | .ptr .bytes => false
    | .ptr .iface => false
    | .ptr e => typeInFragment e
    | .slice e => typeInFragment e
    | .array _ e => typeInFragment e
    | .map e => typeInFragment e
    | .struct _ _ fs => fieldsInFragment fs
    | _ => true
  def fieldsInFragment : List (FieldHdr × GoType) → Bool
    | [] => true
    | (h, t) :: r =>
      (match h.name with
        | [] => false
        | c :: _ => (65 ≤ c && c ≤ 90) || (97 ≤ c && c ≤ 122)) &&
      (!h.embedded || (match t with
        | .struct _ _ _ => true
        | .ptr (.struct _ _ _) => true
        | _ => false)) &&
      typeInFragment t && fieldsInFragment r
end

/-- An interface stores a value of a pointer-shaped type (pointer, map, a struct with one such field,
an array of one such element) directly in its data word; the "real nil check" of the `…NotEmpty`
plan functions reads that word, so such a value with a nil word is taken for a nil interface
(known finding `C15-iface-nil-word`; like a typed nil pointer it is outside the model). -/
def wordNil : Nat → GoVal → Bool
  | 0, _ => false
  | _ + 1, .nilPtr => true
  | _ + 1, .nilMap => true
  | n + 1, .struct [x] => wordNil n x
  | n + 1, .arr [x] => wordNil n x
  | _ + 1, _ => false

mutual
  def valInFragment : GoVal → Bool
    | .iface t v => typeInFragment t && valInFragment v && !wordNil 16 v
    | .ptr v => valInFragment v
    | .slice xs => valsInFragment xs
    | .arr xs => valsInFragment xs
    | .struct xs => valsInFragment xs
    | .map kvs => kvsInFragment kvs
    | _ => true
  def valsInFragment : List GoVal → Bool
    | [] => true
    | x :: r => valInFragment x && valsInFragment r
  def kvsInFragment : List (Bytes × GoVal) → Bool
    | [] => true
    | (_, x) :: r => valInFragment x && kvsInFragment r
end

def handleEnc (which dev flags bytesAs ck ty val : String) : String :=
  match readDev dev, readOpts flags bytesAs ck, readType ty, readVal val with
  | some d, some o, some t, some v =>
    if o.omitNil || o.omitEmpty || !typeInFragment t || !valInFragment v then "outside"
    else if which = "oj" then outcome (encode .oj d o fuelT 256 t v)
    else if which = "sen" then outcome (encode .sen d o fuelT 256 t v)
    else if which = "alt" then outcome (encode .alt d o fuelT 256 t v)
    else if which = "ref" then outcome (refEncode o fuelT 256 t v)
    else "bad-op"
  | _, _, _, _ => "bad-op"

/-! ### C16: trees in, values out -/

def spanClose : List Char → List Char → Option (List Char × List Char)
  | [], _ => none
  | c :: r, acc => if c = ')' then some (acc.reverse, r) else spanClose r (c :: acc)

def readIntChars (cs : List Char) : Option Int := (String.ofList cs).toInt?

def pElems (p : List Char → Option (JV × List Char)) : Nat → List Char → List JV → Option (List JV × List Char)
  | 0, _, _ => none
  | n + 1, cs, acc =>
    match p cs with
    | none => none
    | some (v, ',' :: r) => pElems p n r (v :: acc)
    | some (v, ']' :: r) => some ((v :: acc).reverse, r)
    | some _ => none

def pMembers (p : List Char → Option (JV × List Char)) : Nat → List Char → List (Bytes × JV) → Option (List (Bytes × JV) × List Char)
  | 0, _, _ => none
  | n + 1, cs, acc =>
    match cs with
    | 'K' :: '(' :: r =>
      match spanClose r [] with
      | none => none
      | some (hx, r2) =>
        match ofHex (String.ofList hx), p r2 with
        | some k, some (v, ',' :: r3) => pMembers p n r3 ((k, v) :: acc)
        | some k, some (v, '}' :: r3) => some (((k, v) :: acc).reverse, r3)
        | _, _ => none
    | _ => none

def pJV : Nat → List Char → Option (JV × List Char)
  | 0, _ => none
  | n + 1, cs =>
    match cs with
    | 'n' :: r => some (.null, r)
    | 't' :: r => some (.bool true, r)
    | 'f' :: r => some (.bool false, r)
    | '[' :: ']' :: r => some (.arr [], r)
    | '[' :: r => (pElems (pJV n) cs.length r []).map (fun x => (.arr x.1, x.2))
    | '{' :: '}' :: r => some (.obj [], r)
    | '{' :: r => (pMembers (pJV n) cs.length r []).map (fun x => (.obj x.1, x.2))
    | c :: '(' :: r =>
      match spanClose r [] with
      | none => none
      | some (body, r2) =>
        if c = 'I' then (readIntChars body).map (fun i => (.int i, r2))
        else if c = 'F' then (ofHex (String.ofList body)).map (fun t => (.flt t, r2))
        else if c = 'B' then (ofHex (String.ofList body)).map (fun t => (.big t, r2))
        else if c = 'S' then (ofHex (String.ofList body)).map (fun t => (.str t, r2))
        else none
    | _ => none

def readJV (s : String) : Option JV :=
  match pJV (s.length + 1) s.toList with
  | some (v, []) => some v
  | _ => none

mutual
  def typeToks : GoType → String
    | .bool => "b "
    | .int k => "i" ++ toString k ++ " "
    | .float true => "f32 "
    | .float false => "f64 "
    | .str => "s "
    | .bytes => "y "
    | .iface => "I "
    | .slice e => "L " ++ typeToks e
    | .array n e => "A " ++ toString n ++ " " ++ typeToks e
    | .map e => "M " ++ typeToks e
    | .ptr e => "P " ++ typeToks e
    | .struct name pkg fs => "S " ++ toHexF name ++ " " ++ toHexF pkg ++ " " ++ toString fs.length ++ " " ++ fieldToks fs
  def fieldToks : List (FieldHdr × GoType) → String
    | [] => ""
    | (h, t) :: r =>
      toHexF h.name ++ " " ++ (if h.tag.isEmpty then "~" else toHexF h.tag) ++ " " ++ (if h.embedded then "e " else "n ") ++
        typeToks t ++ fieldToks r
end

mutual
  def valToks : GoVal → String
    | .bool true => "t "
    | .bool false => "f "
    | .int i => "i " ++ toString i ++ " "
    | .flt t => "d " ++ toHexF t ++ " "
    | .str s => "s " ++ toHexF s ++ " "
    | .nilBytes => "Y "
    | .bytes b => "y " ++ toHexF b ++ " "
    | .nilSlice => "L "
    | .slice xs => "l " ++ toString xs.length ++ " " ++ valsToks xs
    | .arr xs => "a " ++ toString xs.length ++ " " ++ valsToks xs
    | .nilMap => "M "
    | .map kvs => "m " ++ toString kvs.length ++ " " ++ kvsToks kvs
    | .nilPtr => "P "
    | .ptr v => "p " ++ valToks v
    | .nilIface => "J "
    | .iface t v => "j " ++ typeToks t ++ valToks v
    | .struct vs => "r " ++ toString vs.length ++ " " ++ valsToks vs
  def valsToks : List GoVal → String
    | [] => ""
    | x :: r => valToks x ++ valsToks r
  def kvsToks : List (Bytes × GoVal) → String
    | [] => ""
    | (k, x) :: r => toHexF k ++ " " ++ valToks x ++ kvsToks r
end

def readEvent (s : String) : Option Event :=
  match toks s with
  | "R" :: r =>
    match pType fuelT r with
    | some (t, []) => some (.register t)
    | _ => none
  | "C" :: r =>
    match pType fuelT r with
    | some (t, ["|", tree]) => (readJV tree).map fun j => .recompose t j
    | _ => none
  | _ => none

def readEvents (s : String) : Option (List Event) :=
  if s = "-" then some [] else (s.splitOn " ; ").mapM readEvent

def slotText : Slot → String
  | .ok v => (valToks v).trimAsciiEnd.toString
  | .panic => "error"
  | .outside => "outside"

def handleRecomp : List String → String
  | [dev, ck, events, ty, tree] =>
    match (if dev = "b" then some true else if dev = "-" then some false else none), ofHex ck, readEvents events,
        readType ty, readJV tree with
    | some bare, some key, some h, some t, some j =>
      if !typeInFragment t then "outside" else slotText (recompose bare key (regAfter bare key h) t j)
    | _, _, _, _, _ => "bad-op"
  | _ => "bad-op"

/-- `rtok <flags> <bytesAs> <createKey> <type> <value>`: do the hypotheses of the round-trip theorem
(`OjgVerif.C16.recompose_inverts_decompose_history`) hold for this case — `yes` / `no` -/
def handleRtok (flags bytesAs ck ty val : String) : String :=
  match readOpts flags bytesAs ck, readType ty, readVal val with
  | some o, some t, some v =>
    if o.strict then
      -- the oj.Marshal route: hypotheses of `recompose_inverts_marshal_tree`
      (if !o.omitNil && !o.omitEmpty && typeInFragment t && valInFragment v && noIface t && !isSliceIface t &&
          untriggered .oj Dev.current o fuelT (planFixed o fuelT) 256 true false t v && rtOK o 256 t v then "yes" else "no")
    else if !o.omitNil && !o.omitEmpty && typeInFragment t && valInFragment v && noIface t &&
        rtOK (effOpts o) 256 t v then "yes"
    else "no"
  | _, _, _ => "bad-op"

def handle : List String → String
  | ["enc", which, dev, flags, bytesAs, ck, ty, val] => handleEnc which dev flags bytesAs ck ty val
  | ["rtok", flags, bytesAs, ck, ty, val] => handleRtok flags bytesAs ck ty val
  | "recomp" :: args => handleRecomp args
  | _ => "bad-op"

end OjgVerif.Reflect
