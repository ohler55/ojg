import OjgVerif.Json.NumAcc
/-! # The accumulator of `gen/number.go` tracks the literal exactly

`Tracks n p`: after the bytes of the (possibly unfinished) literal `p` the accumulator `n` either holds `p`
exactly in its integer fields (`Exact`: nothing has wrapped, the integer part fits int64), or it is
in text form and its text is a decimal text with the same sign, the same integer value, fraction
digits of the same number and value, and the same exponent as `p` (`TextB`/`Sim`). Every accumulator
operation (`AddDigit`, `AddFrac`, `AddExp`, and the bytes `.`, `e`/`E`, `+`/`-` passed through in text
form) preserves `Tracks`; `FillBig` writes a text that is `Sim` to what the fields hold. -/
namespace OjgVerif.Json

theorem fmtNatAux_pow (k : Nat) : ∀ (fuel m : Nat) (acc : Bytes), m < 10 ^ k → k + 1 ≤ fuel →
    ∃ t, fmtNatAux fuel (10 ^ k + m) acc = 49 :: (t ++ acc) ∧ t.length = k ∧ natOf t = m ∧ Dig t := by
  induction k with
  | zero =>
    intro fuel m acc hm hf
    have hm0 : m = 0 := by simpa using hm
    subst hm0
    obtain ⟨f, rfl⟩ : ∃ f, fuel = f + 1 := ⟨fuel - 1, by omega⟩
    refine ⟨[], ?_, rfl, rfl, Dig.nil⟩
    simp [fmtNatAux]
  | succ k ih =>
    intro fuel m acc hm hf
    obtain ⟨f, rfl⟩ : ∃ f, fuel = f + 1 := ⟨fuel - 1, by omega⟩
    have hp : 10 ^ (k + 1) = 10 * 10 ^ k := by rw [Nat.pow_succ, Nat.mul_comm]
    have hpos : 0 < 10 ^ k := Nat.pow_pos (by omega)
    have hge : ¬ (10 ^ (k + 1) + m < 10) := by omega
    have hdiv : (10 ^ (k + 1) + m) / 10 = 10 ^ k + m / 10 := by omega
    have hmod : (10 ^ (k + 1) + m) % 10 = m % 10 := by omega
    obtain ⟨t, ht, hlen, hnat, hdig⟩ := ih f (m / 10) (UInt8.ofNat (48 + m % 10) :: acc) (by omega) (by omega)
    refine ⟨t ++ [UInt8.ofNat (48 + m % 10)], ?_, by simp [hlen], ?_, ?_⟩
    · unfold fmtNatAux
      rw [if_neg hge, hdiv, hmod, ht]
      simp
    · rw [natOf_snoc, hnat, dval_ofNat _ (by omega)]; omega
    · exact hdig.snoc (isDigit_ofNat _ (Nat.mod_lt _ (by omega)))

/-- `FormatUint(10^k + m)` for `m < 10^k` is `'1'` followed by exactly `k` digits whose value is `m`
(this is how `FillBig` keeps the leading zeros of the fraction) -/
theorem fmtNat_pow_add (k m : Nat) (hm : m < 10 ^ k) :
    ∃ t, fmtNat (10 ^ k + m) = 49 :: t ∧ t.length = k ∧ natOf t = m ∧ Dig t := by
  have hk : k < 10 ^ k := Nat.lt_pow_self (by omega)
  obtain ⟨t, ht, h2, h3, h4⟩ := fmtNatAux_pow k (10 ^ k + m + 1) m [] hm (by omega)
  exact ⟨t, by unfold fmtNat; rw [ht, List.append_nil], h2, h3, h4⟩

def fracDigits (n : Num) : Bytes := (fmtNat (n.frac + n.div).toNat).tail

/-- the text `FillBig` writes, cut into parts -/
def fillParts (n : Num) : Parts :=
  { neg := n.neg
    ip := fmtNat n.i.toNat
    fo := if 1 < n.div then some (fracDigits n) else none
    eo := if 0 < n.exp then some ⟨101, if n.negExp then [45] else [], fmtNat n.exp.toNat⟩ else none }

/-- `hfr` cuts off the branch `1000000000000000000 ≤ n.frac` of `FillBig`, which writes the digits of `frac`
where the other writes those of `frac + div` behind the first (so the leading zeros are kept). That branch is
never reached: a fraction held in the fields has at most 18 digits (`Held`, `held_frac_lt18`). -/
theorem fillBig_render (n : Num) (hbig : n.big = []) (hfr : n.frac.toNat < 1000000000000000000) :
    n.fillBig.big = render (fillParts n) := by
  have hnot : ¬ ((1000000000000000000 : UInt64) ≤ n.frac) := by
    rw [UInt64.le_iff_toNat_le]
    have : (1000000000000000000 : UInt64).toNat = 1000000000000000000 := rfl
    omega
  unfold Num.fillBig fillParts render
  simp only [hbig, hnot, ↓reduceIte, List.nil_append]
  cases n.neg <;> by_cases hd : 1 < n.div <;> by_cases he : 0 < n.exp <;> cases n.negExp <;>
    simp [hd, he, sgnTxt, fracTxt, expTxt, fracDigits]

theorem fillBig_fields (n : Num) : n.fillBig = { n with big := n.fillBig.big } := by
  unfold Num.fillBig; rfl

/-- the integer fields hold the parts exactly (`uint64` values read as naturals: nothing has wrapped). The
bound 18 on the fraction digits: `AddFrac` puts a digit into the fields only while `frac` and `div` are at most
`BigLimit`, and `div = 10^k ≤ BigLimit` means `k ≤ 17` (`pow10_le_bigLimit`, `frac_step`). So `frac < 10^18 <
MaxInt64`, and the tests `MaxInt64 < Frac` of `AddFrac` and `10^18 ≤ Frac` of `FillBig` never succeed on the way. -/
def Held (n : Num) (p : Parts) : Prop :=
  n.neg = p.neg ∧ n.i.toNat = natOf p.ip ∧ n.frac.toNat = fracNat p.fo ∧ n.div.toNat = 10 ^ fracLen p.fo ∧
  fracLen p.fo ≤ 18 ∧ n.exp.toNat = expNat p.eo ∧ n.negExp = expNeg p.eo

/-- not in text form, fields exact, integer part within int64 -/
def Exact (n : Num) (p : Parts) : Prop :=
  n.big = [] ∧ Held n p ∧ natOf p.ip ≤ 9223372036854775807

/-- fraction digits of the text against those of the literal: same count, same value -/
def FSim : Option Bytes → Option Bytes → Prop
  | none, none => True
  | some fs, some fs' => Dig fs' ∧ fs'.length = fs.length ∧ natOf fs' = natOf fs
  | _, _ => False

/-- exponent part of the text against that of the literal: same sign, same value; as long as no
exponent digit has been read the text is the literal's own bytes -/
def ESim : Option ExpPart → Option ExpPart → Prop
  | none, none => True
  | some x, some x' =>
    (x'.e = 101 ∨ x'.e = 69) ∧ (x'.sg = [] ∨ x'.sg = [43] ∨ x'.sg = [45]) ∧ Dig x'.es ∧
    (x'.sg = [45] ↔ x.sg = [45]) ∧ natOf x'.es = natOf x.es ∧ (x.es = [] → x' = x) ∧ (x.es ≠ [] → x'.es ≠ [])
  | _, _ => False

theorem FSim.of_none {fo' : Option Bytes} (h : FSim none fo') : fo' = none := by
  cases fo' with
  | none => rfl
  | some _ => exact h.elim

theorem FSim.of_some {fs : Bytes} {fo' : Option Bytes} (h : FSim (some fs) fo') :
    ∃ fs', fo' = some fs' ∧ Dig fs' ∧ fs'.length = fs.length ∧ natOf fs' = natOf fs := by
  cases fo' with
  | none => exact h.elim
  | some fs' => exact ⟨fs', rfl, h⟩

theorem ESim.of_none {eo' : Option ExpPart} (h : ESim none eo') : eo' = none := by
  cases eo' with
  | none => rfl
  | some _ => exact h.elim

theorem ESim.of_some {x : ExpPart} {eo' : Option ExpPart} (h : ESim (some x) eo') :
    ∃ x', eo' = some x' ∧ ESim (some x) (some x') := by
  cases eo' with
  | none => exact h.elim
  | some x' => exact ⟨x', rfl, h⟩

/-- the parts `p'` of a text against the parts `p` of the literal read so far -/
def Sim (p p' : Parts) : Prop :=
  p'.neg = p.neg ∧ Dig p'.ip ∧ p'.ip ≠ [] ∧ natOf p'.ip = natOf p.ip ∧ FSim p.fo p'.fo ∧ ESim p.eo p'.eo

/-- `t` is a decimal text that agrees with the literal read so far -/
def TextB (t : Bytes) (p : Parts) : Prop := ∃ p', t = render p' ∧ Sim p p'

/-- after the bytes of `p` the accumulator holds `p` exactly in its fields, or is in text form with a text that
agrees with `p` -/
def Tracks (n : Num) (p : Parts) : Prop := Exact n p ∨ (n.big ≠ [] ∧ TextB n.big p)

theorem render_ne_nil (p : Parts) (h : p.ip ≠ []) : render p ≠ [] := by
  unfold render
  cases hip : p.ip with
  | nil => exact absurd hip h
  | cons d r => cases p.neg <;> simp [sgnTxt]

theorem textB_ne_nil {t : Bytes} {p : Parts} (h : TextB t p) : t ≠ [] := by
  obtain ⟨p', rfl, hs⟩ := h
  exact render_ne_nil p' hs.2.2.1

theorem tracks_of_text {n : Num} {p : Parts} (h : TextB n.big p) : Tracks n p := Or.inr ⟨textB_ne_nil h, h⟩

theorem sim_pval {p p' : Parts} (hs : Sim p p') (hw : p.WF) : p'.WF ∧ pval p' = pval p := by
  obtain ⟨hneg, hdig, hne, hnat, hf, he⟩ := hs
  obtain ⟨_, _, hwf, hwe⟩ := hw
  obtain ⟨s, ip, fo, eo⟩ := p
  obtain ⟨s', ip', fo', eo'⟩ := p'
  simp only at hneg hdig hne hnat hf he hwf hwe
  subst hneg
  have hfrac : (∀ fs, fo' = some fs → Dig fs ∧ fs ≠ []) ∧ fracLen fo' = fracLen fo ∧ fracNat fo' = fracNat fo := by
    cases fo with
    | none => obtain rfl := hf.of_none; exact ⟨(fun _ h => nomatch h), rfl, rfl⟩
    | some fs =>
        obtain ⟨fs', rfl, h1, h2, h3⟩ := hf.of_some
        refine ⟨fun x hx => ?_, h2, h3⟩
        cases hx
        refine ⟨h1, fun h0 => ?_⟩
        rw [h0] at h2
        exact (hwf fs rfl).2 (List.length_eq_zero_iff.mp h2.symm)
  have hexp : (∀ x, eo' = some x → x.WF) ∧ expNeg eo' = expNeg eo ∧ expNat eo' = expNat eo := by
    cases eo with
    | none => obtain rfl := he.of_none; exact ⟨(fun _ h => nomatch h), rfl, rfl⟩
    | some x =>
        obtain ⟨x', rfl, h1, h2, h3, h4, h5, _, h7⟩ := he.of_some
        refine ⟨fun y hy => ?_, ?_, h5⟩
        · cases hy
          exact ⟨h1, h2, h3, h7 (hwe x rfl).2.2.2⟩
        · simp only [expNeg]
          exact decide_eq_decide.mpr h4
  refine ⟨⟨hdig, hne, hfrac.1, hexp.1⟩, ?_⟩
  simp only [pval, mantNat, expVal, hnat, hfrac.2.1, hfrac.2.2, hexp.2.1, hexp.2.2]

/-- a text that agrees with a well-formed `p` is a decimal text and denotes the value of `p` -/
theorem TextB.decVal {t : Bytes} {p : Parts} (h : TextB t p) (hw : p.WF) : decVal t = some (pval p) := by
  obtain ⟨p', rfl, hs⟩ := h
  obtain ⟨hw', hv⟩ := sim_pval hs hw
  rw [decVal_render p' hw', hv]

theorem held_frac_lt {n : Num} {p : Parts} (hc : Held n p) (hfd : ∀ fs, p.fo = some fs → Dig fs) :
    n.frac.toNat < 10 ^ fracLen p.fo := by
  obtain ⟨_, _, h3, _, _, _, _⟩ := hc
  rw [h3]
  cases hfo : p.fo with
  | none => simp [fracNat, fracLen]
  | some fs => exact natOf_lt_pow fs (isDigitB_of_dig (hfd fs hfo))

theorem held_frac_lt18 {n : Num} {p : Parts} (hc : Held n p) (hfd : ∀ fs, p.fo = some fs → Dig fs) :
    n.frac.toNat < 1000000000000000000 := by
  have h1 := held_frac_lt hc hfd
  have h2 : 10 ^ fracLen p.fo ≤ 10 ^ 18 := Nat.pow_le_pow_right (by omega) hc.2.2.2.2.1
  rw [pow10_18] at h2
  omega

/-- the parts `FillBig` writes agree with the parts the fields hold, provided a fraction that has been
started has a digit and an exponent that has been started is positive (the only states in which
`FillBig` is called on the way) -/
theorem held_sim {n : Num} {p : Parts} (hc : Held n p)
    (hfo : ∀ fs, p.fo = some fs → Dig fs ∧ fs ≠ []) (heo : ∀ x, p.eo = some x → 0 < natOf x.es) :
    Sim p (fillParts n) := by
  have hfl := held_frac_lt hc (fun fs h => (hfo fs h).1)
  obtain ⟨h1, h2, h3, h4, h5, h6, h7⟩ := hc
  refine ⟨h1, fmtNat_dig _, fmtNat_ne_nil _, by simp only [fillParts, natOf_fmtNat, h2], ?_, ?_⟩
  · simp only [fillParts]
    cases hfo' : p.fo with
    | none =>
      rw [hfo'] at h4
      have : ¬ (1 < n.div) := by
        rw [UInt64.lt_iff_toNat_lt, h4]; simp [fracLen]
      simp [this, FSim]
    | some fs =>
      rw [hfo'] at h3 h4 h5 hfl
      simp only [fracLen, fracNat] at h3 h4 h5 hfl
      obtain ⟨hdig, hne⟩ := hfo fs hfo'
      have hlen : 1 ≤ fs.length := List.length_pos_iff.mpr hne
      have h10 : 10 ^ 1 ≤ 10 ^ fs.length := Nat.pow_le_pow_right (by omega) hlen
      have h18 : 10 ^ fs.length ≤ 10 ^ 18 := Nat.pow_le_pow_right (by omega) h5
      rw [pow10_18] at h18
      have hdiv : 1 < n.div := by
        rw [UInt64.lt_iff_toNat_lt, h4]
        have : (1 : UInt64).toNat = 1 := rfl
        omega
      have hsum : (n.frac + n.div).toNat = 10 ^ fs.length + natOf fs := by
        rw [UInt64.toNat_add, h3, h4]; omega
      obtain ⟨t, ht, hl, hn, hd⟩ := fmtNat_pow_add fs.length (natOf fs) (by rw [← h3]; exact hfl)
      simp only [hdiv, ↓reduceIte, fracDigits, hsum, ht, List.tail_cons]
      exact ⟨hd, hl, hn⟩
  · simp only [fillParts]
    cases heo' : p.eo with
    | none =>
      rw [heo'] at h6
      have : ¬ (0 < n.exp) := by
        rw [UInt64.lt_iff_toNat_lt, h6]; simp [expNat]
      simp [this, ESim]
    | some x =>
      rw [heo'] at h6 h7
      simp only [expNat, expNeg] at h6 h7
      have hpos := heo x heo'
      have hexp : 0 < n.exp := by
        rw [UInt64.lt_iff_toNat_lt, h6]; exact hpos
      have hne : x.es ≠ [] := by
        intro h0; rw [h0] at hpos; simp [natOf] at hpos
      simp only [hexp, ↓reduceIte]
      refine ⟨Or.inl rfl, ?_, fmtNat_dig _, ?_, by rw [natOf_fmtNat, h6], fun h0 => absurd h0 hne,
        fun _ => fmtNat_ne_nil _⟩
      · cases n.negExp <;> simp
      · rw [h7]
        by_cases hs : x.sg = [45] <;> simp [hs]

theorem held_fill {n : Num} {p : Parts} (hbig : n.big = []) (hc : Held n p)
    (hfo : ∀ fs, p.fo = some fs → Dig fs ∧ fs ≠ []) (heo : ∀ x, p.eo = some x → 0 < natOf x.es) :
    TextB n.fillBig.big p :=
  ⟨fillParts n, fillBig_render n hbig (held_frac_lt18 hc (fun fs h => (hfo fs h).1)), held_sim hc hfo heo⟩

theorem textB_digit {t : Bytes} {s : Bool} {ip : Bytes} {b : UInt8} (hb : Spec.isDigit b = true)
    (h : TextB t ⟨s, ip, none, none⟩) : TextB (t ++ [b]) ⟨s, ip ++ [b], none, none⟩ := by
  obtain ⟨⟨s', ip', fo', eo'⟩, rfl, hneg, hdig, hne, hnat, hf, he⟩ := h
  obtain rfl := hf.of_none
  obtain rfl := he.of_none
  exact ⟨⟨s', ip' ++ [b], none, none⟩, by simp [render, fracTxt, expTxt], hneg, hdig.snoc hb, by simp,
    by simp only [natOf_snoc, hnat], hf, he⟩

theorem textB_dot {t : Bytes} {s : Bool} {ip : Bytes}
    (h : TextB t ⟨s, ip, none, none⟩) : TextB (t ++ [46]) ⟨s, ip, some [], none⟩ := by
  obtain ⟨⟨s', ip', fo', eo'⟩, rfl, hneg, hdig, hne, hnat, hf, he⟩ := h
  obtain rfl := hf.of_none
  obtain rfl := he.of_none
  exact ⟨⟨s', ip', some [], none⟩, by simp [render, fracTxt, expTxt], hneg, hdig, hne, hnat, ⟨Dig.nil, rfl, rfl⟩, he⟩

theorem textB_frac {t : Bytes} {s : Bool} {ip fs : Bytes} {b : UInt8} (hb : Spec.isDigit b = true)
    (h : TextB t ⟨s, ip, some fs, none⟩) : TextB (t ++ [b]) ⟨s, ip, some (fs ++ [b]), none⟩ := by
  obtain ⟨⟨s', ip', fo', eo'⟩, rfl, hneg, hdig, hne, hnat, hf, he⟩ := h
  obtain ⟨fs', rfl, h1, h2, h3⟩ := hf.of_some
  obtain rfl := he.of_none
  exact ⟨⟨s', ip', some (fs' ++ [b]), none⟩, by simp [render, fracTxt, expTxt], hneg, hdig, hne, hnat,
    ⟨h1.snoc hb, by simp [h2], by simp only [natOf_snoc, h3]⟩, he⟩

theorem textB_e {t : Bytes} {s : Bool} {ip : Bytes} {fo : Option Bytes} {e : UInt8} (he' : e = 101 ∨ e = 69)
    (h : TextB t ⟨s, ip, fo, none⟩) : TextB (t ++ [e]) ⟨s, ip, fo, some ⟨e, [], []⟩⟩ := by
  obtain ⟨⟨s', ip', fo', eo'⟩, rfl, hneg, hdig, hne, hnat, hf, he⟩ := h
  obtain rfl := he.of_none
  exact ⟨⟨s', ip', fo', some ⟨e, [], []⟩⟩, by simp [render, expTxt], hneg, hdig, hne, hnat, hf,
    ⟨he', Or.inl rfl, Dig.nil, Iff.rfl, rfl, fun _ => rfl, fun h => absurd rfl h⟩⟩

theorem textB_sign {t : Bytes} {s : Bool} {ip : Bytes} {fo : Option Bytes} {e c : UInt8} (hc : c = 43 ∨ c = 45)
    (h : TextB t ⟨s, ip, fo, some ⟨e, [], []⟩⟩) : TextB (t ++ [c]) ⟨s, ip, fo, some ⟨e, [c], []⟩⟩ := by
  obtain ⟨⟨s', ip', fo', eo'⟩, rfl, hneg, hdig, hne, hnat, hf, he⟩ := h
  obtain ⟨x', rfl, h1, -, -, -, -, h6, -⟩ := he.of_some
  obtain rfl : x' = ⟨e, [], []⟩ := h6 rfl
  refine ⟨⟨s', ip', fo', some ⟨e, [c], []⟩⟩, by simp [render, expTxt], hneg, hdig, hne, hnat, hf,
    ⟨h1, ?_, Dig.nil, Iff.rfl, rfl, fun _ => rfl, fun h => absurd rfl h⟩⟩
  rcases hc with h | h <;> simp [h]

theorem textB_exp {t : Bytes} {s : Bool} {ip : Bytes} {fo : Option Bytes} {e : UInt8} {sg es : Bytes} {b : UInt8}
    (hb : Spec.isDigit b = true) (h : TextB t ⟨s, ip, fo, some ⟨e, sg, es⟩⟩) :
    TextB (t ++ [b]) ⟨s, ip, fo, some ⟨e, sg, es ++ [b]⟩⟩ := by
  obtain ⟨⟨s', ip', fo', eo'⟩, rfl, hneg, hdig, hne, hnat, hf, he⟩ := h
  obtain ⟨x', rfl, h1, h2, h3, h4, h5, -, -⟩ := he.of_some
  exact ⟨⟨s', ip', fo', some ⟨x'.e, x'.sg, x'.es ++ [b]⟩⟩, by simp [render, expTxt], hneg, hdig, hne, hnat, hf,
    ⟨h1, h2, h3.snoc hb, h4, by simp only [natOf_snoc, h5], fun h => absurd h (by simp), fun _ => by simp⟩⟩

theorem big_len_pos {n : Num} (h : n.big ≠ []) : 0 < n.big.length := List.length_pos_iff.mpr h

theorem big_len_zero {n : Num} (h : n.big = []) : ¬ (0 < n.big.length) := (big_eq_nil_iff n).mp h

theorem dval_le9 (b : UInt8) (hb : Spec.isDigit b = true) : dval b ≤ 9 :=
  dval_le_9 b (isDigitB_of_isDigit b hb)

theorem tracks_addDigit (n : Num) (s : Bool) (ip : Bytes) (b : UInt8) (hb : Spec.isDigit b = true)
    (h : Tracks n ⟨s, ip, none, none⟩) : Tracks (n.addDigit b) ⟨s, ip ++ [b], none, none⟩ := by
  have hbB := isDigitB_of_isDigit b hb
  unfold Num.addDigit
  refine Num.add_cases (P := fun m => Tracks m ⟨s, ip ++ [b], none, none⟩) (fun hne => ?_)
    (fun hnil hle hmax => ?_) (fun hnil hle hmax => ?_) (fun hnil _ => ?_)
  · exact tracks_of_text (textB_digit hb (h.resolve_left fun hx => hne hx.1).2)
  all_goals
    obtain ⟨-, hcore, hfit⟩ := h.resolve_right fun hx => hx.1 hnil
  · obtain ⟨c1, c2, c3, c4, c5, c6, c7⟩ := hcore
    rw [UInt64.le_iff_toNat_le, show BigLimit.toNat = 922337203685477580 from rfl] at hle
    exact tracks_of_text (held_fill hnil
      ⟨c1, toNat_snoc_digit b hbB (by omega) c2, c3, c4, c5, c6, c7⟩
      (fun _ h => nomatch h) (fun _ h => nomatch h))
  · obtain ⟨c1, c2, c3, c4, c5, c6, c7⟩ := hcore
    rw [UInt64.le_iff_toNat_le, show BigLimit.toNat = 922337203685477580 from rfl] at hle
    have hval := toNat_snoc_digit (ds := ip) b hbB (by omega) c2
    rw [UInt64.lt_iff_toNat_lt, hval, show MaxInt64.toNat = 9223372036854775807 from rfl] at hmax
    exact Or.inl ⟨hnil, ⟨c1, hval, c3, c4, c5, c6, c7⟩, Nat.le_of_not_lt hmax⟩
  · exact tracks_of_text (textB_digit hb (held_fill hnil hcore (fun _ h => nomatch h) (fun _ h => nomatch h)))

theorem tracks_addFrac (n : Num) (s : Bool) (ip fs : Bytes) (b : UInt8) (hb : Spec.isDigit b = true)
    (hfs : Dig fs) (h : Tracks n ⟨s, ip, some fs, none⟩) : Tracks (n.addFrac b) ⟨s, ip, some (fs ++ [b]), none⟩ := by
  have hbB := isDigitB_of_isDigit b hb
  have hstep : (decide (n.frac ≤ BigLimit) && decide (n.div ≤ BigLimit)) = true → Held n ⟨s, ip, some fs, none⟩ →
      Held { n with frac := n.frac * 10 + (b - 48).toUInt64, div := n.div * 10 } ⟨s, ip, some (fs ++ [b]), none⟩ := by
    intro hc ⟨c1, c2, c3, c4, c5, c6, c7⟩
    obtain ⟨h3, h4, h5⟩ := frac_step n b fs hbB hc c3 c4 c5
    exact ⟨c1, c2, h3, h4, h5, c6, c7⟩
  unfold Num.addFrac
  refine Num.add_cases (P := fun m => Tracks m ⟨s, ip, some (fs ++ [b]), none⟩) (fun hne => ?_)
    (fun hnil hc _ => ?_) (fun hnil hc _ => ?_) (fun hnil hc => ?_)
  · exact tracks_of_text (textB_frac hb (h.resolve_left fun hx => hne hx.1).2)
  all_goals
    obtain ⟨-, hcore, hfit⟩ := h.resolve_right fun hx => hx.1 hnil
  · -- cannot happen (at most 18 fraction digits are held), but the text would agree anyway
    exact tracks_of_text (held_fill hnil (hstep hc hcore)
      (fun x hx => by cases hx; exact ⟨hfs.snoc hb, by simp⟩) (fun _ h => nomatch h))
  · exact Or.inl ⟨hnil, hstep hc hcore, hfit⟩
  · have hne : fs ≠ [] := by
      intro h0
      subst h0
      obtain ⟨-, -, c3, c4, -⟩ := hcore
      simp only [fracNat, fracLen, natOf, List.foldl_nil, List.length_nil, Nat.pow_zero] at c3 c4
      apply hc
      simp only [Bool.and_eq_true, decide_eq_true_eq, UInt64.le_iff_toNat_le, c3, c4,
        show BigLimit.toNat = 922337203685477580 from rfl]
      omega
    exact tracks_of_text (textB_frac hb
      (held_fill hnil hcore (fun x hx => by cases hx; exact ⟨hfs, hne⟩) (fun _ h => nomatch h)))

theorem tracks_addExp (n : Num) (s : Bool) (ip : Bytes) (fo : Option Bytes) (e : UInt8) (sg es : Bytes) (b : UInt8)
    (hb : Spec.isDigit b = true) (hfo : ∀ fs, fo = some fs → Dig fs ∧ fs ≠ [])
    (h : Tracks n ⟨s, ip, fo, some ⟨e, sg, es⟩⟩) : Tracks (n.addExp b) ⟨s, ip, fo, some ⟨e, sg, es ++ [b]⟩⟩ := by
  have hbB := isDigitB_of_isDigit b hb
  unfold Num.addExp
  refine Num.add_cases (P := fun m => Tracks m ⟨s, ip, fo, some ⟨e, sg, es ++ [b]⟩⟩) (fun hne => ?_)
    (fun hnil hc hmax => ?_) (fun hnil hc _ => ?_) (fun hnil hc => ?_)
  · exact tracks_of_text (textB_exp hb (h.resolve_left fun hx => hne hx.1).2)
  all_goals
    obtain ⟨-, hcore, hfit⟩ := h.resolve_right fun hx => hx.1 hnil
    obtain ⟨c1, c2, c3, c4, c5, c6, c7⟩ := hcore
    simp only [expNat, expNeg] at c6 c7
    rw [UInt64.le_iff_toNat_le, show (102 : UInt64).toNat = 102 from rfl] at hc
  · have hexp := toNat_snoc_digit b hbB (by omega) c6
    refine tracks_of_text (held_fill hnil ⟨c1, c2, c3, c4, c5, hexp, c7⟩ hfo (fun x hx => ?_))
    cases hx
    rw [UInt64.lt_iff_toNat_lt, hexp, show (1022 : UInt64).toNat = 1022 from rfl] at hmax
    simp only; omega
  · exact Or.inl ⟨hnil, ⟨c1, c2, c3, c4, c5, toNat_snoc_digit b hbB (by omega) c6, c7⟩, hfit⟩
  · exact tracks_of_text (textB_exp hb
      (held_fill hnil ⟨c1, c2, c3, c4, c5, c6, c7⟩ hfo (fun x hx => by cases hx; simp only; omega)))

theorem tracks_passThru {n : Num} {p p' : Parts} {b : UInt8} (hex : Exact n p → Exact n p')
    (htxt : TextB n.big p → TextB (n.big ++ [b]) p') (h : Tracks n p) : Tracks (passThru n b) p' := by
  unfold passThru
  rcases h with hx | ⟨hne, ht⟩
  · rw [if_neg (big_len_zero hx.1)]; exact Or.inl (hex hx)
  · rw [if_pos (big_len_pos hne)]; exact tracks_of_text (htxt ht)

theorem tracks_dot (n : Num) (s : Bool) (ip : Bytes) (h : Tracks n ⟨s, ip, none, none⟩) :
    Tracks (passThru n 46) ⟨s, ip, some [], none⟩ :=
  tracks_passThru (p := ⟨s, ip, none, none⟩) (fun hx => hx) textB_dot h

theorem tracks_e (n : Num) (s : Bool) (ip : Bytes) (fo : Option Bytes) (e : UInt8) (he : e = 101 ∨ e = 69)
    (h : Tracks n ⟨s, ip, fo, none⟩) : Tracks (passThru n e) ⟨s, ip, fo, some ⟨e, [], []⟩⟩ :=
  tracks_passThru (p := ⟨s, ip, fo, none⟩) (fun hx => hx) (textB_e he) h

theorem tracks_sign (n : Num) (s : Bool) (ip : Bytes) (fo : Option Bytes) (e c : UInt8) (hc : c = 43 ∨ c = 45)
    (h : Tracks n ⟨s, ip, fo, some ⟨e, [], []⟩⟩) : Tracks (signStep n c) ⟨s, ip, fo, some ⟨e, [c], []⟩⟩ := by
  rcases h with ⟨hbig, hcore, hfit⟩ | ⟨hne, htxt⟩
  · unfold signStep
    simp only [big_len_zero hbig, ↓reduceIte]
    obtain ⟨c1, c2, c3, c4, c5, c6, c7⟩ := hcore
    refine Or.inl ⟨hbig, ⟨c1, c2, c3, c4, c5, c6, ?_⟩, hfit⟩
    simp only [expNeg] at c7 ⊢
    rw [c7]
    rcases hc with h | h <;> subst h <;> simp
  · unfold signStep
    simp only [big_len_pos hne, ↓reduceIte]
    exact tracks_of_text (textB_sign hc htxt)

theorem tracks_foldl_addDigit (ds : Bytes) (hds : Dig ds) : ∀ (n : Num) (s : Bool) (ip : Bytes),
    Tracks n ⟨s, ip, none, none⟩ → Tracks (ds.foldl Num.addDigit n) ⟨s, ip ++ ds, none, none⟩ := by
  induction ds with
  | nil => intro n s ip h; simpa using h
  | cons d r ih =>
    intro n s ip h
    have := ih hds.tail _ s (ip ++ [d]) (tracks_addDigit n s ip d hds.head h)
    simpa [List.append_assoc] using this

theorem tracks_foldl_addFrac (ds : Bytes) (hds : Dig ds) : ∀ (n : Num) (s : Bool) (ip fs : Bytes), Dig fs →
    Tracks n ⟨s, ip, some fs, none⟩ → Tracks (ds.foldl Num.addFrac n) ⟨s, ip, some (fs ++ ds), none⟩ := by
  induction ds with
  | nil => intro n s ip fs _ h; simpa using h
  | cons d r ih =>
    intro n s ip fs hfs h
    have := ih hds.tail _ s ip (fs ++ [d]) (hfs.snoc hds.head) (tracks_addFrac n s ip fs d hds.head hfs h)
    simpa [List.append_assoc] using this

theorem tracks_foldl_addExp (ds : Bytes) (hds : Dig ds) (s : Bool) (ip : Bytes) (fo : Option Bytes)
    (hfo : ∀ fs, fo = some fs → Dig fs ∧ fs ≠ []) (e : UInt8) (sg : Bytes) : ∀ (n : Num) (es : Bytes),
    Tracks n ⟨s, ip, fo, some ⟨e, sg, es⟩⟩ → Tracks (ds.foldl Num.addExp n) ⟨s, ip, fo, some ⟨e, sg, es ++ ds⟩⟩ := by
  induction ds with
  | nil => intro n es h; simpa using h
  | cons d r ih =>
    intro n es h
    have := ih hds.tail _ (es ++ [d]) (tracks_addExp n s ip fo e sg es d hds.head hfo h)
    simpa [List.append_assoc] using this

theorem fillBig_exp_zero (n : Num) (h : n.exp = 0) : n.fillBig.big = ({ n with negExp := false } : Num).fillBig.big := by
  unfold Num.fillBig
  simp [h]

theorem expVal_zero (eo : Option ExpPart) (h : expNat eo = 0) : expVal eo = 0 := by
  unfold expVal; rw [h]; split <;> simp

/-- **Conversion of a tracked accumulator.** For a complete literal `p`: an int64 result is the value of
`p` (and `p` has exponent value 0 and no fraction); a float64 or big result carries a decimal text
whose denotation is the value of `p`: same mantissa (all digits), same power of ten. -/
theorem tracks_asNum (n : Num) (p : Parts) (h : Tracks n p) (hw : p.WF) :
    match n.asNum with
    | .int v => pval p = (v, 0) ∧ -9223372036854775807 ≤ v ∧ v ≤ 9223372036854775807
    | .flt t => decVal t = some (pval p)
    | .big t => decVal t = some (pval p) := by
  rcases h with ⟨hbig, hcore, hfit⟩ | ⟨hne, htxt⟩
  · obtain ⟨hip, hipne, hwf, hwe⟩ := hw
    by_cases hint : (n.div = 1 && n.exp = 0) = true
    · have hint' := hint
      simp only [Bool.and_eq_true, decide_eq_true_eq] at hint'
      obtain ⟨c1, c2, c3, c4, c5, c6, c7⟩ := hcore
      rw [asNum_of_inv n (natOf p.ip) ⟨fun _ => ⟨hbig, c2⟩, fun h => by omega⟩ hfit hint'.1 hint'.2, c1]
      -- `Div = 1` with a written fraction of `k ≥ 1` digits would be `10^k = 1`
      have hfo : p.fo = none := by
        cases hfo : p.fo with
        | none => rfl
        | some fs =>
          exfalso
          rw [hfo, hint'.1] at c4
          simp only [fracLen] at c4
          have hlen : 1 ≤ fs.length := List.length_pos_iff.mpr (hwf fs hfo).2
          have h10 : 10 ^ 1 ≤ 10 ^ fs.length := Nat.pow_le_pow_right (by omega) hlen
          have : (1 : UInt64).toNat = 1 := rfl
          omega
      have hexp : expVal p.eo = 0 := expVal_zero _ (by rw [← c6, hint'.2]; rfl)
      have hpv : pval p = (if p.neg then -(natOf p.ip : Int) else (natOf p.ip : Int), 0) := by
        simp [pval, mantNat, hfo, fracLen, fracNat, hexp]
      rw [hpv]
      cases p.neg <;> exact ⟨rfl, by simp only [Bool.false_eq_true, ↓reduceIte]; omega,
        by simp only [Bool.false_eq_true, ↓reduceIte]; omega⟩
    · unfold Num.asNum
      simp only [big_len_zero hbig, hint, Bool.false_eq_true, ↓reduceIte]
      by_cases hpos : ∀ x, p.eo = some x → 0 < natOf x.es
      · exact (held_fill hbig hcore hwf hpos).decVal ⟨hip, hipne, hwf, hwe⟩
      · -- an exponent that is written but zero: `FillBig` omits it
        have hex : ∃ x, p.eo = some x ∧ natOf x.es = 0 := by
          cases heo : p.eo with
          | none => exact absurd (fun x hx => by rw [heo] at hx; cases hx) hpos
          | some x =>
            refine ⟨x, rfl, ?_⟩
            rcases Nat.eq_zero_or_pos (natOf x.es) with h0 | h0
            · exact h0
            · exact absurd (fun y hy => by rw [heo] at hy; cases hy; exact h0) hpos
        obtain ⟨x, heo, hx0⟩ := hex
        obtain ⟨c1, c2, c3, c4, c5, c6, c7⟩ := hcore
        have hexp0 : n.exp = 0 := by
          apply UInt64.toNat_inj.mp
          rw [c6, heo]; exact hx0
        have hcore0 : Held ({ n with negExp := false } : Num) { p with eo := none } :=
          ⟨c1, c2, c3, c4, c5, by rw [c6, heo]; exact hx0, rfl⟩
        have hw0 : ({ p with eo := none } : Parts).WF := ⟨hip, hipne, hwf, fun _ h => nomatch h⟩
        rw [fillBig_exp_zero n hexp0, (held_fill (n := { n with negExp := false }) hbig hcore0 hwf
          (fun _ h => nomatch h)).decVal hw0]
        have : expVal p.eo = 0 := expVal_zero _ (by rw [heo]; exact hx0)
        have h0 : expVal (none : Option ExpPart) = 0 := rfl
        simp only [pval, mantNat, this, h0]
  · unfold Num.asNum
    simp only [big_len_pos hne, ↓reduceIte]
    exact htxt.decVal hw

end OjgVerif.Json
