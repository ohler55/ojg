import OjgVerif.Json.Lemmas
/-! Well-formedness of the build stack and "no runtime fault": the invariant behind property C06 for
the strict-JSON machines. Every Go operation of `parseBuffer` that can fault at run time — the
nil-map write in `add` (a key that is not directly above a map), `p.stack[len-1]` on an empty
stack, the slice expression of close-array — is an explicit `fault` outcome of the model; the
theorem `run_no_fault` says it is never produced. (Two index reads are not: `p.stack[0]` at delivery
and the letter of a pending literal are read with a default; `Json/Totalised.lean` shows that they are
in range.) -/
namespace OjgVerif.Json

def Item.isVal : Item → Bool
  | .val _ => true
  | _ => false

/-- is the machine at or inside a value that has not been added yet? (as opposed to: just behind a
complete value / before a key) -/
def needVal (m nm : Mode) : Bool :=
  match m with
  | .after | .key1 | .key | .space => false
  | .string | .esc | .u => nm == .after
  | _ => true

/-- shape of the build stack (top first) for a container stack (innermost first) -/
def Shape : List Bool → List Item → Bool → Prop
  | [], st, _ => st = []
  | true :: ss, st, _ =>
    ∃ vals below, st = vals ++ .arrMark :: below ∧ (∀ it ∈ vals, it.isVal = true) ∧ Shape ss below true
  | false :: ss, st, need =>
    if need then ∃ k kvs below, st = .key k :: .obj kvs :: below ∧ Shape ss below true
    else ∃ kvs below, st = .obj kvs :: below ∧ Shape ss below true

/-- the stack just after a value has been added and before `deliver` runs -/
def ShapeAdded (ss : List Bool) (st : List Item) : Prop :=
  match ss with
  | [] => ∃ v, st = [.val v]
  | _ :: _ => Shape ss st false

theorem addItem_shape (v : JV) (ss : List Bool) (st : List Item) (h : Shape ss st true) :
    ∃ st', addItem v st = .ok st' ∧ ShapeAdded ss st' := by
  match ss, h with
  | [], h =>
    simp only [Shape] at h
    subst h
    exact ⟨[.val v], rfl, v, rfl⟩
  | true :: ss, h =>
    obtain ⟨vals, below, hst, hv, hb⟩ := h
    subst hst
    refine ⟨.val v :: (vals ++ .arrMark :: below), ?_, ?_⟩
    · cases vals with
      | nil => rfl
      | cons x r =>
        have hx := hv x List.mem_cons_self
        cases x <;> simp [Item.isVal] at hx
        rfl
    · exact ⟨.val v :: vals, below, rfl, by
        intro it hit
        rcases List.mem_cons.mp hit with h | h
        · subst h; rfl
        · exact hv it h, hb⟩
  | false :: ss, h =>
    simp only [Shape, ↓reduceIte] at h
    obtain ⟨k, kvs, below, hst, hb⟩ := h
    subst hst
    refine ⟨.obj (kvInsert k v kvs) :: below, rfl, ?_⟩
    simp only [ShapeAdded, Shape, Bool.false_eq_true, ↓reduceIte]
    exact ⟨_, _, rfl, hb⟩

theorem popObj_shape (ss : List Bool) (st : List Item) (h : Shape (false :: ss) st false) :
    ∃ kvs below, st = .obj kvs :: below ∧ Shape ss below true := by
  simpa [Shape] using h

theorem splitAtMark_shape (ss : List Bool) (st : List Item) (need : Bool) (h : Shape (true :: ss) st need) :
    ∃ elems below, splitAtMark st [] = some (elems, below) ∧ Shape ss below true := by
  obtain ⟨vals, below, hst, _, hb⟩ := h
  subst hst
  have : ∀ (vals : List Item) (acc : List JV), (∀ it ∈ vals, it.isVal = true) →
      ∃ elems, splitAtMark (vals ++ .arrMark :: below) acc = some (elems, below) := by
    intro vals
    induction vals with
    | nil => intro acc _; exact ⟨acc, rfl⟩
    | cons x r ih =>
      intro acc hv
      have hx := hv x List.mem_cons_self
      cases x <;> simp [Item.isVal] at hx
      simp only [List.cons_append, splitAtMark]
      exact ih _ (fun it hit => hv it (List.mem_cons_of_mem _ hit))
  rename_i hv
  obtain ⟨elems, he⟩ := this vals [] hv
  exact ⟨elems, below, he, hb⟩

def ErrKind.isFault : ErrKind → Bool
  | .fault _ => true
  | _ => false

theorem src_mem (a : Act) (ms : List Mode)
    (hchk : (Mode.all.all fun m => (List.range 256).all fun i =>
      !(expected m (UInt8.ofNat i) == a) || ms.contains m) = true)
    (m : Mode) (b : UInt8) (h : expected m b = a) : m ∈ ms := by
  have := forall_mode_byte (fun m b => !(expected m b == a) || ms.contains m) hchk m b
  simpa [h] using this

/-- the invariant of the strict-JSON machine at step boundaries -/
structure WF (s : St) : Prop where
  ctl : CtlInv s
  obj : (s.mode = .key1 ∨ s.mode = .key ∨ s.mode = .colon ∨
          ((s.mode = .string ∨ s.mode = .esc ∨ s.mode = .u) ∧ s.nextMode = .colon)) →
        ∃ ss, s.starts = false :: ss
  arr : s.mode = .comma → ∃ ss, s.starts = true :: ss
  shape : Shape s.starts s.stack (needVal s.mode s.nextMode)

theorem WF.init : WF {} :=
  ⟨CtlInv.init, (by intro h; rcases h with h | h | h | ⟨h | h | h, _⟩ <;> cases h), (by intro h; cases h), rfl⟩

/-- `WF` before `deliver` runs: over `CtlPre`, and in the one state `CtlPre` allows beyond `CtlInv` (`after` mode,
no container open: about to be delivered) nothing is said of the shape of the stack (`WFout.top` says what it
holds) -/
structure WFpre (s : St) (cont : Bool) : Prop where
  ctl : CtlPre s cont
  obj : (s.mode = .key1 ∨ s.mode = .key ∨ s.mode = .colon ∨
          ((s.mode = .string ∨ s.mode = .esc ∨ s.mode = .u) ∧ s.nextMode = .colon)) →
        ∃ ss, s.starts = false :: ss
  arr : s.mode = .comma → ∃ ss, s.starts = true :: ss
  shape : ¬(s.starts = [] ∧ s.mode = .after) → Shape s.starts s.stack (needVal s.mode s.nextMode)

/-- what the switch guarantees beyond `WFpre`: a complete top-level value, which `deliver` takes from
the stack, is there -/
structure WFout (s : St) (cont : Bool) : Prop extends WFpre s cont where
  top : s.starts = [] → s.mode = .after → ∃ v, s.stack = [.val v]

theorem Shape.arr_need {ss : List Bool} {st : List Item} {a : Bool} (b : Bool)
    (h : Shape (true :: ss) st a) : Shape (true :: ss) st b := h

theorem St.add_ok (s : St) (v : JV) (h : Shape s.starts s.stack true) :
    ∃ st', s.add v = .ok { s with stack := st' } ∧ ShapeAdded s.starts st' := by
  obtain ⟨st', h1, h2⟩ := addItem_shape v s.starts s.stack h
  exact ⟨st', by unfold St.add; rw [h1], h2⟩

theorem ShapeAdded.shape {ss : List Bool} {st : List Item} (h : ShapeAdded ss st) (hne : ss ≠ []) :
    Shape ss st false := by
  cases ss with
  | nil => exact absurd rfl hne
  | cons _ _ => exact h

/-- what is due in a mode is the same in all modes of a list, by evaluation -/
theorem needVal_of_mem {m nm : Mode} {ms : List Mode} {v : Bool} (h : m ∈ ms)
    (hall : ms.all (fun m => needVal m nm == v) = true) : needVal m nm = v :=
  eq_of_beq (List.all_eq_true.mp hall m h)

/-- for the actions that leave mode class, starts and stack alone -/
theorem WFout.of_same (s s' : St) (c : Bool) (hw : WF s) (hc : CtlPre s' c)
    (hst : s'.starts = s.starts) (hsk : s'.stack = s.stack)
    (hnv : needVal s'.mode s'.nextMode = needVal s.mode s.nextMode)
    (hobj : (s'.mode = .key1 ∨ s'.mode = .key ∨ s'.mode = .colon ∨
          ((s'.mode = .string ∨ s'.mode = .esc ∨ s'.mode = .u) ∧ s'.nextMode = .colon)) →
          (s.mode = .key1 ∨ s.mode = .key ∨ s.mode = .colon ∨
          ((s.mode = .string ∨ s.mode = .esc ∨ s.mode = .u) ∧ s.nextMode = .colon)))
    (harr : s'.mode = .comma → s.mode = .comma) (haft : s'.mode = .after → s.mode = .after) : WFout s' c :=
  ⟨⟨hc, fun h => hst ▸ hw.obj (hobj h), fun h => hst ▸ hw.arr (harr h), fun _ => by rw [hst, hsk, hnv]; exact hw.shape⟩,
    fun h0 hm => absurd (hst ▸ h0) (hw.ctl.after (haft hm))⟩

/-- a mode that is neither a key/colon mode nor comma nor `after` has no context obligations -/
theorem WFout.of_plain (s s' : St) (c : Bool) (hw : WF s) (hc : CtlPre s' c)
    (hst : s'.starts = s.starts) (hsk : s'.stack = s.stack)
    (hnv : needVal s'.mode s'.nextMode = needVal s.mode s.nextMode)
    (hm : s'.mode ≠ .key1 ∧ s'.mode ≠ .key ∧ s'.mode ≠ .colon ∧ s'.mode ≠ .comma ∧
          s'.mode ≠ .string ∧ s'.mode ≠ .esc ∧ s'.mode ≠ .u ∧ s'.mode ≠ .after) : WFout s' c :=
  WFout.of_same s s' c hw hc hst hsk hnv
    (by
      intro h
      rcases h with h | h | h | ⟨h | h | h, _⟩
      · exact absurd h hm.1
      · exact absurd h hm.2.1
      · exact absurd h hm.2.2.1
      · exact absurd h hm.2.2.2.2.1
      · exact absurd h hm.2.2.2.2.2.1
      · exact absurd h hm.2.2.2.2.2.2.1)
    (fun h => absurd h hm.2.2.2.1) (fun h => absurd h hm.2.2.2.2.2.2.2)

/-- inside a string the mode moves between `string`, `esc` and `u`; which kind of string it is
(`nextMode`) does not change, and with it neither what is due nor the context obligations -/
theorem WFout.of_str (s s' : St) (c : Bool) (hw : WF s) (hc : CtlPre s' c)
    (hst : s'.starts = s.starts) (hsk : s'.stack = s.stack) (hnm : s'.nextMode = s.nextMode)
    (hm : s.mode = .string ∨ s.mode = .esc ∨ s.mode = .u)
    (hm' : s'.mode = .string ∨ s'.mode = .esc ∨ s'.mode = .u) : WFout s' c := by
  have hcl : ∀ m, s'.mode = m → m = .string ∨ m = .esc ∨ m = .u := fun m h => h ▸ hm'
  refine WFout.of_same s s' c hw hc hst hsk ?_ (fun h => ?_) (fun h => absurd (hcl _ h) (by decide))
    (fun h => absurd (hcl _ h) (by decide))
  · rw [hnm]
    rcases hm with h | h | h <;> rcases hm' with h' | h' | h' <;> simp [needVal, h, h']
  · rcases h with h | h | h | ⟨_, h⟩
    · exact absurd (hcl _ h) (by decide)
    · exact absurd (hcl _ h) (by decide)
    · exact absurd (hcl _ h) (by decide)
    · exact Or.inr (Or.inr (Or.inr ⟨hm, hnm ▸ h⟩))

theorem addK_shape (v : JV) {ss : List Bool} {st : List Item} (h : Shape ss st true) :
    ∃ st', addK v st = .ok st' ∧ ShapeAdded ss st' := by
  obtain ⟨st', h1, h2⟩ := addItem_shape v ss st h
  exact ⟨st', by unfold addK; rw [h1], h2⟩

theorem popObjK_shape {ss : List Bool} {st : List Item} (h : Shape (false :: ss) st false) :
    ∃ st', popObjK st = .ok st' ∧ ShapeAdded ss st' := by
  obtain ⟨kvs, below, rfl, hb⟩ := popObj_shape ss st h
  exact addK_shape (.obj kvs) hb

theorem popArrK_shape {ss : List Bool} {st : List Item} {need : Bool} (h : Shape (true :: ss) st need) :
    ∃ st', popArrK st = .ok st' ∧ ShapeAdded ss st' := by
  obtain ⟨elems, below, hsplit, hb⟩ := splitAtMark_shape ss st need h
  obtain ⟨st', hadd, hsh⟩ := addK_shape (.arr elems) hb
  exact ⟨st', by simp only [popArrK, hsplit]; exact hadd, hsh⟩

/-- Where a closing bracket is read — behind a complete value, behind `{`, inside a number, or, for `]`,
behind `[` — the stack has the "value complete" shape once the pending number (if any) has been added. -/
theorem flushK_closing {s : St} (hw : WF s) {x : Bool} {ss : List Bool} (hs : s.starts = x :: ss)
    (hm : s.mode = .value ∨ s.mode = .after ∨ s.mode = .key1 ∨ s.mode = .zero ∨ s.mode = .digit ∨ s.mode = .frac ∨
      s.mode = .exp) (hx : s.mode = .value → x = true) :
    ∃ st1, flushK refTables s = .ok st1 ∧ Shape (x :: ss) st1 false := by
  unfold flushK
  have hshape := hw.shape
  rw [hs] at hshape
  rcases hm with h | h | h | h | h | h | h <;> rw [h] at hshape
  · rw [if_neg (by rw [h]; decide)]
    obtain rfl := hx h
    exact ⟨s.stack, rfl, hshape.arr_need _⟩
  · rw [if_neg (by rw [h]; decide)]; exact ⟨s.stack, rfl, hshape⟩
  · rw [if_neg (by rw [h]; decide)]; exact ⟨s.stack, rfl, hshape⟩
  all_goals
    rw [if_pos (by rw [h]; rfl)]
    obtain ⟨st', hadd, hsh⟩ := addK_shape s.num.asNum.toJV hshape
    exact ⟨st', hadd, hsh⟩

theorem tokLit_kind {T : Tables} {m : Mode} {p : Bytes × JV × ErrKind} (h : tokLit T m = some p) :
    p.2.2.isFault = false := by
  unfold tokLit at h
  split at h
  · cases h; rfl
  · split at h
    · cases h; rfl
    · split at h <;> cases h
      rfl

/-- what `stepAct_out` says of an outcome of the switch -/
def OutOK (r : Except Err (St × Bool)) : Prop :=
  (∀ e, r = .error e → e.kind.isFault = false) ∧ (∀ s' c, r = .ok (s', c) → WFout s' c)

theorem OutOK.ok {t : St} {c : Bool} (h : WFout t c) : OutOK (.ok (t, c)) :=
  And.intro (fun _ h' => nomatch h') fun _ _ h' => by cases h'; exact h

theorem OutOK.error {e : Err} (h : e.kind.isFault = false) : OutOK (.error e) :=
  And.intro (fun _ h' => by cases h'; exact h) fun _ _ h' => nomatch h'

/-- a value has just been added and the machine is in `after` mode: no context obligations, and the
shape is owed only while a container is open -/
theorem WFout.of_added {t : St} (hc : CtlPre t false) (hm : t.mode = .after)
    (hsh : ShapeAdded t.starts t.stack) : WFout t false := by
  refine ⟨⟨hc, fun h => ?_, fun h => ?_, fun hn => ?_⟩, fun h0 _ => ?_⟩
  · rw [hm] at h; rcases h with h | h | h | ⟨h | h | h, _⟩ <;> cases h
  · rw [hm] at h; cases h
  · rw [hm]; exact hsh.shape fun h0 => hn ⟨h0, hm⟩
  · rw [h0] at hsh; exact hsh

/-- after a comma inside a container: a key is due in an object, a value in an array -/
theorem WFout.of_comma {t : St} {c : Bool} (hc : CtlPre t c) (hm : t.mode = afterCommaMode t) (hne : t.starts ≠ [])
    (hsh : Shape t.starts t.stack false) : WFout t c := by
  obtain ⟨x, ss, hs⟩ := List.exists_cons_of_ne_nil hne
  unfold afterCommaMode at hm
  rw [hs] at hsh hm
  cases x with
  | false =>
    refine ⟨⟨hc, fun _ => ⟨ss, hs⟩, fun h => ?_, fun _ => ?_⟩, fun h0 => absurd h0 hne⟩
    · rw [hm] at h; cases h
    · rw [hm, hs]; exact hsh
  | true =>
    refine ⟨⟨hc, fun h => ?_, fun _ => ⟨ss, hs⟩, fun _ => ?_⟩, fun h0 => absurd h0 hne⟩
    · rw [hm] at h; rcases h with h | h | h | ⟨h | h | h, _⟩ <;> cases h
    · rw [hs]; exact hsh.arr_need _

/-- **The switch keeps the invariant**: no fault, and behind a successful action the state is well-formed
up to the delivery test. The actions that leave the stack alone go by the class of the mode they enter;
the others by what `Act.build` does to a stack of the shape the mode promises. -/
theorem stepAct_out (cfg : Cfg) (s : St) (b : UInt8) (hw : WF s) : OutOK (stepAct refTables cfg s b) := by
  have hctl := fun st hb => Act.upd_ctlPre (cfg := cfg) (b := b) (st := st) hw.ctl hb
  have hshape := hw.shape
  have hmem := src_ok s.mode b
  rw [stepAct_eq]
  show OutOK (match (expected s.mode b).build refTables b s with
    | .error k => .error (s.err k)
    | .ok st => .ok ((expected s.mode b).upd refTables cfg b s st, (expected s.mode b).cont s))
  generalize expected s.mode b = a at hmem hctl
  have hsrc := hmem
  cases a <;> simp only [Act.build, Act.upd, Act.cont] at hctl ⊢ <;>
    simp only [srcModes, List.mem_cons, List.not_mem_nil, or_false] at hsrc
  case skipChar | skipNewline | strOk =>
    exact .ok (.of_same s _ _ hw (hctl _ rfl) rfl rfl rfl id id id)
  case charErr => exact .error (by simp only [St.err]; split <;> rfl)
  case colonColon | expSign | numZero | negDigit | val0 | valDigit | valNeg | valNull | valTrue | valFalse | numDot
      | numFrac | fracE | expDigit =>
    exact .ok (.of_plain s _ _ hw (hctl _ rfl) rfl rfl (needVal_of_mem hmem rfl).symm (by simp))
  case numDigit =>
    exact .ok (.of_plain s _ _ hw (hctl _ rfl) rfl rfl rfl (by simp [hsrc]))
  case strSlash | escOk | escU =>
    exact .ok (.of_str s _ _ hw (hctl _ rfl) rfl rfl rfl (by simp [hsrc]) (by simp))
  case uOk =>
    exact .ok (.of_str s _ _ hw (hctl _ rfl) rfl rfl rfl (Or.inr (Or.inr hsrc)) (by simp only [hsrc]; split <;> simp))
  case keyQuote =>
    have hobj := hw.obj (by rcases hsrc with h | h <;> simp [h])
    rw [needVal_of_mem (v := false) hmem rfl] at hshape
    exact .ok ⟨⟨hctl _ rfl, fun _ => hobj, (fun h => nomatch h), fun _ => hshape⟩, (fun _ h => nomatch h)⟩
  case valQuote =>
    rw [needVal_of_mem (v := true) hmem rfl] at hshape
    refine .ok ⟨⟨hctl _ rfl, fun h => ?_, (fun h => nomatch h), fun _ => hshape⟩, (fun _ h => nomatch h)⟩
    rcases h with h | h | h | ⟨_, h⟩ <;> cases h
  case afterComma =>
    rw [needVal_of_mem (v := false) hmem rfl] at hshape
    exact .ok (.of_comma (hctl _ rfl) rfl (hw.ctl.after hsrc) hshape)
  case openObject =>
    rw [needVal_of_mem (v := true) hmem rfl] at hshape
    refine .ok ⟨⟨hctl _ rfl, fun _ => ⟨_, rfl⟩, (fun h => nomatch h), fun _ => ?_⟩, (fun _ h => nomatch h)⟩
    simp only [needVal, Shape, Bool.false_eq_true, ↓reduceIte]
    exact ⟨_, _, rfl, hshape⟩
  case openArray =>
    rw [needVal_of_mem (v := true) hmem rfl] at hshape
    refine .ok ⟨⟨hctl _ rfl, fun h => ?_, (fun h => nomatch h),
      fun _ => ⟨[], _, rfl, (fun _ h => nomatch h), hshape⟩⟩, (fun _ h => nomatch h)⟩
    rcases h with h | h | h | ⟨h | h | h, _⟩ <;> cases h
  case numSpc | numNewline =>
    rw [needVal_of_mem (v := true) hmem rfl] at hshape
    obtain ⟨st', hadd, hsh⟩ := addK_shape s.num.asNum.toJV hshape
    simp only [hadd]
    exact .ok (.of_added (hctl _ hadd) rfl hsh)
  case numComma =>
    rw [needVal_of_mem (v := true) hmem rfl] at hshape
    obtain ⟨st', hadd, hsh⟩ := addK_shape s.num.asNum.toJV hshape
    simp only [hadd] at hctl ⊢
    cases hs : s.starts with
    | nil => exact .error rfl
    | cons x ss =>
      simp only [hs] at hctl
      exact .ok (.of_comma (hctl _ rfl) (by show afterCommaMode s = _; simp only [afterCommaMode, hs]) (by simp)
        (by rw [hs] at hsh; exact hsh))
  case strQuote =>
    rcases hw.ctl.next with hn | hn
    · -- a member name ends: push the key
      have h58 : refTables.act s.nextMode 58 = .colonColon := by rw [hn]; decide
      simp only [h58, ↓reduceIte] at hctl ⊢
      obtain ⟨ss, hs⟩ := hw.obj (Or.inr (Or.inr (Or.inr ⟨Or.inl hsrc, hn⟩)))
      have hnv : needVal s.mode s.nextMode = false := by simp [needVal, hsrc, hn]
      rw [hnv, hs] at hshape
      simp only [Shape, Bool.false_eq_true, ↓reduceIte] at hshape
      obtain ⟨kvs, below, hst, hb⟩ := hshape
      refine .ok ⟨⟨hctl _ rfl, fun _ => ⟨ss, hs⟩, fun h => ?_, fun _ => ?_⟩, fun _ h => ?_⟩
      · simp only [hn] at h; cases h
      · simp only [hn, needVal, hs, hst, Shape, ↓reduceIte]
        exact ⟨_, _, _, rfl, hb⟩
      · simp only [hn] at h; cases h
    · -- a string value ends: add it
      have h58 : refTables.act s.nextMode 58 ≠ .colonColon := by rw [hn]; decide
      simp only [h58, ↓reduceIte] at hctl ⊢
      have hnv : needVal s.mode s.nextMode = true := by simp [needVal, hsrc, hn]
      rw [hnv] at hshape
      obtain ⟨st', hadd, hsh⟩ := addK_shape (.str s.tmp.reverse) hshape
      simp only [hadd]
      exact .ok (.of_added (hctl _ hadd) hn hsh)
  case tokenOk =>
    have hlit : s.mode ≠ .key1 ∧ s.mode ≠ .key ∧ s.mode ≠ .colon ∧ s.mode ≠ .comma ∧
        s.mode ≠ .string ∧ s.mode ≠ .esc ∧ s.mode ≠ .u ∧ s.mode ≠ .after := by rcases hsrc with h | h | h <;> simp [h]
    rw [needVal_of_mem (v := true) hmem rfl] at hshape
    cases htl : tokLit refTables s.mode with
    | none =>
      simp only [htl] at hctl ⊢
      exact .ok (.of_plain s _ _ hw (hctl _ rfl) rfl rfl rfl hlit)
    | some p =>
      simp only [htl] at hctl ⊢
      by_cases hl : p.1.getD (s.ri + 1) 0 = b
      · by_cases hlast : p.1.length - 1 ≤ s.ri + 1
        · obtain ⟨st', hadd, hsh⟩ := addK_shape p.2.1 hshape
          simp only [hl, hlast, ↓reduceIte, hadd] at hctl ⊢
          exact .ok (.of_added (hctl _ rfl) rfl hsh)
        · simp only [hl, hlast, ↓reduceIte] at hctl ⊢
          exact .ok (.of_plain s _ _ hw (hctl _ rfl) rfl rfl rfl hlit)
      · simp only [hl, ↓reduceIte]
        exact .error (tokLit_kind htl)
  case closeObject =>
    rcases hs : s.starts with _ | ⟨_ | _, rest⟩
    case cons.false =>
      simp only [hs] at hctl ⊢
      by_cases hv : refTables.fin s.mode = .v
      · simp only [hv, ↓reduceIte]; exact .error rfl
      · simp only [hv, ↓reduceIte] at hctl ⊢
        obtain ⟨st1, hfl, hsh1⟩ := flushK_closing hw hs hsrc fun h => absurd (by rw [h]; rfl) hv
        obtain ⟨st2, hpop, hsh2⟩ := popObjK_shape hsh1
        simp only [hfl, hpop] at hctl ⊢
        exact .ok (.of_added (hctl _ rfl) rfl hsh2)
    all_goals exact .error rfl
  case closeArray =>
    rcases hs : s.starts with _ | ⟨_ | _, rest⟩
    case cons.true =>
      simp only [hs] at hctl ⊢
      obtain ⟨st1, hfl, hsh1⟩ := flushK_closing hw hs (hsrc.imp_right (Or.imp_right Or.inr)) fun _ => rfl
      obtain ⟨st2, hpop, hsh2⟩ := popArrK_shape hsh1
      simp only [hfl, hpop] at hctl ⊢
      exact .ok (.of_added (hctl _ rfl) rfl hsh2)
    all_goals exact .error rfl

theorem stepAct_wf (cfg : Cfg) (s : St) (b : UInt8) (hw : WF s) :
    (∀ e, stepAct refTables cfg s b = .error e → e.kind.isFault = false) ∧
    (∀ s' c, stepAct refTables cfg s b = .ok (s', c) → WFpre s' c) :=
  ⟨(stepAct_out cfg s b hw).1, fun s' c h => ((stepAct_out cfg s b hw).2 s' c h).toWFpre⟩

theorem deliver_wf (cfg : Cfg) (s : St) (c : Bool) (h : WFpre s c) :
    WF (if c then s else deliver refTables cfg s) := by
  have hctl := deliver_ctl cfg s c h.ctl
  cases c with
  | true =>
    simp only [↓reduceIte] at hctl ⊢
    refine ⟨hctl, h.obj, h.arr, h.shape ?_⟩
    intro hh
    exact h.ctl.after rfl hh.2 hh.1
  | false =>
    simp only [Bool.false_eq_true, ↓reduceIte] at hctl ⊢
    unfold deliver at hctl ⊢
    by_cases hc : (s.starts.isEmpty && decide (refTables.fin s.mode = EndMark.a)) = true
    · simp only [hc, ↓reduceIte] at hctl ⊢
      have hs : s.starts = [] := by
        simp only [Bool.and_eq_true, List.isEmpty_iff] at hc; exact hc.1
      refine ⟨hctl, ?_, ?_, ?_⟩
      · intro hh; simp only at hh
        rcases hh with hh | hh | hh | ⟨hh | hh | hh, _⟩ <;> (split at hh <;> cases hh)
      · intro hh; simp only at hh; split at hh <;> cases hh
      · simp only [hs]; rfl
    · simp only [hc] at hctl ⊢
      refine ⟨hctl, h.obj, h.arr, h.shape ?_⟩
      intro hh
      apply hc
      simp [hh.1, hh.2, refTables, expectedFin]

/-- `WF` reads neither the offset nor the fast-loop flag -/
theorem WF.frame {s : St} (h : WF s) (p : Nat) (f : Bool) : WF { s with pos := p, inFast := f } :=
  ⟨⟨h.ctl.after, h.ctl.comma, h.ctl.next⟩, h.obj, h.arr, h.shape⟩

theorem step_wf (cfg : Cfg) (s : St) (b : UInt8) (hw : WF s) :
    (∀ e, step refTables cfg s b = .error e → e.kind.isFault = false) ∧
    (∀ s', step refTables cfg s b = .ok s' → WF s') := by
  obtain ⟨he, ho⟩ := stepAct_wf cfg s b hw
  refine ⟨fun e h => he e (step_error h), fun s' h => ?_⟩
  obtain ⟨s1, c, h1, rfl⟩ := step_ok h
  have hd := deliver_wf cfg s1 c (ho s1 c h1)
  exact hd.frame _ _

theorem runBytes_wf (cfg : Cfg) (bs : Bytes) (s : St) (hw : WF s) :
    (∀ e, runBytes refTables cfg s bs = .error e → e.kind.isFault = false) ∧
    (∀ s', runBytes refTables cfg s bs = .ok s' → WF s') :=
  runBytes_preserves (step_wf cfg) bs s hw

theorem runChunks_wf (cfg : Cfg) (cs : List Bytes) (s : St) (hw : WF s) :
    (∀ e, runChunks refTables cfg s cs = .error e → e.kind.isFault = false) ∧
    (∀ s', runChunks refTables cfg s cs = .ok s' → WF s') :=
  runChunks_preserves (step_wf cfg)
    (fun _ h => h.frame _ _) cs s hw

theorem finish_wf (s : St) (hw : WF s) (e : Err) (h : finish refTables s = .error e) : e.kind.isFault = false := by
  unfold finish at h
  split at h
  · cases h; rfl
  · rename_i hc
    split at h
    · rename_i hn
      -- a number is pending: the mode is a number mode, a value is expected, the add succeeds
      have hm : s.mode = .zero ∨ s.mode = .digit ∨ s.mode = .frac ∨ s.mode = .exp := by
        have : expectedFin s.mode = .n := hn
        cases hmm : s.mode <;> simp [hmm, expectedFin] at this <;> simp
      have hsh := hw.shape
      have hnv : needVal s.mode s.nextMode = true := by rcases hm with h | h | h | h <;> simp [needVal, h]
      rw [hnv] at hsh
      obtain ⟨st', hadd, _⟩ := St.add_ok s s.num.asNum.toJV hsh
      have : s.addNum = .ok { s with stack := st' } := hadd
      rw [this] at h
      cases h
    · cases h

/-- **No runtime fault**: whatever the input, the chunking and the configuration, the reference
automaton never produces a `fault` outcome (nil-map write, index out of range, slice bounds):
malformed input is always reported through an ordinary error. -/
theorem run_no_fault (cfg : Cfg) (chunks : List Bytes) (e : Err)
    (h : run refTables cfg chunks = .error e) : e.kind.isFault = false := by
  rcases run_eq cfg chunks with h' | ⟨cs, h'⟩ <;> rw [h'] at h
  · cases h; rfl
  · unfold afterBom at h
    split at h
    · rename_i hr; cases h; exact (runChunks_wf cfg cs {} WF.init).1 _ hr
    · rename_i hr; exact finish_wf _ ((runChunks_wf cfg cs {} WF.init).2 _ hr) e h

end OjgVerif.Json
