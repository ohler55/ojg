import OjgVerif.Json.BufLit
/-! # The digit loops against the byte machine

`digit_scan` is the part common to the three digit loops (integer, fraction, the tokenizer's integer loop): any loop
function with the two equations of `intLoop`, beside a machine that makes the same moves; `iterOK_num` takes its
conclusion to `IterOK`. Then the integer loop of `valDigit` against the byte machine with its fast loop on:
`iter_int`. -/
namespace OjgVerif.Json

variable {T : Tables} (hT : TablesOK T) (cfg : Cfg)

include hT in
theorem step_valDigit (m : St) (b : UInt8) (h : T.act m.mode b = .valDigit) :
    step T cfg m b = .ok { m with mode := .digit, num := { m.num.reset with i := (b - 48).toUInt64 },
                                  inFast := cfg.fastInt, pos := m.pos + 1 } := by
  unfold step stepAct
  simp only [h, Bool.false_eq_true, ↓reduceIte]
  rw [deliver_id_ok hT cfg _ (by simp only; decide)]

include hT in
theorem step_numDigit_fast (m : St) (c : UInt8) (hm : m.mode = .digit) (hf : m.inFast = true)
    (h : T.act .digit c = .numDigit) :
    step T cfg m c = .ok { m with
      num := if BigLimit ≤ m.num.i then m.num.fillBig.addDigit c
             else { m.num with i := m.num.i * 10 + (c - 48).toUInt64 },
      inFast := !(decide (BigLimit ≤ m.num.i)), pos := m.pos + 1 } := by
  unfold step stepAct
  simp only [hm, h, hf, Bool.false_eq_true, ↓reduceIte, Bool.true_and]
  rw [deliver_id_ok hT cfg _ (by simp only; decide)]

/-- index bookkeeping of a range loop that goes on behind an element `c` at index `j`: what holds of the
loop variables `R` for the rest `r` holds for `c :: r` (on an empty rest they rest on `c` itself) -/
theorem range_idx_cons {p : UInt8 → Prop} [DecidablePred p] {r pre rest : Bytes} {j : Nat} {c : UInt8} {R : Nat × UInt8}
    (hsplit : r = pre ++ rest) (hc : p c)
    (hoff : r ≠ [] → j + 1 + pre.length = R.1 + (if p R.2 then 1 else 0)) (hnil : r = [] → R = (j, c)) :
    j + (c :: pre).length = R.1 + (if p R.2 then 1 else 0) := by
  by_cases hr : r = []
  · obtain rfl : pre = [] := (List.append_eq_nil_iff.mp (hsplit.symm.trans hr)).1
    rw [hnil hr]
    simp only [hc, ↓reduceIte, List.length_cons, List.length_nil]
  · have := hoff hr
    simp only [List.length_cons]
    omega

/-- The digit loops (`intLoop`, `fracLoop`, `intLoopT`) have one shape: a byte that is not a digit ends the loop
unconsumed; a digit either ends it after `stop` or is accumulated by `go`. If the byte machine makes the same moves
(`Inv k n m`: after `k` digits the accumulator is `n` and the machine stands in `m`; `Out` after the digit that
ended the loop; the loop's own equation is asked for under `Inv` only), the loop is a run of the byte machine over
the digits consumed, and the Go loop variables rest on the last byte looked at. -/
theorem digit_scan
    {L : Bytes → Nat → Num → Nat × UInt8 → Num × Nat × UInt8}
    {brk : Num → UInt8 → Prop} [∀ n c, Decidable (brk n c)] {stop go : Num → UInt8 → Num}
    {Inv Out : Nat → Num → St → Prop}
    (hnil : ∀ j n acc, L [] j n acc = (n, acc))
    (hcons : ∀ c r j n acc k m, Inv k n m → L (c :: r) j n acc =
      if T.act .digit c = .numDigit then
        if brk n c then (stop n c, j, c) else L r (j + 1) (go n c) (j, c)
      else (n, j, c))
    (hgo : ∀ k n m c, Inv k n m → T.act .digit c = .numDigit → ¬ brk n c →
      ∃ m', step T cfg m c = .ok m' ∧ Inv (k + 1) (go n c) m')
    (hstop : ∀ k n m c, Inv k n m → T.act .digit c = .numDigit → brk n c →
      ∃ m', step T cfg m c = .ok m' ∧ Out (k + 1) (stop n c) m') :
    ∀ (l : Bytes) (j : Nat) (n : Num) (acc : Nat × UInt8) (k : Nat) (m : St), Inv k n m →
    ∃ (pre rest : Bytes) (m' : St), l = pre ++ rest ∧ runBytes T cfg m pre = .ok m' ∧
      (l ≠ [] → j + pre.length = (L l j n acc).2.1 + (if T.act .digit (L l j n acc).2.2 = .numDigit then 1 else 0)) ∧
      (l = [] → (L l j n acc).2 = acc) ∧
      ((Inv (k + pre.length) (L l j n acc).1 m' ∧ ∀ c, rest.head? = some c → T.act .digit c ≠ .numDigit) ∨
        Out (k + pre.length) (L l j n acc).1 m') := by
  intro l
  induction l with
  | nil =>
    intro j n acc k m hi
    exact ⟨[], [], m, rfl, rfl, fun h => absurd rfl h, fun _ => by rw [hnil], .inl ⟨by rw [hnil]; exact hi, nofun⟩⟩
  | cons c r ih =>
    intro j n acc k m hi
    rw [hcons c r j n acc k m hi]
    by_cases hd : T.act .digit c = .numDigit
    · simp only [hd, ↓reduceIte]
      by_cases hb : brk n c
      · obtain ⟨m', hs, ho⟩ := hstop k n m c hi hd hb
        simp only [hb, ↓reduceIte]
        exact ⟨[c], r, m', rfl, by simp only [runBytes, hs],
          fun _ => by simp only [hd, ↓reduceIte, List.length_cons, List.length_nil], nofun, .inr ho⟩
      · obtain ⟨m1, hs, hi1⟩ := hgo k n m c hi hd hb
        obtain ⟨pre, rest, m', hsplit, hrun, hoff, hnl, hfin⟩ := ih (j + 1) (go n c) (j, c) (k + 1) m1 hi1
        simp only [hb, ↓reduceIte]
        refine ⟨c :: pre, rest, m', by rw [hsplit]; rfl, by simp only [runBytes, hs, hrun], fun _ => ?_, nofun, ?_⟩
        · exact range_idx_cons (p := fun c => T.act .digit c = .numDigit) hsplit hd hoff hnl
        · rwa [List.length_cons, Nat.add_comm pre.length, ← Nat.add_assoc]
    · simp only [hd, ↓reduceIte]
      exact ⟨[], c :: r, m, rfl, rfl, fun _ => by simp only [List.length_nil], nofun,
        .inl ⟨hi, fun x hx => by cases hx; exact hd⟩⟩

theorem nf_set_num {a b : St} (h : a.nf = b.nf) (md : Mode) (hs : usesStr md = false) (hr : usesRi md = false)
    (hn : usesRn md = false) (n : Num) (p : Nat) (f1 f2 : Bool) :
    ({ a with mode := md, num := n, pos := p, inFast := f1 } : St).nf =
    ({ b with mode := md, num := n, pos := p, inFast := f2 } : St).nf := by
  obtain ⟨-, e2, e3, e4, -, e6, -, e8⟩ := nf_fields h
  exact nf_of_live (fun x => nomatch hs.symm.trans x) (fun x => nomatch hr.symm.trans x) (fun x => nomatch hn.symm.trans x)
    rfl e2 e3 e4 rfl e6 rfl e8

/-- the outcome of a digit loop, as `digit_scan` gives it from the state `m0` behind the byte `b`: `b` and the digits
`pre` are consumed, the accumulator stands in a mode `M n` that neither delivers nor keeps one of the four fields;
`off` rests on the last digit consumed (anywhere from `off` on when nothing follows `b`: stale loop variables). The
flag of the integer loop can stay up only where the loop ran out of digits (`Inv`), in digit mode. -/
theorem iterOK_num {buf : Bytes} {s m m0 : St} {off : Nat} {b : UInt8} (hb : buf[off]? = some b) (hrel : Rel s m)
    (hstep : step T cfg m b = .ok m0) {M : Num → Mode}
    (hM : ∀ n, usesStr (M n) = false ∧ usesRi (M n) = false ∧ usesRn (M n) = false ∧ T.fin (M n) ≠ .a)
    {R : Num × Nat × UInt8} {acc : Nat × UInt8} {off' : Nat}
    (hoff' : off' = off + R.2.1 + if T.act .digit R.2.2 = .numDigit then 1 else 0)
    {Inv Out : Nat → Num → St → Prop}
    (hscan : ∃ (pre rest : Bytes) (m' : St), buf.drop (off + 1) = pre ++ rest ∧ runBytes T cfg m0 pre = .ok m' ∧
      (buf.drop (off + 1) ≠ [] → 0 + pre.length = R.2.1 + (if T.act .digit R.2.2 = .numDigit then 1 else 0)) ∧
      (buf.drop (off + 1) = [] → R.2 = acc) ∧
      ((Inv (0 + pre.length) R.1 m' ∧ ∀ c, rest.head? = some c → T.act .digit c ≠ .numDigit) ∨
        Out (0 + pre.length) R.1 m'))
    (hI : ∀ k n m', Inv k n m' → m' = { m with mode := M n, num := n, pos := m.pos + 1 + k, inFast := m'.inFast } ∧
      NumInv m' ∧ (m'.inFast = true → M n = .digit))
    (hO : ∀ k n m', Out k n m' → m' = { m with mode := M n, num := n, pos := m.pos + 1 + k, inFast := false } ∧ NumInv m') :
    IterOK T cfg buf m off (wrapIter T cfg buf off (.ok ⟨{ s with mode := M R.1, num := R.1 }, off', R.2.1, false⟩)) := by
  obtain ⟨pre, rest, m', hsplit, hrun, hoff, -, hend⟩ := hscan
  obtain ⟨hdrop, hl⟩ := drop_of_getElem? buf off b hb
  obtain ⟨-, e1, e2, e3, e4, e5, e6, e7⟩ := nf_fields hrel.nf
  obtain ⟨hdr, hlen⟩ := drop_add_length hsplit (by omega)
  obtain ⟨hs, hr, hq, hfin⟩ := hM R.1
  rw [Nat.zero_add] at hoff hend
  have hk : min (off' + 1) buf.length = off + (pre.length + 1) := by
    by_cases hnil : buf.drop (off + 1) = []
    · have := List.drop_eq_nil_iff.mp hnil
      obtain rfl : pre = [] := (List.append_eq_nil_iff.mp (hsplit.symm.trans hnil)).1
      simp only [List.length_nil]; omega
    · have := hoff hnil; omega
  obtain ⟨hm', hinv, hside⟩ : m' = { m with mode := M R.1, num := R.1, pos := m.pos + 1 + pre.length, inFast := m'.inFast } ∧
      NumInv m' ∧ (m'.inFast = true → ∀ c, rest.head? = some c → T.act (M R.1) c ≠ .numDigit) := by
    rcases hend with ⟨hi, hnd⟩ | ho
    · obtain ⟨h1, h2, h3⟩ := hI _ _ _ hi
      exact ⟨h1, h2, fun hf => by rw [h3 hf]; exact hnd⟩
    · obtain ⟨h1, h2⟩ := hO _ _ _ ho
      exact ⟨by rw [h1], h2, fun hf => by rw [h1] at hf; cases hf⟩
  refine iterOK_fall cfg hfin hk (by omega) (m' := m') ?_
    (hm' ▸ rel_of_live (fun h => nomatch hs.symm.trans h) (fun h => nomatch hr.symm.trans h)
      (fun h => nomatch hq.symm.trans h) rfl e1 e2 e3 rfl e5 (by show s.pos + _ = m.pos + 1 + _; omega) e7 hrel.flag
      hrel.ns hrel.nm) ?_ (fun _ => hinv)
  · rw [hdrop]
    simp only [runBytes, hstep]
    rw [hsplit, C03.runBytes_append, hrun, show off + (pre.length + 1) = off + 1 + pre.length by omega, hdr]
  · intro hf c hc
    rw [hm']
    exact hside hf c (by rw [← hdr, List.head?_drop, ← hc]; congr 1; omega)

include hT in
theorem iter_int (fp : FP) (hint : fp.int = true) (hfast : cfg.fastInt = true) (buf : Bytes) (s m : St)
    (off i : Nat) (b : UInt8) (hb : buf[off]? = some b) (hrel : Rel s m)
    (hact : T.act s.mode b = .valDigit) :
    IterOK T cfg buf m off (iterBuf T cfg fp buf s off i b) := by
  obtain ⟨hdrop, hl⟩ := drop_of_getElem? buf off b hb
  have hactm : T.act m.mode b = .valDigit := (nf_fields hrel.nf).1 ▸ hact
  have hfin : T.fin .digit ≠ .a := fin_ne_a hT (by decide)
  rw [iterBuf_eq_wrap]
  unfold caseBuf
  simp only [hact, hint, ↓reduceIte, sliceOf_tail buf off hl]
  rw [show s.num.reset = m.num.reset from rfl]
  let Inv (k : Nat) (x : Num) (m' : St) : Prop :=
    m' = { m with mode := .digit, num := x, pos := m.pos + 1 + k, inFast := true } ∧ x.frac = 0 ∧ x.div = 1
  let Out (k : Nat) (x : Num) (m' : St) : Prop :=
    m' = { m with mode := .digit, num := x, pos := m.pos + 1 + k, inFast := false } ∧ x.big ≠ []
  refine iterOK_num cfg hb hrel (hfast ▸ step_valDigit hT cfg m b hactm) (M := fun _ => .digit)
    (fun _ => ⟨rfl, rfl, rfl, hfin⟩) (by split <;> omega)
    (digit_scan cfg (L := intLoop T) (brk := fun n _ => BigLimit ≤ n.i) (stop := fun n c => n.fillBig.addDigit c)
      (go := fun n c => { n with i := n.i * 10 + (c - 48).toUInt64 }) (Inv := Inv) (Out := Out)
      (fun _ _ _ => rfl) (fun c r j n acc _ _ _ => by rw [intLoop])
      (fun k x m1 c hi hd hb => by
        obtain ⟨rfl, h1, h2⟩ := hi
        exact ⟨_, step_numDigit_fast hT cfg _ c rfl rfl hd,
          by simp only [hb, ↓reduceIte, decide_false, Bool.not_false, Nat.add_assoc], h1, h2⟩)
      (fun k x m1 c hi hd hb => by
        obtain ⟨rfl, -, -⟩ := hi
        refine ⟨_, step_numDigit_fast hT cfg _ c rfl rfl hd,
          by simp only [hb, ↓reduceIte, decide_true, Bool.not_true, Nat.add_assoc], ?_⟩
        unfold Num.addDigit
        simp only [List.length_pos_iff.mpr (fillBig_big_ne_nil x), ↓reduceIte]; simp)
      _ 0 _ (i, b) 0 _ ⟨rfl, rfl, rfl⟩)
    (fun k x m' hi => by obtain ⟨rfl, h1, h2⟩ := hi; exact ⟨rfl, fun _ _ => ⟨h1, h2⟩, fun _ => rfl⟩)
    (fun k x m' ho => by obtain ⟨rfl, hb⟩ := ho; exact ⟨rfl, fun _ h => absurd h hb⟩)

end OjgVerif.Json
