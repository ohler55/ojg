import OjgVerif.Json.Wf
import OjgVerif.Json.NumFast
import OjgVerif.Json.ActFacts
/-! The parsers' integer fast loop against the byte-at-a-time machine, WITH values: the two
machines build exactly the same state — same values, same documents — on every input unless a digit
arrives in the fast loop while the accumulator equals `BigLimit` exactly (known finding C02-int19:
the 19-digit integers 9223372036854775800 … 807). `Json/Erase.lean` shows that even then acceptance,
document count and errors are the same. -/
namespace OjgVerif.Json

def St.clr (s : St) : St := { s with inFast := false }

def clrR : Except Err St → Except Err St
  | .ok s => .ok s.clr
  | .error e => .error e

@[simp] theorem St.clr_clr (s : St) : s.clr.clr = s.clr := rfl
@[simp] theorem St.clr_mode (s : St) : s.clr.mode = s.mode := rfl
@[simp] theorem St.clr_err (s : St) (k : ErrKind) : s.clr.err k = s.err k := rfl

theorem clr_of_false (m : St) (h : m.inFast = false) : m.clr = m := by
  unfold St.clr
  rw [← h]

theorem clrR_eq_cases {x y : Except Err St} (h : clrR x = clrR y) :
    (∃ e, x = .error e ∧ y = .error e) ∨ ∃ a b, x = .ok a ∧ y = .ok b ∧ a.clr = b.clr := by
  cases x <;> cases y <;> simp only [clrR, Except.ok.injEq, Except.error.injEq, reduceCtorEq] at h
  · exact Or.inl ⟨_, rfl, h ▸ rfl⟩
  · exact Or.inr ⟨_, _, rfl, rfl, h⟩

theorem Act.build_clr (T : Tables) (a : Act) (b : UInt8) (s : St) :
    a.build T b s.clr = a.build T b s ∧ a.cont s.clr = a.cont s := by
  cases a <;> exact ⟨rfl, rfl⟩

theorem Act.upd_clr (T : Tables) (cfg cfg' : Cfg) {a : Act} (b : UInt8) (s : St) (st : List Item)
    (h : a.inLoop = false) : (a.upd T cfg b s st).clr = a.upd T cfg' b s.clr st := by
  cases a <;> simp only [Act.upd]
  case numDigit | valDigit => cases h
  case tokenOk => rw [St.clr_mode]; cases tokLit T s.mode <;> rfl
  all_goals rfl

/-- a digit reaches the fast loop while the accumulator equals `BigLimit` -/
def Hit (s : St) (b : UInt8) : Prop := s.inFast = true ∧ expected s.mode b = .numDigit ∧ s.num.i = BigLimit

/-- inside the fast loop the number is not in text form -/
def FastInv (s : St) : Prop := s.inFast = true → s.num.big = []

/-- configuration of the parsers: the integer fast loop is on -/
def cfgFast : Cfg := { fastInt := true }

theorem deliver_clr (T : Tables) (cfg cfg' : Cfg) (ho : cfg.onlyOne = cfg'.onlyOne) (x : St) :
    deliver T cfg' x.clr = (deliver T cfg x).clr := by
  unfold deliver
  have hc : (x.clr.starts.isEmpty && decide (T.fin x.clr.mode = EndMark.a)) =
      (x.starts.isEmpty && decide (T.fin x.mode = EndMark.a)) := rfl
  rw [hc, ho]
  cases (x.starts.isEmpty && decide (T.fin x.mode = EndMark.a)) <;> rfl

/-- the record update up to the flag: the setting only reaches the flag (`valDigit`), and the flag is read by the
digit of the loop alone -/
theorem Act.upd_clr_rel (T : Tables) (cfg cfg' : Cfg) {a : Act} (b : UInt8) (s : St) (st : List Item)
    (hd : a = .numDigit → s.inFast = false) : (a.upd T cfg b s st).clr = (a.upd T cfg' b s.clr st).clr := by
  cases hl : a.inLoop
  · rw [← Act.upd_clr T cfg cfg' b s st hl, St.clr_clr]
  · cases a <;> cases hl
    · rfl
    · rw [clr_of_false s (hd rfl)]; rfl

theorem Act.settle_clr (T : Tables) {cfg cfg' : Cfg} (ho : cfg.onlyOne = cfg'.onlyOne) (a : Act) (c : Bool) {x y : St}
    (h : x.clr = y.clr) : (a.settle T cfg x c).clr = (a.settle T cfg' y c).clr := by
  have hy : (if c then x else deliver T cfg x).clr = (if c then y else deliver T cfg' y).clr := by
    cases c
    · exact ((deliver_clr T cfg cfg' ho x).symm.trans (congrArg _ h)).trans (deliver_clr T cfg' cfg' rfl y)
    · exact h
  exact congrArg (fun z : St => { z with pos := z.pos + 1 }) hy

theorem step_clr (T : Tables) (cfg cfg' : Cfg) (ho : cfg.onlyOne = cfg'.onlyOne) (m : St) (b : UInt8)
    (hd : T.act m.mode b = .numDigit → m.inFast = false) :
    clrR (step T cfg m b) = clrR (step T cfg' m.clr b) := by
  rw [step_eq, step_eq, St.clr_mode, (Act.build_clr T _ b m).1, (Act.build_clr T _ b m).2]
  cases (T.act m.mode b).build T b m with
  | error k => rfl
  | ok st => exact congrArg Except.ok (Act.settle_clr T ho _ _ (Act.upd_clr_rel T cfg cfg' b m st hd))

/-- **One byte, with values.** Unless a digit hits the fast loop at `BigLimit`, the parsers' machine
and the byte-at-a-time machine make the same step. -/
theorem step_fast_slow (s : St) (b : UInt8) (hinv : FastInv s) (hno : ¬ Hit s b) :
    clrR (step refTables cfgFast s b) = clrR (step refTables cfg1 s.clr b) := by
  by_cases hd : expected s.mode b = .numDigit
  · -- the digit action: the loop's arithmetic is `AddDigit`
    have hnum : (if s.inFast = true then
          (if BigLimit ≤ s.num.i then s.num.fillBig.addDigit b
           else ({ s.num with i := s.num.i * 10 + (b - 48).toUInt64 } : Num))
        else s.num.addDigit b) = s.num.addDigit b := by
      by_cases hf : s.inFast = true
      · simp only [hf, ↓reduceIte]
        exact fast_digit_eq_slow s.num b (hinv hf) (fun h => hno ⟨hf, hd, h⟩) (numDigit_isDigit s.mode b hd)
      · simp only [hf, Bool.false_eq_true, ↓reduceIte]
    have hm : s.mode = .digit := by simpa [srcModes] using act_src hd
    unfold step stepAct
    simp only [St.clr_mode, show refTables.act s.mode b = .numDigit from hd, hnum, Bool.false_eq_true, ↓reduceIte]
    rw [deliver_id_of refTables cfgFast, deliver_id_of refTables cfg1]
    · rfl
    all_goals (show refTables.fin s.mode ≠ .a; rw [hm]; decide)
  · exact step_clr refTables cfgFast cfg1 rfl s b (fun h => absurd h hd)

theorem Act.settle_num (T : Tables) (cfg : Cfg) (a : Act) (x : St) (c : Bool) : (a.settle T cfg x c).num = x.num := by
  cases c
  · exact (congrArg St.num (deliver_frame T cfg x) :)
  · rfl

/-- the flag survives a step only inside the digit loop, where the number is still an integer -/
theorem step_fastInv (s s' : St) (b : UInt8) (hinv : FastInv s)
    (h : step refTables cfgFast s b = .ok s') : FastInv s' := by
  rw [step_eq] at h
  split at h <;> cases h
  intro hf
  rw [Act.settle_inFast] at hf
  rw [Act.settle_num]
  cases hact : refTables.act s.mode b <;> rw [hact] at hf <;>
    simp only [Act.inLoop, Act.upd, Bool.false_and, Bool.true_and, Bool.false_eq_true] at hf ⊢
  case numDigit =>
    simp only [Bool.and_eq_true, Bool.not_eq_eq_eq_not, Bool.not_true, decide_eq_false_iff_not] at hf
    simp only [hf.1, hf.2, ↓reduceIte]
    exact hinv hf.1
  case valDigit => rfl

/-- no digit reaches the fast loop at `BigLimit` anywhere on the run -/
def NoHitRun : St → Bytes → Prop
  | _, [] => True
  | s, b :: r => ¬ Hit s b ∧ match step refTables cfgFast s b with
    | .ok s' => NoHitRun s' r
    | .error _ => True

theorem runBytes_fast_slow (bs : Bytes) : ∀ (s : St), FastInv s → NoHitRun s bs →
    clrR (runBytes refTables cfgFast s bs) = clrR (runBytes refTables cfg1 s.clr bs) := by
  induction bs with
  | nil => intro s _ _; rfl
  | cons b r ih =>
    intro s hinv ⟨hnh, hrest⟩
    simp only [runBytes]
    rcases clrR_eq_cases (step_fast_slow s b hinv hnh) with ⟨e, h1, h2⟩ | ⟨s1, t, h1, h2, hst⟩
    · rw [h1, h2]
    · rw [h1] at hrest
      rw [h1, h2, ← clr_of_false t (step_inFast_false cfg1 s.clr t b h2 (fun _ => rfl) fun _ => rfl), ← hst]
      exact ih s1 (step_fastInv s s1 b hinv h1) hrest

theorem finish_clr_congr {a b : St} (h : a.clr = b.clr) : finish refTables a = finish refTables b :=
  ((finish_inFast a false).symm.trans (congrArg _ h)).trans (finish_inFast b false)

/-- **C02 for the parsers.** On every input on which no digit reaches the fast loop while the
accumulator equals `BigLimit` (the condition under which known finding C02-int19 shows), the parsers'
machine returns exactly what the byte-at-a-time machine returns: the same documents with the same
values, or the same error. -/
theorem exec_fast_eq_slow (bs : Bytes) (h : NoHitRun {} bs) :
    (match runBytes refTables cfgFast {} bs with
      | .error e => Except.error e
      | .ok s => finish refTables s) =
    (match runBytes refTables cfg1 {} bs with
      | .error e => Except.error e
      | .ok s => finish refTables s) := by
  rcases clrR_eq_cases (runBytes_fast_slow bs {} (fun h => nomatch h) h) with ⟨e, h1, h2⟩ | ⟨a, b, h1, h2, hab⟩ <;>
    rw [h1, show runBytes refTables cfg1 {} bs = _ from h2]
  exact finish_clr_congr hab

theorem exec_fast_eq_slow_of_ok {T : Tables} (hT : TablesOK T) (bs : Bytes) (h : NoHitRun {} bs) :
    (match runBytes T cfgFast {} bs with
      | .error e => Except.error e
      | .ok s => finish T s) =
    (match runBytes T cfg1 {} bs with
      | .error e => Except.error e
      | .ok s => finish T s) := by
  -- over either configuration the run ends in a state in which the tables finish as the reference does
  have hside : ∀ cfg : Cfg,
      (match runBytes T cfg {} bs with
        | .error e => Except.error e
        | .ok s => finish T s) =
      (match runBytes refTables cfg {} bs with
        | .error e => Except.error e
        | .ok s => finish refTables s) := by
    intro cfg
    rw [runBytes_eq_ref hT]
    cases hs : runBytes refTables cfg {} bs with
    | error e => rfl
    | ok s => exact finish_eq_ref hT s ((runBytes_wf cfg bs {} WF.init).2 s hs).ctl.comma
  rw [hside, hside]
  exact exec_fast_eq_slow bs h

/-- executable form of `NoHitRun` -/
def noHitRunB : St → Bytes → Bool
  | _, [] => true
  | s, b :: r =>
    !(s.inFast && (expected s.mode b == .numDigit) && (s.num.i == BigLimit)) &&
    match step refTables cfgFast s b with
    | .ok s' => noHitRunB s' r
    | .error _ => true

theorem noHitRun_of_B (bs : Bytes) : ∀ s : St, noHitRunB s bs = true → NoHitRun s bs := by
  induction bs with
  | nil => intro _ _; trivial
  | cons b r ih =>
    intro s h
    simp only [noHitRunB, Bool.and_eq_true, Bool.not_eq_eq_eq_not, Bool.not_true, Bool.and_eq_false_imp,
      beq_iff_eq] at h
    refine ⟨fun hh => ?_, ?_⟩
    · have := h.1 ⟨hh.1, hh.2.1⟩
      simp only [beq_eq_false_iff_ne, ne_eq] at this
      exact this hh.2.2
    · cases hs : step refTables cfgFast s b with
      | error e => trivial
      | ok s' => rw [hs] at h; exact ih s' h.2

end OjgVerif.Json
