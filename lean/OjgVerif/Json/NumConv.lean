import OjgVerif.Json.RefineNum
/-! What the machine makes of a plain integer literal: `numConv` (the conversion that appears in the
refinement theorems) on `-? (0 | [1-9][0-9]*)` is the int64 equal to the literal whenever it fits. -/
namespace OjgVerif.Json

/-- a plain integer literal with sign `s`: the case of `numConv_render` without fraction and exponent, where
`acc` is `AddDigit` folded over the digits -/
theorem numConv_int (s : Bool) (d : UInt8) (ds : Bytes) (hd : Spec.isDigit19 d = true)
    (hds : Dig ds) (hfit : natOf (d :: ds) ≤ 9223372036854775807) :
    numConv (sgnTxt s ++ d :: ds) = .int (if s then -(natOf (d :: ds) : Int) else natOf (d :: ds)) := by
  have hdig : Dig (d :: ds) := Dig.cons (isDigit19_isDigit d hd) hds
  have := numConv_render ⟨s, d :: ds, none, none⟩ ⟨hdig, List.cons_ne_nil _ _, (fun _ h => nomatch h), (fun _ h => nomatch h)⟩
    (Or.inr ⟨d, ds, rfl, hd⟩)
  simp only [render, fracTxt, expTxt, List.append_nil] at this
  rw [this]
  have h0 : IntInv ({ neg := s } : Num) 0 := ⟨fun _ => ⟨rfl, rfl⟩, fun h => by omega⟩
  have := asNum_foldl_addDigit ({ neg := s } : Num) 0 (d :: ds) (isDigitB_of_dig hdig) h0 rfl rfl hfit
  simp only [acc, accFrac, accExp, accInt]
  rw [this]
  cases s <;> rfl

/-- **A plain non-negative integer literal that fits int64 is that int64.** -/
theorem numConv_nat (d : UInt8) (ds : Bytes) (hd : Spec.isDigit19 d = true)
    (hds : ∀ x ∈ ds, Spec.isDigit x = true) (hfit : natOf (d :: ds) ≤ 9223372036854775807) :
    numConv (d :: ds) = .int (natOf (d :: ds)) := numConv_int false d ds hd hds hfit

/-- **A plain negative integer literal whose magnitude fits int64 is that int64.** -/
theorem numConv_neg (d : UInt8) (ds : Bytes) (hd : Spec.isDigit19 d = true)
    (hds : ∀ x ∈ ds, Spec.isDigit x = true) (hfit : natOf (d :: ds) ≤ 9223372036854775807) :
    numConv (45 :: d :: ds) = .int (-(natOf (d :: ds) : Int)) := numConv_int true d ds hd hds hfit

theorem numConv_zero : numConv [48] = .int 0 ∧ numConv [45, 48] = .int 0 := by
  constructor <;> rfl

end OjgVerif.Json
