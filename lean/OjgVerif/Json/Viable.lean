import OjgVerif.Json.Ctl
import OjgVerif.Json.Refine
/-! Viable prefixes (C09): every prefix the machine accepts can be completed to an accepted text, so
the byte at which the machine rejects is the first byte after which the input can no longer be
extended to a valid JSON text. -/
namespace OjgVerif.Json

/-- control-level condition under which a byte is accepted -/
def okCtl (c : Ctl) (b : UInt8) : Bool :=
  match expected c.mode b with
  | .charErr | .unknown => false
  | .closeArray => match c.starts with | true :: _ => true | _ => false
  | .closeObject => (match c.starts with | false :: _ => true | _ => false) && expectedFin c.mode != .v
  | .numComma => !c.starts.isEmpty
  | .tokenOk => (litOf c.mode).getD (c.ri + 1) 0 == b
  | _ => true

theorem add_err_fault {s : St} {v : JV} {e : Err} (h : s.add v = .error e) : e.kind.isFault = true := by
  obtain ⟨_, -, rfl⟩ := St.add_eq_error h
  rfl

theorem addK_fault {v : JV} {st : List Item} {k : ErrKind} (h : addK v st = .error k) : k.isFault = true := by
  unfold addK at h; split at h <;> cases h; rfl

theorem popObjK_fault {st : List Item} {k : ErrKind} (h : popObjK st = .error k) : k.isFault = true := by
  cases st with
  | nil => cases h; rfl
  | cons top below => exact addK_fault h

theorem popArrK_fault {st : List Item} {k : ErrKind} (h : popArrK st = .error k) : k.isFault = true := by
  unfold popArrK at h
  split at h
  · cases h; rfl
  · exact addK_fault h

/-- the tail of the two closing actions: the pending number is added, then the container is popped -/
theorem pops_fault {T : Tables} {s : St} {k : ErrKind} {pop : List Item → Except ErrKind (List Item)}
    (hp : ∀ st, pop st = .error k → k.isFault = true)
    (h : (match flushK T s with | .error k => Except.error k | .ok st => pop st) = .error k) : k.isFault = true := by
  cases hf : flushK T s with
  | error k' =>
    rw [hf] at h; cases h
    unfold flushK at hf
    split at hf
    · exact addK_fault hf
    · cases hf
  | ok st => rw [hf] at h; exact hp _ h

/-- under the control-level condition the only errors left are the faults of `add` and of the two pops -/
theorem Act.build_err_fault {s : St} {b : UInt8} {k : ErrKind} (hok : okCtl s.ctl b = true)
    (h : (expected s.mode b).build refTables b s = .error k) : k.isFault = true := by
  have hsrc := src_ok s.mode b
  unfold okCtl at hok
  simp only [St.ctl] at hok
  cases hact : expected s.mode b <;> rw [hact] at h hok hsrc <;> simp only [Act.build] at h hok
  case numComma =>
    cases ha : addK s.num.asNum.toJV s.stack with
    | error k' => rw [ha] at h; cases h; exact addK_fault ha
    | ok st => rw [ha] at h; cases hs : s.starts <;> simp [hs] at h hok
  case closeObject =>
    rcases hs : s.starts with _ | ⟨_ | _, rest⟩ <;> simp [hs] at h hok
    rw [if_neg (show ¬ refTables.fin s.mode = EndMark.v from hok)] at h
    exact pops_fault (fun _ => popObjK_fault) h
  case closeArray =>
    rcases hs : s.starts with _ | ⟨_ | _, rest⟩ <;> simp [hs] at h hok
    exact pops_fault (fun _ => popArrK_fault) h
  case strQuote => split at h; cases h; exact addK_fault h
  case numSpc | numNewline => exact addK_fault h
  case tokenOk =>
    obtain ⟨k', e⟩ := tokLit_lit (by simpa [IsLit, srcModes] using hsrc)
    simp only [e, beq_iff_eq] at h hok
    rw [if_pos hok] at h
    split at h
    · exact addK_fault h
    · cases h
  case charErr | unknown => cases hok
  all_goals cases h

theorem stepAct_err_fault (s : St) (b : UInt8) (e : Err) (hok : okCtl s.ctl b = true)
    (h : stepAct refTables cfg1 s b = .error e) : e.kind.isFault = true := by
  rw [stepAct_eq] at h
  cases hb : (refTables.act s.mode b).build refTables b s with
  | ok st => rw [hb] at h; cases h
  | error k => rw [hb] at h; cases h; exact Act.build_err_fault hok hb

theorem step_ok_of_okCtl (s : St) (b : UInt8) (hw : WF s) (hok : okCtl s.ctl b = true) :
    ∃ s', step refTables cfg1 s b = .ok s' ∧ WF s' ∧ s'.ctl = stepCtl s.ctl b := by
  cases hs : step refTables cfg1 s b with
  | ok s' => exact ⟨s', rfl, (step_wf cfg1 s b hw).2 s' hs, step_ctlEq cfg1 rfl s s' b hs⟩
  | error e =>
    exfalso
    have hnf := (step_wf cfg1 s b hw).1 e hs
    rw [stepAct_err_fault s b e hok (step_error hs)] at hnf
    cases hnf

/-- the control automaton over a byte string -/
def runCtl (c : Ctl) : Bytes → Option Ctl
  | [] => some c
  | b :: r => if okCtl c b then runCtl (stepCtl c b) r else none

theorem runCtl_append (c : Ctl) (a b : Bytes) :
    runCtl c (a ++ b) = (runCtl c a).bind fun c' => runCtl c' b := by
  induction a generalizing c with
  | nil => rfl
  | cons x r ih =>
    simp only [List.cons_append, runCtl]
    split
    · exact ih _
    · rfl

theorem runBytes_of_runCtl (bs : Bytes) : ∀ (s : St) (c' : Ctl), WF s → runCtl s.ctl bs = some c' →
    ∃ s', runBytes refTables cfg1 s bs = .ok s' ∧ WF s' ∧ s'.ctl = c' := by
  induction bs with
  | nil => intro s c' hw h; simp only [runCtl, Option.some.injEq] at h; exact ⟨s, rfl, hw, h⟩
  | cons b r ih =>
    intro s c' hw h
    simp only [runCtl] at h
    split at h
    · rename_i hok
      obtain ⟨s1, hs1, hw1, hc1⟩ := step_ok_of_okCtl s b hw hok
      rw [← hc1] at h
      obtain ⟨s', hs', hw', hc'⟩ := ih s1 c' hw1 h
      exact ⟨s', by simp only [runBytes, hs1]; exact hs', hw', hc'⟩
    · cases h

/-- control-level condition under which the end of the input is accepted -/
def finOk (c : Ctl) : Bool := c.starts.isEmpty && expectedFin c.mode != .absent

theorem finish_ok_of_finOk (s : St) (hw : WF s) (h : finOk s.ctl = true) :
    ∃ docs, finish refTables s = .ok docs := by
  cases hf : finish refTables s with
  | ok docs => exact ⟨docs, rfl⟩
  | error e =>
    exfalso
    have hnf := finish_wf s hw e hf
    simp only [finOk, St.ctl, Bool.and_eq_true, bne_iff_ne, ne_eq] at h
    unfold finish at hf
    have h1 : refTables.fin s.mode ≠ .absent := h.2
    simp only [h.1, Bool.not_true, Bool.false_or, decide_eq_true_eq, h1, ↓reduceIte] at hf
    split at hf
    · cases ha : s.addNum with
      | error e' =>
        rw [ha] at hf; cases hf
        have := add_err_fault ha
        rw [this] at hnf; cases hnf
      | ok s1 => rw [ha] at hf; cases hf
    · cases hf

/-- what the completions need of a reachable state beside `CtlWF`: the literal / escape counter is in range,
`space` mode occurs at top level only, and `next`, which repeats `CtlInv.next` (`WF.ctl`) so that the
string modes can be completed from the control state alone -/
structure RInv (c : Ctl) : Prop where
  lit3 : c.mode = .null ∨ c.mode = .true_ → c.ri ≤ 2
  lit4 : c.mode = .false_ → c.ri ≤ 3
  hex : c.mode = .u → c.ri ≤ 3
  space : c.mode = .space → c.starts = []
  next : c.nextMode = .colon ∨ c.nextMode = .after

theorem RInv.init : RInv ({} : St).ctl :=
  ⟨(by intro h; rcases h with h | h <;> cases h), (by intro h; cases h), (by intro h; cases h), fun _ => rfl,
   Or.inr rfl⟩

theorem rinv_deliver (c : Ctl) (h : RInv c) : RInv (deliverCtl c) := by
  unfold deliverCtl
  split
  · rename_i hc
    simp only [Bool.and_eq_true, List.isEmpty_iff, decide_eq_true_eq] at hc
    exact ⟨(by intro h; rcases h with h | h <;> cases h), (by intro h; cases h), (by intro h; cases h),
      fun _ => hc.1, h.next⟩
  · exact h

/-- the modes of which no clause of `RInv` speaks -/
def Mode.plain : Mode → Bool
  | .null | .true_ | .false_ | .u | .space => false
  | _ => true

theorem RInv.of_plain {c : Ctl} (hn : c.nextMode = .colon ∨ c.nextMode = .after) (hm : c.mode.plain = true) :
    RInv c := by
  refine ⟨fun h => ?_, fun h => ?_, fun h => ?_, fun h => ?_, hn⟩ <;> try rcases h with h | h
  all_goals rw [h] at hm; cases hm

theorem rinv_step (c : Ctl) (b : UInt8) (h : RInv c) : RInv (stepCtl c b) := by
  have hsrc := src_ok c.mode b
  unfold stepCtl
  have key : RInv (actCtl (expected c.mode b) c) := by
    cases hact : expected c.mode b <;> rw [hact] at hsrc <;> simp only [actCtl]
    case tokenOk =>
      -- the counter stays below the length of the literal until the last letter leaves for `after`
      have hm : c.mode = .null ∨ c.mode = .true_ ∨ c.mode = .false_ := by simpa [srcModes] using hsrc
      by_cases hdone : c.litDone
      · simp only [hdone, ↓reduceIte]
        exact .of_plain h.next rfl
      · simp only [hdone, ↓reduceIte]
        refine ⟨fun hn => ?_, fun hf => ?_, fun hu => ?_, fun hs => ?_, h.next⟩
        · have hnf : c.mode ≠ .false_ := by rcases hn with hn | hn <;> (rw [hn]; decide)
          have := h.lit3 hn
          by_cases h3 : 3 ≤ c.ri + 1
          · exact absurd (Or.inr ⟨hnf, h3⟩) hdone
          · simp only; omega
        · by_cases h4 : 4 ≤ c.ri + 1
          · exact absurd (Or.inl ⟨hf, h4⟩) hdone
          · simp only; omega
        · rcases hm with hm | hm | hm <;> (rw [hm] at hu; cases hu)
        · rcases hm with hm | hm | hm <;> (rw [hm] at hs; cases hs)
    case uOk =>
      have hm : c.mode = .u := by simpa [srcModes] using hsrc
      have h3 := h.hex hm
      by_cases h4 : c.ri + 1 = 4
      · simp only [h4, ↓reduceIte]
        exact .of_plain h.next rfl
      · simp only [h4, ↓reduceIte]
        refine ⟨fun hn => ?_, fun hf => ?_, fun _ => ?_, fun hs => ?_, h.next⟩
        · rcases hn with hn | hn <;> (rw [hm] at hn; cases hn)
        · rw [hm] at hf; cases hf
        · simp only; omega
        · rw [hm] at hs; cases hs
    case strQuote => rcases h.next with hn | hn <;> exact .of_plain h.next (by rw [hn]; rfl)
    case afterComma | numComma => exact .of_plain h.next (by unfold afterCommaModeL; split <;> rfl)
    case skipNewline | skipChar | strOk | numDigit | charErr | unknown => exact h
    case keyQuote => exact .of_plain (Or.inl rfl) rfl
    case valQuote => exact .of_plain (Or.inr rfl) rfl
    case valNull | valTrue | valFalse | escU =>
      exact ⟨fun _ => Nat.zero_le _, fun _ => Nat.zero_le _, fun _ => Nat.zero_le _, (fun h => nomatch h), h.next⟩
    -- every other action sets a mode of which no clause speaks
    all_goals exact .of_plain h.next rfl
  split
  · exact key
  · exact rinv_deliver _ key

theorem runCtl_rinv (bs : Bytes) : ∀ (c c' : Ctl), RInv c → runCtl c bs = some c' → RInv c' := by
  induction bs with
  | nil => intro c c' h hr; simp only [runCtl, Option.some.injEq] at hr; rw [← hr]; exact h
  | cons b r ih =>
    intro c c' h hr
    simp only [runCtl] at hr
    split at hr
    · exact ih _ _ (rinv_step c b h) hr
    · cases hr

theorem reach_inv (p : Bytes) : ∀ (s s' : St), WF s → RInv s.ctl → runBytes refTables cfg1 s p = .ok s' →
    WF s' ∧ RInv s'.ctl := fun s s' hw hr h =>
  (runBytes_preserves (P := fun s => WF s ∧ RInv s.ctl) (Q := fun _ => True)
    (fun s b hs => ⟨fun _ _ => trivial, fun s1 h1 =>
      ⟨(step_wf cfg1 s b hs.1).2 s1 h1, step_ctlEq cfg1 rfl s s1 b h1 ▸ rinv_step _ _ hs.2⟩⟩) p s ⟨hw, hr⟩).2 s' h

/-- the control part of `WF` -/
structure CtlWF (c : Ctl) : Prop where
  after : c.mode = .after → c.starts ≠ []
  comma : c.mode = .comma → ∃ ss, c.starts = true :: ss
  obj : (c.mode = .key1 ∨ c.mode = .key ∨ c.mode = .colon ∨
          ((c.mode = .string ∨ c.mode = .esc ∨ c.mode = .u) ∧ c.nextMode = .colon)) →
        ∃ ss, c.starts = false :: ss

theorem CtlWF.of_wf {s : St} (hw : WF s) : CtlWF s.ctl :=
  ⟨hw.ctl.after, hw.arr, hw.obj⟩

/-- nothing is pending but closing brackets (or nothing at all) -/
def Done (c : Ctl) : Prop :=
  (c.mode = .after ∧ c.starts ≠ []) ∨ (c.mode = .zero ∨ c.mode = .digit ∨ c.mode = .frac ∨ c.mode = .exp) ∨
  (c.mode = .key1 ∧ ∃ ss, c.starts = false :: ss) ∨ ((c.mode = .space ∨ c.mode = .value) ∧ c.starts = [])

def closers (st : List Bool) : Bytes := st.map fun x => if x then 93 else 125

theorem close_one (c : Ctl) (x : Bool) (ss : List Bool) (hst : c.starts = x :: ss) (hd : Done c) :
    okCtl c (if x then 93 else 125) = true ∧
    (stepCtl c (if x then 93 else 125)).starts = ss ∧ Done (stepCtl c (if x then 93 else 125)) := by
  -- which modes: behind a value or a number anywhere, behind `{` for the object closer only
  have hmode : c.mode = .after ∨ c.mode = .zero ∨ c.mode = .digit ∨ c.mode = .frac ∨ c.mode = .exp ∨
      (c.mode = .key1 ∧ x = false) := by
    rcases hd with ⟨h, _⟩ | (h | h | h | h) | ⟨h, ss', hs'⟩ | ⟨_, h⟩
    · exact Or.inl h
    · exact Or.inr (Or.inl h)
    · exact Or.inr (Or.inr (Or.inl h))
    · exact Or.inr (Or.inr (Or.inr (Or.inl h)))
    · exact Or.inr (Or.inr (Or.inr (Or.inr (Or.inl h))))
    · rw [hst] at hs'; cases hs'
      exact Or.inr (Or.inr (Or.inr (Or.inr (Or.inr ⟨h, rfl⟩))))
    · rw [hst] at h; cases h
  have hact : expected c.mode (if x then 93 else 125) = if x then .closeArray else .closeObject := by
    rcases hmode with h | h | h | h | h | ⟨h, rfl⟩ <;> rw [h] <;> first | rfl | (cases x <;> rfl)
  have hfin : expectedFin c.mode ≠ .v := by
    rcases hmode with h | h | h | h | h | ⟨h, _⟩ <;> rw [h] <;> decide
  have hstep : stepCtl c (if x then 93 else 125) = deliverCtl { c with starts := ss, mode := .after } := by
    unfold stepCtl
    rw [hact]
    cases x <;> simp only [contOf, Bool.false_eq_true, ↓reduceIte, actCtl, hst, List.tail_cons]
  refine ⟨?_, ?_⟩
  · unfold okCtl
    rw [hact]
    cases x <;> simp [hst, hfin]
  · rw [hstep]
    unfold deliverCtl
    cases ss with
    | nil =>
      simp only [List.isEmpty_nil, expectedFin, decide_true, Bool.and_self, ↓reduceIte]
      exact ⟨trivial, Or.inr (Or.inr (Or.inr ⟨Or.inl rfl, rfl⟩))⟩
    | cons y t =>
      simp only [List.isEmpty_cons, Bool.false_and, Bool.false_eq_true, ↓reduceIte]
      exact ⟨trivial, Or.inl ⟨rfl, by simp⟩⟩

theorem close_all : ∀ (st : List Bool) (c : Ctl), c.starts = st → Done c →
    ∃ c', runCtl c (closers st) = some c' ∧ finOk c' = true := by
  intro st
  induction st with
  | nil =>
    intro c hst hd
    refine ⟨c, rfl, ?_⟩
    simp only [finOk, hst, List.isEmpty_nil, Bool.true_and, bne_iff_ne, ne_eq]
    rcases hd with ⟨_, h⟩ | (h | h | h | h) | ⟨_, ss, h⟩ | ⟨h | h, _⟩
    · exact absurd hst h
    · rw [h]; decide
    · rw [h]; decide
    · rw [h]; decide
    · rw [h]; decide
    · rw [hst] at h; cases h
    · rw [h]; decide
    · rw [h]; decide
  | cons x ss ih =>
    intro c hst hd
    obtain ⟨hok, hs1, hd1⟩ := close_one c x ss hst hd
    obtain ⟨c', hrun, hfin⟩ := ih _ hs1 hd1
    refine ⟨c', ?_, hfin⟩
    simp only [closers, List.map_cons, runCtl, hok, ↓reduceIte]
    exact hrun

/-- the pending token can be completed without touching the container stack -/
def Completable (c : Ctl) : Prop := ∃ bs c1, runCtl c bs = some c1 ∧ c1.starts = c.starts ∧ Done c1

theorem completable_done (c : Ctl) (h : Done c) : Completable c := ⟨[], c, rfl, rfl, h⟩

theorem completable_step (c : Ctl) (b : UInt8) (c1 : Ctl) (hok : okCtl c b = true) (hstep : stepCtl c b = c1)
    (hs : c1.starts = c.starts) (h : Completable c1) : Completable c := by
  obtain ⟨bs, c2, hrun, hst, hd⟩ := h
  refine ⟨b :: bs, c2, ?_, hst.trans hs, hd⟩
  simp only [runCtl, hok, ↓reduceIte, hstep]
  exact hrun

/-- the actions the control state cannot refuse (`okCtl`) -/
def Act.free : Act → Bool
  | .charErr | .unknown | .closeArray | .closeObject | .numComma | .tokenOk => false
  | _ => true

/-- `completable_step` for a byte whose action cannot be refused and behind which nothing is delivered: what `okCtl`
and `stepCtl` ask follows from the action `a` of the byte in the mode `m` -/
theorem completable_move {c : Ctl} {m : Mode} (b : UInt8) {a : Act} (c1 : Ctl) (hm : c.mode = m)
    (hact : expected m b = a) (hf : a.free = true) (hctl : actCtl a c = c1)
    (hq : (contOf a || expectedFin c1.mode != .a) = true) (hs : c1.starts = c.starts) (h : Completable c1) :
    Completable c := by
  subst hm
  refine completable_step c b c1 ?_ ?_ hs h
  · unfold okCtl
    rw [hact]
    cases a <;> first | rfl | cases hf
  · unfold stepCtl deliverCtl
    rw [hact, hctl]
    cases hc : contOf a
    · have hq' : expectedFin c1.mode ≠ .a := by simpa [hc] using hq
      simp [hq']
    · rfl

theorem completable_num (c : Ctl) (h : c.mode = .zero ∨ c.mode = .digit ∨ c.mode = .frac ∨ c.mode = .exp) :
    Completable c := completable_done c (Or.inr (Or.inl h))

/-- a mode from which the digit `0` leads to a complete number -/
theorem completable_zero (c : Ctl)
    (h : c.mode = .value ∨ c.mode = .comma ∨ c.mode = .neg ∨ c.mode = .dot ∨ c.mode = .expSign ∨ c.mode = .expZero) :
    Completable c := by
  -- `0` is `val0`, `numZero`, `numFrac` or `expDigit` there
  rcases h with h | h | h | h | h | h
  · exact completable_move 48 { c with mode := .zero } h rfl rfl rfl rfl rfl (completable_num _ (Or.inl rfl))
  · exact completable_move 48 { c with mode := .zero } h rfl rfl rfl rfl rfl (completable_num _ (Or.inl rfl))
  · exact completable_move 48 { c with mode := .zero } h rfl rfl rfl rfl rfl (completable_num _ (Or.inl rfl))
  · exact completable_move 48 { c with mode := .frac } h rfl rfl rfl rfl rfl
      (completable_num _ (Or.inr (Or.inr (Or.inl rfl))))
  · exact completable_move 48 { c with mode := .exp } h rfl rfl rfl rfl rfl (completable_num _ (Or.inr (Or.inr (Or.inr rfl))))
  · exact completable_move 48 { c with mode := .exp } h rfl rfl rfl rfl rfl (completable_num _ (Or.inr (Or.inr (Or.inr rfl))))

theorem completable_colon (c : Ctl) (h : c.mode = .colon) : Completable c :=
  completable_move 58 { c with mode := .value } h rfl rfl rfl rfl rfl (completable_zero _ (Or.inl rfl))

/-- a value has just been completed: `after` inside a container, `space` at top level -/
theorem completable_afterValue (c : Ctl) (h : c.mode = .after) : Completable (deliverCtl c) := by
  unfold deliverCtl
  cases hs : c.starts with
  | nil =>
    simp only [List.isEmpty_nil, h, expectedFin, decide_true, Bool.and_self, ↓reduceIte]
    exact completable_done _ (Or.inr (Or.inr (Or.inr ⟨Or.inl rfl, rfl⟩)))
  | cons x ss =>
    simp only [List.isEmpty_cons, Bool.false_and, Bool.false_eq_true, ↓reduceIte]
    exact completable_done _ (Or.inl ⟨h, by rw [hs]; simp⟩)

theorem deliverCtl_starts (c : Ctl) : (deliverCtl c).starts = c.starts := by
  unfold deliverCtl; split <;> rfl

theorem completable_string (c : Ctl) (h : c.mode = .string) (hn : c.nextMode = .colon ∨ c.nextMode = .after) :
    Completable c := by
  have hact : expected c.mode 34 = .strQuote := by rw [h]; rfl
  rcases hn with hn | hn
  · exact completable_move 34 { c with mode := .colon } h rfl rfl (congrArg ({ c with mode := · }) hn) rfl rfl
      (completable_colon _ rfl)
  · exact completable_step c 34 (deliverCtl { c with mode := .after }) (by simp [okCtl, hact])
      (by simp [stepCtl, hact, actCtl, contOf, hn]) (deliverCtl_starts _)
      (completable_afterValue _ rfl)

theorem completable_esc (c : Ctl) (h : c.mode = .esc) (hn : c.nextMode = .colon ∨ c.nextMode = .after) :
    Completable c :=
  completable_move 110 { c with mode := .string } h rfl rfl rfl rfl rfl (completable_string _ rfl hn)

theorem completable_u (k : Nat) : ∀ (c : Ctl), c.mode = .u → c.ri + k = 3 →
    (c.nextMode = .colon ∨ c.nextMode = .after) → Completable c := by
  induction k with
  | zero =>
    intro c h hri hn
    have h4 : c.ri + 1 = 4 := by omega
    exact completable_move (a := .uOk) 48 { c with ri := c.ri + 1, mode := .string } h rfl rfl (by simp only [actCtl, h4, ↓reduceIte])
      rfl rfl (completable_string _ rfl hn)
  | succ k ih =>
    intro c h hri hn
    have h4 : ¬ c.ri + 1 = 4 := by omega
    exact completable_move (a := .uOk) 48 { c with ri := c.ri + 1 } h rfl rfl (by simp only [actCtl, h4, ↓reduceIte, h]) rfl rfl
      (ih _ h (by simp only; omega) hn)

theorem completable_key (c : Ctl) (h : c.mode = .key) : Completable c :=
  completable_move 34 { c with mode := .string, nextMode := .colon } h rfl rfl rfl rfl rfl
    (completable_string _ rfl (Or.inl rfl))

/-- `k + 1` letters of a pending literal are still to come -/
def LitLeft (c : Ctl) (k : Nat) : Prop :=
  ((c.mode = .null ∨ c.mode = .true_) ∧ c.ri + k = 2) ∨ (c.mode = .false_ ∧ c.ri + k = 3)

theorem lit_letter {c : Ctl} {k : Nat} (h : LitLeft c k) :
    expected c.mode ((litOf c.mode).getD (c.ri + 1) 0) = .tokenOk := by
  have hl : IsLit c.mode ∧ c.ri + 1 < (litOf c.mode).length := by
    rcases h with ⟨hm | hm, hr⟩ | ⟨hm, hr⟩ <;> rw [hm]
    · exact ⟨Or.inl rfl, by simp only [litOf, List.length_cons, List.length_nil]; omega⟩
    · exact ⟨Or.inr (Or.inl rfl), by simp only [litOf, List.length_cons, List.length_nil]; omega⟩
    · exact ⟨Or.inr (Or.inr rfl), by simp only [litOf, List.length_cons, List.length_nil]; omega⟩
  exact lit_letters hl.1 _ (getD_succ_mem_tail _ _ hl.2)

/-- the literal is complete with the next letter exactly when one letter is left -/
theorem lit_done_iff {c : Ctl} {k : Nat} (h : LitLeft c k) :
    c.litDone ↔ k = 0 := by
  rcases h with ⟨hm | hm, hr⟩ | ⟨hm, hr⟩ <;> simp [Ctl.litDone, hm] <;> omega

theorem completable_lit (k : Nat) : ∀ (c : Ctl), LitLeft c k → Completable c := by
  induction k with
  | zero =>
    intro c h
    have hact := lit_letter h
    have hdone := (lit_done_iff h).mpr rfl
    refine completable_step c ((litOf c.mode).getD (c.ri + 1) 0)
      (deliverCtl { c with ri := c.ri + 1, mode := .after }) (by unfold okCtl; rw [hact]; exact beq_self_eq_true _) ?_
      (deliverCtl_starts _) (completable_afterValue _ rfl)
    simp only [stepCtl, hact, contOf, Bool.false_eq_true, ↓reduceIte, actCtl, hdone]
  | succ k ih =>
    intro c h
    have hact := lit_letter h
    have hdone : ¬ c.litDone :=
      fun hd => Nat.succ_ne_zero k ((lit_done_iff h).mp hd)
    have hfin : expectedFin c.mode ≠ .a := by
      rcases h with ⟨hm | hm, _⟩ | ⟨hm, _⟩ <;> (rw [hm]; decide)
    refine completable_step c ((litOf c.mode).getD (c.ri + 1) 0) { c with ri := c.ri + 1 }
      (by unfold okCtl; rw [hact]; exact beq_self_eq_true _) ?_ rfl (ih _ ?_)
    · simp only [stepCtl, hact, contOf, Bool.false_eq_true, ↓reduceIte, actCtl, hdone, deliverCtl]
      simp [hfin]
    · rcases h with ⟨hm, hr⟩ | ⟨hm, hr⟩
      · exact Or.inl ⟨hm, by simp only; omega⟩
      · exact Or.inr ⟨hm, by simp only; omega⟩

theorem completable_all (c : Ctl) (hw : CtlWF c) (hr : RInv c) : Completable c := by
  cases hm : c.mode
  case value =>
    cases hs : c.starts with
    | nil => exact completable_done c (Or.inr (Or.inr (Or.inr ⟨Or.inr hm, hs⟩)))
    | cons x ss => exact completable_zero c (Or.inl hm)
  case comma => exact completable_zero c (Or.inr (Or.inl hm))
  case after => exact completable_done c (Or.inl ⟨hm, hw.after hm⟩)
  case key1 => exact completable_done c (Or.inr (Or.inr (Or.inl ⟨hm, hw.obj (Or.inl hm)⟩)))
  case key => exact completable_key c hm
  case colon => exact completable_colon c hm
  case null => exact completable_lit (2 - c.ri) c (Or.inl ⟨Or.inl hm, by have := hr.lit3 (Or.inl hm); omega⟩)
  case true_ => exact completable_lit (2 - c.ri) c (Or.inl ⟨Or.inr hm, by have := hr.lit3 (Or.inr hm); omega⟩)
  case false_ => exact completable_lit (3 - c.ri) c (Or.inr ⟨hm, by have := hr.lit4 hm; omega⟩)
  case neg => exact completable_zero c (Or.inr (Or.inr (Or.inl hm)))
  case zero => exact completable_num c (Or.inl hm)
  case digit => exact completable_num c (Or.inr (Or.inl hm))
  case dot => exact completable_zero c (Or.inr (Or.inr (Or.inr (Or.inl hm))))
  case frac => exact completable_num c (Or.inr (Or.inr (Or.inl hm)))
  case expSign => exact completable_zero c (Or.inr (Or.inr (Or.inr (Or.inr (Or.inl hm)))))
  case expZero => exact completable_zero c (Or.inr (Or.inr (Or.inr (Or.inr (Or.inr hm)))))
  case exp => exact completable_num c (Or.inr (Or.inr (Or.inr hm)))
  case string => exact completable_string c hm hr.next
  case esc => exact completable_esc c hm hr.next
  case u => exact completable_u (3 - c.ri) c hm (by have := hr.hex hm; omega) hr.next
  case space => exact completable_done c (Or.inr (Or.inr (Or.inr ⟨Or.inl hm, hr.space hm⟩)))

theorem viable_ctl (c : Ctl) (hw : CtlWF c) (hr : RInv c) : ∃ bs c', runCtl c bs = some c' ∧ finOk c' = true := by
  obtain ⟨bs, c1, hrun, hst, hd⟩ := completable_all c hw hr
  obtain ⟨c', hrun', hfin⟩ := close_all c1.starts c1 rfl hd
  refine ⟨bs ++ closers c1.starts, c', ?_, hfin⟩
  rw [runCtl_append, hrun]
  exact hrun'

/-- **Viable prefixes.** From every state the machine can reach, some continuation of the input is
accepted. -/
theorem viable_state (s : St) (hw : WF s) (hr : RInv s.ctl) :
    ∃ q docs, exec s q = some docs := by
  obtain ⟨q, c', hrun, hfin⟩ := viable_ctl s.ctl (CtlWF.of_wf hw) hr
  obtain ⟨s', hs', hw', hc'⟩ := runBytes_of_runCtl q s c' hw hrun
  obtain ⟨docs, hdocs⟩ := finish_ok_of_finOk s' hw' (by rw [hc']; exact hfin)
  refine ⟨q, docs, ?_⟩
  unfold exec
  simp only [hs', hdocs]

end OjgVerif.Json
