import OjgVerif.Json.Switch
import OjgVerif.Gen.JsonSwitch
/-! Structural tie between the hand-written machine model and the four Go `switch x.mode[b]`
statements it mirrors. `Gen/JsonSwitch.lean` is regenerated from the Go source on every run
(tools/extract/jsonswitch.go): for every case clause its labels, the receiver fields assigned
anywhere in the clause and the receiver methods called in it. `Act.touches` lists the fields the
model's branch for an action may change (`stepAct_frame_nl` proves that of the model, through
`stepAct_eq`); the generated clauses are then compared with it in both directions, and their order with
the order `Codes.decode` assumes (first match wins, as in a Go switch). -/
namespace OjgVerif.Json

inductive Fld where
  | mode | nextMode | starts | stack | tmp | ri | rn | num | line | nl
  deriving DecidableEq, Repr

def Act.goName : Act → String
  | .skipChar => "skipChar" | .skipNewline => "skipNewline" | .valNull => "valNull" | .valTrue => "valTrue"
  | .valFalse => "valFalse" | .valNeg => "valNeg" | .val0 => "val0" | .valDigit => "valDigit"
  | .valQuote => "valQuote" | .openArray => "openArray" | .openObject => "openObject"
  | .closeArray => "closeArray" | .closeObject => "closeObject" | .afterComma => "afterComma"
  | .keyQuote => "keyQuote" | .colonColon => "colonColon" | .numSpc => "numSpc" | .numNewline => "numNewline"
  | .numDot => "numDot" | .numComma => "numComma" | .numFrac => "numFrac" | .fracE => "fracE"
  | .expSign => "expSign" | .expDigit => "expDigit" | .strQuote => "strQuote" | .negDigit => "negDigit"
  | .strSlash => "strSlash" | .escOk => "escOk" | .uOk => "uOk" | .tokenOk => "tokenOk"
  | .numDigit => "numDigit" | .numZero => "numZero" | .strOk => "strOk" | .escU => "escU"
  | .charErr => "charErr" | .unknown => "unknown"

/-- the order in which `Codes.decode` tests the codes = the order of the `case`s it stands for -/
def decodeOrder : List Act :=
  [.skipNewline, .colonColon, .skipChar, .strOk, .keyQuote, .afterComma, .valQuote, .numComma, .strSlash,
   .escOk, .openObject, .closeObject, .val0, .valDigit, .valNeg, .escU, .openArray, .closeArray, .valNull,
   .valTrue, .valFalse, .numDot, .numFrac, .fracE, .strQuote, .numZero, .numDigit, .negDigit, .numSpc,
   .numNewline, .expSign, .expDigit, .uOk, .tokenOk, .charErr]

/-- the fields of the state the model's branch for an action may change. `pos` and `docs` are written outside
the switch (`Keeps` says they stay). The flag `inFast`, which the branches of `valDigit` and `numDigit` write, is
no field of the Go parsers (it says that control is inside the Go digit loop that `valDigit` starts): `Fld` and
`Keeps` leave it out, so the frame statement says nothing of it. -/
def Act.touches : Act → List Fld
  | .skipNewline => [.line, .nl]
  | .colonColon => [.mode]
  | .skipChar => []
  | .strOk => [.tmp]
  | .keyQuote => [.tmp, .mode, .nextMode]
  | .afterComma => [.mode]
  | .valQuote => [.tmp, .mode, .nextMode]
  | .numComma => [.stack, .mode]
  | .strSlash => [.mode]
  | .escOk => [.tmp, .mode]
  | .openObject => [.starts, .mode, .stack]
  | .closeObject => [.stack, .starts, .mode]
  | .val0 => [.mode, .num]
  | .valDigit => [.mode, .num]
  | .valNeg => [.mode, .num]
  | .escU => [.mode, .rn, .ri]
  | .openArray => [.starts, .stack, .mode]
  | .closeArray => [.stack, .starts, .mode]
  | .valNull => [.mode, .ri]
  | .valTrue => [.mode, .ri]
  | .valFalse => [.mode, .ri]
  | .numDot => [.num, .mode]
  | .numFrac => [.num, .mode]
  | .fracE => [.num, .mode]
  | .strQuote => [.mode, .stack]
  | .numZero => [.mode]
  | .numDigit => [.num]
  | .negDigit => [.num, .mode]
  | .numSpc => [.stack, .mode]
  | .numNewline => [.stack, .line, .nl, .mode]
  | .expSign => [.mode, .num]
  | .expDigit => [.num, .mode]
  | .uOk => [.ri, .rn, .tmp, .mode]
  | .tokenOk => [.ri, .mode, .stack]
  | .charErr => []
  | .unknown => []

/-- what a state keeps when only the fields in `t` may change -/
def Keeps (t : List Fld) (s s' : St) : Prop :=
  (Fld.mode ∉ t → s'.mode = s.mode) ∧ (Fld.nextMode ∉ t → s'.nextMode = s.nextMode) ∧
  (Fld.starts ∉ t → s'.starts = s.starts) ∧ (Fld.stack ∉ t → s'.stack = s.stack) ∧
  (Fld.tmp ∉ t → s'.tmp = s.tmp) ∧ (Fld.ri ∉ t → s'.ri = s.ri) ∧ (Fld.rn ∉ t → s'.rn = s.rn) ∧
  (Fld.num ∉ t → s'.num = s.num) ∧ (Fld.line ∉ t → s'.line = s.line) ∧ (Fld.nl ∉ t → s'.nl = s.nl) ∧
  s'.docs = s.docs ∧ s'.pos = s.pos

theorem Keeps.stack {t : List Fld} {s s' : St} (h : Keeps t s s') (ht : Fld.stack ∉ t) : s'.stack = s.stack :=
  h.2.2.2.1 ht

theorem Keeps.docs {t : List Fld} {s s' : St} (h : Keeps t s s') : s'.docs = s.docs :=
  h.2.2.2.2.2.2.2.2.2.2.1

theorem Keeps.line {t : List Fld} {s s' : St} (h : Keeps t s s') (ht : Fld.line ∉ t) : s'.line = s.line :=
  h.2.2.2.2.2.2.2.2.1 ht

theorem Keeps.nl {t : List Fld} {s s' : St} (h : Keeps t s s') (ht : Fld.nl ∉ t) : s'.nl = s.nl :=
  h.2.2.2.2.2.2.2.2.2.1 ht

theorem Keeps.pos {t : List Fld} {s s' : St} (h : Keeps t s s') : s'.pos = s.pos :=
  h.2.2.2.2.2.2.2.2.2.2.2

theorem Act.build_frame {T : Tables} {a : Act} {b : UInt8} {s : St} {st : List Item}
    (h : a.build T b s = .ok st) (ht : Fld.stack ∉ a.touches) : st = s.stack := by
  cases a <;> first | exact absurd (by decide) ht | exact (Except.ok.inj h).symm | cases h

theorem Act.upd_keeps (T : Tables) (cfg : Cfg) (a : Act) (b : UInt8) (s : St) (st : List Item)
    (hst : Fld.stack ∉ a.touches → st = s.stack) : Keeps a.touches s (a.upd T cfg b s st) := by
  cases a <;> simp only [Act.touches] at hst ⊢
  case tokenOk => simp only [Act.upd]; split <;> simp [Keeps]
  all_goals simp [Keeps, Act.upd, hst]

/-- Frame of the model, together with what the two newline actions do to the line bookkeeping:
`Act.touches` lists the fields of `Fld` that `Act.upd` writes, and the stack where `Act.build` is not the
identity. -/
theorem stepAct_frame_nl (T : Tables) (cfg : Cfg) (s s' : St) (b : UInt8) (c : Bool)
    (h : stepAct T cfg s b = .ok (s', c)) :
    Keeps (T.act s.mode b).touches s s' ∧
    (T.act s.mode b = .skipNewline ∨ T.act s.mode b = .numNewline → s'.line = s.line + 1 ∧ s'.nl = s.pos) := by
  rw [stepAct_eq] at h
  cases hb : (T.act s.mode b).build T b s with
  | error k => rw [hb] at h; cases h
  | ok st =>
    rw [hb] at h; cases h
    refine ⟨Act.upd_keeps T cfg _ b s st (Act.build_frame hb), ?_⟩
    rintro (h | h) <;> rw [h] <;> exact ⟨rfl, rfl⟩

theorem stepAct_frame (T : Tables) (cfg : Cfg) (s s' : St) (b : UInt8) (c : Bool)
    (h : stepAct T cfg s b = .ok (s', c)) : Keeps (T.act s.mode b).touches s s' :=
  (stepAct_frame_nl T cfg s s' b c h).1

/-- labels of a switch in source order -/
def labelsOf (cs : List Gen.JsonSwitch.Case) : List String := cs.flatMap (·.labels)

inductive Machine where
  | parser      -- oj.Parser, gen.Parser: build values on `stack` through `add`
  | tokenizer   -- oj.Tokenizer: no build stack, values go to the handler
  | validator   -- oj.Validator: no values; its `stack` is the container stack
  deriving DecidableEq

/-- what counts, in a Go case clause, as carrying out the model's change of a field: an assignment to
one of `writes`, or a call of one of `calls` on the receiver; `none`: the machine has no such state -/
def evidence : Machine → Fld → Option (List String × List String)
  | _, .mode => some (["mode"], [])
  | _, .nextMode => some (["nextMode"], [])
  | _, .ri => some (["ri"], [])
  | _, .line => some (["line"], [])
  | _, .nl => some (["noff"], [])
  | .parser, .starts => some (["starts"], [])
  | .parser, .stack => some (["stack"], ["add"])
  | .parser, .tmp => some (["tmp"], [])
  | .parser, .rn => some (["rn"], [])
  | .parser, .num => some (["num"], ["num"])
  | .tokenizer, .starts => some (["starts"], [])
  | .tokenizer, .stack => some ([], ["handler", "handleNum"])
  | .tokenizer, .tmp => some (["tmp"], [])
  | .tokenizer, .rn => some (["rn"], [])
  | .tokenizer, .num => some (["num"], ["num"])
  | .validator, .starts => some (["stack"], [])
  | .validator, .stack => none
  | .validator, .tmp => none
  | .validator, .rn => none
  | .validator, .num => none

def Act.ofName (n : String) : Option Act := decodeOrder.find? (fun a => a.goName == n)

/-- no dropped write: every field the model's branch changes is written, or handed to the method
that writes it, in the Go case (a dropped reset or assignment breaks this) -/
def caseCovers (m : Machine) (c : Gen.JsonSwitch.Case) : Bool :=
  c.labels.all fun l =>
    match Act.ofName l with
    | none => false
    | some a => a.touches.all fun f =>
      match evidence m f with
      | none => true
      | some (ws, ks) => c.writes.any (fun w => ws.contains w) || c.calls.any (fun k => ks.contains k)

/-- scratch buffers and fast-path extras a Go case may write beyond the model's fields -/
def extraWrites (m : Machine) (a : Act) : List String :=
  match m, a with
  | .parser, .openObject => ["maps", "mi"]      -- reuse cache of map values
  | .parser, .keyQuote => ["stack"]             -- fast path: the whole key is in the buffer
  | .parser, .uOk => ["runeBytes"]
  | .tokenizer, .uOk => ["runeBytes"]
  | _, _ => []

/-- no stray write: the Go case assigns only fields the model's branch changes, and the extras -/
def caseWithin (m : Machine) (c : Gen.JsonSwitch.Case) : Bool :=
  c.labels.all fun l =>
    match Act.ofName l with
    | none => false
    | some a => c.writes.all fun w =>
      (extraWrites m a).contains w ||
      a.touches.any fun f =>
        match evidence m f with
        | none => false
        | some (ws, _) => ws.contains w

open Gen.JsonSwitch in
/-- the four switches against `decodeOrder` and against the model's frame, in one evaluation -/
theorem switch_checks :
    (labelsOf ojParser = decodeOrder.map Act.goName ∧ labelsOf ojValidator = decodeOrder.map Act.goName ∧
     labelsOf ojTokenizer = decodeOrder.map Act.goName ∧ labelsOf genParser = decodeOrder.map Act.goName) ∧
    (ojParser.all (caseCovers .parser) = true ∧ genParser.all (caseCovers .parser) = true ∧
     ojTokenizer.all (caseCovers .tokenizer) = true ∧ ojValidator.all (caseCovers .validator) = true) ∧
    (ojParser.all (caseWithin .parser) = true ∧ genParser.all (caseWithin .parser) = true ∧
     ojTokenizer.all (caseWithin .tokenizer) = true ∧ ojValidator.all (caseWithin .validator) = true) := by
  decide +kernel

theorem ojParser_order : labelsOf Gen.JsonSwitch.ojParser = decodeOrder.map Act.goName := switch_checks.1.1
theorem ojValidator_order : labelsOf Gen.JsonSwitch.ojValidator = decodeOrder.map Act.goName := switch_checks.1.2.1
theorem ojTokenizer_order : labelsOf Gen.JsonSwitch.ojTokenizer = decodeOrder.map Act.goName := switch_checks.1.2.2.1
theorem genParser_order : labelsOf Gen.JsonSwitch.genParser = decodeOrder.map Act.goName := switch_checks.1.2.2.2

theorem ojParser_no_dropped_write : Gen.JsonSwitch.ojParser.all (caseCovers .parser) = true := switch_checks.2.1.1
theorem genParser_no_dropped_write : Gen.JsonSwitch.genParser.all (caseCovers .parser) = true := switch_checks.2.1.2.1
theorem ojTokenizer_no_dropped_write : Gen.JsonSwitch.ojTokenizer.all (caseCovers .tokenizer) = true := switch_checks.2.1.2.2.1
theorem ojValidator_no_dropped_write : Gen.JsonSwitch.ojValidator.all (caseCovers .validator) = true := switch_checks.2.1.2.2.2

theorem ojParser_no_stray_write : Gen.JsonSwitch.ojParser.all (caseWithin .parser) = true := switch_checks.2.2.1
theorem genParser_no_stray_write : Gen.JsonSwitch.genParser.all (caseWithin .parser) = true := switch_checks.2.2.2.1
theorem ojTokenizer_no_stray_write : Gen.JsonSwitch.ojTokenizer.all (caseWithin .tokenizer) = true := switch_checks.2.2.2.2.1
theorem ojValidator_no_stray_write : Gen.JsonSwitch.ojValidator.all (caseWithin .validator) = true := switch_checks.2.2.2.2.2

end OjgVerif.Json
