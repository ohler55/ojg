import OjgVerif.Json.BufMain
/-! # The validator's buffer loop is the byte machine -/
namespace OjgVerif.Json

variable {T : Tables} (hT : TablesOK T) (cfg : Cfg)

include hT in
theorem iter_quoteV (buf : Bytes) (s m : St) (off : Nat) (b : UInt8)
    (hb : buf[off]? = some b) (hrel : Rel s m) (isKey : Bool)
    (hact : T.act s.mode b = if isKey then .keyQuote else .valQuote) :
    IterOK T cfg buf m off (wrapIter T cfg buf off (caseQuoteV T isKey buf s off b)) := by
  obtain ⟨hdrop, hl⟩ := drop_of_getElem? buf off b hb
  have hactm : T.act m.mode b = if isKey then .keyQuote else .valQuote := (nf_fields hrel.nf).1 ▸ hact
  unfold caseQuoteV
  simp only [sliceOf_tail buf off hl]
  rcases rangeWhile_spec (fun c => decide (T.act .string c = .strOk)) (buf.drop (off + 1)) 0 (0, b) with
    ⟨hnil, he⟩ | ⟨pre, c, post, hsl, hp, he, -⟩
  · -- the quote is the last byte of the buffer: `i = 0`, `b` is the quote itself, `0 < i` fails
    rw [he]
    simp only [Nat.lt_irrefl, and_false, ↓reduceIte, List.take_zero]
    exact iterOK_strOpen hT cfg hb hrel isKey hactm (pre := []) (rest := []) hnil nofun
  · have hpre : ∀ x ∈ pre, T.act .string x = .strOk := fun x hx => by simpa using hp x hx
    rw [he]
    simp only [Nat.zero_add, show (buf.drop (off + 1)).take pre.length = pre by rw [hsl]; exact List.take_left' rfl]
    by_cases hc : c = 34 ∧ 0 < pre.length
    · obtain ⟨rfl, hpos⟩ := hc
      simp only [hpos, and_self, ↓reduceIte]
      cases isKey
      · simp only [Bool.false_eq_true, ↓reduceIte, show off + pre.length + 1 - off = pre.length + 1 by omega]
        exact iterOK_strVal hT cfg hb hrel hactm hsl hpre
      · exact iterOK_strKey hT cfg hb hrel hactm hsl hpre
    · -- slow route: an empty string, a backslash, a control byte, or the end of the buffer
      simp only [hc, ↓reduceIte]
      exact iterOK_strOpen hT cfg hb hrel isKey hactm hsl hpre

include hT in
theorem iter_specV (hfi : cfg.fastInt = false) (buf : Bytes) (s m : St) (off i : Nat) (b : UInt8)
    (hb : buf[off]? = some b) (hrel : Rel s m) (hside : Side T buf m off) (hinv : NumInv m) :
    IterOK T cfg buf m off (iterBufV T cfg buf s off i b) := by
  have hfp : cfg.fastInt = fpV.int := hfi
  unfold iterBufV
  cases hact : T.act s.mode b
  case keyQuote => exact iter_quoteV hT cfg buf s m off b hb hrel true (by simpa using hact)
  case valQuote => exact iter_quoteV hT cfg buf s m off b hb hrel false (by simpa using hact)
  case numNewline => exact iter_spec hT cfg fpV hfp buf s m off 0 b hb hrel hside hinv
  all_goals exact iter_spec hT cfg fpV hfp buf s m off i b hb hrel hside hinv

include hT in
/-- `runBuf_eq_fold` for `validateBuffer`: one call on one buffer against the fold of `step` over it, up to dead
fields and the flag (`Sim2`) -/
theorem runBufV_eq_fold (hfi : cfg.fastInt = false) (s m : St) (buf : Bytes)
    (hrel : Rel s m) (hflag : m.inFast = false) (hinv : NumInv m) :
    Sim2 (runBufV T cfg s buf) (runBytes T cfg m buf) := by
  have := loopG_sim T cfg buf (iterBufV T cfg buf)
    (fun s m off i b hb hr hs hi => iter_specV hT cfg hfi buf s m off i b hb hr hs hi)
    buf.length 0 s m 0 (by omega) hrel (side_of_flag T buf m 0 hflag) hinv
  rwa [List.drop_zero] at this

theorem runBufChunksV_eq (T : Tables) (cfg : Cfg) (cs : List Bytes) : ∀ s : St,
    runBufChunksV T cfg s cs = runChunksG (runBufV T cfg) s cs := by
  induction cs with
  | nil => intro s; rfl
  | cons c rest ih =>
    intro s
    unfold runBufChunksV runChunksG
    cases runBufV T cfg s c with
    | error e => rfl
    | ok s' => exact ih s'

include hT in
/-- the validator's entry points over the buffer-level model are those over the byte machine -/
theorem runBV_eq_run (hfi : cfg.fastInt = false) (chunks : List Bytes) :
    runBV T cfg chunks = run T cfg chunks := by
  rw [← runG_eq_run hT cfg (runBufV T cfg) (fun s m buf => runBufV_eq_fold hT cfg hfi s m buf) chunks]
  unfold runBV runG
  simp only [runBufChunksV_eq]

end OjgVerif.Json
