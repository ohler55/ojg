import OjgVerif.Json.BufLemmas
/-! # The string scan of `keyQuote` / `valQuote` against the byte machine

The scan has three outcomes, told apart by what stands behind the opening quote (`buf.drop (off + 1)`): plain bytes
`pre` and then no closing quote (`pre ++ rest`: the string stays open), or `pre ++ 34 :: post` with the quote closing a
key or a value. Each outcome is a run of the byte machine over the same bytes (`run_str_open`, `run_str_key`,
`run_str_val`, all from `strRun`) and, with it, an instance of `IterOK` (`iterOK_strOpen`, `iterOK_strKey`,
`iterOK_strVal`); `iter_quote` sends the branches of `caseQuote` to these three. -/
namespace OjgVerif.Json

variable {T : Tables} (hT : TablesOK T) (cfg : Cfg)

theorem sliceOf_take (buf : Bytes) (off n : Nat) (h : off + n ≤ buf.length) :
    sliceOf buf off (off + n) = some ((buf.drop off).take n) := by
  unfold sliceOf
  have hc : off ≤ off + n ∧ off + n ≤ buf.length := by omega
  simp only [hc, and_self, ↓reduceIte, Option.some.injEq]
  rw [List.drop_take]
  simp only [Nat.add_sub_cancel_left]

theorem sliceOf_pre (buf : Bytes) (k : Nat) (pre rest : Bytes) (h : buf.drop k = pre ++ rest) (hne : pre ++ rest ≠ []) :
    sliceOf buf k (k + pre.length) = some pre := by
  have h2 := congrArg List.length h
  simp only [List.length_drop, List.length_append] at h2
  have h3 : (pre ++ rest).length ≠ 0 := fun h0 => hne (List.eq_nil_of_length_eq_zero h0)
  simp only [List.length_append] at h3
  rw [sliceOf_take buf k pre.length (by omega), h, List.take_left' rfl]

theorem nf_set_dead {a b : St} (h : a.nf = b.nf) (md : Mode) (hs : usesStr md = false) (hr : usesRi md = false)
    (hn : usesRn md = false) (sk : List Item) (p : Nat) (t1 t2 : Bytes) (n1 n2 : Mode) (r1 r2 : Nat) (f1 f2 : Bool) :
    ({ a with mode := md, stack := sk, pos := p, tmp := t1, nextMode := n1, ri := r1, inFast := f1 } : St).nf =
    ({ b with mode := md, stack := sk, pos := p, tmp := t2, nextMode := n2, ri := r2, inFast := f2 } : St).nf := by
  obtain ⟨-, e2, -, e4, e5, e6, -, e8⟩ := nf_fields h
  exact nf_of_live (fun x => nomatch hs.symm.trans x) (fun x => nomatch hr.symm.trans x) (fun x => nomatch hn.symm.trans x)
    rfl e2 rfl e4 e5 e6 rfl e8

theorem nf_set_string {a b : St} (h : a.nf = b.nf) (p : Nat) (t : Bytes) (n : Mode) (f1 f2 : Bool) :
    ({ a with mode := .string, pos := p, tmp := t, nextMode := n, inFast := f1 } : St).nf =
    ({ b with mode := .string, pos := p, tmp := t, nextMode := n, inFast := f2 } : St).nf := by
  obtain ⟨-, e2, e3, e4, e5, e6, -, e8⟩ := nf_fields h
  exact nf_of_live (fun _ => ⟨rfl, rfl⟩) nofun nofun rfl e2 e3 e4 e5 e6 rfl e8

theorem deliver_nf_pos (T : Tables) (cfg : Cfg) {a b : St} (p : Nat)
    (h : ({ a with pos := p } : St).nf = ({ b with pos := p } : St).nf) (f g : Bool) :
    ({ deliver T cfg a with pos := p, inFast := f } : St).nf = ({ deliver T cfg b with pos := p, inFast := g } : St).nf := by
  show ({ deliver T cfg a with pos := p } : St).nf = ({ deliver T cfg b with pos := p } : St).nf
  rw [deliver_setpos, deliver_setpos]
  exact deliver_nf T cfg h

theorem step_quote (m : St) (b : UInt8) (isKey : Bool)
    (h : T.act m.mode b = if isKey then .keyQuote else .valQuote) :
    step T cfg m b = .ok { m with tmp := [], mode := .string, nextMode := if isKey then .colon else .after,
                                  pos := m.pos + 1, inFast := false } := by
  unfold step stepAct
  cases isKey <;> simp only [h, Bool.false_eq_true, ↓reduceIte] <;> rfl

include hT in
theorem bstep_strOk (m : St) (c : UInt8) (hm : m.mode = .string) (h : T.act .string c = .strOk) :
    step T cfg m c = .ok { m with tmp := c :: m.tmp, pos := m.pos + 1, inFast := false } := by
  unfold step stepAct
  simp only [hm, h, Bool.false_eq_true, ↓reduceIte]
  rw [deliver_id_ok hT cfg _ (by simp only; decide)]

include hT in
theorem strRun (l : Bytes) : ∀ (m : St), m.mode = .string → m.inFast = false →
    (∀ c ∈ l, T.act .string c = .strOk) →
    runBytes T cfg m l = .ok { m with tmp := l.reverse ++ m.tmp, pos := m.pos + l.length } := by
  induction l with
  | nil =>
    intro m _ _ _
    simp only [runBytes, List.reverse_nil, List.nil_append, List.length_nil]
    exact congrArg Except.ok (St.pos_add_zero m).symm
  | cons c r ih =>
    intro m hm hf hall
    unfold runBytes
    rw [bstep_strOk hT cfg m c hm (hall c (List.mem_cons_self ..))]
    simp only
    refine (ih ({ m with tmp := c :: m.tmp, pos := m.pos + 1, inFast := false } : St) hm rfl
      (fun x hx => hall x (List.mem_cons_of_mem _ hx))).trans ?_
    rw [← hf, List.length_cons, Nat.add_comm r.length, ← Nat.add_assoc, List.reverse_cons, List.append_assoc,
      List.singleton_append]

include hT in
theorem step_strQuote_key (m : St) (hm : m.mode = .string) (hn : m.nextMode = .colon) :
    step T cfg m 34 = .ok { m with mode := .colon, stack := .key m.tmp.reverse :: m.stack,
                                   pos := m.pos + 1, inFast := false } := by
  have h1 : T.act .string 34 = .strQuote := by rw [hT.act]; rfl
  have h2 : T.act .colon 58 = .colonColon := by rw [hT.act]; rfl
  unfold step stepAct
  simp only [hm, hn, h1, h2, Bool.false_eq_true, ↓reduceIte]
  rw [deliver_id_ok hT cfg _ (by simp only; decide)]

include hT in
theorem step_strQuote_val (m : St) (hm : m.mode = .string) (hn : m.nextMode = .after) :
    step T cfg m 34 =
      match ({ m with mode := .after } : St).add (.str m.tmp.reverse) with
      | .error e => .error e
      | .ok s' => .ok { deliver T cfg s' with pos := (deliver T cfg s').pos + 1, inFast := false } := by
  have h1 : T.act .string 34 = .strQuote := by rw [hT.act]; rfl
  have h2 : T.act .after 58 ≠ .colonColon := by rw [hT.act]; decide
  obtain ⟨mode, nextMode, starts, stack, docs, tmp, ri, rn, num, line, pos, nl, inFast⟩ := m
  simp only at hm hn; subst hm hn
  unfold step stepAct
  simp only [h1, h2, ↓reduceIte]
  generalize St.add _ _ = r
  cases r <;> rfl

include hT in
theorem run_str_open (m : St) (b : UInt8) (isKey : Bool) (pre rest : Bytes)
    (h : T.act m.mode b = if isKey then .keyQuote else .valQuote)
    (hpre : ∀ c ∈ pre, T.act .string c = .strOk) :
    runBytes T cfg m (b :: (pre ++ rest)) =
      runBytes T cfg { m with tmp := pre.reverse, mode := .string, nextMode := if isKey then .colon else .after,
                              pos := m.pos + pre.length + 1, inFast := false } rest := by
  conv => lhs; unfold runBytes
  rw [step_quote cfg m b isKey h]
  simp only
  rw [C03.runBytes_append, strRun hT cfg pre _ rfl rfl hpre]
  simp only [List.append_nil]
  rw [show m.pos + 1 + pre.length = m.pos + pre.length + 1 by omega]

include hT in
theorem run_str_key (m : St) (b : UInt8) (pre post : Bytes)
    (h : T.act m.mode b = .keyQuote) (hpre : ∀ c ∈ pre, T.act .string c = .strOk) :
    runBytes T cfg m (b :: (pre ++ 34 :: post)) =
      runBytes T cfg { m with tmp := pre.reverse, mode := .colon, nextMode := .colon, stack := .key pre :: m.stack,
                              pos := m.pos + pre.length + 2, inFast := false } post := by
  rw [run_str_open hT cfg m b true pre (34 :: post) (by simpa using h) hpre]
  conv => lhs; unfold runBytes
  rw [step_strQuote_key hT cfg _ rfl rfl]
  simp only [List.reverse_reverse, ↓reduceIte]

include hT in
theorem run_str_val (m : St) (b : UInt8) (pre post : Bytes)
    (h : T.act m.mode b = .valQuote) (hpre : ∀ c ∈ pre, T.act .string c = .strOk) :
    runBytes T cfg m (b :: (pre ++ 34 :: post)) =
      match ({ m with tmp := pre.reverse, mode := .after, nextMode := .after, pos := m.pos + pre.length + 1,
                      inFast := false } : St).add (.str pre) with
      | .error e => .error e
      | .ok s' => runBytes T cfg { deliver T cfg s' with pos := (deliver T cfg s').pos + 1, inFast := false } post := by
  rw [run_str_open hT cfg m b false pre (34 :: post) (by simpa using h) hpre]
  conv => lhs; unfold runBytes
  rw [step_strQuote_val hT cfg _ rfl rfl]
  simp only [List.reverse_reverse, Bool.false_eq_true, ↓reduceIte]
  generalize St.add _ _ = r
  cases r <;> rfl

theorem nmOK_quote (s : St) (isKey : Bool) (t : Bytes) (M : Mode) (p : Nat) (f : Bool) :
    NmOK ({ s with tmp := t, mode := M, nextMode := if isKey then .colon else .after, pos := p, inFast := f } : St) := by
  cases isKey
  · exact Or.inl rfl
  · exact Or.inr rfl

include hT in
/-- the scan ends inside the string (or the quote is the last byte of the buffer): quote and plain
bytes are consumed, the string stays open -/
theorem iterOK_strOpen {buf : Bytes} {s m : St} {off : Nat} {b : UInt8} (hb : buf[off]? = some b) (hrel : Rel s m)
    (isKey : Bool) (hactm : T.act m.mode b = if isKey then .keyQuote else .valQuote) {pre rest : Bytes} {i' : Nat}
    (hsl : buf.drop (off + 1) = pre ++ rest) (hpre : ∀ c ∈ pre, T.act .string c = .strOk) :
    IterOK T cfg buf m off (wrapIter T cfg buf off (.ok
      ⟨{ s with tmp := pre.reverse, mode := .string, nextMode := if isKey then .colon else .after },
        off + pre.length, i', true⟩)) := by
  obtain ⟨hdrop, hl⟩ := drop_of_getElem? buf off b hb
  obtain ⟨-, e1, e2, e3, e4, e5, e6, e7⟩ := nf_fields hrel.nf
  obtain ⟨hdr, hlen⟩ := drop_add_length hsl (by omega)
  refine iterOK_cont cfg (k := pre.length + 1)
    (m' := { m with tmp := pre.reverse, mode := .string, nextMode := if isKey then .colon else .after,
                    pos := m.pos + pre.length + 1, inFast := false }) (by omega) (by omega) ?_
    (rel_of_live (fun _ => ⟨rfl, rfl⟩) nofun nofun rfl e1 e2 e3 e4 e5 (by show s.pos + _ = m.pos + _ + 1; omega) e7
      hrel.flag (nmOK_quote s isKey _ _ _ _) (nmOK_quote m isKey _ _ _ false))
    (side_of_flag T buf _ _ rfl) (fun _ => numInv_of_mode (by rintro (h | h | h) <;> cases h))
  rw [hdrop, hsl, run_str_open hT cfg m b isKey pre rest hactm hpre, (show off + (pre.length + 1) = off + 1 + pre.length by omega),
    hdr]

include hT in
theorem iterOK_strKey {buf : Bytes} {s m : St} {off : Nat} {b : UInt8} (hb : buf[off]? = some b) (hrel : Rel s m)
    (hactm : T.act m.mode b = .keyQuote) {pre post : Bytes} {i' : Nat}
    (hsl : buf.drop (off + 1) = pre ++ 34 :: post) (hpre : ∀ c ∈ pre, T.act .string c = .strOk) :
    IterOK T cfg buf m off (wrapIter T cfg buf off (.ok ⟨{ s with stack := .key pre :: s.stack, mode := .colon },
      off + pre.length + 1, i', true⟩)) := by
  obtain ⟨hdrop, hl⟩ := drop_of_getElem? buf off b hb
  obtain ⟨-, e1, e2, e3, e4, e5, e6, e7⟩ := nf_fields hrel.nf
  obtain ⟨hdr, hlen⟩ := drop_add_length hsl (by omega)
  simp only [List.length_cons] at hlen
  refine iterOK_cont cfg (k := pre.length + 2)
    (m' := { m with tmp := pre.reverse, mode := .colon, nextMode := .colon, stack := .key pre :: m.stack,
                    pos := m.pos + pre.length + 2, inFast := false }) (by omega) (by omega) ?_
    (rel_of_live nofun nofun nofun rfl e1 (e2 ▸ rfl) e3 e4 e5 (by show s.pos + _ = m.pos + _ + 2; omega) e7
      hrel.flag hrel.ns (Or.inr rfl))
    (side_of_flag T buf _ _ rfl) (fun _ => numInv_of_mode (by rintro (h | h | h) <;> cases h))
  rw [hdrop, hsl, run_str_key hT cfg m b pre post hactm hpre, (show off + (pre.length + 2) = off + 1 + pre.length + 1 by omega),
    ← List.drop_drop, hdr]
  rfl

include hT in
theorem iterOK_strVal {buf : Bytes} {s m : St} {off : Nat} {b : UInt8} (hb : buf[off]? = some b) (hrel : Rel s m)
    (hactm : T.act m.mode b = .valQuote) {pre post : Bytes} {i' : Nat}
    (hsl : buf.drop (off + 1) = pre ++ 34 :: post) (hpre : ∀ c ∈ pre, T.act .string c = .strOk) :
    IterOK T cfg buf m off (wrapIter T cfg buf off
      (match (s.fwd (pre.length + 1)).add (.str pre) with
        | .error e => .error e
        | .ok s' => .ok ⟨{ s' with pos := s.pos, mode := .after }, off + pre.length + 1, i', false⟩)) := by
  obtain ⟨hdrop, hl⟩ := drop_of_getElem? buf off b hb
  obtain ⟨-, e1, e2, e3, e4, e5, e6, e7⟩ := nf_fields hrel.nf
  obtain ⟨hdr, hlen⟩ := drop_add_length hsl (by omega)
  simp only [List.length_cons] at hlen
  have hmatch : (match (s.fwd (pre.length + 1)).add (.str pre) with
        | .error e => Except.error e
        | .ok s' => Except.ok (⟨{ s' with pos := s.pos, mode := .after }, off + pre.length + 1, i', false⟩ : It)) =
      match ({ s with mode := .after, pos := s.pos + (pre.length + 1) } : St).add (.str pre) with
        | .error e => .error e
        | .ok s' => .ok ⟨{ s' with pos := s.pos }, off + (pre.length + 1), i', false⟩ := by
    unfold St.add St.fwd
    cases addItem (.str pre) s.stack <;> rfl
  rw [hmatch]
  refine iterOK_value cfg (by omega)
    (m1 := { m with tmp := pre.reverse, mode := .after, nextMode := .after, pos := m.pos + pre.length + 1,
                    inFast := false })
    (rel_of_live nofun nofun nofun rfl e1 e2 e3 e4 e5 (by show s.pos + _ = m.pos + _ + 1; omega) e7 hrel.flag hrel.ns
      (Or.inl rfl)) ?_
  rw [hdrop, hsl, run_str_val hT cfg m b pre post hactm hpre, (show off + (pre.length + 1) + 1 = off + 1 + pre.length + 1 by omega),
    ← List.drop_drop, hdr]
  rfl

include hT in
theorem iter_quote (fp : FP) (hstr : fp.str = true) (buf : Bytes) (s m : St) (off i : Nat) (b : UInt8)
    (hb : buf[off]? = some b) (hrel : Rel s m) (hside : Side T buf m off) (isKey : Bool)
    (hact : T.act s.mode b = if isKey then .keyQuote else .valQuote) :
    IterOK T cfg buf m off (iterBuf T cfg fp buf s off i b) := by
  have hactm : T.act m.mode b = if isKey then .keyQuote else .valQuote := (nf_fields hrel.nf).1 ▸ hact
  have hcb : caseBuf T cfg fp buf s off i b = caseQuote T isKey buf s off i b := by
    unfold caseBuf
    cases isKey <;> simp only [hact, Bool.false_eq_true, ↓reduceIte, hstr]
  rw [iterBuf_eq_wrap, hcb]
  unfold caseQuote
  by_cases hg : buf.length ≤ off + 1
  · -- the quote is the last byte of the buffer
    simp only [hg, ↓reduceIte]
    exact iterOK_strOpen hT cfg hb hrel isKey hactm (pre := []) (rest := [])
      (List.drop_eq_nil_iff.mpr hg) nofun
  · rcases rangeWhile_spec (fun c => decide (T.act .string c = .strOk)) (buf.drop (off + 1)) 0 (i, b) with
      ⟨hnil, _⟩ | ⟨pre, c, post, hsl, hp, he, -⟩
    · exact absurd (List.drop_eq_nil_iff.mp hnil) hg
    · have hpre : ∀ x ∈ pre, T.act .string x = .strOk := fun x hx => by simpa using hp x hx
      have hslice : sliceOf buf (off + 1) (off + pre.length + 1) = some pre :=
        (show off + 1 + pre.length = off + pre.length + 1 by omega) ▸ sliceOf_pre buf (off + 1) pre (c :: post) hsl (by simp)
      simp only [hg, ↓reduceIte, sliceOf_tail buf off (by omega), he, Nat.zero_add, hslice]
      by_cases hc : c = 34
      · subst hc
        cases isKey
        · simp only [↓reduceIte, Bool.false_eq_true, show off + pre.length + 1 - off = pre.length + 1 by omega]
          exact iterOK_strVal hT cfg hb hrel hactm hsl hpre
        · simp only [↓reduceIte]
          exact iterOK_strKey hT cfg hb hrel hactm hsl hpre
      · -- the scan stopped at a backslash, a control byte, or the end of the buffer
        simp only [hc, ↓reduceIte]
        exact iterOK_strOpen hT cfg hb hrel isKey hactm hsl hpre

end OjgVerif.Json
