import OjgVerif.Json.Viable
/-! The machine model is a total function; at two places it totalises something the Go code does not:
`p.stack[0]` when a top-level value is delivered (the model reads `getLast?` and would answer `null`
for an empty stack, the Go code would panic), and `"true"[p.ri]` / `"false"[p.ri]` / `"null"[p.ri]`
(the model reads `getD`, the Go code would panic on an index out of range). `run_no_fault` does not see
those two as faults, so they get their own theorems here: neither default is ever taken (the first
for every step from a well-formed state, the second for a buffer read from the initial state in the
default configuration `cfg1`). `finish` reads the stack a second time, at the end of input behind a top-level
number, directly after a successful `addNum`: there `add_stack_ne` is the whole argument, no invariant needed. -/
namespace OjgVerif.Json

theorem addItem_ne_nil {v : JV} {st st' : List Item} (h : addItem v st = .ok st') : st' ≠ [] := by
  unfold addItem at h
  split at h <;> cases h <;> simp

theorem add_stack_ne {s s' : St} {v : JV} (h : s.add v = .ok s') : s'.stack ≠ [] := by
  obtain ⟨st, hst, rfl⟩ := St.add_eq_ok h
  exact addItem_ne_nil hst

/-- **`p.stack[0]` at delivery is in range.** Whenever the delivery test fires after the action switch
(no container open, mode `after`), the build stack holds the value just completed (`WFout.top`): the
actions that arrive there have just added it; the others either enter another mode or keep a mode and a
container stack that the invariant rules out. -/
theorem delivery_stack_nonempty (cfg : Cfg) (s s' : St) (b : UInt8) (c : Bool) (hw : WF s)
    (h : stepAct refTables cfg s b = .ok (s', c)) (hst : s'.starts = []) (hm : s'.mode = .after) :
    s'.stack ≠ [] := by
  obtain ⟨v, hv⟩ := ((stepAct_out cfg s b hw).2 s' c h).top hst hm
  rw [hv]
  exact List.cons_ne_nil _ _

/-- **The literal index is in range.** After any buffer read from the initial state (configuration
`cfg1`: single document, no integer fast loop), whenever a literal is pending its next letter is read
at an index inside `"null"`, `"true"` or `"false"`. -/
theorem literal_index_in_range (p : Bytes) (s : St) (h : runBytes refTables cfg1 {} p = .ok s)
    (hm : s.mode = .null ∨ s.mode = .true_ ∨ s.mode = .false_) : s.ri + 1 < (litOf s.mode).length := by
  obtain ⟨_, hr⟩ := reach_inv p {} s WF.init RInv.init h
  rcases hm with hm | hm | hm
  · have := hr.lit3 (Or.inl hm); rw [hm]; simp only [litOf, List.length_cons, List.length_nil]
    have : s.ri ≤ 2 := this; omega
  · have := hr.lit3 (Or.inr hm); rw [hm]; simp only [litOf, List.length_cons, List.length_nil]
    have : s.ri ≤ 2 := this; omega
  · have := hr.lit4 hm; rw [hm]; simp only [litOf, List.length_cons, List.length_nil]
    have : s.ri ≤ 3 := this; omega

end OjgVerif.Json
