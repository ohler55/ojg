import OjgVerif.Json.RefineStruct
/-! Refinement, language part: the grammar over the machine's leaf readers (`parseTextM`) accepts exactly
the texts the specification (`Spec.parseText`) accepts, and the entry point `run` with its BOM rule
is `exec` behind `Spec.stripBOM`. Together with `exec_text`: the reference automaton accepts exactly
the language of the specification. -/
namespace OjgVerif.Json

/-- two readers consume the same input (succeed on the same inputs and leave the same rest) -/
def SameRest {α β : Type} (p : Option (α × Bytes)) (q : Option (β × Bytes)) : Prop :=
  p.map (·.2) = q.map (·.2)

theorem SameRest.rfl' {α β : Type} (a : α) (b : β) (r : Bytes) :
    SameRest (some (a, r)) (some (b, r)) := rfl

theorem SameRest.map_left {α β γ : Type} {p : Option (α × Bytes)} {q : Option (β × Bytes)} (g : α → γ)
    (h : SameRest p q) : SameRest (p.map fun x => (g x.1, x.2)) q := by
  unfold SameRest at *
  rw [← h]; cases p <;> rfl

theorem SameRest.map_right {α β γ : Type} {p : Option (α × Bytes)} {q : Option (β × Bytes)} (g : β → γ)
    (h : SameRest p q) : SameRest p (q.map fun x => (g x.1, x.2)) := by
  unfold SameRest at *
  rw [h]; cases q <;> rfl

theorem SameRest.none_iff {α β : Type} {p : Option (α × Bytes)} {q : Option (β × Bytes)} (h : SameRest p q) :
    p = none ↔ q = none := by
  unfold SameRest at h
  cases p <;> cases q <;> simp_all

theorem SameRest.of_some {α β : Type} {p : Option (α × Bytes)} {q : Option (β × Bytes)} (h : SameRest p q)
    {a : α} {r : Bytes} (hp : p = some (a, r)) : ∃ b, q = some (b, r) := by
  unfold SameRest at h
  subst hp
  cases q with
  | none => simp at h
  | some x => simp at h; exact ⟨x.1, by rw [h]⟩

theorem pChars_succ_cons (f : Nat) (b : UInt8) (r : Bytes) : Spec.pChars (f + 1) (b :: r) =
    if b = 34 then some ([], r)
    else if b = 92 then
      match r with
      | [] => none
      | e :: r' =>
        if e = 117 then
          match Spec.hex4 r' with
          | none => none
          | some (u, r'') =>
            if 0xD800 ≤ u ∧ u < 0xDC00 then
              match r'' with
              | 92 :: 117 :: r3 =>
                match Spec.hex4 r3 with
                | some (lo, r4) =>
                  if 0xDC00 ≤ lo ∧ lo < 0xE000 then
                    (Spec.pChars f r4).map fun p => (Spec.utf8Enc (0x10000 + (u - 0xD800) * 1024 + (lo - 0xDC00)) ++ p.1, p.2)
                  else (Spec.pChars f r'').map fun p => (Spec.utf8Enc u ++ p.1, p.2)
                | none => (Spec.pChars f r'').map fun p => (Spec.utf8Enc u ++ p.1, p.2)
              | _ => (Spec.pChars f r'').map fun p => (Spec.utf8Enc u ++ p.1, p.2)
            else (Spec.pChars f r'').map fun p => (Spec.utf8Enc u ++ p.1, p.2)
        else
          match Spec.escByte e with
          | some c => (Spec.pChars f r').map fun p => (c :: p.1, p.2)
          | none => none
    else if b < 32 then none
    else (Spec.pChars f r).map fun p => (b :: p.1, p.2) := rfl

/-- **Surrogate pairing does not change what a string consumes.** The specification's character
reader (which combines `\uD8xx\uDCxx`) and the machine's (which does not: known finding
C02-surrogate) succeed on the same inputs and leave the same rest; only the decoded bytes differ.
The two readers have fuels of their own: on a pair the specification's reader spends one unit on the
twelve bytes, the machine's two (one per escape), so behind a pair the fuels differ. Hence the induction
is on a bound `n` of the length of the input, and each fuel only has to cover that length. -/
theorem pChars_sameRest (n : Nat) : ∀ (bs : Bytes) (f g : Nat), bs.length ≤ n → bs.length ≤ f → bs.length ≤ g →
    SameRest (Spec.pChars f bs) (pCharsM g bs) := by
  induction n with
  | zero =>
    intro bs f g hn _ _
    have : bs = [] := List.eq_nil_of_length_eq_zero (by omega)
    subst this
    cases f <;> cases g <;> rfl
  | succ n ih =>
    intro bs f g hn hf hg
    cases bs with
    | nil => cases f <;> cases g <;> rfl
    | cons b r =>
      simp only [List.length_cons] at hn hf hg
      obtain ⟨f', rfl⟩ : ∃ f', f = f' + 1 := ⟨f - 1, by omega⟩
      obtain ⟨g', rfl⟩ : ∃ g', g = g' + 1 := ⟨g - 1, by omega⟩
      simp only [Spec.pChars, pCharsM]
      by_cases h34 : b = 34
      · simp only [h34, ↓reduceIte]; rfl
      · simp only [h34, ↓reduceIte]
        by_cases h92 : b = 92
        · simp only [h92, ↓reduceIte]
          cases r with
          | nil => rfl
          | cons e r' =>
            simp only [List.length_cons] at hn hf hg
            simp only
            by_cases h117 : e = 117
            · simp only [h117, ↓reduceIte]
              cases hh : Spec.hex4 r' with
              | none => rfl
              | some p =>
                obtain ⟨u, r''⟩ := p
                have hl := hex4_length r' u r'' hh
                simp only
                have plain : SameRest ((Spec.pChars f' r'').map fun p => (Spec.utf8Enc u ++ p.1, p.2))
                    ((pCharsM g' r'').map fun p => (Spec.utf8Enc u ++ p.1, p.2)) :=
                  ((ih r'' f' g' (by omega) (by omega) (by omega)).map_left _).map_right _
                by_cases hhi : 0xD800 ≤ u ∧ u < 0xDC00
                · simp only [hhi, and_self, ↓reduceIte]
                  split
                  · rename_i r3
                    cases hh2 : Spec.hex4 r3 with
                    | none => exact plain
                    | some q =>
                      obtain ⟨lo, r4⟩ := q
                      have hl2 := hex4_length r3 lo r4 hh2
                      simp only
                      by_cases hlo : 0xDC00 ≤ lo ∧ lo < 0xE000
                      · simp only [hlo, and_self, ↓reduceIte]
                        -- the machine reads the second escape on its own
                        simp only [List.length_cons] at hl
                        obtain ⟨g'', rfl⟩ : ∃ g'', g' = g'' + 1 := ⟨g' - 1, by omega⟩
                        simp only [pCharsM]
                        simp only [show (92 : UInt8) ≠ 34 by decide, ↓reduceIte, hh2]
                        exact (((ih r4 f' g'' (by omega) (by omega) (by omega)).map_left _).map_right _).map_right _
                      · simp only [hlo, ↓reduceIte]; exact plain
                  · exact plain
                · simp only [hhi, ↓reduceIte]; exact plain
            · simp only [h117, ↓reduceIte]
              cases Spec.escByte e with
              | none => rfl
              | some c =>
                simp only
                exact ((ih r' f' g' (by omega) (by omega) (by omega)).map_left _).map_right _
        · simp only [h92, ↓reduceIte]
          by_cases hlt : b < 32
          · simp only [hlt, ↓reduceIte]; rfl
          · simp only [hlt, ↓reduceIte]
            exact ((ih r f' g' (by omega) (by omega) (by omega)).map_left _).map_right _

/-- two readers run on the same input agree: both refuse — or, if `lax`, at least the left one —
or both succeed, leave the same rest, and return `R`-related results. `lax := False` relates readers
that accept the same inputs (every use but one); `lax := True` is for a left reader that only refuses
more, the pair-refusing `pCharsX` (`Le.relRes` in `RefinePair.lean`). -/
def RelRes {α β : Type} (lax : Prop) (R : α → β → Prop) (p : Option (α × Bytes)) (q : Option (β × Bytes)) : Prop :=
  (p = none ∧ (lax ∨ q = none)) ∨ ∃ a b r, p = some (a, r) ∧ q = some (b, r) ∧ R a b

theorem RelRes.refuse {α β : Type} {lax : Prop} {R : α → β → Prop} {q : Option (β × Bytes)} (h : lax ∨ q = none) :
    RelRes lax R none q := Or.inl ⟨rfl, h⟩

theorem RelRes.both {α β : Type} {lax : Prop} {R : α → β → Prop} {a : α} {b : β} (r : Bytes) (h : R a b) :
    RelRes lax R (some (a, r)) (some (b, r)) := Or.inr ⟨a, b, r, rfl, rfl, h⟩

theorem RelRes.map {α β γ δ : Type} {lax : Prop} {R : α → β → Prop} {S : γ → δ → Prop} {p : Option (α × Bytes)}
    {q : Option (β × Bytes)} (f : α → γ) (g : β → δ) (h : RelRes lax R p q) (hfg : ∀ a b, R a b → S (f a) (g b)) :
    RelRes lax S (p.map fun x => (f x.1, x.2)) (q.map fun x => (g x.1, x.2)) := by
  rcases h with ⟨rfl, hl | rfl⟩ | ⟨a, b, r, rfl, rfl, hab⟩
  · exact .refuse (Or.inl hl)
  · exact .refuse (Or.inr rfl)
  · exact .both r (hfg a b hab)

/-- a relation between trees that the constructors of the grammar preserve: `R` on values, `Rb` on
decoded strings and member names, `Ra` and `Ro` on the element and member lists under construction -/
structure TreeRel where
  R : JV → JV → Prop
  Rb : Bytes → Bytes → Prop
  Ra : List JV → List JV → Prop
  Ro : List (Bytes × JV) → List (Bytes × JV) → Prop
  null : R .null .null
  bool : ∀ b, R (.bool b) (.bool b)
  str : ∀ {s t}, Rb s t → R (.str s) (.str t)
  nil : Ra [] []
  cons : ∀ {v w a b}, R v w → Ra a b → Ra (v :: a) (w :: b)
  arr : ∀ {a b}, Ra a b → R (.arr a.reverse) (.arr b.reverse)
  empty : Ro [] []
  insert : ∀ {k k' v w a b}, Rb k k' → R v w → Ro a b → Ro (kvInsert k v a) (kvInsert k' w b)
  obj : ∀ {a b}, Ro a b → R (.obj a) (.obj b)

variable {lax : Prop} (T : TreeRel)

theorem pElems_rel {pv1 pv2 : Bytes → Option (JV × Bytes)} (h : ∀ bs, RelRes lax T.R (pv1 bs) (pv2 bs)) :
    ∀ (k : Nat) (bs : Bytes) (a1 a2 : List JV), T.Ra a1 a2 →
      RelRes lax T.R (Spec.pElems pv1 k bs a1) (Spec.pElems pv2 k bs a2) := by
  intro k
  induction k with
  | zero => intro bs a1 a2 _; exact .refuse (Or.inr rfl)
  | succ k ih =>
    intro bs a1 a2 ha
    simp only [Spec.pElems]
    cases Spec.skipWs bs with
    | nil => exact .refuse (Or.inr rfl)
    | cons c r =>
      simp only
      by_cases h93 : c = 93
      · simp only [h93, ↓reduceIte]; exact .both r (T.arr ha)
      simp only [h93, ↓reduceIte]
      by_cases h44 : c = 44
      · simp only [h44, ↓reduceIte]
        rcases h (Spec.skipWs r) with ⟨e1, hl | e2⟩ | ⟨v, w, rest, e1, e2, hvw⟩
        · rw [e1]; exact .refuse (Or.inl hl)
        · rw [e1, e2]; exact .refuse (Or.inr rfl)
        · rw [e1, e2]; exact ih rest _ _ (T.cons hvw ha)
      · simp only [h44, ↓reduceIte]; exact .refuse (Or.inr rfl)

/-- members are related if their names and their values are -/
def TreeRel.Rm (x y : Bytes × JV) : Prop := T.Rb x.1 y.1 ∧ T.R x.2 y.2

theorem pMemberG_rel {pc1 pc2 : Nat → Bytes → Option (Bytes × Bytes)} {pv1 pv2 : Bytes → Option (JV × Bytes)}
    (hpc : ∀ r : Bytes, RelRes lax T.Rb (pc1 r.length r) (pc2 r.length r))
    (hpv : ∀ bs, RelRes lax T.R (pv1 bs) (pv2 bs)) :
    ∀ bs, RelRes lax T.Rm (pMemberG pc1 pv1 bs) (pMemberG pc2 pv2 bs) := by
  intro bs
  cases bs with
  | nil => exact .refuse (Or.inr rfl)
  | cons q r =>
    simp only [pMemberG]
    by_cases h34 : q = 34
    · simp only [h34, ↓reduceIte]
      rcases hpc r with ⟨e1, hl | e2⟩ | ⟨k1, k2, r1, e1, e2, hk⟩
      · rw [e1]; exact .refuse (Or.inl hl)
      · rw [e1, e2]; exact .refuse (Or.inr rfl)
      · rw [e1, e2]
        simp only
        cases Spec.skipWs r1 with
        | nil => exact .refuse (Or.inr rfl)
        | cons c r2 =>
          simp only
          by_cases h58 : c = 58
          · simp only [h58, ↓reduceIte]
            rcases hpv (Spec.skipWs r2) with ⟨e1, hl | e2⟩ | ⟨v, w, rest, e1, e2, hvw⟩
            · rw [e1]; exact .refuse (Or.inl hl)
            · rw [e1, e2]; exact .refuse (Or.inr rfl)
            · rw [e1, e2]; exact .both rest ⟨hk, hvw⟩
          · simp only [h58, ↓reduceIte]; exact .refuse (Or.inr rfl)
    · simp only [h34, ↓reduceIte]; exact .refuse (Or.inr rfl)

theorem pMembersG_rel {pm1 pm2 : Bytes → Option ((Bytes × JV) × Bytes)}
    (h : ∀ bs, RelRes lax T.Rm (pm1 bs) (pm2 bs)) :
    ∀ (k : Nat) (bs : Bytes) (a1 a2 : List (Bytes × JV)), T.Ro a1 a2 →
      RelRes lax T.R (pMembersG pm1 k bs a1) (pMembersG pm2 k bs a2) := by
  intro k
  induction k with
  | zero => intro bs a1 a2 _; exact .refuse (Or.inr rfl)
  | succ k ih =>
    intro bs a1 a2 ha
    simp only [pMembersG]
    cases Spec.skipWs bs with
    | nil => exact .refuse (Or.inr rfl)
    | cons c r =>
      simp only
      by_cases h125 : c = 125
      · simp only [h125, ↓reduceIte]; exact .both r (T.obj ha)
      simp only [h125, ↓reduceIte]
      by_cases h44 : c = 44
      · simp only [h44, ↓reduceIte]
        rcases h (Spec.skipWs r) with ⟨e1, hl | e2⟩ | ⟨⟨k1, v⟩, ⟨k2, w⟩, rest, e1, e2, hk, hvw⟩
        · rw [e1]; exact .refuse (Or.inl hl)
        · rw [e1, e2]; exact .refuse (Or.inr rfl)
        · rw [e1, e2]; exact ih rest _ _ (T.insert hk hvw ha)
      · simp only [h44, ↓reduceIte]; exact .refuse (Or.inr rfl)

/-- **The grammar is parametric in its leaf readers**: string readers that agree on what they
consume and return related strings, and number conversions that return related values on the
literals `Spec.pNumber` reads, give value readers that agree on what they consume and return related
trees. A predicate on trees is the case of a relation that also asks for the same tree. -/
theorem pValueG_rel {pc1 pc2 : Nat → Bytes → Option (Bytes × Bytes)} {nc1 nc2 : Bytes → JV}
    (hpc : ∀ r : Bytes, RelRes lax T.Rb (pc1 r.length r) (pc2 r.length r))
    (hnc : ∀ bs lit rest, Spec.pNumber bs = some (lit, rest) → T.R (nc1 lit) (nc2 lit)) :
    ∀ (f : Nat) (bs : Bytes), RelRes lax T.R (pValueG pc1 nc1 f bs) (pValueG pc2 nc2 f bs) := by
  intro f
  induction f with
  | zero => intro bs; exact .refuse (Or.inr rfl)
  | succ f ih =>
    intro bs
    cases bs with
    | nil => exact .refuse (Or.inr rfl)
    | cons b r =>
      have lit : ∀ (w : Bytes) (v : JV), T.R v v →
          RelRes lax T.R ((Spec.startsWith r w).map fun rest => (v, rest)) ((Spec.startsWith r w).map fun rest => (v, rest)) := by
        intro w v hv
        cases Spec.startsWith r w with
        | none => exact .refuse (Or.inr rfl)
        | some rest => exact .both rest hv
      simp only [pValueG]
      by_cases h1 : b = 110; · simp only [h1, ↓reduceIte]; exact lit _ _ T.null
      simp only [h1, ↓reduceIte]
      by_cases h2 : b = 116; · simp only [h2, ↓reduceIte]; exact lit _ _ (T.bool true)
      simp only [h2, ↓reduceIte]
      by_cases h3 : b = 102; · simp only [h3, ↓reduceIte]; exact lit _ _ (T.bool false)
      simp only [h3, ↓reduceIte]
      by_cases h4 : b = 34; · simp only [h4, ↓reduceIte]; exact (hpc r).map _ _ fun _ _ => T.str
      simp only [h4, ↓reduceIte]
      by_cases h5 : (b = 45 || Spec.isDigit b) = true
      · simp only [h5, ↓reduceIte]
        cases hp : Spec.pNumber (b :: r) with
        | none => exact .refuse (Or.inr rfl)
        | some p => exact .both p.2 (hnc _ p.1 p.2 hp)
      simp only [h5, Bool.false_eq_true, ↓reduceIte]
      by_cases h6 : b = 91
      · simp only [h6, ↓reduceIte]
        cases Spec.skipWs r with
        | nil => exact .refuse (Or.inr rfl)
        | cons c r' =>
          simp only
          by_cases h93 : c = 93; · simp only [h93, ↓reduceIte]; exact .both r' (T.arr T.nil)
          simp only [h93, ↓reduceIte]
          rcases ih (c :: r') with ⟨e1, hl | e2⟩ | ⟨v, w, rest, e1, e2, hvw⟩
          · rw [e1]; exact .refuse (Or.inl hl)
          · rw [e1, e2]; exact .refuse (Or.inr rfl)
          · rw [e1, e2]; exact pElems_rel T ih _ rest _ _ (T.cons hvw T.nil)
      simp only [h6, ↓reduceIte]
      by_cases h7 : b = 123
      · simp only [h7, ↓reduceIte]
        cases Spec.skipWs r with
        | nil => exact .refuse (Or.inr rfl)
        | cons c r' =>
          simp only
          by_cases h125 : c = 125; · simp only [h125, ↓reduceIte]; exact .both r' (T.obj T.empty)
          simp only [h125, ↓reduceIte]
          have hm := pMemberG_rel T hpc ih
          rcases hm (c :: r') with ⟨e1, hl | e2⟩ | ⟨⟨k1, v⟩, ⟨k2, w⟩, rest, e1, e2, hk, hvw⟩
          · rw [e1]; exact .refuse (Or.inl hl)
          · rw [e1, e2]; exact .refuse (Or.inr rfl)
          · rw [e1, e2]; exact pMembersG_rel T hm _ rest _ _ (T.insert hk hvw T.empty)
      · simp only [h7, ↓reduceIte]; exact .refuse (Or.inr rfl)

theorem RelRes.same {α : Type} {lax : Prop} {R : α → α → Prop} (hR : ∀ a, R a a) (p : Option (α × Bytes)) :
    RelRes lax R p p := by
  cases p with
  | none => exact .refuse (Or.inr rfl)
  | some x => exact .both x.2 (hR x.1)

/-- the relation that only asks for the same rest -/
def TreeRel.any : TreeRel where
  R _ _ := True
  Rb _ _ := True
  Ra _ _ := True
  Ro _ _ := True
  null := trivial
  bool _ := trivial
  str _ := trivial
  nil := trivial
  cons _ _ := trivial
  arr _ := trivial
  empty := trivial
  insert _ _ _ := trivial
  obj _ := trivial

theorem RelRes.of_sameRest {α β : Type} {p : Option (α × Bytes)} {q : Option (β × Bytes)} (h : SameRest p q) :
    RelRes False (fun _ _ => True) p q := by
  unfold SameRest at h
  cases p with
  | none => cases q with
    | none => exact .refuse (Or.inr rfl)
    | some y => simp at h
  | some x => cases q with
    | none => simp at h
    | some y =>
      simp only [Option.map_some, Option.some.injEq] at h
      exact Or.inr ⟨x.1, y.1, x.2, rfl, by rw [h], trivial⟩

/-- a `Doc` without its tree: what readers that build different trees can still agree on (`parseTextM_kind`) -/
def Spec.Doc.kind : Spec.Doc → Nat
  | .none => 0
  | .one _ => 1
  | .bad => 2

/-- the specification's whole-text reader over a character reader and a number conversion: `parseTextM`,
`parseTextS`, `parseTextX` are this by definition, `Spec.parseText` by `pValue_eq_G` -/
def parseTextG (pc : Nat → Bytes → Option (Bytes × Bytes)) (nc : Bytes → JV) (bs : Bytes) : Spec.Doc :=
  match Spec.skipWs bs with
  | [] => .none
  | b :: r =>
    match pValueG pc nc (bs.length + 1) (b :: r) with
    | some (v, rest) => if (Spec.skipWs rest).isEmpty then .one v else .bad
    | none => .bad

theorem parseTextM_eq : parseTextM = parseTextG pCharsM numConv := rfl

theorem parseText_eq : Spec.parseText = parseTextG Spec.pChars JV.num := by
  funext bs; unfold Spec.parseText parseTextG; simp only [pValue_eq_G]; rfl

/-- two documents agree: both blank, both not JSON — or, if `lax`, at least the left one —, or both one
text with `R`-related trees -/
def DocRel (lax : Prop) (R : JV → JV → Prop) : Spec.Doc → Spec.Doc → Prop
  | .none, .none => True
  | .one v, .one w => R v w
  | .bad, d => lax ∨ d = .bad
  | _, _ => False

theorem DocRel.of_none {lax : Prop} {R : JV → JV → Prop} {d : Spec.Doc} (h : DocRel lax R .none d) : d = .none := by
  cases d <;> first | rfl | exact h.elim

theorem DocRel.of_one {lax : Prop} {R : JV → JV → Prop} {v : JV} {d : Spec.Doc} (h : DocRel lax R (.one v) d) :
    ∃ w, d = .one w ∧ R v w := by
  cases d with
  | one w => exact ⟨w, rfl, h⟩
  | none => exact h.elim
  | bad => exact h.elim

theorem DocRel.of_bad {R : JV → JV → Prop} {d : Spec.Doc} (h : DocRel False R .bad d) : d = .bad :=
  h.resolve_left id

/-- **The whole-text reader is parametric in its leaf readers**: `pValueG_rel` for documents. -/
theorem parseTextG_rel {pc1 pc2 : Nat → Bytes → Option (Bytes × Bytes)} {nc1 nc2 : Bytes → JV}
    (hpc : ∀ r : Bytes, RelRes lax T.Rb (pc1 r.length r) (pc2 r.length r))
    (hnc : ∀ bs lit rest, Spec.pNumber bs = some (lit, rest) → T.R (nc1 lit) (nc2 lit)) (bs : Bytes) :
    DocRel lax T.R (parseTextG pc1 nc1 bs) (parseTextG pc2 nc2 bs) := by
  unfold parseTextG
  cases Spec.skipWs bs with
  | nil => trivial
  | cons b r =>
    simp only
    rcases pValueG_rel T hpc hnc (bs.length + 1) (b :: r) with ⟨e1, hl | e2⟩ | ⟨v, w, rest, e1, e2, hvw⟩
    · rw [e1]; exact Or.inl hl
    · rw [e1, e2]; exact Or.inr rfl
    · rw [e1, e2]
      simp only
      cases (Spec.skipWs rest).isEmpty
      · exact Or.inr rfl
      · exact hvw

/-- **Same language.** The grammar over the machine's leaf readers and the specification classify
every text alike: blank, one JSON text, or not JSON. -/
theorem parseTextM_kind (bs : Bytes) : (parseTextM bs).kind = (Spec.parseText bs).kind := by
  have h := parseTextG_rel TreeRel.any (nc1 := JV.num) (nc2 := numConv) (fun r => .of_sameRest
    (pChars_sameRest r.length r r.length r.length (Nat.le_refl _) (Nat.le_refl _) (Nat.le_refl _)))
    (fun _ _ _ _ => trivial) bs
  rw [parseTextM_eq, parseText_eq]
  cases hd : parseTextG Spec.pChars JV.num bs <;> rw [hd] at h
  · rw [h.of_none]
  · obtain ⟨w, hw, _⟩ := h.of_one; rw [hw]; rfl
  · rw [h.of_bad]

theorem bom_cases (bs : Bytes) :
    (bomRule bs = .keep ∧ Spec.stripBOM bs = bs) ∨
    (∃ r, bomRule bs = .strip r ∧ Spec.stripBOM bs = r) ∨
    (bomRule bs = .bad ∧ Spec.stripBOM bs = bs ∧ ∃ t, bs = 0xEF :: t) := by
  unfold bomRule Spec.stripBOM
  split
  · rename_i b1 b2 r
    cases r with
    | nil => left; refine ⟨rfl, ?_⟩; split <;> simp_all
    | cons d r =>
      by_cases h : b1 = 0xBB ∧ b2 = 0xBF
      · obtain ⟨rfl, rfl⟩ := h; right; left; exact ⟨d :: r, rfl, rfl⟩
      · right; right
        refine ⟨by simpa using h, ?_, _, rfl⟩
        split
        · rename_i h'; cases h'; exact absurd ⟨rfl, rfl⟩ h
        · rfl
  · rename_i hne
    left
    refine ⟨rfl, ?_⟩
    split
    · exact absurd rfl (hne _ _ _)
    · rfl

/-- outcome without the error detail -/
def toOpt {ε α : Type} : Except ε α → Option α
  | .ok a => some a
  | .error _ => none

theorem runBytes_cfg1 (cfg : Cfg) (hf : cfg.fastInt = false) (ho : cfg.onlyOne = true) (c : Bytes) (s : St) :
    runBytes refTables cfg s c = runBytes refTables cfg1 s c := by
  have hstep : ∀ (s : St) (b : UInt8), step refTables cfg s b = step refTables cfg1 s b := by
    obtain ⟨o, f, r⟩ := cfg
    cases hf; cases ho
    exact fun _ _ => rfl
  induction c generalizing s with
  | nil => rfl
  | cons b r ih =>
    simp only [runBytes, hstep]
    cases step refTables cfg1 s b with
    | error e => rfl
    | ok s' => exact ih s'

theorem chunk_exec (cfg : Cfg) (hf : cfg.fastInt = false) (ho : cfg.onlyOne = true) (c : Bytes) :
    toOpt (match runChunks refTables cfg {} [c] with
      | .error e => .error e
      | .ok s => finish refTables s) = exec {} c := by
  unfold exec
  simp only [runChunks, runBytes_cfg1 cfg hf ho]
  cases runBytes refTables cfg1 {} c with
  | error e => rfl
  | ok s' =>
    simp only [finish_inFast]
    cases finish refTables s' <;> rfl

theorem run_exec (bs : Bytes) : toOpt (run refTables cfg1 [bs]) =
    match bomRule bs with
    | .bad => none
    | .strip r => exec {} r
    | .keep => exec {} bs := by
  unfold run
  simp only [cfg1, Bool.false_eq_true, ↓reduceIte]
  cases bomRule bs with
  | bad => rfl
  | strip r => exact chunk_exec {} rfl rfl r
  | keep => exact chunk_exec {} rfl rfl bs

/-- **The entry point returns what the grammar denotes** (reference tables, one document, bytes in
one piece): no document for a blank text, the one value of a JSON text — strings and numbers as the
machine reads them — behind an optional BOM, an error otherwise. -/
theorem run_eq_grammar (bs : Bytes) :
    toOpt (run refTables cfg1 [bs]) = (parseTextM (Spec.stripBOM bs)).result := by
  rw [run_exec]
  rcases bom_cases bs with ⟨h1, h2⟩ | ⟨r, h1, h2⟩ | ⟨h1, h2, t, ht⟩
  · rw [h1, h2]; exact exec_text bs
  · rw [h1, h2]; exact exec_text r
  · rw [h1, h2, ← exec_text, ht]
    exact (exec_charErr {} 0xEF t (by decide)).symm

theorem result_isSome (bs : Bytes) : (parseTextM (Spec.stripBOM bs)).result.isSome = Spec.accepts bs := by
  have hk := parseTextM_kind (Spec.stripBOM bs)
  unfold Spec.accepts Spec.parseDoc
  cases h1 : parseTextM (Spec.stripBOM bs) <;> cases h2 : Spec.parseText (Spec.stripBOM bs) <;>
    simp [h1, h2, Spec.Doc.kind, Spec.Doc.result] at hk ⊢

/-- **The reference automaton accepts exactly the specification's language** (C01 for the reference
tables): a byte string is accepted by the machine iff it is blank or one RFC 8259 JSON text behind
an optional BOM. -/
theorem run_accepts (bs : Bytes) : (toOpt (run refTables cfg1 [bs])).isSome = Spec.accepts bs := by
  rw [run_eq_grammar, result_isSome]

end OjgVerif.Json
