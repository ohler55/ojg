import OjgVerif.Json.Reads
import OjgVerif.Json.NumValue
/-! # What `Spec.pNumber` reads, in terms of `Parts`

One walk of the specification's number reader, stage by stage. Where it succeeds the literal is `render p` for
well-formed parts `p` without a leading zero, and the unread input does not continue the last part (`Ends`).
Where it refuses, the input is a sign without an integer part, a `.` without a digit, or an exponent marker
without a digit (`Stuck`). Nothing here mentions the machine: the automaton is run over `render p` in `RefineNum`. -/
namespace OjgVerif.Json

theorem isDigit19_isDigit (b : UInt8) (h : Spec.isDigit19 b = true) : Spec.isDigit b = true := by
  unfold Spec.isDigit19 at h; unfold Spec.isDigit
  simp only [Bool.and_eq_true, decide_eq_true_eq] at h ⊢
  exact ⟨by have := h.1; rw [UInt8.le_iff_toNat_le] at this ⊢; simp at this ⊢; omega, h.2⟩

theorem isDigit19_of_ne48 (b : UInt8) (hd : Spec.isDigit b = true) (h0 : b ≠ 48) : Spec.isDigit19 b = true := by
  unfold Spec.isDigit at hd; unfold Spec.isDigit19
  simp only [Bool.and_eq_true, decide_eq_true_eq] at hd ⊢
  refine ⟨?_, hd.2⟩
  have h1 := hd.1
  rw [UInt8.le_iff_toNat_le] at h1 ⊢
  have : b.toNat ≠ 48 := fun h => h0 (UInt8.toNat_inj.mp (by simpa using h))
  simp at h1 ⊢; omega

theorem td_spec (bs : Bytes) :
    bs = (Spec.takeDigits bs).1 ++ (Spec.takeDigits bs).2 ∧
    Dig (Spec.takeDigits bs).1 ∧ NoDigitHead (Spec.takeDigits bs).2 := by
  induction bs with
  | nil => exact ⟨rfl, Dig.nil, .nil _⟩
  | cons b r ih =>
    simp only [Spec.takeDigits]
    by_cases hb : Spec.isDigit b = true
    · simp only [hb, ↓reduceIte]
      exact ⟨by simp only [List.cons_append]; rw [← ih.1], Dig.cons hb ih.2.1, ih.2.2⟩
    · simp only [hb, Bool.false_eq_true, ↓reduceIte]
      exact ⟨rfl, Dig.nil, .cons (by simpa using hb)⟩

theorem noDigitHead_of_td_empty (r : Bytes) (h : (Spec.takeDigits r).1.isEmpty = true) : NoDigitHead r := by
  have := td_spec r
  rw [List.isEmpty_iff.mp h, List.nil_append] at this
  rw [this.1]; exact this.2.2

/-- no leading zero: the integer part is `0` or starts with `1`–`9` -/
def Lead (ip : Bytes) : Prop := ip = [48] ∨ ∃ d ds, ip = d :: ds ∧ Spec.isDigit19 d = true

/-- `x` does not start an exponent (`e`, `E`) -/
def NotE (x : UInt8) : Prop := ¬ (x = 101 ∨ x = 69)

/-- the unread input does not continue the literal `p`: no digit behind a digit run (none is asked behind the
integer part `0`), no `.` where a fraction could still start, no exponent marker where an exponent could -/
def Ends (p : Parts) (rest : Bytes) : Prop :=
  match p.eo, p.fo with
  | some _, _ => NoDigitHead rest
  | none, some _ => NoDigitHead rest ∧ HeadAll NotE rest
  | none, none => (p.ip = [48] ∨ NoDigitHead rest) ∧ HeadAll (· ≠ 46) rest ∧ HeadAll NotE rest

/-- no integer part starts here -/
def NoIntHead (bs : Bytes) : Prop := HeadAll (fun x => x ≠ 48 ∧ Spec.isDigit19 x = false) bs

theorem pInt_reads (bs : Bytes) :
    Reads (Spec.pInt bs) (NoIntHead bs) fun ip r1 =>
      Dig ip ∧ Lead ip ∧ bs = ip ++ r1 ∧ (ip = [48] ∨ NoDigitHead r1) := by
  cases bs with
  | nil => exact reads_none (.nil _)
  | cons d r =>
    simp only [Spec.pInt]
    by_cases h0 : d = 48
    · subst h0; rw [if_pos rfl]
      exact reads_some ⟨Dig.cons (by decide) Dig.nil, Or.inl rfl, rfl, Or.inl rfl⟩
    rw [if_neg h0]
    by_cases h19 : Spec.isDigit19 d = true
    · rw [if_pos h19]
      have htd := td_spec r
      exact reads_some ⟨Dig.cons (isDigit19_isDigit d h19) htd.2.1, Or.inr ⟨d, _, rfl, h19⟩,
        by simp only [List.cons_append]; rw [← htd.1], Or.inr htd.2.2⟩
    · rw [if_neg h19]
      exact reads_none (.cons ⟨h0, by simpa using h19⟩)

theorem pFrac_reads (r1 : Bytes) :
    Reads (Spec.pFrac r1) (∃ r, r1 = 46 :: r ∧ NoDigitHead r) fun fp r2 =>
      ∃ fo, fp = fracTxt fo ∧ (∀ fs, fo = some fs → Dig fs ∧ fs ≠ []) ∧ r1 = fp ++ r2 ∧
        match fo with
        | none => HeadAll (· ≠ 46) r2
        | some _ => NoDigitHead r2 := by
  cases r1 with
  | nil => exact reads_some ⟨none, rfl, (fun _ h => nomatch h), rfl, .nil _⟩
  | cons c r =>
    simp only [Spec.pFrac]
    by_cases hc : c = 46
    · subst hc
      rw [if_pos rfl]
      have htd := td_spec r
      cases he : (Spec.takeDigits r).1.isEmpty with
      | true => exact reads_none ⟨r, rfl, noDigitHead_of_td_empty r he⟩
      | false =>
        refine reads_some ⟨some (Spec.takeDigits r).1, rfl, fun fs hfs => ?_,
          by simp only [List.cons_append]; rw [← htd.1], htd.2.2⟩
        cases hfs
        exact ⟨htd.2.1, fun h0 => by rw [h0] at he; cases he⟩
    · rw [if_neg hc]
      exact reads_some ⟨none, rfl, (fun _ h => nomatch h), rfl, .cons hc⟩

/-- an exponent marker, an optional sign, and no digit -/
def ExpStuck (r2 : Bytes) : Prop :=
  ∃ e sg r, (e = 101 ∨ e = 69) ∧ r2 = e :: (sg ++ r) ∧ NoDigitHead r ∧
    ((sg = [] ∧ HeadAll (fun x => ¬ (x = 43 ∨ x = 45)) r) ∨ ∃ c, (c = 43 ∨ c = 45) ∧ sg = [c])

theorem pExp_reads (r2 : Bytes) :
    Reads (Spec.pExp r2) (ExpStuck r2) fun ep r3 =>
      ∃ eo, ep = expTxt eo ∧ (∀ x, eo = some x → x.WF) ∧ r2 = ep ++ r3 ∧
        match eo with
        | none => HeadAll NotE r3
        | some _ => NoDigitHead r3 := by
  cases r2 with
  | nil => exact reads_some ⟨none, rfl, (fun _ h => nomatch h), rfl, .nil _⟩
  | cons e r =>
    simp only [Spec.pExp]
    by_cases he : (e = 101 || e = 69) = true
    · rw [if_pos he]
      have he' : e = 101 ∨ e = 69 := by simpa using he
      obtain ⟨hsg, hsplit, hhead⟩ : ((Spec.pExpSign r).1 = [] ∨ (Spec.pExpSign r).1 = [43] ∨ (Spec.pExpSign r).1 = [45]) ∧
          r = (Spec.pExpSign r).1 ++ (Spec.pExpSign r).2 ∧
          ((Spec.pExpSign r).1 = [] → HeadAll (fun x => ¬ (x = 43 ∨ x = 45)) (Spec.pExpSign r).2) := by
        cases r with
        | nil => exact ⟨Or.inl rfl, rfl, fun _ => .nil _⟩
        | cons sg r' =>
          simp only [Spec.pExpSign]
          by_cases hs : (sg = 43 || sg = 45) = true
          · simp only [hs, ↓reduceIte]
            have hs' : sg = 43 ∨ sg = 45 := by simpa using hs
            exact ⟨hs'.elim (fun h => Or.inr (Or.inl (by rw [h]))) (fun h => Or.inr (Or.inr (by rw [h]))), rfl,
              fun h => nomatch h⟩
          · simp only [hs, Bool.false_eq_true, ↓reduceIte]
            exact ⟨Or.inl trivial, rfl, fun _ => .cons (by simpa using hs)⟩
      have htd := td_spec (Spec.pExpSign r).2
      cases hemp : (Spec.takeDigits (Spec.pExpSign r).2).1.isEmpty with
      | true =>
        refine reads_none ⟨e, (Spec.pExpSign r).1, (Spec.pExpSign r).2, he', by rw [← hsplit],
          noDigitHead_of_td_empty _ hemp, ?_⟩
        rcases hsg with h | h | h
        · exact Or.inl ⟨h, hhead h⟩
        · exact Or.inr ⟨43, Or.inl rfl, h⟩
        · exact Or.inr ⟨45, Or.inr rfl, h⟩
      | false =>
        refine reads_some ⟨some ⟨e, (Spec.pExpSign r).1, (Spec.takeDigits (Spec.pExpSign r).2).1⟩, rfl, fun x hx => ?_,
          ?_, htd.2.2⟩
        · cases hx
          exact ⟨he', hsg, htd.2.1, fun h0 => by simp only at h0; rw [h0] at hemp; cases hemp⟩
        · simp only [List.cons_append, List.append_assoc]
          rw [← htd.1, ← hsplit]
    · rw [if_neg he]
      exact reads_some ⟨none, rfl, (fun _ h => nomatch h), rfl, .cons (by simpa [NotE] using he)⟩

/-- where the specification's number reader gives up behind an optional sign: no integer part, a `.` without
a digit, or an exponent marker without a digit -/
def Stuck (bs : Bytes) : Prop :=
  NoIntHead bs ∨
  ∃ ip r1, Dig ip ∧ Lead ip ∧ bs = ip ++ r1 ∧
    ((∃ r, r1 = 46 :: r ∧ NoDigitHead r) ∨
     ∃ fo r2, (∀ fs, fo = some fs → Dig fs ∧ fs ≠ []) ∧ r1 = fracTxt fo ++ r2 ∧ ExpStuck r2)

/-- the literal behind the sign `s` -/
theorem pUnsigned_reads (s : Bool) (bs : Bytes) :
    Reads (Spec.pUnsigned bs) (Stuck bs) fun lit rest =>
      ∃ p : Parts, p.WF ∧ Lead p.ip ∧ sgnTxt s ++ lit = render p ∧ bs = lit ++ rest ∧ Ends p rest := by
  unfold Spec.pUnsigned
  obtain ⟨i1, i2⟩ := pInt_reads bs
  cases hpi : Spec.pInt bs with
  | none => exact reads_none (Or.inl (i2 hpi))
  | some q1 =>
    obtain ⟨ip, r1⟩ := q1
    obtain ⟨hd, hl, hbs, hend1⟩ := i1 ip r1 hpi
    have hne : ip ≠ [] := by rcases hl with h | ⟨d, ds, h, _⟩ <;> simp [h]
    obtain ⟨f1, f2⟩ := pFrac_reads r1
    simp only
    cases hpf : Spec.pFrac r1 with
    | none => exact reads_none (Or.inr ⟨ip, r1, hd, hl, hbs, Or.inl (f2 hpf)⟩)
    | some q2 =>
      obtain ⟨fp, r2⟩ := q2
      obtain ⟨fo, rfl, hwf, hr1, hend2⟩ := f1 fp r2 hpf
      obtain ⟨e1, e2⟩ := pExp_reads r2
      simp only
      cases hpe : Spec.pExp r2 with
      | none => exact reads_none (Or.inr ⟨ip, r1, hd, hl, hbs, Or.inr ⟨fo, r2, hwf, hr1, e2 hpe⟩⟩)
      | some q3 =>
        obtain ⟨ep, r3⟩ := q3
        obtain ⟨eo, rfl, hwe, hr2, hend3⟩ := e1 ep r3 hpe
        refine reads_some ⟨⟨s, ip, fo, eo⟩, ⟨hd, hne, hwf, hwe⟩, hl, by simp [render, List.append_assoc],
          by rw [hbs, hr1, hr2]; simp only [List.append_assoc], ?_⟩
        unfold Ends
        cases eo with
        | some x => exact hend3
        | none =>
          obtain rfl : r2 = r3 := by simpa [expTxt] using hr2
          cases fo with
          | some fs => exact ⟨hend2, hend3⟩
          | none =>
            obtain rfl : r1 = r2 := by simpa [fracTxt] using hr1
            exact ⟨hend1, hend2, hend3⟩

/-- **The specification's number reader in terms of `Parts`.** A literal it reads is `render p` with `p`
well-formed and without leading zero, and what follows does not continue it; where it refuses, the input is a
sign `s` (none unless the first byte is `-`) followed by a `Stuck` text. -/
theorem pNumber_reads (b : UInt8) (t : Bytes) :
    Reads (Spec.pNumber (b :: t)) (∃ s u, b :: t = sgnTxt s ++ u ∧ Stuck u ∧ (s = false → b ≠ 45)) fun lit rest =>
      ∃ p : Parts, p.WF ∧ Lead p.ip ∧ lit = render p ∧ b :: t = lit ++ rest ∧ Ends p rest := by
  obtain ⟨s, u, hbt, hnum, hs⟩ : ∃ s u, b :: t = sgnTxt s ++ u ∧
      Spec.pNumber (b :: t) = (Spec.pUnsigned u).map (fun p => (sgnTxt s ++ p.1, p.2)) ∧ (s = false → b ≠ 45) := by
    by_cases h45 : b = 45
    · subst h45; exact ⟨true, t, rfl, by simp [Spec.pNumber, sgnTxt], fun h => nomatch h⟩
    · refine ⟨false, b :: t, rfl, ?_, fun _ => h45⟩
      simp only [Spec.pNumber, h45, ↓reduceIte, sgnTxt, Bool.false_eq_true, List.nil_append]
      cases Spec.pUnsigned (b :: t) <;> rfl
  rw [hnum]
  refine Reads.map (sgnTxt s ++ ·) (Reads.mono (pUnsigned_reads s u) (fun h => ⟨s, u, hbt, h, hs⟩) ?_)
  intro lit rest _ ⟨p, hw, hl, hr, hu, he⟩
  exact ⟨p, hw, hl, hr, by rw [hbt, hu, List.append_assoc], he⟩

/-- **anatomy of an RFC 8259 number literal** (`lit` is the literal the specification reads at the head
of `bs`; in particular any `lit` with `pNumber lit = some (lit, [])`) -/
theorem pNumber_parts (bs lit rest : Bytes) (h : Spec.pNumber bs = some (lit, rest)) :
    ∃ p : Parts, p.WF ∧ Lead p.ip ∧ lit = render p := by
  cases bs with
  | nil => cases h
  | cons b r =>
    obtain ⟨p, hw, hl, hr, _⟩ := (pNumber_reads b r).1 lit rest h
    exact ⟨p, hw, hl, hr⟩

end OjgVerif.Json
