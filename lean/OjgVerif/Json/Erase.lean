import OjgVerif.Json.Lemmas
/-! Value erasure: the control behaviour of the machine (which inputs are accepted, where an error is
reported and of what kind, how many documents are delivered) does not depend on the values it builds,
on the number accumulator, or on the parsers' integer fast loop. -/
namespace OjgVerif.Json

def Item.erase : Item → Item
  | .val _ => .val .null
  | .key _ => .key []
  | .arrMark => .arrMark
  | .obj _ => .obj []

abbrev eraseStack (st : List Item) : List Item := st.map Item.erase

/-- forget what holds data and not control: values, member names, the pending string bytes and rune,
the number accumulator and the fast-loop flag -/
def St.erase (s : St) : St :=
  { s with stack := eraseStack s.stack, docs := s.docs.map (fun _ => JV.null), num := {}, inFast := false,
           tmp := [], rn := 0 }

@[simp] theorem Item.erase_val (v : JV) : (Item.val v).erase = .val .null := rfl
@[simp] theorem Item.erase_key (k : Bytes) : (Item.key k).erase = .key [] := rfl
@[simp] theorem Item.erase_arrMark : Item.arrMark.erase = .arrMark := rfl
@[simp] theorem Item.erase_obj (kvs : List (Bytes × JV)) : (Item.obj kvs).erase = .obj [] := rfl

@[simp] theorem Item.erase_erase (it : Item) : it.erase.erase = it.erase := by cases it <;> rfl

@[simp] theorem eraseStack_idem (st : List Item) : eraseStack (eraseStack st) = eraseStack st := by
  simp [eraseStack, List.map_map, Function.comp_def]

@[simp] theorem St.erase_erase (s : St) : s.erase.erase = s.erase := by
  simp [St.erase, List.map_map, Function.comp_def]

@[simp] theorem St.erase_mode (s : St) : s.erase.mode = s.mode := rfl
@[simp] theorem St.erase_nextMode (s : St) : s.erase.nextMode = s.nextMode := rfl
@[simp] theorem St.erase_starts (s : St) : s.erase.starts = s.starts := rfl
@[simp] theorem St.erase_ri (s : St) : s.erase.ri = s.ri := rfl
@[simp] theorem St.erase_err (s : St) (k : ErrKind) : s.erase.err k = s.err k := rfl

def eraseR : Except Err St → Except Err St
  | .ok s => .ok s.erase
  | .error e => .error e

theorem eraseR_cases {x y : Except Err St} (h : eraseR x = eraseR y) :
    (∃ e, x = .error e ∧ y = .error e) ∨ ∃ a b, x = .ok a ∧ y = .ok b ∧ a.erase = b.erase := by
  cases x <;> cases y <;> simp only [eraseR, Except.ok.injEq, Except.error.injEq, reduceCtorEq] at h
  · exact Or.inl ⟨_, h ▸ rfl, rfl⟩
  · exact Or.inr ⟨_, _, rfl, rfl, h⟩

theorem addItem_erase (v w : JV) (st : List Item) :
    (match addItem v st with | .ok x => Except.ok (eraseStack x) | .error e => .error e) =
    (match addItem w (eraseStack st) with | .ok x => Except.ok (eraseStack x) | .error e => .error e) := by
  match st with
  | [] => rfl
  | [it] => cases it <;> rfl
  | it :: it2 :: rest =>
    cases it <;> cases it2 <;> simp [addItem, eraseStack, List.map_map, Function.comp_def]

theorem St.add_erase (s : St) (v w : JV) : eraseR (s.add v) = eraseR (s.erase.add w) := by
  unfold St.add
  have h := addItem_erase v w s.stack
  have hs : s.erase.stack = eraseStack s.stack := rfl
  rw [hs]
  cases h1 : addItem v s.stack <;> cases h2 : addItem w (eraseStack s.stack) <;> rw [h1, h2] at h <;>
    simp only [Except.ok.injEq, Except.error.injEq, reduceCtorEq] at h
  · simp only [eraseR, St.erase_err, h]
  · simp only [eraseR, St.erase, h, List.map_map, Function.comp_def]

theorem eraseR_rel {f : St → Except Err St} (hf : ∀ s, eraseR (f s) = eraseR (f s.erase)) {s t : St}
    (h : s.erase = t.erase) : eraseR (f s) = eraseR (f t) := by
  rw [hf s, hf t, h]

theorem St.addNum_erase (s : St) : eraseR s.addNum = eraseR s.erase.addNum := by
  unfold St.addNum; exact St.add_erase s _ _

theorem splitAtMark_erase (st : List Item) : ∀ (acc acc' : List JV),
    (match splitAtMark st acc with | some p => some (eraseStack p.2) | none => none) =
    (match splitAtMark (eraseStack st) acc' with | some p => some (eraseStack p.2) | none => none) := by
  induction st with
  | nil => intro _ _; rfl
  | cons it rest ih =>
    intro acc acc'
    cases it with
    | arrMark => simp [splitAtMark, eraseStack]
    | val v => simpa [splitAtMark, eraseStack] using ih _ _
    | key k => simpa [splitAtMark, eraseStack] using ih _ _
    | obj kvs => simpa [splitAtMark, eraseStack] using ih _ _

def eraseL : Except ErrKind (List Item) → Except ErrKind (List Item)
  | .ok st => .ok (eraseStack st)
  | .error k => .error k

theorem addK_erase (v w : JV) (st : List Item) : eraseL (addK v st) = eraseL (addK w (eraseStack st)) := by
  have h := addItem_erase v w st
  unfold addK
  cases h1 : addItem v st <;> cases h2 : addItem w (eraseStack st) <;> rw [h1, h2] at h <;>
    simp only [Except.ok.injEq, Except.error.injEq, reduceCtorEq] at h <;> simp only [eraseL, h]

theorem addK_rel (v w : JV) {st st' : List Item} (h : eraseStack st = eraseStack st') :
    eraseL (addK v st) = eraseL (addK w st') := by
  rw [addK_erase v .null st, addK_erase w .null st', h]

theorem popObjK_rel {st st' : List Item} (h : eraseStack st = eraseStack st') :
    eraseL (popObjK st) = eraseL (popObjK st') := by
  cases st <;> cases st' <;> simp only [eraseStack, List.map_nil, List.map_cons, List.cons.injEq, reduceCtorEq] at h
  · rfl
  · exact addK_rel _ _ h.2

theorem popArrK_rel {st st' : List Item} (h : eraseStack st = eraseStack st') :
    eraseL (popArrK st) = eraseL (popArrK st') := by
  have h12 := (splitAtMark_erase st [] []).trans (h ▸ (splitAtMark_erase st' [] []).symm)
  unfold popArrK
  cases e1 : splitAtMark st [] <;> cases e2 : splitAtMark st' [] <;> rw [e1, e2] at h12 <;>
    simp only [Option.some.injEq, reduceCtorEq] at h12
  · exact addK_rel _ _ h12

theorem eraseL_bind {x y : Except ErrKind (List Item)} {f g : List Item → Except ErrKind (List Item)} :
    eraseL x = eraseL y → (∀ st st', eraseStack st = eraseStack st' → eraseL (f st) = eraseL (g st')) →
    eraseL (match x with | .error k => .error k | .ok st => f st) =
      eraseL (match y with | .error k => .error k | .ok st => g st) := by
  intro hxy hfg
  cases x <;> cases y <;> simp only [eraseL, Except.ok.injEq, Except.error.injEq, reduceCtorEq] at hxy
  · subst hxy; rfl
  · exact hfg _ _ hxy

theorem flushK_erase (T : Tables) (s : St) : eraseL (flushK T s) = eraseL (flushK T s.erase) := by
  unfold flushK
  rw [St.erase_mode]
  split
  · exact addK_rel _ _ (eraseStack_idem _).symm
  · exact congrArg Except.ok (eraseStack_idem _).symm

/-- the stack effect commutes with erasure: the values added differ, the shape of the stack does not -/
theorem Act.build_erase (T : Tables) (a : Act) (b : UInt8) (s : St) :
    eraseL (a.build T b s) = eraseL (a.build T b s.erase) := by
  have hid : eraseStack s.stack = eraseStack s.erase.stack := (eraseStack_idem _).symm
  cases a <;> simp only [Act.build, St.erase_mode, St.erase_nextMode, St.erase_starts, St.erase_ri]
  case numSpc | numNewline => exact addK_rel _ _ hid
  case numComma =>
    refine eraseL_bind (addK_rel _ _ hid) fun st st' h => ?_
    cases s.starts
    · rfl
    · exact congrArg Except.ok h
  case strQuote =>
    by_cases hc : T.act s.nextMode 58 = .colonColon <;> simp only [hc, if_true, if_false]
    · simp only [eraseL, eraseStack, List.map_cons, Item.erase_key, St.erase, List.map_map, Function.comp_def,
        Item.erase_erase]
    · exact addK_rel _ _ hid
  case openObject | openArray =>
    simp only [eraseL, eraseStack, List.map_cons, St.erase, List.map_map, Function.comp_def, Item.erase_erase,
      Item.erase_obj, Item.erase_arrMark]
  case closeObject =>
    rcases s.starts with _ | ⟨_ | _, rest⟩ <;> try rfl
    by_cases hv : T.fin s.mode = .v <;> simp only [hv, if_true, if_false]
    exact eraseL_bind (flushK_erase T s) fun _ _ h => popObjK_rel h
  case closeArray =>
    rcases s.starts with _ | ⟨_ | _, rest⟩ <;> try rfl
    exact eraseL_bind (flushK_erase T s) fun _ _ h => popArrK_rel h
  case tokenOk =>
    cases tokLit T s.mode with
    | none => exact congrArg Except.ok hid
    | some p =>
      by_cases h1 : p.1.getD (s.ri + 1) 0 = b <;> by_cases h2 : p.1.length - 1 ≤ s.ri + 1 <;>
        simp only [h1, h2, if_true, if_false]
      · exact addK_rel _ _ hid
      · exact congrArg Except.ok hid
  all_goals exact congrArg Except.ok hid

/-- the record update writes no control field from a data field -/
theorem Act.upd_erase (T : Tables) (cfg cfg' : Cfg) (a : Act) (b : UInt8) (s : St) {st st' : List Item}
    (h : eraseStack st = eraseStack st') : (a.upd T cfg b s st).erase = (a.upd T cfg' b s.erase st').erase := by
  have h' : List.map Item.erase st = List.map Item.erase st' := h
  cases a <;> simp only [Act.upd]
  case tokenOk =>
    rw [St.erase_mode]
    cases tokLit T s.mode <;> simp [St.erase, h', List.map_map, Function.comp_def]
  all_goals simp [St.erase, h', List.map_map, Function.comp_def, afterCommaMode]

def eraseRB : Except Err (St × Bool) → Except Err (St × Bool)
  | .ok p => .ok (p.1.erase, p.2)
  | .error e => .error e

theorem bind_erase {x y : Except Err St} {k k' : St → Except Err (St × Bool)} (hxy : eraseR x = eraseR y)
    (hk : ∀ a b : St, a.erase = b.erase → eraseRB (k a) = eraseRB (k' b)) :
    eraseRB (x >>= k) = eraseRB (y >>= k') := by
  rcases eraseR_cases hxy with ⟨e, rfl, rfl⟩ | ⟨a, b, rfl, rfl, hab⟩
  · rfl
  · exact hk a b hab

theorem erase_eq_of {a b : St} (h : a.erase = b.erase) :
    a.mode = b.mode ∧ a.nextMode = b.nextMode ∧ a.starts = b.starts ∧ a.ri = b.ri ∧ a.line = b.line ∧
    a.pos = b.pos ∧ a.nl = b.nl ∧ eraseStack a.stack = eraseStack b.stack ∧
    a.docs.map (fun _ => JV.null) = b.docs.map (fun _ => JV.null) := by
  simp only [St.erase, St.mk.injEq] at h
  -- one equation per field, in the order of `structure St`
  obtain ⟨hmode, hnext, hstarts, hstack, hdocs, _, hri, _, _, hline, hpos, hnl, _⟩ := h
  exact ⟨hmode, hnext, hstarts, hri, hline, hpos, hnl, hstack, hdocs⟩

theorem erase_same_docs {a b : St} (h : a.erase = b.erase) : a.docs.length = b.docs.length := by
  simpa using congrArg List.length (erase_eq_of h).2.2.2.2.2.2.2.2

theorem deliver_rel (T : Tables) (cfg cfg' : Cfg) (ho : cfg.onlyOne = cfg'.onlyOne) {a b : St}
    (h : a.erase = b.erase) : (deliver T cfg a).erase = (deliver T cfg' b).erase := by
  obtain ⟨h1, h2, h3, h4, h5, h6, h7, h8, h9⟩ := erase_eq_of h
  unfold deliver
  rw [h1, h3, ho]
  split
  · simp only [St.erase, List.map_cons, List.map_nil, eraseStack, h2, h4, h5, h6, h7, h9]
  · exact h

/-- the action switch followed by the delivery test: `step` without the last two assignments of `Act.settle`, of
which erasure sees the offset only (`step_eq_stepD`) -/
def stepD (T : Tables) (cfg : Cfg) (s : St) (b : UInt8) : Except Err St :=
  match stepAct T cfg s b with
  | .error e => .error e
  | .ok (s', cont) => .ok (if cont then s' else deliver T cfg s')

theorem deliverUnless_rel (T : Tables) (cfg cfg' : Cfg) (ho : cfg.onlyOne = cfg'.onlyOne) {a b : St} (h : a.erase = b.erase)
    (c : Bool) : eraseR (.ok (if c then a else deliver T cfg a)) = eraseR (.ok (if c then b else deliver T cfg' b)) := by
  cases c
  · simp only [Bool.false_eq_true, ↓reduceIte, eraseR, deliver_rel T cfg cfg' ho h]
  · simp only [↓reduceIte, eraseR, h]

/-- **One byte, up to erasure.** The action switch and delivery test commute with value erasure,
whatever the integer-loop setting: the stack effect keeps the shape of the stack, the record update
writes no control field from a data field. -/
theorem stepD_erase (cfg cfg' : Cfg) (ho : cfg.onlyOne = cfg'.onlyOne) (s : St) (b : UInt8) :
    eraseR (stepD refTables cfg s b) = eraseR (stepD refTables cfg' s.erase b) := by
  unfold stepD
  rw [stepAct_eq, stepAct_eq, St.erase_mode]
  have hb := Act.build_erase refTables (refTables.act s.mode b) b s
  cases h1 : (refTables.act s.mode b).build refTables b s <;>
    cases h2 : (refTables.act s.mode b).build refTables b s.erase <;> rw [h1, h2] at hb <;>
    simp only [eraseL, Except.ok.injEq, Except.error.injEq, reduceCtorEq] at hb
  · rw [hb]; rfl
  · rename_i st st'
    have hu := Act.upd_erase refTables cfg cfg' (refTables.act s.mode b) b s hb
    by_cases hd : refTables.act s.mode b = .numDot
    · -- the continue flag depends on the accumulator; in dot mode nothing is ever delivered
      have e1 : ∀ (c : Cfg) (t : St) (f : Bool), t.mode = .dot → (if f then t else deliver refTables c t) = t := by
        intro c t f ht
        cases f
        · exact deliver_id_of refTables c t (by rw [ht]; decide)
        · rfl
      rw [hd] at hu ⊢
      simp only []
      rw [e1 _ _ _ rfl, e1 _ _ _ rfl]
      exact congrArg Except.ok hu
    · have hc : (refTables.act s.mode b).cont s.erase = (refTables.act s.mode b).cont s := by
        cases hact : refTables.act s.mode b <;> first | rfl | exact absurd hact hd
      simp only [hc]
      exact deliverUnless_rel refTables cfg cfg' ho hu _

theorem step_eq_stepD (T : Tables) (cfg : Cfg) (s : St) (b : UInt8) :
    eraseR (step T cfg s b) = match eraseR (stepD T cfg s b) with
      | .ok t => .ok ({ t with pos := t.pos + 1 } : St)
      | .error e => .error e := by
  rw [step_settle]
  unfold stepD
  cases stepAct T cfg s b <;> rfl

theorem step_erase (cfg cfg' : Cfg) (ho : cfg.onlyOne = cfg'.onlyOne) (s : St) (b : UInt8) :
    eraseR (step refTables cfg s b) = eraseR (step refTables cfg' s.erase b) := by
  rw [step_eq_stepD, step_eq_stepD, stepD_erase cfg cfg' ho]

theorem step_rel (cfg cfg' : Cfg) (ho : cfg.onlyOne = cfg'.onlyOne) {a b : St} (h : a.erase = b.erase) (x : UInt8) :
    eraseR (step refTables cfg a x) = eraseR (step refTables cfg' b x) := by
  rw [step_erase cfg cfg' ho a x, h, ← step_erase cfg' cfg' rfl b x]

theorem runBytes_rel (cfg cfg' : Cfg) (ho : cfg.onlyOne = cfg'.onlyOne) (bs : Bytes) : ∀ {a b : St},
    a.erase = b.erase → eraseR (runBytes refTables cfg a bs) = eraseR (runBytes refTables cfg' b bs) := by
  induction bs with
  | nil => intro a b h; simp only [runBytes, eraseR, h]
  | cons x r ih =>
    intro a b h
    simp only [runBytes]
    rcases eraseR_cases (step_rel cfg cfg' ho h x) with ⟨e, h1, h2⟩ | ⟨a', b', h1, h2, hs⟩ <;> rw [h1, h2]
    exact ih hs

theorem runChunks_rel (cfg cfg' : Cfg) (ho : cfg.onlyOne = cfg'.onlyOne) (cs : List Bytes) : ∀ {a b : St},
    a.erase = b.erase → eraseR (runChunks refTables cfg a cs) = eraseR (runChunks refTables cfg' b cs) := by
  induction cs with
  | nil => intro a b h; simp only [runChunks, eraseR, h]
  | cons c r ih =>
    intro a b h
    simp only [runChunks]
    rcases eraseR_cases (runBytes_rel cfg cfg' ho c h) with ⟨e, h1, h2⟩ | ⟨a', b', h1, h2, hs⟩ <;> rw [h1, h2]
    exact ih hs

/-- outcome without the values: the error, or the number of documents -/
def outcome : Except Err (List JV) → Except Err Nat
  | .ok docs => .ok docs.length
  | .error e => .error e

theorem finish_rel {a b : St} (h : a.erase = b.erase) :
    outcome (finish refTables a) = outcome (finish refTables b) := by
  obtain ⟨g1, g2, g3, g4, g5, g6, g7, g8, g9⟩ := erase_eq_of h
  have herr : ∀ k, a.err k = b.err k := by intro k; simp [St.err, g5, g6, g7]
  have hlen : a.docs.length = b.docs.length := by
    have := congrArg List.length g9; simpa using this
  unfold finish
  rw [g1, g3, herr]
  split
  · rfl
  · split
    · rcases eraseR_cases (eraseR_rel (fun t => St.addNum_erase t) h) with ⟨e, h1, h2⟩ | ⟨a', b', h1, h2, hn⟩ <;>
        rw [h1, h2]
      · simp only [outcome, List.length_reverse, List.length_cons, Except.ok.injEq, Nat.add_right_cancel_iff]
        exact erase_same_docs hn
    · simp only [outcome, List.length_reverse, hlen]

/-- **The values do not steer the machine.** Two configurations that differ only in the parsers'
integer fast loop accept the same inputs under the same chunkings, deliver the same number of
documents, and report the same error (kind, line, column) otherwise. -/
theorem run_outcome_fastInt (cfg cfg' : Cfg) (ho : cfg.onlyOne = cfg'.onlyOne) (hr : cfg.reader = cfg'.reader)
    (chunks : List Bytes) : outcome (run refTables cfg chunks) = outcome (run refTables cfg' chunks) := by
  have key : ∀ cs : List Bytes, outcome (afterBom refTables cfg cs) = outcome (afterBom refTables cfg' cs) := by
    intro cs
    unfold afterBom
    rcases eraseR_cases (runChunks_rel cfg cfg' ho cs (a := {}) (b := {}) rfl) with
      ⟨e, h1, h2⟩ | ⟨a', b', h1, h2, hs⟩ <;> rw [h1, h2]
    exact finish_rel hs
  rw [run_afterBom, run_afterBom, hr]
  generalize (if cfg'.reader = true then topUp (chunks.filter (!·.isEmpty)) else chunks) = cs
  cases cs with
  | nil => rfl
  | cons c rest =>
    simp only
    cases (if cfg'.reader = true then bomRuleReader c else bomRule c) with
    | bad => rfl
    | strip r => exact key _
    | keep => exact key _

end OjgVerif.Json
