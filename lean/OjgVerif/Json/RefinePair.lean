import OjgVerif.Json.RefineTree
/-! Where exactly the machine's strings are the RFC's strings.

`pCharsX` is the character reader that REFUSES a string in which a high-surrogate escape is directly
followed by a low-surrogate escape (`\uD8xx\uDCxx`) and otherwise reads like both `Spec.pChars` (the
RFC reading, which combines such a pair) and `pCharsM` (what the machines implement, which does not:
known finding C02-surrogate). Whatever the refusing grammar returns, both return (`Le`), hence on
every text the refusing grammar accepts the machine's tree IS the RFC tree. That a JSON text it
refuses holds such a pair is how `pCharsX` is written, not a theorem. -/
namespace OjgVerif.Json

/-- does a low-surrogate escape `\uDC00..\uDFFF` start here? -/
def lowEscHere : Bytes → Bool
  | 92 :: 117 :: r3 =>
    match Spec.hex4 r3 with
    | some (lo, _) => decide (0xDC00 ≤ lo ∧ lo < 0xE000)
    | none => false
  | _ => false

/-- the string reader that refuses a surrogate PAIR escape -/
def pCharsX : Nat → Bytes → Option (Bytes × Bytes)
  | 0, _ => none
  | f+1, bs =>
    match bs with
    | [] => none
    | b :: r =>
      if b = 34 then some ([], r)
      else if b = 92 then
        match r with
        | [] => none
        | e :: r' =>
          if e = 117 then
            match Spec.hex4 r' with
            | none => none
            | some (u, r'') =>
              if (0xD800 ≤ u ∧ u < 0xDC00) ∧ lowEscHere r'' = true then none
              else (pCharsX f r'').map fun p => (Spec.utf8Enc u ++ p.1, p.2)
          else
            match Spec.escByte e with
            | some c => (pCharsX f r').map fun p => (c :: p.1, p.2)
            | none => none
      else if b < 32 then none
      else (pCharsX f r).map fun p => (b :: p.1, p.2)

/-- whatever `p` returns, `q` returns -/
def Le {α : Type} (p q : Option α) : Prop := ∀ x, p = some x → q = some x

theorem Le.none {α : Type} (q : Option α) : Le (none : Option α) q := fun _ h => nomatch h
theorem Le.refl {α : Type} (p : Option α) : Le p p := fun _ h => h

theorem Le.map {α β : Type} {p q : Option α} (g : α → β) (h : Le p q) : Le (p.map g) (q.map g) := by
  intro x hx
  cases p with
  | none => simp at hx
  | some a => rw [h a rfl]; exact hx

theorem pCharsX_le_M : ∀ (f : Nat) (bs : Bytes), Le (pCharsX f bs) (pCharsM f bs) := by
  intro f
  induction f with
  | zero => intro bs; exact Le.none _
  | succ f ih =>
    intro bs
    cases bs with
    | nil => exact Le.none _
    | cons b r =>
      simp only [pCharsX, pCharsM]
      by_cases h34 : b = 34
      · simp only [h34, ↓reduceIte]; exact Le.refl _
      · simp only [h34, ↓reduceIte]
        by_cases h92 : b = 92
        · simp only [h92, ↓reduceIte]
          cases r with
          | nil => exact Le.none _
          | cons e r' =>
            simp only
            by_cases h117 : e = 117
            · simp only [h117, ↓reduceIte]
              cases Spec.hex4 r' with
              | none => exact Le.none _
              | some p =>
                obtain ⟨u, r''⟩ := p
                simp only
                by_cases hx : (0xD800 ≤ u ∧ u < 0xDC00) ∧ lowEscHere r'' = true
                · simp only [hx, and_self, ↓reduceIte]; exact Le.none _
                · simp only [hx, ↓reduceIte]; exact (ih r'').map _
            · simp only [h117, ↓reduceIte]
              cases Spec.escByte e with
              | none => exact Le.none _
              | some c => exact (ih r').map _
        · simp only [h92, ↓reduceIte]
          by_cases hlt : b < 32
          · simp only [hlt, ↓reduceIte]; exact Le.none _
          · simp only [hlt, ↓reduceIte]; exact (ih r).map _

theorem pCharsX_le_spec : ∀ (f : Nat) (bs : Bytes), Le (pCharsX f bs) (Spec.pChars f bs) := by
  intro f
  induction f with
  | zero => intro bs; exact Le.none _
  | succ f ih =>
    intro bs
    cases bs with
    | nil => exact Le.none _
    | cons b r =>
      simp only [pCharsX, Spec.pChars]
      by_cases h34 : b = 34
      · simp only [h34, ↓reduceIte]; exact Le.refl _
      · simp only [h34, ↓reduceIte]
        by_cases h92 : b = 92
        · simp only [h92, ↓reduceIte]
          cases r with
          | nil => exact Le.none _
          | cons e r' =>
            simp only
            by_cases h117 : e = 117
            · simp only [h117, ↓reduceIte]
              cases Spec.hex4 r' with
              | none => exact Le.none _
              | some p =>
                obtain ⟨u, r''⟩ := p
                simp only
                have plain : Le ((pCharsX f r'').map fun p => (Spec.utf8Enc u ++ p.1, p.2))
                    ((Spec.pChars f r'').map fun p => (Spec.utf8Enc u ++ p.1, p.2)) := (ih r'').map _
                by_cases hhi : 0xD800 ≤ u ∧ u < 0xDC00
                · by_cases hlow : lowEscHere r'' = true
                  · have hx : (0xD800 ≤ u ∧ u < 0xDC00) ∧ lowEscHere r'' = true := ⟨hhi, hlow⟩
                    simp only [hx, and_self, ↓reduceIte]; exact Le.none _
                  · have hx : ¬ ((0xD800 ≤ u ∧ u < 0xDC00) ∧ lowEscHere r'' = true) := fun h => hlow h.2
                    rw [if_neg hx]
                    simp only [hhi, and_self, ↓reduceIte]
                    -- the RFC reader finds no low surrogate escape either
                    split
                    · rename_i r3
                      simp only [lowEscHere] at hlow
                      cases hh2 : Spec.hex4 r3 with
                      | none => exact plain
                      | some q =>
                        simp only [hh2, decide_eq_true_eq] at hlow
                        simp only [hlow, ↓reduceIte]
                        exact plain
                    · exact plain
                · have hx : ¬ ((0xD800 ≤ u ∧ u < 0xDC00) ∧ lowEscHere r'' = true) := fun h => hhi h.1
                  rw [if_neg hx]
                  simp only [hhi, ↓reduceIte]; exact plain
            · simp only [h117, ↓reduceIte]
              cases Spec.escByte e with
              | none => exact Le.none _
              | some c => exact (ih r').map _
        · simp only [h92, ↓reduceIte]
          by_cases hlt : b < 32
          · simp only [hlt, ↓reduceIte]; exact Le.none _
          · simp only [hlt, ↓reduceIte]; exact (ih r).map _

/-- the relation "the same tree" -/
def TreeRel.eq : TreeRel where
  R a b := a = b
  Rb s t := s = t
  Ra a b := a = b
  Ro a b := a = b
  null := rfl
  bool _ := rfl
  str h := by subst h; rfl
  nil := rfl
  cons h1 h2 := by subst h1; subst h2; rfl
  arr h := by subst h; rfl
  empty := rfl
  insert hk hv ha := by subst hk; subst hv; subst ha; rfl
  obj h := by subst h; rfl

theorem Le.relRes {α : Type} {p q : Option (α × Bytes)} (h : Le p q) : RelRes True Eq p q := by
  cases p with
  | none => exact .refuse (Or.inl trivial)
  | some x => rw [h x rfl]; exact .both x.2 rfl

theorem pValueG_le (pc1 pc2 : Nat → Bytes → Option (Bytes × Bytes)) (nc : Bytes → JV)
    (hpc : ∀ f r, Le (pc1 f r) (pc2 f r)) :
    ∀ (f : Nat) (bs : Bytes), Le (pValueG pc1 nc f bs) (pValueG pc2 nc f bs) := by
  intro f bs x hx
  rcases pValueG_rel (lax := True) TreeRel.eq (fun r => (hpc r.length r).relRes) (nc1 := nc) (nc2 := nc)
      (fun _ _ _ _ => rfl) f bs with ⟨e1, _⟩ | ⟨v, w, rest, e1, e2, hvw⟩
  · rw [e1] at hx; cases hx
  · rw [e1] at hx; cases hx; rw [e2, ← hvw]

/-- the grammar over the refusing string reader, numbers kept as literals: one JSON text in which no
string holds a surrogate pair escape -/
def parseTextX (bs : Bytes) : Spec.Doc :=
  match Spec.skipWs bs with
  | [] => .none
  | b :: r =>
    match pValueG pCharsX JV.num (bs.length + 1) (b :: r) with
    | some (v, rest) => if (Spec.skipWs rest).isEmpty then .one v else .bad
    | none => .bad

theorem parseTextX_le {pc : Nat → Bytes → Option (Bytes × Bytes)} (hpc : ∀ f r, Le (pCharsX f r) (pc f r)) (bs : Bytes) :
    DocRel True Eq (parseTextX bs) (parseTextG pc JV.num bs) :=
  parseTextG_rel TreeRel.eq (fun r => (hpc r.length r).relRes) (fun _ _ _ _ => rfl) bs

/-- **Without a surrogate pair escape the machine's reading is the RFC's.** If the refusing grammar
denotes `v` for a text, so do the specification (`Spec.parseText`) and the grammar over the
machine's string reader (`parseTextS`). -/
theorem pairfree_tree (bs : Bytes) (v : JV) (h : parseTextX bs = .one v) :
    Spec.parseText bs = .one v ∧ parseTextS bs = .one v := by
  have h1 := parseTextX_le pCharsX_le_spec bs
  have h2 := parseTextX_le pCharsX_le_M bs
  rw [h] at h1 h2
  obtain ⟨w1, e1, rfl⟩ := h1.of_one
  obtain ⟨w2, e2, rfl⟩ := h2.of_one
  exact ⟨by rw [parseText_eq, e1], e2⟩

theorem pairfree_blank (bs : Bytes) (h : parseTextX bs = .none) :
    Spec.parseText bs = .none ∧ parseTextS bs = .none := by
  have h1 := parseTextX_le pCharsX_le_spec bs
  have h2 := parseTextX_le pCharsX_le_M bs
  rw [h] at h1 h2
  exact ⟨by rw [parseText_eq, h1.of_none], h2.of_none⟩

end OjgVerif.Json
