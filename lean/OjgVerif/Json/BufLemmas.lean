import OjgVerif.Json.BufNum
import OjgVerif.Props.C03
import OjgVerif.Json.BufModelV
/-! # The buffer loop against the byte machine: framework, delegated cases, whitespace skip

`IterOK` is what one iteration of `loopBuf` owes the byte machine: it consumes some bytes of the buffer
(at least one), the byte machine run over exactly those bytes ends in a related state (`Rel`: equal up to
dead fields and the integer-loop flag), or both fail with the same error. Every case of the three buffer
loops meets it through `iterOK_run` (`off` left on the last of `k` consumed bytes, a run of the byte
machine over them, related end states) or, where a value is completed, `iterOK_value`. -/
namespace OjgVerif.Json

theorem sliceOf_tail (buf : Bytes) (off : Nat) (h : off + 1 ≤ buf.length) :
    sliceOf buf (off + 1) buf.length = some (buf.drop (off + 1)) := by
  unfold sliceOf
  simp only [h, Nat.le_refl, and_self, ↓reduceIte, List.take_length]

theorem drop_of_getElem? (buf : Bytes) (off : Nat) (b : UInt8) (h : buf[off]? = some b) :
    buf.drop off = b :: buf.drop (off + 1) ∧ off < buf.length := by
  obtain ⟨hl, rfl⟩ := List.getElem?_eq_some_iff.mp h
  exact ⟨List.drop_eq_getElem_cons hl, hl⟩

theorem drop_add_length {buf : Bytes} {k : Nat} {pre rest : Bytes} (h : buf.drop k = pre ++ rest) (hk : k ≤ buf.length) :
    buf.drop (k + pre.length) = rest ∧ k + pre.length + rest.length = buf.length := by
  refine ⟨by rw [← List.drop_drop, h, List.drop_left], ?_⟩
  have := congrArg List.length h
  simp only [List.length_drop, List.length_append] at this
  omega

theorem drop_nil_of_le (buf : Bytes) (k : Nat) (h : buf.length ≤ k) : buf.drop k = [] :=
  List.drop_eq_nil_iff.mpr h

theorem drop_split (buf : Bytes) (k : Nat) (pre rest : Bytes) (h : buf.drop k = pre ++ rest) :
    buf.drop (k + pre.length) = rest ∧ k + pre.length + rest.length = buf.length ∨ (pre ++ rest = [] ) :=
  if hk : k ≤ buf.length then .inl (drop_add_length h hk)
  else .inr (h.symm.trans (drop_nil_of_le buf k (Nat.le_of_not_le hk)))

/-- what the Go range loop leaves in `i`, `b`: stale values on an empty slice; otherwise the slice
splits into a prefix whose bytes all pass, and the byte the variables rest on — the first that does
not pass, or the last byte of the slice -/
theorem rangeWhile_spec (p : UInt8 → Bool) (l : Bytes) (j : Nat) (acc : Nat × UInt8) :
    (l = [] ∧ rangeWhile p l j acc = acc) ∨
    ∃ pre c post, l = pre ++ c :: post ∧ (∀ x ∈ pre, p x = true) ∧
      rangeWhile p l j acc = (j + pre.length, c) ∧ (p c = false ∨ post = []) := by
  induction l generalizing j acc with
  | nil => exact Or.inl ⟨rfl, rfl⟩
  | cons c r ih =>
    right
    unfold rangeWhile
    by_cases hc : p c = true
    · simp only [hc, ↓reduceIte]
      rcases ih (j + 1) (j, c) with ⟨hr, he⟩ | ⟨pre, c', post, hl, hp, he, hq⟩
      · subst hr
        exact ⟨[], c, [], rfl, (by intro x hx; cases hx), by rw [he]; rfl, Or.inr rfl⟩
      · refine ⟨c :: pre, c', post, by rw [hl]; rfl, ?_, ?_, hq⟩
        · intro x hx
          rcases List.mem_cons.mp hx with h | h
          · rw [h]; exact hc
          · exact hp x h
        · rw [he]; simp only [List.length_cons]; congr 1; omega
    · have hc' : p c = false := by simpa using hc
      simp only [hc', Bool.false_eq_true, ↓reduceIte]
      exact ⟨[], c, r, rfl, (by intro x hx; cases hx), rfl, Or.inl hc'⟩

variable {T : Tables} (hT : TablesOK T) (cfg : Cfg)

theorem St.pos_add_zero (m : St) : ({ m with pos := m.pos + 0 } : St) = m := rfl

theorem step_skipChar (m : St) (c : UInt8) (h : T.act m.mode c = .skipChar) :
    step T cfg m c = .ok { m with pos := m.pos + 1, inFast := false } := by
  unfold step stepAct
  simp only [h]
  rfl

theorem wsRun (l : Bytes) : ∀ (m : St), (∀ c ∈ l, T.act m.mode c = .skipChar) → m.inFast = false →
    runBytes T cfg m l = .ok { m with pos := m.pos + l.length } := by
  induction l with
  | nil => intro m _ _; rfl
  | cons c r ih =>
    intro m hall hf
    unfold runBytes
    rw [step_skipChar cfg m c (hall c (List.mem_cons_self ..))]
    simp only
    refine (ih ({ m with pos := m.pos + 1, inFast := false } : St) (fun x hx => hall x (List.mem_cons_of_mem _ hx)) rfl).trans ?_
    rw [← hf, List.length_cons, Nat.add_comm r.length, ← Nat.add_assoc]

/-- buffer-model state `s` and byte-machine state `m` agree up to dead fields and the loop flag -/
structure Rel (s m : St) : Prop where
  nf : s.nf = m.nf
  flag : s.inFast = false
  ns : NmOK s
  nm : NmOK m

/-- while the byte machine is inside the integer loop, the next byte of the buffer is not a digit
(the explicit loop of the buffer model has consumed them all) -/
def Side (T : Tables) (buf : Bytes) (m : St) (off : Nat) : Prop :=
  m.inFast = true → ∀ c, buf[off]? = some c → T.act m.mode c ≠ .numDigit

theorem side_of_flag (T : Tables) (buf : Bytes) (m : St) (off : Nat) (h : m.inFast = false) : Side T buf m off := by
  intro hf; rw [h] at hf; cases hf

/-- what one iteration of the buffer loop owes the byte machine -/
def IterOK (T : Tables) (cfg : Cfg) (buf : Bytes) (m : St) (off : Nat) : Except Err (St × Nat × Nat) → Prop
  | .error e => runBytes T cfg m (buf.drop off) = .error e
  | .ok (s', off', _) => off < off' ∧ ∃ m', runBytes T cfg m (buf.drop off) = runBytes T cfg m' (buf.drop off') ∧
      Rel s' m' ∧ Side T buf m' off' ∧ (NumInv m → NumInv m')

theorem nf_fields {a b : St} (h : a.nf = b.nf) :
    a.mode = b.mode ∧ a.starts = b.starts ∧ a.stack = b.stack ∧ a.docs = b.docs ∧ a.num = b.num ∧
    a.line = b.line ∧ a.pos = b.pos ∧ a.nl = b.nl :=
  ⟨(congrArg St.mode h : a.nf.mode = b.nf.mode), (congrArg St.starts h : a.nf.starts = b.nf.starts),
   (congrArg St.stack h : a.nf.stack = b.nf.stack), (congrArg St.docs h : a.nf.docs = b.nf.docs),
   (congrArg St.num h : a.nf.num = b.nf.num), (congrArg St.line h : a.nf.line = b.nf.line),
   (congrArg St.pos h : a.nf.pos = b.nf.pos), (congrArg St.nl h : a.nf.nl = b.nf.nl)⟩

theorem nf_same_pos {a b : St} (h : a.nf = b.nf) : a.pos = b.pos := (nf_fields h).2.2.2.2.2.2.1

/-- Two states have the same normal form when they agree on the fields that are live in every mode and, in the
modes that use them, on the string fields, the counter and the rune. `rel_of_live` below is how the buffer-level
cases (`BufStr`, `BufLit`, `BufInt`) establish `Rel`: one hypothesis per field. -/
theorem nf_of_live {a b : St}
    (hs : usesStr a.mode = true → a.tmp = b.tmp ∧ a.nextMode = b.nextMode)
    (hr : usesRi a.mode = true → a.ri = b.ri) (hq : usesRn a.mode = true → a.rn = b.rn)
    (hm : a.mode = b.mode) (h1 : a.starts = b.starts) (h2 : a.stack = b.stack) (h3 : a.docs = b.docs)
    (h4 : a.num = b.num) (h5 : a.line = b.line) (h6 : a.pos = b.pos) (h7 : a.nl = b.nl) : a.nf = b.nf := by
  obtain ⟨am, anm, ast, ask, ado, atm, ari, arn, anu, ali, apo, anl, afa⟩ := a
  obtain ⟨bm, bnm, bst, bsk, bdo, btm, bri, brn, bnu, bli, bpo, bnl, bfa⟩ := b
  simp only at hs hr hq hm h1 h2 h3 h4 h5 h6 h7
  subst hm h1 h2 h3 h4 h5 h6 h7
  simp only [St.nf, St.clr, St.cn, St.mk.injEq, true_and, and_true]
  cases h8 : usesStr am <;> cases h9 : usesRi am <;> cases h10 : usesRn am <;>
    simp only [h8, h9, h10, cond_true, cond_false, true_implies] at hs hr hq ⊢ <;> simp only [hs, hr, hq, and_self]

theorem rel_of_live {a b : St}
    (hs : usesStr a.mode = true → a.tmp = b.tmp ∧ a.nextMode = b.nextMode)
    (hr : usesRi a.mode = true → a.ri = b.ri) (hq : usesRn a.mode = true → a.rn = b.rn)
    (hm : a.mode = b.mode) (h1 : a.starts = b.starts) (h2 : a.stack = b.stack) (h3 : a.docs = b.docs)
    (h4 : a.num = b.num) (h5 : a.line = b.line) (h6 : a.pos = b.pos) (h7 : a.nl = b.nl)
    (hf : a.inFast = false) (hna : NmOK a) (hnb : NmOK b) : Rel a b :=
  ⟨nf_of_live hs hr hq hm h1 h2 h3 h4 h5 h6 h7, hf, hna, hnb⟩

/-- `nf` keeps `pos` and forgets the flag -/
theorem nf_pos {a b : St} (h : a.nf = b.nf) (p : Nat) (f g : Bool) :
    ({ a with pos := p, inFast := f } : St).nf = ({ b with pos := p, inFast := g } : St).nf := by
  show ({ a.nf with pos := p } : St) = ({ b.nf with pos := p } : St)
  rw [h]

theorem iterBuf_eq_wrap (T : Tables) (cfg : Cfg) (fp : FP) (buf : Bytes) (s : St) (off i : Nat) (b : UInt8) :
    iterBuf T cfg fp buf s off i b = wrapIter T cfg buf off (caseBuf T cfg fp buf s off i b) := by
  unfold iterBuf wrapIter
  cases caseBuf T cfg fp buf s off i b <;> rfl

/-- an iteration that leaves `off` on the last of `k ≥ 1` consumed bytes (or, with stale loop variables,
anywhere at or behind the end of the buffer) owes a run of the byte machine over these `k` bytes that
ends related to its own state moved `k` positions on -/
theorem iterOK_run {buf : Bytes} {m m' s1 : St} {off k : Nat} {r : It}
    (hs1 : (if r.cont then r.s else deliver T cfg r.s) = s1)
    (hk : min (r.off + 1) buf.length = off + k) (hpos : 0 < k)
    (hrun : runBytes T cfg m (buf.drop off) = runBytes T cfg m' (buf.drop (off + k)))
    (hrel : Rel ({ s1 with pos := s1.pos + k } : St) m')
    (hside : Side T buf m' (off + k)) (hinv : NumInv m → NumInv m') :
    IterOK T cfg buf m off (wrapIter T cfg buf off (.ok r)) := by
  subst hs1
  have hd : buf.drop (r.off + 1) = buf.drop (off + k) ∧ buf[r.off + 1]? = buf[off + k]? := by
    rcases Nat.le_total (r.off + 1) buf.length with h | h
    · rw [Nat.min_eq_left h] at hk; rw [hk]; exact ⟨rfl, rfl⟩
    · rw [Nat.min_eq_right h] at hk
      rw [List.drop_eq_nil_iff.mpr h, List.drop_eq_nil_iff.mpr (by omega), List.getElem?_eq_none h,
        List.getElem?_eq_none (by omega)]
      exact ⟨rfl, rfl⟩
  simp only [wrapIter, IterOK, hk, Nat.add_sub_cancel_left]
  refine ⟨by omega, m', by rw [hd.1]; exact hrun, hrel, ?_, hinv⟩
  intro hf c hc
  exact hside hf c (hd.2 ▸ hc)

theorem iterOK_cont {buf : Bytes} {m m' s' : St} {off off' i' k : Nat}
    (hk : min (off' + 1) buf.length = off + k) (hpos : 0 < k)
    (hrun : runBytes T cfg m (buf.drop off) = runBytes T cfg m' (buf.drop (off + k)))
    (hrel : Rel ({ s' with pos := s'.pos + k } : St) m')
    (hside : Side T buf m' (off + k)) (hinv : NumInv m → NumInv m') :
    IterOK T cfg buf m off (wrapIter T cfg buf off (.ok ⟨s', off', i', true⟩)) :=
  iterOK_run cfg rfl hk hpos hrun hrel hside hinv

theorem iterOK_fall {buf : Bytes} {m m' s' : St} {off off' i' k : Nat} (hfin : T.fin s'.mode ≠ .a)
    (hk : min (off' + 1) buf.length = off + k) (hpos : 0 < k)
    (hrun : runBytes T cfg m (buf.drop off) = runBytes T cfg m' (buf.drop (off + k)))
    (hrel : Rel ({ s' with pos := s'.pos + k } : St) m')
    (hside : Side T buf m' (off + k)) (hinv : NumInv m → NumInv m') :
    IterOK T cfg buf m off (wrapIter T cfg buf off (.ok ⟨s', off', i', false⟩)) :=
  iterOK_run cfg (deliver_id_of T cfg s' hfin) hk hpos hrun hrel hside hinv

theorem St.add_cases (a : St) (v : JV) :
    (∃ st, addItem v a.stack = .ok st ∧ a.add v = .ok { a with stack := st }) ∨
    (∃ w, addItem v a.stack = .error w ∧ a.add v = .error (a.err (.fault w))) := by
  unfold St.add
  cases h : addItem v a.stack with
  | ok st => exact Or.inl ⟨st, rfl, rfl⟩
  | error w => exact Or.inr ⟨w, rfl, rfl⟩

theorem deliver_nf (T : Tables) (cfg : Cfg) {a b : St} (h : a.nf = b.nf) :
    (deliver T cfg a).nf = (deliver T cfg b).nf := by
  have h1 : (deliver T cfg a).nf = (deliver T cfg a.clr).cn := by
    rw [deliver_clr T cfg cfg rfl a]; rfl
  have h2 : (deliver T cfg b).nf = (deliver T cfg b.clr).cn := by
    rw [deliver_clr T cfg cfg rfl b]; rfl
  rw [h1, h2]
  exact deliver_cn_rel T cfg h

/-- the delivery test reads neither the offset nor the flag -/
theorem deliver_set (T : Tables) (cfg : Cfg) (a : St) (p : Nat) (f : Bool) :
    ({ deliver T cfg a with pos := p, inFast := f } : St) = deliver T cfg { a with pos := p, inFast := f } := by
  unfold deliver; split <;> rfl

theorem deliver_setpos (T : Tables) (cfg : Cfg) (a : St) (p : Nat) :
    ({ deliver T cfg a with pos := p } : St) = deliver T cfg { a with pos := p } := by
  unfold deliver; split <;> rfl

theorem rel_deliver (T : Tables) (cfg : Cfg) {a b : St} (h : Rel a b) : Rel (deliver T cfg a) (deliver T cfg b) :=
  ⟨deliver_nf T cfg h.nf, (deliver_flag T cfg a).trans h.flag, deliver_nm T cfg h.ns, deliver_nm T cfg h.nm⟩

theorem rel_setPos {a b : St} (h : Rel a b) (p : Nat) (g : Bool) :
    Rel ({ a with pos := p } : St) ({ b with pos := p, inFast := g } : St) :=
  ⟨nf_pos h.nf p a.inFast g, h.flag, h.ns, h.nm⟩

theorem add_sim {a b : St} (h : Rel a b) (v : JV) :
    (∃ st, a.add v = .ok { a with stack := st } ∧ b.add v = .ok { b with stack := st } ∧
      Rel ({ a with stack := st } : St) ({ b with stack := st } : St)) ∨
    (∃ e, a.add v = .error e ∧ b.add v = .error e) := by
  obtain ⟨-, -, hst, -, -, hl, hp, hn⟩ := nf_fields h.nf
  unfold St.add
  rw [hst]
  cases addItem v b.stack with
  | error w => exact Or.inr ⟨_, rfl, by simp only [St.err, hl, hp, hn]⟩
  | ok st =>
    refine Or.inl ⟨st, rfl, rfl, ?_, h.flag, h.ns, h.nm⟩
    show ({ a.nf with stack := st } : St) = { b.nf with stack := st }
    rw [h.nf]

/-- behind the delivery test related states stay related: the buffer model's, held at `p`, moved on by
the `k` bytes of the iteration, the byte machine's by its last byte -/
theorem rel_deliver_fwd (T : Tables) (cfg : Cfg) {a x : St} (h : Rel a x) (p k : Nat) (hp : x.pos + 1 = p + k) :
    Rel ({ deliver T cfg { a with pos := p } with pos := (deliver T cfg { a with pos := p }).pos + k } : St)
      ({ deliver T cfg x with pos := (deliver T cfg x).pos + 1, inFast := false } : St) := by
  rw [deliver_pos, deliver_setpos, deliver_pos, hp, deliver_set]
  exact rel_deliver T cfg (rel_setPos h (p + k) false)

/-- a value completed on the byte `K` positions behind `off`: buffer model and byte machine add it with
the position on that byte and deliver -/
theorem iterOK_value {buf : Bytes} {s m m1 : St} {off i' K : Nat} {v : JV} (hle : off + K + 1 ≤ buf.length)
    (hm1 : Rel ({ s with mode := .after, pos := s.pos + K } : St) m1)
    (hrun : runBytes T cfg m (buf.drop off) = match m1.add v with
      | .error e => .error e
      | .ok x => runBytes T cfg { deliver T cfg x with pos := (deliver T cfg x).pos + 1, inFast := false }
          (buf.drop (off + K + 1))) :
    IterOK T cfg buf m off (wrapIter T cfg buf off
      (match ({ s with mode := .after, pos := s.pos + K } : St).add v with
        | .error e => .error e
        | .ok s' => .ok ⟨{ s' with pos := s.pos }, off + K, i', false⟩)) := by
  have hmode : m1.mode = .after := (nf_fields hm1.nf).1.symm
  have hpos : m1.pos = s.pos + K := (nf_same_pos hm1.nf).symm
  rcases add_sim hm1 v with ⟨st, ha, hb, hr⟩ | ⟨e, ha, hb⟩ <;> rw [ha] <;> rw [hb] at hrun
  · exact iterOK_run cfg (s1 := deliver T cfg { s with mode := .after, pos := s.pos, stack := st }) rfl
      (k := K + 1) (by simp only; omega) (by omega) hrun
      (rel_deliver_fwd T cfg hr s.pos (K + 1) (by show m1.pos + 1 = _; omega)) (side_of_flag T buf _ _ rfl)
      (fun _ => numInv_same rfl rfl (deliver_numInv cfg _ (numInv_of_mode (s := { m1 with stack := st })
        (by show ¬ numMode m1.mode; rw [hmode]; rintro (h | h | h) <;> cases h))))
  · exact hrun

/-- A case that takes the byte machine's branch and then runs a skip loop: `off'`, `i'` are what the loop leaves
in the Go variables `off`, `i` (`off' = off`, `i' = i` without a loop). With the tail of the iteration this is one
step of the byte machine, integer loop off and flag cleared, continuing at `off' + 1`; `pos` moves on by the
`min (off' + 1) len - off - 1` skipped bytes, since `wrapIter` adds `min (off' + 1) len - off` where `step` adds 1. -/
theorem wrap_slow (buf : Bytes) (s : St) (off i off' i' : Nat) (b : UInt8) (hl : off < buf.length) (hle : off ≤ off') :
    wrapIter T cfg buf off (match caseSlow T cfg s off i b with
      | .error e => .error e
      | .ok r0 => .ok { r0 with off := off', i := i' }) =
    match clrR (step T cfg.slow s b) with
      | .error e => .error e
      | .ok x => .ok ({ x with pos := x.pos + (min (off' + 1) buf.length - off - 1) }, off' + 1, i') := by
  unfold caseSlow step
  cases stepAct T cfg.slow s b with
  | error e => rfl
  | ok p =>
    obtain ⟨s1, c⟩ := p
    have harith : ∀ p : Nat, p + (min (off' + 1) buf.length - off) = p + 1 + (min (off' + 1) buf.length - off - 1) := by
      intro p; omega
    cases c
    · simp only [wrapIter, clrR, Bool.false_eq_true, ↓reduceIte]
      have := deliver_clr T cfg.slow cfg rfl s1
      simp only [St.clr] at this
      rw [this]
      simp only [St.clr, harith]
    · simp only [wrapIter, clrR, ↓reduceIte, St.clr, harith]

theorem iter_slow_eq (fp : FP) (buf : Bytes) (s : St) (off i : Nat) (b : UInt8) (hl : off < buf.length)
    (hcase : caseBuf T cfg fp buf s off i b = caseSlow T cfg s off i b) :
    iterBuf T cfg fp buf s off i b =
      match clrR (step T cfg.slow s b) with
      | .error e => .error e
      | .ok x => .ok (x, off + 1, i) := by
  have hid : caseSlow T cfg s off i b = match caseSlow T cfg s off i b with
      | .error e => .error e
      | .ok r0 => .ok { r0 with off := off, i := i } := by
    unfold caseSlow; cases stepAct T cfg.slow s b <;> rfl
  rw [iterBuf_eq_wrap, hcase, hid, wrap_slow cfg buf s off i off i b hl (Nat.le_refl _),
    show min (off + 1) buf.length - off - 1 = 0 by omega]
  rfl

include hT in
theorem slow_sim (s m : St) (b : UInt8) (hrel : Rel s m)
    (hd : T.act m.mode b = .numDigit → m.inFast = false) (hv : T.act m.mode b = .valDigit → cfg.fastInt = false) :
    match clrR (step T cfg.slow s b), step T cfg m b with
    | .error e, .error e' => e = e'
    | .ok x, .ok m' => Rel x m' ∧ m'.inFast = false ∧ (NumInv m → NumInv m')
    | _, _ => False := by
  have hsr := slow_rel hT cfg s m b hrel.nf hrel.flag hrel.ns hrel.nm hd
  cases hs : step T cfg.slow s b <;> cases hm : step T cfg m b <;> rw [hs, hm] at hsr <;>
    simp only [nfR, clrR, Except.ok.injEq, Except.error.injEq, reduceCtorEq] at hsr ⊢
  · exact hsr
  · exact ⟨⟨hsr, rfl, NmOK_clr (step_nm T cfg.slow s _ b hs hrel.ns), step_nm T cfg m _ b hm hrel.nm⟩,
      step_inFast_false cfg m _ b hm hd hv, fun hi => step_numInv hT cfg m _ b hm hi hrel.nm⟩

theorem Side.digit_out {buf : Bytes} {m : St} {off : Nat} {b : UInt8} (hside : Side T buf m off)
    (hb : buf[off]? = some b) (h : T.act m.mode b = .numDigit) : m.inFast = false := by
  cases hf : m.inFast
  · rfl
  · exact absurd h (hside hf b hb)

include hT in
theorem iter_slow (fp : FP) (buf : Bytes) (s m : St) (off i : Nat) (b : UInt8) (hb : buf[off]? = some b)
    (hrel : Rel s m) (hside : Side T buf m off)
    (hcase : caseBuf T cfg fp buf s off i b = caseSlow T cfg s off i b)
    (hv : T.act m.mode b = .valDigit → cfg.fastInt = false) :
    IterOK T cfg buf m off (iterBuf T cfg fp buf s off i b) := by
  obtain ⟨hdrop, hl⟩ := drop_of_getElem? buf off b hb
  rw [iter_slow_eq cfg fp buf s off i b hl hcase]
  have h := slow_sim hT cfg s m b hrel (hside.digit_out hb) hv
  cases hs : clrR (step T cfg.slow s b) <;> cases hm : step T cfg m b <;> rw [hs, hm] at h <;>
    simp only [IterOK, hdrop, runBytes, hm]
  · rw [h]
  · exact h.elim
  · exact h.elim
  · exact ⟨Nat.lt_succ_self _, _, rfl, h.1, side_of_flag T buf _ _ h.2.1, h.2.2⟩

theorem St.add_inFast {s s' : St} {v : JV} (h : s.add v = .ok s') : s'.inFast = s.inFast := by
  obtain ⟨_, -, rfl⟩ := St.add_eq_ok h
  rfl

theorem set_inFast_false (s : St) (h : s.inFast = false) : ({ s with inFast := false } : St) = s :=
  clr_of_false s h

theorem ws_case (fp : FP) (hws : fp.ws = true) (buf : Bytes) (s : St) (off i : Nat) (b : UInt8)
    (hl : off < buf.length) (hflag : s.inFast = false)
    (hact : T.act s.mode b = .skipNewline ∨ T.act s.mode b = .numNewline) :
    caseBuf T cfg fp buf s off i b =
      match caseSlow T cfg s off i b with
      | .error e => .error e
      | .ok r0 =>
        let r := rangeWhile (fun c => T.act .space c = .skipChar) (buf.drop (off + 1)) 0 (i, b)
        .ok { r0 with off := off + r.1, i := r.1 } := by
  unfold caseBuf caseSlow stepAct
  rcases hact with hact | hact
  · simp only [hact, hws, ↓reduceIte, sliceOf_tail buf off hl]
    rw [hflag]
  · simp only [hact, hws, ↓reduceIte, sliceOf_tail buf off hl]
    cases ha : s.addNum with
    | error e => rfl
    | ok s' =>
      have hf : s'.inFast = false := by rw [St.add_inFast ha]; exact hflag
      simp only [bind, Except.bind, pure, Except.pure]
      rw [hf]

theorem ws_iter (fp : FP) (hws : fp.ws = true) (buf : Bytes) (s : St) (off i : Nat) (b : UInt8)
    (hl : off < buf.length) (hflag : s.inFast = false)
    (hact : T.act s.mode b = .skipNewline ∨ T.act s.mode b = .numNewline) :
    iterBuf T cfg fp buf s off i b =
      match clrR (step T cfg.slow s b) with
      | .error e => .error e
      | .ok x =>
        let r := rangeWhile (fun c => T.act .space c = .skipChar) (buf.drop (off + 1)) 0 (i, b)
        .ok ({ x with pos := x.pos + (min (off + r.1 + 1) buf.length - off - 1) }, off + r.1 + 1, r.1) := by
  rw [iterBuf_eq_wrap, ws_case cfg fp hws buf s off i b hl hflag hact]
  exact wrap_slow cfg buf s off i _ _ b hl (Nat.le_add_right _ _)

include hT in
theorem step_nl_mode (m m' : St) (b : UInt8) (h : step T cfg m b = .ok m')
    (hact : T.act m.mode b = .skipNewline ∨ T.act m.mode b = .numNewline) :
    expected m'.mode 10 = .skipNewline := by
  have hb : b = 10 := nl_is_10 m.mode b (by rw [← hT.act]; exact hact)
  unfold step stepAct at h
  rcases hact with hact | hact
  · simp only [hact, Except.ok.injEq] at h
    rw [← h]; simp only; rw [← hb, ← hT.act]; exact hact
  · simp only [hact] at h
    cases ha : m.addNum with
    | error e => rw [ha] at h; simp [bind, Except.bind] at h
    | ok s' =>
      rw [ha] at h
      simp only [bind, Except.bind, pure, Except.pure, Bool.false_eq_true, ↓reduceIte, Except.ok.injEq] at h
      rw [← h]
      unfold deliver
      simp only
      split
      · cases cfg.onlyOne <;> rfl
      · rfl

include hT in
theorem iter_ws (fp : FP) (hws : fp.ws = true) (buf : Bytes) (s m : St) (off i : Nat) (b : UInt8)
    (hb : buf[off]? = some b) (hrel : Rel s m)
    (hact : T.act s.mode b = .skipNewline ∨ T.act s.mode b = .numNewline) :
    IterOK T cfg buf m off (iterBuf T cfg fp buf s off i b) := by
  obtain ⟨hdrop, hl⟩ := drop_of_getElem? buf off b hb
  rw [ws_iter cfg fp hws buf s off i b hl hrel.flag hact]
  have hactm : T.act m.mode b = .skipNewline ∨ T.act m.mode b = .numNewline := (nf_fields hrel.nf).1 ▸ hact
  have h := slow_sim hT cfg s m b hrel (fun h => by rcases hactm with h' | h' <;> rw [h'] at h <;> cases h)
    (fun h => by rcases hactm with h' | h' <;> rw [h'] at h <;> cases h)
  cases hs : clrR (step T cfg.slow s b) <;> cases hm : step T cfg m b <;> rw [hs, hm] at h <;>
    simp only [IterOK, hdrop, runBytes, hm]
  · rw [h]
  · exact h.elim
  · exact h.elim
  · rename_i x m'
    obtain ⟨hxm, hm'f, hinv⟩ := h
    -- the bytes the skip loop passes are skipped by the byte machine in the mode behind the newline;
    -- on an empty rest `i` is stale and the buffer ends
    obtain ⟨pre, rest, R, hsl, hp, hR, hdr, hK⟩ : ∃ pre rest R, buf.drop (off + 1) = pre ++ rest ∧
        (∀ c ∈ pre, T.act .space c = .skipChar) ∧
        rangeWhile (fun c => decide (T.act .space c = .skipChar)) (buf.drop (off + 1)) 0 (i, b) = R ∧
        buf.drop (off + R.1 + 1) = rest ∧ min (off + R.1 + 1) buf.length = off + 1 + pre.length := by
      rcases rangeWhile_spec (fun c => decide (T.act .space c = .skipChar)) (buf.drop (off + 1)) 0 (i, b) with
        ⟨hnil, he⟩ | ⟨pre, c, post, hsl, hp, he, _⟩
      · have := List.drop_eq_nil_iff.mp hnil
        exact ⟨[], [], _, hnil, nofun, he, List.drop_eq_nil_iff.mpr (by simp only; omega),
          by simp only [List.length_nil]; omega⟩
      · obtain ⟨hd2, hlen⟩ := drop_add_length hsl (by omega)
        simp only [List.length_cons] at hlen
        exact ⟨pre, c :: post, _, hsl, fun x hx => by simpa using hp x hx, he,
          by rw [← hd2]; congr 1; simp only; omega, by simp only; omega⟩
    rw [hR]
    have hall : ∀ c ∈ pre, T.act m'.mode c = .skipChar := fun c hc => by
      have h1 := hp c hc
      rw [hT.act] at h1 ⊢
      exact ws_mode_fact m'.mode c (step_nl_mode hT cfg m m' b hm hactm) h1
    refine ⟨by omega, { m' with pos := m'.pos + pre.length }, ?_, ⟨?_, hxm.flag, hxm.ns, hxm.nm⟩,
      fun hf => (by rw [hm'f] at hf; cases hf), fun hi => numInv_same rfl rfl (hinv hi)⟩
    · rw [hsl, C03.runBytes_append, wsRun cfg pre m' hall hm'f, hdr]
    · rw [hK, show off + 1 + pre.length - off - 1 = pre.length by omega, nf_same_pos hxm.nf]
      exact nf_pos hxm.nf _ _ _

end OjgVerif.Json
