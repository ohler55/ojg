import OjgVerif.Json.Machine
/-! # The action switch in one equation

Of all a branch of `stepAct` does, only the calls of `add` (through `St.add`, `St.flushNum`, `St.popObj`,
`St.popArr`, `stepToken`) can fail, and they are also all that touches the build stack. So the outcome of the
switch is a function on the build stack (`Act.build`: the new stack, or the kind of error) beside a plain
record update of the other fields (`Act.upd`) and the `continue` flag (`Act.cont`): `stepAct_eq`, for every
table set. Invariants, projections and simulations of one byte are read off this equation, arm by arm of
`Act.build` and `Act.upd`. A proof about one action at a time (the per-action steps of the buffer chain,
`stepAct_eq_ref`) unfolds that action's arm of `stepAct` itself. -/
namespace OjgVerif.Json

/-- the literal whose letters are `tokenOk` in a mode table (the three tests of `stepToken`): its text,
its value and the error kind of a wrong letter -/
def tokLit (T : Tables) (m : Mode) : Option (Bytes × JV × ErrKind) :=
  if T.act m 114 = .tokenOk then some ([116, 114, 117, 101], .bool true, .expTrue)
  else if T.act m 97 = .tokenOk then some ([102, 97, 108, 115, 101], .bool false, .expFalse)
  else if T.act m 117 = .tokenOk && T.act m 108 = .tokenOk then some ([110, 117, 108, 108], .null, .expNull)
  else none

theorem stepToken_eq (T : Tables) (s : St) (b : UInt8) :
    stepToken T s b = match tokLit T s.mode with
      | none => .ok s
      | some (lit, v, k) =>
        if lit.getD (s.ri + 1) 0 = b then
          if lit.length - 1 ≤ s.ri + 1 then ({ s with ri := s.ri + 1, mode := .after } : St).add v
          else .ok { s with ri := s.ri + 1 }
        else .error (s.err k) := by
  unfold stepToken tokLit
  by_cases h1 : T.act s.mode 114 = .tokenOk
  · simp only [h1, ↓reduceIte]; rfl
  by_cases h2 : T.act s.mode 97 = .tokenOk
  · simp only [h1, h2, ↓reduceIte]; rfl
  cases h3 : (decide (T.act s.mode 117 = .tokenOk) && decide (T.act s.mode 108 = .tokenOk)) <;>
    simp only [h1, h2, ↓reduceIte, Bool.false_eq_true] <;> rfl

/-- `add` on the build stack alone; the nil-map write is an error kind -/
def addK (v : JV) (st : List Item) : Except ErrKind (List Item) :=
  match addItem v st with
  | .ok st' => .ok st'
  | .error w => .error (.fault w)

/-- `St.flushNum` on the build stack -/
def flushK (T : Tables) (s : St) : Except ErrKind (List Item) :=
  if T.fin s.mode = .n then addK s.num.asNum.toJV s.stack else .ok s.stack

/-- `St.popObj` on the build stack -/
def popObjK : List Item → Except ErrKind (List Item)
  | [] => .error (.fault "index out of range")
  | top :: below => addK top.toJV below

/-- `St.popArr` on the build stack -/
def popArrK (st : List Item) : Except ErrKind (List Item) :=
  match splitAtMark st [] with
  | none => .error (.fault "slice bounds out of range")
  | some (elems, below) => addK (.arr elems) below

/-- What an action does to the build stack, or the kind of error it stops with. Nothing else in the switch
can fail, and nothing else touches the stack. -/
def Act.build (T : Tables) (a : Act) (b : UInt8) (s : St) : Except ErrKind (List Item) :=
  match a with
  | .numSpc | .numNewline => addK s.num.asNum.toJV s.stack
  | .numComma =>
    match addK s.num.asNum.toJV s.stack with
    | .error k => .error k
    | .ok st => match s.starts with
      | [] => .error .comma
      | _ :: _ => .ok st
  | .strQuote =>
    if T.act s.nextMode 58 = .colonColon then .ok (.key s.tmp.reverse :: s.stack)
    else addK (.str s.tmp.reverse) s.stack
  | .openObject => .ok (.obj [] :: s.stack)
  | .openArray => .ok (.arrMark :: s.stack)
  | .closeObject =>
    match s.starts with
    | false :: _ =>
      if T.fin s.mode = .v then .error .objClose
      else match flushK T s with
        | .error k => .error k
        | .ok st => popObjK st
    | _ => .error .objClose
  | .closeArray =>
    match s.starts with
    | true :: _ =>
      match flushK T s with
      | .error k => .error k
      | .ok st => popArrK st
    | _ => .error .arrClose
  | .tokenOk =>
    match tokLit T s.mode with
    | none => .ok s.stack
    | some (lit, v, k) =>
      if lit.getD (s.ri + 1) 0 = b then
        if lit.length - 1 ≤ s.ri + 1 then addK v s.stack else .ok s.stack
      else .error k
  | .charErr =>
    .error (match s.mode with
      | .null => .expNull
      | .true_ => .expTrue
      | .false_ => .expFalse
      | _ => .byte)
  | _ => .ok s.stack

/-- What a successful action does to the other fields, `st` being the new build stack: a record update. -/
def Act.upd (T : Tables) (cfg : Cfg) (a : Act) (b : UInt8) (s : St) (st : List Item) : St :=
  match a with
  | .skipNewline => { s with stack := st, line := s.line + 1, nl := s.pos }
  | .colonColon => { s with stack := st, mode := .value }
  | .skipChar | .unknown | .charErr => { s with stack := st }
  | .strOk => { s with stack := st, tmp := b :: s.tmp }
  | .keyQuote => { s with stack := st, tmp := [], mode := .string, nextMode := .colon }
  | .afterComma | .numComma => { s with stack := st, mode := afterCommaMode s }
  | .valQuote => { s with stack := st, tmp := [], mode := .string, nextMode := .after }
  | .strSlash => { s with stack := st, mode := .esc }
  | .escOk => { s with stack := st, tmp := T.escByte b :: s.tmp, mode := .string }
  | .openObject => { s with stack := st, starts := false :: s.starts, mode := .key1 }
  | .closeObject | .closeArray => { s with stack := st, starts := s.starts.tail, mode := .after }
  | .val0 => { s with stack := st, mode := .zero, num := s.num.reset }
  | .valDigit =>
    { s with stack := st, mode := .digit, num := { s.num.reset with i := (b - 48).toUInt64 }, inFast := cfg.fastInt }
  | .valNeg => { s with stack := st, mode := .neg, num := { s.num.reset with neg := true } }
  | .escU => { s with stack := st, mode := .u, rn := 0, ri := 0 }
  | .openArray => { s with stack := st, starts := true :: s.starts, mode := .value }
  | .valNull => { s with stack := st, mode := .null, ri := 0 }
  | .valTrue => { s with stack := st, mode := .true_, ri := 0 }
  | .valFalse => { s with stack := st, mode := .false_, ri := 0 }
  | .numDot =>
    { s with stack := st, mode := .dot,
             num := if 0 < s.num.big.length then { s.num with big := s.num.big ++ [b] } else s.num }
  | .numFrac => { s with stack := st, num := s.num.addFrac b, mode := .frac }
  | .fracE =>
    { s with stack := st, mode := .expSign,
             num := if 0 < s.num.big.length then { s.num with big := s.num.big ++ [b] } else s.num }
  | .strQuote => { s with stack := st, mode := s.nextMode }
  | .numZero => { s with stack := st, mode := .zero }
  | .numDigit =>
    { s with
      stack := st,
      num := if s.inFast then
               (if BigLimit ≤ s.num.i then s.num.fillBig.addDigit b
                else { s.num with i := s.num.i * 10 + (b - 48).toUInt64 })
             else s.num.addDigit b,
      inFast := s.inFast && !(BigLimit ≤ s.num.i) }
  | .negDigit => { s with stack := st, num := s.num.addDigit b, mode := .digit }
  | .numSpc => { s with stack := st, mode := .after }
  | .numNewline => { s with stack := st, line := s.line + 1, nl := s.pos, mode := .after }
  | .expSign =>
    { s with stack := st, mode := .expZero,
             num := { s.num with big := if 0 < s.num.big.length then s.num.big ++ [b] else s.num.big,
                                 negExp := s.num.negExp || b = 45 } }
  | .expDigit => { s with stack := st, num := s.num.addExp b, mode := .exp }
  | .uOk =>
    { s with stack := st, ri := s.ri + 1, rn := s.rn * 16 + hexDigitVal b,
             tmp := if s.ri + 1 = 4 then (utf8Enc (s.rn * 16 + hexDigitVal b)).reverse ++ s.tmp else s.tmp,
             mode := if s.ri + 1 = 4 then .string else s.mode }
  | .tokenOk =>
    match tokLit T s.mode with
    | none => { s with stack := st }
    | some (lit, _, _) =>
      { s with stack := st, ri := s.ri + 1, mode := if lit.length - 1 ≤ s.ri + 1 then .after else s.mode }

/-- the `continue` flag of a successful action; `numDot` alone reads the state -/
def Act.cont (a : Act) (s : St) : Bool :=
  match a with
  | .numDot => decide (0 < s.num.big.length)
  | .skipNewline | .colonColon | .skipChar | .keyQuote | .afterComma | .valQuote | .strSlash | .escOk
  | .openObject | .valNeg | .escU | .openArray | .fracE | .expSign | .uOk => true
  | _ => false

theorem St.add_eq (s : St) (v : JV) :
    s.add v = match addK v s.stack with
      | .ok st => .ok { s with stack := st }
      | .error k => .error (s.err k) := by
  unfold St.add addK
  cases addItem v s.stack <;> rfl

theorem St.add_eq_ok {s s' : St} {v : JV} (h : s.add v = .ok s') :
    ∃ st, addItem v s.stack = .ok st ∧ s' = { s with stack := st } := by
  unfold St.add at h
  split at h
  · cases h; exact ⟨_, ‹_›, rfl⟩
  · cases h

theorem St.add_eq_error {s : St} {v : JV} {e : Err} (h : s.add v = .error e) :
    ∃ w, addItem v s.stack = .error w ∧ e = s.err (.fault w) := by
  unfold St.add at h
  split at h
  · cases h
  · cases h; exact ⟨_, ‹_›, rfl⟩

theorem St.flushNum_eq (T : Tables) (s : St) :
    s.flushNum T = match flushK T s with
      | .ok st => .ok { s with stack := st }
      | .error k => .error (s.err k) := by
  unfold St.flushNum flushK
  split
  · exact St.add_eq s _
  · rfl

theorem St.popObj_eq (s : St) (rest : List Bool) :
    s.popObj rest = match popObjK s.stack with
      | .ok st => .ok { s with starts := rest, stack := st }
      | .error k => .error (s.err k) := by
  unfold St.popObj popObjK
  cases s.stack with
  | nil => rfl
  | cons top below => exact St.add_eq _ _

theorem St.popArr_eq (s : St) (rest : List Bool) :
    s.popArr rest = match popArrK s.stack with
      | .ok st => .ok { s with starts := rest, stack := st }
      | .error k => .error (s.err k) := by
  unfold St.popArr popArrK
  cases splitAtMark s.stack [] with
  | none => rfl
  | some p => exact St.add_eq _ _

/-- **The action switch in one equation**, for every table set: the effect on the build stack, which alone
can fail and raises its error at the position of the state the byte is read in, beside a record update. -/
theorem stepAct_eq (T : Tables) (cfg : Cfg) (s : St) (b : UInt8) :
    stepAct T cfg s b =
      match (T.act s.mode b).build T b s with
      | .error k => .error (s.err k)
      | .ok st => .ok ((T.act s.mode b).upd T cfg b s st, (T.act s.mode b).cont s) := by
  unfold stepAct
  cases T.act s.mode b <;> simp only [Act.build, Act.upd, Act.cont]
  case numComma =>
    -- `St` is taken apart by position here and in BufSim, BufLemmas, BufStr, BufLit, Erase
    -- (`erase_eq_of`) and Reuse/Lemmas: 13 fields in the order of `structure St`; a new field changes all of them
    obtain ⟨m, nm, ss, sk, ds, tmp, ri, rn, num, ln, pos, nl, fast⟩ := s
    simp only [St.addNum, St.add_eq, bind, Except.bind]
    cases addK num.asNum.toJV sk with
    | error k => rfl
    | ok st => cases ss <;> rfl
  case numSpc | numNewline =>
    simp only [St.addNum, St.add_eq, bind, Except.bind]
    cases addK s.num.asNum.toJV s.stack <;> rfl
  case strQuote =>
    split
    · rfl
    · simp only [St.add_eq, bind, Except.bind]
      cases addK (.str s.tmp.reverse) s.stack <;> rfl
  case tokenOk =>
    rw [stepToken_eq]
    cases tokLit T s.mode with
    | none => rfl
    | some p =>
      obtain ⟨lit, v, k⟩ := p
      simp only []
      split
      · split
        · simp only [St.add_eq, bind, Except.bind]
          cases addK v s.stack <;> rfl
        · rfl
      · rfl
  case closeObject =>
    rcases s.starts with _ | ⟨_ | _, rest⟩ <;> try rfl
    simp only []
    split
    · rfl
    · simp only [St.flushNum_eq, St.popObj_eq, bind, Except.bind]
      cases flushK T s with
      | error k => rfl
      | ok st => simp only []; cases popObjK st <;> rfl
  case closeArray =>
    rcases s.starts with _ | ⟨_ | _, rest⟩ <;> try rfl
    simp only [St.flushNum_eq, St.popArr_eq, bind, Except.bind]
    cases flushK T s with
    | error k => rfl
    | ok st => simp only []; cases popArrK st <;> rfl
  all_goals rfl

theorem stepAct_of_act {T : Tables} {s : St} {b : UInt8} {a : Act} (h : T.act s.mode b = a) (cfg : Cfg) :
    stepAct T cfg s b =
      match a.build T b s with
      | .error k => .error (s.err k)
      | .ok st => .ok (a.upd T cfg b s st, a.cont s) :=
  h ▸ stepAct_eq T cfg s b

/-- the two digit actions, after which the fast-loop flag survives the step -/
def Act.inLoop : Act → Bool
  | .numDigit | .valDigit => true
  | _ => false

/-- what `step` does with the state `x` and the flag `c` the switch leaves for the action `a`: the delivery
test, the fast-loop flag, the offset -/
def Act.settle (T : Tables) (cfg : Cfg) (a : Act) (x : St) (c : Bool) : St :=
  let y := if c then x else deliver T cfg x
  { y with pos := y.pos + 1, inFast := a.inLoop && y.inFast }

theorem step_settle (T : Tables) (cfg : Cfg) (s : St) (b : UInt8) :
    step T cfg s b =
      match stepAct T cfg s b with
      | .error e => .error e
      | .ok (s1, c) => .ok ((T.act s.mode b).settle T cfg s1 c) := by
  unfold step
  cases stepAct T cfg s b with
  | error e => rfl
  | ok p => cases T.act s.mode b <;> rfl

theorem step_ok {T : Tables} {cfg : Cfg} {s s' : St} {b : UInt8} (h : step T cfg s b = .ok s') :
    ∃ s1 c, stepAct T cfg s b = .ok (s1, c) ∧ s' = (T.act s.mode b).settle T cfg s1 c := by
  rw [step_settle] at h
  cases hst : stepAct T cfg s b with
  | error e => rw [hst] at h; cases h
  | ok p => rw [hst] at h; cases h; exact ⟨p.1, p.2, rfl, rfl⟩

theorem step_error {T : Tables} {cfg : Cfg} {s : St} {b : UInt8} {e : Err} (h : step T cfg s b = .error e) :
    stepAct T cfg s b = .error e := by
  rw [step_settle] at h
  cases hst : stepAct T cfg s b with
  | error e' => rw [hst] at h; cases h; rfl
  | ok p => rw [hst] at h; cases h

theorem step_eq (T : Tables) (cfg : Cfg) (s : St) (b : UInt8) :
    step T cfg s b =
      match (T.act s.mode b).build T b s with
      | .error k => .error (s.err k)
      | .ok st =>
        .ok ((T.act s.mode b).settle T cfg ((T.act s.mode b).upd T cfg b s st) ((T.act s.mode b).cont s)) := by
  rw [step_settle, stepAct_eq]
  cases (T.act s.mode b).build T b s <;> rfl

theorem step_of_act {T : Tables} {s : St} {b : UInt8} {a : Act} (h : T.act s.mode b = a) (cfg : Cfg) :
    step T cfg s b =
      match a.build T b s with
      | .error k => .error (s.err k)
      | .ok st => .ok (a.settle T cfg (a.upd T cfg b s st) (a.cont s)) :=
  h ▸ step_eq T cfg s b

/-- the delivery test writes `docs`, `stack` and `mode`; what it leaves is read off this equation -/
theorem deliver_frame (T : Tables) (cfg : Cfg) (s : St) :
    deliver T cfg s =
      { s with docs := (deliver T cfg s).docs, stack := (deliver T cfg s).stack, mode := (deliver T cfg s).mode } := by
  unfold deliver; split <;> rfl

theorem deliver_flag (T : Tables) (cfg : Cfg) (a : St) : (deliver T cfg a).inFast = a.inFast := by
  rw [deliver_frame]

theorem deliver_pos (T : Tables) (cfg : Cfg) (a : St) : (deliver T cfg a).pos = a.pos := by
  rw [deliver_frame]

theorem deliver_nextMode (T : Tables) (cfg : Cfg) (s : St) : (deliver T cfg s).nextMode = s.nextMode := by
  rw [deliver_frame]

theorem deliver_id_of (T : Tables) (cfg : Cfg) (s : St) (h : T.fin s.mode ≠ .a) : deliver T cfg s = s := by
  unfold deliver; simp [h]

/-- the delivery test reads neither the offset nor the flag: it may as well come last -/
theorem Act.settle_false (T : Tables) (cfg : Cfg) (a : Act) (x : St) :
    a.settle T cfg x false = deliver T cfg (a.settle T cfg x true) := by
  unfold Act.settle deliver
  simp only [Bool.false_eq_true, ↓reduceIte]
  split <;> rfl

theorem Act.settle_inFast (T : Tables) (cfg : Cfg) (a : Act) (x : St) (c : Bool) :
    (a.settle T cfg x c).inFast = (a.inLoop && x.inFast) := by
  cases c
  · exact congrArg (a.inLoop && ·) (deliver_flag T cfg x)
  · rfl

theorem step_inFast_false {T : Tables} (cfg : Cfg) (m m' : St) (b : UInt8) (h : step T cfg m b = .ok m')
    (hd : T.act m.mode b = .numDigit → m.inFast = false)
    (hv : T.act m.mode b = .valDigit → cfg.fastInt = false) : m'.inFast = false := by
  rw [step_eq] at h
  split at h <;> cases h
  rw [Act.settle_inFast]
  cases hact : T.act m.mode b
  case numDigit => simp only [Act.upd, hd hact, Bool.false_and, Bool.and_false]
  case valDigit => simp only [Act.upd, hv hact, Bool.and_false]
  all_goals rfl

end OjgVerif.Json
