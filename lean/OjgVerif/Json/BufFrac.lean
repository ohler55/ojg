import OjgVerif.Json.BufInt
/-! # The fraction loop of `numDot` against the byte machine -/
namespace OjgVerif.Json

variable {T : Tables} (hT : TablesOK T) (cfg : Cfg)

/-- the accumulator is not in text form and the fraction digits read so far are below `Div` -/
def FracOK (n : Num) : Prop := n.big = [] ∧ n.frac.toNat < n.div.toNat

/-- below the limit the loop's own arithmetic is `AddFrac` -/
theorem fast_frac_eq (n : Num) (c : UInt8) (hok : FracOK n) (hlim : ¬ BigLimit < n.div) (hc : isDigitB c) :
    n.addFrac c = { n with frac := n.frac * 10 + (c - 48).toUInt64, div := n.div * 10 } ∧
    FracOK { n with frac := n.frac * 10 + (c - 48).toUInt64, div := n.div * 10 } ∧
    n.div * 10 ≠ 1 := by
  obtain ⟨hbig, hlt⟩ := hok
  have hd : dval c ≤ 9 := by unfold dval; have := hc.2; omega
  have hBL : BigLimit.toNat = 922337203685477580 := rfl
  have hdiv : n.div.toNat ≤ 922337203685477580 := by
    rw [UInt64.lt_iff_toNat_lt] at hlim; omega
  have hdle : n.div ≤ BigLimit := by rw [UInt64.le_iff_toNat_le]; omega
  have hfle : n.frac ≤ BigLimit := by rw [UInt64.le_iff_toNat_le]; omega
  have h10 : (10 : UInt64).toNat = 10 := rfl
  have hfv : (n.frac * 10 + (c - 48).toUInt64).toNat = n.frac.toNat * 10 + dval c := by
    simp only [UInt64.toNat_add, UInt64.toNat_mul, digit_toUInt64 c hc, h10]; omega
  have hdv : (n.div * 10).toNat = n.div.toNat * 10 := by
    simp only [UInt64.toNat_mul, h10]; omega
  have hmax : ¬ MaxInt64 < n.frac * 10 + (c - 48).toUInt64 := by
    rw [UInt64.lt_iff_toNat_lt, hfv]
    have hm : MaxInt64.toNat = 9223372036854775807 := rfl
    omega
  refine ⟨?_, ⟨hbig, ?_⟩, ?_⟩
  · unfold Num.addFrac
    simp only [hbig, List.length_nil, Nat.lt_irrefl, ↓reduceIte, hfle, hdle, decide_true, Bool.and_self, hmax]
  · show (n.frac * 10 + (c - 48).toUInt64).toNat < (n.div * 10).toNat
    rw [hfv, hdv]; omega
  · intro h1
    have := congrArg UInt64.toNat h1
    rw [hdv] at this
    have h1' : (1 : UInt64).toNat = 1 := rfl
    omega

theorem addFrac_at_limit (n : Num) (c : UInt8) (hbig : n.big = []) (hlim : BigLimit < n.div) :
    (n.addFrac c).div = n.div ∧ (n.addFrac c).big ≠ [] := by
  have hnd : ¬ n.div ≤ BigLimit := by
    rw [UInt64.lt_iff_toNat_lt] at hlim; rw [UInt64.le_iff_toNat_le]; omega
  unfold Num.addFrac
  simp only [hbig, List.length_nil, Nat.lt_irrefl, ↓reduceIte, hnd, decide_false, Bool.and_false, Bool.false_eq_true]
  refine ⟨?_, by simp⟩
  unfold Num.fillBig; rfl

include hT in
theorem step_numFrac (m : St) (c : UInt8) (h : T.act m.mode c = .numFrac) :
    step T cfg m c = .ok { m with num := m.num.addFrac c, mode := .frac, pos := m.pos + 1, inFast := false } := by
  unfold step stepAct
  simp only [h, Bool.false_eq_true, ↓reduceIte]
  rw [deliver_id_ok hT cfg _ (by simp only; decide)]

include hT in
theorem step_numDot (m : St) (b : UInt8) (h : T.act m.mode b = .numDot) (hbig : m.num.big = []) :
    step T cfg m b = .ok { m with mode := .dot, pos := m.pos + 1, inFast := false } := by
  unfold step stepAct
  simp only [h, hbig, List.length_nil, Nat.lt_irrefl, ↓reduceIte, decide_false, Bool.false_eq_true]
  rw [deliver_id_ok hT cfg _ (by simp only; decide)]

include hT in
theorem iter_frac (fp : FP) (hfrac : fp.frac = true) (buf : Bytes) (s m : St)
    (off i : Nat) (b : UInt8) (hb : buf[off]? = some b) (hrel : Rel s m) (hside : Side T buf m off)
    (hinv : NumInv m) (hact : T.act s.mode b = .numDot) :
    IterOK T cfg buf m off (iterBuf T cfg fp buf s off i b) := by
  obtain ⟨hdrop, hl⟩ := drop_of_getElem? buf off b hb
  obtain ⟨emode, -, -, -, enum, -, epos, -⟩ := nf_fields hrel.nf
  have hactm : T.act m.mode b = .numDot := by rw [← emode]; exact hact
  by_cases hbig : 0 < s.num.big.length
  · -- already in text form: the byte machine's branch (`continue`)
    refine iter_slow hT cfg fp buf s m off i b hb hrel hside ?_ (by intro h; rw [hactm] at h; cases h)
    unfold caseBuf caseSlow stepAct
    simp only [hact, hfrac, ↓reduceIte, hbig, decide_true]
    rw [hrel.flag]
  · have hb0 : m.num.big = [] := by
      rw [← enum]
      cases hx : s.num.big with
      | nil => rfl
      | cons x xs => rw [hx] at hbig; simp at hbig
    have hmm : m.mode = .zero ∨ m.mode = .digit := by
      have h' : expected m.mode b = .numDot := hT.act m.mode b ▸ hactm
      simpa [srcModes] using act_src h'
    have hfd := hinv (by rcases hmm with h | h <;> simp [numMode, h]) hb0
    have hok : FracOK m.num := by
      refine ⟨hb0, ?_⟩
      rw [hfd.1, hfd.2]; decide
    have hfinD : T.fin .dot ≠ .a := fin_ne_a hT (by decide)
    have hfinF : T.fin .frac ≠ .a := fin_ne_a hT (by decide)
    rw [iterBuf_eq_wrap]
    unfold caseBuf
    simp only [hact, hfrac, ↓reduceIte, show ¬ (0 < s.num.big.length) from hbig, sliceOf_tail buf off hl]
    rw [enum]
    -- the machine is in `dot` mode until the first digit, in `frac` mode behind it: `Div = 1` tells which
    let Inv (k : Nat) (x : Num) (m' : St) : Prop :=
      m' = { m with mode := if x.div = 1 then .dot else .frac, num := x, pos := m.pos + 1 + k, inFast := false } ∧ FracOK x
    let Out (k : Nat) (x : Num) (m' : St) : Prop :=
      m' = { m with mode := if x.div = 1 then .dot else .frac, num := x, pos := m.pos + 1 + k, inFast := false }
    have hnum : ∀ (x : Num) (c : UInt8), T.act .digit c = .numDigit →
        T.act (if x.div = 1 then Mode.dot else Mode.frac) c = .numFrac := by
      intro x c hd
      have hfr := digit_frac_facts c (by rw [← hT.act]; exact hd)
      rw [hT.act]
      split
      · exact hfr.1
      · exact hfr.2
    have hnot : ∀ x : Num, ¬ numMode (if x.div = 1 then Mode.dot else Mode.frac) := by
      intro x; split <;> rintro (h | h | h) <;> cases h
    refine iterOK_num cfg hb hrel (step_numDot hT cfg m b hactm hb0) (M := fun x => if x.div = 1 then .dot else .frac)
      (fun x => by split <;> exact ⟨rfl, rfl, rfl, ‹_›⟩) (by split <;> rfl)
      (digit_scan cfg (L := fracLoop T) (brk := fun n _ => BigLimit < n.div) (stop := fun n c => n.addFrac c)
        (go := fun n c => { n with frac := n.frac * 10 + (c - 48).toUInt64, div := n.div * 10 }) (Inv := Inv) (Out := Out)
        (fun _ _ _ => rfl) (fun c r j n acc _ _ _ => by rw [fracLoop])
        (fun k x m1 c hi hd hb => by
          obtain ⟨rfl, hk⟩ := hi
          obtain ⟨heq, hok', hne1⟩ := fast_frac_eq x c hk hb (numDigit_isDigit .digit c (by rw [← hT.act]; exact hd))
          exact ⟨_, step_numFrac hT cfg _ c (hnum x c hd), by simp only [heq, hne1, ↓reduceIte, Nat.add_assoc], hok'⟩)
        (fun k x m1 c hi hd hb => by
          obtain ⟨rfl, hk⟩ := hi
          have hdiv : (x.addFrac c).div ≠ 1 := by
            rw [(addFrac_at_limit x c hk.1 hb).1]
            intro h1; rw [h1] at hb; exact absurd hb (by decide)
          exact ⟨_, step_numFrac hT cfg _ c (hnum x c hd), by show _ = _; simp only [hdiv, ↓reduceIte, Nat.add_assoc]⟩)
        _ 0 _ (i, b) 0 _ ⟨by rw [if_pos hfd.2], hok⟩)
      (fun k x m' hi => by obtain ⟨rfl, -⟩ := hi; exact ⟨rfl, numInv_of_mode (hnot x), nofun⟩)
      (fun k x m' ho => by obtain rfl := ho; exact ⟨rfl, numInv_of_mode (hnot x)⟩)

end OjgVerif.Json
