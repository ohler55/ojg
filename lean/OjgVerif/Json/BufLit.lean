import OjgVerif.Json.BufStr
/-! # The literal look-ahead of `valNull` / `valTrue` / `valFalse` against the byte machine -/
namespace OjgVerif.Json

variable {T : Tables} (hT : TablesOK T) (cfg : Cfg)

/-- what the byte machine does with the letters of the literal `lit` in its mode `M` -/
structure BLit (T : Tables) (M : Mode) (lit : Bytes) (v : JV) (k : ErrKind) : Prop where
  sel : tokLit T M = some (lit, v, k)
  fin : T.fin M ≠ .a
  tok : ∀ c ∈ lit.tail, T.act M c = .tokenOk

variable {M : Mode} {lit : Bytes} {v : JV} {k : ErrKind}

include hT in
theorem BLit.of_ref (hsel : tokLit refTables M = some (lit, v, k)) (hfin : expectedFin M ≠ .a)
    (htok : ∀ c ∈ lit.tail, expected M c = .tokenOk) : BLit T M lit v k :=
  ⟨by unfold tokLit at hsel ⊢; simp only [hT.act]; exact hsel, fin_ne_a hT hfin,
    fun c hc => by rw [hT.act]; exact htok c hc⟩

include hT in
theorem bLit_null : BLit T .null litNull .null .expNull := .of_ref hT rfl (by decide) (by decide)

include hT in
theorem bLit_true : BLit T .true_ litTrue (.bool true) .expTrue := .of_ref hT rfl (by decide) (by decide)

include hT in
theorem bLit_false : BLit T .false_ litFalse (.bool false) .expFalse := .of_ref hT rfl (by decide) (by decide)


theorem getD_of_lt (l : Bytes) (i : Nat) (h : i < l.length) : l.getD i 0 = l[i] := by
  rw [List.getD_eq_getElem?_getD, List.getElem?_eq_getElem h]; rfl

theorem letter_tok (L : BLit T M lit v k) (m : St) (hm : m.mode = M) (hlt : m.ri + 1 < lit.length) :
    T.act m.mode (lit.getD (m.ri + 1) 0) = .tokenOk := by
  rw [hm]
  exact L.tok _ (getD_succ_mem_tail lit m.ri hlt)

theorem tok_mid (L : BLit T M lit v k) (m : St) (hm : m.mode = M) (hlt : m.ri + 1 < lit.length - 1) :
    step T cfg m (lit.getD (m.ri + 1) 0) = .ok { m with ri := m.ri + 1, pos := m.pos + 1, inFast := false } := by
  unfold step stepAct
  simp only [letter_tok L m hm (by omega)]
  rw [stepToken_eq, hm, L.sel]
  simp only [↓reduceIte, Nat.not_le.mpr hlt, bind, Except.bind, pure, Except.pure, Bool.false_eq_true]
  rw [deliver_id_of T cfg _ (by simp only; exact L.fin)]

theorem tok_last (L : BLit T M lit v k) (m : St) (hm : m.mode = M) (hlast : m.ri + 1 = lit.length - 1) :
    step T cfg m (lit.getD (m.ri + 1) 0) =
      match ({ m with ri := m.ri + 1, mode := .after } : St).add v with
      | .error e => .error e
      | .ok s' => .ok { deliver T cfg s' with pos := (deliver T cfg s').pos + 1, inFast := false } := by
  unfold step stepAct
  simp only [letter_tok L m hm (by omega)]
  rw [stepToken_eq, hm, L.sel]
  simp only [↓reduceIte, Nat.le_of_eq hlast.symm, bind, Except.bind, pure, Except.pure]
  generalize St.add _ _ = r
  cases r <;> rfl

/-- the rest of a literal from inside its mode: `n` letters are still to come behind the next one -/
theorem run_letters (L : BLit T M lit v k) (rest : Bytes) : ∀ (n : Nat) (m : St), m.mode = M → m.inFast = false →
    m.ri + 1 + n + 1 = lit.length →
    runBytes T cfg m (lit.drop (m.ri + 1) ++ rest) =
      match ({ m with mode := .after, ri := m.ri + n + 1, pos := m.pos + n, inFast := false } : St).add v with
      | .error e => .error e
      | .ok s' => runBytes T cfg { deliver T cfg s' with pos := (deliver T cfg s').pos + 1, inFast := false } rest := by
  intro n
  induction n with
  | zero =>
    intro m hm hf hlen
    obtain ⟨mode, nm, st, sk, dc, tm, ri, rn, nu, li, po, nl, fa⟩ := m
    simp only at hm hf hlen
    subst hf
    rw [List.drop_eq_getElem_cons (by simp only; omega), ← getD_of_lt lit _ (by simp only; omega),
      List.drop_eq_nil_iff.mpr (by simp only; omega)]
    have hs := tok_last cfg L ⟨mode, nm, st, sk, dc, tm, ri, rn, nu, li, po, nl, false⟩ hm (by simp only; omega)
    simp only [List.nil_append, List.cons_append, runBytes, hs, Nat.add_zero]
    generalize St.add _ _ = r
    cases r <;> rfl
  | succ n ih =>
    intro m hm hf hlen
    rw [List.drop_eq_getElem_cons (by omega), ← getD_of_lt lit _ (by omega)]
    simp only [List.cons_append, runBytes, tok_mid cfg L m hm (by omega)]
    refine (ih { m with ri := m.ri + 1, pos := m.pos + 1, inFast := false } hm rfl (by simp only; omega)).trans ?_
    simp only [show m.ri + 1 + n + 1 = m.ri + (n + 1) + 1 by omega, show m.pos + 1 + n = m.pos + (n + 1) by omega]

theorem run_lit (L : BLit T M lit v k) (m : St) (rest : Bytes) (hlen : 2 ≤ lit.length)
    (hact : (T.act m.mode (lit.getD 0 0) = .valNull ∧ M = .null) ∨ (T.act m.mode (lit.getD 0 0) = .valTrue ∧ M = .true_) ∨
            (T.act m.mode (lit.getD 0 0) = .valFalse ∧ M = .false_)) :
    runBytes T cfg m (lit ++ rest) =
      match ({ m with mode := .after, ri := lit.length - 1, pos := m.pos + (lit.length - 1), inFast := false } : St).add v with
      | .error e => .error e
      | .ok s' => runBytes T cfg { deliver T cfg s' with pos := (deliver T cfg s').pos + 1, inFast := false } rest := by
  have hstep : step T cfg m (lit.getD 0 0) = .ok { m with mode := M, ri := 0, pos := m.pos + 1, inFast := false } := by
    unfold step stepAct
    rcases hact with ⟨h, hM⟩ | ⟨h, hM⟩ | ⟨h, hM⟩ <;> subst hM <;>
    · simp only [h, Bool.false_eq_true, ↓reduceIte]
      rw [deliver_id_of T cfg _ (by simp only; exact L.fin)]
  obtain ⟨l0, tl, rfl⟩ : ∃ l0 tl, lit = l0 :: tl := by
    cases lit with
    | nil => simp at hlen
    | cons l0 tl => exact ⟨l0, tl, rfl⟩
  simp only [List.length_cons] at hlen
  simp only [List.cons_append, runBytes, show step T cfg m l0 = _ from hstep]
  have := run_letters cfg L rest (tl.length - 1) { m with mode := M, ri := 0, pos := m.pos + 1, inFast := false } rfl rfl
    (by simp only [List.length_cons]; omega)
  simp only [Nat.zero_add, List.drop_succ_cons, List.drop_zero] at this
  rw [this]
  simp only [List.length_cons, Nat.add_sub_cancel, show tl.length - 1 + 1 = tl.length by omega,
    show m.pos + 1 + (tl.length - 1) = m.pos + tl.length by omega]

include hT in
/-- the three literal cases at once: `hcb` and `hslow` say which case of the two switches this is, `hrun` is
the byte machine over the letters (`run_lit`) -/
theorem iter_lit (fp : FP) (buf : Bytes) (s m : St) (off i : Nat) (b : UInt8)
    (hb : buf[off]? = some b) (hrel : Rel s m) (hside : Side T buf m off)
    (lit : Bytes) (v : JV) (M : Mode) (last : Nat)
    (hcb : caseBuf T cfg fp buf s off i b = caseLit lit v M buf s off i)
    (hslow : caseSlow T cfg s off i b = .ok ⟨{ s with mode := M, ri := 0, inFast := false }, off, i, false⟩)
    (hlen : lit.length = last + 1)
    (hrun : ∀ rest, runBytes T cfg m (lit ++ rest) =
      match ({ m with mode := .after, ri := last, pos := m.pos + last, inFast := false } : St).add v with
      | .error e => .error e
      | .ok s' => runBytes T cfg { deliver T cfg s' with pos := (deliver T cfg s').pos + 1, inFast := false } rest)
    (hv : T.act m.mode b = .valDigit → cfg.fastInt = false) :
    IterOK T cfg buf m off (iterBuf T cfg fp buf s off i b) := by
  obtain ⟨-, e1, e2, e3, e4, e5, e6, e7⟩ := nf_fields hrel.nf
  have hslowcase : litAhead s buf off lit = .ok false →
      IterOK T cfg buf m off (iterBuf T cfg fp buf s off i b) := by
    intro hla
    refine iter_slow hT cfg fp buf s m off i b hb hrel hside ?_ hv
    rw [hcb, hslow]
    unfold caseLit
    simp only [hla]
    rw [hrel.flag]
  by_cases hle : off + lit.length ≤ buf.length
  · have hsl := sliceOf_take buf off lit.length hle
    by_cases heq : ((buf.drop off).take lit.length == lit) = true
    · have hsplit : buf.drop off = lit ++ buf.drop (off + lit.length) := by
        rw [← List.drop_drop]
        conv => lhs; rw [← List.take_append_drop lit.length (buf.drop off)]
        rw [show (buf.drop off).take lit.length = lit by simpa using heq]
      have hla : litAhead s buf off lit = .ok true := by
        unfold litAhead; simp only [hle, ↓reduceIte, hsl, heq]
      rw [iterBuf_eq_wrap, hcb]
      unfold caseLit
      simp only [hla]
      refine iterOK_value cfg (K := lit.length - 1) (by omega)
        (m1 := { m with mode := .after, ri := last, pos := m.pos + last, inFast := false })
        (rel_of_live nofun nofun nofun rfl e1 e2 e3 e4 e5 (by show s.pos + _ = m.pos + _; omega) e7 hrel.flag hrel.ns
          hrel.nm) ?_
      rw [hsplit, hrun, show off + (lit.length - 1) + 1 = off + lit.length by omega]
      rfl
    · apply hslowcase
      unfold litAhead; simp only [hle, ↓reduceIte, hsl]
      congr 1; simpa using heq
  · apply hslowcase
    unfold litAhead; simp only [hle, ↓reduceIte]

end OjgVerif.Json
