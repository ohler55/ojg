import OjgVerif.Json.FastSlow
/-! The parsers' integer fast loop under an arbitrary chunking of the reader.

`Json/FastSlow.lean` compares the fast loop with the byte-at-a-time machine on one buffer. Here the
same comparison over any list of read buffers (a buffer boundary ends the loop, so the hit condition
depends on the chunking), through the whole entry point `run` with its BOM rules. Consequence
(`Props/C03Fast.lean`): chunk independence for the PARSERS, with the exact exclusion of known finding
C03-int19. -/
namespace OjgVerif.Json

theorem step_reader (T : Tables) (c : Cfg) (r : Bool) (s : St) (b : UInt8) :
    step T { c with reader := r } s b = step T c s b := rfl

theorem runBytes_reader (T : Tables) (c : Cfg) (r : Bool) (bs : Bytes) : ∀ s : St,
    runBytes T { c with reader := r } s bs = runBytes T c s bs := by
  induction bs with
  | nil => intro s; rfl
  | cons b t ih =>
    intro s
    simp only [runBytes, step_reader]
    cases step T c s b with
    | error e => rfl
    | ok s1 => exact ih s1

theorem runChunks_reader (T : Tables) (c : Cfg) (r : Bool) (cs : List Bytes) : ∀ s : St,
    runChunks T { c with reader := r } s cs = runChunks T c s cs := by
  induction cs with
  | nil => intro s; rfl
  | cons x t ih =>
    intro s
    simp only [runChunks, runBytes_reader]
    cases runBytes T c s x with
    | error e => rfl
    | ok s1 => exact ih _

/-- no digit reaches the fast loop at `BigLimit` anywhere on the chunked run -/
def NoHitChunks : St → List Bytes → Prop
  | _, [] => True
  | s, c :: rest => NoHitRun s c ∧ match runBytes refTables cfgFast s c with
    | .ok s' => NoHitChunks s'.clr rest
    | .error _ => True

theorem fastInv_clr (s : St) : FastInv s.clr := fun h => nomatch h

theorem runChunks_fast_slow (cs : List Bytes) : ∀ (s : St), FastInv s → NoHitChunks s cs →
    clrR (runChunks refTables cfgFast s cs) = clrR (runChunks refTables cfg1 s.clr cs) := by
  induction cs with
  | nil => intro s _ _; rfl
  | cons c rest ih =>
    intro s hinv ⟨hc, hrest⟩
    simp only [runChunks]
    rcases clrR_eq_cases (runBytes_fast_slow c s hinv hc) with ⟨e, h1, h2⟩ | ⟨s1, t, h1, h2, hst⟩
    · rw [h1, h2]
    · rw [h1] at hrest
      rw [h1, h2]
      show clrR (runChunks refTables cfgFast s1.clr rest) = clrR (runChunks refTables cfg1 t.clr rest)
      rw [← hst]
      exact ih s1.clr (fastInv_clr s1) hrest

theorem afterBom_fast_slow (cs : List Bytes) (h : NoHitChunks {} cs) :
    afterBom refTables cfgFast cs = afterBom refTables cfg1 cs := by
  unfold afterBom
  rcases clrR_eq_cases (runChunks_fast_slow cs {} (fun h => nomatch h) h) with ⟨e, h1, h2⟩ | ⟨a, b, h1, h2, hab⟩ <;>
    rw [h1, show runChunks refTables cfg1 {} cs = _ from h2]
  exact finish_clr_congr hab

/-- the chunk list the machine sees in one entry-point call (`none`: the call ends before the
machine starts — nothing delivered, or a bad BOM) -/
def effChunks (rd : Bool) (chunks : List Bytes) : Option (List Bytes) :=
  match (if rd then topUp (chunks.filter (!·.isEmpty)) else chunks) with
  | [] => none
  | c :: rest =>
    match (if rd then bomRuleReader c else bomRule c) with
    | .bad => none
    | .strip r => some (r :: rest)
    | .keep => some (c :: rest)

/-- no digit reaches the fast loop at `BigLimit` during this call -/
def NoHitCall (rd : Bool) (chunks : List Bytes) : Prop :=
  match effChunks rd chunks with
  | none => True
  | some cs => NoHitChunks {} cs

/-- The four configurations the family speaks of, by entry point. Their other names, all equal by `rfl`:
`cfgParser false` is `cfgFast` (`FastSlow.lean`) and `C01.cfgP`, `cfgParser true` is `C01.cfgPR`,
`cfgBytewise false` is `cfg1`, `cfgBytewise true` is `C01.cfgR` (`Props/C01Lang.lean`). -/
def cfgParser (rd : Bool) : Cfg := { fastInt := true, reader := rd }
def cfgBytewise (rd : Bool) : Cfg := { reader := rd }

theorem afterBom_reader (T : Tables) (c : Cfg) (r : Bool) (cs : List Bytes) :
    afterBom T { c with reader := r } cs = afterBom T c cs := by
  unfold afterBom
  rw [runChunks_reader]

/-- **A whole call: the parser is the byte-at-a-time machine unless the hit occurs.** Either entry
point (`rd`: reader or `[]byte`), any chunking, BOM rules included. -/
theorem run_fast_eq_slow (rd : Bool) (chunks : List Bytes) (h : NoHitCall rd chunks) :
    run refTables (cfgParser rd) chunks = run refTables (cfgBytewise rd) chunks := by
  rw [run_afterBom, run_afterBom]
  unfold NoHitCall effChunks at h
  have hr1 : (cfgParser rd).reader = rd := rfl
  have hr2 : (cfgBytewise rd).reader = rd := rfl
  rw [hr1, hr2]
  have e1 : ∀ cs, afterBom refTables (cfgParser rd) cs = afterBom refTables cfgFast cs :=
    fun cs => afterBom_reader refTables cfgFast rd cs
  have e2 : ∀ cs, afterBom refTables (cfgBytewise rd) cs = afterBom refTables cfg1 cs :=
    fun cs => afterBom_reader refTables cfg1 rd cs
  cases hcs : (if rd = true then topUp (chunks.filter (!·.isEmpty)) else chunks) with
  | nil => rfl
  | cons c rest =>
    rw [hcs] at h
    simp only at h ⊢
    cases hb : (if rd = true then bomRuleReader c else bomRule c) with
    | bad => rfl
    | strip r =>
      rw [hb] at h
      simp only at h ⊢
      rw [e1, e2]; exact afterBom_fast_slow _ h
    | keep =>
      rw [hb] at h
      simp only at h ⊢
      rw [e1, e2]; exact afterBom_fast_slow _ h

/-- executable form of `NoHitChunks` / `NoHitCall` -/
def noHitChunksB : St → List Bytes → Bool
  | _, [] => true
  | s, c :: rest => noHitRunB s c && match runBytes refTables cfgFast s c with
    | .ok s' => noHitChunksB s'.clr rest
    | .error _ => true

theorem noHitChunks_of_B (cs : List Bytes) : ∀ s : St, noHitChunksB s cs = true → NoHitChunks s cs := by
  induction cs with
  | nil => intro s _; trivial
  | cons c rest ih =>
    intro s h
    simp only [noHitChunksB, Bool.and_eq_true] at h
    refine ⟨noHitRun_of_B c s h.1, ?_⟩
    cases h1 : runBytes refTables cfgFast s c with
    | error e => trivial
    | ok s1 =>
      have h2 := h.2
      rw [h1] at h2
      exact ih _ h2

def noHitCallB (rd : Bool) (chunks : List Bytes) : Bool :=
  match effChunks rd chunks with
  | none => true
  | some cs => noHitChunksB {} cs

theorem noHitCall_of_B (rd : Bool) (chunks : List Bytes) (h : noHitCallB rd chunks = true) :
    NoHitCall rd chunks := by
  unfold noHitCallB at h
  unfold NoHitCall
  cases he : effChunks rd chunks with
  | none => trivial
  | some cs => rw [he] at h; exact noHitChunks_of_B cs {} h

end OjgVerif.Json
