import OjgVerif.Json.Number
/-! Exactness of the `gen.Number` accumulators under `uint64` wrap-around arithmetic: while the
number is held in the integer accumulators no multiplication has wrapped and the accumulators hold
exactly the digits read; the switch to the text form happens exactly when the value exceeds int64. -/
namespace OjgVerif.Json

def isDigitB (b : UInt8) : Prop := 48 ≤ b.toNat ∧ b.toNat ≤ 57
def dval (b : UInt8) : Nat := b.toNat - 48

/-- value of a digit string -/
def natOf (ds : Bytes) : Nat := ds.foldl (fun a b => a * 10 + dval b) 0

theorem natOf_snoc (ds : Bytes) (d : UInt8) : natOf (ds ++ [d]) = natOf ds * 10 + dval d := by
  simp [natOf, List.foldl_append]

theorem dval_le_9 (b : UInt8) (hb : isDigitB b) : dval b ≤ 9 := by
  unfold dval; have := hb.2; omega

theorem foldl_natOf (a : Nat) (ds : Bytes) :
    ds.foldl (fun a b => a * 10 + dval b) a = a * 10 ^ ds.length + natOf ds := by
  induction ds generalizing a with
  | nil => simp [natOf]
  | cons d r ih =>
    simp only [List.foldl_cons, natOf, List.length_cons]
    rw [ih (a * 10 + dval d), ih (0 * 10 + dval d)]
    simp only [Nat.pow_succ, Nat.zero_mul, Nat.zero_add]
    rw [Nat.add_mul, Nat.mul_assoc, Nat.mul_comm 10 (10 ^ r.length)]
    omega

theorem natOf_cons (d : UInt8) (r : Bytes) : natOf (d :: r) = dval d * 10 ^ r.length + natOf r := by
  have := foldl_natOf (0 * 10 + dval d) r
  show List.foldl (fun a b => a * 10 + dval b) (0 * 10 + dval d) r = _
  rw [this]; simp

theorem natOf_append (a b : Bytes) : natOf (a ++ b) = natOf a * 10 ^ b.length + natOf b := by
  simp only [natOf, List.foldl_append]
  exact foldl_natOf _ b

theorem natOf_lt_pow (ds : Bytes) (hds : ∀ d ∈ ds, isDigitB d) : natOf ds < 10 ^ ds.length := by
  induction ds with
  | nil => simp [natOf]
  | cons d r ih =>
    rw [natOf_cons]
    have hr := ih (fun x hx => hds x (List.mem_cons_of_mem _ hx))
    have hd := dval_le_9 d (hds d List.mem_cons_self)
    simp only [List.length_cons, Nat.pow_succ]
    have : dval d * 10 ^ r.length ≤ 9 * 10 ^ r.length := Nat.mul_le_mul_right _ hd
    omega

theorem fmtNatAux_ne_nil (fuel n : Nat) (acc : Bytes) (h : 0 < fuel) : fmtNatAux fuel n acc ≠ [] := by
  induction fuel generalizing n acc with
  | zero => omega
  | succ f ih =>
    unfold fmtNatAux
    split
    · simp
    · by_cases hf : 0 < f
      · exact ih _ _ hf
      · have : f = 0 := by omega
        subst this
        -- fuel 1 with n ≥ 10 cannot happen from `fmtNat`, but the result is still the accumulator
        simp [fmtNatAux]

theorem fmtNat_ne_nil (n : Nat) : fmtNat n ≠ [] := fmtNatAux_ne_nil _ _ _ (by omega)

theorem fmtNatAux_fuel : ∀ (f1 f2 n : Nat) (acc : Bytes), n < f1 → n < f2 → fmtNatAux f1 n acc = fmtNatAux f2 n acc := by
  intro f1
  induction f1 with
  | zero => intro f2 n acc h; omega
  | succ k ih =>
    intro f2 n acc h1 h2
    obtain ⟨m, rfl⟩ : ∃ m, f2 = m + 1 := ⟨f2 - 1, by omega⟩
    unfold fmtNatAux
    by_cases hn : n < 10
    · simp [hn]
    · simp only [hn, ↓reduceIte]
      exact ih m (n / 10) _ (by omega) (by omega)

theorem fmtNatAux_acc : ∀ (f n : Nat) (acc : Bytes), n < f → fmtNatAux f n acc = fmtNatAux f n [] ++ acc := by
  intro f
  induction f with
  | zero => intro n acc h; omega
  | succ k ih =>
    intro n acc h
    unfold fmtNatAux
    by_cases hn : n < 10
    · simp [hn]
    · simp only [hn, ↓reduceIte]
      rw [ih (n / 10) (UInt8.ofNat (48 + n % 10) :: acc) (by omega), ih (n / 10) [UInt8.ofNat (48 + n % 10)] (by omega)]
      simp [List.append_assoc]

theorem fmtNat_snoc (n : Nat) (h : 10 ≤ n) : fmtNat n = fmtNat (n / 10) ++ [UInt8.ofNat (48 + n % 10)] := by
  have hn : ¬ n < 10 := by omega
  show fmtNatAux (n + 1) n [] = fmtNatAux (n / 10 + 1) (n / 10) [] ++ _
  rw [show fmtNatAux (n + 1) n [] = fmtNatAux n (n / 10) [UInt8.ofNat (48 + n % 10)] by
    conv => lhs; unfold fmtNatAux
    simp [hn]]
  rw [fmtNatAux_acc n (n / 10) _ (by omega), fmtNatAux_fuel n (n / 10 + 1) (n / 10) [] (by omega) (by omega)]

theorem fillBig_big_ne_nil (n : Num) : n.fillBig.big ≠ [] := by
  unfold Num.fillBig
  simp only
  split <;> split <;> (try split) <;> simp [fmtNat_ne_nil]

theorem digit_toUInt64 (b : UInt8) (hb : isDigitB b) : ((b - 48).toUInt64).toNat = dval b := by
  have h48 : (48 : UInt8) ≤ b := by rw [UInt8.le_iff_toNat_le]; exact hb.1
  simp only [UInt8.toNat_toUInt64, UInt8.toNat_sub_of_le _ _ h48]
  rfl

/-- appending a decimal digit to a `uint64` `x ≤ ⌊(2^64 − 10)/10⌋`, the largest `x` with `x·10 + 9 < 2^64`, does
not wrap -/
theorem toNat_mul10_add (x : UInt64) (b : UInt8) (hb : isDigitB b) (hx : x.toNat ≤ 1844674407370955160) :
    (x * 10 + (b - 48).toUInt64).toNat = x.toNat * 10 + dval b := by
  have := dval_le_9 b hb
  simp only [UInt64.toNat_add, UInt64.toNat_mul, digit_toUInt64 b hb, show (10 : UInt64).toNat = 10 from rfl]
  omega

/-- a field that holds the digits `ds` exactly takes one more digit exactly -/
theorem toNat_snoc_digit {x : UInt64} {ds : Bytes} (b : UInt8) (hb : isDigitB b) (hx : x.toNat ≤ 1844674407370955160)
    (h : x.toNat = natOf ds) : (x * 10 + (b - 48).toUInt64).toNat = natOf (ds ++ [b]) := by
  rw [toNat_mul10_add x b hb hx, h, natOf_snoc]

theorem big_eq_nil_iff (n : Num) : n.big = [] ↔ ¬ 0 < n.big.length := by
  cases n.big <;> simp

/-- The shape `AddDigit`, `AddFrac` and `AddExp` share. In text form the byte is appended. Otherwise,
while the field is small enough (`ok`) the digit goes into it, giving `n'`, and if that passes the
limit (`over`) the number takes text form; a field that is already too large takes text form first
and the byte is appended. -/
theorem Num.add_cases {P : Num → Prop} {n n' : Num} {b : UInt8} {ok over : Prop} [Decidable ok] [Decidable over]
    (htext : n.big ≠ [] → P { n with big := n.big ++ [b] })
    (hover : n.big = [] → ok → over → P n'.fillBig)
    (hkeep : n.big = [] → ok → ¬ over → P n')
    (hfull : n.big = [] → ¬ ok → P { n.fillBig with big := n.fillBig.big ++ [b] }) :
    P (if 0 < n.big.length then { n with big := n.big ++ [b] }
       else if ok then (if over then n'.fillBig else n')
       else { n.fillBig with big := n.fillBig.big ++ [b] }) := by
  by_cases hbig : 0 < n.big.length
  · rw [if_pos hbig]; exact htext fun h => (big_eq_nil_iff n).mp h hbig
  · have hnil := (big_eq_nil_iff n).mpr hbig
    rw [if_neg hbig]
    by_cases hok : ok
    · rw [if_pos hok]
      by_cases hov : over
      · rw [if_pos hov]; exact hover hnil hok hov
      · rw [if_neg hov]; exact hkeep hnil hok hov
    · rw [if_neg hok]; exact hfull hnil hok

/-- integer part: the accumulator is exact as long as the value fits int64, and the number is in text
form exactly when it does not -/
def IntInv (n : Num) (v : Nat) : Prop :=
  (v ≤ 9223372036854775807 → n.big = [] ∧ n.i.toNat = v) ∧ (9223372036854775807 < v → n.big ≠ [])

theorem addDigit_inv (n : Num) (b : UInt8) (v : Nat) (hb : isDigitB b) (h : IntInv n v) :
    IntInv (n.addDigit b) (v * 10 + dval b) := by
  have hd := dval_le_9 b hb
  have hm : MaxInt64.toNat = 9223372036854775807 := rfl
  have hv : n.big = [] → v ≤ 9223372036854775807 ∧ n.i.toNat = v := fun hnil =>
    (Nat.lt_or_ge 9223372036854775807 v).elim (fun hc => absurd hnil (h.2 hc)) fun hc => ⟨hc, (h.1 hc).2⟩
  unfold Num.addDigit
  refine Num.add_cases (P := fun m => IntInv m (v * 10 + dval b)) (fun hne => ?_) (fun hnil hle hmax => ?_)
    (fun hnil hle hmax => ?_) (fun hnil hle => ?_)
  · have : 9223372036854775807 < v := (Nat.lt_or_ge _ v).elim id fun hc => absurd (h.1 hc).1 hne
    exact ⟨fun hle => by omega, fun _ => by simp⟩
  all_goals
    obtain ⟨hfit, hi⟩ := hv hnil
    rw [UInt64.le_iff_toNat_le, show BigLimit.toNat = 922337203685477580 from rfl] at hle
  · rw [UInt64.lt_iff_toNat_lt, toNat_mul10_add _ b hb (by omega), hm, hi] at hmax
    exact ⟨fun hle2 => by omega, fun _ => fillBig_big_ne_nil _⟩
  · rw [UInt64.lt_iff_toNat_lt, toNat_mul10_add _ b hb (by omega), hm, hi] at hmax
    exact ⟨fun _ => ⟨hnil, by rw [toNat_mul10_add _ b hb (by omega), hi]⟩, fun hgt => by omega⟩
  · exact ⟨fun hle2 => by omega, fun _ => by simp⟩

theorem foldl_addDigit_inv (ds : Bytes) (n : Num) (v : Nat) (hds : ∀ d ∈ ds, isDigitB d) (h : IntInv n v) :
    IntInv (ds.foldl Num.addDigit n) (ds.foldl (fun a b => a * 10 + dval b) v) := by
  induction ds generalizing n v with
  | nil => exact h
  | cons d r ih =>
    simp only [List.foldl_cons]
    exact ih _ _ (fun x hx => hds x (List.mem_cons_of_mem _ hx))
      (addDigit_inv n d v (hds d List.mem_cons_self) h)

/-- **Integers are exact.** Feeding the digits of an integer literal to `AddDigit` from a reset
accumulator: if the value fits int64 the accumulator holds exactly that value and the number is not
in text form (so it comes back as an int64 equal to the literal); otherwise it is in text form. No
multiplication wraps around 2^64 on the way. -/
theorem int_exact (ds : Bytes) (hds : ∀ d ∈ ds, isDigitB d) :
    IntInv (ds.foldl Num.addDigit {}) (natOf ds) := by
  apply foldl_addDigit_inv ds {} 0 hds
  exact ⟨fun _ => ⟨rfl, rfl⟩, fun h => by omega⟩

theorem asNum_of_inv (n : Num) (v : Nat) (h : IntInv n v) (hfit : v ≤ 9223372036854775807)
    (hdiv : n.div = 1) (hexp : n.exp = 0) :
    n.asNum = .int (if n.neg then -(v : Int) else (v : Int)) := by
  obtain ⟨hbig, hi⟩ := h.1 hfit
  unfold Num.asNum
  simp only [hbig, List.length_nil, Nat.lt_irrefl, ↓reduceIte, hdiv, hexp]
  have hlt : n.i.toNat < 9223372036854775808 := by omega
  have h64 : toInt64 n.i = (v : Int) := by unfold toInt64; rw [if_pos hlt, hi]
  simp only [decide_true, Bool.and_self, ↓reduceIte, h64]
  cases n.neg with
  | false => simp
  | true =>
    have : (v : Int) ≠ -9223372036854775808 := by omega
    simp [negInt64, this]

/-- a digit step that multiplies first and tests afterwards, the fast loop of oj.Tokenizer before commit 3d48e1b
of /repo (known_findings.json, `fixed`, property C02): `addDigit_inv` fails for it, the product wraps
(`tokDigitOld_wraps`) -/
def tokDigitOld (n : Num) (b : UInt8) : Num :=
  let n' := { n with i := n.i * 10 + (b - 48).toUInt64 }
  if MaxInt64 < n'.i then n'.fillBig else n'

theorem tokDigitOld_wraps :
    (tokDigitOld { i := 5000000000000000000 } 48).i.toNat ≠ 50000000000000000000 ∧
    (tokDigitOld { i := 5000000000000000000 } 48).big =
      [49, 51, 49, 48, 54, 53, 49, 49, 56, 53, 50, 53, 56, 48, 56, 57, 54, 55, 54, 56] := by decide

theorem pow10_18 : (10 : Nat) ^ 18 = 1000000000000000000 := by decide

theorem pow10_le_bigLimit (k : Nat) (h : 10 ^ k ≤ 922337203685477580) : k ≤ 17 := by
  rcases Nat.lt_or_ge 17 k with hk | hk
  · have : 10 ^ 18 ≤ 10 ^ k := Nat.pow_le_pow_right (by omega) hk
    rw [pow10_18] at this
    omega
  · exact hk

/-- fraction: while the number is not in text form, `Frac` holds the fraction digits read, `Div` is
10^(number of fraction digits), at most 18 of them — nothing has wrapped -/
def FracInv (n : Num) (fs : Bytes) : Prop :=
  n.big = [] → n.frac.toNat = natOf fs ∧ n.div.toNat = 10 ^ fs.length ∧ fs.length ≤ 18

theorem frac_step (n : Num) (b : UInt8) (fs : Bytes) (hb : isDigitB b)
    (hc : (decide (n.frac ≤ BigLimit) && decide (n.div ≤ BigLimit)) = true)
    (hf : n.frac.toNat = natOf fs) (hdv : n.div.toNat = 10 ^ fs.length) (hk : fs.length ≤ 18) :
    (n.frac * 10 + (b - 48).toUInt64).toNat = natOf (fs ++ [b]) ∧ (n.div * 10).toNat = 10 ^ (fs ++ [b]).length ∧
      (fs ++ [b]).length ≤ 18 := by
  simp only [Bool.and_eq_true, decide_eq_true_eq, UInt64.le_iff_toNat_le,
    show BigLimit.toNat = 922337203685477580 from rfl] at hc
  have hk17 : fs.length ≤ 17 := pow10_le_bigLimit _ (hdv ▸ hc.2)
  refine ⟨toNat_snoc_digit b hb (by omega) hf, ?_, ?_⟩
  · simp only [UInt64.toNat_mul, List.length_append, List.length_singleton, Nat.pow_succ,
      show (10 : UInt64).toNat = 10 from rfl, hdv]
    omega
  · simp only [List.length_append, List.length_singleton]; omega

theorem addFrac_inv (n : Num) (b : UInt8) (fs : Bytes) (hb : isDigitB b) (hfs : ∀ d ∈ fs, isDigitB d)
    (h : FracInv n fs) : FracInv (n.addFrac b) (fs ++ [b]) := by
  unfold Num.addFrac
  refine Num.add_cases (P := fun m => FracInv m (fs ++ [b])) (fun _ h0 => ?_)
    (fun _ _ _ h0 => absurd h0 (fillBig_big_ne_nil _)) (fun hnil hc _ _ => ?_) (fun _ _ h0 => ?_)
  · simp at h0
  · obtain ⟨hf, hdv, hk⟩ := h hnil
    exact frac_step n b fs hb hc hf hdv hk
  · simp at h0

/-- exponent: while the number is not in text form `Exp` holds the exponent digits read and is at
most 1022 -/
def ExpInv (n : Num) (es : Bytes) : Prop :=
  n.big = [] → n.exp.toNat = natOf es ∧ natOf es ≤ 1022

theorem addExp_inv (n : Num) (b : UInt8) (es : Bytes) (hb : isDigitB b) (h : ExpInv n es) :
    ExpInv (n.addExp b) (es ++ [b]) := by
  unfold Num.addExp
  refine Num.add_cases (P := fun m => ExpInv m (es ++ [b])) (fun _ h0 => ?_)
    (fun _ _ _ h0 => absurd h0 (fillBig_big_ne_nil _)) (fun hnil hc hmax _ => ?_) (fun _ _ h0 => ?_)
  · simp at h0
  · obtain ⟨he, _⟩ := h hnil
    rw [UInt64.le_iff_toNat_le, show (102 : UInt64).toNat = 102 from rfl] at hc
    have hexp := toNat_snoc_digit b hb (by omega) he
    rw [UInt64.lt_iff_toNat_lt, hexp, show (1022 : UInt64).toNat = 1022 from rfl] at hmax
    exact ⟨hexp, by omega⟩
  · simp at h0

theorem dval_ofNat (k : Nat) (hk : k ≤ 9) : dval (UInt8.ofNat (48 + k)) = k := by
  unfold dval
  have : (UInt8.ofNat (48 + k)).toNat = 48 + k := by
    simp only [UInt8.toNat_ofNat']
    omega
  omega

theorem fmtNatAux_natOf (fuel n : Nat) (acc : Bytes) (h : n < 10 ^ fuel) :
    natOf (fmtNatAux fuel n acc) = n * 10 ^ acc.length + natOf acc := by
  induction fuel generalizing n acc with
  | zero =>
    have : n = 0 := by simpa using h
    subst this
    simp [fmtNatAux]
  | succ f ih =>
    unfold fmtNatAux
    split
    · rename_i hlt
      rw [natOf_cons, dval_ofNat n (by omega)]
    · rename_i hge
      have hdiv : n / 10 < 10 ^ f := by
        rw [Nat.pow_succ] at h
        omega
      rw [ih (n / 10) _ hdiv, natOf_cons, dval_ofNat (n % 10) (by omega)]
      simp only [List.length_cons, Nat.pow_succ]
      have := Nat.div_add_mod n 10
      rw [Nat.mul_comm (10 ^ acc.length) 10, ← Nat.mul_assoc]
      have h2 : n / 10 * 10 * 10 ^ acc.length + n % 10 * 10 ^ acc.length = n * 10 ^ acc.length := by
        rw [← Nat.add_mul]; congr 1; omega
      omega

theorem lt_pow_succ (n : Nat) : n < 10 ^ (n + 1) := by
  induction n with
  | zero => simp
  | succ k ih => rw [Nat.pow_succ]; omega

/-- **`FormatUint` round trip**: the digits written for `n` denote `n` -/
theorem natOf_fmtNat (n : Nat) : natOf (fmtNat n) = n := by
  unfold fmtNat
  rw [fmtNatAux_natOf _ _ _ (lt_pow_succ n)]
  simp [natOf]

theorem fillBig_frame (n : Num) :
    n.fillBig.div = n.div ∧ n.fillBig.exp = n.exp ∧ n.fillBig.frac = n.frac ∧ n.fillBig.neg = n.neg := by
  unfold Num.fillBig
  exact ⟨rfl, rfl, rfl, rfl⟩

theorem addDigit_frame (n : Num) (d : UInt8) :
    (n.addDigit d).div = n.div ∧ (n.addDigit d).exp = n.exp ∧ (n.addDigit d).frac = n.frac ∧
      (n.addDigit d).neg = n.neg := by
  unfold Num.addDigit
  exact Num.add_cases (P := fun m => m.div = n.div ∧ m.exp = n.exp ∧ m.frac = n.frac ∧ m.neg = n.neg)
    (fun _ => ⟨rfl, rfl, rfl, rfl⟩) (fun _ _ _ => fillBig_frame _) (fun _ _ _ => ⟨rfl, rfl, rfl, rfl⟩)
    (fun _ _ => fillBig_frame n)

theorem foldl_addDigit_frame (ds : Bytes) (n : Num) :
    (ds.foldl Num.addDigit n).div = n.div ∧ (ds.foldl Num.addDigit n).exp = n.exp ∧
      (ds.foldl Num.addDigit n).neg = n.neg := by
  induction ds generalizing n with
  | nil => exact ⟨rfl, rfl, rfl⟩
  | cons d r ih =>
    obtain ⟨h1, h2, h3⟩ := ih (n.addDigit d)
    obtain ⟨k1, k2, -, k4⟩ := addDigit_frame n d
    exact ⟨h1.trans k1, h2.trans k2, h3.trans k4⟩

theorem asNum_foldl_addDigit (n : Num) (v : Nat) (ds : Bytes) (hds : ∀ d ∈ ds, isDigitB d) (h : IntInv n v)
    (hdiv : n.div = 1) (hexp : n.exp = 0) (hfit : ds.foldl (fun a b => a * 10 + dval b) v ≤ 9223372036854775807) :
    (ds.foldl Num.addDigit n).asNum =
      .int (if n.neg then -(ds.foldl (fun a b => a * 10 + dval b) v : Nat) else (ds.foldl (fun a b => a * 10 + dval b) v : Nat)) := by
  obtain ⟨h1, h2, h3⟩ := foldl_addDigit_frame ds n
  rw [asNum_of_inv _ _ (foldl_addDigit_inv ds n v hds h) hfit (h1.trans hdiv) (h2.trans hexp), h3]

end OjgVerif.Json
