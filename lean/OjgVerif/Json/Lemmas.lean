import OjgVerif.Common.ByteTables
import OjgVerif.Json.Tables
import OjgVerif.Json.SwitchFacts

/-! Lemmas about the JSON machine over any table set: the one pass over the reference transition
function (in which modes an action occurs, which byte a newline action reads); invariants along a run; an
entry-point call as reader preparation, BOM decision and the run proper (`run_afterBom`);
"the machine over any `TablesOK` table set is the machine over the reference" (`run_eq_ref`), which
needs the control invariant `CtlInv` for the one end marker the tables need not agree on; and the
position an error carries. -/
namespace OjgVerif.Json

theorem Mode.mem_all (m : Mode) : m ∈ Mode.all := by
  cases m <;> decide

theorem forall_mode_byte (P : Mode → UInt8 → Bool)
    (h : (Mode.all.all fun m => (List.range 256).all fun i => P m (UInt8.ofNat i)) = true) :
    ∀ m b, P m b = true :=
  fun m => all_bytes (P m) (List.all_eq_true.mp h m (Mode.mem_all m))

/-- the modes in which the reference transition function yields each action -/
def srcModes : Act → List Mode
  | .skipChar | .skipNewline => [.value, .comma, .after, .key1, .key, .colon, .space]
  | .valNull | .valTrue | .valFalse | .valNeg | .val0 | .valDigit | .valQuote | .openArray | .openObject =>
    [.value, .comma]
  | .closeArray => [.value, .after, .zero, .digit, .frac, .exp]
  | .closeObject => [.value, .after, .key1, .zero, .digit, .frac, .exp]
  | .afterComma => [.after]
  | .keyQuote => [.key1, .key]
  | .colonColon => [.colon]
  | .numSpc | .numNewline | .numComma => [.zero, .digit, .frac, .exp]
  | .numDot => [.zero, .digit]
  | .numFrac => [.dot, .frac]
  | .fracE => [.zero, .digit, .frac]
  | .expSign => [.expSign]
  | .expDigit => [.expSign, .expZero, .exp]
  | .strQuote | .strSlash | .strOk => [.string]
  | .negDigit | .numZero => [.neg]
  | .escOk | .escU => [.esc]
  | .uOk => [.u]
  | .tokenOk => [.null, .true_, .false_]
  | .numDigit => [.digit]
  | .charErr => Mode.all
  | .unknown => []

def isNlAct (a : Act) : Bool := a == .skipNewline || a == .numNewline

/-- The one pass over the reference transition function: every action is yielded only in its
`srcModes`, and the two newline actions are yielded on byte 10 and on no other. -/
theorem expected_sweep (m : Mode) (b : UInt8) :
    ((srcModes (expected m b)).contains m &&
      (expected m b == .charErr || isNlAct (expected m b) == decide (b = 10))) = true :=
  forall_mode_byte (fun m b => (srcModes (expected m b)).contains m &&
    (expected m b == .charErr || isNlAct (expected m b) == decide (b = 10))) (by decide +kernel) m b

theorem src_ok (m : Mode) (b : UInt8) : m ∈ srcModes (expected m b) := by
  simpa using (Bool.and_eq_true_iff.mp (expected_sweep m b)).1

theorem nlAct_iff (m : Mode) (b : UInt8) (h : expected m b ≠ .charErr) :
    isNlAct (expected m b) = decide (b = 10) := by
  simpa [h] using (Bool.and_eq_true_iff.mp (expected_sweep m b)).2

theorem escOk_only_in_esc (m : Mode) (b : UInt8) (h : expected m b = .escOk) : m = .esc := by
  simpa [h, srcModes] using src_ok m b

theorem afterComma_only_in_after (m : Mode) (b : UInt8) (h : expected m b = .afterComma) : m = .after := by
  simpa [h, srcModes] using src_ok m b

theorem close_not_in_comma (b : UInt8) :
    expected .comma b ≠ .closeObject ∧ expected .comma b ≠ .closeArray := by
  constructor <;> intro h <;> simpa [h, srcModes] using src_ok .comma b

theorem runBytes_preserves {T : Tables} {cfg : Cfg} {P : St → Prop} {Q : Err → Prop}
    (hstep : ∀ s b, P s → (∀ e, step T cfg s b = .error e → Q e) ∧ ∀ s', step T cfg s b = .ok s' → P s')
    (bs : Bytes) (s : St) (hs : P s) :
    (∀ e, runBytes T cfg s bs = .error e → Q e) ∧ ∀ s', runBytes T cfg s bs = .ok s' → P s' := by
  induction bs generalizing s with
  | nil => exact ⟨(fun _ h => nomatch h), fun _ h => by cases h; exact hs⟩
  | cons b r ih =>
    obtain ⟨he, ho⟩ := hstep s b hs
    simp only [runBytes]
    cases hst : step T cfg s b with
    | error e => exact ⟨fun _ h => by cases h; exact he e hst, (fun _ h => nomatch h)⟩
    | ok s1 => exact ih s1 (ho s1 hst)

theorem runChunks_preserves {T : Tables} {cfg : Cfg} {P : St → Prop} {Q : Err → Prop}
    (hstep : ∀ s b, P s → (∀ e, step T cfg s b = .error e → Q e) ∧ ∀ s', step T cfg s b = .ok s' → P s')
    (hfast : ∀ s, P s → P { s with inFast := false }) (cs : List Bytes) (s : St) (hs : P s) :
    (∀ e, runChunks T cfg s cs = .error e → Q e) ∧ ∀ s', runChunks T cfg s cs = .ok s' → P s' := by
  induction cs generalizing s with
  | nil => exact ⟨(fun _ h => nomatch h), fun _ h => by cases h; exact hs⟩
  | cons c r ih =>
    obtain ⟨he, ho⟩ := runBytes_preserves hstep c s hs
    simp only [runChunks]
    cases hst : runBytes T cfg s c with
    | error e => exact ⟨fun _ h => by cases h; exact he e hst, (fun _ h => nomatch h)⟩
    | ok s1 => exact ih _ (hfast s1 (ho s1 hst))

/-- tail of an entry-point call once the BOM decision is made -/
def afterBom (T : Tables) (cfg : Cfg) (cs : List Bytes) : Except Err (List JV) :=
  match runChunks T cfg {} cs with
  | .error e => .error e
  | .ok s => finish T s

theorem run_afterBom (T : Tables) (cfg : Cfg) (chunks : List Bytes) :
    run T cfg chunks =
      match (if cfg.reader then topUp (chunks.filter (!·.isEmpty)) else chunks) with
      | [] => finish T {}
      | c :: rest =>
        match (if cfg.reader then bomRuleReader c else bomRule c) with
        | .bad => .error { line := 1, col := 3, kind := .byte }
        | .strip r => afterBom T cfg (r :: rest)
        | .keep => afterBom T cfg (c :: rest) := by
  unfold run afterBom
  simp only
  cases (if cfg.reader then topUp (chunks.filter (!·.isEmpty)) else chunks) with
  | nil => rfl
  | cons c rest =>
    simp only
    cases (if cfg.reader then bomRuleReader c else bomRule c) <;> rfl

/-- the chunks the machine runs over are the same for every table set -/
theorem run_eq (cfg : Cfg) (chunks : List Bytes) :
    (∀ T, run T cfg chunks = .error { line := 1, col := 3, kind := .byte }) ∨
    ∃ cs, ∀ T, run T cfg chunks = afterBom T cfg cs := by
  simp only [run_afterBom]
  cases (if cfg.reader then topUp (chunks.filter (!·.isEmpty)) else chunks) with
  | nil => exact Or.inr ⟨[], fun _ => rfl⟩
  | cons c rest =>
    simp only
    cases (if cfg.reader then bomRuleReader c else bomRule c) with
    | bad => exact Or.inl fun _ => rfl
    | strip r => exact Or.inr ⟨_, fun _ => rfl⟩
    | keep => exact Or.inr ⟨_, fun _ => rfl⟩

/-- control invariant: in `after` and `comma` mode a container is open (a complete top-level value
is delivered at once, which leaves `after` mode); the mode a string returns to is `colon` or `after` -/
structure CtlInv (s : St) : Prop where
  after : s.mode = .after → s.starts ≠ []
  comma : s.mode = .comma → s.starts ≠ []
  next : s.nextMode = .colon ∨ s.nextMode = .after

theorem CtlInv.init : CtlInv {} := ⟨(by intro h; cases h), (by intro h; cases h), Or.inr rfl⟩

theorem afterCommaMode_ne_after (s : St) : afterCommaMode s ≠ .after := by
  unfold afterCommaMode; split <;> simp

/-- what `stepAct` guarantees before `deliver` runs: `CtlInv`, except that `after` mode with no container open
may occur when the switch does not `continue`. That state exists only between a switch that has completed a
top-level value and the delivery test, which leaves `after` mode at once. -/
structure CtlPre (s : St) (cont : Bool) : Prop where
  after : cont = true → s.mode = .after → s.starts ≠ []
  comma : s.mode = .comma → s.starts ≠ []
  next : s.nextMode = .colon ∨ s.nextMode = .after

theorem Act.upd_ctlPre {cfg : Cfg} {s : St} {b : UInt8} {st : List Item} (hi : CtlInv s)
    (hb : (expected s.mode b).build refTables b s = .ok st) :
    CtlPre ((expected s.mode b).upd refTables cfg b s st) ((expected s.mode b).cont s) := by
  obtain ⟨ha, hc, hn⟩ := hi
  generalize hact : expected s.mode b = a at hb
  cases a <;> simp only [Act.upd, Act.cont]
  case afterComma =>
    exact ⟨fun _ h => absurd h (afterCommaMode_ne_after s), fun _ => ha (afterComma_only_in_after _ _ hact), hn⟩
  case numComma =>
    -- the comma error has not been raised
    refine ⟨(fun h => nomatch h), fun _ h0 => ?_, hn⟩
    simp only [Act.build] at hb
    split at hb
    · cases hb
    · rw [h0] at hb; cases hb
  case strQuote =>
    -- the mode a string returns to is `colon` or `after`, never `comma`
    have hnc : s.nextMode ≠ .comma := by rcases hn with h | h <;> simp [h]
    exact ⟨(fun h => nomatch h), fun h => absurd h hnc, hn⟩
  case uOk =>
    -- the mode becomes `string` or stays
    refine ⟨fun _ hm => ?_, fun hm => ?_, hn⟩ <;> simp only at hm ⊢ <;> split at hm
    · cases hm
    · exact ha hm
    · cases hm
    · exact hc hm
  case tokenOk =>
    -- the mode becomes `after` or stays
    cases tokLit refTables s.mode with
    | none => exact ⟨(fun h => nomatch h), hc, hn⟩
    | some p =>
      refine ⟨(fun h => nomatch h), fun hm => ?_, hn⟩
      simp only at hm ⊢
      split at hm
      · cases hm
      · exact hc hm
  case skipChar | skipNewline | strOk | numDigit | unknown | charErr => exact ⟨fun _ => ha, hc, hn⟩
  case keyQuote => exact ⟨(fun _ h => nomatch h), (fun h => nomatch h), Or.inl rfl⟩
  case valQuote => exact ⟨(fun _ h => nomatch h), (fun h => nomatch h), Or.inr rfl⟩
  case numSpc | numNewline | closeObject | closeArray => exact ⟨(fun h => nomatch h), (fun h => nomatch h), hn⟩
  -- the remaining actions enter a mode that is neither `after` nor `comma`
  all_goals exact ⟨(fun _ h => nomatch h), (fun h => nomatch h), hn⟩

theorem stepAct_ctl (cfg : Cfg) (s s' : St) (b : UInt8) (cont : Bool) (hi : CtlInv s)
    (h : stepAct refTables cfg s b = .ok (s', cont)) : CtlPre s' cont := by
  rw [stepAct_eq] at h
  cases hb : (refTables.act s.mode b).build refTables b s with
  | error k => rw [hb] at h; cases h
  | ok st => rw [hb] at h; cases h; exact Act.upd_ctlPre hi hb

theorem deliver_ctl (cfg : Cfg) (s : St) (cont : Bool) (h : CtlPre s cont) :
    CtlInv (if cont then s else deliver refTables cfg s) := by
  cases cont with
  | true => exact ⟨h.after rfl, h.comma, h.next⟩
  | false =>
    simp only [Bool.false_eq_true, ↓reduceIte]
    unfold deliver
    split
    · -- delivered: the mode is `space` or `value`
      refine ⟨?_, ?_, h.next⟩ <;> (simp only; split <;> intro hm <;> cases hm)
    · rename_i hc
      refine ⟨?_, h.comma, h.next⟩
      intro hm hs
      apply hc
      simp [hs, hm, refTables, expectedFin]

theorem step_ctl (cfg : Cfg) (s s' : St) (b : UInt8) (hi : CtlInv s)
    (h : step refTables cfg s b = .ok s') : CtlInv s' := by
  obtain ⟨s1, c, h1, rfl⟩ := step_ok h
  have hd := deliver_ctl cfg s1 c (stepAct_ctl cfg s s1 b c hi h1)
  exact ⟨hd.after, hd.comma, hd.next⟩

theorem runChunks_ctl (cfg : Cfg) (cs : List Bytes) (s s' : St) (hi : CtlInv s)
    (h : runChunks refTables cfg s cs = .ok s') : CtlInv s' :=
  (runChunks_preserves (Q := fun _ => True) (fun s b hs => ⟨fun _ _ => trivial, fun s' => step_ctl cfg s s' b hs⟩)
    (fun _ h => ⟨h.after, h.comma, h.next⟩) cs s hi).2 s' h

section
variable {T : Tables} (hT : TablesOK T) (cfg : Cfg)
include hT

theorem act_eq_ref : T.act = refTables.act :=
  funext fun m => funext fun b => hT.act m b

theorem stepToken_eq_ref (s : St) (b : UInt8) : stepToken T s b = stepToken refTables s b := by
  unfold stepToken
  rw [act_eq_ref hT]

theorem fin_eq_ref_of_close (s : St) (b : UInt8)
    (h : expected s.mode b = .closeObject ∨ expected s.mode b = .closeArray) :
    T.fin s.mode = refTables.fin s.mode := by
  apply hT.fin
  intro hc
  rw [hc] at h
  have := close_not_in_comma b
  rcases h with h | h
  · exact this.1 h
  · exact this.2 h

theorem flushNum_eq_ref_of_close (s : St) (b : UInt8)
    (h : expected s.mode b = .closeObject ∨ expected s.mode b = .closeArray) :
    s.flushNum T = s.flushNum refTables := by
  unfold St.flushNum
  rw [fin_eq_ref_of_close hT s b h]

theorem stepAct_eq_ref (s : St) (b : UInt8) : stepAct T cfg s b = stepAct refTables cfg s b := by
  unfold stepAct
  rw [act_eq_ref hT]
  cases hact : refTables.act s.mode b <;> simp only [stepToken_eq_ref hT]
  case escOk =>
    have hm := escOk_only_in_esc _ _ hact
    rw [hm] at hact
    rw [hT.esc b hact]
    rfl
  case closeObject =>
    rw [fin_eq_ref_of_close hT s b (Or.inl hact), flushNum_eq_ref_of_close hT s b (Or.inl hact)]
  case closeArray =>
    rw [flushNum_eq_ref_of_close hT s b (Or.inr hact)]

/-- the end marker `a`, which the delivery test asks for, stands where the reference has it: the markers of
`comma` mode, which `TablesOK` leaves open, are not `a` on either side -/
theorem fin_a_iff (m : Mode) : T.fin m = .a ↔ expectedFin m = .a := by
  by_cases hm : m = .comma
  · subst hm
    exact iff_of_false hT.finComma.1 (by decide)
  · rw [hT.fin m hm]

theorem fin_ne_a {m : Mode} (h : expectedFin m ≠ .a) : T.fin m ≠ .a :=
  mt (fin_a_iff hT m).mp h

theorem deliver_eq_ref (s : St) :
    deliver T cfg s = deliver refTables cfg s := by
  unfold deliver
  simp only [fin_a_iff hT]
  rfl

/-- nothing is delivered in a mode whose reference end marker is not `a` -/
theorem deliver_id_ok (s : St) (h : expectedFin s.mode ≠ .a) : deliver T cfg s = s :=
  deliver_id_of T cfg s (fin_ne_a hT h)

theorem step_eq_ref (s : St) (b : UInt8) :
    step T cfg s b = step refTables cfg s b := by
  unfold step
  rw [stepAct_eq_ref hT, act_eq_ref hT]
  simp only [deliver_eq_ref hT]

theorem runBytes_eq_ref (bs : Bytes) (s : St) :
    runBytes T cfg s bs = runBytes refTables cfg s bs := by
  induction bs generalizing s with
  | nil => rfl
  | cons b r ih =>
    simp only [runBytes, step_eq_ref hT]
    split
    · rfl
    · exact ih _

theorem runChunks_eq_ref (cs : List Bytes) (s : St) :
    runChunks T cfg s cs = runChunks refTables cfg s cs := by
  induction cs generalizing s with
  | nil => rfl
  | cons c r ih =>
    simp only [runChunks, runBytes_eq_ref hT]
    split
    · rfl
    · exact ih _

/-- `finish` reads the `comma` end marker only with an open container -/
theorem finish_eq_ref (s : St) (hc : s.mode = .comma → s.starts ≠ []) :
    finish T s = finish refTables s := by
  unfold finish
  by_cases hm : s.mode = .comma
  · have := hc hm
    have he : s.starts.isEmpty = false := List.isEmpty_eq_false_iff.mpr this
    simp [he]
  · rw [hT.fin _ hm]; rfl

end

/-- **The machine over any table set that passes `TablesOK` is the reference automaton**: same
outcome (documents, values, error line/column/kind) for every configuration and every chunking. -/
theorem run_eq_ref {T : Tables} (hT : TablesOK T) (cfg : Cfg) (chunks : List Bytes) :
    run T cfg chunks = run refTables cfg chunks := by
  rcases run_eq cfg chunks with h | ⟨cs, h⟩
  · rw [h, h]
  · rw [h, h]
    unfold afterBom
    rw [runChunks_eq_ref hT]
    split
    · rfl
    · rename_i s hs
      exact finish_eq_ref hT s (runChunks_ctl cfg _ _ s CtlInv.init hs).comma

def St.at (s : St) : Nat × Nat × Int := (s.line, s.pos, s.nl)

theorem stepAct_eq_error (T : Tables) (cfg : Cfg) (s : St) (b : UInt8) (e : Err)
    (h : stepAct T cfg s b = .error e) : ∃ k, e = s.err k := by
  rw [stepAct_eq] at h
  split at h <;> cases h
  exact ⟨_, rfl⟩

/-- line / offset / last-newline bookkeeping as a fold over the bytes consumed: this is the reading
of "line and column" the property gives (lines end at '\n', columns count bytes) -/
def track : Nat × Nat × Int → Bytes → Nat × Nat × Int
  | t, [] => t
  | (line, pos, nl), b :: r => if b = 10 then track (line + 1, pos + 1, (pos : Int)) r else track (line, pos + 1, nl) r

theorem track_append (t : Nat × Nat × Int) (a b : Bytes) : track t (a ++ b) = track (track t a) b := by
  induction a generalizing t with
  | nil => rfl
  | cons x r ih =>
    obtain ⟨l, p, n⟩ := t
    simp only [List.cons_append, track]
    split <;> exact ih _

theorem step_eq_error (T : Tables) (cfg : Cfg) (s : St) (b : UInt8) (e : Err)
    (h : step T cfg s b = .error e) : ∃ k, e = s.err k :=
  stepAct_eq_error T cfg s b e (step_error h)

theorem finish_eq_error (T : Tables) (s : St) (e : Err) (h : finish T s = .error e) : ∃ k, e = s.err k := by
  unfold finish at h
  split at h
  · cases h; exact ⟨_, rfl⟩
  · split at h
    · split at h
      · rename_i h1; cases h; obtain ⟨w, -, rfl⟩ := St.add_eq_error h1; exact ⟨_, rfl⟩
      · cases h
    · cases h

theorem touches_of_not_nl (a : Act) (h : isNlAct a = false) : Fld.line ∉ a.touches ∧ Fld.nl ∉ a.touches := by
  cases a <;> first | exact ⟨by decide, by decide⟩ | cases h

/-- One byte moves the position as `track` says: the switch itself keeps the offset, a newline
action (which byte 10 and no other byte selects) starts a new line at it, and `step` advances. -/
theorem step_ok_at (cfg : Cfg) (s s' : St) (b : UInt8) (h : step refTables cfg s b = .ok s') :
    s'.at = track s.at [b] := by
  obtain ⟨s1, c, h1, rfl⟩ := step_ok h
  have hne : expected s.mode b ≠ .charErr := by
    intro hc
    rw [stepAct_of_act (show refTables.act s.mode b = .charErr from hc)] at h1
    cases h1
  have hnl := nlAct_iff s.mode b hne
  obtain ⟨hk, hy⟩ := stepAct_frame_nl refTables cfg s s1 b c h1
  have hd : (if c = true then s1 else deliver refTables cfg s1).at = s1.at := by
    split
    · rfl
    · rw [deliver_frame]; rfl
  simp only [St.at, Act.settle, Prod.mk.injEq] at hd ⊢
  simp only [track, hd, hk.pos]
  by_cases hb : b = 10
  · have := hy (by simpa [isNlAct, hb, refTables] using hnl)
    simp [hb, this]
  · obtain ⟨h1, h2⟩ := touches_of_not_nl _ (by simpa [hb] using hnl)
    simp [hb, hk.line h1, hk.nl h2]

theorem runBytes_ok_at (cfg : Cfg) (bs : Bytes) (s s' : St) (h : runBytes refTables cfg s bs = .ok s') :
    s'.at = track s.at bs := by
  induction bs generalizing s with
  | nil => cases h; rfl
  | cons b r ih =>
    simp only [runBytes] at h
    split at h
    · cases h
    · rename_i s1 h1
      rw [ih s1 h, step_ok_at cfg s s1 b h1]
      exact (track_append s.at [b] r).symm

/-- where the reference automaton stops: the bytes before the stop were all accepted, the error is
raised by the step on byte `b`, and it carries the line/column of `b` -/
theorem runBytes_err_at (cfg : Cfg) (bs : Bytes) (s : St) (e : Err) (h : runBytes refTables cfg s bs = .error e) :
    ∃ pre b post s1, bs = pre ++ b :: post ∧ runBytes refTables cfg s pre = .ok s1 ∧
      step refTables cfg s1 b = .error e ∧
      e.line = (track s.at pre).1 ∧ e.col = ((track s.at pre).2.1 : Int) - (track s.at pre).2.2 := by
  induction bs generalizing s with
  | nil => cases h
  | cons b r ih =>
    simp only [runBytes] at h
    split at h
    · rename_i e' h1
      cases h
      obtain ⟨k, rfl⟩ := step_eq_error refTables cfg s b _ h1
      exact ⟨[], b, r, s, rfl, rfl, h1, rfl, rfl⟩
    · rename_i s1 h1
      obtain ⟨pre, b', post, s2, hbs, hrun, hstep, hl, hc⟩ := ih s1 h
      refine ⟨b :: pre, b', post, s2, by rw [hbs]; rfl, ?_, hstep, ?_, ?_⟩
      · simp only [runBytes, h1]; exact hrun
      · rw [hl, step_ok_at cfg s s1 b h1, ← track_append]; rfl
      · rw [hc, step_ok_at cfg s s1 b h1, ← track_append]; rfl

theorem getD_succ_mem_tail (w : Bytes) (i : Nat) (h : i + 1 < w.length) : w.getD (i + 1) 0 ∈ w.tail := by
  cases w with
  | nil => cases h
  | cons a w =>
    simp only [List.length_cons, Nat.add_lt_add_iff_right] at h
    simp [List.getD, List.getElem?_eq_getElem h]

/-- single-document, byte-at-a-time configuration (oj.Validator / oj.Tokenizer; the parsers differ
only by their integer fast loop, `cfg.fastInt`: known finding C02-int19) -/
def cfg1 : Cfg := {}

/-- what `finish` reads: mode, open containers, build stack, documents, the position an error carries and, where
the end marker of the mode is `n`, the number; neither the fast-loop flag nor the string and counter fields -/
theorem finish_congr (T : Tables) {a b : St} (hm : a.mode = b.mode) (hs : a.starts = b.starts)
    (hk : a.stack = b.stack) (hd : a.docs = b.docs) (hl : a.line = b.line) (hp : a.pos = b.pos) (hnl : a.nl = b.nl)
    (hn : T.fin a.mode = .n → a.num = b.num) : finish T a = finish T b := by
  unfold finish St.addNum St.add St.err
  rw [← hm, ← hs, ← hk, ← hd, ← hl, ← hp, ← hnl]
  split
  · rfl
  · split
    · rename_i h
      rw [← hn h]
      cases addItem a.num.asNum.toJV a.stack <;> rfl
    · rfl

theorem finish_inFast (s : St) (x : Bool) : finish refTables { s with inFast := x } = finish refTables s :=
  finish_congr _ rfl rfl rfl rfl rfl rfl rfl fun _ => rfl

end OjgVerif.Json
