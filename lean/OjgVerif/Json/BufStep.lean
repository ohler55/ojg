import OjgVerif.Json.BufModel
import OjgVerif.Json.BufSim
import OjgVerif.Json.FastSlow
/-! # One byte of the byte machine up to dead fields and the integer-loop flag

`step_cn` (a state and its normal form make the same step) and its combination with `step_clr` (outside
the integer loop a step ignores the flag and the fast-loop setting), `slow_rel`: from related states the
buffer model's delegated case and the parsers' byte machine make related steps. -/
namespace OjgVerif.Json

/-- `p.nextMode` is only ever `afterMap` or `colonMap` -/
def NmOK (s : St) : Prop := s.nextMode = .after ∨ s.nextMode = .colon

theorem NmOK.init : NmOK {} := Or.inl rfl

theorem deliver_nm (T : Tables) (cfg : Cfg) {a : St} (h : NmOK a) : NmOK (deliver T cfg a) := by
  unfold NmOK; rw [deliver_nextMode]; exact h

/-- only the two opening quotes write `nextMode` -/
theorem Act.upd_nm (T : Tables) (cfg : Cfg) (a : Act) (b : UInt8) (s : St) (st : List Item) (hn : NmOK s) :
    NmOK (a.upd T cfg b s st) := by
  cases a <;> simp only [Act.upd]
  case keyQuote => exact Or.inr rfl
  case valQuote => exact Or.inl rfl
  case tokenOk => split <;> exact hn
  all_goals exact hn

theorem Act.settle_nm (T : Tables) (cfg : Cfg) (a : Act) (c : Bool) {x : St} (h : NmOK x) :
    NmOK (a.settle T cfg x c) := by
  cases c
  · exact deliver_nm T cfg h
  · exact h

theorem step_nm (T : Tables) (cfg : Cfg) (s s' : St) (b : UInt8)
    (h : step T cfg s b = .ok s') (hn : NmOK s) : NmOK s' := by
  rw [step_eq] at h
  split at h <;> cases h
  exact Act.settle_nm T cfg _ _ (Act.upd_nm T cfg _ b s _ hn)

theorem deliver_cn (T : Tables) (cfg : Cfg) (s : St) : (deliver T cfg s).cn = (deliver T cfg s.cn).cn := by
  unfold deliver
  have hc : (s.cn.starts.isEmpty && decide (T.fin s.cn.mode = EndMark.a)) =
      (s.starts.isEmpty && decide (T.fin s.mode = EndMark.a)) := rfl
  rw [hc]
  cases (s.starts.isEmpty && decide (T.fin s.mode = EndMark.a))
  · simp only [Bool.false_eq_true, ↓reduceIte]; exact (St.cn_cn s).symm
  · simp only [↓reduceIte]
    cases cfg.onlyOne <;> rfl

theorem deliver_cn_rel (T : Tables) (cfg : Cfg) {a b : St} (h : a.cn = b.cn) :
    (deliver T cfg a).cn = (deliver T cfg b).cn := by
  rw [deliver_cn T cfg a, deliver_cn T cfg b, h]

theorem cn_upd {x y : St} (h : x.cn = y.cn) (p : Nat) (f : Bool) :
    ({ x with pos := p, inFast := f } : St).cn = ({ y with pos := p, inFast := f } : St).cn := by
  show ({ x.cn with pos := p, inFast := f } : St) = ({ y.cn with pos := p, inFast := f } : St)
  rw [h]

theorem Act.settle_cn (T : Tables) (cfg : Cfg) (a : Act) (c : Bool) {x y : St} (h : x.cn = y.cn) :
    (a.settle T cfg x c).cn = (a.settle T cfg y c).cn := by
  have ht : (a.settle T cfg x true).cn = (a.settle T cfg y true).cn := by
    show ({ x with pos := x.pos + 1, inFast := a.inLoop && x.inFast } : St).cn =
      ({ y with pos := y.pos + 1, inFast := a.inLoop && y.inFast } : St).cn
    rw [cn_same_flag h, cn_same_pos h]
    exact cn_upd h _ _
  cases c
  · rw [Act.settle_false, Act.settle_false]
    exact deliver_cn_rel T cfg ht
  · exact ht

theorem step_cn {T : Tables} (hT : TablesOK T) (cfg : Cfg) (s : St) (b : UInt8) (hnm : NmOK s) :
    cnR (step T cfg s b) = cnR (step T cfg s.cn b) := by
  have h := stepAct_cn hT cfg s b hnm
  rw [step_settle, step_settle, St.cn_mode]
  cases h1 : stepAct T cfg s b <;> cases h2 : stepAct T cfg s.cn b <;> rw [h1, h2] at h <;>
    simp only [cnRB, Except.ok.injEq, Except.error.injEq, Prod.mk.injEq, reduceCtorEq] at h
  · rw [h]
  · rename_i p q
    obtain ⟨a, c⟩ := p
    obtain ⟨a', c'⟩ := q
    obtain ⟨hab, rfl⟩ := h
    exact congrArg Except.ok (Act.settle_cn T cfg _ c hab)

/-- normal form of a state: integer-loop flag and dead fields forgotten -/
def St.nf (s : St) : St := s.clr.cn

def nfR : Except Err St → Except Err St
  | .ok s => .ok s.nf
  | .error e => .error e

theorem nfR_eq (x : Except Err St) : nfR x = cnR (clrR x) := by cases x <;> rfl

theorem clr_cn (s : St) : s.cn.clr = s.clr.cn := rfl

theorem clrR_cnR (x : Except Err St) : clrR (cnR x) = cnR (clrR x) := by cases x <;> rfl

theorem NmOK_clr {s : St} (h : NmOK s) : NmOK s.clr := h

/-- one delegated byte: from related states — the buffer model's (flag off) and the byte machine's
— the byte machine with the integer loop switched off and the parsers' byte machine make related steps,
unless the byte is a digit inside the integer loop -/
theorem slow_rel {T : Tables} (hT : TablesOK T) (cfg : Cfg) (s m : St) (b : UInt8)
    (hrel : s.nf = m.nf) (hsf : s.inFast = false) (hs : NmOK s) (hm : NmOK m)
    (hd : T.act m.mode b = .numDigit → m.inFast = false) :
    nfR (step T cfg.slow s b) = nfR (step T cfg m b) := by
  have e1 : clrR (step T cfg m b) = clrR (step T cfg.slow m.clr b) := step_clr T cfg cfg.slow rfl m b hd
  have e2 : clrR (step T cfg.slow s b) = clrR (step T cfg.slow s.clr b) := by
    rw [clr_of_false s hsf]
  rw [nfR_eq, nfR_eq, e1, e2]
  have c1 := step_cn hT cfg.slow s.clr b (NmOK_clr hs)
  have c2 := step_cn hT cfg.slow m.clr b (NmOK_clr hm)
  rw [← clrR_cnR, ← clrR_cnR, c1, c2]
  have : s.clr.cn = m.clr.cn := hrel
  rw [this]

end OjgVerif.Json
