import OjgVerif.Json.BufModel
import OjgVerif.Json.BufModelV
import OjgVerif.Json.SwitchFacts
import OjgVerif.Gen.JsonFast
/-! # The buffer-level model against the source of the fast paths

`Gen/JsonFast.lean` is regenerated from /repo on every run by tools/extract/jsonfast.go: the header of the
buffer loop of `(*oj.Parser).parseBuffer` / `(*gen.Parser).parseBuffer`, the printed statements of the nine
case clauses that have a fast path, the numbers of the three literal look-aheads and the break tests of
the six `for i, b = range buf[off+1:]` loops (the extractor fails if one of them declares new variables
with `:=`, ranges over another slice, or does not start with `if T[b] != code { break }`).

* `*_fast_is_source`, `*_loop_is_source`: the statements are, line by line, the text `Json/BufModel.lean` was
  transcribed from. A changed guard (`off+4 <= len(buf)` → `off+3 <= len(buf)`), bound, slice expression,
  `off` adjustment or a dropped assignment in a fast path breaks this proof.
* `*_lits_are_source`: the model's literal texts, look-ahead lengths and `off` increments are the numbers
  read off the source (`caseLit` uses `lit.length` for both bounds and `lit.length - 1` for the increment).
* `*_loops_are_source`: the tables and codes of the six range loops are those of `caseBuf` (`T.act .space c =
  .skipChar` twice, `T.act .string c = .strOk` twice, `T.act .digit c = .numDigit` twice, in source order). -/
namespace OjgVerif.Json

/-- the fast-path clauses of (*oj.Parser).parseBuffer the model was transcribed from -/
def expectedFastOj : List (String × List String) := [
  ("skipNewline", ["p.line++", "p.noff = off", "for i, b = range buf[off+1:] {", "if spaceMap[b] != skipChar {", "break", "}", "}", "off += i", "continue"]),
  ("keyQuote", ["start := off + 1", "if len(buf) <= start {", "p.tmp = p.tmp[:0]", "p.mode = stringMap", "p.nextMode = colonMap", "continue", "}", "for i, b = range buf[off+1:] {", "if stringMap[b] != strOk {", "break", "}", "}", "off += i", "if b == '\"' {", "off++", "p.stack = append(p.stack, gen.Key(buf[start:off]))", "p.mode = colonMap", "} else {", "p.tmp = p.tmp[:0]", "p.tmp = append(p.tmp, buf[start:off+1]...)", "p.mode = stringMap", "p.nextMode = colonMap", "}", "continue"]),
  ("valQuote", ["start := off + 1", "if len(buf) <= start {", "p.tmp = p.tmp[:0]", "p.mode = stringMap", "p.nextMode = afterMap", "continue", "}", "for i, b = range buf[off+1:] {", "if stringMap[b] != strOk {", "break", "}", "}", "off += i", "if b == '\"' {", "off++", "p.add(string(buf[start:off]))", "p.mode = afterMap", "} else {", "p.tmp = p.tmp[:0]", "p.tmp = append(p.tmp, buf[start:off+1]...)", "p.mode = stringMap", "p.nextMode = afterMap", "continue", "}"]),
  ("valDigit", ["p.num.Reset()", "p.mode = digitMap", "p.num.I = uint64(b - '0')", "for i, b = range buf[off+1:] {", "if digitMap[b] != numDigit {", "break", "}", "if gen.BigLimit <= p.num.I {", "p.num.FillBig()", "p.num.AddDigit(b)", "break", "}", "p.num.I = p.num.I*10 + uint64(b-'0')", "}", "if digitMap[b] == numDigit {", "off++", "}", "off += i"]),
  ("valNull", ["if off+4 <= len(buf) && string(buf[off:off+4]) == \"null\" {", "off += 3", "p.mode = afterMap", "p.add(nil)", "} else {", "p.mode = nullMap", "p.ri = 0", "}"]),
  ("valTrue", ["if off+4 <= len(buf) && string(buf[off:off+4]) == \"true\" {", "off += 3", "p.mode = afterMap", "p.add(true)", "} else {", "p.mode = trueMap", "p.ri = 0", "}"]),
  ("valFalse", ["if off+5 <= len(buf) && string(buf[off:off+5]) == \"false\" {", "off += 4", "p.mode = afterMap", "p.add(false)", "} else {", "p.mode = falseMap", "p.ri = 0", "}"]),
  ("numDot", ["if 0 < len(p.num.BigBuf) {", "p.num.BigBuf = append(p.num.BigBuf, b)", "p.mode = dotMap", "continue", "}", "for i, b = range buf[off+1:] {", "if digitMap[b] != numDigit {", "break", "}", "if gen.BigLimit < p.num.Div {", "p.num.AddFrac(b)", "break", "}", "p.num.Frac = p.num.Frac*10 + uint64(b-'0')", "p.num.Div *= 10.0", "}", "off += i", "if digitMap[b] == numDigit {", "off++", "}", "if p.num.Div == 1 {", "p.mode = dotMap", "} else {", "p.mode = fracMap", "}"]),
  ("numNewline", ["p.add(p.num.AsNum())", "p.line++", "p.noff = off", "p.mode = afterMap", "for i, b = range buf[off+1:] {", "if spaceMap[b] != skipChar {", "break", "}", "}", "off += i"])
]

/-- the same clauses of (*gen.Parser).parseBuffer: the same statements over gen's own types -/
def expectedFastGen : List (String × List String) := [
  ("skipNewline", ["p.line++", "p.noff = off", "for i, b = range buf[off+1:] {", "if spaceMap[b] != skipChar {", "break", "}", "}", "off += i", "continue"]),
  ("keyQuote", ["start := off + 1", "if len(buf) <= start {", "p.tmp = p.tmp[:0]", "p.mode = stringMap", "p.nextMode = colonMap", "continue", "}", "for i, b = range buf[off+1:] {", "if stringMap[b] != strOk {", "break", "}", "}", "off += i", "if b == '\"' {", "off++", "p.stack = append(p.stack, Key(buf[start:off]))", "p.mode = colonMap", "} else {", "p.tmp = p.tmp[:0]", "p.tmp = append(p.tmp, buf[start:off+1]...)", "p.mode = stringMap", "p.nextMode = colonMap", "}", "continue"]),
  ("valQuote", ["start := off + 1", "if len(buf) <= start {", "p.tmp = p.tmp[:0]", "p.mode = stringMap", "p.nextMode = afterMap", "continue", "}", "for i, b = range buf[off+1:] {", "if stringMap[b] != strOk {", "break", "}", "}", "off += i", "if b == '\"' {", "off++", "p.add(String(buf[start:off]))", "p.mode = afterMap", "} else {", "p.tmp = p.tmp[:0]", "p.tmp = append(p.tmp, buf[start:off+1]...)", "p.mode = stringMap", "p.nextMode = afterMap", "continue", "}"]),
  ("valDigit", ["p.num.Reset()", "p.mode = digitMap", "p.num.I = uint64(b - '0')", "for i, b = range buf[off+1:] {", "if digitMap[b] != numDigit {", "break", "}", "if BigLimit <= p.num.I {", "p.num.FillBig()", "p.num.AddDigit(b)", "break", "}", "p.num.I = p.num.I*10 + uint64(b-'0')", "}", "if digitMap[b] == numDigit {", "off++", "}", "off += i"]),
  ("valNull", ["if off+4 <= len(buf) && string(buf[off:off+4]) == \"null\" {", "off += 3", "p.mode = afterMap", "p.add(nil)", "} else {", "p.mode = nullMap", "p.ri = 0", "}"]),
  ("valTrue", ["if off+4 <= len(buf) && string(buf[off:off+4]) == \"true\" {", "off += 3", "p.mode = afterMap", "p.add(True)", "} else {", "p.mode = trueMap", "p.ri = 0", "}"]),
  ("valFalse", ["if off+5 <= len(buf) && string(buf[off:off+5]) == \"false\" {", "off += 4", "p.mode = afterMap", "p.add(False)", "} else {", "p.mode = falseMap", "p.ri = 0", "}"]),
  ("numDot", ["if 0 < len(p.num.BigBuf) {", "p.num.BigBuf = append(p.num.BigBuf, b)", "p.mode = dotMap", "continue", "}", "for i, b = range buf[off+1:] {", "if digitMap[b] != numDigit {", "break", "}", "if BigLimit < p.num.Div {", "p.num.AddFrac(b)", "break", "}", "p.num.Frac = p.num.Frac*10 + uint64(b-'0')", "p.num.Div *= 10.0", "}", "off += i", "if digitMap[b] == numDigit {", "off++", "}", "if p.num.Div == 1 {", "p.mode = dotMap", "} else {", "p.mode = fracMap", "}"]),
  ("numNewline", ["p.add(p.num.AsNode())", "p.line++", "p.noff = off", "p.mode = afterMap", "for i, b = range buf[off+1:] {", "if spaceMap[b] != skipChar {", "break", "}", "}", "off += i"])
]

def expectedLoop : List String := ["off = 0", "off < len(buf)", "off++", "b = buf[off]"]

theorem ojParser_fast_is_source : Gen.JsonFast.ojParserFast = expectedFastOj := rfl
theorem genParser_fast_is_source : Gen.JsonFast.genParserFast = expectedFastGen := rfl
theorem ojParser_loop_is_source : Gen.JsonFast.ojParserLoop = expectedLoop := rfl
theorem genParser_loop_is_source : Gen.JsonFast.genParserLoop = expectedLoop := rfl

/-- what `caseLit` does with a literal: both bounds are its length, the increment one less -/
def litFact (label : String) (lit : Bytes) : Gen.JsonFast.Lit :=
  ⟨label, lit, lit.length, lit.length, lit.length - 1⟩

theorem ojParser_lits_are_source :
    Gen.JsonFast.ojParserLits = [litFact "valNull" litNull, litFact "valTrue" litTrue, litFact "valFalse" litFalse] :=
  rfl

theorem genParser_lits_are_source :
    Gen.JsonFast.genParserLits = [litFact "valNull" litNull, litFact "valTrue" litTrue, litFact "valFalse" litFalse] :=
  rfl

def Mode.mapName : Mode → String
  | .value => "valueMap" | .null => "nullMap" | .true_ => "trueMap" | .false_ => "falseMap"
  | .comma => "commaMap" | .after => "afterMap" | .key1 => "key1Map" | .key => "keyMap"
  | .colon => "colonMap" | .neg => "negMap" | .zero => "zeroMap" | .digit => "digitMap"
  | .dot => "dotMap" | .frac => "fracMap" | .expSign => "expSignMap" | .expZero => "expZeroMap"
  | .exp => "expMap" | .string => "stringMap" | .esc => "escMap" | .u => "uMap" | .space => "spaceMap"

/-- table and action of the break test of each range loop of `caseBuf`, in the order of the Go source
(skipNewline, keyQuote, valQuote, valDigit, numDot, numNewline) -/
def modelLoops : List (Mode × Act) :=
  [(.space, .skipChar), (.string, .strOk), (.string, .strOk), (.digit, .numDigit), (.digit, .numDigit), (.space, .skipChar)]

theorem ojParser_loops_are_source :
    Gen.JsonFast.ojParserRangeLoops = modelLoops.map (fun p => (p.1.mapName, p.2.goName)) := rfl

theorem genParser_loops_are_source :
    Gen.JsonFast.genParserRangeLoops = modelLoops.map (fun p => (p.1.mapName, p.2.goName)) := rfl

/-- the same nine clauses of (*oj.Validator).validateBuffer (`Json/BufModelV.lean`: `caseQuoteV`, `i = 0` in
`numNewline`, no loops in `valDigit` / `numDot`) -/
def expectedFastValidator : List (String × List String) := [
  ("skipNewline", ["p.line++", "p.noff = off", "for i, b = range buf[off+1:] {", "if spaceMap[b] != skipChar {", "break", "}", "}", "off += i", "continue"]),
  ("keyQuote", ["i = 0", "for i, b = range buf[off+1:] {", "if stringMap[b] != strOk {", "break", "}", "}", "off += i", "if b == '\"' && 0 < i {", "off++", "p.mode = colonMap", "} else {", "p.mode = stringMap", "p.nextMode = colonMap", "}", "continue"]),
  ("valQuote", ["i = 0", "for i, b = range buf[off+1:] {", "if stringMap[b] != strOk {", "break", "}", "}", "off += i", "if b == '\"' && 0 < i {", "off++", "p.mode = afterMap", "} else {", "p.mode = stringMap", "p.nextMode = afterMap", "continue", "}"]),
  ("valDigit", ["p.mode = digitMap", "continue"]),
  ("valNull", ["if off+4 <= len(buf) && string(buf[off:off+4]) == \"null\" {", "off += 3", "p.mode = afterMap", "} else {", "p.mode = nullMap", "p.ri = 0", "}"]),
  ("valTrue", ["if off+4 <= len(buf) && string(buf[off:off+4]) == \"true\" {", "off += 3", "p.mode = afterMap", "} else {", "p.mode = trueMap", "p.ri = 0", "}"]),
  ("valFalse", ["if off+5 <= len(buf) && string(buf[off:off+5]) == \"false\" {", "off += 4", "p.mode = afterMap", "} else {", "p.mode = falseMap", "p.ri = 0", "}"]),
  ("numDot", ["p.mode = dotMap", "continue"]),
  ("numNewline", ["p.line++", "p.noff = off", "p.mode = afterMap", "i = 0", "for i, b = range buf[off+1:] {", "if spaceMap[b] != skipChar {", "break", "}", "}", "off += i"])
]

/-- … and of (*oj.Tokenizer).tokenizeBuffer (`intLoopT` in `valDigit`, the parser's statements elsewhere) -/
def expectedFastTokenizer : List (String × List String) := [
  ("skipNewline", ["t.line++", "t.noff = off", "for i, b = range buf[off+1:] {", "if spaceMap[b] != skipChar {", "break", "}", "}", "off += i", "continue"]),
  ("keyQuote", ["start := off + 1", "if len(buf) <= start {", "t.tmp = t.tmp[:0]", "t.mode = stringMap", "t.nextMode = colonMap", "continue", "}", "for i, b = range buf[off+1:] {", "if stringMap[b] != strOk {", "break", "}", "}", "off += i", "if b == '\"' {", "off++", "t.handler.Key(string(buf[start:off]))", "t.mode = colonMap", "} else {", "t.tmp = t.tmp[:0]", "t.tmp = append(t.tmp, buf[start:off+1]...)", "t.mode = stringMap", "t.nextMode = colonMap", "}", "continue"]),
  ("valQuote", ["start := off + 1", "if len(buf) <= start {", "t.tmp = t.tmp[:0]", "t.mode = stringMap", "t.nextMode = afterMap", "continue", "}", "for i, b = range buf[off+1:] {", "if stringMap[b] != strOk {", "break", "}", "}", "off += i", "if b == '\"' {", "off++", "t.handler.String(string(buf[start:off]))", "t.mode = afterMap", "} else {", "t.tmp = t.tmp[:0]", "t.tmp = append(t.tmp, buf[start:off+1]...)", "t.mode = stringMap", "t.nextMode = afterMap", "continue", "}"]),
  ("valDigit", ["t.num.Reset()", "t.mode = digitMap", "t.num.I = uint64(b - '0')", "for i, b = range buf[off+1:] {", "if digitMap[b] != numDigit {", "break", "}", "if gen.BigLimit <= t.num.I {", "t.num.AddDigit(b)", "if 0 < len(t.num.BigBuf) {", "break", "}", "continue", "}", "t.num.I = t.num.I*10 + uint64(b-'0')", "}", "if digitMap[b] == numDigit {", "off++", "}", "off += i"]),
  ("valNull", ["if off+4 <= len(buf) && string(buf[off:off+4]) == \"null\" {", "off += 3", "t.mode = afterMap", "t.handler.Null()", "} else {", "t.mode = nullMap", "t.ri = 0", "}"]),
  ("valTrue", ["if off+4 <= len(buf) && string(buf[off:off+4]) == \"true\" {", "off += 3", "t.mode = afterMap", "t.handler.Bool(true)", "} else {", "t.mode = trueMap", "t.ri = 0", "}"]),
  ("valFalse", ["if off+5 <= len(buf) && string(buf[off:off+5]) == \"false\" {", "off += 4", "t.mode = afterMap", "t.handler.Bool(false)", "} else {", "t.mode = falseMap", "t.ri = 0", "}"]),
  ("numDot", ["if 0 < len(t.num.BigBuf) {", "t.num.BigBuf = append(t.num.BigBuf, b)", "t.mode = dotMap", "continue", "}", "for i, b = range buf[off+1:] {", "if digitMap[b] != numDigit {", "break", "}", "if gen.BigLimit < t.num.Div {", "t.num.AddFrac(b)", "break", "}", "t.num.Frac = t.num.Frac*10 + uint64(b-'0')", "t.num.Div *= 10.0", "}", "off += i", "if digitMap[b] == numDigit {", "off++", "}", "if t.num.Div == 1 {", "t.mode = dotMap", "} else {", "t.mode = fracMap", "}"]),
  ("numNewline", ["t.handleNum()", "t.line++", "t.noff = off", "t.mode = afterMap", "for i, b = range buf[off+1:] {", "if spaceMap[b] != skipChar {", "break", "}", "}", "off += i"])
]

theorem ojValidator_fast_is_source : Gen.JsonFast.ojValidatorFast = expectedFastValidator := rfl
theorem ojTokenizer_fast_is_source : Gen.JsonFast.ojTokenizerFast = expectedFastTokenizer := rfl
theorem ojValidator_loop_is_source : Gen.JsonFast.ojValidatorLoop = expectedLoop := rfl
theorem ojTokenizer_loop_is_source : Gen.JsonFast.ojTokenizerLoop = expectedLoop := rfl

theorem ojValidator_lits_are_source :
    Gen.JsonFast.ojValidatorLits = [litFact "valNull" litNull, litFact "valTrue" litTrue, litFact "valFalse" litFalse] :=
  rfl

theorem ojTokenizer_lits_are_source :
    Gen.JsonFast.ojTokenizerLits = [litFact "valNull" litNull, litFact "valTrue" litTrue, litFact "valFalse" litFalse] :=
  rfl

/-- the validator has four range loops (no digit loops) -/
def modelLoopsV : List (Mode × Act) :=
  [(.space, .skipChar), (.string, .strOk), (.string, .strOk), (.space, .skipChar)]

theorem ojValidator_loops_are_source :
    Gen.JsonFast.ojValidatorRangeLoops = modelLoopsV.map (fun p => (p.1.mapName, p.2.goName)) := rfl

theorem ojTokenizer_loops_are_source :
    Gen.JsonFast.ojTokenizerRangeLoops = modelLoops.map (fun p => (p.1.mapName, p.2.goName)) := rfl

end OjgVerif.Json
