import OjgVerif.Json.Spec
import OjgVerif.Json.NumLemmas
/-! # The number a decimal text denotes (repo-independent) and the anatomy of a number literal

`decVal` reads a decimal text `-? D+ (. D+)? ([eE] [+-]? D+)?` (all of it, or `none`) as a pair
(mantissa, power of ten): sign, all digits of the integer and fraction part taken together as one
integer, exponent minus the number of fraction digits. Two pairs denote the same number when they
agree after scaling to the smaller exponent (`SameNumber`, integers only).

`Parts` is a literal cut into sign, integer digits, optional fraction digits and optional exponent;
`render` writes it back, `pval` is its value, and `decVal (render p) = some (pval p)`
(`decVal_render`). Nothing in this file mentions the accumulator of `gen/number.go`. -/
namespace OjgVerif.Json

/-- every byte is an ASCII digit -/
def Dig (ds : Bytes) : Prop := ∀ d ∈ ds, Spec.isDigit d = true

/-- a non-empty all-digit string as a natural number -/
def decDigits (r : Bytes) : Option Nat :=
  if r.isEmpty || !(r.all Spec.isDigit) then none else some (natOf r)

/-- optional exponent part up to the end of the text: `[eE] [+-]? D+`; absent means 0 -/
def decExp : Bytes → Option Int
  | [] => some 0
  | e :: r =>
    if e = 101 || e = 69 then
      match r with
      | [] => none
      | s :: r' =>
        if s = 45 then (decDigits r').map fun v => -(v : Int)
        else if s = 43 then (decDigits r').map fun v => (v : Int)
        else (decDigits (s :: r')).map fun v => (v : Int)
    else none

/-- what follows the integer digits: optional `. D+`, optional exponent; returns the fraction digits
and the exponent -/
def decFracExp : Bytes → Option (Bytes × Int)
  | [] => some ([], 0)
  | c :: r =>
    if c = 46 then
      if (Spec.takeDigits r).1.isEmpty then none
      else (decExp (Spec.takeDigits r).2).map fun e => ((Spec.takeDigits r).1, e)
    else (decExp (c :: r)).map fun e => ([], e)

/-- unsigned decimal text: (all digits as one natural number, exponent − number of fraction digits) -/
def decUnsigned (bs : Bytes) : Option (Nat × Int) :=
  if (Spec.takeDigits bs).1.isEmpty then none
  else (decFracExp (Spec.takeDigits bs).2).map fun p =>
    (natOf ((Spec.takeDigits bs).1 ++ p.1), p.2 - (p.1.length : Int))

/-- **Denotation.** `decVal t = some (m, e)`: the text `t` is a decimal number and denotes `m · 10^e` -/
def decVal : Bytes → Option (Int × Int)
  | [] => none
  | b :: r =>
    if b = 45 then (decUnsigned r).map fun p => (-(p.1 : Int), p.2)
    else (decUnsigned (b :: r)).map fun p => ((p.1 : Int), p.2)

/-- `m₁ · 10^e₁ = m₂ · 10^e₂`, stated over the integers by scaling both to the smaller exponent -/
def SameNumber (a b : Int × Int) : Prop :=
  a.1 * 10 ^ (a.2 - min a.2 b.2).toNat = b.1 * 10 ^ (b.2 - min a.2 b.2).toNat

instance (a b : Int × Int) : Decidable (SameNumber a b) := by unfold SameNumber; infer_instance

/-- both texts are numbers and denote the same number -/
def SameNumberO : Option (Int × Int) → Option (Int × Int) → Prop
  | some a, some b => SameNumber a b
  | _, _ => False

instance (a b : Option (Int × Int)) : Decidable (SameNumberO a b) := by
  unfold SameNumberO; split <;> infer_instance

theorem SameNumber.refl (a : Int × Int) : SameNumber a a := rfl

theorem SameNumberO.of_eq {a b : Option (Int × Int)} {v : Int × Int} (ha : a = some v) (hb : b = some v) :
    SameNumberO a b := by subst ha hb; exact SameNumber.refl v

example : decVal "-12.0340e+07".toUTF8.toList = some (-120340, 3) := by decide +kernel
example : decVal "1E400".toUTF8.toList = some (1, 400) := by decide +kernel
example : decVal "0.000000000000000000001".toUTF8.toList = some (1, -21) := by decide +kernel
example : decVal "1.".toUTF8.toList = none ∧ decVal "1e".toUTF8.toList = none ∧ decVal "-".toUTF8.toList = none
    ∧ decVal "1.5x".toUTF8.toList = none ∧ decVal "+1".toUTF8.toList = none := by decide +kernel
example : SameNumber (-120340, 3) (-12034, 4) ∧ SameNumber (15, -1) (1500, -3) ∧ ¬ SameNumber (15, -1) (15, 0) := by decide

/-- exponent part: the `e`/`E` byte, the sign bytes (none, `+` or `-`), the digits -/
structure ExpPart where
  e : UInt8
  sg : Bytes
  es : Bytes

/-- sign, integer digits, optional fraction digits, optional exponent part -/
structure Parts where
  neg : Bool
  ip : Bytes
  fo : Option Bytes
  eo : Option ExpPart

def sgnTxt (neg : Bool) : Bytes := if neg then [45] else []

def fracTxt : Option Bytes → Bytes
  | none => []
  | some fs => 46 :: fs

def expTxt : Option ExpPart → Bytes
  | none => []
  | some x => x.e :: (x.sg ++ x.es)

/-- the literal written out -/
def render (p : Parts) : Bytes := sgnTxt p.neg ++ (p.ip ++ (fracTxt p.fo ++ expTxt p.eo))

def fracLen : Option Bytes → Nat
  | none => 0
  | some fs => fs.length

def fracNat : Option Bytes → Nat
  | none => 0
  | some fs => natOf fs

def expNat : Option ExpPart → Nat
  | none => 0
  | some x => natOf x.es

def expNeg : Option ExpPart → Bool
  | none => false
  | some x => decide (x.sg = [45])

def expVal (eo : Option ExpPart) : Int := if expNeg eo then -(expNat eo : Int) else (expNat eo : Int)

/-- magnitude of the mantissa: integer digits followed by the fraction digits -/
def mantNat (p : Parts) : Nat := natOf p.ip * 10 ^ fracLen p.fo + fracNat p.fo

/-- value of the parts: (signed mantissa, exponent − number of fraction digits) -/
def pval (p : Parts) : Int × Int :=
  (if p.neg then -(mantNat p : Int) else (mantNat p : Int), expVal p.eo - (fracLen p.fo : Int))

def ExpPart.WF (x : ExpPart) : Prop :=
  (x.e = 101 ∨ x.e = 69) ∧ (x.sg = [] ∨ x.sg = [43] ∨ x.sg = [45]) ∧ Dig x.es ∧ x.es ≠ []

/-- well-formed parts: digit runs are digit runs and none is empty (leading zeros are allowed) -/
def Parts.WF (p : Parts) : Prop :=
  Dig p.ip ∧ p.ip ≠ [] ∧ (∀ fs, p.fo = some fs → Dig fs ∧ fs ≠ []) ∧ (∀ x, p.eo = some x → x.WF)

theorem Dig.nil : Dig [] := fun _ h => nomatch h

theorem Dig.cons {d : UInt8} {r : Bytes} (hd : Spec.isDigit d = true) (hr : Dig r) : Dig (d :: r) := by
  intro x hx
  rcases List.mem_cons.mp hx with h | h
  · rw [h]; exact hd
  · exact hr x h

theorem Dig.head {d : UInt8} {r : Bytes} (h : Dig (d :: r)) : Spec.isDigit d = true := h d List.mem_cons_self

theorem Dig.tail {d : UInt8} {r : Bytes} (h : Dig (d :: r)) : Dig r := fun x hx => h x (List.mem_cons_of_mem _ hx)

theorem Dig.append {a b : Bytes} (ha : Dig a) (hb : Dig b) : Dig (a ++ b) := by
  intro x hx
  rcases List.mem_append.mp hx with h | h
  · exact ha x h
  · exact hb x h

theorem Dig.snoc {a : Bytes} {b : UInt8} (ha : Dig a) (hb : Spec.isDigit b = true) : Dig (a ++ [b]) :=
  ha.append (Dig.cons hb Dig.nil)

theorem Dig.all {ds : Bytes} (h : Dig ds) : ds.all Spec.isDigit = true := by
  simp only [List.all_eq_true]; exact h

theorem isDigit_ofNat (r : Nat) (h : r < 10) : Spec.isDigit (UInt8.ofNat (48 + r)) = true := by
  have key : ∀ i : Fin 10, Spec.isDigit (UInt8.ofNat (48 + i.val)) = true := by decide
  exact key ⟨r, h⟩

theorem fmtNatAux_dig (fuel n : Nat) (acc : Bytes) (h : Dig acc) : Dig (fmtNatAux fuel n acc) := by
  induction fuel generalizing n acc with
  | zero => exact h
  | succ f ih =>
    unfold fmtNatAux
    split
    · rename_i hlt; exact Dig.cons (isDigit_ofNat n hlt) h
    · exact ih _ _ (Dig.cons (isDigit_ofNat (n % 10) (Nat.mod_lt _ (by omega))) h)

theorem fmtNat_dig (n : Nat) : Dig (fmtNat n) := fmtNatAux_dig _ _ _ Dig.nil

theorem isDigitB_of_isDigit (d : UInt8) (h : Spec.isDigit d = true) : isDigitB d := by
  unfold Spec.isDigit at h
  simp only [Bool.and_eq_true, decide_eq_true_eq] at h
  have h1 := h.1; have h2 := h.2
  rw [UInt8.le_iff_toNat_le] at h1 h2
  exact ⟨by simpa using h1, by simpa using h2⟩

theorem isDigitB_of_dig {ds : Bytes} (h : Dig ds) : ∀ d ∈ ds, isDigitB d :=
  fun d hd => isDigitB_of_isDigit d (h d hd)

/-- the first unread byte, if there is one, satisfies `P` -/
def HeadAll (P : UInt8 → Prop) (r : Bytes) : Prop := ∀ x t, r = x :: t → P x

theorem HeadAll.nil (P : UInt8 → Prop) : HeadAll P [] := fun _ _ h => nomatch h

theorem HeadAll.cons {P : UInt8 → Prop} {x : UInt8} {t : Bytes} (h : P x) : HeadAll P (x :: t) :=
  fun _ _ e => by cases e; exact h

theorem HeadAll.imp {P Q : UInt8 → Prop} {r : Bytes} (h : HeadAll P r) (hpq : ∀ x, P x → Q x) : HeadAll Q r :=
  fun x t e => hpq x (h x t e)

theorem HeadAll.and {P Q : UInt8 → Prop} {r : Bytes} (h1 : HeadAll P r) (h2 : HeadAll Q r) :
    HeadAll (fun x => P x ∧ Q x) r := fun x t e => ⟨h1 x t e, h2 x t e⟩

/-- the unread input does not continue a digit run -/
def NoDigitHead (r : Bytes) : Prop := HeadAll (fun x => Spec.isDigit x = false) r

theorem takeDigits_append (ds r : Bytes) (hds : Dig ds) (hr : NoDigitHead r) : Spec.takeDigits (ds ++ r) = (ds, r) := by
  induction ds with
  | nil =>
    cases r with
    | nil => rfl
    | cons x t => simp only [List.nil_append, Spec.takeDigits, hr x t rfl, Bool.false_eq_true, ↓reduceIte]
  | cons d ds ih =>
    simp only [List.cons_append, Spec.takeDigits, hds.head, ↓reduceIte, ih hds.tail]

theorem decDigits_dig (ds : Bytes) (hds : Dig ds) (hne : ds ≠ []) : decDigits ds = some (natOf ds) := by
  unfold decDigits
  have : ds.isEmpty = false := List.isEmpty_eq_false_iff.mpr hne
  simp [this, hds.all]

theorem digit_ne (d : UInt8) (hd : Spec.isDigit d = true) : d ≠ 45 ∧ d ≠ 43 ∧ d ≠ 46 ∧ d ≠ 101 ∧ d ≠ 69 := by
  refine ⟨?_, ?_, ?_, ?_, ?_⟩ <;> (intro h; subst h; revert hd; decide)

theorem decExp_expTxt (eo : Option ExpPart) (h : ∀ x, eo = some x → x.WF) : decExp (expTxt eo) = some (expVal eo) := by
  cases eo with
  | none => rfl
  | some x =>
    obtain ⟨he, hsg, hdig, hne⟩ := h x rfl
    have he' : (x.e = 101 || x.e = 69) = true := by simpa using he
    obtain ⟨d, ds, hes⟩ := List.exists_cons_of_ne_nil hne
    simp only [expTxt, decExp, he', ↓reduceIte]
    rcases hsg with hs | hs | hs
    · -- no sign: the first exponent digit is neither `-` nor `+`
      have hd : Spec.isDigit d = true := by rw [hes] at hdig; exact hdig.head
      have hn := digit_ne d hd
      simp only [hs, List.nil_append, hes, hn.1, hn.2.1, ↓reduceIte]
      rw [← hes, decDigits_dig _ hdig hne]
      simp [expVal, expNeg, expNat, hs]
    · simp only [hs, List.cons_append, List.nil_append, show ((43 : UInt8) = 45) = False by decide, ↓reduceIte]
      rw [decDigits_dig _ hdig hne]
      simp [expVal, expNeg, expNat, hs]
    · simp only [hs, List.cons_append, List.nil_append, ↓reduceIte]
      rw [decDigits_dig _ hdig hne]
      simp [expVal, expNeg, expNat, hs]

theorem expTxt_head (P : UInt8 → Prop) (h101 : P 101) (h69 : P 69) (eo : Option ExpPart)
    (h : ∀ x, eo = some x → x.WF) : HeadAll P (expTxt eo) := by
  intro y t hy
  cases eo with
  | none => cases hy
  | some x =>
    simp only [expTxt, List.cons.injEq] at hy
    obtain ⟨he, _⟩ := h x rfl
    rw [← hy.1]
    rcases he with h | h <;> rw [h] <;> assumption

theorem decFracExp_txt (fo : Option Bytes) (eo : Option ExpPart)
    (hf : ∀ fs, fo = some fs → Dig fs ∧ fs ≠ []) (he : ∀ x, eo = some x → x.WF) :
    decFracExp (fracTxt fo ++ expTxt eo) = some ((fo.getD []), expVal eo) := by
  cases fo with
  | none =>
    simp only [fracTxt, List.nil_append, Option.getD_none]
    cases hx : expTxt eo with
    | nil =>
      cases eo with
      | none => rfl
      | some x => simp [expTxt] at hx
    | cons c r =>
      have hc := expTxt_head (· ≠ 46) (by decide) (by decide) eo he c r hx
      simp only [decFracExp, hc, ↓reduceIte]
      rw [← hx, decExp_expTxt eo he]; rfl
  | some fs =>
    obtain ⟨hd, hne⟩ := hf fs rfl
    have htd := takeDigits_append fs (expTxt eo) hd (expTxt_head _ (by decide) (by decide) eo he)
    have hemp : fs.isEmpty = false := List.isEmpty_eq_false_iff.mpr hne
    simp only [fracTxt, List.cons_append, decFracExp, ↓reduceIte, htd, hemp, Bool.false_eq_true,
      decExp_expTxt eo he, Option.map_some, Option.getD_some]

theorem noDig_fracExp (fo : Option Bytes) (eo : Option ExpPart) (he : ∀ x, eo = some x → x.WF) :
    NoDigitHead (fracTxt fo ++ expTxt eo) := by
  cases fo with
  | none => exact expTxt_head _ (by decide) (by decide) eo he
  | some fs =>
    intro y t hy
    simp only [fracTxt, List.cons_append, List.cons.injEq] at hy
    rw [← hy.1]; decide

theorem decUnsigned_txt (ip : Bytes) (fo : Option Bytes) (eo : Option ExpPart) (hip : Dig ip) (hne : ip ≠ [])
    (hf : ∀ fs, fo = some fs → Dig fs ∧ fs ≠ []) (he : ∀ x, eo = some x → x.WF) :
    decUnsigned (ip ++ (fracTxt fo ++ expTxt eo)) =
      some (natOf ip * 10 ^ fracLen fo + fracNat fo, expVal eo - (fracLen fo : Int)) := by
  have htd := takeDigits_append ip _ hip (noDig_fracExp fo eo he)
  have hemp : ip.isEmpty = false := List.isEmpty_eq_false_iff.mpr hne
  simp only [decUnsigned, htd, hemp, Bool.false_eq_true, ↓reduceIte, decFracExp_txt fo eo hf he, Option.map_some]
  cases fo with
  | none => simp [fracLen, fracNat]
  | some fs => simp [fracLen, fracNat, natOf_append]

/-- **The written literal denotes the value of its parts.** -/
theorem decVal_render (p : Parts) (h : p.WF) : decVal (render p) = some (pval p) := by
  obtain ⟨hip, hne, hf, he⟩ := h
  have hu := decUnsigned_txt p.ip p.fo p.eo hip hne hf he
  unfold render pval mantNat
  cases hn : p.neg with
  | true =>
    simp only [sgnTxt, ↓reduceIte, List.cons_append, List.nil_append, decVal, hu, Option.map_some]
  | false =>
    obtain ⟨d, ds, hd⟩ := List.exists_cons_of_ne_nil hne
    have hd45 : d ≠ 45 := (digit_ne d (by rw [hd] at hip; exact hip.head)).1
    simp only [sgnTxt, Bool.false_eq_true, ↓reduceIte, List.nil_append]
    rw [hd] at hu ⊢
    simp only [List.cons_append] at hu ⊢
    simp only [decVal, hd45, ↓reduceIte, hu, Option.map_some]

end OjgVerif.Json
