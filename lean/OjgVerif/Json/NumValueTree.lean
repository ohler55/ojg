import OjgVerif.Json.RefineTree
/-! # Every number leaf of a specification tree is a literal read by `Spec.pNumber`

`JV.NumsAll Q v`: every number literal (`.num lit` leaf) of the specification tree `v` satisfies `Q`.
The grammar `pValueG pc JV.num` (the trees of `parseTextS`, the right-hand side of `run_structure`)
produces `.num` leaves only from `Spec.pNumber`, so a property of all literals `Spec.pNumber` reads
holds at every number of every document (`pValueG_numsAll`, `parseTextS_numsAll`). -/
namespace OjgVerif.Json

mutual
  /-- `Q` holds of every number literal in the tree -/
  def JV.NumsAll (Q : Bytes → Prop) : JV → Prop
    | .num lit => Q lit
    | .arr xs => JV.NumsAllList Q xs
    | .obj kvs => JV.NumsAllKvs Q kvs
    | .null => True
    | .bool _ => True
    | .int _ => True
    | .flt _ => True
    | .big _ => True
    | .str _ => True
  def JV.NumsAllList (Q : Bytes → Prop) : List JV → Prop
    | [] => True
    | x :: r => JV.NumsAll Q x ∧ JV.NumsAllList Q r
  def JV.NumsAllKvs (Q : Bytes → Prop) : List (Bytes × JV) → Prop
    | [] => True
    | (_, v) :: r => JV.NumsAll Q v ∧ JV.NumsAllKvs Q r
end

theorem numsAllList_append (Q : Bytes → Prop) (a b : List JV) :
    JV.NumsAllList Q (a ++ b) ↔ JV.NumsAllList Q a ∧ JV.NumsAllList Q b := by
  induction a with
  | nil => simp [JV.NumsAllList]
  | cons x r ih => simp [JV.NumsAllList, ih, and_assoc]

theorem numsAllList_reverse (Q : Bytes → Prop) (a : List JV) (h : JV.NumsAllList Q a) :
    JV.NumsAllList Q a.reverse := by
  induction a with
  | nil => exact h
  | cons x r ih =>
    rw [List.reverse_cons, numsAllList_append]
    exact ⟨ih h.2, h.1, trivial⟩

theorem numsAllKvs_insert (Q : Bytes → Prop) (k : Bytes) (v : JV) (kvs : List (Bytes × JV))
    (hv : JV.NumsAll Q v) (h : JV.NumsAllKvs Q kvs) : JV.NumsAllKvs Q (kvInsert k v kvs) := by
  induction kvs with
  | nil => exact ⟨hv, trivial⟩
  | cons p r ih =>
    obtain ⟨k', v'⟩ := p
    simp only [kvInsert]
    by_cases hk : k' = k
    · simp only [hk, ↓reduceIte]; exact ⟨hv, h.2⟩
    · simp only [hk, ↓reduceIte]; exact ⟨h.1, ih h.2⟩

/-- every tree a value reader returns has `Q` at all its numbers -/
def PvAll (Q : Bytes → Prop) (pv : Bytes → Option (JV × Bytes)) : Prop :=
  ∀ bs v rest, pv bs = some (v, rest) → JV.NumsAll Q v

/-- the predicate "`Q` at all numbers" as a relation the grammar preserves: the same tree, and `Q` at all its numbers -/
def TreeRel.numsAll (Q : Bytes → Prop) : TreeRel where
  R a b := a = b ∧ JV.NumsAll Q a
  Rb s t := s = t
  Ra a b := a = b ∧ JV.NumsAllList Q a
  Ro a b := a = b ∧ JV.NumsAllKvs Q a
  null := ⟨rfl, trivial⟩
  bool _ := ⟨rfl, trivial⟩
  str h := ⟨by rw [h], trivial⟩
  nil := ⟨rfl, trivial⟩
  cons h1 h2 := ⟨by rw [h1.1, h2.1], h1.2, h2.2⟩
  arr h := ⟨by rw [h.1], numsAllList_reverse Q _ h.2⟩
  empty := ⟨rfl, trivial⟩
  insert hk hv ha := ⟨by rw [hk, hv.1, ha.1], numsAllKvs_insert Q _ _ _ hv.2 ha.2⟩
  obj h := ⟨by rw [h.1], h.2⟩

/-- **every number leaf comes from `Spec.pNumber`**: a property of all literals the specification reads
holds at every number of every tree of the grammar -/
theorem pValueG_numsAll (Q : Bytes → Prop) (hQ : ∀ bs lit rest, Spec.pNumber bs = some (lit, rest) → Q lit)
    (pc : Nat → Bytes → Option (Bytes × Bytes)) : ∀ f, PvAll Q (pValueG pc JV.num f) := by
  intro f bs v rest h
  rcases pValueG_rel (lax := False) (TreeRel.numsAll Q) (fun r => .same (fun _ => rfl) (pc r.length r))
      (nc1 := JV.num) (nc2 := JV.num) (fun bs lit rest hp => ⟨rfl, hQ bs lit rest hp⟩) f bs with ⟨e1, _⟩ | ⟨a, b, r, e1, _, hab⟩
  · rw [e1] at h; cases h
  · rw [e1] at h; cases h; exact hab.2

theorem parseTextS_numsAll (Q : Bytes → Prop) (hQ : ∀ bs lit rest, Spec.pNumber bs = some (lit, rest) → Q lit)
    (bs : Bytes) (v : JV) (h : parseTextS bs = .one v) : JV.NumsAll Q v := by
  have h1 := parseTextG_rel (lax := False) (TreeRel.numsAll Q) (fun r => .same (fun _ => rfl) (pCharsM r.length r))
    (nc1 := JV.num) (nc2 := JV.num) (fun bs lit rest hp => ⟨rfl, hQ bs lit rest hp⟩) bs
  rw [← parseTextS_eq, h] at h1
  exact h1.2

end OjgVerif.Json
