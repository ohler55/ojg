import OjgVerif.Json.NumValue
/-! What the number automaton does to the accumulator of `gen/number.go` over the bytes of a literal, as a
function of its `Parts`: `acc p`. Only `Num`, `Parts` and bytes are mentioned; that the machine performs `acc p`
over `render p` is `render_run` (`RefineNum`), that `acc p` holds the value of `p` is `tracks_acc` (`NumValueScan`). -/
namespace OjgVerif.Json

/-- what the machine does with `.` and `e`/`E`: appended when in text form, otherwise nothing. This and
`signStep` are the `numDot`, `fracE` and `expSign` arms of `numStep` (`Refine.lean`), which has them written
out; `numStep_dot`, `numStep_e`, `numStep_sign` (`RefineNum.lean`) identify the two by `rfl`. -/
def passThru (n : Num) (b : UInt8) : Num := if 0 < n.big.length then { n with big := n.big ++ [b] } else n

/-- what the machine does with the sign of the exponent -/
def signStep (n : Num) (b : UInt8) : Num :=
  { n with big := if 0 < n.big.length then n.big ++ [b] else n.big, negExp := n.negExp || b = 45 }

/-- `AddDigit` over the integer digits, behind the sign `s` -/
def accInt (s : Bool) (ip : Bytes) : Num := ip.foldl Num.addDigit ({ neg := s } : Num)

/-- the `.` passed through and `AddFrac` over the fraction digits, if there is a fraction -/
def accFrac (n : Num) : Option Bytes → Num
  | none => n
  | some fs => fs.foldl Num.addFrac (passThru n 46)

/-- the sign of the exponent; `sg` is `[]`, `[43]` or `[45]` (`ExpPart.WF`), so its first byte is all of it -/
def accSign (n : Num) : Bytes → Num
  | [] => n
  | c :: _ => signStep n c

/-- `e`/`E` passed through, the sign, and `AddExp` over the exponent digits, if there is an exponent -/
def accExp (n : Num) : Option ExpPart → Num
  | none => n
  | some x => x.es.foldl Num.addExp (accSign (passThru n x.e) x.sg)

/-- the accumulator after all bytes of the literal `render p` -/
def acc (p : Parts) : Num := accExp (accFrac (accInt p.neg p.ip) p.fo) p.eo

end OjgVerif.Json
