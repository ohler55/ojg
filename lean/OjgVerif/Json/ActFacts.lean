import OjgVerif.Json.Lemmas
import OjgVerif.Json.NumLemmas
/-! # What an action of the reference transition function says about its mode and its byte

Every action occurs only in its source modes (`src_ok`); in a known mode `expected` is a chain of tests
on the byte. The facts the fast paths rely on (a digit action means a digit byte, a newline action byte 10,
a mode that skips a newline skips blanks, …) are read off these two. -/
namespace OjgVerif.Json

theorem act_src {m : Mode} {b : UInt8} {a : Act} (h : expected m b = a) : m ∈ srcModes a := h ▸ src_ok m b

theorem ite_ne {α : Type} {c : Prop} [Decidable c] {a b x : α} (ha : a ≠ x) (hb : b ≠ x) : (if c then a else b) ≠ x := by
  split <;> assumption

theorem expectedNumEnd_ne_numDigit (b : UInt8) : expectedNumEnd b ≠ .numDigit :=
  ite_ne nofun (ite_ne nofun (ite_ne nofun (ite_ne nofun (ite_ne nofun nofun))))

theorem digit_numDigit_iff (b : UInt8) : expected .digit b = .numDigit ↔ isDigit b = true := by
  refine ⟨fun h => ?_, fun h => if_pos h⟩
  by_cases hd : isDigit b = true
  · exact hd
  · rw [show expected .digit b = _ from if_neg hd] at h
    exact absurd h (ite_ne nofun (ite_ne nofun (expectedNumEnd_ne_numDigit b)))

theorem numDigit_isDigit (m : Mode) (b : UInt8) (h : expected m b = .numDigit) : isDigitB b := by
  have hm : m = .digit := by simpa [srcModes] using act_src h
  subst hm
  have := (digit_numDigit_iff b).mp h
  simp only [isDigit, Bool.and_eq_true, decide_eq_true_eq, UInt8.le_iff_toNat_le] at this
  exact this

theorem act_mode_facts (m : Mode) (b : UInt8) :
    (expected m b = .strOk → m = .string) ∧ (expected m b = .strQuote → m = .string) ∧
    (expected m b = .strSlash → m = .string) ∧ (expected m b = .escOk → m = .esc) ∧
    (expected m b = .escU → m = .esc) ∧ (expected m b = .uOk → m = .u) ∧
    (expected m b = .tokenOk → ((m = .null ∨ m = .true_) ∨ m = .false_)) := by
  refine ⟨?_, ?_, ?_, ?_, ?_, ?_, ?_⟩ <;> intro h <;> simpa [srcModes, or_assoc] using act_src h

theorem num_mode_facts (m : Mode) (b : UInt8) :
    (expected m b = .numZero → m = .neg) ∧ (expected m b = .negDigit → m = .neg) ∧
    (expected m b = .numDigit → m = .digit) ∧ (expected m b = .numDot → (m = .zero ∨ m = .digit)) := by
  refine ⟨?_, ?_, ?_, ?_⟩ <;> intro h <;> simpa [srcModes] using act_src h

theorem valDigit_is_digit (md : Mode) (b : UInt8) (h : expected md b = .valDigit) :
    expected .digit b = .numDigit := by
  have hm := act_src h
  simp only [srcModes, List.mem_cons, List.not_mem_nil, or_false] at hm
  have hv : expectedValueStart b = .valDigit := by
    rcases hm with rfl | rfl
    · exact Classical.byContradiction fun hn => absurd h (ite_ne nofun (ite_ne nofun hn))
    · exact h
  have h19 : isDigit19 b = true := by
    by_cases h19 : isDigit19 b = true
    · exact h19
    · refine absurd hv (ite_ne nofun (ite_ne nofun (ite_ne nofun (ite_ne nofun (ite_ne nofun ?_)))))
      rw [if_neg h19]
      exact ite_ne nofun (ite_ne nofun (ite_ne nofun (ite_ne nofun (ite_ne nofun nofun))))
  rw [digit_numDigit_iff]
  simp only [isDigit19, isDigit, Bool.and_eq_true, decide_eq_true_eq, UInt8.le_iff_toNat_le] at h19 ⊢
  exact ⟨Nat.le_trans (by decide) h19.1, h19.2⟩

theorem valueStart_lits {md : Mode} (h : md ∈ [Mode.value, .comma]) :
    expected md 110 = .valNull ∧ expected md 116 = .valTrue ∧ expected md 102 = .valFalse := by
  simp only [List.mem_cons, List.not_mem_nil, or_false] at h
  rcases h with rfl | rfl <;> exact ⟨rfl, rfl, rfl⟩

theorem digit_frac_facts (c : UInt8) (h : expected .digit c = .numDigit) :
    expected .dot c = .numFrac ∧ expected .frac c = .numFrac :=
  ⟨if_pos ((digit_numDigit_iff c).mp h), if_pos ((digit_numDigit_iff c).mp h)⟩

theorem nl_is_10 (md : Mode) (b : UInt8) (h : expected md b = .skipNewline ∨ expected md b = .numNewline) : b = 10 := by
  have hne : expected md b ≠ .charErr := by rcases h with h | h <;> rw [h] <;> simp
  have := nlAct_iff md b hne
  rcases h with h | h <;> simpa [h, isNlAct] using this

theorem ws_mode_fact (md : Mode) (c : UInt8) (h1 : expected md 10 = .skipNewline)
    (h2 : expected .space c = .skipChar) : expected md c = .skipChar := by
  have hws : isWsNoNl c = true := by
    by_cases hn : isWsNoNl c = true
    · exact hn
    · rw [show expected .space c = _ from if_neg hn] at h2
      split at h2 <;> cases h2
  have hm := act_src h1
  simp only [srcModes, List.mem_cons, List.not_mem_nil, or_false] at hm
  rcases hm with rfl | rfl | rfl | rfl | rfl | rfl | rfl
  · -- `value` looks for the closing brackets first
    have hne : ∀ x : UInt8, isWsNoNl x = false → c ≠ x := fun x hx hc => by rw [hc, hx] at hws; cases hws
    exact (if_neg (hne 93 rfl)).trans ((if_neg (hne 125 rfl)).trans (if_pos hws))
  all_goals exact if_pos hws

end OjgVerif.Json
