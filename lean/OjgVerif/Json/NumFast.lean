import OjgVerif.Json.NumLemmas
/-! The digit step of the parsers' integer fast loop against `Num.addDigit`. -/
namespace OjgVerif.Json

/-- the fast loop's digit step is `AddDigit` unless the accumulator equals `BigLimit` exactly -/
theorem fast_digit_eq_slow (n : Num) (b : UInt8) (hbig : n.big = []) (hne : n.i ≠ BigLimit) (hb : isDigitB b) :
    (if BigLimit ≤ n.i then n.fillBig.addDigit b else ({ n with i := n.i * 10 + (b - 48).toUInt64 } : Num)) =
      n.addDigit b := by
  have hd := dval_le_9 b hb
  have hBL : BigLimit.toNat = 922337203685477580 := rfl
  unfold Num.addDigit
  simp only [hbig, List.length_nil, Nat.lt_irrefl, ↓reduceIte]
  by_cases hle : BigLimit ≤ n.i
  · -- above the limit (not equal): both switch to text and append the digit
    have hgt : ¬ n.i ≤ BigLimit := by
      intro h2
      apply hne
      apply UInt64.toNat_inj.mp
      rw [UInt64.le_iff_toNat_le] at hle h2
      omega
    simp only [hle, hgt, ↓reduceIte]
    rw [if_pos (List.length_pos_iff.mpr (fillBig_big_ne_nil n))]
  · have hlt : n.i.toNat < 922337203685477580 := by
      rw [UInt64.le_iff_toNat_le] at hle; omega
    have hle2 : n.i ≤ BigLimit := by rw [UInt64.le_iff_toNat_le]; omega
    have hval := toNat_mul10_add n.i b hb (by omega)
    have hmax : ¬ MaxInt64 < n.i * 10 + (b - 48).toUInt64 := by
      rw [UInt64.lt_iff_toNat_lt, hval]
      have hm : MaxInt64.toNat = 9223372036854775807 := rfl
      omega
    simp only [hle, hle2, hmax, ↓reduceIte]

end OjgVerif.Json
