import OjgVerif.Json.BufStep
/-! # The number invariant the fraction loop of `numDot` relies on, kept by every step of the byte machine -/
namespace OjgVerif.Json

variable {T : Tables} (hT : TablesOK T) (cfg : Cfg)

def numMode (md : Mode) : Prop := md = .zero ∨ md = .digit ∨ md = .neg

/-- while the integer part is being read (and the number is not in text form) no fraction digit has
been seen: `Frac == 0`, `Div == 1` -/
def NumInv (s : St) : Prop := numMode s.mode → s.num.big = [] → s.num.frac = 0 ∧ s.num.div = 1

theorem NumInv.init : NumInv {} := by intro h; rcases h with h | h | h <;> cases h

theorem addDigit_keeps (n : Num) (b : UInt8) (h : (n.addDigit b).big = []) :
    (n.addDigit b).frac = n.frac ∧ (n.addDigit b).div = n.div := by
  unfold Num.addDigit at h ⊢
  by_cases h1 : 0 < n.big.length
  · simp only [h1, ↓reduceIte] at h; simp at h
  · simp only [h1, ↓reduceIte] at h ⊢
    by_cases h2 : n.i ≤ BigLimit
    · simp only [h2, ↓reduceIte] at h ⊢
      split at h
      · exact absurd h (fillBig_big_ne_nil _)
      · rename_i h3; simp only [h3, ↓reduceIte, and_self]
    · simp only [h2, ↓reduceIte] at h; simp at h

theorem addDigit_big_nil {n : Num} {b : UInt8} (h : (n.addDigit b).big = []) : n.big = [] := by
  unfold Num.addDigit at h
  by_cases h1 : 0 < n.big.length
  · simp only [h1, ↓reduceIte] at h; simp at h
  · simpa using h1

theorem numInv_of_mode {s : St} (h : ¬ numMode s.mode) : NumInv s := fun hm => absurd hm h

theorem numInv_same {s s' : St} (hm : s'.mode = s.mode) (hn : s'.num = s.num) (h : NumInv s) : NumInv s' := by
  unfold NumInv at *; rw [hm, hn]; exact h

theorem deliver_numInv (s : St) (h : NumInv s) : NumInv (deliver T cfg s) := by
  unfold deliver
  split
  · apply numInv_of_mode
    cases cfg.onlyOne <;> (intro hm; rcases hm with hm | hm | hm <;> simp at hm)
  · exact h

/-- only the five actions that write the number and stay in or enter an integer mode need a look; the others
leave mode and number alone or leave the integer modes -/
theorem Act.upd_numInv {a : Act} {b : UInt8} {s : St} {st : List Item}
    (hsrc : s.mode ∈ srcModes a) (hi : NumInv s) (hn : NmOK s) : NumInv (a.upd refTables cfg b s st) := by
  cases a <;> simp only [srcModes, List.mem_cons, List.not_mem_nil, or_false] at hsrc <;> simp only [Act.upd]
  case val0 | valDigit | valNeg => intro _ _; exact ⟨rfl, rfl⟩
  case negDigit =>
    intro _ hb'
    have := addDigit_keeps s.num b hb'
    rw [this.1, this.2]
    exact hi (Or.inr (Or.inr hsrc)) (addDigit_big_nil hb')
  case numDigit =>
    intro _ hb'
    simp only at hb' ⊢
    by_cases hf : s.inFast = true
    · simp only [hf, ↓reduceIte] at hb' ⊢
      by_cases hl : BigLimit ≤ s.num.i
      · simp only [hl, ↓reduceIte] at hb'
        unfold Num.addDigit at hb'
        rw [if_pos (List.length_pos_iff.mpr (fillBig_big_ne_nil _))] at hb'
        simp at hb'
      · simp only [hl, ↓reduceIte] at hb' ⊢
        exact hi (Or.inr (Or.inl hsrc)) hb'
    · simp only [hf, Bool.false_eq_true, ↓reduceIte] at hb' ⊢
      have := addDigit_keeps s.num b hb'
      rw [this.1, this.2]
      exact hi (Or.inr (Or.inl hsrc)) (addDigit_big_nil hb')
  case skipChar | skipNewline | strOk | charErr => exact hi
  case numZero => exact fun _ => hi (Or.inr (Or.inr hsrc))
  all_goals apply numInv_of_mode
  case strQuote => rcases hn with hn | hn <;> simp only [hn] <;> rintro (h | h | h) <;> cases h
  case afterComma | numComma => unfold afterCommaMode; split <;> rintro (h | h | h) <;> cases h
  case uOk => simp only [hsrc]; split <;> rintro (h | h | h) <;> cases h
  case tokenOk =>
    cases tokLit refTables s.mode with
    | none => rcases hsrc with hs | hs | hs <;> simp only [hs] <;> rintro (h | h | h) <;> cases h
    | some p =>
      simp only []
      split
      · rintro (h | h | h) <;> cases h
      · rcases hsrc with hs | hs | hs <;> simp only [hs] <;> rintro (h | h | h) <;> cases h
  all_goals rintro (h | h | h) <;> cases h

include hT in
theorem stepAct_numInv (s s' : St) (b : UInt8) (c : Bool) (h : stepAct T cfg s b = .ok (s', c))
    (hi : NumInv s) (hn : NmOK s) : NumInv s' := by
  rw [stepAct_eq_ref hT, stepAct_eq] at h
  split at h <;> cases h
  exact Act.upd_numInv cfg (src_ok s.mode b) hi hn

include hT in
theorem step_numInv (m m' : St) (b : UInt8) (h : step T cfg m b = .ok m') (hi : NumInv m) (hn : NmOK m) :
    NumInv m' := by
  obtain ⟨s1, c, hst, rfl⟩ := step_ok h
  have h1 := stepAct_numInv hT cfg m s1 b c hst hi hn
  cases c
  · exact numInv_same rfl rfl (deliver_numInv cfg s1 h1)
  · exact numInv_same rfl rfl h1

end OjgVerif.Json
