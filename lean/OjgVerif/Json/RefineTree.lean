import OjgVerif.Json.RefineSpec
/-! Structure of the returned tree: the grammar over any number conversion returns the tree of the
grammar over number literals with each literal converted (used by C02). -/
namespace OjgVerif.Json

mutual
  /-- replace every number literal of a specification tree by its conversion -/
  def JV.mapNum (nc : Bytes → JV) : JV → JV
    | .num lit => nc lit
    | .arr xs => .arr (JV.mapNumList nc xs)
    | .obj kvs => .obj (JV.mapNumKvs nc kvs)
    | .null => .null
    | .bool b => .bool b
    | .int i => .int i
    | .flt t => .flt t
    | .big t => .big t
    | .str s => .str s
  def JV.mapNumList (nc : Bytes → JV) : List JV → List JV
    | [] => []
    | x :: r => JV.mapNum nc x :: JV.mapNumList nc r
  def JV.mapNumKvs (nc : Bytes → JV) : List (Bytes × JV) → List (Bytes × JV)
    | [] => []
    | (k, v) :: r => (k, JV.mapNum nc v) :: JV.mapNumKvs nc r
end

theorem mapNumList_eq (nc : Bytes → JV) (xs : List JV) : JV.mapNumList nc xs = xs.map (JV.mapNum nc) := by
  induction xs with
  | nil => rfl
  | cons x r ih => simp [JV.mapNumList, ih]

theorem mapNumKvs_eq (nc : Bytes → JV) (kvs : List (Bytes × JV)) :
    JV.mapNumKvs nc kvs = kvs.map (fun p => (p.1, JV.mapNum nc p.2)) := by
  induction kvs with
  | nil => rfl
  | cons p r ih => obtain ⟨k, v⟩ := p; simp [JV.mapNumKvs, ih]

theorem mapNumKvs_insert (nc : Bytes → JV) (k : Bytes) (v : JV) (kvs : List (Bytes × JV)) :
    JV.mapNumKvs nc (kvInsert k v kvs) = kvInsert k (JV.mapNum nc v) (JV.mapNumKvs nc kvs) := by
  induction kvs with
  | nil => rfl
  | cons p r ih =>
    obtain ⟨k', v'⟩ := p
    simp only [kvInsert, JV.mapNumKvs]
    by_cases h : k' = k
    · simp [h, JV.mapNumKvs]
    · simp [h, JV.mapNumKvs, ih]

/-- a value reader `q` returns the trees of `p` with numbers converted -/
def MapsNum (nc : Bytes → JV) (p q : Option (JV × Bytes)) : Prop :=
  q = p.map fun x => (JV.mapNum nc x.1, x.2)

/-- the relation "the same tree with each number literal converted" -/
def TreeRel.mapNum (nc : Bytes → JV) : TreeRel where
  R a b := b = JV.mapNum nc a
  Rb s t := s = t
  Ra a b := b = JV.mapNumList nc a
  Ro a b := b = JV.mapNumKvs nc a
  null := rfl
  bool _ := rfl
  str h := by subst h; rfl
  nil := rfl
  cons h1 h2 := by subst h1; subst h2; rfl
  arr h := by subst h; simp only [JV.mapNum, mapNumList_eq, List.map_reverse]
  empty := rfl
  insert hk hv ha := by subst hk; subst hv; subst ha; exact (mapNumKvs_insert nc _ _ _).symm
  obj h := by subst h; rfl

/-- **Structure.** Whatever the number conversion, the grammar returns the same tree — same
nesting, element order, member names with the last duplicate winning, decoded strings — with each
number literal replaced by its conversion, and leaves the same rest. -/
theorem pValueG_mapNum (pc : Nat → Bytes → Option (Bytes × Bytes)) (nc : Bytes → JV) :
    ∀ (f : Nat) (bs : Bytes), MapsNum nc (pValueG pc JV.num f bs) (pValueG pc nc f bs) := by
  intro f bs
  rcases pValueG_rel (lax := False) (TreeRel.mapNum nc) (fun r => .same (fun _ => rfl) (pc r.length r))
      (nc1 := JV.num) (nc2 := nc) (fun _ _ _ _ => rfl) f bs with ⟨e1, hl | e2⟩ | ⟨v, w, rest, e1, e2, hvw⟩
  · exact hl.elim
  · rw [e1, e2]; rfl
  · rw [e1, e2, hvw]; rfl

/-- the grammar over the machine's string reader with numbers kept as literals -/
def parseTextS (bs : Bytes) : Spec.Doc :=
  match Spec.skipWs bs with
  | [] => .none
  | b :: r =>
    match pValueG pCharsM JV.num (bs.length + 1) (b :: r) with
    | some (v, rest) => if (Spec.skipWs rest).isEmpty then .one v else .bad
    | none => .bad

def Spec.Doc.mapVal (g : JV → JV) : Spec.Doc → Spec.Doc
  | .none => .none
  | .one v => .one (g v)
  | .bad => .bad

theorem parseTextS_eq : parseTextS = parseTextG pCharsM JV.num := rfl

theorem parseTextM_mapNum (bs : Bytes) : parseTextM bs = (parseTextS bs).mapVal (JV.mapNum numConv) := by
  have h := parseTextG_rel (lax := False) (TreeRel.mapNum numConv) (fun r => .same (fun _ => rfl) (pCharsM r.length r))
    (nc1 := JV.num) (nc2 := numConv) (fun _ _ _ _ => rfl) bs
  rw [parseTextM_eq, parseTextS_eq]
  cases hd : parseTextG pCharsM JV.num bs <;> rw [hd] at h
  · rw [h.of_none]; rfl
  · obtain ⟨w, hw, hvw⟩ := h.of_one; rw [hw, hvw]; rfl
  · rw [h.of_bad]; rfl

/-- **C02, structure clause** (reference tables, one document): the tree returned is the tree of
the text — nesting, element order, member names with the last duplicate winning, every string
decoded escape by escape — with each number literal replaced by the accumulator's conversion of
exactly that literal. -/
theorem run_structure (bs : Bytes) :
    toOpt (run refTables cfg1 [bs]) = ((parseTextS (Spec.stripBOM bs)).mapVal (JV.mapNum numConv)).result := by
  rw [run_eq_grammar, parseTextM_mapNum]

end OjgVerif.Json
