import OjgVerif.Json.Lemmas
/-! Control abstraction of the reference automaton: mode, next mode, literal/escape counter and the
container stack of the state after one byte are a function of the same four components before it
(`step_ctlEq`). Used for the viable-prefix theorem of C09. -/
namespace OjgVerif.Json

structure Ctl where
  mode : Mode
  nextMode : Mode
  ri : Nat
  starts : List Bool

def St.ctl (s : St) : Ctl := ⟨s.mode, s.nextMode, s.ri, s.starts⟩

def afterCommaModeL (starts : List Bool) : Mode :=
  match starts with
  | false :: _ => .key
  | _ => .comma

theorem afterCommaMode_eq (s : St) : afterCommaMode s = afterCommaModeL s.starts := rfl

/-- control effect of the action switch (successful branch) -/
def actCtl (a : Act) (c : Ctl) : Ctl :=
  match a with
  | .skipNewline | .skipChar | .strOk | .numDigit | .charErr | .unknown => c
  | .colonColon => { c with mode := .value }
  | .keyQuote => { c with mode := .string, nextMode := .colon }
  | .afterComma => { c with mode := afterCommaModeL c.starts }
  | .valQuote => { c with mode := .string, nextMode := .after }
  | .numComma => { c with mode := afterCommaModeL c.starts }
  | .strSlash => { c with mode := .esc }
  | .escOk => { c with mode := .string }
  | .openObject => { c with starts := false :: c.starts, mode := .key1 }
  | .closeObject => { c with starts := c.starts.tail, mode := .after }
  | .val0 => { c with mode := .zero }
  | .valDigit => { c with mode := .digit }
  | .valNeg => { c with mode := .neg }
  | .escU => { c with mode := .u, ri := 0 }
  | .openArray => { c with starts := true :: c.starts, mode := .value }
  | .closeArray => { c with starts := c.starts.tail, mode := .after }
  | .valNull => { c with mode := .null, ri := 0 }
  | .valTrue => { c with mode := .true_, ri := 0 }
  | .valFalse => { c with mode := .false_, ri := 0 }
  | .numDot => { c with mode := .dot }
  | .numFrac => { c with mode := .frac }
  | .fracE => { c with mode := .expSign }
  | .strQuote => { c with mode := c.nextMode }
  | .numZero => { c with mode := .zero }
  | .negDigit => { c with mode := .digit }
  | .numSpc => { c with mode := .after }
  | .numNewline => { c with mode := .after }
  | .expSign => { c with mode := .expZero }
  | .expDigit => { c with mode := .exp }
  | .uOk => { c with ri := c.ri + 1, mode := if c.ri + 1 = 4 then .string else c.mode }
  | .tokenOk =>
    { c with ri := c.ri + 1,
             mode := if (c.mode = .false_ ∧ 4 ≤ c.ri + 1) ∨ (c.mode ≠ .false_ ∧ 3 ≤ c.ri + 1) then .after else c.mode }

/-- the test of the `tokenOk` arm of `actCtl`: the letter being read is the last of the literal (`tokLit_ref`) -/
abbrev Ctl.litDone (c : Ctl) : Prop := (c.mode = .false_ ∧ 4 ≤ c.ri + 1) ∨ (c.mode ≠ .false_ ∧ 3 ≤ c.ri + 1)

/-- control effect of the delivery test -/
def deliverCtl (c : Ctl) : Ctl :=
  if c.starts.isEmpty && expectedFin c.mode = .a then { c with mode := .space } else c

theorem deliver_ctlEq (cfg : Cfg) (ho : cfg.onlyOne = true) (s : St) :
    (deliver refTables cfg s).ctl = deliverCtl s.ctl := by
  unfold deliver deliverCtl
  by_cases h : (s.starts.isEmpty && decide (refTables.fin s.mode = EndMark.a)) = true
  · have h' : (s.ctl.starts.isEmpty && decide (expectedFin s.ctl.mode = EndMark.a)) = true := h
    rw [if_pos h, if_pos h']; simp only [St.ctl, ho, ↓reduceIte]
  · have h' : ¬ (s.ctl.starts.isEmpty && decide (expectedFin s.ctl.mode = EndMark.a)) = true := h
    rw [if_neg h, if_neg h']

/-- the `continue` flag of an action (for `numDot` it depends on the accumulator; nothing is ever
delivered in dot mode, so either value gives the same control state) -/
def contOf : Act → Bool
  | .skipNewline | .colonColon | .skipChar | .keyQuote | .afterComma | .valQuote | .strSlash | .escOk
  | .openObject | .valNeg | .escU | .openArray | .fracE | .expSign | .uOk | .numDot => true
  | _ => false

theorem Act.cont_eq {a : Act} (h : a ≠ .numDot) (s : St) : a.cont s = contOf a := by
  cases a <;> first | rfl | exact absurd rfl h

/-- where the 3 and 4 in the `tokenOk` arm of `actCtl` come from: `lit.length - 1` for `null` / `true` and for
`false`, the bound `Act.upd` compares the counter with -/
theorem tokLit_ref {m : Mode} (h : m = .null ∨ m = .true_ ∨ m = .false_) :
    ∃ p, tokLit refTables m = some p ∧ p.1.length - 1 = if m = .false_ then 4 else 3 := by
  rcases h with rfl | rfl | rfl <;> exact ⟨_, rfl, rfl⟩

/-- The control part of the record update is the control effect `actCtl`; only `tokenOk` looks at the
tables to find its literal. -/
theorem Act.upd_ctl (cfg : Cfg) {a : Act} (b : UInt8) {s : St} (hsrc : s.mode ∈ srcModes a) (st : List Item) :
    (a.upd refTables cfg b s st).ctl = actCtl a s.ctl := by
  cases a <;> try rfl
  case tokenOk =>
    obtain ⟨p, e, hl⟩ := tokLit_ref (by simpa [srcModes] using hsrc)
    simp only [Act.upd, e, hl, St.ctl, actCtl]
    by_cases hf : s.mode = .false_ <;> simp [hf]

theorem stepAct_ctl_cont (cfg : Cfg) (s s' : St) (b : UInt8) (c : Bool)
    (h : stepAct refTables cfg s b = .ok (s', c)) :
    s'.ctl = actCtl (expected s.mode b) s.ctl ∧
      (expected s.mode b ≠ .numDot → c = contOf (expected s.mode b)) := by
  rw [stepAct_eq] at h
  split at h <;> cases h
  exact ⟨Act.upd_ctl cfg b (src_ok s.mode b) _, fun hd => Act.cont_eq hd s⟩

theorem stepAct_ctl_eq (cfg : Cfg) (s s' : St) (b : UInt8) (c : Bool)
    (h : stepAct refTables cfg s b = .ok (s', c)) : s'.ctl = actCtl (expected s.mode b) s.ctl :=
  (stepAct_ctl_cont cfg s s' b c h).1

/-- control effect of one byte -/
def stepCtl (c : Ctl) (b : UInt8) : Ctl :=
  if contOf (expected c.mode b) then actCtl (expected c.mode b) c
  else deliverCtl (actCtl (expected c.mode b) c)

/-- **Control abstraction of one byte** (single-document mode): mode, next mode, counter and
container stack after a successful step are a function of the same components before it. -/
theorem step_ctlEq (cfg : Cfg) (ho : cfg.onlyOne = true) (s s' : St) (b : UInt8)
    (h : step refTables cfg s b = .ok s') : s'.ctl = stepCtl s.ctl b := by
  obtain ⟨s1, c, hst, rfl⟩ := step_ok h
  have hc := stepAct_ctl_eq cfg s s1 b c hst
  show (if c then s1 else deliver refTables cfg s1).ctl = _
  unfold stepCtl
  have hm : s.ctl.mode = s.mode := rfl
  rw [hm]
  by_cases hd : expected s.mode b = .numDot
  · -- nothing is delivered in dot mode
    have hmode : s1.ctl.mode = .dot := by rw [hc, hd]; rfl
    have hdel : deliver refTables cfg s1 = s1 :=
      deliver_id_of refTables cfg s1 (by rw [show s1.mode = .dot from hmode]; decide)
    have : (if c then s1 else deliver refTables cfg s1) = s1 := by cases c <;> simp [hdel]
    rw [this, hd, hc, hd]
    rfl
  · rw [(stepAct_ctl_cont cfg s s1 b c hst).2 hd]
    cases hco : contOf (expected s.mode b)
    · simp only [Bool.false_eq_true, ↓reduceIte]
      rw [deliver_ctlEq cfg ho, hc]
    · simp only [↓reduceIte]
      exact hc

end OjgVerif.Json
