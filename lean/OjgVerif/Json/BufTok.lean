import OjgVerif.Json.BufVal
/-! # The tokenizer's buffer loop is the byte machine -/
namespace OjgVerif.Json

variable {T : Tables} (hT : TablesOK T) (cfg : Cfg)

include hT in
theorem step_numDigit_slow (m : St) (c : UInt8) (hm : m.mode = .digit) (hf : m.inFast = false)
    (h : T.act .digit c = .numDigit) :
    step T cfg m c = .ok { m with num := m.num.addDigit c, pos := m.pos + 1, inFast := false } := by
  unfold step stepAct
  simp only [hm, h, hf, Bool.false_eq_true, ↓reduceIte, Bool.false_and]
  rw [deliver_id_ok hT cfg _ (by simp only; decide)]

include hT in
/-- with the number not in text form, the loop's arithmetic on a digit is `AddDigit` whichever branch computes it,
and the loop ends exactly when `AddDigit` went over to text -/
theorem intLoopT_cons (c : UInt8) (r : Bytes) (j : Nat) (n : Num) (acc : Nat × UInt8) (hb : n.big = []) :
    intLoopT T (c :: r) j n acc =
      if T.act .digit c = .numDigit then
        if 0 < (n.addDigit c).big.length then (n.addDigit c, j, c) else intLoopT T r (j + 1) (n.addDigit c) (j, c)
      else (n, j, c) := by
  conv => lhs; unfold intLoopT
  by_cases hd : T.act .digit c = .numDigit
  · simp only [hd, ↓reduceIte]
    by_cases hl : BigLimit ≤ n.i
    · simp only [hl, ↓reduceIte]
    · have heq := fast_digit_eq_slow n c hb (fun h => hl (h ▸ UInt64.le_refl _))
        (numDigit_isDigit .digit c (by rw [← hT.act]; exact hd))
      simp only [hl, ↓reduceIte] at heq ⊢
      rw [heq, if_neg]
      rw [← heq]
      simp only [hb, List.length_nil, Nat.lt_irrefl, not_false_eq_true]
  · simp only [hd, ↓reduceIte]

include hT in
theorem iter_intT (hfi : cfg.fastInt = false) (buf : Bytes) (s m : St)
    (off i : Nat) (b : UInt8) (hb : buf[off]? = some b) (hrel : Rel s m)
    (hact : T.act s.mode b = .valDigit) :
    IterOK T cfg buf m off (wrapIter T cfg buf off (caseDigitT T buf s off i b)) := by
  obtain ⟨hdrop, hl⟩ := drop_of_getElem? buf off b hb
  have hactm : T.act m.mode b = .valDigit := (nf_fields hrel.nf).1 ▸ hact
  have hfin : T.fin .digit ≠ .a := fin_ne_a hT (by decide)
  unfold caseDigitT
  simp only [sliceOf_tail buf off hl]
  rw [show s.num.reset = m.num.reset from rfl]
  -- `AddDigit` decides: the loop goes on exactly while the number is not in text form
  let Inv (k : Nat) (x : Num) (m' : St) : Prop :=
    m' = { m with mode := .digit, num := x, pos := m.pos + 1 + k, inFast := false } ∧ x.big = [] ∧ x.frac = 0 ∧ x.div = 1
  let Out (k : Nat) (x : Num) (m' : St) : Prop :=
    m' = { m with mode := .digit, num := x, pos := m.pos + 1 + k, inFast := false } ∧ x.big ≠ []
  refine iterOK_num cfg hb hrel (hfi ▸ step_valDigit hT cfg m b hactm) (M := fun _ => .digit)
    (fun _ => ⟨rfl, rfl, rfl, hfin⟩) (by split <;> omega)
    (digit_scan cfg (L := intLoopT T) (brk := fun n c => 0 < (n.addDigit c).big.length) (stop := fun n c => n.addDigit c)
      (go := fun n c => n.addDigit c) (Inv := Inv) (Out := Out)
      (fun _ _ _ => rfl) (fun c r j n acc _ _ hi => intLoopT_cons hT c r j n acc hi.2.1)
      (fun k x m1 c hi hd hb => by
        obtain ⟨rfl, h0, h1, h2⟩ := hi
        have hb' : (x.addDigit c).big = [] := List.eq_nil_of_length_eq_zero (by omega)
        have hk := addDigit_keeps x c hb'
        exact ⟨_, step_numDigit_slow hT cfg _ c rfl rfl hd, by simp only [Nat.add_assoc], hb', hk.1.trans h1, hk.2.trans h2⟩)
      (fun k x m1 c hi hd hb => by
        obtain ⟨rfl, -⟩ := hi
        exact ⟨_, step_numDigit_slow hT cfg _ c rfl rfl hd, by simp only [Nat.add_assoc],
          fun h => by rw [h] at hb; exact absurd hb (by decide)⟩)
      _ 0 _ (i, b) 0 _ ⟨rfl, rfl, rfl, rfl⟩)
    (fun k x m' hi => by obtain ⟨rfl, -, h1, h2⟩ := hi; exact ⟨rfl, fun _ _ => ⟨h1, h2⟩, nofun⟩)
    (fun k x m' ho => by obtain ⟨rfl, hb⟩ := ho; exact ⟨rfl, fun _ h => absurd h hb⟩)

include hT in
theorem iter_specT (hfi : cfg.fastInt = false) (buf : Bytes) (s m : St) (off i : Nat) (b : UInt8)
    (hb : buf[off]? = some b) (hrel : Rel s m) (hside : Side T buf m off) (hinv : NumInv m) :
    IterOK T cfg buf m off (iterBufT T cfg buf s off i b) := by
  have hfp : cfg.fastInt = fpT.int := hfi
  unfold iterBufT
  cases hact : T.act s.mode b
  case valDigit => exact iter_intT hT cfg hfi buf s m off i b hb hrel hact
  all_goals exact iter_spec hT cfg fpT hfp buf s m off i b hb hrel hside hinv

include hT in
/-- `runBuf_eq_fold` for `tokenizeBuffer`: one call on one buffer against the fold of `step` over it, up to dead
fields and the flag (`Sim2`) -/
theorem runBufT_eq_fold (hfi : cfg.fastInt = false) (s m : St) (buf : Bytes)
    (hrel : Rel s m) (hflag : m.inFast = false) (hinv : NumInv m) :
    Sim2 (runBufT T cfg s buf) (runBytes T cfg m buf) := by
  have := loopG_sim T cfg buf (iterBufT T cfg buf)
    (fun s m off i b hb hr hs hi => iter_specT hT cfg hfi buf s m off i b hb hr hs hi)
    buf.length 0 s m 0 (by omega) hrel (side_of_flag T buf m 0 hflag) hinv
  rwa [List.drop_zero] at this

include hT in
/-- the tokenizer's entry points over the buffer-level model are those over the byte machine -/
theorem runBT_eq_run (hfi : cfg.fastInt = false) (chunks : List Bytes) :
    runBT T cfg chunks = run T cfg chunks :=
  runG_eq_run hT cfg (runBufT T cfg) (fun s m buf hr hf hi => runBufT_eq_fold hT cfg hfi s m buf hr hf hi) chunks

end OjgVerif.Json
