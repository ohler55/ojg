import OjgVerif.Json.BufFrac
/-! # `runBuf` = fold of `step`: the buffer-level model of `parseBuffer` is the byte-at-a-time machine

`iter_spec` collects the cases of one iteration. The loop over a buffer, the chunks and the entry points are
proved for any iteration function that meets `IterOK` (`loopG_sim`, `chunksG_sim`, `runG_eq_run`); the
parser here, the validator and the tokenizer (`BufVal`, `BufTok`) are instances. -/
namespace OjgVerif.Json

variable {T : Tables} (hT : TablesOK T) (cfg : Cfg)

include hT in
theorem iter_spec (fp : FP) (hfi : cfg.fastInt = fp.int) (buf : Bytes) (s m : St) (off i : Nat) (b : UInt8)
    (hb : buf[off]? = some b) (hrel : Rel s m) (hside : Side T buf m off) (hinv : NumInv m) :
    IterOK T cfg buf m off (iterBuf T cfg fp buf s off i b) := by
  have emode : s.mode = m.mode := (nf_fields hrel.nf).1
  -- a case without a fast path, or with its fast path switched off, is the byte machine's branch
  have hslow : (T.act s.mode b = .valDigit → fp.int = false) →
      caseBuf T cfg fp buf s off i b = caseSlow T cfg s off i b →
      IterOK T cfg buf m off (iterBuf T cfg fp buf s off i b) :=
    fun hd hc => iter_slow hT cfg fp buf s m off i b hb hrel hside hc (fun h => hfi.trans (hd (emode ▸ h)))
  -- a byte that starts a literal stands in `value` or `comma` mode, where the literals' first letters do
  have hlits : ∀ {a : Act}, T.act s.mode b = a → a ∈ [Act.valNull, .valTrue, .valFalse] →
      T.act m.mode 110 = .valNull ∧ T.act m.mode 116 = .valTrue ∧ T.act m.mode 102 = .valFalse := by
    intro a ha hmem
    rw [hT.act] at ha
    simp only [hT.act, ← emode]
    refine valueStart_lits ?_
    simp only [List.mem_cons, List.not_mem_nil, or_false] at hmem
    rcases hmem with rfl | rfl | rfl <;> exact act_src ha
  cases hact : T.act s.mode b
  case skipNewline | numNewline =>
    by_cases hws : fp.ws = true
    · exact iter_ws hT cfg fp hws buf s m off i b hb hrel (by rw [hact]; simp)
    · exact hslow (by rw [hact]; nofun) (by unfold caseBuf; simp only [hact, hws]; rfl)
  case keyQuote =>
    by_cases hstr : fp.str = true
    · exact iter_quote hT cfg fp hstr buf s m off i b hb hrel hside true (by simpa using hact)
    · exact hslow (by rw [hact]; nofun) (by unfold caseBuf; simp only [hact, hstr]; rfl)
  case valQuote =>
    by_cases hstr : fp.str = true
    · exact iter_quote hT cfg fp hstr buf s m off i b hb hrel hside false (by simpa using hact)
    · exact hslow (by rw [hact]; nofun) (by unfold caseBuf; simp only [hact, hstr]; rfl)
  case valNull =>
    by_cases hlit : fp.lit = true
    · exact iter_lit hT cfg fp buf s m off i _ hb hrel hside litNull .null .null 3
        (by unfold caseBuf; simp only [hact, hlit, ↓reduceIte]) (by unfold caseSlow stepAct; simp only [hact]) rfl
        (fun rest => run_lit cfg (bLit_null hT) m rest (by decide) (Or.inl ⟨(hlits hact (by simp)).1, rfl⟩))
        (fun h => by rw [← emode, hact] at h; cases h)
    · exact hslow (by rw [hact]; nofun) (by unfold caseBuf; simp only [hact, hlit]; rfl)
  case valTrue =>
    by_cases hlit : fp.lit = true
    · exact iter_lit hT cfg fp buf s m off i _ hb hrel hside litTrue (.bool true) .true_ 3
        (by unfold caseBuf; simp only [hact, hlit, ↓reduceIte]) (by unfold caseSlow stepAct; simp only [hact]) rfl
        (fun rest => run_lit cfg (bLit_true hT) m rest (by decide) (Or.inr (Or.inl ⟨(hlits hact (by simp)).2.1, rfl⟩)))
        (fun h => by rw [← emode, hact] at h; cases h)
    · exact hslow (by rw [hact]; nofun) (by unfold caseBuf; simp only [hact, hlit]; rfl)
  case valFalse =>
    by_cases hlit : fp.lit = true
    · exact iter_lit hT cfg fp buf s m off i _ hb hrel hside litFalse (.bool false) .false_ 4
        (by unfold caseBuf; simp only [hact, hlit, ↓reduceIte]) (by unfold caseSlow stepAct; simp only [hact]) rfl
        (fun rest => run_lit cfg (bLit_false hT) m rest (by decide) (Or.inr (Or.inr ⟨(hlits hact (by simp)).2.2, rfl⟩)))
        (fun h => by rw [← emode, hact] at h; cases h)
    · exact hslow (by rw [hact]; nofun) (by unfold caseBuf; simp only [hact, hlit]; rfl)
  case valDigit =>
    by_cases hint : fp.int = true
    · exact iter_int hT cfg fp hint (by rw [hfi]; exact hint) buf s m off i b hb hrel hact
    · exact hslow (fun _ => by simpa using hint) (by unfold caseBuf; simp only [hact, hint]; rfl)
  case numDot =>
    by_cases hfrac : fp.frac = true
    · exact iter_frac hT cfg fp hfrac buf s m off i b hb hrel hside hinv hact
    · exact hslow (by rw [hact]; nofun) (by unfold caseBuf; simp only [hact, hfrac]; rfl)
  all_goals exact hslow (by rw [hact]; nofun) (by unfold caseBuf; simp only [hact])

/-- two outcomes agree: the same error, or related states -/
def Sim2 : Except Err St → Except Err St → Prop
  | .ok s, .ok m => Rel s m
  | .error e, .error e' => e = e'
  | _, _ => False

theorem Sim2.cases {x y : Except Err St} (h : Sim2 x y) :
    (∃ e, x = .error e ∧ y = .error e) ∨ ∃ a b, x = .ok a ∧ y = .ok b ∧ Rel a b := by
  cases x <;> cases y <;> simp only [Sim2] at h
  · exact Or.inl ⟨_, rfl, h ▸ rfl⟩
  · exact Or.inr ⟨_, _, rfl, rfl, h⟩

theorem Sim2.nfR {x y : Except Err St} (h : Sim2 x y) : nfR x = nfR y := by
  rcases h.cases with ⟨e, rfl, rfl⟩ | ⟨a, b, rfl, rfl, h⟩
  · rfl
  · exact congrArg Except.ok h.nf

theorem loopG_sim (T : Tables) (cfg : Cfg) (buf : Bytes)
    (iter : St → Nat → Nat → UInt8 → Except Err (St × Nat × Nat))
    (hiter : ∀ (s m : St) (off i : Nat) (b : UInt8), buf[off]? = some b → Rel s m → Side T buf m off → NumInv m →
      IterOK T cfg buf m off (iter s off i b)) :
    ∀ (fuel off : Nat) (s m : St) (i : Nat), buf.length - off ≤ fuel → Rel s m → Side T buf m off → NumInv m →
      Sim2 (loopG iter buf fuel s off i) (runBytes T cfg m (buf.drop off)) := by
  intro fuel
  induction fuel with
  | zero =>
    intro off s m i hfuel hrel _ _
    rw [List.drop_eq_nil_iff.mpr (by omega)]
    exact hrel
  | succ fuel ih =>
    intro off s m i hfuel hrel hside hinv
    unfold loopG
    cases hb : buf[off]? with
    | none =>
      have : buf.length ≤ off := by
        rcases Nat.lt_or_ge off buf.length with h | h
        · rw [List.getElem?_eq_getElem h] at hb; cases hb
        · exact h
      rw [List.drop_eq_nil_iff.mpr this]
      exact hrel
    | some b =>
      have hit := hiter s m off i b hb hrel hside hinv
      simp only
      cases hr : iter s off i b with
      | error e =>
        rw [hr] at hit
        simp only [IterOK] at hit
        rw [hit]; exact rfl
      | ok p =>
        obtain ⟨s', off', i'⟩ := p
        rw [hr] at hit
        simp only [IterOK] at hit
        obtain ⟨hlt, m', hrun, hrel', hside', hinv'⟩ := hit
        simp only
        rw [hrun]
        exact ih off' s' m' i' (by omega) hrel' hside' (hinv' hinv)

theorem loopBuf_eq_loopG (T : Tables) (cfg : Cfg) (fp : FP) (buf : Bytes) : ∀ (fuel : Nat) (s : St) (off i : Nat),
    loopBuf T cfg fp buf fuel s off i = loopG (iterBuf T cfg fp buf) buf fuel s off i := by
  intro fuel
  induction fuel with
  | zero => intros; rfl
  | succ n ih =>
    intro s off i
    unfold loopBuf loopG
    cases buf[off]? with
    | none => rfl
    | some b =>
      simp only
      cases iterBuf T cfg fp buf s off i b with
      | error e => rfl
      | ok p => exact ih _ _ _

include hT in
theorem loop_sim (fp : FP) (hfi : cfg.fastInt = fp.int) (buf : Bytes) :
    ∀ (fuel off : Nat) (s m : St) (i : Nat), buf.length - off ≤ fuel → Rel s m → Side T buf m off → NumInv m →
      Sim2 (loopBuf T cfg fp buf fuel s off i) (runBytes T cfg m (buf.drop off)) := by
  intro fuel off s m i
  rw [loopBuf_eq_loopG]
  exact loopG_sim T cfg buf _ (fun s m off i b => iter_spec hT cfg fp hfi buf s m off i b) fuel off s m i

include hT in
/-- One call of `parseBuffer` on one buffer — whitespace skip, string scan, literal
look-ahead, integer loop, fraction loop, stale loop variables and all — ends in the state the
byte-at-a-time machine reaches by folding `step` over the buffer, up to the fields that are dead in the
mode reached and the ghost flag of the integer loop; or both stop with the same error. In
particular no slice expression of the fast paths is ever out of range (`fault` outcomes of `runBuf`
are the byte machine's, which `run_no_fault` excludes). -/
theorem runBuf_eq_fold (fp : FP) (hfi : cfg.fastInt = fp.int) (s m : St) (buf : Bytes)
    (hrel : Rel s m) (hflag : m.inFast = false) (hinv : NumInv m) :
    Sim2 (runBuf T cfg fp s buf) (runBytes T cfg m buf) := by
  have := loop_sim hT cfg fp hfi buf buf.length 0 s m 0 (by omega) hrel (side_of_flag T buf m 0 hflag) hinv
  rwa [List.drop_zero] at this

include hT in
theorem runBytes_inv (bs : Bytes) : ∀ (m m' : St), runBytes T cfg m bs = .ok m' → NmOK m → NumInv m →
    NmOK m' ∧ NumInv m' := fun m m' h hn hi =>
  (runBytes_preserves (P := fun m => NmOK m ∧ NumInv m) (Q := fun _ => True)
    (fun m b hm => ⟨fun _ _ => trivial, fun m1 h1 =>
      ⟨step_nm T cfg m m1 b h1 hm.1, step_numInv hT cfg m m1 b h1 hm.2 hm.1⟩⟩) bs m ⟨hn, hi⟩).2 m' h

theorem finish_nf (T : Tables) {a b : St} (h : a.nf = b.nf) : finish T a = finish T b := by
  obtain ⟨e1, e2, e3, e4, e5, e6, e7, e8⟩ := nf_fields h
  exact finish_congr T e1 e2 e3 e4 e6 e7 e8 fun _ => e5

theorem rel_init : Rel ({} : St) ({} : St) := ⟨rfl, rfl, NmOK.init, NmOK.init⟩

include hT in
theorem chunksG_sim (rb : St → Bytes → Except Err St)
    (hrb : ∀ (s m : St) (buf : Bytes), Rel s m → m.inFast = false → NumInv m → Sim2 (rb s buf) (runBytes T cfg m buf))
    (cs : List Bytes) : ∀ (s m : St), Rel s m → m.inFast = false → NumInv m →
    Sim2 (runChunksG rb s cs) (runChunks T cfg m cs) := by
  induction cs with
  | nil => intro s m hrel _ _; exact hrel
  | cons c rest ih =>
    intro s m hrel hflag hinv
    unfold runChunksG runChunks
    rcases (hrb s m c hrel hflag hinv).cases with ⟨e, h1, h2⟩ | ⟨s', m', h1, h2, h⟩ <;> rw [h1, h2]
    · exact rfl
    · exact ih s' _ ⟨h.nf, h.flag, h.ns, h.nm⟩ rfl
        (numInv_same rfl rfl (runBytes_inv hT cfg c m m' h2 hrel.nm hinv).2)

include hT in
theorem runG_eq_run (rb : St → Bytes → Except Err St)
    (hrb : ∀ (s m : St) (buf : Bytes), Rel s m → m.inFast = false → NumInv m → Sim2 (rb s buf) (runBytes T cfg m buf))
    (chunks : List Bytes) : runG T cfg rb chunks = run T cfg chunks := by
  have hfin : ∀ cs : List Bytes,
      (match runChunksG rb {} cs with
        | .error e => Except.error e
        | .ok s => finish T s) = afterBom T cfg cs := by
    intro cs
    unfold afterBom
    rcases (chunksG_sim hT cfg rb hrb cs {} {} rel_init rfl NumInv.init).cases with
      ⟨e, h1, h2⟩ | ⟨a, b, h1, h2, h⟩ <;> rw [h1, h2]
    exact finish_nf T h.nf
  rw [run_afterBom]
  unfold runG
  simp only
  generalize (if cfg.reader = true then topUp (chunks.filter (!·.isEmpty)) else chunks) = cs
  cases cs with
  | nil => rfl
  | cons c rest =>
    simp only
    generalize (if cfg.reader = true then bomRuleReader c else bomRule c) = br
    cases br with
    | bad => rfl
    | strip r => exact hfin _
    | keep => exact hfin _

theorem runBufChunks_eq (T : Tables) (cfg : Cfg) (fp : FP) (cs : List Bytes) : ∀ s : St,
    runBufChunks T cfg fp s cs = runChunksG (runBuf T cfg fp) s cs := by
  induction cs with
  | nil => intro s; rfl
  | cons c rest ih =>
    intro s
    unfold runBufChunks runChunksG
    cases runBuf T cfg fp s c with
    | error e => rfl
    | ok s' => exact ih s'

include hT in
/-- The entry points over the buffer-level model are the entry points over the byte machine: for
every configuration whose integer fast loop is the one the buffer model transcribes, every input and
every chunking, same documents with the same values or the same error at the same position. -/
theorem runB_eq_run (fp : FP) (hfi : cfg.fastInt = fp.int) (chunks : List Bytes) :
    runB T cfg fp chunks = run T cfg chunks := by
  rw [← runG_eq_run hT cfg (runBuf T cfg fp) (fun s m buf => runBuf_eq_fold hT cfg fp hfi s m buf) chunks]
  unfold runB runG
  simp only [runBufChunks_eq]
  rfl

end OjgVerif.Json
