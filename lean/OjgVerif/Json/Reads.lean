import OjgVerif.Common.Bytes
/-! The shape of a statement about a reader: what follows from a result, what from a refusal. -/
namespace OjgVerif.Json

/-- how the lemmas of this development tie a run of the machine to a reader of the specification:
a result of the reader means `K` (the machine has got to the rest, in a state that holds what was
read), no result means `F` (the machine rejects). An abbreviation: a conjunction written out in this
order is a `Reads` and conversely. The leaf lemmas of `Refine*.lean` (`exec_chars`, `exec_string`,
`exec_number_conv`, `ValueOK`, …) state the conjunction written out; their proofs build it with the
combinators below. -/
abbrev Reads {α : Type} (p : Option (α × Bytes)) (F : Prop) (K : α → Bytes → Prop) : Prop :=
  (∀ a rest, p = some (a, rest) → K a rest) ∧ (p = none → F)

theorem reads_none {α : Type} {F : Prop} {K : α → Bytes → Prop} (h : F) : Reads none F K :=
  ⟨(fun _ _ h => nomatch h), fun _ => h⟩

theorem reads_some {α : Type} {F : Prop} {K : α → Bytes → Prop} {a : α} {r : Bytes} (h : K a r) :
    Reads (some (a, r)) F K :=
  ⟨fun _ _ e => by cases e; exact h, fun e => nomatch e⟩

theorem Reads.map {α β : Type} {p : Option (α × Bytes)} {F : Prop} {K : β → Bytes → Prop} (g : α → β)
    (h : Reads p F fun a r => K (g a) r) : Reads (p.map fun q => (g q.1, q.2)) F K := by
  cases p with
  | none => exact reads_none (h.2 rfl)
  | some q => exact reads_some (h.1 q.1 q.2 rfl)

theorem Reads.mono {α : Type} {p : Option (α × Bytes)} {F F' : Prop} {K K' : α → Bytes → Prop}
    (h : Reads p F K) (hF : F → F') (hK : ∀ a r, p = some (a, r) → K a r → K' a r) : Reads p F' K' :=
  ⟨fun a r e => hK a r e (h.1 a r e), fun e => hF (h.2 e)⟩

end OjgVerif.Json
