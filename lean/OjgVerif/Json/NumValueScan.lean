import OjgVerif.Json.NumValueAcc
/-! # The accumulator after a literal tracks the literal

`acc p` is what the number automaton has performed after the bytes of `render p` (`render_run` in `RefineNum`);
operation by operation it keeps `Tracks` (`NumValueAcc`), so `Tracks (acc p) p`. With `pNumber_parts` (a literal
the specification reads is such a `render p`) and `tracks_asNum` this is the numeric clause of C02. -/
namespace OjgVerif.Json

theorem tracks_acc (p : Parts) (hw : p.WF) : Tracks (acc p) p := by
  obtain ⟨s, ip, fo, eo⟩ := p
  obtain ⟨hip, _, hwf, hwe⟩ := hw
  simp only at hip hwf hwe
  unfold acc
  simp only
  have h0 : Tracks ({ neg := s } : Num) ⟨s, [], none, none⟩ :=
    Or.inl ⟨rfl, ⟨rfl, rfl, rfl, rfl, by simp [fracLen], rfl, rfl⟩, by simp [natOf]⟩
  have h1 : Tracks (accInt s ip) ⟨s, ip, none, none⟩ := by
    have := tracks_foldl_addDigit ip hip _ s [] h0
    simpa [accInt] using this
  have h2 : Tracks (accFrac (accInt s ip) fo) ⟨s, ip, fo, none⟩ := by
    cases fo with
    | none => exact h1
    | some fs =>
      have := tracks_foldl_addFrac fs (hwf fs rfl).1 _ s ip [] Dig.nil (tracks_dot _ s ip h1)
      simpa [accFrac] using this
  cases eo with
  | none => exact h2
  | some x =>
    obtain ⟨e, sg, es⟩ := x
    obtain ⟨he, hsg, hes, _⟩ := hwe _ rfl
    simp only at he hsg hes
    have h3 := tracks_e _ s ip fo e he h2
    have h4 : Tracks (accSign (passThru (accFrac (accInt s ip) fo) e) sg) ⟨s, ip, fo, some ⟨e, sg, []⟩⟩ := by
      rcases hsg with h | h | h <;> subst h
      · exact h3
      · exact tracks_sign _ s ip fo e 43 (Or.inl rfl) h3
      · exact tracks_sign _ s ip fo e 45 (Or.inr rfl) h3
    have := tracks_foldl_addExp es hes s ip fo hwf e sg _ [] h4
    simpa [accExp] using this

end OjgVerif.Json
