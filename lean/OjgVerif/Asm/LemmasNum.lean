import OjgVerif.Asm.Spec
/-! Int64 wrap-around commutes with + and − (a running wrapped sum is the
mathematical sum wrapped once), integers as exact `Flt`s compare as integers, a chain of neighbours in order
is all pairs in order. -/
namespace OjgVerif.Asm

theorem wrap64_add_left (a b : Int) : wrap64 (wrap64 a + b) = wrap64 (a + b) := by unfold wrap64; omega
theorem wrap64_sub_left (a b : Int) : wrap64 (wrap64 a - b) = wrap64 (a - b) := by unfold wrap64; omega

def inInt64 (i : Int) : Prop := minInt64 ≤ i ∧ i ≤ maxInt64

theorem wrap64_of_inInt64 {i : Int} (h : inInt64 i) : wrap64 i = i := by
  unfold inInt64 minInt64 maxInt64 at h
  unfold wrap64
  omega

theorem foldAdd_ints : ∀ (xs : List Int) (a : Int),
    Spec.foldM' Spec.add2 (.int (wrap64 a)) (xs.map .int) = .ok (.int (wrap64 (a + xs.sum)))
  | [], a => by simp [Spec.foldM']
  | y :: ys, a => by
    simp only [List.map, Spec.foldM', Spec.add2, wrap64_add_left, List.sum_cons]
    rw [foldAdd_ints ys (a + y), Int.add_assoc]

theorem foldDif_ints (dev : Dev) : ∀ (xs : List Int) (a : Int),
    Spec.foldM' (Spec.arith2 dev .dif) (.int (wrap64 a)) (xs.map .int) = .ok (.int (wrap64 (a - xs.sum)))
  | [], a => by simp [Spec.foldM']
  | y :: ys, a => by
    simp only [List.map, Spec.foldM', Spec.arith2, Spec.Arith.onInt, wrap64_sub_left, List.sum_cons]
    rw [foldDif_ints dev ys (a - y)]
    congr 3
    omega

theorem smant_natAbs (i : Int) : Flt.smant (decide (i < 0)) i.natAbs = i := by
  unfold Flt.smant
  by_cases h : i < 0 <;> simp [h] <;> omega

/-- the integer as an exact `Flt`, not rounded to 53 bits: the term `asFloat`, `eqVals` and `sortLess` write out -/
def exactFlt (i : Int) : Flt := .fin (decide (i < 0)) i.natAbs 0

theorem numOf_int (dev : Dev) (hd : dev.cmpFloat = false) (i : Int) : Spec.numOf dev (.int i) = some (exactFlt i) := by
  simp [Spec.numOf, asFloat, hd, exactFlt]

theorem exactFlt_lt (x y : Int) : Flt.lt (exactFlt x) (exactFlt y) = decide (x < y) := by
  simp [exactFlt, Flt.lt, Flt.align, smant_natAbs]

theorem exactFlt_eq (x y : Int) : Flt.eq (exactFlt x) (exactFlt y) = decide (x = y) := by
  simp [exactFlt, Flt.eq, Flt.align, smant_natAbs]

theorem fHolds_lt_exact (x y : Int) : CmpOp.fHolds .lt (exactFlt x) (exactFlt y) = decide (x < y) := by
  simp only [CmpOp.fHolds, Flt.le, exactFlt_lt, exactFlt_eq]
  by_cases h : x < y
  · have h1 : ¬ y < x := by omega
    have h2 : ¬ y = x := by omega
    simp [h, h1, h2]
  · by_cases h3 : y < x
    · simp [h, h3]
    · have : y = x := by omega
      simp [this]

/-- neighbours in order -/
def intChain : Int → List Int → Bool
  | _, [] => true
  | a, b :: r => decide (a < b) && intChain b r

theorem numChain_lt_ints (dev : Dev) (hd : dev.cmpFloat = false) : ∀ (ys : List Int) (x : Int),
    Spec.numChain dev .lt (exactFlt x) (ys.map .int) = .ok (.bool (intChain x ys))
  | [], x => by simp [Spec.numChain, intChain]
  | y :: r, x => by
    simp only [List.map, Spec.numChain, numOf_int dev hd, fHolds_lt_exact, intChain]
    by_cases h : x < y
    · simp [h, numChain_lt_ints dev hd r y]
    · simp [h]

theorem intChain_pairwise : ∀ (ys : List Int) (x : Int), intChain x ys = true ↔ (x :: ys).Pairwise (· < ·)
  | [], x => by simp [intChain]
  | y :: r, x => by
    have ih := intChain_pairwise r y
    simp only [intChain, Bool.and_eq_true, decide_eq_true_eq, ih, List.pairwise_cons]
    constructor
    · rintro ⟨hxy, hall, hp⟩
      refine ⟨?_, hall, hp⟩
      intro z hz
      rcases List.mem_cons.mp hz with hz | hz
      · subst hz; exact hxy
      · exact Int.lt_trans hxy (hall z hz)
    · rintro ⟨hx, hall, hp⟩
      exact ⟨hx y (List.mem_cons_self ..), hall, hp⟩

end OjgVerif.Asm
