import OjgVerif.Asm.LemmasPlan
/-! Evaluation commutes with inserting cells between the plan and the data (`Sh`, `Eqv`): run in the heap
with the cells inserted and the data moved up, every modelled function does what it does without them,
moved. With `LemmasPlan` (the plan is never edited) this gives the general re-run theorem
(`rerun_general` in `Props/C20`): the second execution of a plan, on an equal root placed after whatever
the first execution left, is the image of the first. Fuel that depends on the heap size (structural
comparison, copying a literal) is handled by monotonicity: more fuel does not change an answer. -/
namespace OjgVerif.Asm

/-- Cells inserted between the plan and the data: `k` cells of plan, then `G` (cells nothing refers to: what an
earlier run left behind), then the data, so that every address from `k` on moves up by `G.length`. -/
structure Sh where
  k : Nat
  G : List Cell

namespace Sh
variable (s : Sh)

def ad (a : Nat) : Nat := if a < s.k then a else a + s.G.length

def val : Val → Val
  | .aref a => .aref (s.ad a)
  | .mref a => .mref (s.ad a)
  | v => v

def cell : Cell → Cell
  | .arr xs => .arr (xs.map s.val)
  | .map kvs => .map (kvs.map fun kv => (kv.1, s.val kv.2))

def heap (h : Heap) : Heap := (h.take s.k).map s.cell ++ s.G ++ (h.drop s.k).map s.cell

theorem ad_inj {a b : Nat} (h : s.ad a = s.ad b) : a = b := by
  unfold ad at h
  split at h <;> split at h <;> omega

theorem heap_length (h : Heap) (hk : s.k ≤ h.length) : (s.heap h).length = h.length + s.G.length := by
  simp [heap, List.length_take, List.length_drop]; omega

theorem ad_length (h : Heap) (hk : s.k ≤ h.length) : s.ad h.length = (s.heap h).length := by
  rw [heap_length s h hk]; unfold ad; split <;> omega

theorem heap_get (h : Heap) (hk : s.k ≤ h.length) (a : Nat) : (s.heap h)[s.ad a]? = (h[a]?).map s.cell := by
  unfold heap ad
  by_cases ha : a < s.k
  · simp only [ha, if_true]
    rw [List.append_assoc, List.getElem?_append_left (by simp [List.length_take]; omega)]
    simp [List.getElem?_map, ha]
  · simp only [ha, if_false]
    rw [List.getElem?_append_right (by simp [List.length_take]; omega)]
    simp only [List.length_append, List.length_map, List.length_take, Nat.min_eq_left hk]
    have : a + s.G.length - (s.k + s.G.length) = a - s.k := by omega
    rw [this, List.getElem?_map, List.getElem?_drop]
    have : s.k + (a - s.k) = a := by omega
    rw [this]

theorem heap_getG (h : Heap) (hk : s.k ≤ h.length) (i : Nat) (h1 : s.k ≤ i) (h2 : i < s.k + s.G.length) :
    (s.heap h)[i]? = s.G[i - s.k]? := by
  unfold heap
  rw [List.append_assoc, List.getElem?_append_right (by simp [List.length_take]; omega)]
  simp only [List.length_map, List.length_take, Nat.min_eq_left hk]
  rw [List.getElem?_append_left (by omega)]

theorem arrAt_sh (h : Heap) (hk : s.k ≤ h.length) (a : Nat) : (s.heap h).arrAt (s.ad a) = (h.arrAt a).map s.val := by
  unfold Heap.arrAt
  rw [heap_get s h hk a]
  cases h[a]? with
  | none => simp
  | some c => cases c <;> simp [cell]

theorem mapAt_sh (h : Heap) (hk : s.k ≤ h.length) (a : Nat) :
    (s.heap h).mapAt (s.ad a) = (h.mapAt a).map fun kv => (kv.1, s.val kv.2) := by
  unfold Heap.mapAt
  rw [heap_get s h hk a]
  cases h[a]? with
  | none => simp
  | some c => cases c <;> simp [cell]

theorem heap_append (h : Heap) (hk : s.k ≤ h.length) (c : Cell) : s.heap (h ++ [c]) = s.heap h ++ [s.cell c] := by
  unfold heap
  rw [List.take_append_of_le_length hk, List.drop_append_of_le_length hk]
  simp

theorem ad_ge (h : Heap) (hk : s.k ≤ h.length) (a : Nat) : (s.heap h).length ≤ s.ad a ↔ h.length ≤ a := by
  rw [heap_length s h hk]; unfold ad; split <;> omega

theorem ad_or_G (i : Nat) : (s.k ≤ i ∧ i < s.k + s.G.length) ∨ ∃ j, s.ad j = i := by
  by_cases hi : i < s.k
  · exact .inr ⟨i, by simp [ad, hi]⟩
  · by_cases hg : i < s.k + s.G.length
    · exact .inl ⟨by omega, hg⟩
    · exact .inr ⟨i - s.G.length, by unfold ad; split <;> omega⟩

theorem heap_set (h : Heap) (hk : s.k ≤ h.length) (a : Nat) (c : Cell) :
    s.heap (h.set a c) = (s.heap h).set (s.ad a) (s.cell c) := by
  apply List.ext_getElem?
  intro i
  have hk' : s.k ≤ (h.set a c).length := by simpa using hk
  rcases s.ad_or_G i with ⟨h1, h2⟩ | ⟨j, rfl⟩
  · have hne : i ≠ s.ad a := by unfold ad; split <;> omega
    rw [getElem?_set_ne' hne, heap_getG s _ hk' i h1 h2, heap_getG s h hk i h1 h2]
  · rw [heap_get s _ hk' j]
    by_cases hja : j = a
    · subst hja
      have := s.ad_ge h hk j
      simp only [List.getElem?_set, heap_get s h hk j, if_true]
      split <;> split <;> first | rfl | omega
    · rw [getElem?_set_ne' hja, getElem?_set_ne' (fun hx => hja (s.ad_inj hx)), heap_get s h hk j]

@[simp] theorem val_aref (a : Nat) : s.val (.aref a) = .aref (s.ad a) := rfl
@[simp] theorem val_mref (a : Nat) : s.val (.mref a) = .mref (s.ad a) := rfl
@[simp] theorem val_null : s.val .null = .null := rfl
@[simp] theorem val_bool (b : Bool) : s.val (.bool b) = .bool b := rfl
@[simp] theorem val_int (i : Int) : s.val (.int i) = .int i := rfl
@[simp] theorem val_flt (f : Flt) : s.val (.flt f) = .flt f := rfl
@[simp] theorem val_str (x : Bytes) : s.val (.str x) = .str x := rfl
@[simp] theorem val_path (p : Path) : s.val (.path p) = .path p := rfl

@[simp] theorem val_isScalar (v : Val) : (s.val v).isScalar = v.isScalar := by cases v <;> rfl

theorem kvSet_map (k' : Bytes) (v : Val) : ∀ (kvs : List (Bytes × Val)),
    kvSet k' (s.val v) (kvs.map fun kv => (kv.1, s.val kv.2)) = (kvSet k' v kvs).map fun kv => (kv.1, s.val kv.2)
  | [] => rfl
  | (k2, v2) :: r => by
    simp only [List.map, kvSet]
    by_cases hk : k2 = k'
    · simp [hk]
    · simp [hk, kvSet_map k' v r]

theorem kvDel_map (k' : Bytes) : ∀ (kvs : List (Bytes × Val)),
    kvDel k' (kvs.map fun kv => (kv.1, s.val kv.2)) = (kvDel k' kvs).map fun kv => (kv.1, s.val kv.2)
  | [] => rfl
  | (k2, v2) :: r => by
    simp only [List.map, kvDel]
    by_cases hk : k2 = k'
    · simp [hk]
    · simp [hk, kvDel_map k' r]

theorem pathGet_sh (dev : Dev) (h : Heap) (hk : s.k ≤ h.length) :
    ∀ (fs : List Frag) (v : Val),
      pathGet ⟨dev, none⟩ (s.heap h) (s.val v) fs = (pathGet ⟨dev, none⟩ h v fs).map (List.map s.val)
  | [], v => by simp [pathGet, Except.map]
  | f :: rest, v => by
    have ih := pathGet_sh dev h hk rest
    cases v with
    | aref a =>
      cases f with
      | child k' => simp [pathGet, Except.map]
      | nth i =>
        simp only [pathGet, val_aref, arrAt_sh s h hk, List.length_map]
        cases normIdx i (h.arrAt a).length with
        | none => simp [Except.map]
        | some j => simp only; rw [getD_map s.val rfl, ih]
      | wild =>
        simp only [pathGet, val_aref, arrAt_sh s h hk]
        split
        · simp [Except.map]
        · simp [Except.map]
    | mref a =>
      cases f with
      | nth i => simp [pathGet, Except.map]
      | child k' =>
        simp only [pathGet, val_mref, mapAt_sh s h hk, kvGet_map]
        cases kvGet k' (h.mapAt a) with
        | none => simp [Except.map]
        | some c => simp only [Option.map]; rw [ih]
      | wild =>
        simp only [pathGet, val_mref, mapAt_sh s h hk]
        split
        · simp [Except.map]
        · -- the shapes `pathGet` tells apart: no member, one, several (these need a map order: `enum`)
          rcases h.mapAt a with _ | ⟨kv, _ | ⟨kv2, r2⟩⟩ <;> simp [Except.map]
    | _ => cases f <;> simp [pathGet, Except.map] <;> (split <;> simp)

theorem pathFirst_sh (dev : Dev) (h : Heap) (hk : s.k ≤ h.length) :
    ∀ (fs : List Frag) (v : Val),
      pathFirst ⟨dev, none⟩ (s.heap h) (s.val v) fs = (pathFirst ⟨dev, none⟩ h v fs).map (Option.map s.val) := by
  intro fs v
  rw [pathFirst_eq_head, pathFirst_eq_head, pathGet_sh s dev h hk]
  cases pathGet ⟨dev, none⟩ h v fs <;> simp [Except.map, List.head?_map]

theorem optGetD (value : Option Val) : (value.map s.val).getD .null = s.val (value.getD .null) := by
  cases value <;> rfl

theorem ref_sh (h : Heap) (hk : s.k ≤ h.length) (nc : Cell) :
    (s.cell nc).ref (s.heap h).length = s.val (nc.ref h.length) := by
  cases nc <;> simp [cell, Cell.ref, ad_length s h hk]

theorem heap_grow (h : Heap) (hk : s.k ≤ h.length) (a : Nat) (k' : Bytes) (nc : Cell) :
    s.heap (h.grow a k' nc) = (s.heap h).grow (s.ad a) k' (s.cell nc) := by
  have hk1 : s.k ≤ (h ++ [nc]).length := by simp; omega
  rw [Heap.grow, Heap.grow, heap_set s _ hk1, heap_append s h hk, ← heap_append s h hk, mapAt_sh s _ hk1,
    ref_sh s h hk, kvSet_map, heap_append s h hk]
  rfl

/-- the action on the heap with the cells inserted -/
def act : SetAct → SetAct
  | .halt r => .halt r
  | .write a c => .write (s.ad a) (s.cell c)
  | .into c => .into (s.val c)
  | .make a k' nc => .make (s.ad a) k' (s.cell nc)

theorem setAct_sh (value : Option Val) (h : Heap) (hk : s.k ≤ h.length) (cur : Val) (f : Frag) (g : Option Frag) :
    setAct (value.map s.val) (s.heap h) (s.val cur) f g = s.act (setAct value h cur f g) := by
  cases cur <;> cases f <;> rcases g with _ | g <;> try rfl
  · simp only [setAct, val_aref, arrAt_sh s h hk, List.length_map]
    cases normIdx _ _ <;> simp [act, cell, optGetD, List.map_set]
  · simp only [setAct, val_aref, arrAt_sh s h hk, List.length_map, getD_map s.val rfl, val_isScalar]
    cases normIdx _ _ <;> first | rfl | (simp only []; split <;> rfl)
  · cases value <;> simp [setAct, act, cell, mapAt_sh s h hk, kvSet_map, kvDel_map]
  · simp only [setAct, val_mref, mapAt_sh s h hk, kvGet_map, ad_ge s h hk]
    cases kvGet _ _ with
    | some c => simp only [Option.map, val_isScalar]; split <;> rfl
    | none =>
      cases value <;> try rfl
      simp only [Option.map]
      split
      · rfl
      · cases g <;> first | rfl | (simp only []; split <;> simp [act, cell])

theorem pathSet_sh (value : Option Val) : ∀ (fs : List Frag) (cur : Val) (h : Heap), s.k ≤ h.length →
    pathSet (value.map s.val) (s.val cur) fs (s.heap h) = ((pathSet value cur fs h).1, s.heap (pathSet value cur fs h).2) ∧
    h.length ≤ (pathSet value cur fs h).2.length
  | [], cur, h, hk => ⟨rfl, Nat.le_refl _⟩
  | f :: rest, cur, h, hk => by
    rw [pathSet_cons, pathSet_cons, setAct_sh s value h hk]
    cases setAct value h cur f rest.head? with
    | halt r => exact ⟨rfl, Nat.le_refl _⟩
    | write a c => exact ⟨by simp only [act]; rw [heap_set s h hk], by simp⟩
    | into c => exact pathSet_sh value rest c h hk
    | make a k' nc =>
      obtain ⟨r1, r2⟩ := pathSet_sh value rest (nc.ref h.length) (h.grow a k' nc) (by simp; omega)
      simp only [act, ref_sh s h hk, ← heap_grow s h hk]
      exact ⟨r1, by simp at r2; omega⟩

theorem ad_eq_iff (a b : Nat) : s.ad a = s.ad b ↔ a = b := ⟨s.ad_inj, fun h => by rw [h]⟩

theorem contains_ad (a b : Nat) : ∀ (seen : List (Nat × Nat)),
    (seen.map fun p => (s.ad p.1, s.ad p.2)).contains (s.ad a, s.ad b) = seen.contains (a, b)
  | [] => rfl
  | (x, y) :: r => by
    have ih := contains_ad a b r
    simp only [List.contains_eq_mem, List.map, List.mem_cons, Prod.mk.injEq, ad_eq_iff] at ih ⊢
    simp only [decide_eq_decide] at ih ⊢
    rw [ih]

theorem val_eq_null (v : Val) : (s.val v = .null) ↔ v = .null := by cases v <;> simp

theorem eqVals_sh (dev : Dev) (h : Heap) (hk : s.k ≤ h.length) : ∀ (n : Nat) (seen : List (Nat × Nat)) (v0 v1 : Val),
    eqVals dev (s.heap h) n (seen.map fun p => (s.ad p.1, s.ad p.2)) (s.val v0) (s.val v1) = eqVals dev h n seen v0 v1
  | 0, _, _, _ => by simp [eqVals]
  | n + 1, seen, v0, v1 => by
    have ih := eqVals_sh dev h hk n
    cases v0 <;> cases v1 <;> try rfl
    case aref.aref a b =>
      simp only [eqVals, val_aref, arrAt_sh s h hk, List.length_map, contains_ad, List.zip_map, List.map_map]
      refine ite_congr rfl (fun _ => rfl) fun _ => ite_congr rfl (fun _ => rfl) fun _ =>
        congrArg eqSeq (List.map_congr_left fun p _ => ?_)
      simpa using ih ((a, b) :: seen) p.1 p.2
    case mref.mref a b =>
      simp only [eqVals, val_mref, mapAt_sh s h hk, List.length_map, contains_ad, List.map_map]
      refine ite_congr rfl (fun _ => rfl) fun _ => ite_congr rfl (fun _ => rfl) fun _ =>
        congrArg eqCombine (List.map_congr_left fun kv _ => ?_)
      simp only [Function.comp, kvGet_map]
      cases kvGet kv.1 (h.mapAt _) with
      | none => rfl
      | some w => simpa using ih ((a, b) :: seen) kv.2 w

end Sh

def EqRes.final (r : EqRes) : Prop := r = .yes ∨ r = .no

/-- `b` is `a` wherever `a` is an answer: more fuel may turn `cyc` into anything, an answer stays -/
def EqRes.le (a b : EqRes) : Prop := a.final → b = a

theorem eqSeq_le {α : Type} {f g : α → EqRes} : ∀ {zs : List α}, (∀ z ∈ zs, (f z).le (g z)) →
    (eqSeq (zs.map f)).le (eqSeq (zs.map g))
  | [], _, _ => rfl
  | z :: zs, hfg, hr => by
    have hz := hfg z (List.mem_cons_self ..)
    have ih := eqSeq_le (zs := zs) fun x hx => hfg x (List.mem_cons_of_mem _ hx)
    simp only [List.map] at hr ⊢
    cases hf : f z <;> rw [hf] at hr hz
    · rw [hz (.inl rfl)]; exact ih hr
    · rw [hz (.inr rfl)]; rfl
    all_goals (rcases hr with h | h <;> cases h)

theorem eqCombine_final {rs : List EqRes} (hr : (eqCombine rs).final) : ∀ x ∈ rs, x.final := by
  -- an answer means that `rs` holds neither `amb` nor `cyc`
  have hn : EqRes.amb ∉ rs ∧ EqRes.cyc ∉ rs := by
    unfold eqCombine EqRes.final at hr
    simp only [List.contains_iff_mem] at hr
    constructor <;> intro h <;> simp only [h, if_true] at hr <;> (repeat' split at hr) <;> simp at hr
  intro x hx
  cases x
  · exact .inl rfl
  · exact .inr rfl
  · exact absurd hx hn.2
  · exact absurd hx hn.1

theorem eqCombine_le {α : Type} {f g : α → EqRes} {zs : List α} (hfg : ∀ z ∈ zs, (f z).le (g z)) :
    (eqCombine (zs.map f)).le (eqCombine (zs.map g)) := fun hr => by
  rw [List.map_congr_left fun z hz => hfg z hz (eqCombine_final hr _ (List.mem_map_of_mem hz))]

theorem EqRes.le_refl (a : EqRes) : a.le a := fun _ => rfl

theorem EqRes.le_ite {c : Prop} [Decidable c] {a a' b b' : EqRes} (h1 : a.le a') (h2 : b.le b') :
    (if c then a else b).le (if c then a' else b') := by
  split <;> assumption

theorem eqVals_le (dev : Dev) (h : Heap) : ∀ (n : Nat) (seen : List (Nat × Nat)) (v0 v1 : Val),
    (eqVals dev h n seen v0 v1).le (eqVals dev h (n + 1) seen v0 v1)
  | 0, _, _, _ => fun hf => by rcases hf with h | h <;> cases h
  | n + 1, seen, v0, v1 => by
    cases v0 <;> cases v1 <;> simp only [eqVals] <;> try exact EqRes.le_refl _
    · exact EqRes.le_ite (EqRes.le_refl _) (EqRes.le_ite (EqRes.le_refl _) (eqSeq_le fun z _ => eqVals_le dev h n _ _ _))
    · refine EqRes.le_ite (EqRes.le_refl _) (EqRes.le_ite (EqRes.le_refl _) (eqCombine_le fun kv _ => ?_))
      split
      · exact eqVals_le dev h n _ _ _
      · exact EqRes.le_refl _

/-- An answer found with some fuel stays with more. This is all the family proves about `eqFuel h`
(`h.length * h.length + 2`: every level of `eqVals` puts a new pair of addresses into `seen`, and there are at most
`length²` pairs with members). That it is ENOUGH is not proved: `eqVals` answers `cyc` at fuel 0 as it does on a
pair already seen, so the two cannot be told apart, and the statements leave `diverge` out (`Stop.soft`). -/
theorem eqVals_mono (dev : Dev) (h : Heap) (n : Nat) (seen : List (Nat × Nat)) (v0 v1 : Val) (r : EqRes)
    (hr : eqVals dev h n seen v0 v1 = r) (hf : r.final) : ∀ m, eqVals dev h (n + m) seen v0 v1 = r
  | 0 => hr
  | m + 1 => by
    have ih := eqVals_mono dev h n seen v0 v1 r hr hf m
    rw [← Nat.add_assoc, eqVals_le dev h (n + m) seen v0 v1 (ih ▸ hf), ih]

/-- how the insertion carries a result of each type, in the words of `Eqv`. At every type with an instance
`ShOf.sh s` is `Tv.tr s.tr` by definition; the two classes do not know of each other, so `Eqv.rel` takes the equation
as a hypothesis (`hsh`, `rfl` at each use) -/
class ShOf (α : Type) where
  sh : Sh → α → α

instance : ShOf Val := ⟨Sh.val⟩
instance : ShOf Bool := ⟨fun _ b => b⟩
instance : ShOf Unit := ⟨fun _ u => u⟩
instance : ShOf Heap := ⟨Sh.heap⟩

/-- the stops left out of the comparison because their occurrence may depend on how much fuel the heap size
grants: `diverge` (`copyVal`, `eqVals` out of fuel) and `enum`, which `equalM` reports for `amb`, a `no` beside a
`cyc` in `eqCombine`, where more fuel may turn the `cyc` into an answer. The `enum` of a wildcard over a map
(`pathGet`) does not depend on fuel; it is left out with the other because the stop does not say which it is. -/
def Stop.soft (e : Stop) : Prop := e = .diverge ∨ e = .enum

/-- the hypothesis under which more fuel changes nothing (`FirmLe`, `copyVal_mono`) -/
def Firm (r : Except Stop α) : Prop := ∀ e, r = .error e → ¬ e.soft

/-- `m2`, run in the heap with the cells inserted, does what `m1` does in the heap without them, moved:
same outcome, the value and the heap after are the images — wherever `m1` does not end in a soft stop -/
structure Eqv (s : Sh) [ShOf α] (m1 m2 : M α) : Prop where
  eq : ∀ h, s.k ≤ h.length → Firm (m1 h).1 →
    m2 (s.heap h) = (((m1 h).1).map (ShOf.sh s), s.heap (m1 h).2) ∧ h.length ≤ (m1 h).2.length

variable {s : Sh}

theorem Eqv.ite [ShOf α] {c : Prop} [Decidable c] {m1 m2 n1 n2 : M α} (h1 : Eqv s m1 m2) (h2 : Eqv s n1 n2) :
    Eqv s (if c then m1 else n1) (if c then m2 else n2) := by
  split <;> assumption

/-- `m'` does what `m` does wherever `m` does not end in a soft stop (`m'` is `m` with more fuel) -/
def FirmLe (m m' : M α) : Prop := ∀ h, Firm (m h).1 → m' h = m h

theorem FirmLe.refl (m : M α) : FirmLe m m := fun _ _ => rfl

theorem FirmLe.bind {m m' : M α} {f f' : α → M β} (hm : FirmLe m m') (hf : ∀ a, FirmLe (f a) (f' a)) :
    FirmLe (m >>= f) (m' >>= f') := by
  intro h hfirm
  simp only [bind_apply] at hfirm ⊢
  cases hmh : m h with
  | mk r h1 =>
    rw [hmh] at hfirm
    cases r with
    | error e => rw [hm h (by rw [hmh]; exact fun e' he => hfirm e' (by cases he; rfl)), hmh]
    | ok a => rw [hm h (by rw [hmh]; exact fun _ he => nomatch he), hmh]; exact hf a h1 hfirm

theorem FirmLe.mapM' {β : Type} {f g : α → M β} : ∀ {xs : List α}, (∀ x ∈ xs, FirmLe (f x) (g x)) →
    FirmLe (mapM' f xs) (mapM' g xs)
  | [], _ => .refl _
  | a :: _, hfg =>
    (hfg a (List.mem_cons_self ..)).bind fun _ =>
      (FirmLe.mapM' fun x hx => hfg x (List.mem_cons_of_mem _ hx)).bind fun _ => .refl _

theorem copyVal_le : ∀ (n : Nat) (v : Val), FirmLe (copyVal n v) (copyVal (n + 1) v)
  | 0, _ => fun _ hf => absurd (.inl rfl) (hf .diverge rfl)
  | n + 1, v => by
    cases v <;> try exact .refl _
    · exact (FirmLe.refl _).bind fun _ => (FirmLe.mapM' fun x _ => copyVal_le n x).bind fun _ => .refl _
    · exact (FirmLe.refl _).bind fun _ =>
        (FirmLe.mapM' fun kv _ => (copyVal_le n kv.2).bind fun _ => .refl _).bind fun _ => .refl _

theorem copyVal_mono (n : Nat) (v : Val) (h : Heap) (hf : Firm (copyVal n v h).1) : ∀ m, copyVal (n + m) v h = copyVal n v h
  | 0 => rfl
  | m + 1 => by
    have ih := copyVal_mono n v h hf m
    rw [← Nat.add_assoc, copyVal_le (n + m) v h (by rw [ih]; exact hf), ih]

/-- a value of the plan: a scalar, or a reference below the boundary — the insertion leaves it alone -/
def Val.lo (k : Nat) : Val → Prop
  | .aref a => a < k
  | .mref a => a < k
  | _ => True

theorem Sh.val_lo {v : Val} (h : v.lo s.k) : s.val v = v := by
  cases v <;> simp [Val.lo, Sh.ad] at h ⊢ <;> omega

theorem equalM_eqv (dev : Dev) (v0 v1 : Val) : Eqv s (equalM dev v0 v1) (equalM dev (s.val v0) (s.val v1)) := by
  refine ⟨fun h hk hfirm => ⟨?_, by rw [equalM_apply]; split <;> exact Nat.le_refl _⟩⟩
  -- the heap with the cells inserted grants more fuel; an answer found with less stays
  obtain ⟨m, hm⟩ : ∃ m, eqFuel (s.heap h) = eqFuel h + m := Nat.exists_eq_add_of_le (by
    unfold eqFuel
    rw [Sh.heap_length s h hk]
    have := Nat.mul_le_mul (Nat.le_add_right h.length s.G.length) (Nat.le_add_right h.length s.G.length)
    omega)
  have hsh := Sh.eqVals_sh s dev h hk (eqFuel h + m) [] v0 v1
  rw [List.map_nil] at hsh
  rw [equalM_apply] at hfirm
  rw [equalM_apply, equalM_apply, hm, hsh]
  cases hr : eqVals dev h (eqFuel h) [] v0 v1 <;> rw [hr] at hfirm
  · rw [eqVals_mono dev h _ [] v0 v1 _ hr (.inl rfl) m]; rfl
  · rw [eqVals_mono dev h _ [] v0 v1 _ hr (.inr rfl) m]; rfl
  · exact absurd (.inl rfl) (hfirm .diverge rfl)
  · exact absurd (.inr rfl) (hfirm .enum rfl)

theorem pathSet_eqv (value : Option Val) (cur : Val) (fs : List Frag) :
    Eqv s (pathSet value cur fs) (pathSet (value.map s.val) (s.val cur) fs) := by
  refine ⟨fun h hk _ => ?_⟩
  obtain ⟨r1, r2⟩ := Sh.pathSet_sh s value fs cur h hk
  refine ⟨?_, r2⟩
  rw [r1]
  cases (pathSet value cur fs h).1 <;> rfl

/-- every literal of the plan lives in the plan's cells -/
inductive ArgLo (k : Nat) : Arg → Prop where
  | lit (v : Val) : v.lo k → ArgLo k (.lit v)
  | raw (v : Val) (es : List Arg) : v.lo k → (∀ e ∈ es, ArgLo k e) → ArgLo k (.raw v es)
  | path (p : Path) : ArgLo k (.path p)
  | call (f : Bytes) (args : List Arg) : (∀ a ∈ args, ArgLo k a) → ArgLo k (.call f args)
  | unk : ArgLo k .unk

/-- a (key, element) pair of `sort` under the address shift -/
def Sh.pair (s : Sh) (p : Option Val × Val) : Option Val × Val := (p.1.map s.val, s.val p.2)

theorem sortLess_sh (ki kj : Option Val) : sortLess (ki.map s.val) (kj.map s.val) = sortLess ki kj := by
  cases ki with
  | none => rfl
  | some vi =>
    cases kj with
    | none => cases vi <;> rfl
    | some vj => cases vi <;> cases vj <;> rfl

theorem sortInsert_sh (x : Option Val × Val) : ∀ (pre : List (Option Val × Val)),
    sortInsert (s.pair x) (pre.map s.pair) = (sortInsert x pre).map (List.map s.pair)
  | [] => rfl
  | p :: r => by
    simp only [List.map, sortInsert, Sh.pair, sortLess_sh]
    cases sortLess x.1 p.1 with
    | error e => rfl
    | ok b =>
      cases b
      · rfl
      · simp only []
        have ih := sortInsert_sh x r
        simp only [Sh.pair] at ih
        rw [ih]
        cases sortInsert x r <;> rfl

theorem sortRun_sh : ∀ (xs pre : List (Option Val × Val)),
    sortRun (xs.map s.pair) (pre.map s.pair) = (sortRun xs pre).map (List.map s.pair)
  | [], pre => rfl
  | x :: r, pre => by
    simp only [List.map, sortRun, sortInsert_sh]
    cases sortInsert x pre with
    | error e => rfl
    | ok pre' => exact sortRun_sh r pre'

theorem sortKeys_sh (dev : Dev) (h : Heap) (hk : s.k ≤ h.length) (fs : List Frag) : ∀ (xs : List Val),
    sortKeys ⟨dev, none⟩ (s.heap h) fs (xs.map s.val) = (sortKeys ⟨dev, none⟩ h fs xs).map (List.map s.pair)
  | [] => rfl
  | x :: r => by
    simp only [List.map, sortKeys, Sh.pathFirst_sh s dev h hk fs x, sortKeys_sh dev h hk fs r]
    cases pathFirst ⟨dev, none⟩ h x fs with
    | error e => rfl
    | ok kx => cases sortKeys ⟨dev, none⟩ h fs r <;> rfl

theorem sortList_sh (dev : Dev) (h : Heap) (hk : s.k ≤ h.length) (fs : List Frag) (xs : List Val) :
    sortList ⟨dev, none⟩ (s.heap h) fs (xs.map s.val) = (sortList ⟨dev, none⟩ h fs xs).map (List.map s.val) := by
  unfold sortList
  simp only [List.length_map, sortKeys_sh dev h hk fs xs]
  split
  · rfl
  · cases sortKeys ⟨dev, none⟩ h fs xs with
    | error e => rfl
    | ok ks =>
      have hr := sortRun_sh (s := s) ks []
      simp only [List.map] at hr
      simp only [exceptMap_ok, hr]
      cases sortRun ks [] with
      | error e => rfl
      | ok l =>
        simp only [exceptMap_ok, List.map_map, List.map_reverse]
        rfl

/-- the insertion as a `Tr`: addresses and heaps move as `Sh` says; the heaps are those that hold the plan; a run does
not shorten the heap; nothing is claimed at a soft stop. `s.tr.val` is `s.val` and `s.tr.cell` is `s.cell` by
definition (the same matches over `s.ad`), so a fact about `Sh.val` is a fact about `Tr.val s.tr` as it is. -/
def Sh.tr (s : Sh) : Tr :=
  ⟨s.ad, s.heap, (s.k ≤ ·.length), fun _ => True, fun h h' => h.length ≤ h'.length, Stop.soft, fun _ => True⟩

theorem Sh.tr_goodV (s : Sh) (v : Val) : s.tr.goodV v := Tr.goodV_of_all (fun _ => trivial) v

theorem Sh.tr_laws (s : Sh) : s.tr.Laws :=
  { refl := fun _ => Nat.le_refl _, trans := Nat.le_trans, mild := fun _ => trivial
    arrAt := fun {h} hk => Sh.arrAt_sh s h hk
    mapAt := fun {h} hk => Sh.mapAt_sh s h hk
    arrGood := fun _ _ v _ => s.tr_goodV v
    mapGood := fun _ _ kv _ => s.tr_goodV kv.2
    alloc := fun {h c} hk _ => ⟨Sh.heap_append s h hk c, Sh.ad_length s h hk,
      by show s.k ≤ (h ++ [c]).length; have : s.k ≤ h.length := hk; simp; omega, trivial,
      by show h.length ≤ (h ++ [c]).length; simp⟩ }

theorem Eqv.of_rel {m1 m2 : M Val} (hr : Rel s.tr m1 m2) : Eqv s m1 m2 :=
  ⟨fun h hk hf => ⟨(hr.run h hk hf).1, (hr.run h hk hf).2.2.1⟩⟩

theorem Eqv.rel {α : Type} [Tv α] [ShOf α] (hsh : Tv.tr s.tr = ShOf.sh (α := α) s) (hgood : ∀ a : α, Tv.good s.tr a)
    {m1 m2 : M α} (he : Eqv s m1 m2) : Rel s.tr m1 m2 := by
  refine ⟨fun h hk hf => ?_⟩
  obtain ⟨e1, e2⟩ := he.eq h hk hf
  exact ⟨hsh ▸ e1, Nat.le_trans hk e2, e2, fun a _ => hgood a, fun _ _ => trivial⟩

/-- the copy on the side of the larger heap is made with more fuel: an answer found with less stays -/
theorem copyVal_shTr (n m : Nat) (v : Val) : Rel s.tr (copyVal n v) (copyVal (n + m) (s.tr.val v)) :=
  ⟨fun h hk hfirm => by
    have hm := copyVal_mono n v h hfirm m
    have := (copyVal_rel_all s.tr_laws (.inl (.inl rfl)) (n + m) v).run h hk (by rw [hm]; exact hfirm)
    rwa [hm] at this⟩

theorem ArgLo.plans (k : Nat) : Plans (Val.lo k) (fun _ => True) True fun _ a => ArgLo k a where
  atLit := fun h => by cases h with | lit _ hv => exact hv
  atRaw := fun h => by cases h with | raw _ _ hv hes => exact ⟨hv, hes⟩
  atCall := fun h => by cases h with | call _ _ hargs => exact ⟨trivial, hargs⟩
  atDry := fun _ => trivial

theorem Sh.tr_prims (s : Sh) (dev : Dev) (hd : dev.copies) : Prims s.tr dev none none (Val.lo s.k) (fun _ => True) where
  getall := fun {h v} hk _ fs =>
    .of_mild s.tr_laws (Sh.pathGet_sh s dev h hk fs v) (fun _ _ w _ => s.tr_goodV w) (pathGet_mild _ _ _ _)
  sort := fun {h xs} hk _ fs =>
    .of_mild s.tr_laws (sortList_sh dev h hk fs xs) (fun _ _ w _ => s.tr_goodV w) (sortList_mild _ _ _ _)
  equal := fun _ _ _ v0 v1 => (equalM_eqv dev v0 v1).rel rfl fun _ => trivial
  evalLit := fun v hv => evalLit_rel s.tr_laws dev (Sh.val_lo hv) (fun _ => s.tr_goodV v) fun h hk => by
    rw [show (s.tr.heap h).length + 1 = h.length + 1 + s.G.length by
      show (s.heap h).length + 1 = _; rw [Sh.heap_length s h hk]; omega]
    exact copyVal_shTr _ _ v
  share := fun h => absurd h hd.not_shared
  set := fun _ _ _ value cur fs _ _ => (pathSet_eqv value cur fs).rel rfl fun _ => trivial

theorem eval_eqv (dev : Dev) (hd : dev.copies) (root : Val) :
    ∀ (n : Nat) (a : Arg), ArgLo s.k a → ∀ at_,
      Eqv s (eval ⟨dev, none⟩ root n a at_) (eval ⟨dev, none⟩ (s.val root) n a (s.val at_)) :=
  fun n a hlo at_ => Eqv.of_rel
    (eval_rel s.tr_laws (s.tr_prims dev hd) (ArgLo.plans s.k) (s.tr_goodV root) n a hlo at_ (s.tr_goodV at_))

end OjgVerif.Asm
