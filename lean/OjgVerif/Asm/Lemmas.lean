import OjgVerif.Asm.Model
import OjgVerif.Asm.Spec
/-! The state-and-stop monad `M`; for the arithmetic, comparison, logic, list, path and control functions:
run on arguments that evaluate without effect (`PureArgs`), the evaluator's loop computes the
specification's function of their values; jp.First as the head of jp.Get. -/
namespace OjgVerif.Asm

@[simp] theorem pure_apply (a : α) (h : Heap) : (pure a : M α) h = (.ok a, h) := rfl

@[simp] theorem bind_apply (m : M α) (f : α → M β) (h : Heap) :
    (m >>= f) h = (match m h with
      | (.ok a, h') => f a h'
      | (.error e, h') => (.error e, h')) := rfl

@[simp] theorem stop_apply (s : Stop) (h : Heap) : (stop s : M α) h = (.error s, h) := rfl
@[simp] theorem getHeap_apply (h : Heap) : getHeap h = (.ok h, h) := rfl
@[simp] theorem alloc_apply (c : Cell) (h : Heap) : alloc c h = (.ok h.length, h ++ [c]) := rfl
@[simp] theorem liftE_apply (e : Except Stop α) (h : Heap) : liftE e h = (e, h) := rfl

theorem bind_ok {m : M α} {f : α → M β} {h h' : Heap} {a : α} (hm : m h = (.ok a, h')) :
    (m >>= f) h = f a h' := by simp [hm]

theorem bind_err {m : M α} {f : α → M β} {h h' : Heap} {e : Stop} (hm : m h = (.error e, h')) :
    (m >>= f) h = (.error e, h') := by simp [hm]

@[simp] theorem exceptMap_ok (f : α → β) (a : α) : (Except.ok a : Except ε α).map f = .ok (f a) := rfl
@[simp] theorem exceptMap_error (f : α → β) (e : ε) : (Except.error e : Except ε α).map f = .error e := rfl

/-- what `arrAt` finds in cell `a` is a member of the array that stands there -/
theorem Heap.mem_arrAt {h : Heap} {a : Nat} {v : Val} (hv : v ∈ h.arrAt a) : ∃ xs, h[a]? = some (.arr xs) ∧ v ∈ xs := by
  unfold Heap.arrAt at hv
  split at hv
  · exact ⟨_, ‹_›, hv⟩
  · cases hv

theorem Heap.mem_mapAt {h : Heap} {a : Nat} {kv : Bytes × Val} (hv : kv ∈ h.mapAt a) :
    ∃ kvs, h[a]? = some (.map kvs) ∧ kv ∈ kvs := by
  unfold Heap.mapAt at hv
  split at hv
  · exact ⟨_, ‹_›, hv⟩
  · cases hv

/-- evaluated in the heap `h`, argument `i` gives the value `vs[i]` and leaves the heap as it is (literals,
paths, calls of functions that only read) -/
def PureArgs (e : Arg → M Val) (h : Heap) : List Arg → List Val → Prop
  | [], [] => True
  | a :: as, v :: vs => e a h = (.ok v, h) ∧ PureArgs e h as vs
  | _, _ => False

instance (e : Arg → M Val) (h : Heap) : ∀ (args : List Arg) (vs : List Val), Decidable (PureArgs e h args vs)
  | [], [] => isTrue trivial
  | a :: as, v :: vs =>
    have := instDecidablePureArgs e h as vs
    inferInstanceAs (Decidable (e a h = (.ok v, h) ∧ PureArgs e h as vs))
  | [], _ :: _ => isFalse (by simp [PureArgs])
  | _ :: _, [] => isFalse (by simp [PureArgs])

/-- Where a function takes a fixed number of arguments, the proofs below use this with the induction
hypothesis unused, as the case split on both lists at once that leaves no case of unequal lengths. -/
theorem PureArgs.induction {e : Arg → M Val} {h : Heap}
    {motive : (args : List Arg) → (vs : List Val) → PureArgs e h args vs → Prop}
    (nil : motive [] [] trivial)
    (cons : ∀ {a as v vs} (h1 : e a h = (.ok v, h)) (hp : PureArgs e h as vs),
      motive as vs hp → motive (a :: as) (v :: vs) ⟨h1, hp⟩) :
    ∀ args vs (hp : PureArgs e h args vs), motive args vs hp
  | [], [], _ => nil
  | _ :: as, _ :: vs, hp => cons hp.1 hp.2 (PureArgs.induction nil cons as vs hp.2)
  | [], _ :: _, hp => hp.elim
  | _ :: _, [], hp => hp.elim

theorem PureArgs.length {e : Arg → M Val} {h : Heap} : ∀ {args vs}, PureArgs e h args vs → args.length = vs.length := by
  intro args vs hp
  induction args, vs, hp using PureArgs.induction with
  | nil => rfl
  | cons _ _ ih => simp [ih]

variable {e : Arg → M Val} {h : Heap} {args : List Arg} {vs : List Val}

theorem sumStep_add2 (acc : SumAcc) (v : Val) :
    (sumStep acc v).map SumAcc.val = Spec.add2 acc.val v := by
  cases acc <;> cases v <;> first
    | rfl
    | (simp only [sumStep, Spec.add2, SumAcc.val, Spec.gText]; generalize fmtG _ = o; cases o <;> rfl)

theorem sumLoop_spec (hp : PureArgs e h args vs) (acc : SumAcc) :
    sumLoop e acc args h = (Spec.foldM' Spec.add2 acc.val vs, h) := by
  induction args, vs, hp using PureArgs.induction generalizing acc with
  | nil => rfl
  | @cons _ _ v _ h1 _ ih =>
    simp only [sumLoop, bind_apply, h1, liftE_apply, Spec.foldM', ← sumStep_add2]
    cases sumStep acc v with
    | ok acc' => exact ih acc'
    | error er => rfl

theorem fnSum_spec (e : Arg → M Val) (h : Heap) (args : List Arg) (vs : List Val)
    (hp : PureArgs e h args vs) : fnSum e args h = (Spec.sum vs, h) := by
  induction args, vs, hp using PureArgs.induction with
  | nil => rfl
  | @cons _ _ v _ h1 hp _ =>
    simp only [fnSum, bind_apply, h1, liftE_apply]
    cases v <;> first | rfl | exact sumLoop_spec hp _

def ArithOp.spec : ArithOp → Spec.Arith
  | .dif => .dif | .product => .product | .quotient => .quotient

theorem iop_onInt (op : ArithOp) (x y : Int) :
    (match op.iop x y with | some r => .ok (.i r) | none => .error .panic : Except Stop NumAcc).map NumAcc.val =
      op.spec.onInt x y := by
  cases op <;> first | rfl | (by_cases hy : y = 0 <;> simp [ArithOp.iop, ArithOp.spec, Spec.Arith.onInt, Spec.raise, hy, NumAcc.val])

theorem arithF_onFlt (dev : Dev) (op : ArithOp) (x y : Flt) :
    (arithF dev op x y).map NumAcc.val = op.spec.onFlt dev x y := by
  cases op <;> first | rfl | (simp only [arithF, ArithOp.spec, Spec.Arith.onFlt, decide_true, Bool.true_and]; split <;> rfl)

theorem arithStep_arith2 (dev : Dev) (op : ArithOp) (acc : NumAcc) (v : Val) :
    (arithStep dev op acc v).map NumAcc.val = Spec.arith2 dev op.spec acc.val v := by
  cases acc <;> cases v <;> first | rfl | exact arithF_onFlt .. | exact iop_onInt ..

theorem arithLoop_spec (dev : Dev) (op : ArithOp) (hp : PureArgs e h args vs) (acc : NumAcc) :
    arithLoop dev op e acc args h = (Spec.foldM' (Spec.arith2 dev op.spec) acc.val vs, h) := by
  induction args, vs, hp using PureArgs.induction generalizing acc with
  | nil => rfl
  | @cons _ _ v _ h1 _ ih =>
    simp only [arithLoop, bind_apply, h1, liftE_apply, Spec.foldM', ← arithStep_arith2]
    cases arithStep dev op acc v with
    | ok acc' => exact ih acc'
    | error er => rfl

theorem fnArith_spec (dev : Dev) (op : ArithOp) (e : Arg → M Val) (h : Heap) (args : List Arg) (vs : List Val)
    (hp : PureArgs e h args vs) : fnArith dev op e args h = (Spec.arith dev op.spec vs, h) := by
  induction args, vs, hp using PureArgs.induction with
  | nil => rfl
  | @cons _ _ v _ h1 hp _ =>
    simp only [fnArith, bind_apply, h1, liftE_apply]
    cases v <;> first | rfl | exact arithLoop_spec dev op hp _

theorem fnMod_spec (e : Arg → M Val) (h : Heap) (args : List Arg) (vs : List Val)
    (hp : PureArgs e h args vs) : fnMod e args h = (Spec.mod vs, h) := by
  induction args, vs, hp using PureArgs.induction with
  | nil => rfl
  | @cons _ as v vs h1 hp _ =>
    induction as, vs, hp using PureArgs.induction with
    | nil => simp [fnMod, Spec.mod, Spec.raise]
    | @cons _ as w vs h2 hp _ =>
      induction as, vs, hp using PureArgs.induction with
      | cons => simp [fnMod, Spec.mod, Spec.raise]
      | nil =>
        simp only [fnMod, bind_apply, h1]
        cases v <;> try rfl
        simp only [asInt, bind_apply, h2]
        cases w <;> try rfl
        simp only [Spec.mod]
        split <;> rfl

theorem cmpNumLoop_spec (dev : Dev) (op : CmpOp) (hp : PureArgs e h args vs) (x : Flt) :
    cmpNumLoop dev op e x args h = (Spec.numChain dev op x vs, h) := by
  induction args, vs, hp using PureArgs.induction generalizing x with
  | nil => rfl
  | @cons _ _ v _ h1 _ ih =>
    simp only [cmpNumLoop, bind_apply, h1, Spec.numChain, Spec.numOf]
    cases asFloat (!dev.cmpFloat) v with
    | none => rfl
    | some y => simp only []; split <;> first | exact ih y | rfl

theorem cmpStrLoop_spec (op : CmpOp) (hp : PureArgs e h args vs) (x : Bytes) :
    cmpStrLoop op e x args h = (Spec.strChain op x vs, h) := by
  induction args, vs, hp using PureArgs.induction generalizing x with
  | nil => rfl
  | cons h1 _ ih =>
    simp only [cmpStrLoop, bind_apply, h1, Spec.strChain]
    split <;> first | exact ih _ | rfl

/-- the comparison functions compute the documented chain whenever the first argument is what the code
looks at: always when the first argument is evaluated (`cmpUneval = false`, the code since 312106f), and
for a literal first argument also in the code before, which switched on the unevaluated argument -/
theorem fnCmp_spec (dev : Dev) (op : CmpOp) (e : Arg → M Val) (h : Heap) (args : List Arg) (vs : List Val)
    (hp : PureArgs e h args vs)
    (hfirst : dev.cmpUneval = false ∨ ∃ v r, args = .lit v :: r ∧ vs.head? = some v) :
    fnCmp dev op e args h = (Spec.cmp dev op vs, h) := by
  induction args, vs, hp using PureArgs.induction with
  | nil => rfl
  | @cons a _ v _ h1 hp _ =>
    have hhead : cmpHead dev e a h = (.ok v, h) := by
      unfold cmpHead
      split
      · obtain hu | ⟨_, _, ha, hv⟩ := hfirst
        · simp_all
        · cases ha; cases hv; rfl
      · exact h1
    simp only [fnCmp, bind_apply, hhead]
    cases v <;> first | rfl | exact cmpNumLoop_spec dev op hp _ | exact cmpStrLoop_spec op hp _

theorem equalM_apply (dev : Dev) (v0 v1 : Val) (h : Heap) :
    equalM dev v0 v1 h = (match eqVals dev h (eqFuel h) [] v0 v1 with
      | .yes => (.ok true, h)
      | .no => (.ok false, h)
      | .cyc => (.error .diverge, h)
      | .amb => (.error .enum, h)) := rfl

theorem equalM_snd (dev : Dev) (v0 v1 : Val) (h : Heap) : (equalM dev v0 v1 h).2 = h := by
  rw [equalM_apply]; split <;> rfl

theorem eqLoop_spec (dev : Dev) (v0 : Val) (hp : PureArgs e h args vs) :
    eqLoop dev e v0 args h = (Spec.equalTo dev h v0 vs, h) := by
  induction args, vs, hp using PureArgs.induction with
  | nil => rfl
  | @cons _ _ v _ h1 _ ih =>
    simp only [eqLoop, bind_apply, h1, Spec.equalTo, equalM_apply]
    cases eqVals dev h (eqFuel h) [] v0 v <;> first | exact ih | rfl

theorem fnEqual_spec (dev : Dev) (e : Arg → M Val) (h : Heap) (args : List Arg) (vs : List Val)
    (hp : PureArgs e h args vs) : fnEqual dev e args h = (Spec.equal dev h vs, h) := by
  induction args, vs, hp using PureArgs.induction with
  | nil => rfl
  | cons h1 hp _ =>
    simp only [fnEqual, bind_apply, h1, Spec.equal]
    exact eqLoop_spec dev _ hp

theorem fnAnd_spec (e : Arg → M Val) (h : Heap) :
    ∀ (args : List Arg) (vs : List Val), PureArgs e h args vs → fnAnd e args h = (Spec.land vs, h) := by
  intro args vs hp
  induction args, vs, hp using PureArgs.induction with
  | nil => rfl
  | @cons _ _ v _ h1 _ ih =>
    simp only [fnAnd, bind_apply, h1]
    cases v <;> try rfl
    rename_i b
    cases b <;> first | rfl | exact ih

theorem fnOr_spec (e : Arg → M Val) (h : Heap) :
    ∀ (args : List Arg) (vs : List Val), PureArgs e h args vs → fnOr e args h = (Spec.lor vs, h) := by
  intro args vs hp
  induction args, vs, hp using PureArgs.induction with
  | nil => rfl
  | @cons _ _ v _ h1 _ ih =>
    simp only [fnOr, bind_apply, h1]
    cases v <;> first | rfl | exact ih | skip
    rename_i b
    cases b <;> first | rfl | exact ih

theorem fnNot_spec (e : Arg → M Val) (h : Heap) (args : List Arg) (vs : List Val)
    (hp : PureArgs e h args vs) : fnNot e args h = (Spec.lnot vs, h) := by
  induction args, vs, hp using PureArgs.induction with
  | nil => rfl
  | @cons _ as v vs h1 hp _ =>
    induction as, vs, hp using PureArgs.induction with
    | nil => simp only [fnNot, bind_apply, h1]; cases v <;> rfl
    | cons => simp [fnNot, Spec.lnot, Spec.raise]

theorem mapM'_pure (hp : PureArgs e h args vs) : mapM' e args h = (.ok vs, h) := by
  induction args, vs, hp using PureArgs.induction with
  | nil => rfl
  | cons h1 _ ih => simp only [mapM', bind_apply, h1, ih, pure_apply]

theorem fnList_spec (e : Arg → M Val) (h : Heap) (args : List Arg) (vs : List Val)
    (hp : PureArgs e h args vs) : fnList e args h = Spec.list vs h := by
  simp only [fnList, bind_apply, mapM'_pure hp]
  rfl

theorem fnNth_spec (e : Arg → M Val) (h : Heap) (args : List Arg) (vs : List Val)
    (hp : PureArgs e h args vs) : fnNth e args h = (Spec.nth h vs, h) := by
  induction args, vs, hp using PureArgs.induction with
  | nil => rfl
  | @cons _ as v vs h1 hp _ =>
    induction as, vs, hp using PureArgs.induction with
    | nil => simp [fnNth, Spec.nth, Spec.raise]
    | @cons _ as w vs h2 hp _ =>
      induction as, vs, hp using PureArgs.induction with
      | cons => simp [fnNth, Spec.nth, Spec.raise]
      | nil =>
        simp only [fnNth, bind_apply, h1]
        cases v <;> try rfl
        simp only [bind_apply, h2]
        cases w <;> try rfl
        simp only [asInt, bind_apply, getHeap_apply, Spec.nth]
        generalize normIdx _ _ = o
        cases o <;> rfl

theorem fnSize_spec (e : Arg → M Val) (h : Heap) (args : List Arg) (vs : List Val)
    (hp : PureArgs e h args vs) : fnSize e args h = (Spec.size h vs, h) := by
  induction args, vs, hp using PureArgs.induction with
  | nil => rfl
  | @cons _ as v vs h1 hp _ =>
    induction as, vs, hp using PureArgs.induction with
    | nil => simp only [fnSize, bind_apply, h1, getHeap_apply]; cases v <;> rfl
    | cons => simp [fnSize, Spec.size, Spec.raise]

theorem fnPred_spec (p : Val → Bool) (e : Arg → M Val) (h : Heap) (args : List Arg) (vs : List Val)
    (hp : PureArgs e h args vs) : fnPred p e args h = (Spec.pred p vs, h) := by
  induction args, vs, hp using PureArgs.induction with
  | nil => rfl
  | @cons _ as _ vs h1 hp _ =>
    induction as, vs, hp using PureArgs.induction with
    | nil => simp only [fnPred, bind_apply, h1]; rfl
    | cons => rfl

theorem joinLoop_spec (hp : PureArgs e h args vs) (first : Bool) (acc : Bytes) :
    joinLoop e args first acc h = (Spec.joined vs first acc, h) := by
  induction args, vs, hp using PureArgs.induction generalizing first acc with
  | nil => rfl
  | @cons _ _ v _ h1 _ ih =>
    simp only [joinLoop, bind_apply, h1]
    cases v <;> first | rfl | exact ih _ _

theorem fnPathOf_spec (isAt : Bool) (e : Arg → M Val) (h : Heap) (args : List Arg) (vs : List Val)
    (hp : PureArgs e h args vs) : fnPathOf isAt e args h = (Spec.pathOf isAt vs, h) := by
  simp only [fnPathOf, bind_apply, joinLoop_spec hp, Spec.pathOf]
  cases Spec.joined vs true [] with
  | error er => rfl
  | ok b => simp only []; cases parseRel b <;> rfl

/-- `get`, `getall`, `set`/`setall` take their path from `pathArg`: a path as it stands in the plan, or a call
that returns one (`[get [at x]]`); stated for whatever yields the path without effect -/
theorem fnGet_path (env : Env) (e : Arg → M Val) (root at_ : Val) (a : Arg) (p : Path) (h : Heap)
    (ha : pathArg e a h = (.ok p, h)) :
    fnGet env e root at_ [a] h = (Spec.get env h p (if p.isAt then at_ else root), h) := by
  simp only [fnGet, bind_apply, ha, getHeap_apply, liftE_apply, Spec.get]
  cases pathFirst env h (if p.isAt then at_ else root) p.frags <;> rfl

theorem fnGet_data (env : Env) (e : Arg → M Val) (root at_ : Val) (a : Arg) (p : Path) (d : Arg) (data : Val) (h : Heap)
    (ha : pathArg e a h = (.ok p, h)) (hd : e d h = (.ok data, h)) :
    fnGet env e root at_ [a, d] h = (Spec.get env h p data, h) := by
  simp only [fnGet, bind_apply, ha, getHeap_apply, liftE_apply, Spec.get, hd]
  cases pathFirst env h data p.frags <;> rfl

theorem fnGetall_path (env : Env) (e : Arg → M Val) (root at_ : Val) (a : Arg) (p : Path) (h : Heap)
    (ha : pathArg e a h = (.ok p, h)) :
    fnGetall env e root at_ [a] h = Spec.getall env p (if p.isAt then at_ else root) h := by
  simp only [fnGetall, bind_apply, ha, getHeap_apply, liftE_apply, Spec.getall]
  cases pathGet env h (if p.isAt then at_ else root) p.frags <;> rfl

theorem fnGetall_data (env : Env) (e : Arg → M Val) (root at_ : Val) (a : Arg) (p : Path) (d : Arg) (data : Val) (h : Heap)
    (ha : pathArg e a h = (.ok p, h)) (hd : e d h = (.ok data, h)) :
    fnGetall env e root at_ [a, d] h = Spec.getall env p data h := by
  simp only [fnGetall, bind_apply, ha, getHeap_apply, liftE_apply, Spec.getall, hd]
  cases pathGet env h data p.frags <;> rfl

theorem setAt_spec (value : Option Val) (p : Path) (root at_ : Val) (h : Heap) :
    (setAt value p root at_ >>= fun _ => pure at_) h =
      Spec.setOrDel value p (if p.isAt then at_ else root) at_ h := by
  simp only [setAt, Spec.setOrDel]
  split
  · rfl
  · rw [bind_apply]
    generalize pathSet _ _ _ _ = r
    obtain ⟨_ | _, _⟩ := r <;> rfl

theorem fnSet_path (e : Arg → M Val) (root at_ : Val) (a : Arg) (p : Path) (b : Arg) (v : Val) (h : Heap)
    (ha : pathArg e a h = (.ok p, h)) (hb : e b h = (.ok v, h)) :
    fnSet e root at_ [a, b] h = Spec.setOrDel (some v) p (if p.isAt then at_ else root) at_ h := by
  simp only [fnSet, bind_apply, ha, hb]
  exact setAt_spec ..

/-- a `cond` argument as the specification sees it: the two computations of a two-element list -/
def condPair (dev : Dev) (e : Arg → M Val) : Arg → Option (M Val × M Val)
  | .raw _ [c, v] => some (evalValue dev e c, evalValue dev e v)
  | _ => none

theorem eachLoop_spec (ev : Arg → Val → M Val) (fn : Arg) (key : Bytes) (a : Nat) :
    ∀ (n i : Nat) (acc : List Val) (h : Heap),
      eachLoop ev fn key a n i acc h =
        (match Spec.eachFrom (fun at' => ev fn at') key a n i h with
         | (.ok rs, h') => (.ok (acc.reverse ++ rs), h')
         | (.error er, h') => (.error er, h'))
  | 0, i, acc, h => by simp [eachLoop, Spec.eachFrom]
  | n + 1, i, acc, h => by
    simp only [eachLoop, Spec.eachFrom, bind_apply, getHeap_apply, alloc_apply, pure_apply]
    cases ev fn (Val.mref h.length) (h ++ [Cell.map [(b!"src", (h.arrAt a).getD i Val.null)]]) with
    | mk r h1 =>
      cases r with
      | error er => rfl
      | ok w =>
        simp only [eachLoop_spec ev fn key a n (i + 1)]
        cases Spec.eachFrom (fun at' => ev fn at') key a n (i + 1) h1 with
        | mk r2 h2 => cases r2 <;> simp

theorem each_tail_spec (ev : Arg → Val → M Val) (fn : Arg) (key : Bytes) (a : Nat) (h : Heap) :
    (getHeap >>= fun h => eachLoop ev fn key a (h.arrAt a).length 0 [] >>= fun rs =>
      alloc (.arr rs) >>= fun c => pure (Val.aref c)) h = Spec.each (fun at' => ev fn at') key a h := by
  simp only [bind_apply, getHeap_apply, Spec.each, eachLoop_spec]
  cases Spec.eachFrom (fun at' => ev fn at') key a (h.arrAt a).length 0 h with
  | mk r h' => cases r <;> simp

theorem fnEach_spec (ev : Arg → Val → M Val) (at_ : Val) (a0 : Arg) (f : Bytes) (fargs : List Arg) (a : Nat) (h : Heap)
    (h0 : ev a0 at_ h = (.ok (.aref a), h)) :
    fnEach ev at_ [a0, .call f fargs] h = Spec.each (fun at' => ev (.call f fargs) at') b!"asm" a h := by
  simp only [fnEach, bind_apply, h0, pure_apply]
  exact each_tail_spec ..

theorem pathFirst_eq_head (env : Env) (h : Heap) : ∀ (fs : List Frag) (v : Val),
    pathFirst env h v fs = (pathGet env h v fs).map List.head?
  | [], _ => rfl
  | f :: rest, v => by
    have ih := pathFirst_eq_head env h rest
    -- the two functions branch alike; a leaf is the same stop, the recursive call, or `head?` of what is collected
    cases f <;> cases v <;> simp only [pathFirst, pathGet, exceptMap_ok, exceptMap_error, List.head?_nil] <;>
      (repeat' split) <;> first | rfl | exact ih _ | simp

end OjgVerif.Asm
