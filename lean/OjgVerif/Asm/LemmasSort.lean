import OjgVerif.Common.BytesLemmas
import OjgVerif.Asm.Lemmas
/-! What `sort` returns (the `asm` family): a permutation of the array it is given (the very elements, same
references) in which no element is less than its predecessor under the documented comparison (`sortLess`:
strings with strings, numbers with numbers by exact value) — what an insertion sort guarantees whether or not
the comparison is transitive (a NaN key is less than nothing, so a list with NaN keys is left locally ordered
only). -/
namespace OjgVerif.Asm

theorem sortInsert_perm (x : Option Val × Val) : ∀ (pre l : List (Option Val × Val)), sortInsert x pre = .ok l →
    List.Perm l (x :: pre)
  | [], l, h => by simp [sortInsert] at h; subst h; exact List.Perm.refl _
  | p :: r, l, h => by
    simp only [sortInsert] at h
    split at h
    · cases h
    · cases hr : sortInsert x r with
      | error e => simp [hr] at h
      | ok l' =>
        simp [hr] at h
        subst h
        exact ((sortInsert_perm x r l' hr).cons p).trans (List.Perm.swap x p r)
    · simp at h; subst h; exact List.Perm.refl _

theorem sortRun_perm : ∀ (xs pre l : List (Option Val × Val)), sortRun xs pre = .ok l → List.Perm l (xs ++ pre)
  | [], pre, l, h => by simp [sortRun] at h; subst h; exact List.Perm.refl _
  | x :: r, pre, l, h => by
    simp only [sortRun] at h
    cases hi : sortInsert x pre with
    | error e => simp [hi] at h
    | ok pre' =>
      simp only [hi] at h
      have h1 := sortRun_perm r pre' l h
      have h2 := sortInsert_perm x pre pre' hi
      refine h1.trans ?_
      refine (List.Perm.append_left r h2).trans ?_
      simp only [List.cons_append]
      exact List.perm_middle

/-- the keys that were found: the pairs are the elements of the array, in its order, each with the key its path selects -/
theorem sortKeys_ok (env : Env) (h : Heap) (fs : List Frag) : ∀ (xs : List Val) (ks : List (Option Val × Val)),
    sortKeys env h fs xs = .ok ks → ks.map (·.2) = xs ∧ ∀ p ∈ ks, pathFirst env h p.2 fs = .ok p.1
  | [], ks, hk => by simp [sortKeys] at hk; subst hk; exact ⟨rfl, fun _ hp => nomatch hp⟩
  | x :: r, ks, hk => by
    simp only [sortKeys] at hk
    cases hf : pathFirst env h x fs with
    | error e => simp [hf] at hk
    | ok kx =>
      simp only [hf] at hk
      cases hr : sortKeys env h fs r with
      | error e => simp [hr] at hk
      | ok l =>
        simp [hr] at hk
        subst hk
        obtain ⟨i1, i2⟩ := sortKeys_ok env h fs r l hr
        exact ⟨by simp [i1], List.forall_mem_cons.2 ⟨hf, i2⟩⟩

/-- a `sortList` that ends `ok`: the keys were found, the run over them ended, and the result is what the run left,
turned round and without the keys -/
theorem sortList_ok {env : Env} {h : Heap} {fs : List Frag} {xs r : List Val} (hs : sortList env h fs xs = .ok r) :
    ∃ ks l, sortKeys env h fs xs = .ok ks ∧ sortRun ks [] = .ok l ∧ r = (l.map (·.2)).reverse := by
  unfold sortList at hs
  split at hs
  · cases hs
  · split at hs
    · cases hs
    · next ks hk =>
      cases hr : sortRun ks [] with
      | error e => simp [hr] at hs
      | ok l => exact ⟨ks, l, hk, hr, by simpa [hr] using hs.symm⟩

theorem sortList_perm (env : Env) (h : Heap) (fs : List Frag) (xs r : List Val) (hs : sortList env h fs xs = .ok r) :
    List.Perm r xs := by
  obtain ⟨ks, l, hk, hr, rfl⟩ := sortList_ok hs
  have hp := sortRun_perm ks [] l hr
  simp only [List.append_nil] at hp
  have := (hp.map (·.2))
  rw [(sortKeys_ok env h fs xs ks hk).1] at this
  exact (List.reverse_perm _).trans this

theorem Flt.lt_asymm (a b : Flt) (h : Flt.lt a b = true) : Flt.lt b a = false := by
  cases a <;> cases b <;> simp_all [Flt.lt]
  · omega

theorem sortLess_asymm (ki kj : Option Val) (h : sortLess ki kj = .ok true) : sortLess kj ki = .ok false := by
  cases ki with
  | none => simp [sortLess] at h
  | some vi =>
    cases kj with
    | none => cases vi <;> simp [sortLess] at h
    | some vj =>
      cases vi <;> cases vj <;> simp [sortLess, asFloat] at h ⊢
      all_goals first
        | exact Flt.lt_asymm _ _ h
        | exact Bool.eq_false_iff.2 (bytesLt_asymm _ _ h)

/-- reversed prefix in order: every element is not less than the one before it (the list is kept last first) -/
def RevOrdered : List (Option Val × Val) → Prop
  | [] => True
  | [_] => True
  | a :: b :: r => sortLess a.1 b.1 = .ok false ∧ RevOrdered (b :: r)

/-- what heads the prefix after `x` has gone in: `x` itself, or the old head, which `x` has then passed -/
theorem sortInsert_head (x : Option Val × Val) : ∀ (pre l : List (Option Val × Val)), sortInsert x pre = .ok l →
    l.head? = some x ∨ (l.head? = pre.head? ∧ ∃ p r, pre = p :: r ∧ sortLess x.1 p.1 = .ok true)
  | [], l, h => by simp [sortInsert] at h; subst h; simp
  | p :: r, l, h => by
    simp only [sortInsert] at h
    split at h
    · cases h
    · rename_i ht
      cases hr : sortInsert x r with
      | error e => simp [hr] at h
      | ok l' => simp [hr] at h; subst h; exact Or.inr ⟨rfl, p, r, rfl, ht⟩
    · simp at h; subst h; simp

/-- Asymmetry of `sortLess` is the one property of the comparison the order rests on (no transitivity, no totality):
when `x` has passed `p`, what stands next to `p` afterwards is `x` itself, not less than `p` by `sortLess_asymm`, or
`p`'s old neighbour, in order with `p` before. A kind of key added to `sortLess` has `sortLess_asymm` to re-prove, nothing else. -/
theorem sortInsert_ordered (x : Option Val × Val) : ∀ (pre l : List (Option Val × Val)), RevOrdered pre →
    sortInsert x pre = .ok l → RevOrdered l
  | [], l, _, h => by simp [sortInsert] at h; subst h; trivial
  | p :: r, l, ho, h => by
    simp only [sortInsert] at h
    cases hl : sortLess x.1 p.1 with
    | error e => simp [hl] at h
    | ok b =>
      cases b with
      | false => simp [hl] at h; subst h; exact ⟨hl, ho⟩
      | true =>
        simp only [hl] at h
        cases hr : sortInsert x r with
        | error e => simp [hr] at h
        | ok l' =>
          simp [hr] at h
          subst h
          have hor : RevOrdered r := by
            cases r with
            | nil => trivial
            | cons q r' => exact ho.2
          have ih := sortInsert_ordered x r l' hor hr
          cases l' with
          | nil => trivial
          | cons a l'' =>
            refine ⟨?_, ih⟩
            rcases sortInsert_head x r (a :: l'') hr with h1 | ⟨h1, q, r', hq, _⟩
            · simp at h1; subst h1; exact sortLess_asymm _ _ hl
            · subst hq; simp at h1; subst h1; exact ho.1

theorem sortRun_ordered : ∀ (xs pre l : List (Option Val × Val)), RevOrdered pre → sortRun xs pre = .ok l → RevOrdered l
  | [], pre, l, ho, h => by simp [sortRun] at h; subst h; exact ho
  | x :: r, pre, l, ho, h => by
    simp only [sortRun] at h
    cases hi : sortInsert x pre with
    | error e => simp [hi] at h
    | ok pre' =>
      simp only [hi] at h
      exact sortRun_ordered r pre' l (sortInsert_ordered x pre pre' ho hi) h

/-- in order, first first: no element is less than the one before it -/
def FwdOrdered : List (Option Val × Val) → Prop
  | [] => True
  | [_] => True
  | a :: b :: r => sortLess b.1 a.1 = .ok false ∧ FwdOrdered (b :: r)

theorem fwd_snoc (a : Option Val × Val) : ∀ (m : List (Option Val × Val)), FwdOrdered m →
    (∀ b, m.getLast? = some b → sortLess a.1 b.1 = .ok false) → FwdOrdered (m ++ [a])
  | [], _, _ => trivial
  | [b], _, hl => ⟨hl b rfl, trivial⟩
  | b :: c :: r, hm, hl => by
    refine ⟨hm.1, ?_⟩
    exact fwd_snoc a (c :: r) hm.2 (fun d hd => hl d (by simpa [List.getLast?_cons_cons] using hd))

theorem rev_fwd : ∀ (l : List (Option Val × Val)), RevOrdered l → FwdOrdered l.reverse
  | [], _ => trivial
  | [a], _ => trivial
  | a :: b :: r, ho => by
    have ih := rev_fwd (b :: r) ho.2
    rw [List.reverse_cons]
    refine fwd_snoc a _ ih ?_
    intro d hd
    rw [List.getLast?_reverse] at hd
    simp at hd
    subst hd
    exact ho.1

/-- the array is in order by the key the path selects in each element: no element's key is less than the key of
the element before it -/
def SortedBy (env : Env) (h : Heap) (fs : List Frag) : List Val → Prop
  | [] => True
  | [_] => True
  | u :: v :: r =>
    (∃ ku kv, pathFirst env h u fs = .ok ku ∧ pathFirst env h v fs = .ok kv ∧ sortLess kv ku = .ok false) ∧
      SortedBy env h fs (v :: r)

theorem sortedBy_of_fwd (env : Env) (h : Heap) (fs : List Frag) : ∀ (l : List (Option Val × Val)),
    (∀ p ∈ l, pathFirst env h p.2 fs = .ok p.1) → FwdOrdered l → SortedBy env h fs (l.map (·.2))
  | [], _, _ => trivial
  | [a], _, _ => trivial
  | a :: b :: r, hk, ho => by
    refine ⟨⟨a.1, b.1, hk a (by simp), hk b (by simp), ho.1⟩, ?_⟩
    exact sortedBy_of_fwd env h fs (b :: r) (fun p hp => hk p (List.mem_cons_of_mem _ hp)) ho.2

theorem sortList_sorted (env : Env) (h : Heap) (fs : List Frag) (xs r : List Val) (hs : sortList env h fs xs = .ok r) :
    SortedBy env h fs r := by
  obtain ⟨ks, l, hk, hr, rfl⟩ := sortList_ok hs
  rw [← List.map_reverse]
  apply sortedBy_of_fwd
  · intro p hp
    have hp' : p ∈ l := by simpa using hp
    have hperm := sortRun_perm ks [] l hr
    simp only [List.append_nil] at hperm
    exact (sortKeys_ok env h fs xs ks hk).2 p (hperm.mem_iff.mp hp')
  · exact rev_fwd l (sortRun_ordered ks [] l trivial hr)

theorem sortList_mem (env : Env) (h : Heap) (fs : List Frag) (xs r : List Val) (hs : sortList env h fs xs = .ok r) :
    ∀ v ∈ r, v ∈ xs :=
  fun _ hv => (sortList_perm env h fs xs r hs).subset hv

end OjgVerif.Asm
