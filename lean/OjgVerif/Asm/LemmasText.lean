import OjgVerif.Asm.Lemmas
/-! Model = specification for the text, conversion and list functions of the `asm` family: on arguments that
evaluate without effect the evaluator of a `ScalarFn` record makes the assertions of the record in order and
returns what `Spec.scalar` says; `reverse`, `append`, `include` return what `Spec.reverse/append/includ` say. -/
namespace OjgVerif.Asm

theorem wantLoop_pure (e : Arg → M Val) (h : Heap) :
    ∀ (args : List Arg) (vs : List Val) (ws : List Want) (acc : List Tree), PureArgs e h args vs →
      wantLoop e args ws acc h =
        (match Spec.acceptAll h ws vs acc with | .ok r => (.ok r, h) | .error er => (.error er, h)) := by
  intro args vs ws acc hp
  induction args, vs, hp using PureArgs.induction generalizing ws acc with
  | nil => cases ws <;> simp [wantLoop, Spec.acceptAll]
  | @cons _ _ v _ h1 _ ih =>
    cases ws with
    | nil => simp [wantLoop, Spec.acceptAll]
    | cons w ws =>
      simp only [wantLoop, bind_apply, h1, getHeap_apply, liftE_apply, Spec.acceptAll]
      cases w.accept h v with
      | error er => simp
      | ok xs => exact ih ws _

theorem PureArgs.append {e : Arg → M Val} {h : Heap} : ∀ {as bs : List Arg} {vs ws : List Val},
    PureArgs e h as vs → PureArgs e h bs ws → PureArgs e h (as ++ bs) (vs ++ ws) := by
  intro as bs vs ws ha hb
  induction as, vs, ha using PureArgs.induction with
  | nil => exact hb
  | cons h1 _ ih => exact ⟨h1, ih⟩

theorem PureArgs.reverse {e : Arg → M Val} {h : Heap} : ∀ {as : List Arg} {vs : List Val},
    PureArgs e h as vs → PureArgs e h as.reverse vs.reverse := by
  intro as vs hp
  induction as, vs, hp using PureArgs.induction with
  | nil => trivial
  | cons h1 _ ih =>
    simp only [List.reverse_cons]
    exact ih.append ⟨h1, trivial⟩

theorem retTree_apply (t : Tree) (h : Heap) :
    retTree t h = (match t with
      | .arr xs => (.ok (.aref h.length), h ++ [.arr (xs.map Tree.toVal)])
      | t => (.ok t.toVal, h)) := by
  cases t <;> simp [retTree]

theorem fnScalar_spec (g : ScalarFn) (e : Arg → M Val) (h : Heap) (args : List Arg) (vs : List Val)
    (hp : PureArgs e h args vs) : fnScalar g e args h = Spec.scalar g vs h := by
  have hl := hp.length
  have hp' : PureArgs e h (if g.swap = true then args.reverse else args) (if g.swap = true then vs.reverse else vs) := by
    split
    · exact PureArgs.reverse hp
    · exact hp
  unfold fnScalar Spec.scalar
  rw [hl]
  split
  · simp [Spec.raise]
  · simp only [bind_apply, wantLoop_pure e h _ _ _ _ hp', liftE_apply]
    cases Spec.acceptAll h (g.wants vs.length) (if g.swap = true then vs.reverse else vs) [] with
    | error er => simp
    | ok acc =>
      simp only []
      cases g.fin vs.length acc with
      | error er => simp
      | ok t => simp only [retTree_apply]; cases t <;> rfl

theorem fnReverse_spec (e : Arg → M Val) (h : Heap) (args : List Arg) (vs : List Val)
    (hp : PureArgs e h args vs) : fnReverse e args h = Spec.reverse vs h := by
  induction args, vs, hp using PureArgs.induction with
  | nil => simp [fnReverse, Spec.reverse, Spec.raise]
  | @cons _ as v vs h1 hp _ =>
    induction as, vs, hp using PureArgs.induction with
    | nil => cases v <;> simp [fnReverse, Spec.reverse, Spec.raise, h1]
    | cons => simp [fnReverse, Spec.reverse, Spec.raise]

theorem fnAppend_spec (e : Arg → M Val) (h : Heap) (args : List Arg) (vs : List Val)
    (hp : PureArgs e h args vs) : fnAppend e args h = Spec.append vs h := by
  induction args, vs, hp using PureArgs.induction with
  | nil => simp [fnAppend, Spec.append, Spec.raise]
  | @cons _ as v vs h1 hp _ =>
    induction as, vs, hp using PureArgs.induction with
    | nil => simp [fnAppend, Spec.append, Spec.raise]
    | @cons _ as w vs h2 hp _ =>
      induction as, vs, hp using PureArgs.induction with
      | nil => cases v <;> simp [fnAppend, Spec.append, Spec.raise, h1, h2]
      | cons => simp [fnAppend, Spec.append, Spec.raise]

theorem includeLoop_spec (v1 : Val) : ∀ (xs : List Val), includeLoop v1 xs = Spec.includes v1 xs
  | [] => rfl
  | m :: r => by
    simp only [includeLoop, Spec.includes]
    cases goEq m v1 with
    | none => rfl
    | some b => cases b <;> simp only [] <;> first | rfl | exact includeLoop_spec v1 r

theorem fnInclude_spec (e : Arg → M Val) (h : Heap) (args : List Arg) (vs : List Val)
    (hp : PureArgs e h args vs) : fnInclude e args h = (Spec.includ h vs, h) := by
  induction args, vs, hp using PureArgs.induction with
  | nil => simp [fnInclude, Spec.includ, Spec.raise]
  | @cons _ as v vs h1 hp _ =>
    induction as, vs, hp using PureArgs.induction with
    | nil => simp [fnInclude, Spec.includ, Spec.raise]
    | @cons _ as w vs h2 hp _ =>
      induction as, vs, hp using PureArgs.induction with
      | cons => simp [fnInclude, Spec.includ, Spec.raise]
      | nil =>
        -- the first value decides the branch; only for a string does the kind of the second matter
        cases v with
        | aref c => simp [fnInclude, Spec.includ, h1, h2, includeLoop_spec]
        | str s => cases w <;> simp [fnInclude, Spec.includ, Spec.raise, h1, h2]
        | _ => simp [fnInclude, Spec.includ, Spec.raise, h1, h2]

end OjgVerif.Asm
