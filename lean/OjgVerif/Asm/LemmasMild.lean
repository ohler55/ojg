import OjgVerif.Asm.Lemmas
/-! How the heap-free steps of the evaluator may stop: a value, or a stop that is a verdict about the plan and
the data (`Mild`) — a Go panic, "outside the model", "needs a map order" — never a limit of the evaluation. -/
namespace OjgVerif.Asm

/-- a stop that is a verdict about the plan and the data, not a limit of the evaluation: what a modelled
function may legitimately end in -/
def Stop.mild (e : Stop) : Prop := e = .panic ∨ e = .unmodelled ∨ e = .enum

def Mild (r : Except Stop α) : Prop := ∀ e, r = .error e → e.mild

theorem mild_ok (a : α) : Mild (.ok a : Except Stop α) := fun _ h => by cases h
theorem mild_panic : Mild (.error .panic : Except Stop α) := fun _ h => by cases h; exact Or.inl rfl
theorem mild_unmodelled : Mild (.error .unmodelled : Except Stop α) := fun _ h => by cases h; exact Or.inr (Or.inl rfl)
theorem mild_enum : Mild (.error .enum : Except Stop α) := fun _ h => by cases h; exact Or.inr (Or.inr rfl)

macro "mild_tac" : tactic =>
  `(tactic| first | exact mild_ok _ | exact mild_panic | exact mild_unmodelled | exact mild_enum)

theorem sumStep_mild (acc : SumAcc) (v : Val) : Mild (sumStep acc v) := by
  cases acc <;> cases v <;> simp only [sumStep] <;> first | mild_tac | (split <;> mild_tac)
theorem sumFirst_mild (v : Val) : Mild (sumFirst v) := by cases v <;> simp only [sumFirst] <;> mild_tac
theorem arithStep_mild (dev : Dev) (op : ArithOp) (acc : NumAcc) (v : Val) : Mild (arithStep dev op acc v) := by
  cases acc <;> cases v <;> simp only [arithStep, arithF] <;> first | mild_tac | (split <;> mild_tac)
theorem arithFirst_mild (v : Val) : Mild (arithFirst v) := by cases v <;> simp only [arithFirst] <;> mild_tac

theorem pathGet_mild (env : Env) (h : Heap) : ∀ (fs : List Frag) (v : Val), Mild (pathGet env h v fs)
  | [], v => by simp only [pathGet]; mild_tac
  | f :: rest, v => by
    have ih := pathGet_mild env h rest
    cases v <;> cases f <;> simp only [pathGet] <;>
      first
        | mild_tac
        | (split <;> first | mild_tac | exact ih _ | (split <;> first | mild_tac | (split <;> mild_tac)))

theorem Mild.map {r : Except Stop α} (f : α → β) (hr : Mild r) : Mild (r.map f) := by
  cases r with
  | ok a => exact mild_ok _
  | error e => exact fun e' h => hr e' (by cases h; rfl)

theorem pathFirst_mild (env : Env) (h : Heap) (fs : List Frag) (v : Val) : Mild (pathFirst env h v fs) := by
  rw [pathFirst_eq_head]; exact (pathGet_mild env h fs v).map _

theorem accept_mild (h : Heap) (w : Want) (v : Val) : Mild (w.accept h v) := by
  cases w <;> cases v <;> simp only [Want.accept] <;> first | mild_tac | (split <;> mild_tac)

/-- the result function of a text/conversion function ends in a value or a mild stop -/
def ScalarFn.MildFin (g : ScalarFn) : Prop := ∀ n acc, Mild (g.fin n acc)

theorem asciiOr_mild {s : Bytes} {r : Except Stop Tree} (hr : Mild r) : Mild (asciiOr s r) := by
  unfold asciiOr; split <;> first | exact hr | mild_tac

theorem sliceStr_mild (s : Bytes) (a b : Int) : Mild (sliceStr s a b) := by
  unfold sliceStr; split <;> mild_tac

macro "fin_mild" : tactic =>
  `(tactic| repeat' (first
      | mild_tac
      | exact sliceStr_mild _ _ _
      | (apply asciiOr_mild)
      | split))

theorem sfCase_mild (f : UInt8 → UInt8) : (sfCase f).MildFin := by
  intro n acc; simp only [sfCase]; fin_mild
theorem sfTitle_mild : sfTitle.MildFin := by
  intro n acc; simp only [sfTitle]; fin_mild
theorem sfTrim_mild : sfTrim.MildFin := by
  intro n acc; simp only [sfTrim]; fin_mild
theorem sfReplace_mild : sfReplace.MildFin := by
  intro n acc; simp only [sfReplace]; fin_mild
theorem sfSplit_mild : sfSplit.MildFin := by
  intro n acc; simp only [sfSplit]; fin_mild
theorem sfSubstr_mild : sfSubstr.MildFin := by
  intro n acc; simp only [sfSubstr]; fin_mild
theorem sfJoin_mild : sfJoin.MildFin := by
  intro n acc; simp only [sfJoin]; fin_mild
theorem sfInt_mild : sfInt.MildFin := by
  intro n acc; simp only [sfInt]; fin_mild
theorem sfFloat_mild : sfFloat.MildFin := by
  intro n acc; simp only [sfFloat, floatOfText]; fin_mild
theorem sfString_mild : sfString.MildFin := by
  intro n acc; simp only [sfString]; fin_mild

theorem lookupKind_mem {f : Bytes} {k : FnKind} : ∀ {t : List (Bytes × FnKind)}, lookupKind t f = some k → (f, k) ∈ t
  | [], h => by simp [lookupKind] at h
  | (n, k') :: r, h => by
    simp only [lookupKind] at h
    by_cases hf : f = n
    · simp [hf] at h
      simp [hf, h]
    · simp [hf] at h
      exact List.mem_cons_of_mem _ (lookupKind_mem h)

theorem fnTable_mildFin {f : Bytes} {g : ScalarFn} (h : fnKind f = some (.scalar g)) : g.MildFin := by
  have hm := lookupKind_mem h
  -- one alternative, and one bullet below, for each `.scalar` row of `fnTable`, in the order of the table
  simp [fnTable] at hm
  rcases hm with ⟨_, hm⟩ | ⟨_, hm⟩ | ⟨_, hm⟩ | ⟨_, hm⟩ | ⟨_, hm⟩ | ⟨_, hm⟩ | ⟨_, hm⟩ | ⟨_, hm⟩ | ⟨_, hm⟩ | ⟨_, hm⟩ | ⟨_, hm⟩ <;> subst hm
  · exact sfCase_mild _
  · exact sfCase_mild _
  · exact sfTitle_mild
  · exact sfTrim_mild
  · exact sfReplace_mild
  · exact sfSplit_mild
  · exact sfSubstr_mild
  · exact sfJoin_mild
  · exact sfInt_mild
  · exact sfFloat_mild
  · exact sfString_mild

theorem includeLoop_mild (v1 : Val) : ∀ (xs : List Val), Mild (includeLoop v1 xs)
  | [] => by simp only [includeLoop]; mild_tac
  | m :: r => by
    simp only [includeLoop]
    split
    · mild_tac
    · mild_tac
    · exact includeLoop_mild v1 r

theorem mild_error_cast {α β : Type} {e : Stop} (h : Mild (.error e : Except Stop α)) : Mild (.error e : Except Stop β) :=
  fun e' he' => by cases he'; exact h e rfl

theorem sortLess_mild (ki kj : Option Val) : Mild (sortLess ki kj) := by
  unfold sortLess
  repeat' (first | mild_tac | split)

theorem sortInsert_mild (x : Option Val × Val) : ∀ (pre : List (Option Val × Val)), Mild (sortInsert x pre)
  | [] => by simp only [sortInsert]; mild_tac
  | p :: r => by
    have hl := sortLess_mild x.1 p.1
    have ih := sortInsert_mild x r
    simp only [sortInsert]
    split
    · rename_i e he; rw [he] at hl; exact mild_error_cast hl
    · exact ih.map _
    · mild_tac

theorem sortRun_mild : ∀ (xs pre : List (Option Val × Val)), Mild (sortRun xs pre)
  | [], pre => by simp only [sortRun]; mild_tac
  | x :: r, pre => by
    have hi := sortInsert_mild x pre
    simp only [sortRun]
    split
    · rename_i e he; rw [he] at hi; exact hi
    · exact sortRun_mild r _

theorem sortKeys_mild (env : Env) (h : Heap) (fs : List Frag) : ∀ (xs : List Val), Mild (sortKeys env h fs xs)
  | [] => by simp only [sortKeys]; mild_tac
  | x :: r => by
    have hp := pathFirst_mild env h fs x
    have ih := sortKeys_mild env h fs r
    simp only [sortKeys]
    split
    · rename_i e he; rw [he] at hp; exact mild_error_cast hp
    · exact ih.map _

theorem sortList_mild (env : Env) (h : Heap) (fs : List Frag) (xs : List Val) : Mild (sortList env h fs xs) := by
  have hk := sortKeys_mild env h fs xs
  unfold sortList
  split
  · mild_tac
  · split
    · rename_i e he; rw [he] at hk; exact mild_error_cast hk
    · rename_i ks _
      exact (sortRun_mild ks []).map _

end OjgVerif.Asm
