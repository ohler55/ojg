import OjgVerif.Asm.LemmasMild
/-! One relation behind the heap arguments of the `asm` family.

A run is looked at from a second heap. A `Tr` says where addresses and heaps go (`ad`, `heap`), which heaps and
addresses the comparison is about (`ok`, `good`), what a run may do to the heap (`step`), at which stops of the
first run nothing is claimed (`skip`) and which stops are allowed at all (`err`). `Rel T m1 m2`: from an `ok`
heap, unless `m1` ends in a skipped stop, `m2` run in the image of the heap does what `m1` does, carried over,
and `m1` keeps `ok`, makes a `step`, returns a `good` result or an allowed stop. Frame, plan separation, no
fault, commutation with inserted cells and independence of the map order are this statement at five `Tr`s;
where nothing moves (`Tr.self`) the two runs are compared in one heap, results as they are (`Rel.self_iff`), and
what is said of the first run alone follows (`Rel.self_left`).

Both runs evaluate ONE plan: the root and the local data are carried through `T`, the `Arg` is the same on both
sides. A transport must therefore leave the plan's literals where they are (`Prims.evalLit` has no `T.val` on
the right, `Prims.share` asks `T.val v = v`); the one transport that moves anything, `Sh.tr`, fixes the
addresses below the boundary, where the plan lives.

The evaluator is written with `pure`, `bind`, `stop`, `liftE`, `alloc` and `getHeap` followed by reads of the
heap it returns; `Rel` is closed under these given the first-order `Tr.Laws`, so `evalFn` and `eval` respect
it (`evalFn_rel`, `eval_rel`) by one walk through the functions. An instance supplies the laws and the steps
that are not made of the others (`Prims`): reading along a path, sorting by a path, structural comparison,
handing out a literal of the plan, jp's set. -/
namespace OjgVerif.Asm

structure Tr where
  ad : Nat → Nat
  heap : Heap → Heap
  ok : Heap → Prop
  good : Nat → Prop
  step : Heap → Heap → Prop
  skip : Stop → Prop
  err : Stop → Prop

namespace Tr
variable (T : Tr)

def val : Val → Val
  | .aref a => .aref (T.ad a)
  | .mref a => .mref (T.ad a)
  | v => v

def cell : Cell → Cell
  | .arr xs => .arr (xs.map T.val)
  | .map kvs => .map (kvs.map fun kv => (kv.1, T.val kv.2))

def goodV : Val → Prop
  | .aref a => T.good a
  | .mref a => T.good a
  | _ => True

def goodC : Cell → Prop
  | .arr xs => ∀ v ∈ xs, T.goodV v
  | .map kvs => ∀ kv ∈ kvs, T.goodV kv.2

structure Laws : Prop where
  refl : ∀ h, T.step h h
  trans : ∀ {a b c}, T.step a b → T.step b c → T.step a c
  mild : ∀ {e}, e.mild → T.err e
  arrAt : ∀ {h}, T.ok h → ∀ a, (T.heap h).arrAt (T.ad a) = (h.arrAt a).map T.val
  mapAt : ∀ {h}, T.ok h → ∀ a, (T.heap h).mapAt (T.ad a) = (h.mapAt a).map fun kv => (kv.1, T.val kv.2)
  arrGood : ∀ {h a}, T.ok h → T.good a → ∀ v ∈ h.arrAt a, T.goodV v
  mapGood : ∀ {h a}, T.ok h → T.good a → ∀ kv ∈ h.mapAt a, T.goodV kv.2
  alloc : ∀ {h c}, T.ok h → T.goodC c →
    T.heap (h ++ [c]) = T.heap h ++ [T.cell c] ∧ T.ad h.length = (T.heap h).length ∧
    T.ok (h ++ [c]) ∧ T.good h.length ∧ T.step h (h ++ [c])

/-- nothing moves: the two runs are looked at in one heap (two runs under different map orders at `simTr`, one
run beside itself at `presTr`, `safeTr`, `stTr`) -/
def self (ok : Heap → Prop) (good : Nat → Prop) (step : Heap → Heap → Prop) (skip err : Stop → Prop) : Tr :=
  ⟨id, id, ok, good, step, skip, err⟩

section self
variable {ok : Heap → Prop} {good : Nat → Prop} {step : Heap → Heap → Prop} {skip err : Stop → Prop}

@[simp] theorem self_val (v : Val) : (self ok good step skip err).val v = v := by cases v <;> rfl

theorem self_vals (vs : List Val) : vs.map (self ok good step skip err).val = vs := by
  rw [List.map_congr_left fun v _ => self_val v, List.map_id']

theorem self_kv (kv : Bytes × Val) : (kv.1, (self ok good step skip err).val kv.2) = kv := by rw [self_val]

theorem self_kvs (kvs : List (Bytes × Val)) : (kvs.map fun kv => (kv.1, (self ok good step skip err).val kv.2)) = kvs := by
  rw [List.map_congr_left fun kv _ => self_kv kv, List.map_id']

theorem self_opt (o : Option Val) : o.map (self ok good step skip err).val = o := by cases o <;> simp

theorem self_cell (c : Cell) : (self ok good step skip err).cell c = c := by
  cases c <;> simp only [cell, self_vals, self_kvs]

theorem self_laws (refl : ∀ h, step h h) (trans : ∀ {a b c}, step a b → step b c → step a c)
    (mild : ∀ {e}, e.mild → err e)
    (arrGood : ∀ {h a}, ok h → good a → ∀ v ∈ h.arrAt a, (self ok good step skip err).goodV v)
    (mapGood : ∀ {h a}, ok h → good a → ∀ kv ∈ h.mapAt a, (self ok good step skip err).goodV kv.2)
    (alloc : ∀ {h c}, ok h → (self ok good step skip err).goodC c → ok (h ++ [c]) ∧ good h.length ∧ step h (h ++ [c])) :
    (self ok good step skip err).Laws :=
  { refl := refl, trans := trans, mild := mild
    arrAt := fun _ _ => (self_vals _).symm
    mapAt := fun _ _ => (self_kvs _).symm
    arrGood := arrGood, mapGood := mapGood
    alloc := fun hok hg => ⟨by rw [self_cell]; rfl, rfl, alloc hok hg⟩ }

end self
end Tr

/-- how a result of each type is carried over, and when it is one the comparison is about. (The classes of the
statements about one property, `HasHi` of `LemmasPlan` and `ShOf` of `LemmasRerun`, are `good` at `safeTr k` and `tr`
at `Sh.tr s`: the same definitions at each type, so equal by `rfl`.) -/
class Tv (α : Type) where
  tr : Tr → α → α
  good : Tr → α → Prop
  tr_self : ∀ ok good step skip err a, tr (Tr.self ok good step skip err) a = a

instance : Tv Val := ⟨Tr.val, Tr.goodV, fun _ _ _ _ _ => Tr.self_val⟩
/-- a `Nat` result is an ADDRESS (the only `M Nat` of the evaluator is `alloc`): a step returning a count or an
index in `M Nat` would have it moved by `T.ad` and asked to be `T.good` without any error -/
instance : Tv Nat := ⟨Tr.ad, Tr.good, fun _ _ _ _ _ _ => rfl⟩
instance : Tv (Bytes × Val) := ⟨fun T kv => (kv.1, T.val kv.2), fun T kv => T.goodV kv.2, fun _ _ _ _ _ => Tr.self_kv⟩
/-- a list is carried member by member (lists of values, of members of a map) -/
instance [Tv β] : Tv (List β) :=
  ⟨fun T bs => bs.map (Tv.tr T), fun T bs => ∀ b ∈ bs, Tv.good T b, fun ok good step skip err bs => by
    rw [List.map_congr_left fun b _ => Tv.tr_self ok good step skip err b, List.map_id']⟩
instance : Tv (Option Val) :=
  ⟨fun T o => o.map T.val, fun T o => ∀ v, o = some v → T.goodV v, fun _ _ _ _ _ => Tr.self_opt⟩

/-- a type that holds no address: a result of it is carried as it is, and is always one the comparison is about -/
abbrev Tv.plain (α : Type) : Tv α := ⟨fun _ a => a, fun _ _ => True, fun _ _ _ _ _ _ => rfl⟩

instance : Tv Bool := .plain _
instance : Tv Unit := .plain _
instance : Tv Bytes := .plain _
instance : Tv Path := .plain _
instance : Tv SumAcc := .plain _
instance : Tv NumAcc := .plain _
instance : Tv Tree := .plain _
instance : Tv (List Tree) := .plain _

@[simp] theorem Tv.tr_val (T : Tr) (v : Val) : Tv.tr T v = T.val v := rfl
@[simp] theorem Tv.tr_nat (T : Tr) (a : Nat) : Tv.tr T a = T.ad a := rfl

/-- a heap-free step (`liftE`) seen from both sides -/
def Tr.Lifted (T : Tr) [Tv α] (r1 r2 : Except Stop α) : Prop :=
  (∀ e, r1 = .error e → ¬ T.skip e) →
    r2 = r1.map (Tv.tr T) ∧ (∀ a, r1 = .ok a → Tv.good T a) ∧ ∀ e, r1 = .error e → T.err e

structure Rel (T : Tr) [Tv α] (m1 m2 : M α) : Prop where
  run : ∀ h, T.ok h → (∀ e, (m1 h).1 = .error e → ¬ T.skip e) →
    m2 (T.heap h) = (((m1 h).1).map (Tv.tr T), T.heap (m1 h).2) ∧
    T.ok (m1 h).2 ∧ T.step h (m1 h).2 ∧
    (∀ a, (m1 h).1 = .ok a → Tv.good T a) ∧ (∀ e, (m1 h).1 = .error e → T.err e)

theorem Tr.self_exceptMap [Tv α] {ok : Heap → Prop} {good : Nat → Prop} {step : Heap → Heap → Prop} {skip err : Stop → Prop}
    (r : Except Stop α) : r.map (Tv.tr (Tr.self ok good step skip err)) = r := by
  rcases r with _ | a
  · rfl
  · show Except.ok (Tv.tr _ a) = _
    rw [Tv.tr_self]

theorem Rel.self_iff [Tv α] {ok : Heap → Prop} {good : Nat → Prop} {step : Heap → Heap → Prop} {skip err : Stop → Prop}
    {m1 m2 : M α} : Rel (Tr.self ok good step skip err) m1 m2 ↔
    ∀ h, ok h → (∀ e, (m1 h).1 = .error e → ¬ skip e) →
      m2 h = m1 h ∧ ok (m1 h).2 ∧ step h (m1 h).2 ∧
      (∀ a, (m1 h).1 = .ok a → Tv.good (Tr.self ok good step skip err) a) ∧ ∀ e, (m1 h).1 = .error e → err e := by
  have key : ∀ h, (((m1 h).1).map (Tv.tr (Tr.self ok good step skip err)), (Tr.self ok good step skip err).heap (m1 h).2) = m1 h :=
    fun h => by rw [Tr.self_exceptMap]; rfl
  constructor
  · intro hr h hok hs
    have := hr.run h hok hs
    rwa [key] at this
  · intro hr
    refine ⟨fun h hok hs => ?_⟩
    rw [key]
    exact hr h hok hs

theorem Rel.self_left [Tv α] {ok : Heap → Prop} {good : Nat → Prop} {step : Heap → Heap → Prop} {skip err : Stop → Prop}
    {m1 m2 : M α} (hr : Rel (Tr.self ok good step skip err) m1 m2) : Rel (Tr.self ok good step skip err) m1 m1 :=
  Rel.self_iff.2 fun h hok hs => ⟨rfl, (Rel.self_iff.1 hr h hok hs).2⟩

theorem Tr.goodV_of_all {T : Tr} (h : ∀ a, T.good a) (v : Val) : T.goodV v := by cases v <;> first | trivial | exact h _

theorem Tr.Lifted.self [Tv α] {ok : Heap → Prop} {good : Nat → Prop} {step : Heap → Heap → Prop} {skip err : Stop → Prop}
    {r : Except Stop α} (hg : ∀ a, r = .ok a → Tv.good (Tr.self ok good step skip err) a) (he : ∀ e, r = .error e → err e) :
    (Tr.self ok good step skip err).Lifted r r := fun _ => ⟨(Tr.self_exceptMap r).symm, hg, he⟩

theorem mem_tail {a : Arg} {r : List Arg} {P : Arg → Prop} (he : ∀ x ∈ a :: r, P x) : ∀ x ∈ r, P x :=
  fun x hx => he x (List.mem_cons_of_mem _ hx)

theorem swapArgs_mem {P : Arg → Prop} {b : Bool} {args : List Arg} (he : ∀ a ∈ args, P a) :
    ∀ a ∈ (if b = true then args.reverse else args), P a := by
  intro a ha
  split at ha
  · exact he a (by simpa using ha)
  · exact he a ha

theorem kvGet_mem {k' : Bytes} {v : α} : ∀ {kvs : List (Bytes × α)}, kvGet k' kvs = some v → (k', v) ∈ kvs
  | [], h => by simp [kvGet] at h
  | (k2, v2) :: r, h => by
    simp only [kvGet] at h
    by_cases hk : k2 = k'
    · simp [hk] at h; simp [hk, h]
    · simp [hk] at h; exact List.mem_cons_of_mem _ (kvGet_mem h)

theorem kvGet_map (g : α → β) (k' : Bytes) : ∀ (kvs : List (Bytes × α)),
    kvGet k' (kvs.map fun kv => (kv.1, g kv.2)) = (kvGet k' kvs).map g
  | [] => rfl
  | (k2, v2) :: r => by
    simp only [List.map, kvGet]
    by_cases hk : k2 = k'
    · simp [hk]
    · simp [hk, kvGet_map g k' r]

theorem getD_map (g : Val → Val) (hg : g .null = .null) (xs : List Val) (j : Nat) :
    (xs.map g).getD j .null = g (xs.getD j .null) := by
  simp only [List.getD_eq_getElem?_getD, List.getElem?_map]
  cases xs[j]? <;> first | rfl | exact hg.symm

@[simp] theorem exceptMap_id' (e : Except Stop α) : e.map (fun a => a) = e := by cases e <;> rfl

/-- a class `Q` of plans the comparison is about (`Q n a`: `a` may be evaluated with fuel `n`): closed under taking the
parts the evaluator descends into, with literals in `lit` and function names in `fn`; a call met without fuel is
in the class only where running out of fuel is an allowed stop (`dry`) -/
structure Plans (lit : Val → Prop) (fn : Bytes → Prop) (dry : Prop) (Q : Nat → Arg → Prop) : Prop where
  atLit : ∀ {n v}, Q n (.lit v) → lit v
  atRaw : ∀ {n v es}, Q n (.raw v es) → lit v ∧ ∀ e ∈ es, Q n e
  atCall : ∀ {n f args}, Q (n + 1) (.call f args) → fn f ∧ ∀ a ∈ args, Q n a
  atDry : ∀ {f args}, Q 0 (.call f args) → dry

theorem Plans.any : Plans (fun _ => True) (fun _ => True) True fun _ _ => True :=
  ⟨fun _ => trivial, fun _ => ⟨trivial, fun _ _ => trivial⟩, fun _ => ⟨trivial, fun _ _ => trivial⟩, fun _ => trivial⟩

/-! What looks at a value without following a reference does not see where addresses go. -/
section views
variable (T : Tr)
@[simp] theorem Tr.sumStep_val (acc : SumAcc) (v : Val) : sumStep acc (T.val v) = sumStep acc v := by cases v <;> cases acc <;> rfl
@[simp] theorem Tr.sumFirst_val (v : Val) : sumFirst (T.val v) = sumFirst v := by cases v <;> rfl
@[simp] theorem Tr.arithStep_val (dev : Dev) (op : ArithOp) (acc : NumAcc) (v : Val) :
    arithStep dev op acc (T.val v) = arithStep dev op acc v := by cases v <;> cases acc <;> rfl
@[simp] theorem Tr.arithFirst_val (v : Val) : arithFirst (T.val v) = arithFirst v := by cases v <;> rfl
@[simp] theorem Tr.asInt_val (v : Val) : asInt (T.val v) = asInt v := by cases v <;> rfl
@[simp] theorem Tr.asFloat_val (b : Bool) (v : Val) : asFloat b (T.val v) = asFloat b v := by cases v <;> rfl
@[simp] theorem Tr.strOrEmpty_val (v : Val) : (T.val v).strOrEmpty = v.strOrEmpty := by cases v <;> rfl
@[simp] theorem Tr.isStr_val (v : Val) : (T.val v).isStr = v.isStr := by cases v <;> rfl
@[simp] theorem Tr.toTreeS_val (v : Val) : (T.val v).toTreeS = v.toTreeS := by cases v <;> rfl
@[simp] theorem Tr.val_toVal (t : Tree) : T.val t.toVal = t.toVal := by cases t <;> rfl
theorem Tr.sumAcc_val (acc : SumAcc) : T.val acc.val = acc.val := by cases acc <;> rfl
theorem Tr.numAcc_val (acc : NumAcc) : T.val acc.val = acc.val := by cases acc <;> rfl

theorem Tr.ite_val (c : Bool) (a b : Val) : (if c = true then T.val a else T.val b) = T.val (if c = true then a else b) := by
  cases c <;> rfl

theorem Tr.goEq_val (m v : Val) : goEq (T.val m) (T.val v) = goEq m v := by cases m <;> cases v <;> rfl

theorem Tr.includeLoop_map (v1 : Val) : ∀ (xs : List Val),
    includeLoop (T.val v1) (xs.map T.val) = (includeLoop v1 xs).map T.val
  | [] => rfl
  | m :: r => by
    simp only [List.map, includeLoop, Tr.goEq_val]
    cases goEq m v1 with
    | none => rfl
    | some b => cases b <;> simp only [] <;> first | rfl | exact Tr.includeLoop_map v1 r

theorem Tr.accept_val {h : Heap} (ha : ∀ a, (T.heap h).arrAt (T.ad a) = (h.arrAt a).map T.val) (w : Want) (v : Val) :
    w.accept (T.heap h) (T.val v) = w.accept h v := by
  cases w <;> cases v <;> try rfl
  rename_i a
  simp only [Tr.val, Want.accept, ha, List.all_map, List.map_map]
  have h1 : (Val.isStr ∘ T.val) = Val.isStr := by funext v; simp
  have h2 : (Val.toTreeS ∘ T.val) = Val.toTreeS := by funext v; simp
  rw [h1, h2]

variable {T}
theorem Tr.getD_good {xs : List Val} (hx : ∀ v ∈ xs, T.goodV v) (j : Nat) : T.goodV (xs.getD j .null) := by
  rw [List.getD_eq_getElem?_getD]
  cases hg : xs[j]? with
  | none => trivial
  | some v => exact hx v (List.mem_of_getElem? hg)

theorem Tr.toVal_good (t : Tree) : T.goodV t.toVal := by cases t <;> trivial

theorem Tr.ite_good {c : Bool} {a b : Val} (ha : T.goodV a) (hb : T.goodV b) : T.goodV (if c = true then a else b) := by
  split <;> assumption

theorem Tr.includeLoop_good (v1 : Val) : ∀ (xs : List Val) (r : Val), includeLoop v1 xs = .ok r → T.goodV r
  | [], r, h => by cases h; trivial
  | m :: rest, r, h => by
    simp only [includeLoop] at h
    split at h
    · cases h
    · cases h; trivial
    · exact Tr.includeLoop_good v1 rest r h
end views

/-- the steps of the evaluator that are not made of the others. `lit` says which literals a plan may hold, `fn`
which functions it may call; `o1`, `o2` are the map orders of the two runs. `equal` and `set` are owed only
for a name `f` the class of plans admits (`fn f`) and the table gives that kind, so an instance whose `fn`
excludes those names (`NoMut`, `Fit`) owes nothing for them. -/
structure Prims (T : Tr) (dev : Dev) (o1 o2 : Option MapOrd) (lit : Val → Prop) (fn : Bytes → Prop) : Prop where
  getall : ∀ {h v}, T.ok h → T.goodV v → ∀ fs,
    T.Lifted (pathGet ⟨dev, o1⟩ h v fs) (pathGet ⟨dev, o2⟩ (T.heap h) (T.val v) fs)
  sort : ∀ {h xs}, T.ok h → (∀ x ∈ xs, T.goodV x) → ∀ fs,
    T.Lifted (sortList ⟨dev, o1⟩ h fs xs) (sortList ⟨dev, o2⟩ (T.heap h) fs (xs.map T.val))
  equal : ∀ f, fn f → fnKind f = some .equal ∨ fnKind f = some .neq → ∀ v0 v1,
    Rel T (equalM dev v0 v1) (equalM dev (T.val v0) (T.val v1))
  evalLit : ∀ v, lit v → Rel T (evalLit dev v) (evalLit dev v)
  /-- a literal handed out by reference is the same value on both sides -/
  share : dev.cmpUneval = true ∨ dev.condListAlias = true → ∀ v, lit v → T.val v = v ∧ T.goodV v
  set : ∀ f, fn f → fnKind f = some .set ∨ fnKind f = some .del → ∀ (value : Option Val) cur fs,
    (∀ v, value = some v → T.goodV v) → T.goodV cur →
    Rel T (pathSet value cur fs) (pathSet (value.map T.val) (T.val cur) fs)

section walk
variable {T : Tr} (L : T.Laws)
include L

theorem Rel.pure [Tv α] {a b : α} (hb : b = Tv.tr T a) (ha : Tv.good T a) : Rel T (pure a : M α) (pure b) := by
  subst hb
  refine ⟨fun h hok _ => ⟨rfl, hok, L.refl h, ?_, ?_⟩⟩
  · intro _ e; cases e; exact ha
  · intro _ e; cases e

theorem Rel.stop [Tv α] {e : Stop} (he : T.skip e ∨ T.err e) : Rel T (Asm.stop e : M α) (Asm.stop e) := by
  refine ⟨fun h hok hs => ⟨rfl, hok, L.refl h, ?_, ?_⟩⟩
  · intro _ x; cases x
  · intro e' h'; cases h'; exact he.resolve_left (hs _ rfl)

theorem Rel.panic [Tv α] : Rel T (Asm.stop .panic : M α) (Asm.stop .panic) := Rel.stop L (.inr (L.mild (.inl rfl)))
theorem Rel.unmodelled [Tv α] : Rel T (Asm.stop .unmodelled : M α) (Asm.stop .unmodelled) :=
  Rel.stop L (.inr (L.mild (.inr (.inl rfl))))

theorem Rel.bind [Tv α] [Tv β] {m1 m2 : M α} {f1 f2 : α → M β} (hm : Rel T m1 m2)
    (hf : ∀ a, Tv.good T a → Rel T (f1 a) (f2 (Tv.tr T a))) : Rel T (m1 >>= f1) (m2 >>= f2) := by
  constructor
  intro h hok hs
  simp only [bind_apply] at hs ⊢
  cases hmh : m1 h with
  | mk r h' =>
    rw [hmh] at hs
    cases r with
    | error e =>
      simp only at hs
      obtain ⟨e1, e2, e3, _, e5⟩ := hm.run h hok (by rw [hmh]; intro e' x; cases x; exact hs e rfl)
      rw [hmh] at e1 e2 e3 e5
      simp only [e1, exceptMap_error]
      refine ⟨trivial, e2, e3, ?_, fun e' x => by cases x; exact e5 e rfl⟩
      intro _ x; cases x
    | ok a =>
      simp only at hs
      obtain ⟨e1, e2, e3, e4, _⟩ := hm.run h hok (by rw [hmh]; intro _ x; cases x)
      rw [hmh] at e1 e2 e3 e4
      simp only [e1, exceptMap_ok]
      obtain ⟨g1, g2, g3, g4, g5⟩ := (hf a (e4 a rfl)).run h' e2 hs
      exact ⟨g1, g2, L.trans e3 g3, g4, g5⟩

omit L in
theorem Rel.getHeap [Tv β] {f1 f2 : Heap → M β}
    (hf : ∀ h0, T.ok h0 → Rel T (f1 h0) (f2 (T.heap h0))) : Rel T (getHeap >>= f1) (getHeap >>= f2) :=
  ⟨fun h hok hs => (hf h hok).run h hok hs⟩

omit L in
theorem Rel.ite [Tv α] {c : Prop} [Decidable c] {m1 m2 n1 n2 : M α} (h1 : Rel T m1 m2) (h2 : Rel T n1 n2) :
    Rel T (if c then m1 else n1) (if c then m2 else n2) := by
  split <;> assumption

theorem Rel.liftE [Tv α] {r1 r2 : Except Stop α} (hp : T.Lifted r1 r2) : Rel T (liftE r1) (liftE r2) :=
  ⟨fun h hok hs => by
    obtain ⟨a, b, c⟩ := hp hs
    exact ⟨by simp [a], hok, L.refl h, b, c⟩⟩

/-- a heap-free step whose result on the transported input is the transported result, whose values are good and
which stops only mildly (the `_mild` facts of `LemmasMild.lean`) is `Lifted` at every transport with laws: a
mild stop is always allowed (`Laws.mild`) -/
theorem Tr.Lifted.of_mild [Tv α] {r1 r2 : Except Stop α} (heq : r2 = r1.map (Tv.tr T))
    (hg : ∀ a, r1 = .ok a → Tv.good T a) (hm : Mild r1) : T.Lifted r1 r2 :=
  fun _ => ⟨heq, hg, fun e he => L.mild (hm e he)⟩

/-- a heap-free step into a type that holds no address, one that does not see where addresses go (`heq`: one of the
view equations above) -/
theorem Rel.liftE_plain {α : Type} {r1 r2 : Except Stop α} (heq : r2 = r1) (hm : Mild r1) :
    @Rel α T (Tv.plain α) (Asm.liftE r1) (Asm.liftE r2) :=
  letI := Tv.plain α
  Rel.liftE L (.of_mild L (heq.trans (exceptMap_id' r1).symm) (fun _ _ => trivial) hm)

theorem Rel.alloc {c c' : Cell} (hc : c' = T.cell c) (hg : T.goodC c) : Rel T (alloc c) (alloc c') := by
  subst hc
  refine ⟨fun h hok _ => ?_⟩
  obtain ⟨a1, a2, a3, a4, a5⟩ := L.alloc hok hg
  refine ⟨by simp [a1, a2, Tv.tr], a3, a5, ?_, ?_⟩
  · intro _ e; cases e; exact a4
  · intro _ x; cases x

theorem newArr_rel {vs : List Val} (hvs : ∀ v ∈ vs, T.goodV v) :
    Rel T (alloc (.arr vs) >>= fun c => pure (Val.aref c)) (alloc (.arr (vs.map T.val)) >>= fun c => pure (Val.aref c)) :=
  (Rel.alloc L (c := .arr vs) rfl hvs).bind L fun _ hc => Rel.pure L rfl hc

theorem mapM'_rel {α β : Type} [Tv β] (g : α → α) (f1 f2 : α → M β) :
    ∀ (xs : List α), (∀ x ∈ xs, Rel T (f1 x) (f2 (g x))) → Rel T (mapM' f1 xs) (mapM' f2 (xs.map g))
  | [], _ => Rel.pure L rfl fun _ h => nomatch h
  | a :: r, he =>
    (he a (List.mem_cons_self ..)).bind L fun _ hb =>
      (mapM'_rel g f1 f2 r fun x hx => he x (List.mem_cons_of_mem _ hx)).bind L fun _ hbs =>
        Rel.pure L rfl (List.forall_mem_cons.2 ⟨hb, hbs⟩)

/-- copying commutes with `T`, for values of a class `C` that the members of a cell of the class stay in with one
unit of fuel less (`C n v`: `v` can be copied with fuel `n`) -/
theorem copyVal_rel (C : Nat → Val → Prop) (hz : ∀ v, C 0 v → T.skip .diverge ∨ T.err .diverge)
    (harr : ∀ {n a h}, C (n + 1) (.aref a) → T.ok h → ∀ x ∈ h.arrAt a, C n x)
    (hmap : ∀ {n a h}, C (n + 1) (.mref a) → T.ok h → ∀ kv ∈ h.mapAt a, C n kv.2) :
    ∀ (n : Nat) (v : Val), C n v → Rel T (copyVal n v) (copyVal n (T.val v))
  | 0, v, hv => Rel.stop L (hz v hv)
  | n + 1, v, hv => by
    cases v <;> try exact Rel.pure L rfl trivial
    · refine Rel.getHeap fun h0 hk0 => ?_
      rw [L.arrAt hk0]
      exact (mapM'_rel L T.val _ _ _ fun x hx => copyVal_rel C hz harr hmap n x (harr hv hk0 x hx)).bind L fun vs hvs =>
        newArr_rel L hvs
    · refine Rel.getHeap fun h0 hk0 => ?_
      rw [L.mapAt hk0]
      exact (mapM'_rel L (fun kv => (kv.1, T.val kv.2)) _ _ _ fun kv hkv =>
        (copyVal_rel C hz harr hmap n kv.2 (hmap hv hk0 kv hkv)).bind L fun _ hw => Rel.pure L (α := Bytes × Val) rfl hw).bind L fun vs hvs =>
          (Rel.alloc L (c := .map vs) rfl hvs).bind L fun _ hc => Rel.pure L rfl hc

/-- copying any value whatever, where running out of fuel is skipped or allowed: `copyVal_rel` at the class of all
values. A copy reads its cells through `Laws.arrAt`, `Laws.mapAt`, which ask nothing of the address, and returns
only cells it has made, so nothing is needed of `v` -/
theorem copyVal_rel_all (hz : T.skip .diverge ∨ T.err .diverge) (n : Nat) (v : Val) : Rel T (copyVal n v) (copyVal n (T.val v)) :=
  copyVal_rel L (fun _ _ => True) (fun _ _ => hz) (fun _ _ _ _ => trivial) (fun _ _ _ _ => trivial) n v trivial

omit L in
theorem Tr.goodV_scalar {v : Val} (h : v.isScalar = true) : T.goodV v := by cases v <;> first | trivial | cases h

/-- handing out a literal that `T` leaves where it is: the literal itself where literals are shared (`hg`) or it is a
scalar, else a copy made with fuel for the whole heap (`hcopy`: `copyVal_rel` at the instance's class of values) -/
theorem evalLit_rel (dev : Dev) {v : Val} (hval : T.val v = v) (hg : dev.litAlias = true → T.goodV v)
    (hcopy : ∀ h, T.ok h → Rel T (copyVal (h.length + 1) v) (copyVal ((T.heap h).length + 1) (T.val v))) :
    Rel T (evalLit dev v) (evalLit dev v) := by
  unfold evalLit
  split
  · next hs => exact Rel.pure L hval.symm ((Bool.or_eq_true _ _ ▸ hs).elim hg Tr.goodV_scalar)
  · refine Rel.getHeap fun h hk => ?_
    have := hcopy h hk
    rwa [hval] at this

variable {e1 e2 : Arg → M Val} {ev1 ev2 : Arg → Val → M Val} {args : List Arg}

theorem sumLoop_rel : ∀ (args : List Arg) (acc : SumAcc), (∀ a ∈ args, Rel T (e1 a) (e2 a)) →
    Rel T (sumLoop e1 acc args) (sumLoop e2 acc args)
  | [], acc, _ => Rel.pure L (T.sumAcc_val acc).symm (by cases acc <;> trivial)
  | a :: r, acc, he =>
    (he a (List.mem_cons_self ..)).bind L fun v _ =>
      (Rel.liftE_plain L (T.sumStep_val acc v) (sumStep_mild acc v)).bind L fun _ _ =>
        sumLoop_rel r _ (mem_tail he)

theorem fnSum_rel (he : ∀ a ∈ args, Rel T (e1 a) (e2 a)) : Rel T (fnSum e1 args) (fnSum e2 args) :=
  match args, he with
  | [], _ => Rel.pure L rfl trivial
  | a :: r, he =>
    (he a (List.mem_cons_self ..)).bind L fun v _ =>
      (Rel.liftE_plain L (T.sumFirst_val v) (sumFirst_mild v)).bind L fun _ _ =>
        sumLoop_rel L r _ (mem_tail he)

theorem arithLoop_rel (dev : Dev) (op : ArithOp) : ∀ (args : List Arg) (acc : NumAcc), (∀ a ∈ args, Rel T (e1 a) (e2 a)) →
    Rel T (arithLoop dev op e1 acc args) (arithLoop dev op e2 acc args)
  | [], acc, _ => Rel.pure L (T.numAcc_val acc).symm (by cases acc <;> trivial)
  | a :: r, acc, he =>
    (he a (List.mem_cons_self ..)).bind L fun v _ =>
      (Rel.liftE_plain L (T.arithStep_val dev op acc v) (arithStep_mild dev op acc v)).bind L fun _ _ =>
        arithLoop_rel dev op r _ (mem_tail he)

theorem fnArith_rel (dev : Dev) (op : ArithOp) (he : ∀ a ∈ args, Rel T (e1 a) (e2 a)) :
    Rel T (fnArith dev op e1 args) (fnArith dev op e2 args) :=
  match args, he with
  | [], _ => Rel.pure L rfl trivial
  | a :: r, he =>
    (he a (List.mem_cons_self ..)).bind L fun v _ =>
      (Rel.liftE_plain L (T.arithFirst_val v) (arithFirst_mild v)).bind L fun _ _ =>
        arithLoop_rel L dev op r _ (mem_tail he)

theorem fnMod_rel (he : ∀ a ∈ args, Rel T (e1 a) (e2 a)) : Rel T (fnMod e1 args) (fnMod e2 args) := by
  unfold fnMod
  split
  · refine (he _ (by simp)).bind L fun v0 _ => ?_
    simp only [Tv.tr, Tr.asInt_val]
    cases asInt v0 with
    | none => exact Rel.panic L
    | some n0 =>
      refine (he _ (by simp)).bind L fun v1 _ => ?_
      simp only [Tv.tr, Tr.asInt_val]
      cases asInt v1 with
      | none => exact Rel.panic L
      | some n1 => exact Rel.ite (Rel.panic L) (Rel.pure L rfl trivial)
  · exact Rel.panic L

theorem cmpNumLoop_rel (dev : Dev) (op : CmpOp) : ∀ (args : List Arg) (x : Flt), (∀ a ∈ args, Rel T (e1 a) (e2 a)) →
    Rel T (cmpNumLoop dev op e1 x args) (cmpNumLoop dev op e2 x args)
  | [], _, _ => Rel.pure L rfl trivial
  | a :: r, x, he => by
    simp only [cmpNumLoop]
    refine (he a (List.mem_cons_self ..)).bind L fun v _ => ?_
    simp only [Tv.tr, Tr.asFloat_val]
    cases asFloat (!dev.cmpFloat) v with
    | none => exact Rel.panic L
    | some f => exact Rel.ite (cmpNumLoop_rel dev op r f (mem_tail he)) (Rel.pure L rfl trivial)

theorem cmpStrLoop_rel (op : CmpOp) : ∀ (args : List Arg) (x : Bytes), (∀ a ∈ args, Rel T (e1 a) (e2 a)) →
    Rel T (cmpStrLoop op e1 x args) (cmpStrLoop op e2 x args)
  | [], _, _ => Rel.pure L rfl trivial
  | a :: r, x, he => by
    simp only [cmpStrLoop]
    refine (he a (List.mem_cons_self ..)).bind L fun v _ => ?_
    simp only [Tv.tr, Tr.strOrEmpty_val]
    exact Rel.ite (cmpStrLoop_rel op r _ (mem_tail he)) (Rel.pure L rfl trivial)

theorem eqLoop_rel (dev : Dev) (v0 : Val)
    (heq : ∀ v1, Rel T (equalM dev v0 v1) (equalM dev (T.val v0) (T.val v1))) :
    ∀ (args : List Arg), (∀ a ∈ args, Rel T (e1 a) (e2 a)) → Rel T (eqLoop dev e1 v0 args) (eqLoop dev e2 (T.val v0) args)
  | [], _ => Rel.pure L rfl trivial
  | a :: r, he =>
    (he a (List.mem_cons_self ..)).bind L fun v _ => (heq v).bind L fun _ _ =>
      Rel.ite (eqLoop_rel dev v0 heq r (mem_tail he)) (Rel.pure L rfl trivial)

theorem fnEqual_rel (dev : Dev) (heq : ∀ v0 v1, Rel T (equalM dev v0 v1) (equalM dev (T.val v0) (T.val v1)))
    (he : ∀ a ∈ args, Rel T (e1 a) (e2 a)) : Rel T (fnEqual dev e1 args) (fnEqual dev e2 args) :=
  match args, he with
  | [], _ => Rel.pure L rfl trivial
  | a :: r, he => (he a (List.mem_cons_self ..)).bind L fun v0 _ => eqLoop_rel L dev v0 (heq v0) r (mem_tail he)

theorem fnAnd_rel : ∀ (args : List Arg), (∀ a ∈ args, Rel T (e1 a) (e2 a)) → Rel T (fnAnd e1 args) (fnAnd e2 args)
  | [], _ => Rel.pure L rfl trivial
  | a :: r, he => by
    simp only [fnAnd]
    refine (he a (List.mem_cons_self ..)).bind L fun v _ => ?_
    cases v with
    | bool b => cases b <;> first | exact Rel.pure L rfl trivial | exact fnAnd_rel r (mem_tail he)
    | null => exact Rel.pure L rfl trivial
    | _ => exact Rel.panic L

theorem fnOr_rel : ∀ (args : List Arg), (∀ a ∈ args, Rel T (e1 a) (e2 a)) → Rel T (fnOr e1 args) (fnOr e2 args)
  | [], _ => Rel.pure L rfl trivial
  | a :: r, he => by
    simp only [fnOr]
    refine (he a (List.mem_cons_self ..)).bind L fun v _ => ?_
    cases v with
    | bool b => cases b <;> first | exact Rel.pure L rfl trivial | exact fnOr_rel r (mem_tail he)
    | null => exact fnOr_rel r (mem_tail he)
    | _ => exact Rel.panic L

theorem fnNot_rel (he : ∀ a ∈ args, Rel T (e1 a) (e2 a)) : Rel T (fnNot e1 args) (fnNot e2 args) := by
  unfold fnNot
  split
  · refine (he _ (by simp)).bind L fun v _ => ?_
    cases v <;> first | exact Rel.panic L | exact Rel.pure L rfl trivial
  · exact Rel.panic L

theorem pathArg_rel {a : Arg} (ha : Rel T (e1 a) (e2 a)) : Rel T (pathArg e1 a) (pathArg e2 a) := by
  unfold pathArg
  split
  · exact Rel.pure L rfl trivial
  · refine ha.bind L fun v _ => ?_
    cases v <;> first | exact Rel.panic L | exact Rel.pure L rfl trivial
  · exact Rel.unmodelled L
  · exact Rel.panic L

theorem joinLoop_rel : ∀ (args : List Arg) (first : Bool) (acc : Bytes), (∀ a ∈ args, Rel T (e1 a) (e2 a)) →
    Rel T (joinLoop e1 args first acc) (joinLoop e2 args first acc)
  | [], _, _, _ => Rel.pure L rfl trivial
  | a :: r, _, _, he => by
    simp only [joinLoop]
    refine (he a (List.mem_cons_self ..)).bind L fun v _ => ?_
    cases v <;> first | exact Rel.panic L | exact joinLoop_rel r _ _ (mem_tail he)

theorem fnPathOf_rel (isAt : Bool) (he : ∀ a ∈ args, Rel T (e1 a) (e2 a)) :
    Rel T (fnPathOf isAt e1 args) (fnPathOf isAt e2 args) := by
  refine (joinLoop_rel L args true [] he).bind L fun b _ => ?_
  simp only [Tv.tr]
  cases parseRel b with
  | none => exact Rel.unmodelled L
  | some fs => exact Rel.pure L rfl trivial

theorem fnAsm_rel : ∀ (args : List Arg) (at_ : Val), T.goodV at_ →
    (∀ a ∈ args, ∀ at', T.goodV at' → Rel T (ev1 a at') (ev2 a (T.val at'))) →
    Rel T (fnAsm ev1 args at_) (fnAsm ev2 args (T.val at_))
  | [], _, hat, _ => Rel.pure L rfl hat
  | a :: r, _, hat, he => (he a (List.mem_cons_self ..) _ hat).bind L fun v hv => fnAsm_rel r v hv (mem_tail he)

theorem fnList_rel (he : ∀ a ∈ args, Rel T (e1 a) (e2 a)) : Rel T (fnList e1 args) (fnList e2 args) := by
  have hm := mapM'_rel L id e1 e2 args he
  rw [List.map_id] at hm
  exact hm.bind L fun vs hvs => newArr_rel L hvs

theorem fnNth_rel (he : ∀ a ∈ args, Rel T (e1 a) (e2 a)) : Rel T (fnNth e1 args) (fnNth e2 args) := by
  unfold fnNth
  split
  · refine (he _ (by simp)).bind L fun v hv => ?_
    cases v <;> try exact Rel.panic L
    rename_i c
    refine (he _ (by simp)).bind L fun iv _ => ?_
    simp only [Tv.tr, Tr.asInt_val]
    cases asInt iv with
    | none => exact Rel.panic L
    | some i =>
      refine Rel.getHeap fun h0 hk0 => ?_
      simp only [L.arrAt hk0, List.length_map]
      cases normIdx i (h0.arrAt c).length with
      | none => exact Rel.pure L rfl trivial
      | some j => exact Rel.pure L (getD_map T.val rfl _ j) (Tr.getD_good (L.arrGood hk0 hv) j)
  · exact Rel.panic L

theorem fnSize_rel (he : ∀ a ∈ args, Rel T (e1 a) (e2 a)) : Rel T (fnSize e1 args) (fnSize e2 args) := by
  unfold fnSize
  split
  · refine (he _ (by simp)).bind L fun v _ => Rel.getHeap fun h0 hk0 => ?_
    cases v with
    | aref c => exact Rel.pure L (by simp [Tv.tr, Tr.val, L.arrAt hk0]) trivial
    | mref c => exact Rel.pure L (by simp [Tv.tr, Tr.val, L.mapAt hk0]) trivial
    | _ => exact Rel.pure L rfl trivial
  · exact Rel.panic L

theorem fnPred_rel (p : Val → Bool) (hp : ∀ v, p (T.val v) = p v) (he : ∀ a ∈ args, Rel T (e1 a) (e2 a)) :
    Rel T (fnPred p e1 args) (fnPred p e2 args) := by
  unfold fnPred
  split
  · exact (he _ (by simp)).bind L fun v _ => Rel.pure L (by rw [Tv.tr_val, hp v]; rfl) trivial
  · exact Rel.panic L

omit L in
theorem fnTable_blind (T : Tr) {f : Bytes} {p : Val → Bool} (h : fnKind f = some (.pred p)) (v : Val) : p (T.val v) = p v := by
  have hm := lookupKind_mem h
  -- one alternative for each `.pred` row of `fnTable`
  simp [fnTable] at hm
  rcases hm with ⟨_, hm⟩ | ⟨_, hm⟩ | ⟨_, hm⟩ | ⟨_, hm⟩ | ⟨_, hm⟩ | ⟨_, hm⟩ | ⟨_, hm⟩ <;> subst hm <;> cases v <;> rfl

theorem wantLoop_rel : ∀ (args : List Arg) (ws : List Want) (acc : List Tree), (∀ a ∈ args, Rel T (e1 a) (e2 a)) →
    Rel T (wantLoop e1 args ws acc) (wantLoop e2 args ws acc)
  | [], _, _, _ => Rel.pure L rfl trivial
  | _ :: _, [], _, _ => Rel.pure L rfl trivial
  | a :: r, w :: ws, _, he =>
    (he a (List.mem_cons_self ..)).bind L fun v _ => Rel.getHeap fun h0 hk0 =>
      (Rel.liftE_plain L (T.accept_val (L.arrAt hk0) w v) (accept_mild h0 w v)).bind L fun _ _ =>
        wantLoop_rel r ws _ (mem_tail he)

theorem retTree_rel (t : Tree) : Rel T (retTree t) (retTree t) := by
  unfold retTree
  split
  · rename_i xs
    have := newArr_rel L (vs := xs.map Tree.toVal) fun v hv => by
      obtain ⟨t, _, rfl⟩ := List.mem_map.mp hv
      exact Tr.toVal_good t
    simp only [List.map_map, Function.comp_def, Tr.val_toVal] at this
    exact this
  · exact Rel.pure L (T.val_toVal _).symm (Tr.toVal_good _)

theorem fnScalar_rel (g : ScalarFn) (hg : g.MildFin) (he : ∀ a ∈ args, Rel T (e1 a) (e2 a)) :
    Rel T (fnScalar g e1 args) (fnScalar g e2 args) :=
  Rel.ite (Rel.panic L) ((wantLoop_rel L _ (g.wants args.length) [] (swapArgs_mem (b := g.swap) he)).bind L fun _ _ =>
    (Rel.liftE_plain L rfl (hg _ _)).bind L fun t _ => retTree_rel L t)

theorem fnReverse_rel (he : ∀ a ∈ args, Rel T (e1 a) (e2 a)) : Rel T (fnReverse e1 args) (fnReverse e2 args) := by
  unfold fnReverse
  split
  · refine (he _ (by simp)).bind L fun v hv => ?_
    cases v <;> try exact Rel.panic L
    rename_i c
    refine Rel.getHeap fun h0 hk0 => ?_
    have := newArr_rel L (vs := (h0.arrAt c).reverse) fun x hx => L.arrGood hk0 hv x (List.mem_reverse.1 hx)
    rwa [List.map_reverse, ← L.arrAt hk0] at this
  · exact Rel.panic L

theorem fnAppend_rel (he : ∀ a ∈ args, Rel T (e1 a) (e2 a)) : Rel T (fnAppend e1 args) (fnAppend e2 args) := by
  unfold fnAppend
  split
  · refine (he _ (by simp)).bind L fun v hv => ?_
    cases v <;> try exact Rel.panic L
    rename_i c
    refine (he _ (by simp)).bind L fun w hw => Rel.getHeap fun h0 hk0 => ?_
    have := newArr_rel L (vs := h0.arrAt c ++ [w]) fun x hx => by
      rcases List.mem_append.mp hx with h1 | h1
      · exact L.arrGood hk0 hv x h1
      · cases List.mem_singleton.1 h1; exact hw
    rwa [List.map_append, ← L.arrAt hk0] at this
  · exact Rel.panic L

theorem fnInclude_rel (he : ∀ a ∈ args, Rel T (e1 a) (e2 a)) : Rel T (fnInclude e1 args) (fnInclude e2 args) := by
  unfold fnInclude
  split
  · refine (he _ (by simp)).bind L fun v1 _ => (he _ (by simp)).bind L fun v _ => ?_
    cases v <;> try exact Rel.panic L
    · cases v1 <;> first | exact Rel.panic L | exact Rel.pure L rfl trivial
    · rename_i c
      refine Rel.getHeap fun h0 hk0 => ?_
      simp only [Tv.tr, Tr.val, L.arrAt hk0]
      exact Rel.liftE L (.of_mild L (T.includeLoop_map v1 _) (Tr.includeLoop_good v1 _) (includeLoop_mild v1 _))
  · exact Rel.panic L

theorem eachLoop_rel (fn : Arg) (key : Bytes) {a : Nat} (ha : T.good a)
    (hfn : ∀ at_, T.goodV at_ → Rel T (ev1 fn at_) (ev2 fn (T.val at_))) :
    ∀ (n i : Nat) (acc : List Val), (∀ v ∈ acc, T.goodV v) →
      Rel T (eachLoop ev1 fn key a n i acc) (eachLoop ev2 fn key (T.ad a) n i (acc.map T.val))
  | 0, i, acc, hacc => by
    simp only [eachLoop]
    exact Rel.pure L (by simp [Tv.tr, List.map_reverse]) fun v hv => hacc v (by simpa using hv)
  | n + 1, i, acc, hacc => by
    simp only [eachLoop]
    refine Rel.getHeap fun h0 hk0 => ?_
    rw [L.arrAt hk0, getD_map T.val rfl]
    have hsrc := Tr.getD_good (L.arrGood hk0 ha) i
    refine (Rel.alloc L (c := .map [(b!"src", (h0.arrAt a).getD i .null)]) rfl
      (fun kv hkv => by cases List.mem_singleton.1 hkv; exact hsrc)).bind L fun m hm => ?_
    refine (hfn (.mref m) hm).bind L fun _ _ => ?_
    refine Rel.getHeap fun h2 hk2 => ?_
    rw [Tv.tr_nat, L.mapAt hk2, kvGet_map]
    have e : ((kvGet key (h2.mapAt m)).map T.val).getD .null :: acc.map T.val =
        (((kvGet key (h2.mapAt m)).getD .null) :: acc).map T.val := by
      cases kvGet key (h2.mapAt m) <;> rfl
    rw [e]
    refine eachLoop_rel fn key ha hfn n (i + 1) _ fun v hv => ?_
    rcases List.mem_cons.1 hv with rfl | hv
    · cases hg : kvGet key (h2.mapAt m) with
      | none => trivial
      | some w => exact L.mapGood hk2 hm _ (kvGet_mem hg)
    · exact hacc v hv

theorem fnEach_rel {at_ : Val} (hat : T.goodV at_)
    (he : ∀ a ∈ args, ∀ at', T.goodV at' → Rel T (ev1 a at') (ev2 a (T.val at'))) :
    Rel T (fnEach ev1 at_ args) (fnEach ev2 (T.val at_) args) := by
  have tail : ∀ fn ∈ args, ∀ (key : Bytes) (a : Nat), T.good a →
      Rel T (getHeap >>= fun h => eachLoop ev1 fn key a (h.arrAt a).length 0 [] >>= fun rs =>
          alloc (.arr rs) >>= fun c => pure (Val.aref c))
        (getHeap >>= fun h => eachLoop ev2 fn key (T.ad a) (h.arrAt (T.ad a)).length 0 [] >>= fun rs =>
          alloc (.arr rs) >>= fun c => pure (Val.aref c)) := fun fn hfn key a ha =>
    Rel.getHeap fun h0 hk0 => by
      rw [L.arrAt hk0, List.length_map]
      exact (eachLoop_rel L fn key ha (he fn hfn) _ 0 [] (fun _ h => nomatch h)).bind L fun rs hrs => newArr_rel L hrs
  -- two and three arguments run the same body: the list, the kind of the function argument, the key
  -- ("asm" or the third argument), then the loop
  unfold fnEach
  split
  · refine (he _ (.head _) at_ hat).bind L fun v hv => ?_
    cases v <;> try exact Rel.panic L
    simp only [Tv.tr, Tr.val]
    split
    · exact (Rel.pure L (α := Bytes) rfl trivial).bind L fun _ _ => tail _ (.tail _ (.head _)) _ _ hv
    · exact Rel.unmodelled L
    · exact Rel.panic L
  · refine (he _ (.head _) at_ hat).bind L fun v hv => ?_
    cases v <;> try exact Rel.panic L
    simp only [Tv.tr, Tr.val]
    split
    · refine Rel.bind L (α := Bytes) ((he _ (.tail _ (.tail _ (.head _))) at_ hat).bind L fun kv _ => ?_) fun _ _ =>
        tail _ (.tail _ (.head _)) _ _ hv
      cases kv <;> first | exact Rel.panic L | exact Rel.pure L rfl trivial
    · exact Rel.unmodelled L
    · exact Rel.panic L
  · exact Rel.panic L

variable {dev : Dev} {o1 o2 : Option MapOrd} {lit : Val → Prop} {fn : Bytes → Prop} (P : Prims T dev o1 o2 lit fn)
  {Q : Nat → Arg → Prop} (PQ : Plans lit fn (T.err .fuel) Q)
include P

omit L in
theorem Prims.first {h : Heap} {v : Val} (hok : T.ok h) (hv : T.goodV v) (fs : List Frag) :
    T.Lifted (pathFirst ⟨dev, o1⟩ h v fs) (pathFirst ⟨dev, o2⟩ (T.heap h) (T.val v) fs) := by
  intro hs
  rw [pathFirst_eq_head] at hs ⊢
  rw [pathFirst_eq_head]
  obtain ⟨g1, g2, g3⟩ := P.getall hok hv fs fun e he => hs e (by rw [he]; rfl)
  rw [g1]
  cases hr : pathGet ⟨dev, o1⟩ h v fs with
  | error e =>
    refine ⟨rfl, ?_, ?_⟩
    · intro _ x; cases x
    · intro e' x; cases x; exact g3 e hr
  | ok ws =>
    refine ⟨by simp [Tv.tr, List.head?_map], ?_, ?_⟩
    rotate_left
    · intro _ x; cases x
    intro o ho w hw
    simp only [exceptMap_ok, Except.ok.injEq] at ho
    subst ho
    exact g2 ws hr w (List.mem_of_mem_head? hw)

theorem first_rel {base : Val} (hb : T.goodV base) (fs : List Frag) :
    Rel T (getHeap >>= fun h => liftE (pathFirst ⟨dev, o1⟩ h base fs) >>= fun r => pure (r.getD .null))
      (getHeap >>= fun h => liftE (pathFirst ⟨dev, o2⟩ h (T.val base) fs) >>= fun r => pure (r.getD .null)) :=
  Rel.getHeap fun h0 hk0 => (Rel.liftE L (P.first hk0 hb fs)).bind L fun r hr =>
    Rel.pure L (by cases r <;> rfl) (by cases r with | none => trivial | some v => exact hr v rfl)

theorem getall_rel {base : Val} (hb : T.goodV base) (fs : List Frag) :
    Rel T (getHeap >>= fun h => liftE (pathGet ⟨dev, o1⟩ h base fs) >>= fun r => alloc (.arr r) >>= fun c => pure (Val.aref c))
      (getHeap >>= fun h => liftE (pathGet ⟨dev, o2⟩ h (T.val base) fs) >>= fun r => alloc (.arr r) >>= fun c => pure (Val.aref c)) :=
  Rel.getHeap fun _ hk0 => (Rel.liftE L (P.getall hk0 hb fs)).bind L fun _ hr => newArr_rel L hr

theorem fnGet_rel {root at_ : Val} (hroot : T.goodV root) (hat : T.goodV at_) (he : ∀ a ∈ args, Rel T (e1 a) (e2 a)) :
    Rel T (fnGet ⟨dev, o1⟩ e1 root at_ args) (fnGet ⟨dev, o2⟩ e2 (T.val root) (T.val at_) args) := by
  unfold fnGet
  split
  · refine (pathArg_rel L (he _ (by simp))).bind L fun p _ => ?_
    simp only [Tv.tr, Tr.ite_val]
    exact first_rel L P (Tr.ite_good hat hroot) _
  · exact (pathArg_rel L (he _ (by simp))).bind L fun p _ => (he _ (by simp)).bind L fun _ hd => first_rel L P hd _
  · exact Rel.panic L

theorem fnGetall_rel {root at_ : Val} (hroot : T.goodV root) (hat : T.goodV at_) (he : ∀ a ∈ args, Rel T (e1 a) (e2 a)) :
    Rel T (fnGetall ⟨dev, o1⟩ e1 root at_ args) (fnGetall ⟨dev, o2⟩ e2 (T.val root) (T.val at_) args) := by
  unfold fnGetall
  split
  · refine (pathArg_rel L (he _ (by simp))).bind L fun p _ => ?_
    simp only [Tv.tr, Tr.ite_val]
    exact getall_rel L P (Tr.ite_good hat hroot) _
  · exact (pathArg_rel L (he _ (by simp))).bind L fun p _ => (he _ (by simp)).bind L fun _ hd => getall_rel L P hd _
  · exact Rel.panic L

theorem fnSort_rel (he : ∀ a ∈ args, Rel T (e1 a) (e2 a)) :
    Rel T (fnSort ⟨dev, o1⟩ e1 args) (fnSort ⟨dev, o2⟩ e2 args) := by
  unfold fnSort
  split
  · refine (he _ (by simp)).bind L fun v hv => ?_
    cases v <;> try exact Rel.panic L
    rename_i c
    simp only [Tv.tr, Tr.val]
    split
    · refine Rel.getHeap fun h0 hk0 => ?_
      rw [L.arrAt hk0]
      exact (Rel.liftE L (P.sort hk0 (L.arrGood hk0 hv) _)).bind L fun r hr => newArr_rel L hr
    · exact Rel.unmodelled L
    · exact Rel.panic L
  · exact Rel.panic L

theorem setAt_rel {f : Bytes} (hf : fn f) (hk : fnKind f = some .set ∨ fnKind f = some .del) (value : Option Val)
    (hval : ∀ v, value = some v → T.goodV v) (p : Path) {root at_ : Val} (hroot : T.goodV root) (hat : T.goodV at_) :
    Rel T (setAt value p root at_) (setAt (value.map T.val) p (T.val root) (T.val at_)) := by
  unfold setAt
  rw [Tr.ite_val]
  exact Rel.ite (Rel.panic L) (P.set f hf hk value _ _ hval (Tr.ite_good hat hroot))

theorem fnSet_rel {f : Bytes} (hf : fn f) (hk : fnKind f = some .set) {root at_ : Val} (hroot : T.goodV root)
    (hat : T.goodV at_) (he : ∀ a ∈ args, Rel T (e1 a) (e2 a)) :
    Rel T (fnSet e1 root at_ args) (fnSet e2 (T.val root) (T.val at_) args) := by
  unfold fnSet
  split
  · exact (pathArg_rel L (he _ (by simp))).bind L fun p _ => (he _ (by simp)).bind L fun v hv =>
      (setAt_rel L P hf (.inl hk) (some v) (fun _ hw => Option.some.inj hw ▸ hv) p hroot hat).bind L fun _ _ => Rel.pure L rfl hat
  · exact Rel.panic L

theorem fnDel_rel {f : Bytes} (hf : fn f) (hk : fnKind f = some .del) {root at_ : Val} (hroot : T.goodV root)
    (hat : T.goodV at_) : Rel T (fnDel root at_ args) (fnDel (T.val root) (T.val at_) args) := by
  unfold fnDel
  repeat' split
  all_goals first
    | exact Rel.panic L
    | exact Rel.unmodelled L
    | exact (setAt_rel L P hf (.inr hk) none (fun _ hw => nomatch hw) _ hroot hat).bind L fun _ _ => Rel.pure L rfl hat

include PQ

theorem fnCmp_rel (op : CmpOp) {n : Nat} (hadm : ∀ a ∈ args, Q n a)
    (he : ∀ a ∈ args, Rel T (e1 a) (e2 a)) : Rel T (fnCmp dev op e1 args) (fnCmp dev op e2 args) := by
  cases args with
  | nil => exact Rel.pure L rfl trivial
  | cons a r =>
    have hhead : Rel T (cmpHead dev e1 a) (cmpHead dev e2 a) := by
      unfold cmpHead
      split
      · rename_i hc
        split
        · have hv := PQ.atLit (hadm _ (.head _))
          exact Rel.pure L (P.share (.inl hc) _ hv).1.symm (P.share (.inl hc) _ hv).2
        · exact Rel.unmodelled L
        · exact Rel.panic L
      · exact he a (.head _)
    simp only [fnCmp]
    refine hhead.bind L fun t0 _ => ?_
    cases t0 <;> first
      | exact Rel.panic L
      | exact cmpStrLoop_rel L op r _ (mem_tail he)
      | exact cmpNumLoop_rel L dev op r _ (mem_tail he)

theorem evalValue_rel {a : Arg} {n : Nat} (hadm : Q n a) (ha : Rel T (e1 a) (e2 a)) :
    Rel T (evalValue dev e1 a) (evalValue dev e2 a) := by
  unfold evalValue
  split
  · split
    · exact Rel.pure L rfl trivial
    · split
      · rename_i hc
        have hv := (PQ.atRaw hadm).1
        exact Rel.pure L (P.share (.inr hc) _ hv).1.symm (P.share (.inr hc) _ hv).2
      · exact ha
  · exact ha

theorem fnCond_rel {n : Nat} : ∀ (args : List Arg), (∀ a ∈ args, Q n a) →
    (∀ a, Q n a → Rel T (e1 a) (e2 a)) → Rel T (fnCond dev e1 args) (fnCond dev e2 args)
  | [], _, _ => Rel.pure L rfl trivial
  | a :: r, hadm, he => by
    have ih := fnCond_rel r (mem_tail hadm) he
    unfold fnCond
    split
    · have hes := (PQ.atRaw (hadm _ (.head _))).2
      have hv := fun c hc => evalValue_rel L P PQ (hes c hc) (he c (hes c hc))
      refine (hv _ (by simp)).bind L fun b _ => ?_
      have hb : (Tv.tr T b = Val.bool true) ↔ (b = Val.bool true) := by cases b <;> simp [Tv.tr, Tr.val]
      simp only [hb]
      exact Rel.ite (hv _ (by simp)) ih
    · exact Rel.unmodelled L
    · exact Rel.panic L

theorem fnQuote_evalLit_rel {n : Nat} (hadm : ∀ a ∈ args, Q n a) :
    Rel T (fnQuote args >>= fun v => evalLit dev v) (fnQuote args >>= fun v => evalLit dev v) := by
  unfold fnQuote
  split
  · exact Rel.ite (Rel.pure L rfl trivial) (Rel.pure L rfl trivial)
  · exact P.evalLit _ (PQ.atLit (hadm _ (.head _)))
  · exact P.evalLit _ (PQ.atRaw (hadm _ (.head _))).1
  · exact Rel.unmodelled L

/-- a call whose arguments are admissible at `n`, given that `ev1`, `ev2` agree on every plan admissible at `n` -/
theorem evalFn_rel {root at_ : Val} (hroot : T.goodV root) (hat : T.goodV at_) {f : Bytes} (hf : fn f)
    {n : Nat} (hargs : ∀ a ∈ args, Q n a)
    (hev : ∀ a, Q n a → ∀ at', T.goodV at' → Rel T (ev1 a at') (ev2 a (T.val at'))) :
    Rel T (evalFn ⟨dev, o1⟩ ev1 root at_ f args) (evalFn ⟨dev, o2⟩ ev2 (T.val root) (T.val at_) f args) := by
  have he' : ∀ a ∈ args, ∀ at', T.goodV at' → Rel T (ev1 a at') (ev2 a (T.val at')) := fun a ha => hev a (hargs a ha)
  have he : ∀ a ∈ args, Rel T (ev1 a at_) (ev2 a (T.val at_)) := fun a ha => he' a ha at_ hat
  unfold evalFn
  cases hkf : fnKind f with
  | none => exact Rel.unmodelled L
  | some kd =>
    cases kd <;> simp only [evalKind]
    case sum => exact fnSum_rel L he
    case arith op => exact fnArith_rel L _ _ he
    case mod => exact fnMod_rel L he
    case cmp op => exact fnCmp_rel L P PQ _ hargs he
    case equal => exact (fnEqual_rel L _ (P.equal f hf (.inl hkf)) he).bind L fun _ _ => Rel.pure L rfl trivial
    case neq => exact (fnEqual_rel L _ (P.equal f hf (.inr hkf)) he).bind L fun _ _ => Rel.pure L rfl trivial
    case and => exact fnAnd_rel L _ he
    case or => exact fnOr_rel L _ he
    case not => exact fnNot_rel L he
    case cond => exact fnCond_rel L P PQ _ hargs fun a ha => hev a ha at_ hat
    case get => exact fnGet_rel L P hroot hat he
    case getall => exact fnGetall_rel L P hroot hat he
    case set => exact fnSet_rel L P hf hkf hroot hat he
    case del => exact fnDel_rel L P hf hkf hroot hat
    case each => exact fnEach_rel L hat he'
    case pathOf isAt => exact fnPathOf_rel L _ he
    case asm => exact fnAsm_rel L _ _ hat he'
    case quote => exact fnQuote_evalLit_rel L P PQ hargs
    case list => exact fnList_rel L he
    case nth => exact fnNth_rel L he
    case size => exact fnSize_rel L he
    case pred p => exact fnPred_rel L p (fnTable_blind T hkf) he
    case scalar g => exact fnScalar_rel L g (fnTable_mildFin hkf) he
    case reverse => exact fnReverse_rel L he
    case append => exact fnAppend_rel L he
    case incl => exact fnInclude_rel L he
    case sort => exact fnSort_rel L P he

theorem eval_rel {root : Val} (hroot : T.goodV root) :
    ∀ (n : Nat) (a : Arg), Q n a → ∀ at_, T.goodV at_ →
      Rel T (eval ⟨dev, o1⟩ root n a at_) (eval ⟨dev, o2⟩ (T.val root) n a (T.val at_))
  | n, .lit v, ha, at_, _ => by simp only [eval]; exact P.evalLit v (PQ.atLit ha)
  | n, .raw v es, ha, at_, _ => by simp only [eval]; exact P.evalLit v (PQ.atRaw ha).1
  | n, .path p, _, at_, hat => by
    simp only [eval, Tr.ite_val]
    exact first_rel L P (Tr.ite_good hat hroot) _
  | n, .unk, _, at_, _ => by simp only [eval]; exact Rel.unmodelled L
  | 0, .call f args, ha, at_, _ => by simp only [eval]; exact Rel.stop L (.inr (PQ.atDry ha))
  | n + 1, .call f args, ha, at_, hat => by
    simp only [eval]
    exact evalFn_rel L P PQ hroot hat (PQ.atCall ha).1 (PQ.atCall ha).2 (eval_rel hroot n)

end walk

section self
variable {ok : Heap → Prop} {good : Nat → Prop} {step : Heap → Heap → Prop} {skip err : Stop → Prop}
  (L : (Tr.self ok good step skip err).Laws) {dev : Dev} {o1 o2 : Option MapOrd} {lit : Val → Prop} {fn : Bytes → Prop}
  (P : Prims (Tr.self ok good step skip err) dev o1 o2 lit fn) {Q : Nat → Arg → Prop} (PQ : Plans lit fn (err .fuel) Q)
include L P PQ

theorem evalFn_rel_self {ev1 ev2 : Arg → Val → M Val} {root at_ : Val} (hroot : (Tr.self ok good step skip err).goodV root)
    (hat : (Tr.self ok good step skip err).goodV at_) {f : Bytes} (hf : fn f) {args : List Arg} {n : Nat}
    (hargs : ∀ a ∈ args, Q n a)
    (hev : ∀ a, Q n a → ∀ at', (Tr.self ok good step skip err).goodV at' → Rel (Tr.self ok good step skip err) (ev1 a at') (ev2 a at')) :
    Rel (Tr.self ok good step skip err) (evalFn ⟨dev, o1⟩ ev1 root at_ f args) (evalFn ⟨dev, o2⟩ ev2 root at_ f args) := by
  have h := evalFn_rel L P PQ hroot hat hf hargs fun a ha at' hat' => by rw [Tr.self_val]; exact hev a ha at' hat'
  rwa [Tr.self_val, Tr.self_val] at h

theorem eval_rel_self {root : Val} (hroot : (Tr.self ok good step skip err).goodV root) (n : Nat) (a : Arg) (ha : Q n a)
    (at_ : Val) (hat : (Tr.self ok good step skip err).goodV at_) :
    Rel (Tr.self ok good step skip err) (eval ⟨dev, o1⟩ root n a at_) (eval ⟨dev, o2⟩ root n a at_) := by
  have h := eval_rel L P PQ hroot n a ha at_ hat
  rwa [Tr.self_val, Tr.self_val] at h
end self

end OjgVerif.Asm
