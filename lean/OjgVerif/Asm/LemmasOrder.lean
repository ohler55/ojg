import OjgVerif.Asm.LemmasRel
/-! A run that never asks for a map iteration order (`ord = none`
and no `enum` stop) is reproduced exactly under every order (`Sim`). -/
namespace OjgVerif.Asm

/-- `m2` does what `m1` does wherever `m1` does not stop for want of a map order -/
structure Sim (m1 m2 : M α) : Prop where
  same : ∀ h, (m1 h).1 ≠ .error .enum → m2 h = m1 h

/-- nothing moves and nothing is asked of the heap; nothing is claimed where the first run stops for want of an order -/
abbrev simTr : Tr := Tr.self (fun _ => True) (fun _ => True) (fun _ _ => True) (· = .enum) (fun _ => True)

theorem simTr_goodV (v : Val) : simTr.goodV v := Tr.goodV_of_all (fun _ => trivial) v

theorem simTr_laws : simTr.Laws :=
  Tr.self_laws (fun _ => trivial) (fun _ _ => trivial) (fun _ => trivial)
    (fun _ _ v _ => simTr_goodV v) (fun _ _ kv _ => simTr_goodV kv.2) (fun _ _ => ⟨trivial, trivial, trivial⟩)

theorem sim_iff_rel {m1 m2 : M Val} : Sim m1 m2 ↔ Rel simTr m1 m2 := by
  rw [simTr, Rel.self_iff]
  constructor
  · intro hs h _ hne
    exact ⟨hs.same h fun he => hne _ he rfl, trivial, trivial, fun v _ => simTr_goodV v, fun _ _ => trivial⟩
  · intro hr
    exact ⟨fun h hne => (hr h trivial fun e he hs => hne (by rw [he, hs])).1⟩

theorem simTr_refl [Tv α] (hg : ∀ a : α, Tv.good simTr a) (m : M α) : Rel simTr m m :=
  Rel.self_iff.2 fun _ _ _ => ⟨rfl, trivial, trivial, fun a _ => hg a, fun _ _ => trivial⟩

theorem pathGet_sim (dev : Dev) (o : MapOrd) (h : Heap) :
    ∀ (fs : List Frag) (v : Val), pathGet ⟨dev, none⟩ h v fs ≠ .error .enum →
      pathGet ⟨dev, some o⟩ h v fs = pathGet ⟨dev, none⟩ h v fs
  | [], v, _ => by simp [pathGet]
  | f :: rest, v, hne => by
    have ih := pathGet_sim dev o h rest
    cases v <;> cases f <;> simp only [pathGet] at hne ⊢
    all_goals first
      | rfl
      | (split <;> first
          | rfl
          | (rename_i heq; apply ih; simp only [heq] at hne; exact hne)
          | (split <;> simp_all))

theorem pathFirst_sim (dev : Dev) (o : MapOrd) (h : Heap) (fs : List Frag) (v : Val)
    (hne : pathFirst ⟨dev, none⟩ h v fs ≠ .error .enum) :
    pathFirst ⟨dev, some o⟩ h v fs = pathFirst ⟨dev, none⟩ h v fs := by
  rw [pathFirst_eq_head] at hne ⊢
  rw [pathFirst_eq_head, pathGet_sim dev o h fs v fun he => hne (by rw [he]; rfl)]

theorem sortKeys_sim (dev : Dev) (o : MapOrd) (h : Heap) (fs : List Frag) :
    ∀ (xs : List Val), sortKeys ⟨dev, none⟩ h fs xs ≠ .error .enum →
      sortKeys ⟨dev, some o⟩ h fs xs = sortKeys ⟨dev, none⟩ h fs xs
  | [], _ => by simp [sortKeys]
  | x :: r, hne => by
    simp only [sortKeys] at hne ⊢
    have hp : pathFirst ⟨dev, none⟩ h x fs ≠ .error .enum := by
      intro hc; rw [hc] at hne; exact hne rfl
    rw [pathFirst_sim dev o h fs x hp]
    cases hpf : pathFirst ⟨dev, none⟩ h x fs with
    | error e => rfl
    | ok k =>
      rw [hpf] at hne
      simp only at hne ⊢
      rw [sortKeys_sim dev o h fs r (by intro hc; rw [hc] at hne; exact hne rfl)]

theorem sortList_sim (dev : Dev) (o : MapOrd) (h : Heap) (fs : List Frag) (xs : List Val)
    (hne : sortList ⟨dev, none⟩ h fs xs ≠ .error .enum) :
    sortList ⟨dev, some o⟩ h fs xs = sortList ⟨dev, none⟩ h fs xs := by
  unfold sortList at hne ⊢
  split
  · rfl
  · rename_i hlen
    simp only [hlen, if_false] at hne
    rw [sortKeys_sim dev o h fs xs (by intro hc; rw [hc] at hne; exact hne rfl)]

theorem simTr_lifted {r1 r2 : Except Stop (List Val)} (h : r1 ≠ .error .enum → r2 = r1) : simTr.Lifted r1 r2 := fun hs => by
  rw [h fun he => hs _ he rfl]
  exact ⟨(Tr.self_exceptMap r1).symm, fun _ _ w _ => simTr_goodV w, fun _ _ => trivial⟩

theorem simTr_prims (dev : Dev) (o : MapOrd) : Prims simTr dev none (some o) (fun _ => True) (fun _ => True) where
  getall := fun {h v} _ _ fs => by
    rw [Tr.self_val]
    exact simTr_lifted (pathGet_sim dev o h fs v)
  sort := fun {h xs} _ _ fs => by
    rw [Tr.self_vals]
    exact simTr_lifted (sortList_sim dev o h fs xs)
  equal := fun _ _ _ v0 v1 => by
    rw [Tr.self_val, Tr.self_val]
    exact simTr_refl (fun _ => trivial) _
  evalLit := fun _ _ => simTr_refl simTr_goodV _
  share := fun _ v _ => ⟨Tr.self_val v, simTr_goodV v⟩
  set := fun _ _ _ value cur fs _ _ => by
    rw [Tr.self_val, Tr.self_opt]
    exact simTr_refl (fun _ => trivial) _

/-- one call under ANY two argument evaluators that are `Sim`: the form for an evaluator other than `eval`.
`eval_sim` does not go through it; it is `eval_rel` at `simTr` directly. -/
theorem evalFn_sim (ev1 ev2 : Arg → Val → M Val) (dev : Dev) (o : MapOrd) (root at_ : Val) (f : Bytes) (args : List Arg)
    (he' : ∀ a at', Sim (ev1 a at') (ev2 a at')) :
    Sim (evalFn ⟨dev, none⟩ ev1 root at_ f args) (evalFn ⟨dev, some o⟩ ev2 root at_ f args) :=
  sim_iff_rel.2 (evalFn_rel_self simTr_laws (simTr_prims dev o) Plans.any (simTr_goodV root) (simTr_goodV at_) (f := f)
    (n := 0) trivial (fun _ _ => trivial) fun a _ at' _ => sim_iff_rel.1 (he' a at'))

theorem eval_sim (dev : Dev) (o : MapOrd) (root : Val) :
    ∀ (n : Nat) (a : Arg) (at_ : Val), Sim (eval ⟨dev, none⟩ root n a at_) (eval ⟨dev, some o⟩ root n a at_) :=
  fun n a at_ =>
    sim_iff_rel.2 (eval_rel_self simTr_laws (simTr_prims dev o) Plans.any (simTr_goodV root) n a trivial at_ (simTr_goodV at_))

end OjgVerif.Asm
