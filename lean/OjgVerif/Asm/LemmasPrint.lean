import OjgVerif.Asm.Model
/-! `Fn.compile` on a list and `NewPlan` compile a call the same way
(`compileCall`); compiling the Simplify form of a compiled call, argument or plan gives it back. -/
namespace OjgVerif.Asm

theorem map_congr_mem {f g : α → β} : ∀ {xs : List α}, (∀ x ∈ xs, f x = g x) → xs.map f = xs.map g :=
  List.map_congr_left

theorem pathText_head (p : Path) : ∃ c r, pathText p = c :: r ∧ (c = 36 ∨ c = 64) := by
  refine ⟨_, _, rfl, ?_⟩
  cases p.isAt <;> simp

/-- a list that starts with the registered name `name`, as `Fn.compile` and `NewPlan` both compile it -/
def compileCall (n : Nat) (name : Bytes) (rest : List Tree) : ArgT :=
  if !isModelled name then .unk
  else if name = b!"quote" then .call name (rest.map .lit)
  else .call name (rest.map (compileArg n))

theorem compileArg_arr (n : Nat) (xs : List Tree) :
    compileArg (n + 1) (.arr xs) = match callForm xs with
      | some (name, rest) => compileCall n name rest
      | none => .raw (.arr xs) (xs.map (compileArg n)) := by
  simp only [compileArg, compileCall]
  cases callForm xs with
  | none => rfl
  | some nr => rfl

theorem callForm_some {xs : List Tree} {name : Bytes} {rest : List Tree} (h : callForm xs = some (name, rest)) :
    isRegistered name = true ∧ xs = .str name :: rest := by
  unfold callForm at h
  split at h
  · split at h
    · cases h; exact ⟨‹_›, rfl⟩
    · cases h
  · cases h

theorem callForm_str {name : Bytes} (h : isRegistered name = true) (ys : List Tree) :
    callForm (.str name :: ys) = some (name, ys) := by simp [callForm, h]

/-- the Simplify form of a compiled call names the same function and compiles to the same call -/
theorem compileCall_simplify (n : Nat) (name : Bytes) (rest : List Tree)
    (ih : ∀ t, pathsRoundTrip n (compileArg n t) = true → compileArg n (simplify n (compileArg n t)) = compileArg n t)
    (h : pathsRoundTrip (n + 1) (compileCall n name rest) = true) :
    ∃ ys, simplify (n + 1) (compileCall n name rest) = .arr (.str name :: ys) ∧
      compileCall n name ys = compileCall n name rest := by
  unfold compileCall at h ⊢
  by_cases hm : isModelled name = true
  · simp only [hm, Bool.not_true, Bool.false_eq_true, if_false] at h ⊢
    by_cases hq : name = b!"quote"
    · simp only [hq, if_true]
      exact ⟨_, rfl, by simp [List.map_map, Function.comp_def, simplify]⟩
    · simp only [hq, if_false, pathsRoundTrip, List.all_eq_true, List.mem_map] at h ⊢
      refine ⟨_, rfl, ?_⟩
      rw [List.map_map, List.map_map]
      exact congrArg _ (List.map_congr_left (fun x hx => ih x (h _ ⟨x, hx, rfl⟩)))
  · simp [hm, pathsRoundTrip] at h

theorem compile_simplify : ∀ (n : Nat) (t : Tree), pathsRoundTrip n (compileArg n t) = true →
    compileArg n (simplify n (compileArg n t)) = compileArg n t
  | 0, t, h => by simp [compileArg, pathsRoundTrip] at h
  | n + 1, t, h => by
    cases t with
    | null => simp [compileArg, simplify]
    | bool b => simp [compileArg, simplify]
    | int i => simp [compileArg, simplify]
    | flt f => simp [compileArg, simplify]
    | obj kvs => simp [compileArg, simplify]
    | str s =>
      cases s with
      | nil => simp [compileArg, simplify]
      | cons c r =>
        by_cases hc : (c = 36 || c = 64) = true
        · simp only [compileArg, hc, if_true] at h ⊢
          cases hp : parsePath (c :: r) with
          | none => simp [hp, pathsRoundTrip] at h
          | some p =>
            simp only [hp, pathsRoundTrip, beq_iff_eq] at h
            simp only [simplify]
            obtain ⟨c', r', htext, hc'⟩ := pathText_head p
            have hc'' : (c' = 36 || c' = 64) = true := by rcases hc' with h1 | h1 <;> simp [h1]
            rw [htext] at h ⊢
            simp only [compileArg, hc'', if_true, h]
        · simp only [compileArg, hc]
          simp [simplify, compileArg, hc]
    | arr xs =>
      rw [compileArg_arr] at h ⊢
      cases hcf : callForm xs with
      | none => simp only [simplify, compileArg_arr, hcf]
      | some nr =>
        obtain ⟨name, rest⟩ := nr
        simp only [hcf] at h ⊢
        obtain ⟨ys, hs, hc⟩ := compileCall_simplify n name rest (compile_simplify n) h
        rw [hs, compileArg_arr, callForm_str (callForm_some hcf).1]
        exact hc

/-- `NewPlan` compiles its list as a call: of the function it names, or of `asm` -/
theorem newPlan_eq (fuel : Nat) (xs : List Tree) (p : ArgT) (hp : newPlan fuel xs = some p) :
    ∃ name rest, p = compileCall fuel name rest ∧
      ∀ ys, newPlan fuel (.str name :: ys) = some (compileCall fuel name ys) := by
  have hstr : ∀ name, isRegistered name = true → ∀ ys, newPlan fuel (.str name :: ys) = some (compileCall fuel name ys) := by
    intro name hr ys
    simp only [newPlan, callForm_str hr, compileCall]
    split
    · rfl
    · split <;> rfl
  cases xs with
  | nil => simp [newPlan] at hp
  | cons x r =>
    cases hcf : callForm (x :: r) with
    | none =>
      simp only [newPlan, hcf] at hp
      cases hp
      exact ⟨b!"asm", x :: r, rfl, hstr _ (by decide)⟩
    | some nr =>
      obtain ⟨hr, hx⟩ := callForm_some hcf
      rw [hx, hstr _ hr] at hp
      cases hp
      exact ⟨_, _, rfl, hstr _ hr⟩

end OjgVerif.Asm
