import OjgVerif.Asm.LemmasRel
/-! A plan that calls no mutator (`NoMut`) only ever ADDS cells to the heap (`Pres`), under every `Env`
(`eval_pres`); jp's set taken one fragment at a time (`setAct`), and from that: a mutator changes at most
one existing cell. -/
namespace OjgVerif.Asm

/-- `m` never changes an existing cell: the heap after is the heap before plus new cells -/
structure Pres (m : M α) : Prop where
  ext : ∀ h, ∃ t, (m h).2 = h ++ t

/-- nothing moves, nothing is asked of the heap; a run only appends -/
abbrev presTr : Tr := Tr.self (fun _ => True) (fun _ => True) (fun h h' => ∃ t, h' = h ++ t) (fun _ => False) (fun _ => True)

theorem presTr_goodV (v : Val) : presTr.goodV v := Tr.goodV_of_all (fun _ => trivial) v

theorem presTr_laws : presTr.Laws :=
  Tr.self_laws (fun h => ⟨[], by simp⟩) (fun ⟨t1, h1⟩ ⟨t2, h2⟩ => ⟨t1 ++ t2, by simp [h2, h1]⟩) (fun _ => trivial)
    (fun _ _ v _ => presTr_goodV v) (fun _ _ kv _ => presTr_goodV kv.2) (fun {h c} _ _ => ⟨trivial, trivial, [c], rfl⟩)

theorem pres_iff_rel {m : M Val} : Pres m ↔ Rel presTr m m := by
  rw [presTr, Rel.self_iff]
  constructor
  · intro hp h _ _
    exact ⟨rfl, trivial, hp.ext h, fun a _ => presTr_goodV a, fun _ _ => trivial⟩
  · intro hr
    exact ⟨fun h => (hr h trivial (fun _ _ hs => hs)).2.2.1⟩

/-- the functions documented to modify the data their path argument names -/
def mutatorFns : List Bytes := [b!"set", b!"setall", b!"del", b!"delall"]

/-- the kinds that write into existing data -/
def FnKind.isMut : FnKind → Bool
  | .set | .del => true
  | _ => false

/-- `mutatorFns` is, by evaluation, the names `fnTable` gives a kind that `isMut` -/
theorem fnKind_mut {f : Bytes} {k : FnKind} (h : fnKind f = some k) (hk : k.isMut = true) : f ∈ mutatorFns :=
  List.mem_map_of_mem (f := Prod.fst)
    (List.mem_filter.2 ⟨lookupKind_mem h, hk⟩ : (f, k) ∈ fnTable.filter (·.2.isMut))

/-- no call of a mutator anywhere in the plan (the elements of list literals included: `cond` evaluates them) -/
inductive NoMut : Arg → Prop where
  | lit (v : Val) : NoMut (.lit v)
  | raw (v : Val) (es : List Arg) : (∀ e ∈ es, NoMut e) → NoMut (.raw v es)
  | path (p : Path) : NoMut (.path p)
  | call (f : Bytes) (args : List Arg) : f ∉ mutatorFns → (∀ a ∈ args, NoMut a) → NoMut (.call f args)
  | unk : NoMut .unk

theorem NoMut.plans : Plans (fun _ => True) (· ∉ mutatorFns) True fun _ a => NoMut a where
  atLit := fun _ => trivial
  atRaw := fun h => by cases h with | raw _ _ hes => exact ⟨trivial, hes⟩
  atCall := fun h => by cases h with | call _ _ hf hargs => exact ⟨hf, hargs⟩
  atDry := fun _ => trivial

theorem presTr_prims (dev : Dev) (o : Option MapOrd) : Prims presTr dev o o (fun _ => True) (· ∉ mutatorFns) where
  getall := fun {h v} _ _ fs => by
    rw [Tr.self_val]
    exact Tr.Lifted.self (fun _ _ w _ => presTr_goodV w) fun _ _ => trivial
  sort := fun {h xs} _ _ fs => by
    rw [Tr.self_vals]
    exact Tr.Lifted.self (fun _ _ w _ => presTr_goodV w) fun _ _ => trivial
  equal := fun _ _ _ v0 v1 => by
    rw [Tr.self_val, Tr.self_val]
    exact Rel.self_iff.2 fun h _ _ => ⟨rfl, trivial, ⟨[], by rw [equalM_snd]; simp⟩, fun _ _ => trivial, fun _ _ => trivial⟩
  evalLit := fun v _ => evalLit_rel presTr_laws dev (Tr.self_val v) (fun _ => presTr_goodV v) fun _ _ =>
    copyVal_rel_all presTr_laws (.inr trivial) _ v
  share := fun _ v _ => ⟨Tr.self_val v, presTr_goodV v⟩
  set := fun _ hf hk => by
    rcases hk with hk | hk <;> exact absurd (fnKind_mut hk rfl) hf

theorem eval_pres (env : Env) (root : Val) : ∀ (n : Nat) (a : Arg), NoMut a → ∀ at_, Pres (eval env root n a at_) :=
  fun n a hn at_ => pres_iff_rel.2
    (eval_rel_self presTr_laws (presTr_prims env.dev env.ord) NoMut.plans (presTr_goodV root) n a hn at_ (presTr_goodV at_))

/-- what `pathSet` does at one fragment: stop with the heap as it is (a jp error, or nothing to do), replace
one cell (the last fragment), go on inside an existing container, or first hang a new container `nc` into
the map `a` under `k` and go on inside it -/
inductive SetAct where
  | halt (r : Except Stop Unit)
  | write (a : Nat) (c : Cell)
  | into (c : Val)
  | make (a : Nat) (k : Bytes) (nc : Cell)

/-- the reference to cell `n`, of the kind the cell has -/
def Cell.ref : Cell → Nat → Val
  | .arr _, n => .aref n
  | .map _, n => .mref n

/-- the heap after the new cell `nc` has become member `k` of the map in cell `a` -/
def Heap.grow (h : Heap) (a : Nat) (k : Bytes) (nc : Cell) : Heap :=
  (h ++ [nc]).set a (.map (kvSet k (nc.ref h.length) ((h ++ [nc]).mapAt a)))

def setAct (value : Option Val) (h : Heap) : Val → Frag → Option Frag → SetAct
  | _, .wild, _ => .halt (.error .unmodelled)
  | .path _, _, _ => .halt (.error .unmodelled)
  | .mref a, .child k, none =>
    .write a (.map (match value with | some v => kvSet k v (h.mapAt a) | none => kvDel k (h.mapAt a)))
  | .aref a, .nth i, none =>
    match normIdx i (h.arrAt a).length with
    | some j => .write a (.arr ((h.arrAt a).set j (value.getD .null)))
    | none => .halt (.error .panic)
  | .mref a, .child k, some g =>
    match kvGet k (h.mapAt a) with
    | some c => if c.isScalar then .halt (.error .panic) else .into c
    | none =>
      match value with
      | none => .halt (.ok ())
      | some _ =>
        if h.length ≤ a then .halt (.ok ())
        else match g with
          | .child _ => .make a k (.map [])
          | .nth j => if j < 0 then .halt (.error .panic) else .make a k (.arr (List.replicate (j.toNat + 1) .null))
          | .wild => .halt (.error .unmodelled)
  | .aref a, .nth i, some _ =>
    match normIdx i (h.arrAt a).length with
    | some j => if ((h.arrAt a).getD j .null).isScalar then .halt (.error .panic) else .into ((h.arrAt a).getD j .null)
    | none => .halt (.error .panic)
  | _, _, _ => .halt (.ok ())

theorem pathSet_cons (value : Option Val) (cur : Val) (f : Frag) (rest : List Frag) (h : Heap) :
    pathSet value cur (f :: rest) h =
      match setAct value h cur f rest.head? with
      | .halt r => (r, h)
      | .write a c => (.ok (), h.set a c)
      | .into c => pathSet value c rest h
      | .make a k nc => pathSet value (nc.ref h.length) rest (h.grow a k nc) := by
  cases cur <;> cases f <;> cases rest <;> first | rfl | simp only [pathSet]
  all_goals (unfold setAct; dsimp only [List.head?])
  · generalize normIdx _ _ = o; cases o <;> rfl
  · generalize normIdx _ _ = o; cases o <;> first | rfl | (dsimp only; split <;> rfl)
  · cases value <;> rfl
  · generalize kvGet _ _ = o
    cases o with
    | some c => dsimp only; split <;> rfl
    | none =>
      cases value <;> try rfl
      dsimp only
      split
      · rfl
      · rename_i g _ _ _
        cases g <;> first | rfl | (dsimp only; split <;> rfl)

theorem getElem?_set_ne' {h : Heap} {a i : Nat} {c : Cell} (hne : i ≠ a) : (h.set a c)[i]? = h[i]? := by
  simp [Ne.symm hne]

theorem Heap.grow_get {h : Heap} {a i : Nat} (k : Bytes) (nc : Cell) (hi : i < h.length) (hne : i ≠ a) :
    (h.grow a k nc)[i]? = h[i]? := by
  rw [Heap.grow, getElem?_set_ne' hne, List.getElem?_append_left hi]

theorem Heap.grow_new {h : Heap} {a : Nat} (k : Bytes) (nc : Cell) (ha : a < h.length) :
    (h.grow a k nc)[h.length]? = some nc := by
  rw [Heap.grow, getElem?_set_ne' (Nat.ne_of_gt ha)]
  simp

@[simp] theorem Heap.grow_length (h : Heap) (a : Nat) (k : Bytes) (nc : Cell) :
    (h.grow a k nc).length = h.length + 1 := by
  simp [Heap.grow]

/-- a container as jp's set creates it: an empty map or an array of nils -/
def Cell.blank : Cell → Prop
  | .map kvs => kvs = []
  | .arr xs => ∀ v ∈ xs, v = .null

theorem setAct_make {value : Option Val} {h : Heap} {cur : Val} {f : Frag} {g : Option Frag} {a : Nat} {k : Bytes}
    {nc : Cell} (hact : setAct value h cur f g = .make a k nc) : a < h.length ∧ nc.blank := by
  -- `.make` stands in two leaves of `setAct`, both under `¬ h.length ≤ a`, with `.map []` and a `replicate` of nulls
  unfold setAct at hact
  split at hact <;> try cases hact
  repeat' split at hact
  all_goals first
    | (cases hact; exact ⟨by omega, by simp [Cell.blank]⟩)
    | cases hact

/-- no existing cell other than `b` is written and no existing container entered -/
def SetAct.onlyAt (b : Nat) : SetAct → Prop
  | .halt _ => True
  | .write a _ => a = b
  | .into _ => False
  | .make a _ _ => a = b

theorem setAct_blank (value : Option Val) {h : Heap} {b : Nat} {c : Cell} (hb : h[b]? = some c) (hc : c.blank)
    {cur : Val} (hcur : cur = .mref b ∨ cur = .aref b) (f : Frag) (g : Option Frag) :
    (setAct value h cur f g).onlyAt b := by
  have hm : h.mapAt b = [] := by cases c <;> simp_all [Heap.mapAt, Cell.blank]
  have ha : ∀ j, ((h.arrAt b).getD j .null).isScalar = true := fun j => by
    cases c with
    | map kvs => simp [Heap.arrAt, hb, Val.isScalar]
    | arr xs =>
      simp only [Heap.arrAt, hb, List.getD_eq_getElem?_getD]
      cases hx : xs[j]? with
      | none => rfl
      | some x => simp [hc x (List.mem_of_getElem? hx), Val.isScalar]
  unfold setAct
  rcases hcur with rfl | rfl <;> cases f <;> cases g <;> simp only [hm, ha, kvGet, if_true] <;>
    repeat' split
  all_goals first | trivial | rfl

/-- Once set has hung a container it made itself (`.make`), it stands in a blank cell `b`. From a blank cell an
action can only stop, write that cell or make the next container (`setAct_blank`: never `.into`, there is
nothing in it to enter), and a container it makes is again blank and is the last cell of the heap, above `b`.
So every cell below `b` stays as it is. -/
theorem pathSet_fresh (value : Option Val) : ∀ (fs : List Frag) (h : Heap) (b : Nat) (c : Cell) (cur : Val),
    (cur = .mref b ∨ cur = .aref b) → h[b]? = some c → c.blank →
    ∀ i, i < b → (pathSet value cur fs h).2[i]? = h[i]?
  | [], _, _, _, _, _, _, _, _, _ => rfl
  | f :: rest, h, b, c, cur, hcur, hb, hc, i, hi => by
    have hlen : b < h.length := (List.getElem?_eq_some_iff.1 hb).1
    have hact := setAct_blank value hb hc hcur f rest.head?
    rw [pathSet_cons]
    split <;> rename_i heq <;> rw [heq] at hact
    · cases hact; exact getElem?_set_ne' (Nat.ne_of_lt hi)
    · exact hact.elim
    · cases (show _ = b from hact)
      obtain ⟨_, hnc⟩ := setAct_make heq
      rw [pathSet_fresh value rest _ h.length _ _ (by cases ‹Cell› <;> simp [Cell.ref])
        (Heap.grow_new _ _ hlen) hnc i (by omega), Heap.grow_get _ _ (by omega) (Nat.ne_of_lt hi)]

/-- jp's set along a simple path changes at most ONE cell that existed before; everything else it writes
is new. (The proof's witness is the container the last fragment names an element of or, when the path has
to be created, the container that receives the first new element; the statement does not say which.) -/
theorem pathSet_one_cell (value : Option Val) : ∀ (fs : List Frag) (cur : Val) (h : Heap),
    ∃ a, ∀ i, i < h.length → i ≠ a → (pathSet value cur fs h).2[i]? = h[i]?
  | [], cur, h => ⟨0, by simp [pathSet]⟩
  | f :: rest, cur, h => by
    rw [pathSet_cons]
    split <;> rename_i heq
    · exact ⟨0, fun _ _ _ => rfl⟩
    · exact ⟨_, fun _ _ hne => getElem?_set_ne' hne⟩
    · exact pathSet_one_cell value rest _ h
    · rename_i a k nc
      obtain ⟨ha, hnc⟩ := setAct_make heq
      refine ⟨a, fun i hi hne => ?_⟩
      rw [pathSet_fresh value rest _ h.length _ _ (by cases nc <;> simp [Cell.ref])
        (Heap.grow_new _ _ ha) hnc i hi, Heap.grow_get _ _ hi hne]

theorem setAct_halt_mild {value : Option Val} {h : Heap} {cur : Val} {f : Frag} {g : Option Frag}
    {r : Except Stop Unit} (hact : setAct value h cur f g = .halt r) : Mild r := by
  unfold setAct at hact
  repeat' split at hact
  all_goals first | (cases hact; mild_tac) | cases hact

theorem pathSet_mild (value : Option Val) : ∀ (fs : List Frag) (cur : Val) (h : Heap), Mild (pathSet value cur fs h).1
  | [], cur, h => by simp only [pathSet, pure_apply]; mild_tac
  | f :: rest, cur, h => by
    rw [pathSet_cons]
    cases hact : setAct value h cur f rest.head? with
    | halt r => exact setAct_halt_mild hact
    | write a c => exact mild_ok _
    | into c => exact pathSet_mild value rest c h
    | make a k nc => exact pathSet_mild value rest _ _

end OjgVerif.Asm
