import OjgVerif.Asm.LemmasTotal
/-! The Boolean checks the driver's `layoutOK` is made of (`heapLayoutB`, `argLoB`, `Val.hiB`) imply the hypotheses
of the general re-run and no-fault theorems about how the heap is laid out: `HeapHi` (the data does not refer
to the plan, `LemmasPlan`), `ArgLo` (the plan's literals are in the plan's cells, `LemmasRerun`), `PlanOrd` (the
plan's cells children first, `LemmasTotal`); the fourth, `PlanClosed` of `Props/C20` (the plan's cells refer to the
plan only), follows from `PlanOrd` (`planOrd_closed`). Put together as `layoutOK_sound` in `Props/C20`.
`belowB_sound` serves `ArgLo` as well as `PlanOrd`: `Val.below` is `Val.lo`. -/
namespace OjgVerif.Asm

theorem hiB_sound {k : Nat} {v : Val} (h : v.hiB k = true) : v.hi k := by
  cases v <;> simp [Val.hiB, Val.hi] at h ⊢ <;> exact h

theorem belowB_sound {i : Nat} {v : Val} (h : v.belowB i = true) : v.below i := by
  cases v <;> simp [Val.belowB, Val.below] at h ⊢ <;> exact h

theorem allB_hi {k : Nat} {c : Cell} (h : c.allB (Val.hiB k) = true) : c.hi k := by
  cases c with
  | arr xs => intro v hv; exact hiB_sound (by simpa [Cell.allB] using (List.all_eq_true.mp h) v hv)
  | map kvs => intro kv hkv; exact hiB_sound (by simpa [Cell.allB] using (List.all_eq_true.mp h) kv hkv)

theorem allB_below {i : Nat} {c : Cell} (h : c.allB (Val.belowB i) = true) : Cell.below i c := by
  cases c with
  | arr xs => intro v hv; exact belowB_sound (by simpa [Cell.allB] using (List.all_eq_true.mp h) v hv)
  | map kvs => intro kv hkv; exact belowB_sound (by simpa [Cell.allB] using (List.all_eq_true.mp h) kv hkv)

theorem heapLayoutB_sound (k : Nat) : ∀ (r : Heap) (i : Nat), heapLayoutB k i r = true →
    ∀ j c, r[j]? = some c → (i + j < k → Cell.below (i + j) c) ∧ (k ≤ i + j → c.hi k)
  | [], _, _, j, c, hg => by simp at hg
  | c0 :: r, i, h, j, c, hg => by
    simp only [heapLayoutB, Bool.and_eq_true] at h
    cases j with
    | zero =>
      simp at hg; subst hg
      constructor
      · intro hlt; have := h.1; simp only [show i < k from by omega, if_true] at this; simpa using allB_below this
      · intro hge; have := h.1; simp only [show ¬ i < k from by omega, if_false] at this; exact allB_hi this
    | succ j' =>
      simp at hg
      have := heapLayoutB_sound k r (i + 1) h.2 j' c hg
      have e : i + (j' + 1) = i + 1 + j' := by omega
      rw [e]; exact this

theorem argLoB_sound (k : Nat) : ∀ (n : Nat) (a : Arg), argLoB k n a = true → ArgLo k a
  | n, .lit v, h => by
    cases n <;> exact .lit v (belowB_sound (by simpa [argLoB] using h))
  | n, .path p, _ => .path p
  | n, .unk, _ => .unk
  | 0, .raw v es, h => by simp [argLoB] at h
  | 0, .call f args, h => by simp [argLoB] at h
  | n + 1, .raw v es, h => by
    simp only [argLoB, Bool.and_eq_true, List.all_eq_true] at h
    exact .raw v es (belowB_sound h.1) (fun e he => argLoB_sound k n e (h.2 e he))
  | n + 1, .call f args, h => by
    simp only [argLoB, List.all_eq_true] at h
    exact .call f args (fun a ha => argLoB_sound k n a (h a ha))

end OjgVerif.Asm
