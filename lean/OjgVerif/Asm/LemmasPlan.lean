import OjgVerif.Asm.LemmasFrame
import OjgVerif.Asm.LemmasSort
/-! When literals are copied (`Dev.copies`) no value the evaluator produces or stores refers to a cell of the
plan, so no mutator can reach one: the cells below the boundary `k` (the plan) are never written, the cells
from `k` on (the data) never point below `k` (`Safe`).

`eval_safe` (and `eval_eqv`, `eval_st` after it) is stated for runs WITHOUT a map order, `⟨dev, none⟩`: a `MapOrd`
is an arbitrary function on member lists, so under `some o` a wildcard over a map may return values that are
not members of the map, and nothing is known of where they point. `order_independent` (`Props/C20`) carries a
run that needed no order to every order.

Of the single steps stated here the walk uses four, the `Prims` at `safeTr`: `pathGet_hi`, `pathSet_safe`,
`equalM_safe`, `evalLit_safeTr`. The closure of `Safe` under the operations of the monad (`Safe.pure` … `Safe.bind`; the
walk has it from `Rel`) and the other `Safe` and `_hi` forms of single steps (`pathFirst_hi`, `mapM'_safe_vals`,
`copyVal_safe`, `evalLit_safe`, `toVal_hi`, `includeLoop_hi` …) say plan separation in the terms of `Safe` and stand for
themselves: no step of the walk rests on them. -/
namespace OjgVerif.Asm

/-- a value that does not point below address `k` (the plan's cells are the cells below `k`) -/
def Val.hi (k : Nat) : Val → Prop
  | .aref a => k ≤ a
  | .mref a => k ≤ a
  | _ => True

def Cell.hi (k : Nat) : Cell → Prop
  | .arr xs => ∀ v ∈ xs, v.hi k
  | .map kvs => ∀ kv ∈ kvs, kv.2.hi k

/-- every cell from `k` on only points to cells from `k` on: the data never refers to the plan -/
def HeapHi (k : Nat) (h : Heap) : Prop := ∀ i c, k ≤ i → h[i]? = some c → c.hi k

/-- what "does not refer to the plan" means for each kind of intermediate result -/
class HasHi (α : Type) where
  hi : Nat → α → Prop

instance : HasHi Val := ⟨Val.hi⟩
instance : HasHi Bool := ⟨fun _ _ => True⟩
instance : HasHi Unit := ⟨fun _ _ => True⟩
/-- a `Nat` result is an address (the only `M Nat` is `alloc`), as at `Tv Nat` -/
instance : HasHi Nat := ⟨fun k a => k ≤ a⟩
instance : HasHi (List Val) := ⟨fun k vs => ∀ v ∈ vs, v.hi k⟩
instance : HasHi (List (Bytes × Val)) := ⟨fun k vs => ∀ kv ∈ vs, kv.2.hi k⟩
instance : HasHi (Bytes × Val) := ⟨fun k kv => kv.2.hi k⟩
instance : HasHi (Option Val) := ⟨fun k o => ∀ v, o = some v → v.hi k⟩
instance : HasHi Heap := ⟨fun k h => HeapHi k h ∧ k ≤ h.length⟩

/-- from a heap whose data does not refer to the plan, `m` leaves the plan's cells as they are, keeps
the data free of references to the plan, does not shorten the heap, and returns a result free of them -/
structure Safe (k : Nat) [HasHi α] (m : M α) : Prop where
  run : ∀ h, HeapHi k h → k ≤ h.length →
    (∀ i, i < k → (m h).2[i]? = h[i]?) ∧ HeapHi k (m h).2 ∧ h.length ≤ (m h).2.length ∧
    ∀ a, (m h).1 = .ok a → HasHi.hi k a

variable {k : Nat}

theorem Safe.pure [HasHi α] {a : α} (ha : HasHi.hi k a) : Safe k (pure a : M α) :=
  ⟨fun h hh hk => ⟨fun _ _ => rfl, hh, Nat.le_refl _, fun b hb => by simp at hb; subst hb; exact ha⟩⟩

theorem Safe.stop [HasHi α] (s : Stop) : Safe k (stop s : M α) :=
  ⟨fun h hh hk => ⟨fun _ _ => rfl, hh, Nat.le_refl _, fun b hb => by simp at hb⟩⟩

theorem Safe.liftE [HasHi α] {e : Except Stop α} (he : ∀ a, e = .ok a → HasHi.hi k a) : Safe k (liftE e) :=
  ⟨fun h hh hk => ⟨fun _ _ => rfl, hh, Nat.le_refl _, fun b hb => by simp at hb; exact he b hb⟩⟩

theorem Safe.getHeap : Safe k getHeap :=
  ⟨fun h hh hk => ⟨fun _ _ => rfl, hh, Nat.le_refl _, fun b hb => by simp at hb; subst hb; exact ⟨hh, hk⟩⟩⟩

theorem HeapHi.append {h : Heap} {c : Cell} (hh : HeapHi k h) (hc : c.hi k) : HeapHi k (h ++ [c]) := by
  intro i c' hi hget
  by_cases hlt : i < h.length
  · rw [List.getElem?_append_left hlt] at hget
    exact hh i c' hi hget
  · rw [List.getElem?_append_right (by omega)] at hget
    cases List.mem_singleton.1 (List.mem_of_getElem? hget)
    exact hc

theorem Safe.alloc {c : Cell} (hc : c.hi k) : Safe k (alloc c) :=
  ⟨fun h hh hk => ⟨fun i hi => by simp [List.getElem?_append_left (by omega : i < h.length)],
    by simpa using hh.append hc, by simp, fun b hb => by simp at hb; subst hb; exact hk⟩⟩

theorem Safe.bind [HasHi α] [HasHi β] {m : M α} {f : α → M β} (hm : Safe k m)
    (hf : ∀ a, HasHi.hi k a → Safe k (f a)) : Safe k (m >>= f) := by
  constructor
  intro h hh hk
  obtain ⟨h1, h2, h3, h4⟩ := hm.run h hh hk
  simp only [bind_apply]
  cases hmh : m h with
  | mk r h' =>
    rw [hmh] at h1 h2 h3 h4
    simp only at h1 h2 h3 h4
    cases r with
    | error e => exact ⟨h1, h2, h3, fun a ha => by simp at ha⟩
    | ok a =>
      obtain ⟨g1, g2, g3, g4⟩ := (hf a (h4 a rfl)).run h' h2 (by omega)
      exact ⟨fun i hi => (g1 i hi).trans (h1 i hi), g2, Nat.le_trans h3 g3, g4⟩

theorem arrAt_hi {h : Heap} {a : Nat} (hh : HeapHi k h) (ha : k ≤ a) : ∀ v ∈ h.arrAt a, v.hi k := fun v hv =>
  let ⟨_, hg, hm⟩ := Heap.mem_arrAt hv
  hh a _ ha hg v hm

theorem mapAt_hi {h : Heap} {a : Nat} (hh : HeapHi k h) (ha : k ≤ a) : ∀ kv ∈ h.mapAt a, kv.2.hi k := fun kv hv =>
  let ⟨_, hg, hm⟩ := Heap.mem_mapAt hv
  hh a _ ha hg kv hm

theorem getD_hi {xs : List Val} (hx : ∀ v ∈ xs, v.hi k) (j : Nat) : (xs.getD j .null).hi k := by
  rw [List.getD_eq_getElem?_getD]
  cases hg : xs[j]? with
  | none => simp [Val.hi]
  | some v => simpa using hx v (List.mem_of_getElem? hg)

theorem pathGet_hi (dev : Dev) {h : Heap} (hh : HeapHi k h) :
    ∀ (fs : List Frag) (v : Val), v.hi k → ∀ ws, pathGet ⟨dev, none⟩ h v fs = .ok ws → ∀ w ∈ ws, w.hi k
  | [], v, hv, ws, hr => by cases hr; simpa using hv
  | f :: rest, v, hv, ws, hr => by
    have ih := pathGet_hi dev hh rest
    cases v with
    | aref a =>
      cases f <;> simp only [pathGet] at hr
      case child => cases hr; simp
      case nth =>
        split at hr
        · exact ih _ (getD_hi (arrAt_hi hh hv) _) _ hr
        · cases hr; simp
      case wild =>
        split at hr
        · cases hr
        · cases hr; exact arrAt_hi hh hv
    | mref a =>
      cases f <;> simp only [pathGet] at hr
      case nth => cases hr; simp
      case child =>
        split at hr
        · exact ih _ (mapAt_hi hh hv _ (kvGet_mem ‹_›)) _ hr
        · cases hr; simp
      case wild =>
        -- without a map order only the member of a one-member map is found
        split at hr
        · cases hr
        · split at hr
          · cases hr; simp
          · cases hr; simpa using mapAt_hi hh hv _ (by simp [*])
          · cases hr
    | _ => cases f <;> simp only [pathGet] at hr <;> (try split at hr) <;> cases hr <;> simp
theorem pathFirst_hi (dev : Dev) {h : Heap} (hh : HeapHi k h) :
    ∀ (fs : List Frag) (v : Val), v.hi k → ∀ w, pathFirst ⟨dev, none⟩ h v fs = .ok (some w) → w.hi k := by
  intro fs v hv w hr
  rw [pathFirst_eq_head] at hr
  cases hg : pathGet ⟨dev, none⟩ h v fs with
  | error e => simp [hg] at hr
  | ok ws =>
    simp only [hg, exceptMap_ok, Except.ok.injEq] at hr
    exact pathGet_hi dev hh fs v hv ws hg w (List.mem_of_mem_head? hr)

theorem HeapHi.set {h : Heap} {a : Nat} {c : Cell} (hh : HeapHi k h) (hc : c.hi k) : HeapHi k (h.set a c) := by
  intro i c' hi hget
  by_cases hia : i = a
  · subst hia
    by_cases hlt : i < h.length
    · simp [hlt] at hget; subst hget; exact hc
    · simp [hlt] at hget
  · rw [getElem?_set_ne' hia] at hget
    exact hh i c' hi hget

theorem mem_kvSet {k' : Bytes} {v : α} {kv : Bytes × α} : ∀ {kvs : List (Bytes × α)},
    kv ∈ kvSet k' v kvs → kv = (k', v) ∨ kv ∈ kvs
  | [], hm => .inl (List.mem_singleton.1 hm)
  | (k2, v2) :: r, hm => by
    simp only [kvSet] at hm
    split at hm
    · exact (List.mem_cons.1 hm).imp_right (List.mem_cons_of_mem _)
    · rcases List.mem_cons.1 hm with rfl | hm
      · exact .inr (List.mem_cons_self ..)
      · exact (mem_kvSet hm).imp_right (List.mem_cons_of_mem _)

theorem mem_kvDel {k' : Bytes} {kv : Bytes × α} : ∀ {kvs : List (Bytes × α)}, kv ∈ kvDel k' kvs → kv ∈ kvs
  | [], hm => hm
  | (k2, v2) :: r, hm => by
    simp only [kvDel] at hm
    split at hm
    · exact List.mem_cons_of_mem _ hm
    · rcases List.mem_cons.1 hm with rfl | hm
      · exact List.mem_cons_self ..
      · exact List.mem_cons_of_mem _ (mem_kvDel hm)

theorem kvSet_hi {k' : Bytes} {v : Val} (hv : v.hi k) {kvs : List (Bytes × Val)} (hall : ∀ kv ∈ kvs, kv.2.hi k) :
    ∀ kv ∈ kvSet k' v kvs, kv.2.hi k := fun kv hm => by
  rcases mem_kvSet hm with rfl | hm
  · exact hv
  · exact hall kv hm

theorem kvDel_hi {k' : Bytes} {kvs : List (Bytes × Val)} (hall : ∀ kv ∈ kvs, kv.2.hi k) :
    ∀ kv ∈ kvDel k' kvs, kv.2.hi k := fun kv hm => hall kv (mem_kvDel hm)

theorem listSet_hi {xs : List Val} {j : Nat} {v : Val} (hx : ∀ w ∈ xs, w.hi k) (hv : v.hi k) :
    ∀ w ∈ xs.set j v, w.hi k := by
  intro w hw
  rcases List.mem_or_eq_of_mem_set hw with h1 | h1
  · exact hx w h1
  · subst h1; exact hv

theorem Cell.ref_hi (nc : Cell) {n : Nat} (hn : k ≤ n) : (nc.ref n).hi k := by
  cases nc <;> exact hn

theorem HeapHi.grow {h : Heap} {a : Nat} {nc : Cell} (hh : HeapHi k h) (hk : k ≤ h.length) (ha : k ≤ a)
    (hc : nc.hi k) (key : Bytes) : HeapHi k (h.grow a key nc) :=
  (hh.append hc).set (kvSet_hi (nc.ref_hi hk) (mapAt_hi (hh.append hc) ha))

/-- what an action writes, or goes on with, does not refer to the plan, and it writes into the data -/
def SetAct.hi (k : Nat) : SetAct → Prop
  | .halt _ => True
  | .write a c => k ≤ a ∧ c.hi k
  | .into c => c.hi k
  | .make a _ nc => k ≤ a ∧ nc.hi k

theorem setAct_hi {value : Option Val} {h : Heap} {cur : Val} (hval : ∀ v, value = some v → v.hi k)
    (hh : HeapHi k h) (hcur : cur.hi k) (f : Frag) (g : Option Frag) : (setAct value h cur f g).hi k := by
  unfold setAct
  repeat' split
  -- by kind of leaf: a halt; the three writes (member set, member deleted, element set); the two `into`; the two `make`
  all_goals first
    | trivial
    | exact ⟨hcur, kvSet_hi (hval _ rfl) (mapAt_hi hh hcur)⟩
    | exact ⟨hcur, kvDel_hi (mapAt_hi hh hcur)⟩
    | exact ⟨hcur, listSet_hi (arrAt_hi hh hcur) (by cases value <;> first | trivial | exact hval _ rfl)⟩
    | exact mapAt_hi hh hcur _ (kvGet_mem ‹_›)
    | exact getD_hi (arrAt_hi hh hcur) _
    | exact ⟨hcur, fun _ hv => absurd hv List.not_mem_nil⟩
    | exact ⟨hcur, fun v hv => (List.mem_replicate.1 hv).2 ▸ trivial⟩

theorem pathSet_safe (value : Option Val) (hval : ∀ v, value = some v → v.hi k) :
    ∀ (fs : List Frag) (cur : Val), cur.hi k → Safe k (pathSet value cur fs)
  | [], _, _ => Safe.pure trivial
  | f :: rest, cur, hcur => ⟨fun h hh hk => by
    have hact := setAct_hi hval hh hcur f rest.head?
    rw [pathSet_cons]
    split <;> rename_i heq <;> rw [heq] at hact
    · exact ⟨fun _ _ => rfl, hh, Nat.le_refl _, fun _ _ => trivial⟩
    · exact ⟨fun i hi => getElem?_set_ne' (by have := hact.1; omega), hh.set hact.2, by simp, fun _ _ => trivial⟩
    · exact (pathSet_safe value hval rest _ hact).run h hh hk
    · obtain ⟨g1, g2, g3, g4⟩ := (pathSet_safe value hval rest _ (Cell.ref_hi _ hk)).run _
        (hh.grow hk hact.1 hact.2 _) (by simp; omega)
      have := hact.1
      exact ⟨fun i hi => (g1 i hi).trans (Heap.grow_get _ _ (by omega) (by omega)), g2,
        by simp at g3; omega, g4⟩⟩

/-- plan separation as a `Tr`: nothing moves; the heaps are those whose data does not refer to the plan, the values
those that do not; a run leaves the plan's cells as they were and does not shorten the heap.
`(safeTr k).goodV` is `Val.hi k` and, at every type that has both instances, `Tv.good (safeTr k)` is `HasHi.hi k`: the
same matches over the same bound, equal by definition. A `hi` fact is therefore passed as a `goodV` fact as it is. -/
abbrev safeTr (k : Nat) : Tr :=
  Tr.self (fun h => HeapHi k h ∧ k ≤ h.length) (k ≤ ·) (fun h h' => (∀ i, i < k → h'[i]? = h[i]?) ∧ h.length ≤ h'.length)
    (fun _ => False) (fun _ => True)

theorem safeTr_laws (k : Nat) : (safeTr k).Laws :=
  Tr.self_laws (fun _ => ⟨fun _ _ => rfl, Nat.le_refl _⟩)
    (fun h1 h2 => ⟨fun i hi => (h2.1 i hi).trans (h1.1 i hi), Nat.le_trans h1.2 h2.2⟩) (fun _ => trivial)
    (fun hok ha => arrAt_hi hok.1 ha) (fun hok ha => mapAt_hi hok.1 ha)
    (fun {h c} hok hc => ⟨⟨hok.1.append (by cases c <;> exact hc), by simp; omega⟩, hok.2,
      fun i hi => by simp [List.getElem?_append_left (by omega : i < h.length)], by simp⟩)

/-- `Safe k` and `Rel (safeTr k)` say the same of one run. `HasHi` and `Tv` are two classes that do not know of each
other, so that they agree at the type of the result is a hypothesis (`hg`, here and in `Safe.of_rel`, `ST.rel`);
at every type that has both instances it holds by `rfl`. -/
theorem Safe.rel {α : Type} [HasHi α] [Tv α] {m : M α} (hg : HasHi.hi k = Tv.good (α := α) (safeTr k)) (hs : Safe k m) :
    Rel (safeTr k) m m :=
  Rel.self_iff.2 fun h hok _ => by
    obtain ⟨s1, s2, s3, s4⟩ := hs.run h hok.1 hok.2
    exact ⟨rfl, ⟨s2, Nat.le_trans hok.2 s3⟩, ⟨s1, s3⟩, hg ▸ s4, fun _ _ => trivial⟩

theorem Safe.of_rel {α : Type} [HasHi α] [Tv α] {m : M α} (hg : HasHi.hi k = Tv.good (α := α) (safeTr k))
    (hr : Rel (safeTr k) m m) : Safe k m := by
  refine ⟨fun h hh hk => ?_⟩
  obtain ⟨_, e2, e3, e4, _⟩ := Rel.self_iff.1 hr h ⟨hh, hk⟩ (fun _ _ hs => hs)
  exact ⟨e3.1, e2.1, e3.2, hg ▸ e4⟩

theorem mapM'_safe_vals {α : Type} (f : α → M Val) :
    ∀ (xs : List α), (∀ x ∈ xs, Safe k (f x)) → Safe k (mapM' f xs) := fun xs he => by
  have h := mapM'_rel (safeTr_laws k) id f f xs fun x hx => (he x hx).rel rfl
  rw [List.map_id] at h
  exact Safe.of_rel rfl h

theorem mapM'_safe_kvs {α : Type} (f : α → M (Bytes × Val)) :
    ∀ (xs : List α), (∀ x ∈ xs, Safe k (f x)) → Safe k (mapM' f xs) := fun xs he => by
  have h := mapM'_rel (safeTr_laws k) id f f xs fun x hx => (he x hx).rel rfl
  rw [List.map_id] at h
  exact Safe.of_rel rfl h

theorem copyVal_safe (n : Nat) (v : Val) : Safe k (copyVal n v) := by
  have h := copyVal_rel_all (safeTr_laws k) (.inr trivial) n v
  rw [Tr.self_val] at h
  exact Safe.of_rel rfl h

theorem evalLit_safeTr (dev : Dev) (hd : dev.litAlias = false) (v : Val) : Rel (safeTr k) (evalLit dev v) (evalLit dev v) :=
  evalLit_rel (safeTr_laws k) dev (Tr.self_val v) (fun h => nomatch hd.symm.trans h) fun _ _ =>
    copyVal_rel_all (safeTr_laws k) (.inr trivial) _ v

theorem evalLit_safe (dev : Dev) (hd : dev.litAlias = false) (v : Val) : Safe k (evalLit dev v) :=
  Safe.of_rel rfl (evalLit_safeTr dev hd v)

theorem equalM_safe (dev : Dev) (v0 v1 : Val) : Safe k (equalM dev v0 v1) := by
  refine ⟨fun h hh hk => ?_⟩
  rw [equalM_apply]
  split <;> exact ⟨fun _ _ => rfl, hh, Nat.le_refl _, fun _ _ => trivial⟩

theorem getD_null_hi {r : Option Val} (hr : HasHi.hi k r) : Val.hi k (r.getD .null) := by
  cases r with
  | none => trivial
  | some v => exact hr v rfl

theorem fnQuote_evalLit_safe (dev : Dev) (hd : dev.litAlias = false) (args : List Arg) :
    Safe k (fnQuote args >>= fun v => evalLit dev v) := by
  have hl := evalLit_safe (k := k) dev hd
  unfold fnQuote
  split <;> first | exact hl _ | exact Safe.stop _

theorem toVal_hi (t : Tree) : (Tree.toVal t).hi k := by cases t <;> simp [Tree.toVal, Val.hi]

theorem includeLoop_hi (v1 : Val) : ∀ (xs : List Val) (r : Val), includeLoop v1 xs = .ok r → r.hi k :=
  Tr.includeLoop_good (T := safeTr k) v1

/-- the deviations under which a plan's literals are never handed out by reference: the code since
312106f (first argument of a comparison evaluated), 52cf3c4 (literals copied) and 9281d31 (list value
of `cond` copied) -/
def Dev.copies (dev : Dev) : Prop := dev.cmpUneval = false ∧ dev.litAlias = false ∧ dev.condListAlias = false

/-- then `Prims.share` asks nothing -/
theorem Dev.copies.not_shared {dev : Dev} (hd : dev.copies) : ¬ (dev.cmpUneval = true ∨ dev.condListAlias = true) := by
  rintro (h | h) <;> simp [hd.1, hd.2.2] at h

theorem safeTr_prims (dev : Dev) (hd : dev.copies) : Prims (safeTr k) dev none none (fun _ => True) (fun _ => True) where
  getall := fun {h v} hok hv fs => by
    rw [Tr.self_val]
    exact Tr.Lifted.self (pathGet_hi dev hok.1 fs v hv) fun _ _ => trivial
  sort := fun {h xs} _ hxs fs => by
    rw [Tr.self_vals]
    exact Tr.Lifted.self (fun r hr x hx => hxs x (sortList_mem _ h fs xs r hr x hx)) fun _ _ => trivial
  equal := fun _ _ _ v0 v1 => by
    rw [Tr.self_val, Tr.self_val]
    exact (equalM_safe dev v0 v1).rel rfl
  evalLit := fun v _ => evalLit_safeTr dev hd.2.1 v
  share := fun h => absurd h hd.not_shared
  set := fun _ _ _ value cur fs hval hcur => by
    rw [Tr.self_val, Tr.self_opt]
    exact (pathSet_safe value hval fs cur hcur).rel rfl

/-- one call under ANY argument evaluator that is `Safe`: the form for an evaluator other than `eval`.
`eval_safe` does not go through it; it is `eval_rel` at `safeTr` directly. -/
theorem evalFn_safe (dev : Dev) (hd : dev.copies) (ev : Arg → Val → M Val) (root at_ : Val) (hroot : root.hi k)
    (hat : at_.hi k) (f : Bytes) (args : List Arg)
    (hev : ∀ a at', at'.hi k → Safe k (ev a at')) :
    Safe k (evalFn ⟨dev, none⟩ ev root at_ f args) :=
  Safe.of_rel rfl
    (evalFn_rel_self (safeTr_laws k) (safeTr_prims dev hd) Plans.any hroot hat
      (f := f) (n := 0) trivial (fun _ _ => trivial) fun a _ at' hat' => (hev a at' hat').rel rfl)

theorem eval_safe (dev : Dev) (hd : dev.copies) (root : Val) (hroot : root.hi k) :
    ∀ (n : Nat) (a : Arg) (at_ : Val), at_.hi k → Safe k (eval ⟨dev, none⟩ root n a at_) :=
  fun n a at_ hat => Safe.of_rel rfl
    (eval_rel_self (safeTr_laws k) (safeTr_prims dev hd) Plans.any hroot n a trivial at_ hat)

end OjgVerif.Asm
