import OjgVerif.Asm.LemmasRerun
/-! No fault: on top of the plan-separation invariant (`Safe`), a plan whose
literals are finite trees laid out in order (`PlanOrd`), that never compares containers structurally and
whose calls nest no deeper than the fuel (`Fit`) is evaluated without fault: every modelled function ends
`ok` or in a mild stop (a Go panic, which `Execute` recovers into an error, "outside the model", "needs a
map order") — never out of fuel, never diverging (`ST` = `Safe` + `Tot`). -/
namespace OjgVerif.Asm

/-- a value of the plan that refers (if at all) to a cell before cell `i`. The same predicate as `Val.lo`
(`LemmasRerun`), by definition: "before cell `i`" where the bound is a cell of the plan, "in the plan" where it is
the boundary; a `below` fact is passed as a `lo` fact as it is -/
def Val.below (i : Nat) : Val → Prop
  | .aref a => a < i
  | .mref a => a < i
  | _ => True

def Cell.below (i : Nat) : Cell → Prop
  | .arr xs => ∀ v ∈ xs, v.below i
  | .map kvs => ∀ kv ∈ kvs, kv.2.below i

/-- the plan's cells are laid out children first (as loading a tree lays them out): a cell only refers to
earlier cells — the literals are finite trees -/
def PlanOrd (k : Nat) (h : Heap) : Prop := ∀ i c, i < k → h[i]? = some c → Cell.below i c

theorem PlanOrd.same {k : Nat} {h h' : Heap} (hp : PlanOrd k h) (hs : ∀ i, i < k → h'[i]? = h[i]?) : PlanOrd k h' :=
  fun i c hi hg => hp i c hi (by rw [← hs i hi]; exact hg)

/-- from a heap in the invariant whose plan is laid out in order, `m` ends `ok` or in a mild stop: never
out of fuel, never diverging -/
structure Tot (k : Nat) (m : M α) : Prop where
  run : ∀ h, HeapHi k h → k ≤ h.length → PlanOrd k h → Mild (m h).1

structure ST (k : Nat) [HasHi α] (m : M α) : Prop where
  safe : Safe k m
  tot : Tot k m

variable {k : Nat}

/-- no fault as a `Tr`: plan separation (`safeTr`, and as there `(stTr k).goodV` is `Val.hi k` by definition) with the
order of the plan among what is kept, and only mild stops allowed -/
abbrev stTr (k : Nat) : Tr :=
  Tr.self (fun h => (HeapHi k h ∧ k ≤ h.length) ∧ PlanOrd k h) (k ≤ ·)
    (fun h h' => (∀ i, i < k → h'[i]? = h[i]?) ∧ h.length ≤ h'.length) (fun _ => False) Stop.mild

theorem stTr_laws (k : Nat) : (stTr k).Laws :=
  Tr.self_laws (fun _ => ⟨fun _ _ => rfl, Nat.le_refl _⟩)
    (fun h1 h2 => ⟨fun i hi => (h2.1 i hi).trans (h1.1 i hi), Nat.le_trans h1.2 h2.2⟩) id
    (fun hok ha => arrAt_hi hok.1.1 ha) (fun hok ha => mapAt_hi hok.1.1 ha)
    (fun {h c} hok hc =>
      have hsame : ∀ i, i < k → (h ++ [c])[i]? = h[i]? := fun i hi => by
        simp [List.getElem?_append_left (by have := hok.1.2; omega : i < h.length)]
      ⟨⟨⟨hok.1.1.append (by cases c <;> exact hc), by simp; have := hok.1.2; omega⟩,
        hok.2.same hsame⟩, hok.1.2, hsame, by simp⟩)

theorem ST.rel {α : Type} [HasHi α] [Tv α] {m : M α} (hg : HasHi.hi k = Tv.good (α := α) (stTr k)) (hs : ST k m) :
    Rel (stTr k) m m :=
  Rel.self_iff.2 fun h hok _ => by
    obtain ⟨s1, s2, s3, s4⟩ := hs.safe.run h hok.1.1 hok.1.2
    exact ⟨rfl, ⟨⟨s2, Nat.le_trans hok.1.2 s3⟩, hok.2.same s1⟩, ⟨s1, s3⟩, hg ▸ s4, hs.tot.run h hok.1.1 hok.1.2 hok.2⟩

theorem ST.of_rel {α : Type} [HasHi α] [Tv α] {m : M α} (hs : Safe k m) (hr : Rel (stTr k) m m) : ST k m :=
  ⟨hs, ⟨fun h hh hk hp => (Rel.self_iff.1 hr h ⟨⟨hh, hk⟩, hp⟩ (fun _ _ hs => hs)).2.2.2.2⟩⟩

theorem below_mono {v : Val} {a n : Nat} (hv : v.below a) (han : a ≤ n) : v.below n := by
  cases v <;> simp [Val.below] at hv ⊢ <;> omega

/-- enough fuel for copying `v`: more than its address plus one (its cell and the scalars in it) -/
def Val.fits (n : Nat) : Val → Prop
  | .aref a => a + 1 < n
  | .mref a => a + 1 < n
  | _ => 0 < n

theorem fits_of_below {v : Val} {a n : Nat} (hv : v.below a) (han : a < n) : v.fits n := by
  cases v <;> simp [Val.below, Val.fits] at hv ⊢ <;> omega

theorem copyVal_stTr : ∀ (n : Nat) (v : Val), v.fits n → v.lo k → Rel (stTr k) (copyVal n v) (copyVal n ((stTr k).val v)) :=
  fun n v hb hlo =>
    copyVal_rel (stTr_laws k) (fun n v => v.fits n ∧ v.lo k)
      (fun v hv => by cases v <;> simp [Val.fits] at hv)
      (fun {n a h} hv hok x hx =>
        have ⟨_, hg, hm⟩ := Heap.mem_arrAt hx
        have hel := hok.2 a _ hv.2 hg x hm
        have : a < n := by have := hv.1; simp [Val.fits] at this; omega
        ⟨fits_of_below hel this, below_mono hel (Nat.le_of_lt hv.2)⟩)
      (fun {n a h} hv hok kv hkv =>
        have ⟨_, hg, hm⟩ := Heap.mem_mapAt hkv
        have hel := hok.2 a _ hv.2 hg kv hm
        have : a < n := by have := hv.1; simp [Val.fits] at this; omega
        ⟨fits_of_below hel this, below_mono hel (Nat.le_of_lt hv.2)⟩)
      n v ⟨hb, hlo⟩

theorem copyVal_st : ∀ (n : Nat) (v : Val), v.fits n → v.lo k → ST k (copyVal n v) :=
  fun n v hb hlo => ST.of_rel (copyVal_safe n v) (copyVal_stTr n v hb hlo).self_left

theorem pathSet_st (value : Option Val) (hval : ∀ v, value = some v → v.hi k) (fs : List Frag) (cur : Val) (hcur : cur.hi k) :
    ST k (pathSet value cur fs) :=
  ⟨pathSet_safe value hval fs cur hcur, ⟨fun h _ _ _ => pathSet_mild value fs cur h⟩⟩

/-- the functions that compare containers structurally (the only modelled traversal that can fail to end,
on cyclic data) -/
def deepCmpFns : List Bytes := [b!"equal", b!"eq", b!"==", b!"neq", b!"!="]

/-- the kinds that compare containers structurally -/
def FnKind.isDeep : FnKind → Bool
  | .equal | .neq => true
  | _ => false

/-- `deepCmpFns` is, by evaluation, the names `fnTable` gives a kind that `isDeep` -/
theorem fnKind_deep {f : Bytes} {kd : FnKind} (h : fnKind f = some kd) (hk : kd.isDeep = true) : f ∈ deepCmpFns :=
  List.mem_map_of_mem (f := Prod.fst)
    (List.mem_filter.2 ⟨lookupKind_mem h, hk⟩ : (f, kd) ∈ fnTable.filter (·.2.isDeep))

/-- `Fit k n a`: the plan `a` can be evaluated with fuel `n` without fault — its literals live in the plan's
cells (below `k`), it never calls `equal`/`neq` (a plan that cannot diverge), and its calls nest at most
`n` deep (the elements of a list literal count at the level of the list: `cond` evaluates them) -/
inductive Fit (k : Nat) : Nat → Arg → Prop where
  | lit (n : Nat) (v : Val) : v.lo k → Fit k n (.lit v)
  | raw (n : Nat) (v : Val) (es : List Arg) : v.lo k → (∀ e ∈ es, Fit k n e) → Fit k n (.raw v es)
  | path (n : Nat) (p : Path) : Fit k n (.path p)
  | unk (n : Nat) : Fit k n .unk
  | call (n : Nat) (f : Bytes) (args : List Arg) : f ∉ deepCmpFns → (∀ a ∈ args, Fit k n a) → Fit k (n + 1) (.call f args)

theorem Fit.plans (k : Nat) : Plans (Val.lo k) (· ∉ deepCmpFns) ((stTr k).err .fuel) (Fit k) where
  atLit := fun h => by cases h with | lit _ _ hv => exact hv
  atRaw := fun h => by cases h with | raw _ _ _ hv hes => exact ⟨hv, hes⟩
  atCall := fun h => by cases h with | call _ _ _ hf hargs => exact ⟨hf, hargs⟩
  atDry := fun h => nomatch h

theorem stTr_prims (dev : Dev) (hd : dev.copies) : Prims (stTr k) dev none none (Val.lo k) (· ∉ deepCmpFns) where
  getall := fun {h v} hok hv fs => by
    rw [Tr.self_val]
    exact Tr.Lifted.self (pathGet_hi dev hok.1.1 fs v hv) (pathGet_mild _ _ _ _)
  sort := fun {h xs} _ hxs fs => by
    rw [Tr.self_vals]
    exact Tr.Lifted.self (fun r hr x hx => hxs x (sortList_mem _ h fs xs r hr x hx)) (sortList_mild _ _ _ _)
  equal := fun _ hf hk => by
    rcases hk with hk | hk <;> exact absurd (fnKind_deep hk rfl) hf
  evalLit := fun v hv => evalLit_rel (stTr_laws k) dev (Tr.self_val v) (fun h => nomatch hd.2.1.symm.trans h) fun h hok =>
    copyVal_stTr _ v (by have := hok.1.2; cases v <;> simp [Val.fits, Val.lo] at hv ⊢ <;> omega) hv
  share := fun h => absurd h hd.not_shared
  set := fun _ _ _ value cur fs hval hcur => by
    rw [Tr.self_val, Tr.self_opt]
    exact (pathSet_st value hval fs cur hcur).rel rfl

theorem eval_st (dev : Dev) (hd : dev.copies) (root : Val) (hroot : root.hi k) :
    ∀ (n : Nat) (a : Arg), Fit k n a → ∀ at_, at_.hi k → ST k (eval ⟨dev, none⟩ root n a at_) := by
  intro n a hfit at_ hat
  exact ST.of_rel (eval_safe dev hd root hroot n a at_ hat)
    (eval_rel_self (stTr_laws k) (stTr_prims dev hd) (Fit.plans k) hroot n a hfit at_ hat)

end OjgVerif.Asm
