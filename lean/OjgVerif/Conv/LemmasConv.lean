import OjgVerif.Conv.LemmasPrune
/-! The conversions under options that leave nothing out (`T.keeps`), and the freshness of a copy by
itself: `copy_spec`, `fresh_spec` and `alter_spec` read off the statements for arbitrary options
(Conv/LemmasPrune.lean), where `T.prune` is `T.toForm`. -/
namespace OjgVerif.Conv

theorem altDefault_omitEmpty : altDefault.omitEmpty = false := rfl

def CopySpec (k : Kind) (n : Nat) : Prop :=
  ∀ (opt : Opt) (H : Heap) (r : Ref) (t : T), opt.omitEmpty = false → denote n H r = some t →
    t.pure k.src = true → t.keeps k opt = true →
    ∃ H' r', conv k n opt H r = some (H', r') ∧ Ext H H' ∧ denote n H' r' = some (t.toForm k.dst k.fillsNil) ∧
      ∃ S, owns n H' r' = some S ∧ S.Nodup ∧ ∀ a, a ∈ S → H.length ≤ a

/-- a copying variant under options that leave no member of `t` out: `t` in the target form, in cells that
did not exist before -/
theorem copy_spec (k : Kind) (hk : k.inPlace = false) : ∀ n, CopySpec k n :=
  fun n opt H r t hoe hd hp hkp =>
    let ⟨H', r', hc, e, hd', hS⟩ := copyAll_spec k hk n opt H r t hd hp
    ⟨H', r', hc, e, prune_of_keeps t opt hoe hkp ▸ hd', hS⟩

/-- a copying variant under any options: the result is fresh whatever is left out -/
def FreshSpec (k : Kind) (n : Nat) : Prop :=
  ∀ (opt : Opt) (H : Heap) (r : Ref) (t : T), denote n H r = some t → t.pure k.src = true →
    ∃ H' r', conv k n opt H r = some (H', r') ∧ Ext H H' ∧
      ∃ S, owns n H' r' = some S ∧ S.Nodup ∧ ∀ a, a ∈ S → H.length ≤ a

theorem fresh_spec (k : Kind) (hk : k.inPlace = false) : ∀ n, FreshSpec k n := fun n opt H r t hd hp =>
  let ⟨H', r', hc, e, _, hS⟩ := copyAll_spec k hk n opt H r t hd hp
  ⟨H', r', hc, e, hS⟩

def AlterSpec (k : Kind) (n : Nat) : Prop :=
  ∀ (opt : Opt) (H : Heap) (r : Ref) (t : T) (S : List Addr), opt.omitEmpty = false →
    denote n H r = some t → owns n H r = some S → S.Nodup → t.pure k.src = true → t.keeps k opt = true →
    ∃ H' r', conv k n opt H r = some (H', r') ∧ H'.length = H.length ∧ (∀ a, a ∉ S → H'[a]? = H[a]?) ∧
      denote n H' r' = some (t.toForm k.dst k.fillsNil) ∧ owns n H' r' = some S ∧ r'.addr? = r.addr?

/-- an in-place variant under options that leave no member of `t` out, on an input without shared cells:
`t` in the target form, in the very cells of the input, everything else untouched -/
theorem alter_spec (k : Kind) (hk : k.inPlace = true) : ∀ n, AlterSpec k n :=
  fun n opt H r t S hoe hd ho hnd hp hkp =>
    let ⟨H', r', hc, hd', _, hS', b, hx⟩ := convAll_spec k n opt H r t S hd ho (fun _ => hnd) hp
    ⟨H', r', hc, (hx hk).1, (wr_alter hk S ▸ b.toMod).get_of_length_eq (hx hk).1, prune_of_keeps t opt hoe hkp ▸ hd',
      (hx hk).2.2 hoe hkp ▸ hS', (hx hk).2.1⟩

theorem conv_value (k : Kind) (n : Nat) (opt : Opt) (H : Heap) (r : Ref) (t : T)
    (hd : denote n H r = some t) (hp : t.pure k.src = true)
    (hs : k.inPlace = true → ∃ S, owns n H r = some S ∧ S.Nodup) :
    ∃ H' r', conv k n opt H r = some (H', r') ∧ denote n H' r' = some (t.prune k opt) ∧
      ∃ S', owns n H' r' = some S' ∧ S'.Nodup := by
  obtain ⟨S, hS⟩ := denote_owns n H r t hd
  obtain ⟨H', r', hc, hd', S', hS', b, _⟩ := convAll_spec k n opt H r t S hd hS
    (fun hk => let ⟨S0, h0, hn0⟩ := hs hk; Option.some.inj (h0.symm.trans hS) ▸ hn0) hp
  exact ⟨H', r', hc, hd', S', hS', b.nodup⟩

end OjgVerif.Conv
