import OjgVerif.Conv.Lemmas
import OjgVerif.Conv.LemmasTree
/-! What one conversion does to a heap, for EVERY option setting (OmitNil and/or OmitEmpty on): the
value returned is `T.prune k opt t` — the input written in the target form less exactly the object
members the options name. `convAll_spec` is the one induction on the depth bound, for the allocating
and the in-place variants alike: a conversion of a root with footprint `S` overwrites cells of
`k.wr S` only (`S` in place, none when copying) and appends cells (`Mod`), and the footprint of the
result lies in `k.wr S` or is new (`Built`); `Built.seq` is the one step both member loops take, and
the frame rule keeps the members of a container apart. Every other statement about `conv` is read off it.

* `alt.Generify` (and `GenAlter`): `if g != nil || !opt.OmitNil` — a member is left out iff its
  converted value is nil and OmitNil is set; OmitEmpty is not looked at.
* `alt.Decompose` = `alt.Dup` (and `alt.Alter`): `condMapSet` — with OmitNil or OmitEmpty a nil member
  is left out; with OmitEmpty also `""`, `false`, `int64(0)`, a nil or empty `[]any`, a nil or empty
  `map[string]any` (NOT `float64(0)`: condMapSet has no float clause). The test is made on the
  CONVERTED member, so emptiness is hereditary: an object all of whose members are left out is empty
  and is left out in turn (`T.pruneKvs` prunes the member first and tests the pruned value).
* elements of slices are never left out (only converted).
* `Node.Simplify`, `Node.Dup`: no options, nothing is left out. -/
namespace OjgVerif.Conv

theorem Kind.arrOpt_omitEmpty (k : Kind) {opt : Opt} (h : opt.omitEmpty = false) :
    (k.arrOpt opt).omitEmpty = false := by
  cases k <;> first | exact h | (simp only [Kind.arrOpt]; split <;> first | exact h | rfl)

theorem Kind.mapOpt_omitEmpty (k : Kind) {opt : Opt} (h : opt.omitEmpty = false) :
    (k.mapOpt opt).omitEmpty = false := by
  cases k <;> first | exact h | (simp only [Kind.mapOpt]; split <;> first | exact h | rfl)

theorem commit_copy {k : Kind} (h : k.inPlace = false) (H : Heap) (a : Addr) (c : Cell) :
    commit k H a c = (H ++ [c], H.length) := by simp [commit, h]

theorem commit_alter {k : Kind} (h : k.inPlace = true) (H : Heap) (a : Addr) (c : Cell) :
    commit k H a c = (H.set a c, a) := by simp [commit, h]

theorem scalar_spec {k : Kind} {r : Ref} {t : T} (hd : denoteScalar r = some t)
    (hp : t.pure k.src = true) :
    ∃ r', scalar k r = some r' ∧ denoteScalar r' = some (t.toForm k.dst k.fillsNil) := by
  cases r with
  | null => cases hd; cases k <;> exact ⟨_, rfl, rfl⟩
  | bool f _ | int f _ | flt f _ | str f _ =>
    cases hd; cases k <;> cases f <;> first | exact ⟨_, rfl, rfl⟩ | cases hp
  | big f b => cases hd; cases hp
  | _ => cases hd

theorem conv_of_scalar {k : Kind} {n : Nat} {opt : Opt} {H : Heap} {r r' : Ref} {t : T}
    (hs : denoteScalar r = some t) (hsc : scalar k r = some r') : conv k n opt H r = some (H, r') := by
  cases n with
  | zero => simp [conv, hsc]
  | succ n => cases r <;> cases hs <;> simp [conv, hsc]

/-- `condOmit` on value trees: the member value `y` (already converted) counts as empty under `opt` -/
def T.isEmptyFor (opt : Opt) : T → Bool
  | .null => opt.omitNil || opt.omitEmpty
  | .str .simple s => opt.omitEmpty && s.isEmpty
  | .nilArr .simple => opt.omitEmpty
  | .nilObj .simple => opt.omitEmpty
  | .arr .simple xs => opt.omitEmpty && xs.isEmpty
  | .obj .simple kvs => opt.omitEmpty && kvs.isEmpty
  | .bool .simple b => opt.omitEmpty && !b
  | .int .simple i => opt.omitEmpty && i == 0
  | _ => false

/-- `omits` on value trees -/
def T.omitted (k : Kind) (opt : Opt) (y : T) : Bool :=
  match k with
  | .generify | .genAlter => y.isNull && opt.omitNil
  | .decompose | .altAlter => y.isEmptyFor opt
  | _ => false

mutual
  /-- the value `k` returns under `opt` for an input `t` with `t.pure k.src`: target form, nil containers
  filled or not as `k` does, members left out bottom-up, options flowing as the recursive calls hand them
  on. The `big` clause is a filler no theorem reaches (`T.pure` has no `big`; the model's `scalar` makes a
  string of it for `Simplify`/`Decompose` and may return nil for `Generify`); that it keeps a `big` a `big`
  is what makes `prune_isNull` hold without a hypothesis -/
  def T.prune (k : Kind) (opt : Opt) : T → T
    | .null => .null
    | .bool _ b => .bool k.dst b
    | .int _ i => .int k.dst i
    | .flt _ x => .flt k.dst x
    | .str _ s => .str k.dst s
    | .big _ s => .big k.dst s
    | .nilArr _ => if k.fillsNil then .arr k.dst [] else .nilArr k.dst
    | .nilObj _ => if k.fillsNil then .obj k.dst [] else .nilObj k.dst
    | .arr _ xs => .arr k.dst (T.pruneList k (k.arrOpt opt) xs)
    | .obj _ kvs => .obj k.dst (T.pruneKvs k opt kvs)
  def T.pruneList (k : Kind) (opt : Opt) : List T → List T
    | [] => []
    | x :: xs => T.prune k opt x :: T.pruneList k opt xs
  /-- `opt` are the options of the object itself: the test uses them, the recursion `mapOpt` -/
  def T.pruneKvs (k : Kind) (opt : Opt) : List (String × T) → List (String × T)
    | [] => []
    | (key, x) :: xs =>
      if T.omitted k opt (T.prune k (k.mapOpt opt) x) then T.pruneKvs k opt xs
      else (key, T.prune k (k.mapOpt opt) x) :: T.pruneKvs k opt xs
end

theorem prune_of_scalar {k : Kind} {opt : Opt} {r : Ref} {t : T} (h : denoteScalar r = some t) :
    t.prune k opt = t.toForm k.dst k.fillsNil := by
  cases r <;> cases h <;> rfl

/-- `T.keeps` (Conv/Model.lean) tests the member as it is given, `omits` the converted one; this is the bridge
between the two. It holds of `T.prune` on every tree, of the model only where there is no `big` -/
theorem prune_isNull (k : Kind) (opt : Opt) (t : T) : (t.prune k opt).isNull = t.isNull := by
  cases t <;> first | rfl | (simp only [T.prune]; split <;> rfl)

/-- `T.keeps` looks at nullness only (`x.isNull && k.dropsNil opt`), while under OmitEmpty `omits` also leaves out
`""`, `false`, `0` and empty containers (`T.isEmptyFor`): a tree with a member `""` passes `keeps` and loses the
member under `.decompose ⟨false, true⟩`. So `keeps` says "no member is left out" for `omitEmpty = false` only, and
what is stated with `keeps` (`prune_of_keeps`, `CopySpec`, `AlterSpec`, the last clause of `ConvAll`) carries that
hypothesis. `C18.prune_of_keepInv`, stated on the options and no tree, does without it (`omitted_of_dropsNil`) -/
theorem omitted_false {k : Kind} {opt : Opt} {y : T} (hoe : opt.omitEmpty = false)
    (h : (y.isNull && k.dropsNil opt) = false) : y.omitted k opt = false := by
  cases k with
  | generify | genAlter => exact h
  | decompose | altAlter =>
    cases y with
    | null => exact h
    | flt _ _ | big _ _ => rfl
    | _ f => cases f <;> simp [T.omitted, T.isEmptyFor, hoe]
  | _ => rfl

/-- on the options alone: a kind leaves a member out under `o` only if it drops nulls under `o`
(`T.omitted k o .null` is `k.dropsNil o`) -/
theorem omitted_of_dropsNil {k : Kind} {o : Opt} (h : k.dropsNil o = false) (y : T) : y.omitted k o = false := by
  cases k with
  | generify | genAlter => simp [T.omitted, show o.omitNil = false from h]
  | decompose | altAlter => exact omitted_false (Bool.or_eq_false_iff.1 h).2 (by rw [h, Bool.and_false])
  | _ => rfl

mutual
  theorem prune_of_keeps {k : Kind} : ∀ (t : T) (opt : Opt), opt.omitEmpty = false → t.keeps k opt = true →
      t.prune k opt = t.toForm k.dst k.fillsNil
    | .null, _, _, _ | .bool _ _, _, _, _ | .int _ _, _, _, _ | .flt _ _, _, _, _ | .str _ _, _, _, _
    | .big _ _, _, _, _ | .nilArr _, _, _, _ | .nilObj _, _, _, _ => rfl
    | .arr _ xs, opt, hoe, hk => by
      simp only [T.prune, T.toForm, pruneList_of_keeps xs _ (k.arrOpt_omitEmpty hoe) hk]
    | .obj _ kvs, opt, hoe, hk => by simp only [T.prune, T.toForm, pruneKvs_of_keeps kvs opt hoe hk]
  theorem pruneList_of_keeps {k : Kind} : ∀ (xs : List T) (opt : Opt), opt.omitEmpty = false →
      T.keepsList k opt xs = true → T.pruneList k opt xs = T.toFormList k.dst k.fillsNil xs
    | [], _, _, _ => rfl
    | x :: xs, opt, hoe, hk => by
      simp only [T.keepsList, Bool.and_eq_true] at hk
      simp only [T.pruneList, T.toFormList, prune_of_keeps x opt hoe hk.1, pruneList_of_keeps xs opt hoe hk.2]
  theorem pruneKvs_of_keeps {k : Kind} : ∀ (xs : List (String × T)) (opt : Opt), opt.omitEmpty = false →
      T.keepsKvs k opt xs = true → T.pruneKvs k opt xs = T.toFormKvs k.dst k.fillsNil xs
    | [], _, _, _ => rfl
    | (key, x) :: xs, opt, hoe, hk => by
      simp only [T.keepsKvs, Bool.and_eq_true, Bool.not_eq_true'] at hk
      have hx := prune_of_keeps x _ (k.mapOpt_omitEmpty hoe) hk.1.2
      simp only [T.pruneKvs, T.toFormKvs, hx, omitted_false hoe (toForm_isNull _ _ x ▸ hk.1.1),
        pruneKvs_of_keeps xs opt hoe hk.2, Bool.false_eq_true, if_false]
end

theorem condOmit_eq {opt : Opt} {n : Nat} {H : Heap} {y : Ref} {t : T} (hd : denote n H y = some t) :
    condOmit opt H y = t.isEmptyFor opt := by
  cases n with
  | zero => cases y <;> cases hd <;> first | rfl | (rename_i f _; cases f <;> rfl)
  | succ n =>
    cases y with
    | arr f a =>
      obtain ⟨xs, ts, hc, hm, rfl⟩ := denote_arr_some.1 hd
      cases f <;> simp [condOmit, T.isEmptyFor, hc, mapOpt_isEmpty hm]
    | obj f a =>
      obtain ⟨kvs, ts, hc, hm, rfl⟩ := denote_obj_some.1 hd
      cases f <;> simp [condOmit, T.isEmptyFor, hc, mapOptKv_isEmpty hm]
    | null => cases hd; rfl
    | nilArr f | nilObj f | bool f _ | int f _ | flt f _ | str f _ | big f _ => cases hd; cases f <;> rfl

theorem isNull_of_denote {n : Nat} {H : Heap} {y : Ref} {t : T} (hd : denote n H y = some t) :
    (y == Ref.null) = t.isNull := by
  cases n with
  | zero => cases y <;> cases hd <;> rfl
  | succ n =>
    cases y with
    | arr f a => obtain ⟨_, _, _, _, rfl⟩ := denote_arr_some.1 hd; rfl
    | obj f a => obtain ⟨_, _, _, _, rfl⟩ := denote_obj_some.1 hd; rfl
    | _ => cases hd; rfl

theorem omits_eq {k : Kind} {opt : Opt} {n : Nat} {H : Heap} {y : Ref} {t : T}
    (hd : denote n H y = some t) : omits k opt H y = t.omitted k opt := by
  cases k <;> simp only [omits, T.omitted]
  case generify => rw [isNull_of_denote hd]
  case genAlter => rw [isNull_of_denote hd]
  case decompose => exact condOmit_eq hd
  case altAlter => exact condOmit_eq hd

/-- the cells a conversion of a root with footprint `S` may overwrite -/
def Kind.wr (k : Kind) (S : List Addr) : List Addr := if k.inPlace then S else []

theorem wr_copy {k : Kind} (hk : k.inPlace = false) (S : List Addr) : k.wr S = [] := by simp [Kind.wr, hk]

theorem wr_alter {k : Kind} (hk : k.inPlace = true) (S : List Addr) : k.wr S = S := by simp [Kind.wr, hk]

theorem wr_append (k : Kind) (A B : List Addr) : k.wr (A ++ B) = k.wr A ++ k.wr B := by
  unfold Kind.wr; split <;> rfl

theorem wr_sub {k : Kind} {S : List Addr} {a : Addr} (h : a ∈ k.wr S) : a ∈ S := by
  unfold Kind.wr at h; split at h
  · exact h
  · cases h

theorem wr_disj {k : Kind} {A B : List Addr} (hnd : k.inPlace = true → (A ++ B).Nodup) {a : Addr}
    (ha : a ∈ k.wr A) (hb : a ∈ B) : False := by
  unfold Kind.wr at ha; split at ha
  · rename_i hk; exact (List.nodup_append.1 (hnd hk)).2.2 a ha a hb rfl
  · cases ha

/-- `H'` is `H` with cells of `W` overwritten and new cells appended. `Ext` (Conv/Lemmas.lean) is the case
`W = []`: `Mod.ext` -/
structure Mod (H H' : Heap) (W : List Addr) : Prop where
  len : H.length ≤ H'.length
  get : ∀ a, a < H.length → a ∉ W → H'[a]? = H[a]?

theorem Mod.ext {H H' : Heap} (m : Mod H H' []) : Ext H H' :=
  ⟨m.len, fun a _ h => (m.get a (getElem?_lt h) List.not_mem_nil).trans h⟩

theorem Mod.get_of_length_eq {H H' : Heap} {W : List Addr} (m : Mod H H' W) (hl : H'.length = H.length) (a : Addr)
    (ha : a ∉ W) : H'[a]? = H[a]? :=
  if h : a < H.length then m.get a h ha
  else by rw [List.getElem?_eq_none (Nat.le_of_not_lt h), List.getElem?_eq_none (hl ▸ Nat.le_of_not_lt h)]

theorem Mod.trans {H H1 H2 : Heap} {W1 W2 : List Addr} (m1 : Mod H H1 W1) (m2 : Mod H1 H2 W2) :
    Mod H H2 (W1 ++ W2) :=
  ⟨Nat.le_trans m1.len m2.len, fun a ha hw => by
    rw [List.mem_append, not_or] at hw
    rw [m2.get a (Nat.lt_of_lt_of_le ha m1.len) hw.2, m1.get a ha hw.1]⟩

/-- `Mod H H' W`, and `F` lists cells of `H'`, each once, taken from the overwritten and the new ones: the
shape of the footprint of what a conversion returns -/
structure Built (H : Heap) (W : List Addr) (H' : Heap) (F : List Addr) : Prop extends Mod H H' W where
  nodup : F.Nodup
  src : ∀ a, a ∈ F → a ∈ W ∨ H.length ≤ a

theorem Built.nil (H : Heap) (W : List Addr) : Built H W H [] :=
  ⟨⟨Nat.le_refl _, fun _ _ _ => rfl⟩, List.nodup_nil, nofun⟩

theorem Mod.after {H H1 H2 : Heap} {W1 W2 F2 : List Addr} (m1 : Mod H H1 W1) (b2 : Built H1 W2 H2 F2) :
    Built H (W1 ++ W2) H2 F2 :=
  ⟨m1.trans b2.toMod, b2.nodup, fun a ha => (b2.src a ha).imp (List.mem_append_right _) (Nat.le_trans m1.len)⟩

/-- two things built one after the other, the second overwriting only old cells that the first could not:
the first stays as it was built, and the two footprints are apart -/
theorem Built.seq {H H1 H2 : Heap} {W1 W2 F1 F2 : List Addr} (b1 : Built H W1 H1 F1) (b2 : Built H1 W2 H2 F2)
    (h1 : ∀ a, a ∈ F1 → a < H1.length) (hW : ∀ a, a ∈ W2 → a < H.length ∧ a ∉ W1) :
    (∀ a, a ∈ F1 → H2[a]? = H1[a]?) ∧ Built H (W1 ++ W2) H2 (F1 ++ F2) := by
  have hfar : ∀ a, a ∈ F1 → a ∉ W2 := fun a ha hw =>
    (b1.src a ha).elim (hW a hw).2 fun h => Nat.lt_irrefl _ (Nat.lt_of_lt_of_le (hW a hw).1 h)
  refine ⟨fun a ha => b2.get a (h1 a ha) (hfar a ha), b1.toMod.trans b2.toMod,
    List.nodup_append.2 ⟨b1.nodup, b2.nodup, fun a ha b hb hab => ?_⟩, fun a ha => ?_⟩
  · subst hab
    exact (b2.src a hb).elim (hfar a ha) fun h => Nat.lt_irrefl _ (Nat.lt_of_lt_of_le (h1 a ha) h)
  · exact (List.mem_append.1 ha).elim (fun h => (b1.src a h).imp_left (List.mem_append_left _))
      ((b1.toMod.after b2).src a)

/-- what any conversion does under any options: only the cells it may overwrite change, the result denotes
the pruned value and is a tree made of overwritten and of new cells. Only an in-place kind needs an input
without shared cells; what a copying kind reads may be a DAG. In place a member that is left out takes its
cells out of the footprint; if none is, the footprint is `S` again: the last clause, carried for
`alter_spec` alone, whose statement (`AlterSpec`) gives the footprint of the result as `S` itself. -/
def ConvAll (k : Kind) (n : Nat) : Prop :=
  ∀ (opt : Opt) (H : Heap) (r : Ref) (t : T) (S : List Addr),
    denote n H r = some t → owns n H r = some S → (k.inPlace = true → S.Nodup) → t.pure k.src = true →
    ∃ H' r', conv k n opt H r = some (H', r') ∧ denote n H' r' = some (t.prune k opt) ∧
      ∃ S', owns n H' r' = some S' ∧ Built H (k.wr S) H' S' ∧
        (k.inPlace = true → H'.length = H.length ∧ r'.addr? = r.addr? ∧
          (opt.omitEmpty = false → t.keeps k opt = true → S' = S))

theorem forEach_convAll {k : Kind} {n : Nat} (ih : ConvAll k n) (opt : Opt) :
    ∀ (xs : List Ref) (H : Heap) (ts : List T) (Ss : List (List Addr)),
      mapOpt (denote n H) xs = some ts → mapOpt (owns n H) xs = some Ss → (k.inPlace = true → Ss.flatten.Nodup) →
      T.pureList k.src ts = true →
      ∃ H' ys, forEach (conv k n opt) H xs = some (H', ys) ∧
        mapOpt (denote n H') ys = some (T.pruneList k opt ts) ∧
        ∃ Ss', mapOpt (owns n H') ys = some Ss' ∧ Built H (k.wr Ss.flatten) H' Ss'.flatten ∧
          (k.inPlace = true → H'.length = H.length ∧
            (opt.omitEmpty = false → T.keepsList k opt ts = true → Ss' = Ss))
  | [], H, ts, Ss, hm, ho, _, _ => by
    cases hm; cases ho
    exact ⟨H, [], rfl, rfl, [], rfl, .nil H _, fun _ => ⟨rfl, fun _ _ => rfl⟩⟩
  | x :: xs, H, ts, Ss, hm, ho, hnd, hp => by
    obtain ⟨t, ts', hx, hr, rfl⟩ := mapOpt_cons_some.1 hm
    obtain ⟨S1, Ss0, hox, hor, rfl⟩ := mapOpt_cons_some.1 ho
    simp only [T.pureList, Bool.and_eq_true] at hp
    rw [List.flatten_cons] at hnd
    obtain ⟨H1, y, hc1, hd1, S1', ho1, b1, hx1⟩ :=
      ih opt H x t S1 hx hox (fun hk => (List.nodup_append.1 (hnd hk)).1) hp.1
    -- the later members are old cells outside what converting `x` may overwrite …
    obtain ⟨hor1, hdeq⟩ := frame_list (H := H) (H2 := H1) hor
      fun a ha => b1.get a (owns_list_lt hor a ha) fun hw => wr_disj hnd hw ha
    obtain ⟨H2, ys, hc2, hd2, Ss2, ho2, b2, hx2⟩ :=
      forEach_convAll ih opt xs H1 ts' Ss0 (hdeq ▸ hr) hor1 (fun hk => (List.nodup_append.1 (hnd hk)).2.1) hp.2
    -- … and converting them overwrites nothing of what `x` was converted to
    obtain ⟨hst, b⟩ := b1.seq b2 (owns_lt n H1 y S1' ho1) fun a ha =>
      ⟨owns_list_lt hor a (wr_sub ha), fun h => wr_disj hnd h (wr_sub ha)⟩
    obtain ⟨ho1', hd1'⟩ := frame (H := H1) (H2 := H2) n y S1' ho1 hst
    refine ⟨H2, y :: ys, by simp [forEach, hc1, hc2], mapOpt_cons_some.2 ⟨_, _, hd1' ▸ hd1, hd2, rfl⟩, S1' :: Ss2,
      mapOpt_cons_some.2 ⟨_, _, ho1', ho2, rfl⟩, wr_append k _ _ ▸ b,
      fun hk => ⟨(hx2 hk).1.trans (hx1 hk).1, fun hoe hkp => ?_⟩⟩
    simp only [T.keepsList, Bool.and_eq_true] at hkp
    rw [(hx1 hk).2.2 hoe hkp.1, (hx2 hk).2 hoe hkp.2]

theorem forEachKv_convAll {k : Kind} {n : Nat} (ih : ConvAll k n) (opt : Opt) :
    ∀ (kvs : List (String × Ref)) (H : Heap) (ts : List (String × T)) (Ss : List (List Addr)),
      mapOptKv (denote n H) kvs = some ts → mapOpt (owns n H) (kvs.map (·.2)) = some Ss →
      (k.inPlace = true → Ss.flatten.Nodup) → T.pureKvs k.src ts = true →
      ∃ H' ys, forEachKv (conv k n (k.mapOpt opt)) (omits k opt) H kvs = some (H', ys) ∧
        mapOptKv (denote n H') ys = some (T.pruneKvs k opt ts) ∧
        ∃ Ss', mapOpt (owns n H') (ys.map (·.2)) = some Ss' ∧ Built H (k.wr Ss.flatten) H' Ss'.flatten ∧
          (k.inPlace = true → H'.length = H.length ∧
            (opt.omitEmpty = false → T.keepsKvs k opt ts = true → Ss' = Ss))
  | [], H, ts, Ss, hm, ho, _, _ => by
    cases hm; cases ho
    exact ⟨H, [], rfl, rfl, [], rfl, .nil H _, fun _ => ⟨rfl, fun _ _ => rfl⟩⟩
  | (key, x) :: kvs, H, ts, Ss, hm, ho, hnd, hp => by
    obtain ⟨t, ts', hx, hr, rfl⟩ := mapOptKv_cons_some.1 hm
    obtain ⟨S1, Ss0, hox, hor, rfl⟩ := mapOpt_cons_some.1 ho
    simp only [T.pureKvs, Bool.and_eq_true] at hp
    rw [List.flatten_cons] at hnd
    obtain ⟨H1, y, hc1, hd1, S1', ho1, b1, hx1⟩ :=
      ih (k.mapOpt opt) H x t S1 hx hox (fun hk => (List.nodup_append.1 (hnd hk)).1) hp.1
    obtain ⟨hor1, hdeq⟩ := frame_kvs (H := H) (H2 := H1) hor
      fun a ha => b1.get a (owns_list_lt hor a ha) fun hw => wr_disj hnd hw ha
    obtain ⟨H2, ys, hc2, hd2, Ss2, ho2, b2, hx2⟩ :=
      forEachKv_convAll ih opt kvs H1 ts' Ss0 (hdeq ▸ hr) hor1 (fun hk => (List.nodup_append.1 (hnd hk)).2.1) hp.2
    simp only [forEachKv, hc1, hc2, T.pruneKvs, omits_eq hd1]
    cases hb : (t.prune k (k.mapOpt opt)).omitted k opt with
    | true =>
      -- the member is left out: its cells stay behind, unreferenced
      refine ⟨H2, ys, rfl, hd2, Ss2, ho2, wr_append k _ _ ▸ b1.toMod.after b2,
        fun hk => ⟨(hx2 hk).1.trans (hx1 hk).1, fun hoe hkp => ?_⟩⟩
      simp only [T.keepsKvs, Bool.and_eq_true, Bool.not_eq_true'] at hkp
      rw [omitted_false hoe (prune_isNull k _ t ▸ hkp.1.1)] at hb
      cases hb
    | false =>
      obtain ⟨hst, b⟩ := b1.seq b2 (owns_lt n H1 y S1' ho1) fun a ha =>
        ⟨owns_list_lt hor a (wr_sub ha), fun h => wr_disj hnd h (wr_sub ha)⟩
      obtain ⟨ho1', hd1'⟩ := frame (H := H1) (H2 := H2) n y S1' ho1 hst
      refine ⟨H2, (key, y) :: ys, rfl, mapOptKv_cons_some.2 ⟨_, _, hd1' ▸ hd1, hd2, rfl⟩, S1' :: Ss2,
        mapOpt_cons_some.2 ⟨_, _, ho1', ho2, rfl⟩, wr_append k _ _ ▸ b,
        fun hk => ⟨(hx2 hk).1.trans (hx1 hk).1, fun hoe hkp => ?_⟩⟩
      simp only [T.keepsKvs, Bool.and_eq_true, Bool.not_eq_true'] at hkp
      rw [(hx1 hk).2.2 (k.mapOpt_omitEmpty hoe) hkp.1.2, (hx2 hk).2 hoe hkp.2]

theorem convAll_scalar {k : Kind} {n : Nat} {opt : Opt} {H : Heap} {r : Ref} {t : T} {S : List Addr}
    (hs : denoteScalar r = some t) (ho : owns n H r = some S) (hp : t.pure k.src = true) :
    ∃ H' r', conv k n opt H r = some (H', r') ∧ denote n H' r' = some (t.prune k opt) ∧
      ∃ S', owns n H' r' = some S' ∧ Built H (k.wr S) H' S' ∧
        (k.inPlace = true → H'.length = H.length ∧ r'.addr? = r.addr? ∧
          (opt.omitEmpty = false → t.keeps k opt = true → S' = S)) := by
  obtain ⟨r', hsc, hd'⟩ := scalar_spec hs hp
  cases (owns_of_scalar hs).symm.trans ho
  exact ⟨H, r', conv_of_scalar hs hsc, prune_of_scalar hs ▸ denote_scalar hd', [], owns_of_scalar hd', .nil H _,
    fun _ => ⟨rfl, (addr_none_of_scalar hd').trans (addr_none_of_scalar hs).symm, fun _ _ => rfl⟩⟩

theorem convAll_nil (k : Kind) (n : Nat) (opt : Opt) (H : Heap) (isArr : Bool) (f : Form) :
    denote (n + 1) (nilContainer k H isArr).1 (nilContainer k H isArr).2
        = some ((if isArr then T.nilArr f else T.nilObj f).prune k opt) ∧
      ∃ S', owns (n + 1) (nilContainer k H isArr).1 (nilContainer k H isArr).2 = some S' ∧
        Built H (k.wr []) (nilContainer k H isArr).1 S' ∧
        (k.inPlace = true → (nilContainer k H isArr).1.length = H.length ∧
          (nilContainer k H isArr).2.addr? = none ∧ S' = []) := by
  have hb : ∀ c, Built H (k.wr []) (H ++ [c]) [H.length] := fun c =>
    ⟨⟨by simp, fun a ha _ => List.getElem?_append_left ha⟩, by simp, by simp⟩
  cases hfill : k.fillsNil
  · cases isArr <;> simp only [nilContainer, hfill, T.prune, Bool.false_eq_true, if_false, if_true] <;>
      exact ⟨rfl, [], rfl, .nil H _, fun _ => ⟨trivial, rfl, rfl⟩⟩
  · have hk : k.inPlace = false := by cases k <;> first | rfl | cases hfill
    cases isArr <;> simp only [nilContainer, hfill, T.prune, Bool.false_eq_true, if_false, if_true]
    · exact ⟨denote_obj_some.2 ⟨[], [], List.getElem?_concat_length, rfl, rfl⟩, [H.length],
        owns_obj_some.2 ⟨[], [], List.getElem?_concat_length, rfl, rfl⟩, hb _, fun h => by simp [hk] at h⟩
    · exact ⟨denote_arr_some.2 ⟨[], [], List.getElem?_concat_length, rfl, rfl⟩, [H.length],
        owns_arr_some.2 ⟨[], [], List.getElem?_concat_length, rfl, rfl⟩, hb _, fun h => by simp [hk] at h⟩

/-- the members of a container at `a` (footprints `Ss`) converted (`H` to `H1`, footprints `Ss'`), then the
finished container stored — over the old cell or as a new one: the stored cell, the members' cells
untouched, and what is built with the cell of the container at its head -/
theorem commit_spec {k : Kind} {H H1 : Heap} {a : Addr} {c : Cell} (c' : Cell) {Ss Ss' : List (List Addr)}
    (hc : H[a]? = some c) (b1 : Built H (k.wr Ss.flatten) H1 Ss'.flatten)
    (hl : k.inPlace = true → H1.length = H.length) (hnd : k.inPlace = true → (a :: Ss.flatten).Nodup)
    (hlt : ∀ b, b ∈ Ss'.flatten → b < H1.length) :
    (commit k H1 a c').1[(commit k H1 a c').2]? = some c' ∧
      (∀ b, b ∈ Ss'.flatten → (commit k H1 a c').1[b]? = H1[b]?) ∧
      Built H (k.wr (a :: Ss.flatten)) (commit k H1 a c').1 ((commit k H1 a c').2 :: Ss'.flatten) ∧
      (k.inPlace = true → (commit k H1 a c').1.length = H.length ∧ (commit k H1 a c').2 = a) := by
  cases hk : k.inPlace with
  | false =>
    rw [commit_copy hk, wr_copy hk] at *
    refine ⟨List.getElem?_concat_length, fun b hb => List.getElem?_append_left (hlt b hb),
      ⟨⟨Nat.le_trans b1.len (by simp), fun b hb hw => ?_⟩,
        List.nodup_cons.2 ⟨fun h => Nat.lt_irrefl _ (hlt _ h), b1.nodup⟩, fun b hb => ?_⟩, nofun⟩
    · rw [List.getElem?_append_left (Nat.lt_of_lt_of_le hb b1.len), b1.get b hb hw]
    · exact (List.mem_cons.1 hb).elim (fun e => Or.inr (e ▸ b1.len)) (b1.src b)
  | true =>
    rw [commit_alter hk, wr_alter hk] at *
    have ha : a ∉ Ss.flatten := (List.nodup_cons.1 (hnd hk)).1
    have hsub : ∀ b, b ∈ Ss'.flatten → b ∈ Ss.flatten := fun b hb =>
      (b1.src b hb).resolve_right fun h => Nat.lt_irrefl _ (Nat.lt_of_lt_of_le (hl hk ▸ hlt b hb) h)
    refine ⟨List.getElem?_set_self (hl hk ▸ getElem?_lt hc),
      fun b hb => List.getElem?_set_ne fun (hab : a = b) => ha (hab ▸ hsub b hb),
      ⟨⟨by simp [hl hk], fun b hb hw => ?_⟩, List.nodup_cons.2 ⟨fun h => ha (hsub a h), b1.nodup⟩,
        fun b hb => Or.inl (List.mem_cons.2 ((List.mem_cons.1 hb).imp_right (hsub b)))⟩,
      fun _ => ⟨by simp [hl hk], rfl⟩⟩
    rw [List.mem_cons, not_or] at hw
    rw [List.getElem?_set_ne (fun hab => hw.1 hab.symm), b1.get b hb hw.2]

theorem convAll_spec (k : Kind) : ∀ n, ConvAll k n
  | 0 => fun _ _ _ _ _ hd ho _ hp => convAll_scalar hd ho hp
  | n + 1 => by
    have ih := convAll_spec k n
    intro opt H r t S hd ho hnd hp
    cases r with
    | nilArr f =>
      cases hd; cases ho
      have hf : f = k.src := by simpa [T.pure] using hp
      obtain ⟨hd', S', ho', b, hx⟩ := convAll_nil k n opt H true f
      exact ⟨_, _, by simp only [conv, hf, if_true], hd', S', ho', b,
        fun hk => ⟨(hx hk).1, (hx hk).2.1, fun _ _ => (hx hk).2.2⟩⟩
    | nilObj f =>
      cases hd; cases ho
      have hf : f = k.src := by simpa [T.pure] using hp
      obtain ⟨hd', S', ho', b, hx⟩ := convAll_nil k n opt H false f
      exact ⟨_, _, by simp only [conv, hf, if_true], hd', S', ho', b,
        fun hk => ⟨(hx hk).1, (hx hk).2.1, fun _ _ => (hx hk).2.2⟩⟩
    | arr f a =>
      obtain ⟨xs, ts, hc, hm, rfl⟩ := denote_arr_some.1 hd
      obtain ⟨xs', Ss, hc', hmo, rfl⟩ := owns_arr_some.1 ho
      cases hc.symm.trans hc'
      simp only [T.pure, Bool.and_eq_true, decide_eq_true_eq] at hp
      -- the members are converted, the container is stored (`commit_spec`: over none of their cells), and by the frame
      -- rule they denote and own in the heap after the store what they did before it
      obtain ⟨H1, ys, hfe, hd1, Ss', ho1, b1, hx1⟩ :=
        forEach_convAll ih (k.arrOpt opt) xs H ts Ss hm hmo (fun hk => (List.nodup_cons.1 (hnd hk)).2) hp.2
      obtain ⟨hget, hsame, b, hx⟩ := commit_spec (.arr ys) hc b1 (fun hk => (hx1 hk).1) hnd (owns_list_lt ho1)
      obtain ⟨ho2, hdeq⟩ := frame_list ho1 hsame
      exact ⟨_, _, by simp only [conv, hp.1, hc, hfe, if_true], denote_arr_some.2 ⟨ys, _, hget, hdeq ▸ hd1, rfl⟩,
        _, owns_arr_some.2 ⟨ys, Ss', hget, ho2, rfl⟩, b,
        fun hk => ⟨(hx hk).1, congrArg some (hx hk).2, fun hoe hkp => by
          rw [(hx hk).2, (hx1 hk).2 (k.arrOpt_omitEmpty hoe) hkp]⟩⟩
    | obj f a =>
      obtain ⟨kvs, ts, hc, hm, rfl⟩ := denote_obj_some.1 hd
      obtain ⟨kvs', Ss, hc', hmo, rfl⟩ := owns_obj_some.1 ho
      cases hc.symm.trans hc'
      simp only [T.pure, Bool.and_eq_true, decide_eq_true_eq] at hp
      obtain ⟨H1, ys, hfe, hd1, Ss', ho1, b1, hx1⟩ :=
        forEachKv_convAll ih opt kvs H ts Ss hm hmo (fun hk => (List.nodup_cons.1 (hnd hk)).2) hp.2
      obtain ⟨hget, hsame, b, hx⟩ := commit_spec (.obj ys) hc b1 (fun hk => (hx1 hk).1) hnd (owns_list_lt ho1)
      obtain ⟨ho2, hdeq⟩ := frame_kvs ho1 hsame
      exact ⟨_, _, by simp only [conv, hp.1, hc, hfe, if_true], denote_obj_some.2 ⟨ys, _, hget, hdeq ▸ hd1, rfl⟩,
        _, owns_obj_some.2 ⟨ys, Ss', hget, ho2, rfl⟩, b,
        fun hk => ⟨(hx hk).1, congrArg some (hx hk).2, fun hoe hkp => by rw [(hx hk).2, (hx1 hk).2 hoe hkp]⟩⟩
    | _ => exact convAll_scalar hd ho hp

/-- what a copying conversion does under any options: the heap only grows, the result denotes the
pruned value, and it is a tree of cells that did not exist before -/
def CopyAll (k : Kind) (n : Nat) : Prop :=
  ∀ (opt : Opt) (H : Heap) (r : Ref) (t : T), denote n H r = some t → t.pure k.src = true →
    ∃ H' r', conv k n opt H r = some (H', r') ∧ Ext H H' ∧ denote n H' r' = some (t.prune k opt) ∧
      ∃ S, owns n H' r' = some S ∧ S.Nodup ∧ ∀ a, a ∈ S → H.length ≤ a

theorem copyAll_spec (k : Kind) (hk : k.inPlace = false) (n : Nat) : CopyAll k n := fun opt H r t hd hp =>
  let ⟨S, hS⟩ := denote_owns n H r t hd
  let ⟨H', r', hc, hd', S', hS', b, _⟩ := convAll_spec k n opt H r t S hd hS (fun h => by simp [hk] at h) hp
  ⟨H', r', hc, (wr_copy hk S ▸ b.toMod).ext, hd', S', hS', b.nodup,
    fun a ha => (b.src a ha).resolve_left (wr_copy hk S ▸ List.not_mem_nil)⟩

def PruneSpec (k : Kind) (n : Nat) : Prop :=
  ∀ (opt : Opt) (H : Heap) (r : Ref) (t : T), denote n H r = some t → t.pure k.src = true →
    ∃ H' r', conv k n opt H r = some (H', r') ∧ Ext H H' ∧ denote n H' r' = some (t.prune k opt)

/-- what a copying conversion returns, for every option setting -/
theorem prune_spec (k : Kind) (hk : k.inPlace = false) : ∀ n, PruneSpec k n := fun n opt H r t hd hp =>
  let ⟨H', r', hc, e, hd', _⟩ := copyAll_spec k hk n opt H r t hd hp
  ⟨H', r', hc, e, hd'⟩

def AlterPruneSpec (k : Kind) (n : Nat) : Prop :=
  ∀ (opt : Opt) (H : Heap) (r : Ref) (t : T) (S : List Addr),
    denote n H r = some t → owns n H r = some S → S.Nodup → t.pure k.src = true →
    ∃ H' r', conv k n opt H r = some (H', r') ∧ H'.length = H.length ∧ (∀ a, a ∉ S → H'[a]? = H[a]?) ∧
      denote n H' r' = some (t.prune k opt) ∧ r'.addr? = r.addr? ∧
      ∃ S', owns n H' r' = some S' ∧ S'.Nodup ∧ ∀ a, a ∈ S' → a ∈ S

/-- what an in-place conversion does, for every option setting: a member that is left out takes its cells
out of the footprint, everything outside the footprint of the input is untouched, the root cell is the same -/
theorem alterPrune_spec (k : Kind) (hk : k.inPlace = true) : ∀ n, AlterPruneSpec k n :=
  fun n opt H r t S hd ho hnd hp =>
    let ⟨H', r', hc, hd', S', hS', b, hx⟩ := convAll_spec k n opt H r t S hd ho (fun _ => hnd) hp
    ⟨H', r', hc, (hx hk).1, (wr_alter hk S ▸ b.toMod).get_of_length_eq (hx hk).1, hd', (hx hk).2.1, S', hS', b.nodup, fun a ha =>
      wr_alter hk S ▸ (b.src a ha).resolve_right fun h =>
        Nat.lt_irrefl _ (Nat.lt_of_lt_of_le ((hx hk).1 ▸ owns_lt n H' r' S' hS' a ha) h)⟩

end OjgVerif.Conv
