import OjgVerif.Conv.Model
/-! Facts about value trees (`T.pure`, `T.toForm`, `T.keeps`): mutual recursion over the nested
inductive type. -/
namespace OjgVerif.Conv

theorem toForm_isNull (f : Form) (b : Bool) (t : T) : (t.toForm f b).isNull = t.isNull := by
  cases t <;> first | rfl | (cases b <;> rfl)

mutual
  theorem toForm_toForm (f g : Form) (b1 b2 : Bool) :
      ∀ t : T, (t.toForm f b1).toForm g b2 = t.toForm g (b1 || b2)
    | .null | .bool _ _ | .int _ _ | .flt _ _ | .str _ _ | .big _ _ => rfl
    | .nilArr _ | .nilObj _ => by cases b1 <;> cases b2 <;> rfl
    | .arr _ xs => by simp only [T.toForm, toFormList_toFormList f g b1 b2 xs]
    | .obj _ kvs => by simp only [T.toForm, toFormKvs_toFormKvs f g b1 b2 kvs]
  theorem toFormList_toFormList (f g : Form) (b1 b2 : Bool) :
      ∀ xs : List T, T.toFormList g b2 (T.toFormList f b1 xs) = T.toFormList g (b1 || b2) xs
    | [] => rfl
    | x :: xs => by
      simp only [T.toFormList, toForm_toForm f g b1 b2 x, toFormList_toFormList f g b1 b2 xs]
  theorem toFormKvs_toFormKvs (f g : Form) (b1 b2 : Bool) :
      ∀ xs : List (String × T), T.toFormKvs g b2 (T.toFormKvs f b1 xs) = T.toFormKvs g (b1 || b2) xs
    | [] => rfl
    | (k, x) :: xs => by
      simp only [T.toFormKvs, toForm_toForm f g b1 b2 x, toFormKvs_toFormKvs f g b1 b2 xs]
end

mutual
  theorem toForm_of_pure (f : Form) (b : Bool) :
      ∀ t : T, t.pure f = true → (b = false ∨ t.noNil = true) → t.toForm f b = t
    | .null, _, _ => rfl
    | .bool g _, h, _ | .int g _, h, _ | .flt g _, h, _ | .str g _, h, _ => by
      simp only [T.toForm, of_decide_eq_true h]
    | .big g _, h, _ => by cases h
    | .nilArr g, h, h2 | .nilObj g, h, h2 => by
      simp only [T.toForm, of_decide_eq_true h, h2.resolve_right (by simp [T.noNil]), Bool.false_eq_true, if_false]
    | .arr g xs, h, h2 => by
      simp only [T.pure, Bool.and_eq_true, decide_eq_true_eq] at h
      simp only [T.toForm, h.1, toFormList_of_pure f b xs h.2 h2]
    | .obj g kvs, h, h2 => by
      simp only [T.pure, Bool.and_eq_true, decide_eq_true_eq] at h
      simp only [T.toForm, h.1, toFormKvs_of_pure f b kvs h.2 h2]
  theorem toFormList_of_pure (f : Form) (b : Bool) :
      ∀ xs : List T, T.pureList f xs = true → (b = false ∨ T.noNilList xs = true) →
        T.toFormList f b xs = xs
    | [], _, _ => rfl
    | x :: xs, h, h2 => by
      simp only [T.pureList, T.noNilList, Bool.and_eq_true] at h h2
      simp only [T.toFormList, toForm_of_pure f b x h.1 (h2.imp_right And.left),
        toFormList_of_pure f b xs h.2 (h2.imp_right And.right)]
  theorem toFormKvs_of_pure (f : Form) (b : Bool) :
      ∀ xs : List (String × T), T.pureKvs f xs = true → (b = false ∨ T.noNilKvs xs = true) →
        T.toFormKvs f b xs = xs
    | [], _, _ => rfl
    | (k, x) :: xs, h, h2 => by
      simp only [T.pureKvs, T.noNilKvs, Bool.and_eq_true] at h h2
      simp only [T.toFormKvs, toForm_of_pure f b x h.1 (h2.imp_right And.left),
        toFormKvs_of_pure f b xs h.2 (h2.imp_right And.right)]
end

mutual
  theorem pure_toForm (f f' : Form) (b : Bool) : ∀ t : T, t.pure f' = true → (t.toForm f b).pure f = true
    | .null, _ => rfl
    | .bool _ _, _ | .int _ _, _ | .flt _ _, _ | .str _ _, _ => decide_eq_true rfl
    | .big _ _, h => by cases h
    | .nilArr _, _ | .nilObj _, _ => by cases b <;> simp [T.toForm, T.pure, T.pureList, T.pureKvs]
    | .arr _ xs, h => by
      simp only [T.pure, Bool.and_eq_true] at h
      simp [T.toForm, T.pure, pureList_toFormList f f' b xs h.2]
    | .obj _ kvs, h => by
      simp only [T.pure, Bool.and_eq_true] at h
      simp [T.toForm, T.pure, pureKvs_toFormKvs f f' b kvs h.2]
  theorem pureList_toFormList (f f' : Form) (b : Bool) :
      ∀ xs : List T, T.pureList f' xs = true → T.pureList f (T.toFormList f b xs) = true
    | [], _ => rfl
    | x :: xs, h => by
      simp only [T.pureList, Bool.and_eq_true] at h
      simp [T.toFormList, T.pureList, pure_toForm f f' b x h.1, pureList_toFormList f f' b xs h.2]
  theorem pureKvs_toFormKvs (f f' : Form) (b : Bool) :
      ∀ xs : List (String × T), T.pureKvs f' xs = true → T.pureKvs f (T.toFormKvs f b xs) = true
    | [], _ => rfl
    | (k, x) :: xs, h => by
      simp only [T.pureKvs, Bool.and_eq_true] at h
      simp [T.toFormKvs, T.pureKvs, pure_toForm f f' b x h.1, pureKvs_toFormKvs f f' b xs h.2]
end

theorem toForm_back {f : Form} (g : Form) {b : Bool} {t : T} (hp : t.pure f = true)
    (hn : b = false ∨ t.noNil = true) : (t.toForm g b).toForm f false = t := by
  rw [toForm_toForm, Bool.or_false]
  exact toForm_of_pure f b t hp hn

/-- if some invariant of the options rules out dropping and survives the recursive calls, every
member is kept -/
structure KeepInv (k : Kind) (P : Opt → Prop) : Prop where
  drop : ∀ o, P o → k.dropsNil o = false
  arr : ∀ o, P o → P (k.arrOpt o)
  map : ∀ o, P o → P (k.mapOpt o)

mutual
  theorem keeps_of_inv {k : Kind} {P : Opt → Prop} (inv : KeepInv k P) :
      ∀ (t : T) (o : Opt), P o → t.keeps k o = true
    | .arr _ xs, o, h => keepsList_of_inv inv xs _ (inv.arr o h)
    | .obj _ kvs, o, h => keepsKvs_of_inv inv kvs o h
    | .null, _, _ | .bool _ _, _, _ | .int _ _, _, _ | .flt _ _, _, _ | .str _ _, _, _ | .big _ _, _, _
    | .nilArr _, _, _ | .nilObj _, _, _ => rfl
  theorem keepsList_of_inv {k : Kind} {P : Opt → Prop} (inv : KeepInv k P) :
      ∀ (xs : List T) (o : Opt), P o → T.keepsList k o xs = true
    | [], _, _ => rfl
    | x :: xs, o, h => by simp [T.keepsList, keeps_of_inv inv x o h, keepsList_of_inv inv xs o h]
  theorem keepsKvs_of_inv {k : Kind} {P : Opt → Prop} (inv : KeepInv k P) :
      ∀ (xs : List (String × T)) (o : Opt), P o → T.keepsKvs k o xs = true
    | [], _, _ => rfl
    | (_, x) :: xs, o, h => by
      simp [T.keepsKvs, inv.drop o h, keeps_of_inv inv x _ (inv.map o h), keepsKvs_of_inv inv xs o h]
end

end OjgVerif.Conv
