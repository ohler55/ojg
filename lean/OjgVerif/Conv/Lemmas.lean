import OjgVerif.Conv.Model
/-! The frame rule (`frame`): `denote` and `owns` of a root depend on the cells it owns only. A write outside the
footprint (`frame_set`) is a case of it, and so is an extension (`Ext`), a heap that agrees with the old one on every old
cell (`owns_ext`, `denote_ext`). `Reach` is what `owns` enumerates: `reach_mem_owns` is the half the no-alias theorems
use, `owns_mem_reach` the converse. -/
namespace OjgVerif.Conv

theorem mapOpt_cons_some {α β : Type} {d : α → Option β} {x : α} {xs : List α} {ys : List β} :
    mapOpt d (x :: xs) = some ys ↔ ∃ y ys', d x = some y ∧ mapOpt d xs = some ys' ∧ ys = y :: ys' := by
  simp only [mapOpt]
  cases d x with
  | none => simp
  | some y => cases mapOpt d xs <;> simp [eq_comm]

theorem mapOptKv_cons_some {α β : Type} {d : α → Option β} {k : String} {x : α}
    {xs : List (String × α)} {ys : List (String × β)} :
    mapOptKv d ((k, x) :: xs) = some ys ↔
      ∃ y ys', d x = some y ∧ mapOptKv d xs = some ys' ∧ ys = (k, y) :: ys' := by
  simp only [mapOptKv]
  cases d x with
  | none => simp
  | some y => cases mapOptKv d xs <;> simp [eq_comm]

theorem mapOpt_isEmpty {α β : Type} {d : α → Option β} {xs : List α} {ys : List β}
    (h : mapOpt d xs = some ys) : xs.isEmpty = ys.isEmpty := by
  cases xs with
  | nil => cases h; rfl
  | cons x xs => obtain ⟨_, _, _, _, rfl⟩ := mapOpt_cons_some.1 h; rfl

theorem mapOptKv_isEmpty {α β : Type} {d : α → Option β} {xs : List (String × α)}
    {ys : List (String × β)} (h : mapOptKv d xs = some ys) : xs.isEmpty = ys.isEmpty := by
  cases xs with
  | nil => cases h; rfl
  | cons x xs => obtain ⟨_, _, _, _, rfl⟩ := mapOptKv_cons_some.1 h; rfl

theorem mapOpt_congr {α β : Type} {d d' : α → Option β} :
    ∀ {xs : List α}, (∀ x, x ∈ xs → d x = d' x) → mapOpt d xs = mapOpt d' xs
  | [], _ => rfl
  | x :: xs, h => by
    simp only [mapOpt]
    rw [h x List.mem_cons_self, mapOpt_congr (fun x' hx' => h x' (List.mem_cons_of_mem _ hx'))]

theorem mapOptKv_congr {α β : Type} {d d' : α → Option β} :
    ∀ {xs : List (String × α)}, (∀ x, x ∈ xs.map (·.2) → d x = d' x) → mapOptKv d xs = mapOptKv d' xs
  | [], _ => rfl
  | (k, x) :: xs, h => by
    simp only [mapOptKv]
    rw [h x List.mem_cons_self, mapOptKv_congr (fun x' hx' => h x' (List.mem_cons_of_mem _ hx'))]

theorem mapOpt_mem {α β : Type} {d : α → Option β} :
    ∀ {xs : List α} {ys : List β}, mapOpt d xs = some ys → ∀ x, x ∈ xs → ∃ y, d x = some y ∧ y ∈ ys
  | x0 :: xs, ys, h, x, hx => by
    obtain ⟨y, ys', h0, hr, rfl⟩ := mapOpt_cons_some.1 h
    rcases List.mem_cons.1 hx with rfl | hx'
    · exact ⟨y, h0, List.mem_cons_self⟩
    · obtain ⟨y', hy', hm⟩ := mapOpt_mem hr x hx'
      exact ⟨y', hy', List.mem_cons_of_mem _ hm⟩

theorem mapOpt_mem_inv {α β : Type} {d : α → Option β} :
    ∀ {xs : List α} {ys : List β}, mapOpt d xs = some ys → ∀ y, y ∈ ys → ∃ x, x ∈ xs ∧ d x = some y
  | [], ys, h, y, hy => by cases h; cases hy
  | x0 :: xs, ys, h, y, hy => by
    obtain ⟨y0, ys', h0, hr, rfl⟩ := mapOpt_cons_some.1 h
    rcases List.mem_cons.1 hy with rfl | hy'
    · exact ⟨x0, List.mem_cons_self, h0⟩
    · obtain ⟨x, hx, hd⟩ := mapOpt_mem_inv hr y hy'
      exact ⟨x, List.mem_cons_of_mem _ hx, hd⟩

theorem mapOptKv_mem {α β : Type} {d : α → Option β} :
    ∀ {xs : List (String × α)} {ys : List (String × β)}, mapOptKv d xs = some ys →
      ∀ x, x ∈ xs.map (·.2) → ∃ y, d x = some y
  | (k, x0) :: xs, ys, h, x, hx => by
    obtain ⟨y, ys', h0, hr, rfl⟩ := mapOptKv_cons_some.1 h
    rcases List.mem_cons.1 hx with rfl | hx'
    · exact ⟨y, h0⟩
    · exact mapOptKv_mem hr x hx'

theorem mapOpt_exists {α β : Type} {d : α → Option β} :
    ∀ {xs : List α}, (∀ x, x ∈ xs → ∃ y, d x = some y) → ∃ ys, mapOpt d xs = some ys
  | [], _ => ⟨[], rfl⟩
  | x :: xs, h => by
    obtain ⟨y, hy⟩ := h x List.mem_cons_self
    obtain ⟨ys, hys⟩ := mapOpt_exists (xs := xs) fun x' hx' => h x' (List.mem_cons_of_mem _ hx')
    exact ⟨y :: ys, mapOpt_cons_some.2 ⟨y, ys, hy, hys, rfl⟩⟩

structure Ext (H H' : Heap) : Prop where
  len : H.length ≤ H'.length
  get : ∀ (a : Nat) (c : Cell), H[a]? = some c → H'[a]? = some c

theorem getElem?_lt {H : Heap} {a : Addr} {c : Cell} (h : H[a]? = some c) : a < H.length :=
  (List.getElem?_eq_some_iff.1 h).1

theorem Ext.append (H : Heap) (l : List Cell) : Ext H (H ++ l) :=
  ⟨by simp, fun a c h => by rw [List.getElem?_append_left (getElem?_lt h)]; exact h⟩

theorem Ext.old {H H' : Heap} (e : Ext H H') {a : Addr} (h : a < H.length) : H'[a]? = H[a]? := by
  have : H[a]? = some H[a] := List.getElem?_eq_getElem h
  rw [this]; exact e.get a _ this

theorem denote_scalar {n : Nat} {H : Heap} {r : Ref} {t : T} (h : denoteScalar r = some t) :
    denote n H r = some t := by
  cases n <;> cases r <;> first | exact h | cases h

theorem owns_of_scalar {n : Nat} {H : Heap} {r : Ref} {t : T} (h : denoteScalar r = some t) :
    owns n H r = some [] := by
  cases n <;> cases r <;> first | rfl | cases h

theorem addr_none_of_scalar {r : Ref} {t : T} (h : denoteScalar r = some t) : r.addr? = none := by
  cases r <;> first | rfl | cases h

theorem owns_scalar {n : Nat} {H : Heap} {r : Ref} {S : List Addr} (hr : r.addr? = none)
    (h : owns n H r = some S) : S = [] := by
  cases n <;> cases r <;> first | (cases h <;> rfl) | cases hr

theorem denote_arr_some {n : Nat} {H : Heap} {f : Form} {a : Addr} {t : T} :
    denote (n + 1) H (.arr f a) = some t ↔
      ∃ xs ts, H[a]? = some (.arr xs) ∧ mapOpt (denote n H) xs = some ts ∧ t = .arr f ts := by
  simp only [denote]
  cases H[a]? with
  | none => simp
  | some c =>
    cases c with
    | arr xs => cases hm : mapOpt (denote n H) xs <;> simp [hm, eq_comm]
    | obj _ => simp

theorem denote_obj_some {n : Nat} {H : Heap} {f : Form} {a : Addr} {t : T} :
    denote (n + 1) H (.obj f a) = some t ↔
      ∃ kvs ts, H[a]? = some (.obj kvs) ∧ mapOptKv (denote n H) kvs = some ts ∧ t = .obj f ts := by
  simp only [denote]
  cases H[a]? with
  | none => simp
  | some c =>
    cases c with
    | arr _ => simp
    | obj kvs => cases hm : mapOptKv (denote n H) kvs <;> simp [hm, eq_comm]

theorem owns_arr_some {n : Nat} {H : Heap} {f : Form} {a : Addr} {S : List Addr} :
    owns (n + 1) H (.arr f a) = some S ↔
      ∃ xs Ss, H[a]? = some (.arr xs) ∧ mapOpt (owns n H) xs = some Ss ∧ S = a :: Ss.flatten := by
  simp only [owns]
  cases H[a]? with
  | none => simp
  | some c =>
    cases c with
    | arr xs => cases hm : mapOpt (owns n H) xs <;> simp [hm, eq_comm]
    | obj _ => simp

theorem owns_obj_some {n : Nat} {H : Heap} {f : Form} {a : Addr} {S : List Addr} :
    owns (n + 1) H (.obj f a) = some S ↔
      ∃ kvs Ss, H[a]? = some (.obj kvs) ∧ mapOpt (owns n H) (kvs.map (·.2)) = some Ss ∧
        S = a :: Ss.flatten := by
  simp only [owns]
  cases H[a]? with
  | none => simp
  | some c =>
    cases c with
    | arr _ => simp
    | obj kvs => cases hm : mapOpt (owns n H) (kvs.map (·.2)) <;> simp [hm, eq_comm]

theorem owns_of_addr {H : Heap} {r : Ref} {a : Addr} (hadr : r.addr? = some a) {n : Nat} {S : List Addr}
    (h : owns n H r = some S) :
    ∃ m c Ss, n = m + 1 ∧ H[a]? = some c ∧ mapOpt (owns m H) c.refs = some Ss ∧ S = a :: Ss.flatten := by
  cases n with
  | zero => cases r <;> cases h <;> cases hadr
  | succ n =>
    cases r with
    | arr f a' => cases hadr; obtain ⟨xs, Ss, hc, hm, rfl⟩ := owns_arr_some.1 h; exact ⟨n, _, Ss, rfl, hc, hm, rfl⟩
    | obj f a' => cases hadr; obtain ⟨kvs, Ss, hc, hm, rfl⟩ := owns_obj_some.1 h; exact ⟨n, _, Ss, rfl, hc, hm, rfl⟩
    | _ => cases hadr

theorem mem_owns_cases {H : Heap} {n : Nat} {r : Ref} {S : List Addr} (h : owns n H r = some S) {a : Addr} (ha : a ∈ S) :
    ∃ m a0 c, n = m + 1 ∧ r.addr? = some a0 ∧ H[a0]? = some c ∧
      (a = a0 ∨ ∃ x Sx, x ∈ c.refs ∧ owns m H x = some Sx ∧ a ∈ Sx) := by
  cases hadr : r.addr? with
  | none => cases owns_scalar hadr h; cases ha
  | some a0 =>
    obtain ⟨m, c, Ss, rfl, hc, hm, rfl⟩ := owns_of_addr hadr h
    refine ⟨m, a0, c, rfl, rfl, hc, (List.mem_cons.1 ha).imp_right fun ha' => ?_⟩
    obtain ⟨Sx, hSx, hax⟩ := List.mem_flatten.1 ha'
    obtain ⟨x, hx, hd⟩ := mapOpt_mem_inv hm Sx hSx
    exact ⟨x, Sx, hx, hd, hax⟩

theorem owns_lt : ∀ (n : Nat) (H : Heap) (r : Ref) (S : List Addr), owns n H r = some S →
    ∀ a, a ∈ S → a < H.length := by
  intro n
  induction n with
  | zero => intro H r S h a ha; obtain ⟨m, _, _, hn, _⟩ := mem_owns_cases h ha; cases hn
  | succ n ih =>
    intro H r S h a ha
    obtain ⟨m, a0, c, hn, _, hc, rfl | ⟨x, Sx, _, hd, hax⟩⟩ := mem_owns_cases h ha
    · exact getElem?_lt hc
    · cases hn; exact ih H x Sx hd a hax

theorem owns_list_lt {n : Nat} {H : Heap} {xs : List Ref} {Ss : List (List Addr)}
    (h : mapOpt (owns n H) xs = some Ss) : ∀ a, a ∈ Ss.flatten → a < H.length := by
  intro a ha
  obtain ⟨S, hS, haS⟩ := List.mem_flatten.1 ha
  obtain ⟨x, _, hx⟩ := mapOpt_mem_inv h S hS
  exact owns_lt n H x S hx a haS

theorem denote_owns : ∀ (n : Nat) (H : Heap) (r : Ref) (t : T), denote n H r = some t →
    ∃ S, owns n H r = some S
  | 0, H, r, t, h => ⟨[], owns_of_scalar h⟩
  | n + 1, H, r, t, h => by
    cases r with
    | arr f a0 =>
      obtain ⟨xs, ts, hc, hm, rfl⟩ := denote_arr_some.1 h
      obtain ⟨Ss, hSs⟩ := mapOpt_exists (d := owns n H) (xs := xs) fun x hx =>
        let ⟨y, hy, _⟩ := mapOpt_mem hm x hx
        denote_owns n H x y hy
      exact ⟨_, owns_arr_some.2 ⟨xs, Ss, hc, hSs, rfl⟩⟩
    | obj f a0 =>
      obtain ⟨kvs, ts, hc, hm, rfl⟩ := denote_obj_some.1 h
      obtain ⟨Ss, hSs⟩ := mapOpt_exists (d := owns n H) (xs := kvs.map (·.2)) fun x hx =>
        let ⟨y, hy⟩ := mapOptKv_mem hm x hx
        denote_owns n H x y hy
      exact ⟨_, owns_obj_some.2 ⟨kvs, Ss, hc, hSs, rfl⟩⟩
    | nilArr _ | nilObj _ => exact ⟨[], rfl⟩
    | _ => exact ⟨[], owns_of_scalar h⟩

theorem frame_members {H H2 : Heap} {n : Nat} {xs : List Ref} {Ss : List (List Addr)}
    (ih : ∀ x S, owns n H x = some S → (∀ a, a ∈ S → H2[a]? = H[a]?) →
      owns n H2 x = some S ∧ denote n H2 x = denote n H x)
    (hm : mapOpt (owns n H) xs = some Ss) (hag : ∀ a, a ∈ Ss.flatten → H2[a]? = H[a]?) :
    mapOpt (owns n H2) xs = some Ss ∧ ∀ x, x ∈ xs → denote n H2 x = denote n H x := by
  have hx : ∀ x, x ∈ xs → owns n H2 x = owns n H x ∧ denote n H2 x = denote n H x := fun x hx =>
    let ⟨Sx, hSx, hmem⟩ := mapOpt_mem hm x hx
    let ⟨h1, h2⟩ := ih x Sx hSx fun a ha => hag a (List.mem_flatten_of_mem hmem ha)
    ⟨h1.trans hSx.symm, h2⟩
  exact ⟨(mapOpt_congr fun x hx' => (hx x hx').1).trans hm, fun x hx' => (hx x hx').2⟩

theorem frame {H H2 : Heap} : ∀ (n : Nat) (r : Ref) (S : List Addr), owns n H r = some S →
    (∀ a, a ∈ S → H2[a]? = H[a]?) → owns n H2 r = some S ∧ denote n H2 r = denote n H r
  | 0, _, _, h, _ => ⟨h, rfl⟩
  | n + 1, r, S, h, hag => by
    cases r with
    | arr f a0 =>
      obtain ⟨xs, Ss, hc, hm, rfl⟩ := owns_arr_some.1 h
      have hc2 : H2[a0]? = some (.arr xs) := (hag a0 List.mem_cons_self).trans hc
      obtain ⟨ho, hd⟩ := frame_members (frame n) hm fun a ha => hag a (List.mem_cons_of_mem _ ha)
      exact ⟨owns_arr_some.2 ⟨xs, Ss, hc2, ho, rfl⟩, by simp only [denote, hc, hc2, mapOpt_congr hd]⟩
    | obj f a0 =>
      obtain ⟨kvs, Ss, hc, hm, rfl⟩ := owns_obj_some.1 h
      have hc2 : H2[a0]? = some (.obj kvs) := (hag a0 List.mem_cons_self).trans hc
      obtain ⟨ho, hd⟩ := frame_members (frame n) hm fun a ha => hag a (List.mem_cons_of_mem _ ha)
      exact ⟨owns_obj_some.2 ⟨kvs, Ss, hc2, ho, rfl⟩, by simp only [denote, hc, hc2, mapOptKv_congr hd]⟩
    | _ => exact ⟨h, rfl⟩

theorem frame_list {H H2 : Heap} {n : Nat} {xs : List Ref} {Ss : List (List Addr)}
    (hm : mapOpt (owns n H) xs = some Ss) (hag : ∀ a, a ∈ Ss.flatten → H2[a]? = H[a]?) :
    mapOpt (owns n H2) xs = some Ss ∧ mapOpt (denote n H2) xs = mapOpt (denote n H) xs :=
  (frame_members (frame n) hm hag).imp_right mapOpt_congr

theorem frame_kvs {H H2 : Heap} {n : Nat} {kvs : List (String × Ref)} {Ss : List (List Addr)}
    (hm : mapOpt (owns n H) (kvs.map (·.2)) = some Ss) (hag : ∀ a, a ∈ Ss.flatten → H2[a]? = H[a]?) :
    mapOpt (owns n H2) (kvs.map (·.2)) = some Ss ∧
      mapOptKv (denote n H2) kvs = mapOptKv (denote n H) kvs :=
  (frame_members (frame n) hm hag).imp_right mapOptKv_congr

theorem frame_set {H : Heap} {n : Nat} {r : Ref} {S : List Addr} (h : owns n H r = some S) {a : Addr} (ha : a ∉ S)
    (c : Cell) : denote n (H.set a c) r = denote n H r :=
  (frame n r S h fun b hb => List.getElem?_set_ne fun (hab : a = b) => ha (hab ▸ hb)).2

theorem owns_ext {H H' : Heap} (e : Ext H H') (n : Nat) (r : Ref) (S : List Addr) (h : owns n H r = some S) :
    owns n H' r = some S :=
  (frame n r S h fun a ha => e.old (owns_lt n H r S h a ha)).1

theorem denote_ext {H H' : Heap} (e : Ext H H') (n : Nat) (r : Ref) (t : T) (h : denote n H r = some t) :
    denote n H' r = some t :=
  let ⟨S, hS⟩ := denote_owns n H r t h
  (frame n r S hS fun a ha => e.old (owns_lt n H r S hS a ha)).2.trans h

theorem reach_mem_owns {H : Heap} {r : Ref} {a : Addr} (hr : Reach H r a) :
    ∀ (n : Nat) (S : List Addr), owns n H r = some S → a ∈ S := by
  induction hr with
  | here hadr =>
    intro n S h
    obtain ⟨_, _, _, _, _, _, rfl⟩ := owns_of_addr hadr h
    exact List.mem_cons_self
  | step hadr hc hmem _ ih =>
    intro n S h
    obtain ⟨m, c, Ss, rfl, hc', hm, rfl⟩ := owns_of_addr hadr h
    cases hc.symm.trans hc'
    obtain ⟨Sx, hSx, hin⟩ := mapOpt_mem hm _ hmem
    exact List.mem_cons_of_mem _ (List.mem_flatten_of_mem hin (ih m Sx hSx))

theorem owns_mem_reach {H : Heap} : ∀ (n : Nat) (r : Ref) (S : List Addr), owns n H r = some S →
    ∀ a, a ∈ S → Reach H r a := by
  intro n
  induction n with
  | zero => intro r S h a ha; obtain ⟨m, _, _, hn, _⟩ := mem_owns_cases h ha; cases hn
  | succ n ih =>
    intro r S h a ha
    obtain ⟨m, a0, c, hn, hadr, hc, rfl | ⟨x, Sx, hx, hd, hax⟩⟩ := mem_owns_cases h ha
    · exact .here hadr
    · cases hn; exact .step hadr hc hx (ih x Sx hd a hax)
end OjgVerif.Conv
