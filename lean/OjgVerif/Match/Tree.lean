import OjgVerif.Match.Spec
import OjgVerif.Common.JVInduction
import OjgVerif.Common.BytesLemmas
/-! What the functions of the specification do on a scalar (`isLeafJV`; the induction `tree_induction` that treats all
scalars as one case is in Common/JVInduction.lean), and the members of an object arriving one by one (`insertAll`). -/
namespace OjgVerif.Match

theorem events_of_leaf {v : JV} (h : isLeafJV v = true) : events v = [.leaf v] := by
  cases v <;> first | rfl | cases h

theorem locs_of_leaf (p : NPath) (v : JV) (h : isLeafJV v = true) : locs p v = [(p, v)] := by
  cases v <;> first | rfl | cases h

theorem noDupKeys_of_leaf {v : JV} (h : isLeafJV v = true) : NoDupKeys v = true := by
  cases v <;> first | rfl | cases h

/-- `tree_induction` over trees without a repeated member name: the hypothesis is taken apart once, here; the cases
of a container are handed what it says of the container itself -/
theorem nodup_induction {P : JV → Prop} {PL : List JV → Prop} {PK : List (Bytes × JV) → Prop}
    (leaf : ∀ v, isLeafJV v = true → P v)
    (arr : ∀ xs, NoDupKeysList xs = true → PL xs → P (.arr xs))
    (obj : ∀ kvs, keysDistinct kvs = true → NoDupKeysKvs kvs = true → PK kvs → P (.obj kvs))
    (nil : PL []) (cons : ∀ x r, P x → PL r → PL (x :: r))
    (knil : PK []) (kcons : ∀ k v r, P v → PK r → PK ((k, v) :: r)) :
    (∀ v, NoDupKeys v = true → P v) ∧ (∀ xs, NoDupKeysList xs = true → PL xs) ∧
      (∀ kvs, NoDupKeysKvs kvs = true → PK kvs) := by
  refine tree_induction (fun v hl _ => leaf v hl) (fun xs ih h => ?_) (fun kvs ih h => ?_) (fun _ => nil)
    (fun x r ihx ihr h => ?_) (fun _ => knil) (fun k v r ihv ihr h => ?_) <;>
    simp only [NoDupKeys, NoDupKeysList, NoDupKeysKvs, Bool.and_eq_true] at h
  · exact arr xs h (ih h)
  · exact obj kvs h.1 h.2 (ih h.2)
  · exact cons x r (ihx h.1) (ihr h.2)
  · exact kcons k v r (ihv h.1) (ihr h.2)

/-- a repeated name overwrites (`kvInsert`); `= acc ++ kvs` when the names are fresh (`insertAll_distinct`) -/
def insertAll (acc : List (Bytes × JV)) (kvs : List (Bytes × JV)) : List (Bytes × JV) :=
  kvs.foldl (fun a kv => kvInsert kv.1 kv.2 a) acc

theorem insertAll_distinct : ∀ (kvs acc : List (Bytes × JV)), keysDistinct kvs = true →
    (∀ kv ∈ kvs, (acc.any fun a => a.1 == kv.1) = false) → insertAll acc kvs = acc ++ kvs
  | [], acc, _, _ => by simp [insertAll]
  | (k, v) :: r, acc, hd, hacc => by
    simp only [keysDistinct, Bool.and_eq_true, Bool.not_eq_true'] at hd
    have h1 : kvInsert k v acc = acc ++ [(k, v)] := kvInsert_fresh k v acc fun x hx e => by
      simpa [e] using List.any_eq_false.1 (hacc (k, v) (by simp)) x hx
    have := insertAll_distinct r (acc ++ [(k, v)]) hd.2 (by
      intro kv hkv
      have ha := hacc kv (by simp [hkv])
      have hr : ¬ kv.1 = k := by
        have := hd.1
        simp only [List.any_eq_false] at this
        simpa using this kv hkv
      simp only [List.any_append, ha, List.any_cons, List.any_nil, Bool.or_false, Bool.false_or]
      simpa using fun h => hr h.symm)
    simp only [insertAll, List.foldl_cons] at this ⊢
    rw [h1, this]
    simp

theorem insertAll_nil (kvs : List (Bytes × JV)) (h : keysDistinct kvs = true) : insertAll [] kvs = kvs := by
  simpa using insertAll_distinct kvs [] h (by simp)

end OjgVerif.Match
