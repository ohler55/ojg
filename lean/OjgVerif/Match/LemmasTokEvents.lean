import OjgVerif.Match.Tokenizer
import OjgVerif.Match.LemmasTokRaw
import OjgVerif.Json.Ctl
/-! The handler calls of the tokenizer (`emit`, Match/Tokenizer.lean) against the build stack of the
machine: after every byte the events handed over so far are the events of the documents already
delivered followed by the events of the partly built value on the stack (`TokPre`), where the
machine's stack is the raw stack with repeated member names overwritten (`dd`). Hence for an
accepted input the event sequence is `events` of the trees as written (`tokEvents_accepted_ref`).
The actions that call the handler are those with `Act.emits` (Match/Tokenizer.lean): the proof of each goes
through the switch equation (`stepAct_of_act`) and follows `addK`, `flushK`, `popObjK`, `popArrK` on the raw
stack, with the machine's own invariants (`WF`, `Shape`: Json/Wf.lean). No other action touches the build
stack (`noemit_facts`): these are covered by the machine's frame (`stepAct_frame`) and control abstraction
(`stepAct_ctl_eq`). -/
namespace OjgVerif.Match
open OjgVerif.Json

/-- `RS`: the build stack as written (members in the order of the text, repeated names kept); `raws`: the
documents delivered so far as written, OLDEST first (the machine's `docs` is newest first, hence `.reverse`).
`TokPre` without its top-level clause; `core_nil` needs no more. -/
def TokCore (stack : List Item) (docs : List JV) (evs : List Event) (RS : List Item) (raws : List JV) : Prop :=
  stack = RS.map ddItem ∧ docs = (raws.map dd).reverse ∧ evs = raws.flatMap events ++ openEv RS

/-- the invariant. Last clause: at top level in mode `after` the raw stack is exactly one finished value, the
one `deliver` moves to `docs` (`deliver_tok`); it only matters between the action switch and the delivery test -/
def TokPre (s : Json.St) (evs : List Event) : Prop :=
  ∃ RS raws, TokCore s.stack s.docs evs RS raws ∧ (s.starts = [] → s.mode = .after → ∃ rv, RS = [.val rv])

theorem shape_nil {st : List Item} {need : Bool} (h : Shape [] st need) : st = [] := by
  simpa [Shape] using h

theorem isLeaf_num (n : Num) : isLeafJV n.asNum.toJV = true := by
  cases n.asNum <;> rfl

theorem addK_raw (rv : JV) (RS : List Item) {st : List Item} (h : addK (dd rv) (RS.map ddItem) = .ok st) :
    st = (rawAdd rv RS).map ddItem := by
  unfold addK at h
  cases ha : addItem (dd rv) (RS.map ddItem) with
  | error w => rw [ha] at h; cases h
  | ok st' => rw [ha] at h; cases h; exact addItem_raw rv RS _ ha

theorem core_nil {s : Json.St} {evs : List Event} {RS : List Item} {raws : List JV} (hw : WF s)
    (hc : TokCore s.stack s.docs evs RS raws) (hs : s.starts = []) : RS = [] := by
  have h0 : s.stack = [] := shape_nil (by have := hw.shape; rw [hs] at this; exact this)
  have := hc.1
  rw [h0] at this
  exact List.map_eq_nil_iff.mp this.symm

/-- the pending number, if there is one, is added to the raw stack and handed over -/
theorem flushK_raw {s : Json.St} {RS st : List Item} (h1 : s.stack = RS.map ddItem)
    (h : flushK refTables s = .ok st) :
    ∃ RSa, st = RSa.map ddItem ∧ openEv RSa = openEv RS ++ flushEv refTables s := by
  unfold flushK at h
  unfold flushEv
  by_cases hn : refTables.fin s.mode = .n
  · rw [if_pos hn] at h ⊢
    exact ⟨_, addK_raw _ RS (by rw [dd_of_leaf (isLeaf_num _), ← h1]; exact h), by rw [openEv_rawAdd, events_of_leaf (isLeaf_num _)]; rfl⟩
  · rw [if_neg hn] at h ⊢
    cases h
    exact ⟨RS, h1, (List.append_nil _).symm⟩

theorem tokenEv_eq (T : Tables) (s : Json.St) (b : UInt8) :
    tokenEv T s b = match tokLit T s.mode with
      | none => []
      | some (lit, v, _) =>
        if lit.getD (s.ri + 1) 0 = b then (if lit.length - 1 ≤ s.ri + 1 then [.leaf v] else []) else [] := by
  unfold tokenEv tokLit
  by_cases h1 : T.act s.mode 114 = .tokenOk
  · simp only [h1, ↓reduceIte]; rfl
  by_cases h2 : T.act s.mode 97 = .tokenOk
  · simp only [h1, h2, ↓reduceIte]; rfl
  cases h3 : (decide (T.act s.mode 117 = .tokenOk) && decide (T.act s.mode 108 = .tokenOk)) <;>
    simp only [h1, h2, ↓reduceIte, Bool.false_eq_true] <;> rfl

theorem tokLit_leaf {T : Tables} {m : Mode} {p : Bytes × JV × ErrKind} (h : tokLit T m = some p) :
    isLeafJV p.2.1 = true := by
  unfold tokLit at h
  split at h
  · cases h; rfl
  · split at h
    · cases h; rfl
    · split at h <;> cases h
      rfl

theorem stepAct_ok {T : Tables} {cfg : Cfg} {s s1 : Json.St} {b : UInt8} {c : Bool} {a : Act}
    (hact : T.act s.mode b = a) (h : stepAct T cfg s b = .ok (s1, c)) :
    ∃ st, a.build T b s = .ok st ∧ s1 = a.upd T cfg b s st := by
  rw [stepAct_of_act hact] at h
  cases hb : a.build T b s with
  | error k => rw [hb] at h; cases h
  | ok st => rw [hb] at h; cases h; exact ⟨st, rfl, rfl⟩

theorem tok_push {s s1 : Json.St} {evs : List Event} (it : Item) (hp : TokPre s evs)
    (hst : s1.stack = ddItem it :: s.stack) (hd : s1.docs = s.docs)
    (htop : s1.starts = [] → s1.mode ≠ .after) : TokPre s1 (evs ++ itemEv it) := by
  obtain ⟨RS, raws, ⟨h1, h2, h3⟩, _⟩ := hp
  exact ⟨it :: RS, raws, ⟨by rw [hst, h1]; rfl, by rw [hd, h2], by rw [h3, List.append_assoc]; rfl⟩,
    fun hs hm => absurd hm (htop hs)⟩

/-- a value `rv` is added to the raw stack `RSb` below it: its events are complete; `htop`: at the top
level nothing else is under construction -/
theorem tok_add {s1 : Json.St} {evs : List Event} {RSb st : List Item} {raws : List JV} (rv : JV)
    (hadd : addK (dd rv) (RSb.map ddItem) = .ok st) (hst : s1.stack = st)
    (hd : s1.docs = (raws.map dd).reverse) (hev : evs = raws.flatMap events ++ openEv RSb ++ events rv)
    (htop : s1.starts = [] → s1.mode = .after → RSb = []) : TokPre s1 evs :=
  ⟨rawAdd rv RSb, raws, ⟨by rw [hst, addK_raw rv RSb hadd], hd, by rw [hev, openEv_rawAdd, List.append_assoc]⟩,
    fun hs hm => ⟨rv, by rw [htop hs hm]; rfl⟩⟩

theorem tok_leaf {s s1 : Json.St} {evs : List Event} {st : List Item} (hw : WF s) (hp : TokPre s evs) (rv : JV)
    (hl : isLeafJV rv = true) (hadd : addK rv s.stack = .ok st) (hst : s1.stack = st) (hd : s1.docs = s.docs)
    (htop : s1.starts = [] → s1.mode = .after → s.starts = []) : TokPre s1 (evs ++ [.leaf rv]) := by
  obtain ⟨RS, raws, hc, _⟩ := hp
  exact tok_add rv (by rw [dd_of_leaf hl, ← hc.1]; exact hadd) hst (by rw [hd, hc.2.1])
    (by rw [hc.2.2, events_of_leaf hl]) (fun hs hm => core_nil hw hc (htop hs hm))

theorem addNum_raw {s s2 : Json.St} {RS : List Item} (h1 : s.stack = RS.map ddItem) (h : s.addNum = .ok s2) :
    s2.stack = (rawAdd s.num.asNum.toJV RS).map ddItem ∧ s2.docs = s.docs := by
  rw [St.addNum, St.add_eq] at h
  split at h <;> cases h
  exact ⟨addK_raw _ RS (by rw [dd_of_leaf (isLeaf_num _), ← h1]; assumption), rfl⟩

section
variable (cfg : Cfg) (s s1 : Json.St) (b : UInt8) (c : Bool) (evs : List Event)
variable (hw : WF s) (hp : TokPre s evs) (h : stepAct refTables cfg s b = .ok (s1, c))
include hw hp h

omit hw in
theorem tok_openObject (hact : refTables.act s.mode b = .openObject) : TokPre s1 (evs ++ emit refTables s b) := by
  obtain ⟨st, hb, rfl⟩ := stepAct_ok hact h
  cases hb
  simp only [emit, hact]
  exact tok_push (.obj []) hp rfl rfl (fun hs => nomatch hs)

omit hw in
theorem tok_openArray (hact : refTables.act s.mode b = .openArray) : TokPre s1 (evs ++ emit refTables s b) := by
  obtain ⟨st, hb, rfl⟩ := stepAct_ok hact h
  cases hb
  simp only [emit, hact]
  exact tok_push .arrMark hp rfl rfl (fun hs => nomatch hs)

theorem tok_numEnd (hact : refTables.act s.mode b = .numSpc ∨ refTables.act s.mode b = .numNewline) :
    TokPre s1 (evs ++ emit refTables s b) := by
  rcases hact with hact | hact <;>
  · obtain ⟨st, hb, rfl⟩ := stepAct_ok hact h
    simp only [emit, hact]
    exact tok_leaf hw hp _ (isLeaf_num _) hb rfl rfl (fun hs _ => hs)

theorem tok_numComma (hact : refTables.act s.mode b = .numComma) : TokPre s1 (evs ++ emit refTables s b) := by
  obtain ⟨st, hb, rfl⟩ := stepAct_ok hact h
  simp only [emit, hact]
  simp only [Act.build] at hb
  split at hb
  · cases hb
  · rename_i st' ha
    split at hb <;> cases hb
    exact tok_leaf hw hp _ (isLeaf_num _) ha rfl rfl (fun _ hm => absurd hm (afterCommaMode_ne_after s))

theorem tok_strQuote (hact : refTables.act s.mode b = .strQuote) : TokPre s1 (evs ++ emit refTables s b) := by
  obtain ⟨st, hb, rfl⟩ := stepAct_ok hact h
  simp only [emit, hact]
  simp only [Act.build] at hb
  by_cases hk : refTables.act s.nextMode 58 = .colonColon
  · rw [if_pos hk] at hb ⊢
    cases hb
    refine tok_push (.key s.tmp.reverse) hp rfl rfl (fun _ hm => ?_)
    -- the mode after a member name is not `after`
    have hm : s.nextMode = .after := hm
    rw [hm] at hk
    revert hk
    decide
  · rw [if_neg hk] at hb ⊢
    exact tok_leaf hw hp _ rfl hb rfl rfl (fun hs _ => hs)

theorem tok_tokenOk (hact : refTables.act s.mode b = .tokenOk) : TokPre s1 (evs ++ emit refTables s b) := by
  have hsrc := src_ok s.mode b
  rw [show Json.expected s.mode b = _ from hact] at hsrc
  have hm : s.mode ≠ .after := by
    intro hm
    rw [hm] at hsrc
    simp [srcModes] at hsrc
  obtain ⟨st, hb, rfl⟩ := stepAct_ok hact h
  simp only [emit, hact, tokenEv_eq]
  simp only [Act.build, Act.upd] at hb ⊢
  -- no letter of a literal, a letter in the middle, or the last one: only that adds the value
  have hsame : ∀ (ri : Nat), TokPre { s with stack := s.stack, ri := ri } (evs ++ []) := by
    intro ri
    obtain ⟨RS, raws, hc, _⟩ := hp
    exact ⟨RS, raws, by simpa using hc, fun _ hm' => absurd hm' hm⟩
  cases htl : tokLit refTables s.mode with
  | none =>
    simp only [htl] at hb ⊢
    cases hb
    exact hsame s.ri
  | some p =>
    simp only [htl] at hb ⊢
    by_cases hl : p.1.getD (s.ri + 1) 0 = b
    · by_cases hlast : p.1.length - 1 ≤ s.ri + 1
      · simp only [hl, hlast, ↓reduceIte] at hb ⊢
        exact tok_leaf hw hp _ (tokLit_leaf htl) hb rfl rfl (fun hs _ => hs)
      · simp only [hl, hlast, ↓reduceIte] at hb ⊢
        cases hb
        exact hsame (s.ri + 1)
    · simp only [hl, ↓reduceIte] at hb
      cases hb

theorem tok_closeObject (hact : refTables.act s.mode b = .closeObject) : TokPre s1 (evs ++ emit refTables s b) := by
  have hsrc := src_ok s.mode b
  rw [show Json.expected s.mode b = _ from hact] at hsrc
  obtain ⟨RS, raws, ⟨c1, c2, c3⟩, _⟩ := hp
  obtain ⟨st, hb, rfl⟩ := stepAct_ok hact h
  simp only [emit, hact]
  simp only [Act.build] at hb
  split at hb
  · rename_i rest hst
    simp only [hst]
    split at hb
    · cases hb
    · rename_i hv
      rw [if_neg hv]
      -- `hv` rules out mode `value` (its end mark is `v`)
      simp only [srcModes, List.mem_cons, List.not_mem_nil, or_false] at hsrc
      obtain ⟨st1, hfl, hsh⟩ := flushK_closing hw hst hsrc fun h => absurd (by rw [h]; rfl) hv
      rw [hfl] at hb
      obtain ⟨RSa, rfl, hop⟩ := flushK_raw c1 hfl
      -- the raw stack after the flush has the open object on top
      obtain ⟨kvs, below, hs1, hbel⟩ := popObj_shape rest _ hsh
      obtain ⟨rkvs, rbelow, rfl, rfl⟩ := map_ddItem_obj hs1
      refine tok_add (.obj rkvs) hb rfl c2 ?_ (fun hs _ => ?_)
      · rw [c3, List.append_assoc, ← List.append_assoc (openEv RS), ← hop]
        simp [openEv, itemEv, events]
      · have hr : rest = [] := by simpa [Act.upd, hst] using hs
        subst hr
        exact List.map_eq_nil_iff.mp (shape_nil hbel)
  · cases hb

theorem tok_closeArray (hact : refTables.act s.mode b = .closeArray) : TokPre s1 (evs ++ emit refTables s b) := by
  have hsrc := src_ok s.mode b
  rw [show Json.expected s.mode b = _ from hact] at hsrc
  obtain ⟨RS, raws, ⟨c1, c2, c3⟩, _⟩ := hp
  obtain ⟨st, hb, rfl⟩ := stepAct_ok hact h
  simp only [emit, hact]
  simp only [Act.build] at hb
  split at hb
  · rename_i rest hst
    simp only [hst]
    simp only [srcModes, List.mem_cons, List.not_mem_nil, or_false] at hsrc
    obtain ⟨st1, hfl, vals, below, hs, hvals, hsb⟩ :=
      flushK_closing hw hst (hsrc.imp_right (Or.imp_right Or.inr)) fun _ => rfl
    rw [hfl] at hb
    obtain ⟨RSa, rfl, hop⟩ := flushK_raw c1 hfl
    -- the raw stack after the flush: values above the mark of the open array
    obtain ⟨rvals', rbelow, rfl, hrv', rfl⟩ := map_ddItem_vals vals RSa below hs hvals
    obtain ⟨relems, hsplit, hopen⟩ := splitAtMark_vals rvals' rbelow hrv' []
    have hsp : splitAtMark ((rvals' ++ .arrMark :: rbelow).map ddItem) [] = some (relems.map dd, rbelow.map ddItem) := by
      have := splitAtMark_raw (rvals' ++ .arrMark :: rbelow) []
      rw [List.map_nil, hsplit] at this
      simpa using this
    simp only [popArrK, hsp] at hb
    refine tok_add (st := st) (.arr relems) (by simpa [dd, ddList_eq_map] using hb) rfl c2 ?_ (fun hs _ => ?_)
    · rw [c3, List.append_assoc, ← List.append_assoc (openEv RS), ← hop, hopen]
      simp [events]
    · have hr : rest = [] := by simpa [Act.upd, hst] using hs
      subst hr
      exact List.map_eq_nil_iff.mp (shape_nil hsb)
  · cases hb

end

theorem emit_noemit (s : Json.St) (b : UInt8) (h : (Json.expected s.mode b).emits = false) : emit refTables s b = [] := by
  unfold emit
  have : refTables.act s.mode b = Json.expected s.mode b := rfl
  rw [this]
  cases hact : Json.expected s.mode b <;> rw [hact] at h <;> simp [Act.emits] at h <;> rfl

theorem noemit_facts (a : Act) (c : Ctl) (h : a.emits = false) :
    Fld.stack ∉ a.touches ∧ (actCtl a c).starts = c.starts ∧ ((actCtl a c).mode = .after → c.mode = .after) := by
  cases a <;> simp [Act.emits] at h <;> simp [Act.touches, actCtl]
  case afterComma => unfold afterCommaModeL; split <;> simp
  case uOk => split <;> simp

theorem stepAct_tok (cfg : Cfg) (s s1 : Json.St) (b : UInt8) (c : Bool) (evs : List Event)
    (hw : WF s) (hp : TokPre s evs) (h : stepAct refTables cfg s b = .ok (s1, c)) :
    TokPre s1 (evs ++ emit refTables s b) := by
  cases hem : (Json.expected s.mode b).emits
  · rw [emit_noemit s b hem, List.append_nil]
    obtain ⟨RS, raws, hc, _⟩ := hp
    have hk := stepAct_frame refTables cfg s s1 b c h
    obtain ⟨k0, k1, k2⟩ := noemit_facts (Json.expected s.mode b) s.ctl hem
    have hstack : s1.stack = s.stack := hk.stack k0
    have hdocs : s1.docs = s.docs := hk.docs
    have hctl := stepAct_ctl_eq cfg s s1 b c h
    refine ⟨RS, raws, by rw [hstack, hdocs]; exact hc, fun hs hm => ?_⟩
    exfalso
    have h1 : s1.ctl.starts = s.starts := by rw [hctl]; exact k1
    have h2 : s.mode = .after := k2 (by rw [← hctl]; exact hm)
    exact hw.ctl.after h2 (by rw [← h1]; exact hs)
  · cases hact : Json.expected s.mode b <;> rw [hact] at hem <;> simp [Act.emits] at hem
    · exact tok_openArray cfg s s1 b c evs hp h hact
    · exact tok_openObject cfg s s1 b c evs hp h hact
    · exact tok_closeArray cfg s s1 b c evs hw hp h hact
    · exact tok_closeObject cfg s s1 b c evs hw hp h hact
    · exact tok_numEnd cfg s s1 b c evs hw hp h (.inl hact)
    · exact tok_numEnd cfg s s1 b c evs hw hp h (.inr hact)
    · exact tok_numComma cfg s s1 b c evs hw hp h hact
    · exact tok_strQuote cfg s s1 b c evs hw hp h hact
    · exact tok_tokenOk cfg s s1 b c evs hw hp h hact

theorem fin_a_mode {m : Mode} (h : refTables.fin m = .a) : m = .after := by
  have : expectedFin m = .a := h
  cases m <;> simp [expectedFin] at this
  rfl

theorem deliver_tok (cfg : Cfg) (s : Json.St) (evs : List Event) (hp : TokPre s evs) :
    TokPre (deliver refTables cfg s) evs := by
  unfold deliver
  split
  · rename_i hcnd
    simp only [Bool.and_eq_true, List.isEmpty_iff, decide_eq_true_eq] at hcnd
    obtain ⟨RS, raws, ⟨h1, h2, h3⟩, htop⟩ := hp
    obtain ⟨rv, hrv⟩ := htop hcnd.1 (fin_a_mode hcnd.2)
    subst hrv
    refine ⟨[], raws ++ [rv], ⟨rfl, ?_, ?_⟩, fun _ hm => ?_⟩
    · simp [h1, h2, ddItem, Item.toJV]
    · simp [h3, openEv, itemEv]
    · exfalso
      simp only at hm
      split at hm <;> cases hm
  · exact hp

theorem step_tok (cfg : Cfg) (s s' : Json.St) (b : UInt8) (evs : List Event)
    (hw : WF s) (hp : TokPre s evs) (h : Json.step refTables cfg s b = .ok s') :
    TokPre s' (evs ++ emit refTables s b) := by
  obtain ⟨s1, c, hst, rfl⟩ := step_ok h
  have h1 := stepAct_tok cfg s s1 b c evs hw hp hst
  cases c
  · exact deliver_tok cfg s1 _ h1
  · exact h1

theorem runBytes_tok (cfg : Cfg) (bs : Bytes) (s s' : Json.St) (evs : List Event)
    (hw : WF s) (hp : TokPre s evs) (h : runBytes refTables cfg s bs = .ok s') :
    TokPre s' (evs ++ evBytes refTables cfg s bs) := by
  induction bs generalizing s evs with
  | nil => cases h; simpa [evBytes] using hp
  | cons b r ih =>
    simp only [runBytes] at h
    cases hst : Json.step refTables cfg s b with
    | error e => rw [hst] at h; cases h
    | ok s2 =>
      rw [hst] at h
      have := ih s2 _ ((step_wf cfg s b hw).2 s2 hst) (step_tok cfg s s2 b evs hw hp hst) h
      simpa [evBytes, hst, List.append_assoc] using this

theorem runChunks_tok (cfg : Cfg) (cs : List Bytes) (s s' : Json.St) (evs : List Event)
    (hw : WF s) (hp : TokPre s evs) (h : runChunks refTables cfg s cs = .ok s') :
    TokPre s' (evs ++ evChunks refTables cfg s cs) := by
  induction cs generalizing s evs with
  | nil => cases h; simpa [evChunks] using hp
  | cons c r ih =>
    simp only [runChunks] at h
    cases hst : runBytes refTables cfg s c with
    | error e => rw [hst] at h; cases h
    | ok s2 =>
      rw [hst] at h
      have hw2 := (runBytes_wf cfg c s hw).2 s2 hst
      have hp2 := runBytes_tok cfg c s s2 evs hw hp hst
      have := ih { s2 with inFast := false } _ (hw2.frame _ _) hp2 h
      simpa [evChunks, hst, List.append_assoc] using this

theorem finish_tok (s : Json.St) (evs : List Event) (docs : List JV) (hw : WF s) (hp : TokPre s evs)
    (h : finish refTables s = .ok docs) :
    ∃ raws : List JV, raws.map dd = docs ∧ evs ++ finishEv refTables s = raws.flatMap events := by
  obtain ⟨RS, raws, hc, _⟩ := hp
  unfold finish at h
  unfold finishEv
  split at h
  · cases h
  · rename_i hcnd
    simp only [hcnd]
    have hs : s.starts = [] := by
      cases hst : s.starts with
      | nil => rfl
      | cons x r => simp [hst] at hcnd
    have hRS : RS = [] := core_nil hw hc hs
    unfold flushEv
    split at h
    · rename_i hn
      simp only [hn, ↓reduceIte]
      cases ha : s.addNum with
      | error e => rw [ha] at h; cases h
      | ok s2 =>
        rw [ha] at h
        simp only [Except.ok.injEq] at h
        obtain ⟨h1, h2⟩ := addNum_raw hc.1 ha
        rw [hRS] at h1
        refine ⟨raws ++ [s.num.asNum.toJV], ?_, ?_⟩
        · rw [← h, h1, h2, hc.2.1]
          simp [rawAdd, ddItem, Item.toJV, dd_of_leaf (isLeaf_num _)]
        · simp only [Bool.false_eq_true, ↓reduceIte]
          rw [hc.2.2, hRS]
          simp [openEv, numEvent, events_of_leaf (isLeaf_num _)]
    · rename_i hn
      simp only [hn, ↓reduceIte, Except.ok.injEq, Bool.false_eq_true] at h ⊢
      refine ⟨raws, ?_, ?_⟩
      · rw [← h, hc.2.1]; simp
      · rw [hc.2.2, hRS]; simp [openEv]

theorem TokPre.init : TokPre {} [] :=
  ⟨[], [], ⟨rfl, rfl, rfl⟩, fun _ hm => by cases hm⟩

/-- `Json.run` and the tokenizer's entry decide alike before the first byte: both refuse (no event), or both go
on over the same buffers `cs`, whatever the table set -/
theorem run_tok_eq (cfg : Cfg) (chunks : List Bytes) :
    (∀ T, run T cfg chunks = .error { line := 1, col := 3, kind := .byte } ∧ tokEventsIdeal T cfg chunks = []) ∨
    ∃ cs, ∀ T, run T cfg chunks = afterBom T cfg cs ∧ tokEventsIdeal T cfg chunks = evAfterBom T cfg cs := by
  simp only [run_afterBom, tokEventsIdeal]
  cases (if cfg.reader then topUp (chunks.filter (!·.isEmpty)) else chunks) with
  | nil => exact Or.inr ⟨[], fun _ => ⟨rfl, rfl⟩⟩
  | cons c rest =>
    simp only
    cases (if cfg.reader then bomRuleReader c else bomRule c) with
    | bad => exact Or.inl fun _ => ⟨rfl, rfl⟩
    | strip r => exact Or.inr ⟨_, fun _ => ⟨rfl, rfl⟩⟩
    | keep => exact Or.inr ⟨_, fun _ => ⟨rfl, rfl⟩⟩

theorem evAfterBom_accepted (cfg : Cfg) (cs : List Bytes) (docs : List JV)
    (h : afterBom refTables cfg cs = .ok docs) :
    ∃ raws : List JV, raws.map dd = docs ∧ evAfterBom refTables cfg cs = raws.flatMap events := by
  unfold afterBom at h
  unfold evAfterBom
  cases hr : runChunks refTables cfg {} cs with
  | error e => rw [hr] at h; cases h
  | ok s =>
    rw [hr] at h
    simp only at h ⊢
    simpa using finish_tok s _ docs ((runChunks_wf cfg cs {} WF.init).2 s hr)
      (runChunks_tok cfg cs {} s [] WF.init TokPre.init hr) h

/-- **For an accepted input the handler calls are the events of the trees as written.** Whatever the
configuration and the chunking: if the reference machine accepts and delivers `docs`, the token
events handed over are `events` of trees `raws` (members in the order of the text, repeated names
kept) of which `docs` are what a last-name-wins parser builds. -/
theorem tokEvents_accepted_ref (cfg : Cfg) (chunks : List Bytes) (docs : List JV)
    (h : Json.run refTables cfg chunks = .ok docs) :
    ∃ raws : List JV, raws.map dd = docs ∧ tokEventsIdeal refTables cfg chunks = raws.flatMap events := by
  rcases run_tok_eq cfg chunks with h0 | ⟨cs, h0⟩
  · rw [(h0 _).1] at h; cases h
  · rw [(h0 _).1] at h
    rw [(h0 _).2]
    exact evAfterBom_accepted cfg cs docs h

end OjgVerif.Match
