import OjgVerif.Match.Tree
/-! A tree is determined by its token events: `events` is injective, even as a prefix code
(`events_prefix`), so "the tree of a text as written" is well defined by the event sequence. -/
namespace OjgVerif.Match

theorem events_head (v : JV) : ∃ e r, events v = e :: r ∧ e ≠ .arrEnd ∧ e ≠ .objEnd ∧ ∀ k, e ≠ .key k := by
  cases v <;> exact ⟨_, _, rfl, nofun, nofun, fun _ => nofun⟩

theorem events_prefix_all :
    (∀ (v w : JV) (t1 t2 : List Event), events v ++ t1 = events w ++ t2 → v = w ∧ t1 = t2) ∧
    (∀ (xs ys : List JV) (t1 t2 : List Event),
      eventsList xs ++ .arrEnd :: t1 = eventsList ys ++ .arrEnd :: t2 → xs = ys ∧ t1 = t2) ∧
    (∀ (kvs kvs' : List (Bytes × JV)) (t1 t2 : List Event),
      eventsKvs kvs ++ .objEnd :: t1 = eventsKvs kvs' ++ .objEnd :: t2 → kvs = kvs' ∧ t1 = t2) := by
  refine tree_induction ?_ ?_ ?_ ?_ ?_ ?_ ?_
  · intro v hl w t1 t2 h
    rw [events_of_leaf hl] at h
    cases w <;> simp [events] at h <;> exact h
  · intro xs ih w t1 t2 h
    cases w <;> simp [events] at h
    rename_i ys
    have := ih ys t1 t2 (by simpa using h)
    exact ⟨by rw [this.1], this.2⟩
  · intro kvs ih w t1 t2 h
    cases w <;> simp [events] at h
    rename_i kvs'
    have := ih kvs' t1 t2 (by simpa using h)
    exact ⟨by rw [this.1], this.2⟩
  · intro ys t1 t2 h
    cases ys with
    | nil => simpa [eventsList] using h
    | cons y r =>
      -- the closing event is not the first event of a value: both lists of elements end at the same place
      obtain ⟨e, r', he, h1, _, _⟩ := events_head y
      simp [eventsList, he] at h
      exact absurd h.1.symm h1
  · intro x r ihx ihr ys t1 t2 h
    cases ys with
    | nil =>
      obtain ⟨e, r', he, h1, _, _⟩ := events_head x
      simp [eventsList, he] at h
      exact absurd h.1 h1
    | cons y r' =>
      simp only [eventsList, List.append_assoc] at h
      obtain ⟨h1, h2⟩ := ihx y _ _ h
      obtain ⟨h3, h4⟩ := ihr r' t1 t2 h2
      exact ⟨by rw [h1, h3], h4⟩
  · intro kvs' t1 t2 h
    cases kvs' with
    | nil => simpa [eventsKvs] using h
    | cons kv r => simp [eventsKvs] at h
  · intro k v r ihv ihr kvs' t1 t2 h
    cases kvs' with
    | nil => simp [eventsKvs] at h
    | cons kv r' =>
      simp only [eventsKvs, List.cons_append, List.append_assoc, List.cons.injEq, Event.key.injEq] at h
      obtain ⟨h1, h2⟩ := ihv kv.2 _ _ h.2
      obtain ⟨h3, h4⟩ := ihr r' t1 t2 h2
      exact ⟨by rw [h.1, h1, h3], h4⟩

theorem events_prefix : ∀ (v w : JV) (t1 t2 : List Event), events v ++ t1 = events w ++ t2 → v = w ∧ t1 = t2 :=
  events_prefix_all.1

theorem eventsList_prefix : ∀ (xs ys : List JV) (t1 t2 : List Event),
      eventsList xs ++ .arrEnd :: t1 = eventsList ys ++ .arrEnd :: t2 → xs = ys ∧ t1 = t2 :=
  events_prefix_all.2.1

theorem eventsKvs_prefix : ∀ (kvs kvs' : List (Bytes × JV)) (t1 t2 : List Event),
      eventsKvs kvs ++ .objEnd :: t1 = eventsKvs kvs' ++ .objEnd :: t2 → kvs = kvs' ∧ t1 = t2 :=
  events_prefix_all.2.2

theorem events_inj (v w : JV) (h : events v = events w) : v = w :=
  (events_prefix v w [] [] (by simpa using h)).1

theorem flatMap_events_inj : ∀ (a b : List JV), a.flatMap events = b.flatMap events → a = b
  | [], [], _ => rfl
  | [], y :: r, h => by
    obtain ⟨e, r', he, _⟩ := events_head y
    simp [he] at h
  | x :: r, [], h => by
    obtain ⟨e, r', he, _⟩ := events_head x
    simp [he] at h
  | x :: r, y :: r', h => by
    simp only [List.flatMap_cons] at h
    obtain ⟨h1, h2⟩ := events_prefix x y _ _ h
    rw [h1, flatMap_events_inj r r' h2]

end OjgVerif.Match
