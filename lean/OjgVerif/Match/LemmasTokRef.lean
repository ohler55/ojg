import OjgVerif.Match.LemmasTokEvents
/-! The tokenizer's event sequence over any table set that passes `TablesOK` (the regenerated oj
tables: `C01.ojTables_ok`) is the event sequence over the reference tables. -/
namespace OjgVerif.Match
open OjgVerif.Json

variable {T : Tables} (hT : TablesOK T) (cfg : Cfg)
include hT

theorem emit_eq_ref (s : Json.St) (b : UInt8) : emit T s b = emit refTables s b := by
  unfold emit tokenEv flushEv
  rw [act_eq_ref hT]
  cases hact : refTables.act s.mode b <;> simp only []
  case closeObject => rw [fin_eq_ref_of_close hT s b (Or.inl hact)]
  case closeArray => rw [fin_eq_ref_of_close hT s b (Or.inr hact)]

theorem evBytes_eq_ref (bs : Bytes) (s : Json.St) : evBytes T cfg s bs = evBytes refTables cfg s bs := by
  induction bs generalizing s with
  | nil => rfl
  | cons b r ih =>
    simp only [evBytes, emit_eq_ref hT, step_eq_ref hT]
    cases Json.step refTables cfg s b with
    | error e => rfl
    | ok s' => simp only [ih s']

theorem evChunks_eq_ref (cs : List Bytes) (s : Json.St) : evChunks T cfg s cs = evChunks refTables cfg s cs := by
  induction cs generalizing s with
  | nil => rfl
  | cons c r ih =>
    simp only [evChunks, evBytes_eq_ref hT, runBytes_eq_ref hT]
    cases runBytes refTables cfg s c with
    | error e => rfl
    | ok s' => simp only [ih]

/-- `TablesOK` fixes the end mark of every mode except `comma`; in mode `comma` a container is open
(`CtlInv.comma`), so the end of input hands nothing over whatever the table says. -/
theorem finishEv_eq_ref (s : Json.St) (hi : CtlInv s) : finishEv T s = finishEv refTables s := by
  unfold finishEv flushEv
  by_cases hm : s.mode = .comma
  · have := hi.comma hm
    have he : s.starts.isEmpty = false := by
      cases hs : s.starts with
      | nil => exact absurd hs this
      | cons _ _ => rfl
    simp [he]
  · rw [hT.fin _ hm]; rfl

theorem evAfterBom_eq_ref (cs : List Bytes) : evAfterBom T cfg cs = evAfterBom refTables cfg cs := by
  unfold evAfterBom
  rw [evChunks_eq_ref hT, runChunks_eq_ref hT]
  cases hr : runChunks refTables cfg {} cs with
  | error e => rfl
  | ok s => simp only [finishEv_eq_ref hT s (runChunks_ctl cfg _ _ s CtlInv.init hr)]

theorem tokEvents_eq_ref (chunks : List Bytes) : tokEventsIdeal T cfg chunks = tokEventsIdeal refTables cfg chunks := by
  rcases run_tok_eq cfg chunks with h | ⟨cs, h⟩
  · rw [(h _).2, (h _).2]
  · rw [(h _).2, (h _).2]
    exact evAfterBom_eq_ref hT cfg cs

/-- `tokEvents_accepted_ref` over any table set that passes `TablesOK` -/
theorem tokEventsIdeal_accepted (chunks : List Bytes) (docs : List JV) (h : Json.run T cfg chunks = .ok docs) :
    ∃ raws : List JV, raws.map dd = docs ∧ tokEventsIdeal T cfg chunks = raws.flatMap events := by
  rw [run_eq_ref hT] at h
  rw [tokEvents_eq_ref hT]
  exact tokEvents_accepted_ref cfg chunks docs h

end OjgVerif.Match
