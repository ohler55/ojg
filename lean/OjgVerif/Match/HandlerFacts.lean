import OjgVerif.Match.Model
import OjgVerif.Gen.MatchFacts
/-! Tie between the event methods of `jp.MatchHandler` (jp/matchhandler.go) and the model of
`Match/Model.lean`, as a PROOF obligation.

This is a SYNTACTIC tripwire at statement level, not a semantic proof that the Go
code is the model (that tie is the correspondence run of the harness). `tools/extract/match.go`
renders, on every run of the check, the eleven TokenHandler methods of `MatchHandler` and the
helpers they call (`AddValue`, `objArrayStart`, `objArrayEnd`, `incNth`, `pathMatch`, and the
constructor `NewMatchHandler`) into `Gen/MatchFacts.lean`: the declaration (`sig_<m>`) and one
entry per statement in source order (`body_<m>`), nesting as indentation, `if`/`else if`/`switch`/
`case`/`for` headers with their conditions as entries.

The dispatch table of the model (`modelMethods`: which function `step` runs for which handler method, with
which constants) is PROVED from the model (`step_eq_modelMethods`), and the expected Go text of the eleven
token methods is COMPUTED from that table (`goStmt`), so the start fragments `Child("")` / `Nth(0)` and the
empty containers are read from the model's constants. For the helpers the expected rendering is written next
to the model branch each line stands for, and the effect of the model function on `rpath` / `stack` / `out`
is proved per helper (`addValue_rpath`, `startContainer_stack`, `endContainer_out` …): these anchor the
comments in the model. Where both sides of `Gen.MatchFacts.<fact> = <expected>` are lists of string literals
the proof is `rfl` (literals are compared as they stand); only the token methods, whose expected text is
concatenated from the table, need the strings evaluated.

A dropped / reordered / re-conditioned push or pop of `h.Stack` / `h.Path`, a dropped `incNth()` or
`OnData` call, a changed start fragment, a new method on `MatchHandler` changes a generated fact
and this module stops building. A change that keeps every rendered statement (e.g. inside
`PathMatch`, `checkRest` — see `C17.dev_cur_matches_source` — or in another file) is not seen here. -/
namespace OjgVerif.Match

/-- the methods of `oj.TokenHandler` / `sen.TokenHandler`, in the order of the interface -/
inductive Method where
  | null | bool | int | float | number | string
  | objectStart | objectEnd | key | arrayStart | arrayEnd
  deriving DecidableEq, Repr

def Method.all : List Method :=
  [.null, .bool, .int, .float, .number, .string, .objectStart, .objectEnd, .key, .arrayStart, .arrayEnd]

theorem Method.mem_all (m : Method) : m ∈ Method.all := by cases m <;> decide

def Method.goName : Method → String
  | .null => "Null" | .bool => "Bool" | .int => "Int" | .float => "Float"
  | .number => "Number" | .string => "String"
  | .objectStart => "ObjectStart" | .objectEnd => "ObjectEnd" | .key => "Key"
  | .arrayStart => "ArrayStart" | .arrayEnd => "ArrayEnd"

def Method.goParams : Method → String
  | .null => "" | .bool => "v bool" | .int => "v int64" | .float => "v float64"
  | .number => "num string" | .string => "v string" | .key => "k string"
  | .objectStart | .objectEnd | .arrayStart | .arrayEnd => ""

/-- the Go expression a method hands on (the leaf value / the key) -/
def Method.goArg : Method → String
  | .null => "nil" | .number => "json.Number(num)" | .key => "k"
  | .bool | .int | .float | .string => "v"
  | .objectStart | .objectEnd | .arrayStart | .arrayEnd => ""

/-- the token event of the model a method call stands for (`v`: the leaf, `k`: the key) -/
def Method.event (v : JV) (k : Bytes) : Method → Event
  | .null | .bool | .int | .float | .number | .string => .leaf v
  | .objectStart => .objStart
  | .objectEnd => .objEnd
  | .key => .key k
  | .arrayStart => .arrStart
  | .arrayEnd => .arrEnd

theorem Method.event_surjective (e : Event) : ∃ m v k, Method.event v k m = e := by
  cases e with
  | objStart => exact ⟨.objectStart, .null, [], rfl⟩
  | objEnd => exact ⟨.objectEnd, .null, [], rfl⟩
  | arrStart => exact ⟨.arrayStart, .null, [], rfl⟩
  | arrEnd => exact ⟨.arrayEnd, .null, [], rfl⟩
  | key k => exact ⟨.key, .null, k, rfl⟩
  | leaf v => exact ⟨.null, v, [], rfl⟩

/-- a function of the model with its constants: the helper a Go token method calls -/
inductive ModelCall where
  | addValue                                   -- `h.AddValue(…)`
  | startContainer (empty : JV) (frag : Seg)   -- `h.objArrayStart(v, frag)`
  | endContainer                               -- `h.objArrayEnd()`
  | setKey                                     -- `h.Path[len(h.Path)-1] = Child(k)`

def ModelCall.apply (dv : Dev) (trs : List TargetRest) (st : St) (v : JV) (k : Bytes) : ModelCall → St
  | .addValue => Match.addValue dv trs st v
  | .startContainer e f => Match.startContainer dv trs st e f
  | .endContainer => Match.endContainer dv trs st
  | .setKey => Match.setKey st k

/-- THE TABLE: which model function stands for which handler method -/
def modelMethods : Method → ModelCall
  | .null | .bool | .int | .float | .number | .string => .addValue
  | .objectStart => .startContainer (.obj []) (.key [])     -- map[string]any{}, Child("")
  | .objectEnd => .endContainer
  | .key => .setKey
  | .arrayStart => .startContainer (.arr []) (.idx 0)       -- []any{}, Nth(0)
  | .arrayEnd => .endContainer

theorem step_eq_modelMethods (dv : Dev) (trs : List TargetRest) (st : St) (v : JV) (k : Bytes)
    (m : Method) :
    step dv trs st (m.event v k) = (modelMethods m).apply dv trs st v k := by
  cases m <;> rfl

theorem step_objStart (dv : Dev) (trs : List TargetRest) (st : St) :
    step dv trs st .objStart = startContainer dv trs st (.obj []) (.key []) := rfl
theorem step_arrStart (dv : Dev) (trs : List TargetRest) (st : St) :
    step dv trs st .arrStart = startContainer dv trs st (.arr []) (.idx 0) := rfl
theorem step_objEnd (dv : Dev) (trs : List TargetRest) (st : St) :
    step dv trs st .objEnd = endContainer dv trs st := rfl
theorem step_arrEnd (dv : Dev) (trs : List TargetRest) (st : St) :
    step dv trs st .arrEnd = endContainer dv trs st := rfl
theorem step_key (dv : Dev) (trs : List TargetRest) (st : St) (k : Bytes) :
    step dv trs st (.key k) = setKey st k := rfl
theorem step_leaf (dv : Dev) (trs : List TargetRest) (st : St) (v : JV) :
    step dv trs st (.leaf v) = addValue dv trs st v := rfl

/-- Go text of the empty container a start event pushes -/
def goEmpty : JV → String
  | .obj [] => "map[string]any{}"
  | .arr [] => "[]any{}"
  | _ => "<not an empty container>"

/-- Go text of the fragment a start event appends to `h.Path` -/
def goFrag : Seg → String
  | .key [] => "Child(\"\")"
  | .idx 0 => "Nth(0)"
  | _ => "<not a start fragment>"

/-- the one statement of a token method that stands for a model call -/
def ModelCall.goStmt (arg : String) : ModelCall → String
  | .addValue => "h.AddValue(" ++ arg ++ ")"
  | .startContainer e f => "h.objArrayStart(" ++ goEmpty e ++ ", " ++ goFrag f ++ ")"
  | .endContainer => "h.objArrayEnd()"
  | .setKey => "h.Path[len(h.Path)-1] = Child(" ++ arg ++ ")"

/-- what the extractor has to find for a token method: name, declaration, body -/
def Method.expected (m : Method) : String × String × List String :=
  (m.goName, "func (h *MatchHandler) " ++ m.goName ++ "(" ++ m.goParams ++ ")",
   [(modelMethods m).goStmt m.goArg])

/-- the eleven token methods of jp/matchhandler.go are, statement for statement, the calls the
table `modelMethods` (proved to be `step`: `step_eq_modelMethods`) says they are -/
theorem token_methods_match_source :
    Gen.MatchFacts.tokenMethods = Method.all.map Method.expected := by decide +kernel

/-- `incNth`: the last path element, when there is one and it is an `Nth`, is counted up. The
model's `rpath` is `h.Path` without the leading `Root` — the Go test `0 <= last` is always true
(`h.Path` starts as `R()` and only loses what `objArrayStart` appended), the `Root` at `last = 0` is
not an `Nth`: the model's `| p => p`. -/
def expected_incNth : List String := [
  "if last := len(h.Path) - 1; 0 <= last",          -- (always)
  "  if nth, ok := h.Path[last].(Nth); ok",         -- `| .idx i :: r`
  "    h.Path[last] = nth + 1"]                     -- `.idx (i + 1) :: r`

theorem incNth_idx (i : Nat) (r : List Seg) : incNth (.idx i :: r) = .idx (i + 1) :: r := rfl
theorem incNth_key (k : Bytes) (r : List Seg) : incNth (.key k :: r) = .key k :: r := rfl
theorem incNth_nil : incNth [] = [] := rfl
theorem incNth_length (p : List Seg) : (incNth p).length = p.length := by
  unfold incNth; split <;> simp

def expected_AddValue : List String := [
  "if 0 < len(h.Stack)",                                       -- `| top :: rest`
  "  switch ts := h.Stack[len(h.Stack)-1].(type)",             --   `addToTop top st.rpath.head? v`
  "    case map[string]any",                                   --     `| .obj kvs`
  "      ts[string(h.Path[len(h.Path)-1].(Child))] = v",       --       `.obj (kvInsert k v kvs)`
  "    case []any",                                            --     `| .arr xs`
  "      h.Stack[len(h.Stack)-1] = append(ts, v)",             --       `.arr (xs ++ [v])`
  "else if h.pathMatch(true)",                                 -- `| [] => if pathMatchAny … true`
  "  h.OnData(h.Path, v)",                                     --   `out := st.out ++ [(st.rpath.reverse, v)]`
  "h.incNth()"]                                                -- `rpath := incNth st.rpath` (every branch)

/-- `h.incNth()` is the last statement, outside the `if`: in every branch -/
theorem addValue_rpath (dv : Dev) (trs : List TargetRest) (st : St) (v : JV) :
    (addValue dv trs st v).rpath = incNth st.rpath := by
  unfold addValue; split
  · rfl
  · split <;> rfl

/-- no push, no pop; the top is replaced by `addToTop` -/
theorem addValue_stack (dv : Dev) (trs : List TargetRest) (st : St) (v : JV) :
    (addValue dv trs st v).stack =
      match st.stack with
      | top :: rest => addToTop top st.rpath.head? v :: rest
      | [] => [] := by
  unfold addValue; split
  · next h => simp [h]
  · next h => split <;> simp [h]

/-- `OnData` only with an empty stack and `h.pathMatch(true)` -/
theorem addValue_out (dv : Dev) (trs : List TargetRest) (st : St) (v : JV) :
    (addValue dv trs st v).out =
      if st.stack = [] ∧ pathMatchAny dv trs st.rpath.reverse true = true
      then st.out ++ [(st.rpath.reverse, v)] else st.out := by
  unfold addValue; split
  · next h => simp [h]
  · next h => split <;> simp_all

def expected_objArrayStart : List String := [
  "if 0 < len(h.Stack)",                                       -- `| top :: rest`
  "  switch ts := h.Stack[len(h.Stack)-1].(type)",             --   `addToTop top st.rpath.head? empty`
  "    case map[string]any",
  "      ts[string(h.Path[len(h.Path)-1].(Child))] = v",
  "    case []any",
  "      h.Stack[len(h.Stack)-1] = append(ts, v)",
  "  h.Stack = append(h.Stack, v)",                            --   `stack := empty :: … :: rest` (push)
  "else if h.pathMatch(false)",                                -- `| [] => if pathMatchAny … false`
  "  h.Stack = append(h.Stack, v)",                            --   `stack := [empty]` (push)
  "h.Path = append(h.Path, frag)"]                             -- `rpath := frag :: st.rpath` (every branch)

/-- `h.Path = append(h.Path, frag)` is the last statement, outside the `if`: in every branch -/
theorem startContainer_rpath (dv : Dev) (trs : List TargetRest) (st : St) (e : JV) (f : Seg) :
    (startContainer dv trs st e f).rpath = f :: st.rpath := by
  unfold startContainer; split
  · rfl
  · split <;> rfl

/-- the push: on a non-empty stack always (after the store into the top), on an empty one when
`h.pathMatch(false)` -/
theorem startContainer_stack (dv : Dev) (trs : List TargetRest) (st : St) (e : JV) (f : Seg) :
    (startContainer dv trs st e f).stack =
      match st.stack with
      | top :: rest => e :: addToTop top st.rpath.head? e :: rest
      | [] => if pathMatchAny dv trs st.rpath.reverse false then [e] else [] := by
  unfold startContainer; split
  · next h => simp [h]
  · next h => split <;> simp_all

/-- no `OnData` call -/
theorem startContainer_out (dv : Dev) (trs : List TargetRest) (st : St) (e : JV) (f : Seg) :
    (startContainer dv trs st e f).out = st.out := by
  unfold startContainer; split
  · rfl
  · split <;> rfl

def expected_objArrayEnd : List String := [
  "h.Path = h.Path[:len(h.Path)-1]",                           -- `st.rpath.tail` (every branch)
  "if 0 < len(h.Stack)",                                       -- not `| []`
  "  if len(h.Stack) == 1",                                    --   `| [v]`
  "    if v, p, ok := h.checkRest(h.Stack[0]); ok",            --     `checkRest dv trs st.rpath.tail.reverse v`
  "      h.OnData(p, v)",                                      --     `out := st.out ++ checkRest …`
  "  v := h.Stack[len(h.Stack)-1]",                            --   `| v :: …`
  "  h.Stack = h.Stack[:len(h.Stack)-1]",                      --   `stack := []` / `stack := … :: rest` (pop)
  "  if 0 < len(h.Stack)",                                     --   `| v :: top :: rest`
  "    switch ts := h.Stack[len(h.Stack)-1].(type)",           --     `setInTop top st.rpath.tail.head? v`
  "      case map[string]any",                                 --       `| .obj kvs`
  "        ts[string(h.Path[len(h.Path)-1].(Child))] = v",     --         `.obj (kvInsert k v kvs)`
  "      case []any",                                          --       `| .arr xs`
  "        ts[h.Path[len(h.Path)-1].(Nth)] = v",               --         `.arr (xs.set i v)`
  "h.incNth()"]                                                -- `rpath := incNth st.rpath.tail` (every branch)

/-- the pop of `h.Path` is the first statement, `h.incNth()` the last: in every branch -/
theorem endContainer_rpath (dv : Dev) (trs : List TargetRest) (st : St) :
    (endContainer dv trs st).rpath = incNth st.rpath.tail := by
  unfold endContainer; split <;> rfl

/-- the pop of `h.Stack` (and the second store into the new top) -/
theorem endContainer_stack (dv : Dev) (trs : List TargetRest) (st : St) :
    (endContainer dv trs st).stack =
      match st.stack with
      | v :: top :: rest => setInTop top st.rpath.tail.head? v :: rest
      | _ => [] := by
  unfold endContainer; split <;> simp_all

theorem endContainer_stack_length (dv : Dev) (trs : List TargetRest) (st : St) :
    (endContainer dv trs st).stack.length = st.stack.length - 1 := by
  unfold endContainer; split <;> simp_all

/-- `OnData` exactly when the outermost collected container closes -/
theorem endContainer_out (dv : Dev) (trs : List TargetRest) (st : St) :
    (endContainer dv trs st).out =
      match st.stack with
      | [v] => st.out ++ checkRest dv trs st.rpath.tail.reverse v
      | _ => st.out := by
  unfold endContainer; split <;> simp_all

/-- `Key` overwrites the last path element and nothing else -/
theorem setKey_rpath (st : St) (k : Bytes) :
    (setKey st k).rpath = match st.rpath with | _ :: r => .key k :: r | [] => [] := by
  unfold setKey; split <;> simp_all
theorem setKey_stack (st : St) (k : Bytes) : (setKey st k).stack = st.stack := by
  unfold setKey; split <;> rfl
theorem setKey_out (st : St) (k : Bytes) : (setKey st k).out = st.out := by
  unfold setKey; split <;> rfl

def expected_pathMatch : List String := [
  "for _, tr := range h.Targets",                              -- `trs.any fun tr =>`
  "  if PathMatch(tr.Target, h.Path)",                         --   `pathMatch dv tr.target path &&`
  "    if !leaf || tr.Rest == nil",                            --   `(!leaf || tr.rest.isNone)`
  "      return true",
  "return false"]

theorem pathMatchAny_iff (dv : Dev) (trs : List TargetRest) (path : NPath) (leaf : Bool) :
    pathMatchAny dv trs path leaf = true ↔
      ∃ tr ∈ trs, pathMatch dv tr.target path = true ∧ (leaf = false ∨ tr.rest.isNone = true) := by
  unfold pathMatchAny
  simp only [List.any_eq_true, Bool.and_eq_true, Bool.or_eq_true, Bool.not_eq_true']

def expected_NewMatchHandler : List String := [
  "h := MatchHandler{ Path: R(), OnData: onData, }",           -- `St.init` (`rpath := []`: just the Root; no stack)
  "for _, target := range targets",                            -- `targets.map splitTarget` (in `matchRun`)
  "  tr := TargetRest{Target: target}",                        --   no filter: `⟨target, none⟩`
  "  for i, f := range target",
  "    if _, ok := f.(*Filter); ok",                           --   `| .filter p :: _`
  "      tr.Rest = target[i:]",                                --     `rest := some p` (trailing filter)
  "      tr.Target = target[:i]",                              --     `target :=` the fragments in front of it
  "      break",
  "  h.Targets = append(h.Targets, &tr)",
  "return &h"]

theorem St.init_eq : St.init = ⟨[], [], []⟩ := rfl
theorem matchRun_eq (dv : Dev) (targets : List Target) (evs : List Event) :
    matchRun dv targets evs = (run dv (targets.map splitTarget) St.init evs).out := rfl

/-- the methods declared on `MatchHandler`: the eleven token methods, the helpers rendered here, and
`checkRest` (read by `C17.dev_cur_matches_source`) — nothing else -/
def expected_declaredMethods : List String :=
  Method.all.map Method.goName ++
    ["AddValue", "objArrayStart", "objArrayEnd", "incNth", "checkRest", "pathMatch"]

theorem incNth_matches_source : Gen.MatchFacts.body_incNth = expected_incNth := rfl
theorem addValue_matches_source : Gen.MatchFacts.body_AddValue = expected_AddValue := rfl
theorem objArrayStart_matches_source :
    Gen.MatchFacts.body_objArrayStart = expected_objArrayStart := rfl
theorem objArrayEnd_matches_source :
    Gen.MatchFacts.body_objArrayEnd = expected_objArrayEnd := rfl
theorem pathMatch_matches_source : Gen.MatchFacts.body_pathMatch = expected_pathMatch := rfl
theorem newMatchHandler_matches_source :
    Gen.MatchFacts.body_NewMatchHandler = expected_NewMatchHandler := rfl
theorem declaredMethods_match_source :
    Gen.MatchFacts.declaredMethods = expected_declaredMethods := rfl

theorem helper_sigs_match_source :
    Gen.MatchFacts.helperMethods.map (fun m => (m.1, m.2.1)) =
      [("AddValue", "func (h *MatchHandler) AddValue(v any)"),
       ("objArrayStart", "func (h *MatchHandler) objArrayStart(v any, frag Frag)"),
       ("objArrayEnd", "func (h *MatchHandler) objArrayEnd()"),
       ("incNth", "func (h *MatchHandler) incNth()"),
       ("pathMatch", "func (h *MatchHandler) pathMatch(leaf bool) bool"),
       ("NewMatchHandler",
        "func NewMatchHandler(onData func(path Expr, data any), targets ...Expr) *MatchHandler")] := rfl

/-- Syntactic tripwire (NOT a proof that the Go code is the model; that tie is the correspondence
run): the event methods of `jp.MatchHandler` and the helpers they call, rendered statement by
statement from jp/matchhandler.go on every run (tools/extract/match.go), are the statements this
file lists next to the model branches they stand for; the token methods are the calls that the
dispatch table of the model (`modelMethods`, proved to be `step` by `step_eq_modelMethods`) computes.
Dropping, reordering or re-conditioning a push/pop of `h.Stack` / `h.Path`, an `incNth()` or `OnData`
call, or changing a start fragment (`Child("")`, `Nth(0)`) breaks this theorem. -/
theorem handler_methods_match_source :
    Gen.MatchFacts.tokenMethods = Method.all.map Method.expected ∧
    Gen.MatchFacts.helperMethods =
      [("AddValue", "func (h *MatchHandler) AddValue(v any)", expected_AddValue),
       ("objArrayStart", "func (h *MatchHandler) objArrayStart(v any, frag Frag)", expected_objArrayStart),
       ("objArrayEnd", "func (h *MatchHandler) objArrayEnd()", expected_objArrayEnd),
       ("incNth", "func (h *MatchHandler) incNth()", expected_incNth),
       ("pathMatch", "func (h *MatchHandler) pathMatch(leaf bool) bool", expected_pathMatch),
       ("NewMatchHandler",
        "func NewMatchHandler(onData func(path Expr, data any), targets ...Expr) *MatchHandler",
        expected_NewMatchHandler)] ∧
    Gen.MatchFacts.declaredMethods = expected_declaredMethods :=
  ⟨token_methods_match_source, rfl, declaredMethods_match_source⟩

end OjgVerif.Match
