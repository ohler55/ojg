import OjgVerif.Match.Tree
import OjgVerif.Json.Wf
/-! The tree of a text AS WRITTEN (`raw`: every member in the order of the text, a repeated member
name kept) against the tree a parser builds (`dd raw`: a repeated name overwrites the earlier
member, `kvInsert`), and the token events of a partly built value (`openEv` of a raw build stack). -/
namespace OjgVerif.Match
open OjgVerif.Json

mutual
  /-- the de-duplicated tree (`dd`): what a parser that keeps the last of repeated member names builds
  from the tree as written -/
  def dd : JV → JV
    | .arr xs => .arr (ddList xs)
    | .obj kvs => .obj (ddKvs [] kvs)
    | .null => .null
    | .bool b => .bool b
    | .int i => .int i
    | .flt t => .flt t
    | .big t => .big t
    | .num t => .num t
    | .str s => .str s
  def ddList : List JV → List JV
    | [] => []
    | x :: r => dd x :: ddList r
  def ddKvs (acc : List (Bytes × JV)) : List (Bytes × JV) → List (Bytes × JV)
    | [] => acc
    | (k, v) :: r => ddKvs (kvInsert k (dd v) acc) r
end

theorem ddList_eq_map (xs : List JV) : ddList xs = xs.map dd := by
  induction xs with
  | nil => rfl
  | cons x r ih => simp [ddList, ih]

theorem ddKvs_append (acc a b : List (Bytes × JV)) : ddKvs acc (a ++ b) = ddKvs (ddKvs acc a) b := by
  induction a generalizing acc with
  | nil => rfl
  | cons kv r ih =>
    obtain ⟨k, v⟩ := kv
    simp only [List.cons_append, ddKvs]
    exact ih _

theorem ddKvs_eq_insertAll (acc kvs : List (Bytes × JV)) :
    ddKvs acc kvs = insertAll acc (kvs.map fun kv => (kv.1, dd kv.2)) := by
  induction kvs generalizing acc with
  | nil => rfl
  | cons kv r ih =>
    obtain ⟨k, v⟩ := kv
    simp only [ddKvs, ih, insertAll, List.map_cons, List.foldl_cons]

theorem keysDistinct_map (kvs : List (Bytes × JV)) (g : JV → JV) :
    keysDistinct (kvs.map fun kv => (kv.1, g kv.2)) = keysDistinct kvs := by
  induction kvs with
  | nil => rfl
  | cons kv r ih =>
    obtain ⟨k, v⟩ := kv
    simp [keysDistinct, ih, List.any_map, Function.comp_def]

theorem dd_of_leaf {v : JV} (h : isLeafJV v = true) : dd v = v := by
  cases v <;> first | rfl | cases h

theorem dd_of_nodup_all :
    (∀ (v : JV), NoDupKeys v = true → dd v = v) ∧
    (∀ (xs : List JV), NoDupKeysList xs = true → xs.map dd = xs) ∧
    (∀ (kvs : List (Bytes × JV)), NoDupKeysKvs kvs = true → (kvs.map fun kv => (kv.1, dd kv.2)) = kvs) := by
  refine nodup_induction ?_ ?_ ?_ ?_ ?_ ?_ ?_
  · intro v hl
    exact dd_of_leaf hl
  · intro xs _ ih
    rw [dd, ddList_eq_map, ih]
  · intro kvs hd _ ih
    rw [dd, ddKvs_eq_insertAll, ih, insertAll_nil kvs hd]
  · rfl
  · intro x r ihx ihr
    rw [List.map_cons, ihx, ihr]
  · rfl
  · intro k v r ihv ihr
    rw [List.map_cons, ihv, ihr]

theorem dd_of_nodup : ∀ (v : JV), NoDupKeys v = true → dd v = v := dd_of_nodup_all.1

theorem ddMap_of_nodup : ∀ (xs : List JV), NoDupKeysList xs = true → xs.map dd = xs := dd_of_nodup_all.2.1

theorem ddKvsMap_of_nodup : ∀ (kvs : List (Bytes × JV)), NoDupKeysKvs kvs = true →
      (kvs.map fun kv => (kv.1, dd kv.2)) = kvs := dd_of_nodup_all.2.2

theorem eventsKvs_append (a b : List (Bytes × JV)) : eventsKvs (a ++ b) = eventsKvs a ++ eventsKvs b := by
  induction a with
  | nil => rfl
  | cons kv r ih =>
    obtain ⟨k, v⟩ := kv
    simp [eventsKvs, ih]

theorem eventsList_append (a b : List JV) : eventsList (a ++ b) = eventsList a ++ eventsList b := by
  induction a with
  | nil => rfl
  | cons x r ih => simp [eventsList, ih]

/-- a raw stack item to the item the machine holds -/
def ddItem : Item → Item
  | .val v => .val (dd v)
  | .key k => .key k
  | .arrMark => .arrMark
  | .obj kvs => .obj (ddKvs [] kvs)

/-- events handed over for one item of the build stack -/
def itemEv : Item → List Event
  | .val v => events v
  | .key k => [.key k]
  | .arrMark => [.arrStart]
  | .obj kvs => .objStart :: eventsKvs kvs

/-- events handed over so far for the value under construction (stack top first) -/
def openEv : List Item → List Event
  | [] => []
  | it :: below => openEv below ++ itemEv it

/-- `add` on the raw stack: a member is appended as written -/
def rawAdd (rv : JV) : List Item → List Item
  | .key k :: .obj rkvs :: rest => .obj (rkvs ++ [(k, rv)]) :: rest
  | st => .val rv :: st

theorem map_ddItem_obj {RS : List Item} {kvs : List (Bytes × JV)} {below : List Item}
    (h : RS.map ddItem = .obj kvs :: below) :
    ∃ rkvs rbelow, RS = .obj rkvs :: rbelow ∧ rbelow.map ddItem = below := by
  obtain ⟨it, r, rfl, hit, hr⟩ := List.map_eq_cons_iff.mp h
  cases it <;> simp [ddItem] at hit
  exact ⟨_, _, rfl, hr⟩

theorem map_ddItem_key_obj {RS : List Item} {k : Bytes} {kvs : List (Bytes × JV)} {below : List Item}
    (h : RS.map ddItem = .key k :: .obj kvs :: below) :
    ∃ rkvs rbelow, RS = .key k :: .obj rkvs :: rbelow ∧ rbelow.map ddItem = below := by
  obtain ⟨it, r, rfl, hit, hr⟩ := List.map_eq_cons_iff.mp h
  obtain ⟨rkvs, rbelow, rfl, hb⟩ := map_ddItem_obj hr
  cases it <;> simp [ddItem] at hit
  subst hit
  exact ⟨_, _, rfl, hb⟩

theorem map_ddItem_vals : ∀ (vals : List Item) (RS : List Item) (below : List Item),
    RS.map ddItem = vals ++ .arrMark :: below → (∀ it ∈ vals, it.isVal = true) →
    ∃ rvals rbelow, RS = rvals ++ .arrMark :: rbelow ∧ (∀ it ∈ rvals, it.isVal = true) ∧ rbelow.map ddItem = below
  | [], RS, below, h, _ => by
    obtain ⟨it, r, rfl, hit, hr⟩ := List.map_eq_cons_iff.mp h
    cases it <;> simp [ddItem] at hit
    exact ⟨[], r, rfl, by simp, hr⟩
  | x :: vs, RS, below, h, hv => by
    obtain ⟨it, r, rfl, hit, hr⟩ := List.map_eq_cons_iff.mp h
    obtain ⟨rvals, rbelow, rfl, h2, h3⟩ := map_ddItem_vals vs r below hr (fun y hy => hv y (List.mem_cons_of_mem _ hy))
    have hx := hv x List.mem_cons_self
    refine ⟨it :: rvals, rbelow, rfl, ?_, h3⟩
    intro y hy
    rcases List.mem_cons.mp hy with rfl | hy
    · rw [← hit] at hx
      cases y <;> simp [ddItem, Item.isVal] at hx ⊢
    · exact h2 y hy

theorem addItem_raw (rv : JV) (RS : List Item) (st2 : List Item)
    (h : addItem (dd rv) (RS.map ddItem) = .ok st2) : st2 = (rawAdd rv RS).map ddItem := by
  unfold addItem at h
  split at h
  · rename_i k kvs rest heq
    obtain ⟨rkvs, rrest, rfl, rfl⟩ := map_ddItem_key_obj heq
    simp only [List.map_cons, ddItem, List.cons.injEq, Item.obj.injEq, true_and] at heq
    cases h
    simp [rawAdd, ddItem, ddKvs_append, ddKvs, ← heq.1]
  · cases h
  · rename_i hno _
    cases h
    unfold rawAdd
    split
    · exact absurd rfl (hno _ _ _)
    · rfl

theorem openEv_rawAdd (rv : JV) (RS : List Item) : openEv (rawAdd rv RS) = openEv RS ++ events rv := by
  unfold rawAdd
  split
  · simp [openEv, itemEv, eventsKvs_append, eventsKvs]
  · rfl

theorem rawAdd_nil (rv : JV) : rawAdd rv [] = [.val rv] := rfl

theorem splitAtMark_raw (RS : List Item) (acc : List JV) :
    splitAtMark (RS.map ddItem) (acc.map dd) =
      (splitAtMark RS acc).map fun p => (p.1.map dd, p.2.map ddItem) := by
  induction RS generalizing acc with
  | nil => rfl
  | cons it r ih =>
    cases it with
    | arrMark => simp [splitAtMark, ddItem]
    | val v =>
      simp only [List.map_cons, ddItem, splitAtMark, Item.toJV]
      exact ih (v :: acc)
    | key k =>
      simp only [List.map_cons, ddItem, splitAtMark, Item.toJV]
      exact ih (.str k :: acc)
    | obj kvs =>
      simp only [List.map_cons, ddItem, splitAtMark, Item.toJV]
      have := ih (.obj kvs :: acc)
      simpa [dd] using this

theorem splitAtMark_vals (vals : List Item) (below : List Item) (hv : ∀ it ∈ vals, it.isVal = true) (acc : List JV) :
    ∃ elems, splitAtMark (vals ++ .arrMark :: below) acc = some (elems ++ acc, below) ∧
      openEv (vals ++ .arrMark :: below) = openEv below ++ .arrStart :: eventsList elems := by
  induction vals generalizing acc with
  | nil => exact ⟨[], by simp [splitAtMark], by simp [openEv, itemEv, eventsList]⟩
  | cons x r ih =>
    have hx := hv x List.mem_cons_self
    cases x <;> simp [Item.isVal] at hx
    rename_i v
    obtain ⟨elems, h1, h2⟩ := ih (fun it hit => hv it (List.mem_cons_of_mem _ hit)) (v :: acc)
    refine ⟨elems ++ [v], ?_, ?_⟩
    · simp only [List.cons_append, splitAtMark, Item.toJV, h1]
      simp
    · simp only [List.cons_append, openEv, h2, itemEv, eventsList_append, eventsList]
      simp

end OjgVerif.Match
