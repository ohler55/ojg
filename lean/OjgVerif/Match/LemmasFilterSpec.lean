import OjgVerif.Match.LemmasFilter
/-! The specification side for target sets with filter targets: every location a target selects
lies at or (for a filter target: one step) below a location its stripped part selects
(`selects_strip`), so `expected targets doc` splits along the outermost locations the stripped
targets select (`expected_decompose`) — the same skeleton `found_reportAt` gives the callbacks. -/
namespace OjgVerif.Match

/- `S`: what the skeleton selects; `K`: any filter on locations that keeps nothing outside the subtrees
of `S`-locations (`hK`). Filtering `locs` by `K` is then filtering piecewise below the outermost
`S`-locations (`locs_decompose_all`): above them nothing is kept (`not_kept_of_unselected`), at one of
them, `p` with value `v`, the single piece is `locs p v` (`decompose_self`). -/
section
variable (S : NPath → Bool) (K : NPath × JV → Bool)
variable (hK : ∀ q u, K (q, u) = true → (prefixesIncl q).any S = true)

include hK

theorem not_kept_of_unselected (p : NPath) (v : JV) (hpre : (properPrefixes p).any S = false) (hS : S p = false) : K (p, v) = false := by
  cases h : K (p, v)
  · rfl
  · have := hK p v h
    simp [prefixesIncl, hpre, hS] at this

omit hK in
theorem decompose_self (p : NPath) (v : JV) (hpre : (properPrefixes p).any S = false) (hS : S p = true) :
    (locs p v).filter K = ((locs p v).filter (outermost S)).flatMap fun qu => (locs qu.1 qu.2).filter K := by
  simp [filter_outermost_self S p v hpre hS]

theorem locs_decompose_all :
    (∀ (v : JV) (p : NPath), (properPrefixes p).any S = false →
      (locs p v).filter K = ((locs p v).filter (outermost S)).flatMap fun qu => (locs qu.1 qu.2).filter K) ∧
    (∀ (ys : List JV) (p : NPath) (i : Nat),
      (properPrefixes p).any S = false → S p = false →
      (locsList p i ys).filter K = ((locsList p i ys).filter (outermost S)).flatMap fun qu => (locs qu.1 qu.2).filter K) ∧
    (∀ (kvs : List (Bytes × JV)) (p : NPath),
      (properPrefixes p).any S = false → S p = false →
      (locsKvs p kvs).filter K = ((locsKvs p kvs).filter (outermost S)).flatMap fun qu => (locs qu.1 qu.2).filter K) := by
  refine tree_induction ?_ ?_ ?_ ?_ ?_ ?_ ?_
  · intro v hl p hpre
    cases hS : S p
    · simp [locs_of_leaf p v hl, outermost, hS, not_kept_of_unselected S K hK p _ hpre hS]
    · exact decompose_self S K p v hpre hS
  · intro xs ih p hpre
    cases hS : S p
    · simp only [locs, List.filter_cons, outermost, hS, Bool.false_and, Bool.false_eq_true, if_false,
        not_kept_of_unselected S K hK p _ hpre hS]
      exact ih p 0 hpre hS
    · exact decompose_self S K p _ hpre hS
  · intro kvs ih p hpre
    cases hS : S p
    · simp only [locs, List.filter_cons, outermost, hS, Bool.false_and, Bool.false_eq_true, if_false,
        not_kept_of_unselected S K hK p _ hpre hS]
      exact ih p hpre hS
    · exact decompose_self S K p _ hpre hS
  · intros
    simp [locsList]
  · intro x r ihx ihr p i hpre hS
    simp only [locsList, List.filter_append, List.flatMap_append]
    rw [ihx (p ++ [Seg.idx i]) (by simp [properPrefixes_snoc, hpre, hS]), ihr p (i + 1) hpre hS]
  · intros
    simp [locsKvs]
  · intro k v r ihv ihr p hpre hS
    simp only [locsKvs, List.filter_append, List.flatMap_append]
    rw [ihv (p ++ [Seg.key k]) (by simp [properPrefixes_snoc, hpre, hS]), ihr p hpre hS]

theorem locsList_decompose : ∀ (ys : List JV) (p : NPath) (i : Nat),
      (properPrefixes p).any S = false → S p = false →
      (locsList p i ys).filter K = ((locsList p i ys).filter (outermost S)).flatMap fun qu => (locs qu.1 qu.2).filter K :=
  (locs_decompose_all S K hK).2.1

theorem locsKvs_decompose : ∀ (kvs : List (Bytes × JV)) (p : NPath),
      (properPrefixes p).any S = false → S p = false →
      (locsKvs p kvs).filter K = ((locsKvs p kvs).filter (outermost S)).flatMap fun qu => (locs qu.1 qu.2).filter K :=
  (locs_decompose_all S K hK).2.2
end

theorem nil_mem_prefixesIncl (q : NPath) : [] ∈ prefixesIncl q := by
  cases q with
  | nil => simp [prefixesIncl, properPrefixes]
  | cons s r => simp [prefixesIncl_cons]

theorem stripFilter_cons (f : Frag) (fs : Target) (hf : isFilterFrag f = false) :
    stripFilter (f :: fs) = f :: stripFilter fs := by
  rw [stripFilter, splitTarget_cons f fs hf]; rfl

theorem stripFilter_filter (p : JV → Bool) (fs : Target) : stripFilter (.filter p :: fs) = [] := rfl

theorem any_prefixesIncl_cons (s : Seg) (r : NPath) (g : NPath → Bool) :
    (prefixesIncl (s :: r)).any g = (g [] || (prefixesIncl r).any fun x => g (s :: x)) := by
  simp [prefixesIncl_cons, List.any_map, Function.comp_def]

theorem anyAlong_strip (g g' : JV → NPath → Bool)
    (h : ∀ v q, g v q = true → (prefixesIncl q).any (g' v) = true) :
    ∀ (q : NPath) (v : JV), anyAlong g v q = true → (prefixesIncl q).any (anyAlong g' v) = true
  | [], v, ha => by
    simp only [anyAlong] at ha
    have := h v [] ha
    simpa [prefixesIncl, properPrefixes, anyAlong] using this
  | s :: r, v, ha => by
    simp only [anyAlong, Bool.or_eq_true] at ha
    rcases ha with ha | ha
    · -- the rest of the target starts at `v`
      have := h v (s :: r) ha
      simp only [List.any_eq_true] at this ⊢
      obtain ⟨x, hx, hg⟩ := this
      refine ⟨x, hx, ?_⟩
      cases x with
      | nil => simpa [anyAlong] using hg
      | cons a b => simp [anyAlong, hg]
    · cases hc : child? v s with
      | none => simp [hc] at ha
      | some c =>
        simp only [hc] at ha
        have ih := anyAlong_strip g g' h r c ha
        rw [any_prefixesIncl_cons]
        simp only [Bool.or_eq_true, List.any_eq_true] at ih ⊢
        obtain ⟨x, hx, hg⟩ := ih
        exact Or.inr ⟨x, hx, by simp [anyAlong, hc, hg]⟩

/-- a selected location lies at or (for a filter target: one step) below one that the target
without its filter selects -/
theorem selects_strip : ∀ (t : Target) (v : JV) (q : NPath), selects t v q = true →
    (prefixesIncl q).any (selects (stripFilter t) v) = true
  | [], v, q, h => by
    simp only [selects, List.isEmpty_iff] at h
    subst h
    simp [prefixesIncl, properPrefixes, stripFilter, splitTarget, selects]
  | f :: fs, v, q, h => by
    cases hf : isFilterFrag f
    · rw [stripFilter_cons f fs hf]
      cases hd : isDescent f
      · obtain ⟨s, r, c, rfl, hc, hf, h2⟩ := selects_cons_true hd h
        have ih := selects_strip fs c r h2
        rw [any_prefixesIncl_cons]
        simp only [Bool.or_eq_true, List.any_eq_true] at ih ⊢
        obtain ⟨x, hx, hg⟩ := ih
        refine Or.inr ⟨x, hx, ?_⟩
        rw [selects_cons_some f hd (stripFilter fs) v s x c hc]
        simp [hf, hg]
      · cases f <;> simp [isDescent] at hd
        simp only [selects] at h ⊢
        exact anyAlong_strip (selects fs) (selects (stripFilter fs)) (fun v q hq => selects_strip fs v q hq) q v h
    · cases f <;> simp [isFilterFrag] at hf
      rw [stripFilter_filter]
      simp only [List.any_eq_true]
      exact ⟨[], nil_mem_prefixesIncl q, by simp [selects]⟩

/-- **The specification splits along the outermost locations of the stripped targets**: every
location `targets` select lies at or below a location the targets without their filters select. -/
theorem expected_decompose (targets : List Target) (doc : JV) :
    expected targets doc =
      (expected (targets.map stripFilter) doc).flatMap fun qu =>
        (locs qu.1 qu.2).filter (outermost (selectedBy targets doc)) := by
  exact (locs_decompose_all (selectedBy (targets.map stripFilter) doc) (outermost (selectedBy targets doc))
    (by
      intro q u hk
      simp only [outermost, Bool.and_eq_true, selectedBy, List.any_eq_true] at hk
      obtain ⟨⟨t, ht, hs⟩, _⟩ := hk
      have := selects_strip t doc q hs
      simp only [List.any_eq_true] at this ⊢
      obtain ⟨x, hx, hg⟩ := this
      exact ⟨x, hx, by simp only [selectedBy, List.any_map, Function.comp_def, List.any_eq_true]; exact ⟨t, ht, hg⟩⟩)).1
    doc [] (by simp [properPrefixes])

section
variable (a : NPath × JV)

theorem filter_pieces_none (fn : NPath × JV → List (NPath × JV)) (r : List (NPath × JV))
    (hfn : ∀ c ∈ r, ∀ x ∈ fn c, c.1 <+: x.1)
    (hinc : ∀ c ∈ r, ¬ (c.1 <+: a.1 ∨ a.1 <+: c.1)) :
    (r.flatMap fn).filter (fun x => decide (a.1 <+: x.1)) = [] := by
  simp only [List.filter_eq_nil_iff, List.mem_flatMap, decide_eq_true_eq]
  rintro x ⟨c, hc, hx⟩ hax
  exact hinc c hc (List.prefix_or_prefix_of_prefix (hfn c hc x hx) hax)

/-- the pieces of a concatenation over pairwise incomparable locations can be read back: what lies
at or below `a` is `fn a` -/
theorem filter_pieces (fn : NPath × JV → List (NPath × JV)) : ∀ (r : List (NPath × JV)),
    (r.map (·.1)).Nodup → a ∈ r →
    (∀ c ∈ r, ∀ x ∈ fn c, c.1 <+: x.1) →
    (∀ c ∈ r, c.1 ≠ a.1 → ¬ (c.1 <+: a.1 ∨ a.1 <+: c.1)) →
    (r.flatMap fn).filter (fun x => decide (a.1 <+: x.1)) = fn a
  | [], _, ha, _, _ => by simp at ha
  | b :: r, hnd, ha, hfn, hinc => by
    simp only [List.map_cons, List.nodup_cons] at hnd
    simp only [List.flatMap_cons, List.filter_append]
    by_cases hba : b.1 = a.1
    · have hab : a = b := by
        rcases List.mem_cons.mp ha with h | h
        · exact h
        · exact absurd (List.mem_map.mpr ⟨a, h, hba.symm⟩) hnd.1
      subst hab
      have h1 : (fn a).filter (fun x => decide (a.1 <+: x.1)) = fn a := by
        rw [List.filter_eq_self]
        intro x hx
        simpa using hfn a List.mem_cons_self x hx
      have h2 := filter_pieces_none a fn r (fun c hc => hfn c (List.mem_cons_of_mem _ hc))
        (fun c hc => hinc c (List.mem_cons_of_mem _ hc) (by
          intro e
          exact hnd.1 (List.mem_map.mpr ⟨c, hc, e⟩)))
      rw [h1, h2, List.append_nil]
    · have har : a ∈ r := by
        rcases List.mem_cons.mp ha with h | h
        · exact absurd (by rw [h]) hba
        · exact h
      have h1 := filter_pieces_none a fn [b] (fun c hc => by
          simp only [List.mem_singleton] at hc; subst hc; exact hfn c List.mem_cons_self)
        (fun c hc => by
          simp only [List.mem_singleton] at hc; subst hc; exact hinc c List.mem_cons_self hba)
      simp only [List.flatMap_cons, List.flatMap_nil, List.append_nil] at h1
      rw [h1, List.nil_append]
      exact filter_pieces fn r hnd.2 har (fun c hc => hfn c (List.mem_cons_of_mem _ hc))
        (fun c hc => hinc c (List.mem_cons_of_mem _ hc))
end

theorem expected_incomparable (targets : List Target) (doc : JV) (hdoc : NoDupKeys doc = true)
    (a b : NPath × JV) (ha : a ∈ expected targets doc) (hb : b ∈ expected targets doc) (hne : b.1 ≠ a.1) :
    ¬ (b.1 <+: a.1 ∨ a.1 <+: b.1) := by
  obtain ⟨qa, ua⟩ := a
  obtain ⟨qb, ub⟩ := b
  have ma := (mem_expected_iff targets doc hdoc qa ua).mp ha
  have mb := (mem_expected_iff targets doc hdoc qb ub).mp hb
  rintro (h | h)
  · have := ma.2.2 qb (mem_properPrefixes_of_prefix h hne)
    rw [mb.2.1] at this; cases this
  · have := mb.2.2 qa (mem_properPrefixes_of_prefix h (fun e => hne e.symm))
    rw [ma.2.1] at this; cases this

end OjgVerif.Match
