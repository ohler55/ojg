import OjgVerif.Match.Tokenizer
import OjgVerif.Props.C03
/-! Chunk independence of the tokenizer's EVENT SEQUENCE (`tokEventsIdeal`): the event fold joins its
buffers as `Json.runChunks` does (`evChunks_eq_join`), and the preparation of the reader entry is
`C03.reader_prep` with the events as the observation. -/
namespace OjgVerif.Match
open OjgVerif.Json

variable (T : Tables) (cfg : Cfg)

theorem evBytes_append (s : Json.St) (a b : Bytes) :
    evBytes T cfg s (a ++ b) =
      evBytes T cfg s a ++
        match runBytes T cfg s a with
        | .error _ => []
        | .ok s' => evBytes T cfg s' b := by
  induction a generalizing s with
  | nil => simp [evBytes, runBytes]
  | cons x r ih =>
    simp only [List.cons_append, evBytes, runBytes]
    cases hst : Json.step T cfg s x with
    | error e => simp
    | ok s1 => simp only [ih s1, List.append_assoc]

theorem evChunks_eq_join (h : cfg.fastInt = false) (cs : List Bytes) (s : Json.St) (hs : s.inFast = false) :
    evChunks T cfg s cs = evBytes T cfg s cs.flatten := by
  induction cs generalizing s with
  | nil => rfl
  | cons c r ih =>
    simp only [evChunks, List.flatten_cons, evBytes_append]
    cases h1 : runBytes T cfg s c with
    | error e => rfl
    | ok s1 =>
      simp only
      have h2 := C03.runBytes_inFast T cfg h c s s1 hs h1
      have : ({ s1 with inFast := false } : Json.St) = s1 := by
        cases s1; simp_all
      rw [this, ih s1 h2]

theorem evAfterBom_eq (h : cfg.fastInt = false) (cs : List Bytes) :
    evAfterBom T cfg cs = evAfterBom T cfg [cs.flatten] := by
  unfold evAfterBom
  rw [evChunks_eq_join T cfg h cs {} rfl, evChunks_eq_join T cfg h [cs.flatten] {} rfl,
    C03.runChunks_eq_join T cfg h cs {} rfl, C03.runChunks_eq_join T cfg h [cs.flatten] {} rfl]
  simp

/-- `C03.reader_prep` under the name the tokenizer's theorems use: the BOM top-up of the reader entry
points does not depend on the chunking, for ANY continuation `F` that only depends on the concatenation
of the buffers handed to it. -/
theorem reader_prep_irrelevant {α : Type} (F : List Bytes → α) (hF : ∀ cs, F cs = F [cs.flatten])
    (e0 bad : α) (chunks : List Bytes) :
    (match topUp (chunks.filter (!·.isEmpty)) with
      | [] => e0
      | c :: rest =>
        match bomRuleReader c with
        | .bad => bad
        | .strip r => F (r :: rest)
        | .keep => F (c :: rest)) =
    (match topUp ([chunks.flatten].filter (!·.isEmpty)) with
      | [] => e0
      | c :: rest =>
        match bomRuleReader c with
        | .bad => bad
        | .strip r => F (r :: rest)
        | .keep => F (c :: rest)) :=
  C03.reader_prep F hF e0 bad chunks

/-- **Chunk independence of the token-event sequence** (reader entry, no integer fast loop — the
configuration of `oj.Tokenizer.Load`): every handler call, in order, with its argument — also the
calls made before an error — depends only on the bytes delivered, not on how the reader splits them
(1-byte reads, splits inside tokens, a BOM spread over several reads). Any table set. -/
theorem tokEvents_chunks_irrelevant (h : cfg.fastInt = false) (hr : cfg.reader = true) (chunks : List Bytes) :
    tokEventsIdeal T cfg chunks = tokEventsIdeal T cfg [chunks.flatten] := by
  simp only [tokEventsIdeal, hr, ↓reduceIte]
  exact reader_prep_irrelevant (evAfterBom T cfg) (evAfterBom_eq T cfg h) _ _ chunks

/-- on every chunking whose first read is not empty the deviating entry is the ideal reader entry -/
theorem tokEvents_eq_ideal (dev : Bool) (chunks : List Bytes) (h : chunks.head? ≠ some []) :
    tokEventsWith T cfg dev chunks = tokEventsIdeal T cfg chunks := by
  unfold tokEventsWith
  split
  · simp at h
  · rfl

/-- the flag `emptyFirstReadNoBom` is off: the entry of the code as it is, is the ideal reader entry on EVERY chunking -/
theorem tokEvents_eq_ideal_now (chunks : List Bytes) : tokEvents T cfg chunks = tokEventsIdeal T cfg chunks := by
  unfold tokEvents tokEventsWith
  simp [emptyFirstReadNoBom]

/-- **Chunk independence of the token-event sequence of the code as it is**: every chunking. -/
theorem tokEvents_go_chunks_irrelevant (h : cfg.fastInt = false) (hr : cfg.reader = true) (chunks : List Bytes) :
    tokEvents T cfg chunks = tokEvents T cfg [chunks.flatten] := by
  rw [tokEvents_eq_ideal_now, tokEvents_eq_ideal_now, tokEvents_chunks_irrelevant T cfg h hr]

end OjgVerif.Match
