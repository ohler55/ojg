import OjgVerif.Match.Model
/-! The targets on which a matcher `dv` is claimed (and proved, Props/C17.lean) to agree with the
specification. The driver answers `ok <dev> <target>` with `okTarget`, so that the harness decides
"known deviation" with the very predicate of the theorem. -/
namespace OjgVerif.Match
open OjgVerif

def isDescent : Frag → Bool
  | .descent => true
  | _ => false

def memOK : UMem → Bool
  | .name _ => true
  | .index i => decide (0 ≤ i)

/-- fragments on which the matcher `dv` is claimed to agree with the specification -/
def fragOK (dv : Dev) : Frag → Bool
  | .child _ => true
  | .index i => decide (0 ≤ i)                 -- not counted from the end
  | .wildcard => true
  | .union ms => ms.all memOK                  -- no member counted from the end
  | .slice a b st =>
    if dv.sliceAll then                        -- every index matches: right for `[:]` only
      decide (a = 0) && b.isNone && decide (st = 1)
    else                                       -- bounds applied: bounds from the start, forward step
      decide (0 ≤ a) && decide (0 < st) &&
        (match b with
          | none => true
          | some e => decide (0 ≤ e))
  | .descent => true
  | .filter _ => false

/-- every fragment is `fragOK`, and the target does not END in a descent unless the matcher lets a
descent match the node itself -/
def okTarget (dv : Dev) : Target → Bool
  | [] => true
  | f :: fs => fragOK dv f && okTarget dv fs && !(dv.descentNoSelf && isDescent f && fs.isEmpty)

def isFilterFrag : Frag → Bool
  | .filter _ => true
  | _ => false

/-- What a fragment means to a matcher that compares a from-the-end index with the path's
non-negative index and lets a slice match every index (`Dev.sliceAll`): a negative index selects
nothing (the empty union), negative union members drop out, a slice is `[:]`. The identity on
every fragment that is `fragOK`. -/
def streamedFrag : Frag → Frag
  | .index i => if i < 0 then .union [] else .index i
  | .union ms => .union (ms.filter memOK)
  | .slice _ _ _ => .slice 0 none 1
  | f => f

def asStreamed (t : Target) : Target := t.map streamedFrag

/-- the streamed reading of one kind of construct only (`idx`: from-the-end indexes and union
members, `sl`: slices); the driver uses it to tell WHICH recorded deviation explains a case.
`streamedFragWith true true = streamedFrag` (`streamedFragWith_both`, Match/LemmasStream.lean). -/
def streamedFragWith (idx sl : Bool) : Frag → Frag
  | .index i => if idx && decide (i < 0) then .union [] else .index i
  | .union ms => if idx then .union (ms.filter memOK) else .union ms
  | .slice a b st => if sl then .slice 0 none 1 else .slice a b st
  | f => f

def asStreamedWith (idx sl : Bool) (t : Target) : Target := t.map (streamedFragWith idx sl)

end OjgVerif.Match
