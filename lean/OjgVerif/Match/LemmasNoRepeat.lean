import OjgVerif.Match.Tree
/-! An executable check on an event sequence for "no object repeats a member name"
(`noRepeat`), and its meaning on the events of trees: `noRepeat_events`. -/
namespace OjgVerif.Match

/-- the names seen so far in each open object (innermost first); `none`: a name was repeated (or the
sequence is not balanced) -/
def keyStep : Option (List (List Bytes)) → Event → Option (List (List Bytes))
  | none, _ => none
  | some st, .objStart => some ([] :: st)
  | some (ks :: st), .key k => if ks.contains k then none else some ((k :: ks) :: st)
  | some [], .key _ => none
  | some (_ :: st), .objEnd => some st
  | some [], .objEnd => none
  | some st, .arrStart => some st
  | some st, .arrEnd => some st
  | some st, .leaf _ => some st

/-- no object of the event sequence repeats a member name -/
def noRepeat (evs : List Event) : Bool := (evs.foldl keyStep (some [])).isSome

theorem foldl_keyStep_none (evs : List Event) : evs.foldl keyStep none = none := by
  induction evs with
  | nil => rfl
  | cons e r ih => simpa [List.foldl_cons, keyStep] using ih

/-- the names of `kvs` are pairwise different and none is in `ks` -/
def freshKeys (ks : List Bytes) : List (Bytes × JV) → Bool
  | [] => true
  | (k, _) :: r => !ks.contains k && freshKeys (k :: ks) r

theorem all_not_contains_cons (k : Bytes) (ks : List Bytes) : ∀ (r : List (Bytes × JV)),
    (r.all fun kv => !(k :: ks).contains kv.1) =
      ((!r.any fun kv => kv.1 == k) && r.all fun kv => !ks.contains kv.1)
  | [] => rfl
  | a :: t => by
    simp only [List.all_cons, List.any_cons]
    rw [all_not_contains_cons k ks t]
    simp only [List.contains_cons, Bool.not_or]
    -- an identity of Boolean algebra in the four tests
    generalize (a.1 == k) = b1, ks.contains a.1 = b2, (t.any fun kv => kv.1 == k) = b3,
      (t.all fun kv => !ks.contains kv.1) = b4
    revert b1 b2 b3 b4
    decide

theorem freshKeys_eq : ∀ (kvs : List (Bytes × JV)) (ks : List Bytes),
    freshKeys ks kvs = (keysDistinct kvs && kvs.all fun kv => !ks.contains kv.1)
  | [], _ => rfl
  | (k, v) :: r, ks => by
    simp only [freshKeys, keysDistinct, freshKeys_eq r (k :: ks), List.all_cons]
    rw [all_not_contains_cons k ks r]
    generalize ks.contains k = b1, (r.any fun kv => kv.1 == k) = b2, keysDistinct r = b3,
      (r.all fun kv => !ks.contains kv.1) = b4
    revert b1 b2 b3 b4
    decide

theorem foldl_events_all :
    (∀ (v : JV) (st : List (List Bytes)),
      (events v).foldl keyStep (some st) = if NoDupKeys v then some st else none) ∧
    (∀ (xs : List JV) (st : List (List Bytes)),
      (eventsList xs).foldl keyStep (some st) = if NoDupKeysList xs then some st else none) ∧
    (∀ (kvs : List (Bytes × JV)) (ks : List Bytes) (st : List (List Bytes)),
      (eventsKvs kvs).foldl keyStep (some (ks :: st)) =
        if freshKeys ks kvs && NoDupKeysKvs kvs then some (((kvs.map (·.1)).reverse ++ ks) :: st) else none) := by
  refine tree_induction ?_ ?_ ?_ ?_ ?_ ?_ ?_
  · intro v hl st
    rw [events_of_leaf hl, noDupKeys_of_leaf hl]
    rfl
  · intro xs ih st
    simp only [events, List.foldl_cons, keyStep, List.foldl_append, List.foldl_nil, NoDupKeys]
    rw [ih st]
    by_cases h : NoDupKeysList xs = true <;> simp [h]
  · intro kvs ih st
    simp only [events, List.foldl_cons, keyStep, List.foldl_append, List.foldl_nil, NoDupKeys]
    rw [ih [] st, freshKeys_eq]
    by_cases h1 : keysDistinct kvs = true <;> by_cases h2 : NoDupKeysKvs kvs = true <;> simp [h1, h2]
  · intro st; rfl
  · intro x r ihx ihr st
    simp only [eventsList, List.foldl_append, NoDupKeysList]
    rw [ihx st]
    by_cases h : NoDupKeys x = true
    · simp [h, ihr st]
    · simp [h, foldl_keyStep_none]
  · intro ks st; rfl
  · intro k v r ihv ihr ks st
    simp only [eventsKvs, List.foldl_cons, keyStep, List.foldl_append, freshKeys, NoDupKeysKvs]
    by_cases hc : ks.contains k = true
    · simp only [hc, if_true, foldl_keyStep_none, Bool.not_true, Bool.false_and, Bool.false_eq_true, if_false]
    · simp only [hc, Bool.false_eq_true, if_false, Bool.not_false, Bool.true_and]
      rw [ihv ((k :: ks) :: st)]
      by_cases hv : NoDupKeys v = true
      · simp only [hv, if_true, Bool.true_and]
        rw [ihr (k :: ks) st]
        simp
      · simp [hv, foldl_keyStep_none]

theorem foldl_eventsList : ∀ (xs : List JV) (st : List (List Bytes)),
      (eventsList xs).foldl keyStep (some st) = if NoDupKeysList xs then some st else none :=
  foldl_events_all.2.1

theorem foldl_eventsKvs : ∀ (kvs : List (Bytes × JV)) (ks : List Bytes) (st : List (List Bytes)),
      (eventsKvs kvs).foldl keyStep (some (ks :: st)) =
        if freshKeys ks kvs && NoDupKeysKvs kvs then some (((kvs.map (·.1)).reverse ++ ks) :: st) else none :=
  foldl_events_all.2.2

/-- **Meaning of the check**: on the events of a sequence of trees, `noRepeat` says that no object of
any of them repeats a member name. -/
theorem noRepeat_events (raws : List JV) : noRepeat (raws.flatMap events) = raws.all NoDupKeys := by
  unfold noRepeat
  induction raws with
  | nil => rfl
  | cons r rs ih =>
    simp only [List.flatMap_cons, List.foldl_append, List.all_cons]
    rw [foldl_events_all.1 r []]
    cases NoDupKeys r
    · simp [foldl_keyStep_none]
    · simpa using ih

end OjgVerif.Match
