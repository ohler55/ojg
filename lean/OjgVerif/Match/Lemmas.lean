import OjgVerif.Match.Model
import OjgVerif.Match.Tree
/-! The handler model as a function of the document: on the events of a tree the transducer does
what the recursive traversal `found` does — report a node when `PathMatch` accepts its path (going
through `checkRest`), otherwise look at its children. (`run_events`, for every target set, with the
deviations of the model included.) -/
namespace OjgVerif.Match

theorem run_append (dv trs st) (a b : List Event) :
    run dv trs st (a ++ b) = run dv trs (run dv trs st a) b := by
  simp [run, List.foldl_append]

theorem run_cons (dv trs st) (e : Event) (r : List Event) :
    run dv trs st (e :: r) = run dv trs (step dv trs st e) r := rfl

theorem run_nil (dv trs st) : run dv trs st [] = st := rfl

theorem set_length_append (xs : List JV) (a b : JV) : (xs ++ [a]).set xs.length b = xs ++ [b] := by
  induction xs with
  | nil => rfl
  | cons x r ih => simp [ih]

theorem kvInsert_kvInsert (k : Bytes) (a b : JV) (kvs : List (Bytes × JV)) :
    kvInsert k b (kvInsert k a kvs) = kvInsert k b kvs := by
  induction kvs with
  | nil => simp [kvInsert]
  | cons kv r ih =>
    obtain ⟨k', v'⟩ := kv
    by_cases h : k' = k
    · simp [kvInsert, h]
    · simp [kvInsert, h, ih]

/-- the top of the stack and the last path element belong together -/
def Fits : JV → List Seg → Prop
  | .arr xs, .idx i :: _ => i = xs.length
  | .obj _, .key _ :: _ => True
  | _, _ => False

theorem setInTop_addToTop (top : JV) (rp : List Seg) (a b : JV) (h : Fits top rp) :
    setInTop (addToTop top rp.head? a) rp.head? b = addToTop top rp.head? b := by
  match top, rp, h with
  | .arr xs, .idx i :: _, h =>
    simp only [Fits] at h
    subst h
    simp [addToTop, setInTop]
  | .obj kvs, .key k :: _, _ => simp [addToTop, setInTop, kvInsert_kvInsert]

theorem leaf_collect (dv trs) (v : JV) (rp : List Seg) (top : JV) (rest : List JV) (out) :
    run dv trs ⟨rp, top :: rest, out⟩ [.leaf v] = ⟨incNth rp, addToTop top rp.head? v :: rest, out⟩ := by
  simp [run, step, addValue]

/-- While an element is collected (`Stack` not empty) nothing is reported. After the members of an object the
last path element is the last name seen (`k0` when there is none): the clause only says there is one (`k1`),
since `endContainer` drops it (`st.rpath.tail`) without reading it. -/
theorem collect (dv trs) :
    (∀ (v : JV), NoDupKeys v = true →
      ∀ (rp : List Seg) (top : JV) (rest : List JV) (out : List (NPath × JV)), Fits top rp →
      run dv trs ⟨rp, top :: rest, out⟩ (events v) = ⟨incNth rp, addToTop top rp.head? v :: rest, out⟩) ∧
    (∀ (ys : List JV), NoDupKeysList ys = true →
      ∀ (acc : List JV) (rp : List Seg) (stk : List JV) (out : List (NPath × JV)),
      run dv trs ⟨.idx acc.length :: rp, .arr acc :: stk, out⟩ (eventsList ys)
        = ⟨.idx (acc ++ ys).length :: rp, .arr (acc ++ ys) :: stk, out⟩) ∧
    (∀ (kvs : List (Bytes × JV)), NoDupKeysKvs kvs = true →
      ∀ (acc : List (Bytes × JV)) (k0 : Bytes) (rp : List Seg) (stk : List JV) (out : List (NPath × JV)),
      ∃ k1, run dv trs ⟨.key k0 :: rp, .obj acc :: stk, out⟩ (eventsKvs kvs)
        = ⟨.key k1 :: rp, .obj (insertAll acc kvs) :: stk, out⟩) := by
  refine nodup_induction ?_ ?_ ?_ ?_ ?_ ?_ ?_
  · intro v hl rp top rest out _
    rw [events_of_leaf hl]
    exact leaf_collect ..
  · intro xs _ ih rp top rest out hf
    simp only [events, run_cons, run_append, run_nil]
    have h0 : step dv trs ⟨rp, top :: rest, out⟩ .arrStart
        = ⟨.idx ([] : List JV).length :: rp, .arr [] :: addToTop top rp.head? (.arr []) :: rest, out⟩ := by
      simp [step, startContainer]
    rw [h0, ih [] rp _ out]
    simp [step, endContainer, setInTop_addToTop top rp _ _ hf]
  · intro kvs hd _ ih rp top rest out hf
    simp only [events, run_cons, run_append, run_nil]
    have h0 : step dv trs ⟨rp, top :: rest, out⟩ .objStart
        = ⟨.key [] :: rp, .obj [] :: addToTop top rp.head? (.obj []) :: rest, out⟩ := by
      simp [step, startContainer]
    obtain ⟨k1, h1⟩ := ih [] [] rp (addToTop top rp.head? (.obj []) :: rest) out
    rw [h0, h1, insertAll_nil kvs hd]
    simp [step, endContainer, setInTop_addToTop top rp _ _ hf]
  · intro acc rp stk out
    simp [eventsList, run_nil]
  · intro x r ihx ihr acc rp stk out
    simp only [eventsList, run_append]
    rw [ihx _ (.arr acc) stk out (by simp [Fits])]
    simpa [incNth, addToTop] using ihr (acc ++ [x]) rp stk out
  · intro acc k0 rp stk out
    exact ⟨k0, by simp [eventsKvs, run_nil, insertAll]⟩
  · intro k v r ihv ihr acc k0 rp stk out
    simp only [eventsKvs, run_cons, run_append]
    have h0 : step dv trs ⟨.key k0 :: rp, .obj acc :: stk, out⟩ (.key k) = ⟨.key k :: rp, .obj acc :: stk, out⟩ := by
      simp [step, setKey]
    rw [h0, ihv _ (.obj acc) stk out (by simp [Fits])]
    obtain ⟨k1, h1⟩ := ihr (kvInsert k v acc) k rp stk out
    exact ⟨k1, by simpa [incNth, addToTop, insertAll] using h1⟩

theorem collect_val (dv trs) : ∀ (v : JV), NoDupKeys v = true →
      ∀ (rp : List Seg) (top : JV) (rest : List JV) (out : List (NPath × JV)), Fits top rp →
      run dv trs ⟨rp, top :: rest, out⟩ (events v) = ⟨incNth rp, addToTop top rp.head? v :: rest, out⟩ :=
  (collect dv trs).1

def foundLeaf (dv : Dev) (trs : List TargetRest) (p : NPath) (v : JV) : List (NPath × JV) :=
  if pathMatchAny dv trs p true then [(p, v)] else []

mutual
  /-- the callbacks for the subtree `v` at path `p`: top-down, stopping at the first match -/
  def found (dv : Dev) (trs : List TargetRest) (p : NPath) : JV → List (NPath × JV)
    | .arr xs =>
      if pathMatchAny dv trs p false then checkRest dv trs p (.arr xs)
      else foundList dv trs p 0 xs
    | .obj kvs =>
      if pathMatchAny dv trs p false then checkRest dv trs p (.obj kvs)
      else foundKvs dv trs p kvs
    | .null => foundLeaf dv trs p .null
    | .bool b => foundLeaf dv trs p (.bool b)
    | .int i => foundLeaf dv trs p (.int i)
    | .flt t => foundLeaf dv trs p (.flt t)
    | .big t => foundLeaf dv trs p (.big t)
    | .num t => foundLeaf dv trs p (.num t)
    | .str s => foundLeaf dv trs p (.str s)
  def foundList (dv : Dev) (trs : List TargetRest) (p : NPath) (i : Nat) : List JV → List (NPath × JV)
    | [] => []
    | x :: r => found dv trs (p ++ [.idx i]) x ++ foundList dv trs p (i + 1) r
  def foundKvs (dv : Dev) (trs : List TargetRest) (p : NPath) : List (Bytes × JV) → List (NPath × JV)
    | [] => []
    | (k, v) :: r => found dv trs (p ++ [.key k]) v ++ foundKvs dv trs p r
end

theorem found_of_leaf (dv : Dev) (trs : List TargetRest) (p : NPath) (v : JV) (h : isLeafJV v = true) :
    found dv trs p v = foundLeaf dv trs p v := by
  cases v <;> first | rfl | cases h

theorem leaf_search (dv trs) (v : JV) (rp : List Seg) (out) :
    run dv trs ⟨rp, [], out⟩ [.leaf v] = ⟨incNth rp, [], out ++ foundLeaf dv trs rp.reverse v⟩ := by
  by_cases h : pathMatchAny dv trs rp.reverse true = true <;> simp [run, step, addValue, foundLeaf, h]

/-- With an empty `Stack` the handler searches: the callbacks appended are `found`. A container whose path
matches is collected (`collect`) and handed to `checkRest` when it closes; `∃ k1` as in `collect`. -/
theorem search (dv trs) :
    (∀ (v : JV), NoDupKeys v = true → ∀ (rp : List Seg) (out : List (NPath × JV)),
      run dv trs ⟨rp, [], out⟩ (events v) = ⟨incNth rp, [], out ++ found dv trs rp.reverse v⟩) ∧
    (∀ (ys : List JV), NoDupKeysList ys = true →
      ∀ (i : Nat) (rp : List Seg) (out : List (NPath × JV)),
      run dv trs ⟨.idx i :: rp, [], out⟩ (eventsList ys)
        = ⟨.idx (i + ys.length) :: rp, [], out ++ foundList dv trs rp.reverse i ys⟩) ∧
    (∀ (kvs : List (Bytes × JV)), NoDupKeysKvs kvs = true →
      ∀ (k0 : Bytes) (rp : List Seg) (out : List (NPath × JV)),
      ∃ k1, run dv trs ⟨.key k0 :: rp, [], out⟩ (eventsKvs kvs)
        = ⟨.key k1 :: rp, [], out ++ foundKvs dv trs rp.reverse kvs⟩) := by
  refine nodup_induction ?_ ?_ ?_ ?_ ?_ ?_ ?_
  · intro v hl rp out
    rw [events_of_leaf hl, found_of_leaf _ _ _ _ hl]
    exact leaf_search ..
  · intro xs hv ih rp out
    simp only [events, run_cons, run_append, run_nil]
    by_cases hm : pathMatchAny dv trs rp.reverse false = true
    · have h0 : step dv trs ⟨rp, [], out⟩ .arrStart = ⟨.idx ([] : List JV).length :: rp, [.arr []], out⟩ := by
        simp [step, startContainer, hm]
      rw [h0, (collect dv trs).2.1 xs hv [] rp [] out]
      simp [step, endContainer, found, hm]
    · have h0 : step dv trs ⟨rp, [], out⟩ .arrStart = ⟨.idx 0 :: rp, [], out⟩ := by
        simp [step, startContainer, hm]
      rw [h0, ih 0 rp out]
      simp [step, endContainer, found, hm]
  · intro kvs hd hv ih rp out
    simp only [events, run_cons, run_append, run_nil]
    by_cases hm : pathMatchAny dv trs rp.reverse false = true
    · have h0 : step dv trs ⟨rp, [], out⟩ .objStart = ⟨.key [] :: rp, [.obj []], out⟩ := by
        simp [step, startContainer, hm]
      obtain ⟨k1, h1⟩ := (collect dv trs).2.2 kvs hv [] [] rp [] out
      rw [h0, h1, insertAll_nil kvs hd]
      simp [step, endContainer, found, hm]
    · have h0 : step dv trs ⟨rp, [], out⟩ .objStart = ⟨.key [] :: rp, [], out⟩ := by
        simp [step, startContainer, hm]
      obtain ⟨k1, h1⟩ := ih [] rp out
      rw [h0, h1]
      simp [step, endContainer, found, hm]
  · intro i rp out
    simp [eventsList, run_nil, foundList]
  · intro x r ihx ihr i rp out
    simp only [eventsList, run_append]
    rw [ihx _ out]
    simp only [incNth, List.reverse_cons, foundList, List.length_cons]
    rw [ihr]
    simp [Nat.add_assoc, Nat.add_comm 1]
  · intro k0 rp out
    exact ⟨k0, by simp [eventsKvs, run_nil, foundKvs]⟩
  · intro k v r ihv ihr k0 rp out
    simp only [eventsKvs, run_cons, run_append]
    have h0 : step dv trs ⟨.key k0 :: rp, [], out⟩ (.key k) = ⟨.key k :: rp, [], out⟩ := by
      simp [step, setKey]
    rw [h0, ihv _ out]
    obtain ⟨k1, h1⟩ := ihr k rp (out ++ found dv trs (rp.reverse ++ [Seg.key k]) v)
    refine ⟨k1, ?_⟩
    simp only [incNth, List.reverse_cons, foundKvs]
    rw [h1]
    simp

theorem search_list (dv trs) : ∀ (ys : List JV), NoDupKeysList ys = true →
      ∀ (i : Nat) (rp : List Seg) (out : List (NPath × JV)),
      run dv trs ⟨.idx i :: rp, [], out⟩ (eventsList ys)
        = ⟨.idx (i + ys.length) :: rp, [], out ++ foundList dv trs rp.reverse i ys⟩ :=
  (search dv trs).2.1

theorem search_kvs (dv trs) : ∀ (kvs : List (Bytes × JV)), NoDupKeysKvs kvs = true →
      ∀ (k0 : Bytes) (rp : List Seg) (out : List (NPath × JV)),
      ∃ k1, run dv trs ⟨.key k0 :: rp, [], out⟩ (eventsKvs kvs)
        = ⟨.key k1 :: rp, [], out ++ foundKvs dv trs rp.reverse kvs⟩ :=
  (search dv trs).2.2

/-- the transducer on the events of a document = the top-down traversal with `PathMatch` -/
theorem run_events (dv : Dev) (targets : List Target) (doc : JV) (h : NoDupKeys doc = true) :
    matchRun dv targets (events doc) = found dv (targets.map splitTarget) [] doc := by
  simp [matchRun, St.init, (search dv _).1 doc h [] []]

end OjgVerif.Match
