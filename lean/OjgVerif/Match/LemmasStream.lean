import OjgVerif.Match.LemmasSel
/-! Targets with a from-the-end index or a slice do not disturb the other targets of a set: for a
matcher with `sliceAll` (and a descent that matches the node itself) and a target set WITHOUT
filters, the callbacks are the specification's for the targets read the way the streaming matcher
reads them (`asStreamed`: a from-the-end index selects nothing, a slice is `[:]`) — every target
without such a construct keeps its meaning. Only a filter target collects containers and hides the
other targets. -/
namespace OjgVerif.Match

theorem streamedFragWith_both (f : Frag) : streamedFragWith true true f = streamedFrag f := by
  cases f <;> simp [streamedFragWith, streamedFrag]

theorem asStreamedWith_both (t : Target) : asStreamedWith true true t = asStreamed t := by
  simp [asStreamedWith, asStreamed, funext streamedFragWith_both]

theorem asStreamed_cons (f : Frag) (fs : Target) : asStreamed (f :: fs) = streamedFrag f :: asStreamed fs := rfl

theorem any_filter_memOK (ms : List UMem) (g : UMem → Bool) (hg : ∀ m, memOK m = false → g m = false) :
    (ms.filter memOK).any g = ms.any g := by
  induction ms with
  | nil => rfl
  | cons m r ih =>
    cases h : memOK m
    · simp [h, ih, hg m h]
    · simp [h, ih]

theorem segMatch_streamed (dv : Dev) (hs : dv.sliceAll = true) (f : Frag) (s : Seg) :
    segMatch dv (streamedFrag f) s = segMatch dv f s := by
  cases f with
  | child k => rfl
  | index i =>
    by_cases h : i < 0
    · cases s with
      | key k => simp [streamedFrag, h, segMatch]
      | idx j =>
        have : ¬ i = (j : Int) := by omega
        simp [streamedFrag, h, segMatch, this]
    · simp [streamedFrag, h]
  | wildcard => rfl
  | union ms =>
    simp only [streamedFrag, segMatch]
    apply any_filter_memOK
    intro m hm
    cases m with
    | name k => simp [memOK] at hm
    | index i =>
      simp only [memOK, decide_eq_false_iff_not] at hm
      cases s with
      | key k => rfl
      | idx j =>
        have : ¬ i = (j : Int) := by omega
        simp [this]
  | slice a b st => cases s <;> simp [streamedFrag, segMatch, hs]
  | descent => rfl
  | filter p => rfl

theorem pathMatch_streamed (dv : Dev) (hs : dv.sliceAll = true) :
    ∀ (t : Target), pathMatch dv (asStreamed t) = pathMatch dv t
  | [] => rfl
  | f :: fs => by
    have ih := pathMatch_streamed dv hs fs
    funext path
    rw [asStreamed_cons]
    cases hd : isDescent f
    · have hsd : isDescent (streamedFrag f) = false := by
        cases f with
        | index i => by_cases h : i < 0 <;> simp [streamedFrag, h, isDescent]
        | descent => cases hd
        | _ => rfl
      cases path with
      | nil => rw [pathMatch_cons_nil dv _ hsd, pathMatch_cons_nil dv _ hd]
      | cons s p => rw [pathMatch_cons_cons dv _ hsd, pathMatch_cons_cons dv _ hd, ih, segMatch_streamed dv hs]
    · cases f <;> simp [isDescent] at hd
      simp only [streamedFrag, pathMatch, ih]

theorem fragOK_streamed (dv : Dev) (hs : dv.sliceAll = true) (f : Frag) (hf : isFilterFrag f = false) :
    fragOK dv (streamedFrag f) = true := by
  cases f with
  | child k => rfl
  | index i =>
    by_cases h : i < 0
    · simp [streamedFrag, h, fragOK]
    · have : 0 ≤ i := by omega
      simp [streamedFrag, h, fragOK, this]
  | wildcard => rfl
  | union ms => simp [streamedFrag, fragOK]
  | slice a b st => simp [streamedFrag, fragOK, hs]
  | descent => rfl
  | filter p => simp [isFilterFrag] at hf

theorem okTarget_streamed (dv : Dev) (hs : dv.sliceAll = true) (hd : dv.descentNoSelf = false) :
    ∀ (t : Target), t.any isFilterFrag = false → okTarget dv (asStreamed t) = true
  | [], _ => rfl
  | f :: fs, h => by
    simp only [List.any_cons, Bool.or_eq_false_iff] at h
    simp [asStreamed_cons, okTarget, fragOK_streamed dv hs f h.1, okTarget_streamed dv hs hd fs h.2, hd]

theorem streamedFrag_ok (dv : Dev) (hs : dv.sliceAll = true) (f : Frag) (hf : fragOK dv f = true) :
    streamedFrag f = f := by
  cases f with
  | child k => rfl
  | index i =>
    simp only [fragOK, decide_eq_true_eq] at hf
    have : ¬ i < 0 := by omega
    simp [streamedFrag, this]
  | wildcard => rfl
  | union ms =>
    simp only [fragOK] at hf
    simp only [streamedFrag, Frag.union.injEq, List.filter_eq_self]
    exact List.all_eq_true.mp hf
  | slice a b st =>
    simp only [fragOK, hs, if_true, Bool.and_eq_true, decide_eq_true_eq, Option.isNone_iff_eq_none] at hf
    obtain ⟨⟨ha, hb⟩, hst⟩ := hf
    subst ha hb hst
    rfl
  | descent => rfl
  | filter p => rfl

theorem asStreamed_ok (dv : Dev) (hs : dv.sliceAll = true) : ∀ (t : Target), okTarget dv t = true → asStreamed t = t
  | [], _ => rfl
  | f :: fs, h => by
    simp only [okTarget, Bool.and_eq_true] at h
    rw [asStreamed_cons, streamedFrag_ok dv hs f h.1.1, asStreamed_ok dv hs fs h.1.2]

/-- the traversal for a filter-free target set lists the outermost locations the streamed readings
of the targets select -/
theorem found_streamed (dv : Dev) (hs : dv.sliceAll = true) (hd : dv.descentNoSelf = false)
    (targets : List Target) (doc : JV) (hdoc : NoDupKeys doc = true)
    (hnf : ∀ t ∈ targets, t.any isFilterFrag = false) :
    found dv (targets.map splitTarget) [] doc = expected (targets.map asStreamed) doc :=
  found_reading dv targets asStreamed doc hdoc (fun t ht => splitTarget_nf t (hnf t ht)) (fun t ht q u hq => by
    rw [← pathMatch_streamed dv hs t]
    exact pathMatch_prefixes dv (asStreamed t) (okTarget_streamed dv hs hd t (hnf t ht)) doc q u hq)

end OjgVerif.Match
