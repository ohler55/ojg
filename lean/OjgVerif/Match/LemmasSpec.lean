import OjgVerif.Match.LemmasSel
/-! What `expected` lists, said without the enumeration `locs`: a pair (path, value) is expected
iff the path exists in the document with that value, some target selects it and no target selects
a proper prefix of it (`mem_expected_iff`); no path is listed twice (`expected_nodup`). -/
namespace OjgVerif.Match

def pathsOf (l : List (NPath × JV)) : List NPath := l.map (·.1)

theorem pathsOf_append (a b : List (NPath × JV)) : pathsOf (a ++ b) = pathsOf a ++ pathsOf b := by
  simp [pathsOf]

theorem append_cons_ne_self (p : NPath) (s : Seg) (r : NPath) : p ++ s :: r ≠ p := by
  intro h
  have := congrArg List.length h
  simp at this

theorem locs_nodup_all :
    (∀ (v : JV), NoDupKeys v = true → ∀ (p : NPath), (pathsOf (locs p v)).Nodup) ∧
    (∀ (xs : List JV), NoDupKeysList xs = true → ∀ (p : NPath) (i : Nat), (pathsOf (locsList p i xs)).Nodup) ∧
    (∀ (kvs : List (Bytes × JV)), NoDupKeysKvs kvs = true → keysDistinct kvs = true →
      ∀ (p : NPath), (pathsOf (locsKvs p kvs)).Nodup) := by
  refine nodup_induction ?_ ?_ ?_ ?_ ?_ ?_ ?_
  · intro v hl p
    simp [locs_of_leaf p v hl, pathsOf]
  · intro xs _ ih p
    simp only [locs, pathsOf, List.map_cons, List.nodup_cons, List.mem_map]
    refine ⟨?_, ih p 0⟩
    rintro ⟨qu, hqu, hp⟩
    obtain ⟨j, r, _, hq⟩ := locsList_shape xs p 0 qu hqu
    exact append_cons_ne_self p _ r (hq.symm.trans hp)
  · intro kvs hd _ ih p
    simp only [locs, pathsOf, List.map_cons, List.nodup_cons, List.mem_map]
    refine ⟨?_, ih hd p⟩
    rintro ⟨qu, hqu, hp⟩
    obtain ⟨k, r, _, hq⟩ := locsKvs_shape kvs p qu hqu
    exact append_cons_ne_self p _ r (hq.symm.trans hp)
  · intros
    simp [locsList, pathsOf]
  · intro x r ihx ihr p i
    simp only [locsList, pathsOf_append, List.nodup_append]
    refine ⟨ihx _, ihr p (i + 1), ?_⟩
    -- paths under different elements part right after `p`: at the index (under different members: at the name)
    intro a ha b hb hab
    subst hab
    simp only [pathsOf, List.mem_map] at ha hb
    obtain ⟨qu, hqu, rfl⟩ := ha
    obtain ⟨qu', hqu', he⟩ := hb
    obtain ⟨r1, h1⟩ := locs_prefix x _ qu hqu
    obtain ⟨j, r2, hj, h2⟩ := locsList_shape r p (i + 1) qu' hqu'
    rw [he, h1, List.append_assoc] at h2
    have := List.append_cancel_left h2
    simp only [List.cons_append, List.nil_append, List.cons.injEq, Seg.idx.injEq] at this
    omega
  · intros
    simp [locsKvs, pathsOf]
  · intro k v r ihv ihr hd p
    simp only [keysDistinct, Bool.and_eq_true, Bool.not_eq_true'] at hd
    simp only [locsKvs, pathsOf_append, List.nodup_append]
    refine ⟨ihv _, ihr hd.2 p, ?_⟩
    intro a ha b hb hab
    subst hab
    simp only [pathsOf, List.mem_map] at ha hb
    obtain ⟨qu, hqu, rfl⟩ := ha
    obtain ⟨qu', hqu', he⟩ := hb
    obtain ⟨r1, h1⟩ := locs_prefix v _ qu hqu
    obtain ⟨k', r2, hk', h2⟩ := locsKvs_shape r p qu' hqu'
    rw [he, h1, List.append_assoc] at h2
    have := List.append_cancel_left h2
    simp only [List.cons_append, List.nil_append, List.cons.injEq, Seg.key.injEq] at this
    rw [← this.1, hd.1] at hk'
    exact absurd hk' (by simp)

theorem locsKvs_nodup : ∀ (kvs : List (Bytes × JV)), keysDistinct kvs = true → NoDupKeysKvs kvs = true →
      ∀ (p : NPath), (pathsOf (locsKvs p kvs)).Nodup :=
  fun kvs hd hv => locs_nodup_all.2.2 kvs hv hd

theorem expected_nodup (targets : List Target) (doc : JV) (h : NoDupKeys doc = true) :
    (pathsOf (expected targets doc)).Nodup :=
  List.Nodup.sublist (List.Sublist.map _ List.filter_sublist) (locs_nodup_all.1 doc h [])

theorem locs_nav_all :
    (∀ (v : JV), NoDupKeys v = true → ∀ (p : NPath) (qu : NPath × JV), qu ∈ locs p v →
      ∃ r, qu.1 = p ++ r ∧ nav v r = some qu.2) ∧
    (∀ (ys : List JV), NoDupKeysList ys = true → ∀ (pre : List JV) (p : NPath)
      (qu : NPath × JV), qu ∈ locsList p pre.length ys →
      ∃ r, qu.1 = p ++ r ∧ nav (.arr (pre ++ ys)) r = some qu.2) ∧
    (∀ (kvs : List (Bytes × JV)), NoDupKeysKvs kvs = true → ∀ (pre : List (Bytes × JV)),
      keysDistinct (pre ++ kvs) = true → ∀ (p : NPath) (qu : NPath × JV), qu ∈ locsKvs p kvs →
      ∃ r, qu.1 = p ++ r ∧ nav (.obj (pre ++ kvs)) r = some qu.2) := by
  -- `pre`: the elements (members) already passed, so that the path is followed in the whole container
  refine nodup_induction ?_ ?_ ?_ ?_ ?_ ?_ ?_
  · intro v hl p qu h
    rw [locs_of_leaf p v hl, List.mem_singleton] at h
    exact ⟨[], by simp [h, nav]⟩
  · intro xs _ ih p qu h
    simp only [locs, List.mem_cons] at h
    rcases h with h | h
    · exact ⟨[], by simp [h, nav]⟩
    · exact ih [] p qu h
  · intro kvs hd _ ih p qu h
    simp only [locs, List.mem_cons] at h
    rcases h with h | h
    · exact ⟨[], by simp [h, nav]⟩
    · exact ih [] (by simpa using hd) p qu h
  · intro _ _ _ h
    simp [locsList] at h
  · intro x r ihx ihr pre p qu h
    simp only [locsList, List.mem_append] at h
    rcases h with h | h
    · obtain ⟨r', h1, h2⟩ := ihx _ qu h
      exact ⟨.idx pre.length :: r', by simp [h1], by simp [nav, child?, h2]⟩
    · simpa using ihr (pre ++ [x]) p qu (by simpa using h)
  · intro _ _ _ _ h
    simp [locsKvs] at h
  · intro k v r ihv ihr pre hd p qu h
    simp only [locsKvs, List.mem_append] at h
    rcases h with h | h
    · obtain ⟨r', h1, h2⟩ := ihv _ qu h
      exact ⟨.key k :: r', by simp [h1], by
        simp [nav, child?, lookupKey_mem (pre ++ (k, v) :: r) hd k v (by simp), h2]⟩
    · simpa using ihr (pre ++ [(k, v)]) (by simpa using hd) p qu h

theorem locsKvs_nav : ∀ (kvs : List (Bytes × JV)), NoDupKeysKvs kvs = true → ∀ (pre : List (Bytes × JV)),
      keysDistinct (pre ++ kvs) = true → ∀ (p : NPath) (qu : NPath × JV), qu ∈ locsKvs p kvs →
      ∃ r, qu.1 = p ++ r ∧ nav (.obj (pre ++ kvs)) r = some qu.2 :=
  locs_nav_all.2.2

theorem expected_value (targets : List Target) (doc : JV) (h : NoDupKeys doc = true)
    (qu : NPath × JV) (hq : qu ∈ expected targets doc) : nav doc qu.1 = some qu.2 := by
  have hm : qu ∈ locs [] doc := (List.mem_filter.mp hq).1
  obtain ⟨r, h1, h2⟩ := locs_nav_all.1 doc h [] qu hm
  simp only [List.nil_append] at h1
  rw [h1]
  exact h2

theorem mem_locsList (p : NPath) : ∀ (ys : List JV) (i j : Nat) (c : JV), ys[j]? = some c →
    ∀ x ∈ locs (p ++ [.idx (i + j)]) c, x ∈ locsList p i ys
  | [], _, _, _, h, _, _ => by simp at h
  | y :: r, i, 0, c, h, x, hx => by
    simp only [List.getElem?_cons_zero, Option.some.injEq] at h
    subst h
    simp only [locsList, List.mem_append]
    exact Or.inl (by simpa using hx)
  | y :: r, i, j + 1, c, h, x, hx => by
    simp only [locsList, List.mem_append]
    refine Or.inr (mem_locsList p r (i + 1) j c (by simpa using h) x ?_)
    have : i + 1 + j = i + (j + 1) := by omega
    rw [this]
    exact hx

theorem lookupKey_some_mem : ∀ (kvs : List (Bytes × JV)) (k : Bytes) (c : JV), lookupKey k kvs = some c → (k, c) ∈ kvs
  | [], _, _, h => by simp [lookupKey] at h
  | (k', v') :: r, k, c, h => by
    by_cases hk : k' = k
    · subst hk
      simp only [lookupKey, if_true, Option.some.injEq] at h
      simp [h]
    · simp only [lookupKey, hk, if_false] at h
      simp [lookupKey_some_mem r k c h]

theorem mem_locsKvs (p : NPath) : ∀ (kvs : List (Bytes × JV)) (k : Bytes) (c : JV), (k, c) ∈ kvs →
    ∀ x ∈ locs (p ++ [.key k]) c, x ∈ locsKvs p kvs
  | [], _, _, h, _, _ => by simp at h
  | (k', v') :: r, k, c, h, x, hx => by
    simp only [locsKvs, List.mem_append]
    simp only [List.mem_cons, Prod.mk.injEq] at h
    rcases h with ⟨rfl, rfl⟩ | h
    · exact Or.inl hx
    · exact Or.inr (mem_locsKvs p r k c h x hx)

theorem self_mem_locs (p : NPath) (v : JV) : (p, v) ∈ locs p v := by
  cases v <;> simp [locs]

theorem locs_complete : ∀ (r : NPath) (v : JV) (p : NPath) (u : JV), nav v r = some u → (p ++ r, u) ∈ locs p v
  | [], v, p, u, h => by
    simp only [nav, Option.some.injEq] at h
    subst h
    simpa using self_mem_locs p v
  | s :: r', v, p, u, h => by
    obtain ⟨c, hc, h⟩ := nav_cons_some h
    have ih := locs_complete r' c (p ++ [s]) u h
    simp only [List.append_assoc, List.cons_append, List.nil_append] at ih
    cases s with
    | idx i =>
      obtain ⟨xs, rfl, _⟩ := child_idx hc
      exact List.mem_cons_of_mem _ (mem_locsList p xs 0 i c hc _ (by simpa using ih))
    | key k =>
      obtain ⟨kvs, rfl⟩ := child_key hc
      exact List.mem_cons_of_mem _ (mem_locsKvs p kvs k c (lookupKey_some_mem kvs k c hc) _ ih)

theorem nodup_getElem : ∀ (xs : List JV) (i : Nat) (c : JV), NoDupKeysList xs = true → xs[i]? = some c → NoDupKeys c = true
  | [], _, _, _, h => by simp at h
  | x :: r, 0, c, hv, h => by
    simp only [NoDupKeysList, Bool.and_eq_true] at hv
    simp only [List.getElem?_cons_zero, Option.some.injEq] at h
    subst h; exact hv.1
  | x :: r, i + 1, c, hv, h => by
    simp only [NoDupKeysList, Bool.and_eq_true] at hv
    exact nodup_getElem r i c hv.2 (by simpa using h)

theorem nodup_lookup : ∀ (kvs : List (Bytes × JV)) (k : Bytes) (c : JV), NoDupKeysKvs kvs = true →
    lookupKey k kvs = some c → NoDupKeys c = true
  | [], _, _, _, h => by simp [lookupKey] at h
  | (k', v) :: r, k, c, hv, h => by
    simp only [NoDupKeysKvs, Bool.and_eq_true] at hv
    simp only [lookupKey] at h
    split at h
    · simp only [Option.some.injEq] at h; subst h; exact hv.1
    · exact nodup_lookup r k c hv.2 h

theorem nodup_child (v : JV) (s : Seg) (c : JV) (hv : NoDupKeys v = true) (h : child? v s = some c) :
    NoDupKeys c = true := by
  cases v <;> cases s <;> simp only [child?] at h <;> try (cases h)
  · simp only [NoDupKeys] at hv
    exact nodup_getElem _ _ c hv h
  · simp only [NoDupKeys, Bool.and_eq_true] at hv
    exact nodup_lookup _ _ c hv.2 h

theorem nodup_nav : ∀ (q : NPath) (v u : JV), NoDupKeys v = true → nav v q = some u → NoDupKeys u = true
  | [], v, u, hv, h => by simp only [nav, Option.some.injEq] at h; subst h; exact hv
  | s :: r, v, u, hv, h => by
    obtain ⟨c, hc, h⟩ := nav_cons_some h
    exact nodup_nav r c u (nodup_child v s c hv hc) h

/-- the expected callbacks are exactly the outermost selected locations with their values -/
theorem mem_expected_iff (targets : List Target) (doc : JV) (h : NoDupKeys doc = true) (q : NPath) (u : JV) :
    (q, u) ∈ expected targets doc ↔
      nav doc q = some u ∧ selectedBy targets doc q = true ∧
        ∀ q' ∈ properPrefixes q, selectedBy targets doc q' = false := by
  constructor
  · intro hm
    have hv := expected_value targets doc h (q, u) hm
    have hf := (List.mem_filter.mp hm).2
    simp only [Bool.and_eq_true, Bool.not_eq_true', List.any_eq_false] at hf
    exact ⟨hv, hf.1, fun q' hq' => by simpa using hf.2 q' hq'⟩
  · intro ⟨hv, hs, hp⟩
    refine List.mem_filter.mpr ⟨by simpa using locs_complete q doc [] u hv, ?_⟩
    simp only [Bool.and_eq_true, Bool.not_eq_true', List.any_eq_false]
    exact ⟨hs, fun q' hq' => by simpa using hp q' hq'⟩

end OjgVerif.Match
