import OjgVerif.Json.NumLemmas
import OjgVerif.Json.Driver
/-! # C02 — parsed values denote exactly what the JSON text denotes: plain integers

Feeding the digits of an integer literal through `AddDigit` under `uint64` wrap-around arithmetic
never wraps; if the value fits int64 the result is the int64 equal to the literal (never a float or
text), otherwise the number is in text form (`Json.int_exact`, `plain_int_is_int64`). The structure
clause (nesting, member names, strings with escapes) is Props/C02Tree.lean, the numeric clause for
literals of every shape Props/C02Value.lean. Two clauses of the property do not hold of /repo: known
findings C02-int19 and C02-surrogate, with refutation witnesses below. -/
namespace OjgVerif.C02
open OjgVerif.Json

/-- a plain integer literal whose magnitude fits int64 comes back as exactly that int64 -/
theorem plain_int_is_int64 (ds : Bytes) (neg : Bool) (hds : ∀ d ∈ ds, isDigitB d)
    (hfit : natOf ds ≤ 9223372036854775807) :
    ({ (ds.foldl Num.addDigit {}) with neg := neg }).asNum =
      .int (if neg then -(natOf ds : Int) else (natOf ds : Int)) := by
  obtain ⟨hdiv, hexp, -⟩ := foldl_addDigit_frame ds {}
  exact asNum_of_inv { (ds.foldl Num.addDigit {}) with neg := neg } _ (int_exact ds hds) hfit hdiv hexp

/-- non-vacuity: `9223372036854775807` meets the hypotheses -/
example : natOf [57,50,50,51,51,55,50,48,51,54,56,53,52,55,55,53,56,48,55] ≤ 9223372036854775807 := by decide

/-- C02 for plain integers, for every configuration of the machine: a digit string that fits int64
comes back as `I(<value>)` -/
def plain_int_full : Prop :=
  ∀ (cfg : Cfg) (ds : Bytes), (∀ d ∈ ds, isDigitB d) → ds ≠ [] → ds.head? ≠ some 48 →
    natOf ds ≤ 9223372036854775807 →
    renderRun (run refTables cfg [ds]) = "ok I(" ++ toString (natOf ds) ++ ")"

/-- known finding C02-int19: with the parsers' integer fast loop the literal 9223372036854775807 comes back as
big-number text (TestParserParseString of the suite expects it) -/
theorem plain_int_full_false : ¬ plain_int_full := by
  intro h
  have := h { fastInt := true } [57,50,50,51,51,55,50,48,51,54,56,53,52,55,55,53,56,48,55]
    (by simp only [isDigitB]; decide) (by decide) (by decide) (by decide)
  revert this
  decide +kernel

/-- known finding C02-surrogate: `"😀"` is decoded as two U+FFFD by the machine, as one
U+1F600 by the specification -/
theorem surrogate_pair_deviation :
    renderRun (run refTables {} [[34, 92,117,100,56,51,100, 92,117,100,101,48,48, 34]]) = "ok S(efbfbdefbfbd)" ∧
    (match Spec.parseDoc [34, 92,117,100,56,51,100, 92,117,100,101,48,48, 34] with
      | .one v => v.render
      | _ => "") = "S(f09f9880)" := by
  constructor <;> decide +kernel

end OjgVerif.C02
