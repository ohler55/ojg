import OjgVerif.Props.C10Layout
/-! # C10 on the INDENTED writer model — whole trees, every `Indent`, `Tab`, every depth

`C10_indent_partial`: for every option combination of `sen.Writer` with `Tab` or `0 < Indent` (OmitNil, OmitEmpty,
HTML-safe or not, any `Indent`, `Tab` or not) and every array or object of the class `admVal` (the class of
`C10_tree_partial`), `sen.Parser.Parse` of the text `Sen.indentVal` produces (the model of `appendArray` /
`appendObject` / `appendSortObject` of sen/writer.go, compared byte for byte with the Go writer by the
correspondence run) is the one document `nvVal o v` — the SAME document the tight text denotes
(`C10_tree_partial`), at every nesting depth, past the clamp of the indentation against the length of the
`spaces` / `tabs` constants (the clamp only shortens a run of blanks).

What the proof uses about the separators is `indentSep_shape`: a separator is a newline followed by blanks or tabs,
whatever `Indent` and depth are — read off the REGENERATED constants `Gen.Sen.spaces`, `Gen.Sen.tabs`
(`spaces_shape`, `tabs_shape`: a changed constant breaks these). With it the indented text is a white-space layout
of the tree (`indent_lay`, `indent_isLayout`), and the theorems are `C10_anylayout_partial` of Props/C10Layout.lean on
this layout. Beside that route stand its consequences for the separators and the indented text themselves: `done_sep`
(a bare token or a number that is pending when the separator begins is completed by its newline, the rest is skipped)
and the three claims for the indented text (`indent_claims`; `claimsI_all`), which are the claims for layouts behind a separator. -/
namespace OjgVerif.Sen

/-- `spaces` of sen/writer.go: a newline and 128 spaces -/
theorem spaces_shape : Gen.Sen.spaces.toList = 10 :: List.replicate 128 32 := by decide +kernel

/-- `tabs` of sen/writer.go: a newline and 30 tabs -/
theorem tabs_shape : Gen.Sen.tabs.toList = 10 :: List.replicate 30 9 := by decide +kernel

/-- every separator of the indented writer — `is` and `cs`, any `Indent`, `Tab`, any depth, clamped or not — is a
newline followed by blanks or tabs -/
theorem indentSep_shape (io : IOpts) (d : Nat) : ∃ t, indentSep io d = 10 :: t ∧ ∀ x ∈ t, x = 32 ∨ x = 9 := by
  unfold indentSep
  split
  · rw [tabs_shape, List.take_succ_cons]
    exact ⟨_, rfl, fun x hx => Or.inr (List.eq_of_mem_replicate (List.mem_of_mem_take hx))⟩
  · rw [spaces_shape, List.take_succ_cons]
    exact ⟨_, rfl, fun x hx => Or.inl (List.eq_of_mem_replicate (List.mem_of_mem_take hx))⟩

/-- the clamp: from `len(spaces) - 1` columns on the separator no longer grows -/
theorem indentSep_clamp (io : IOpts) (d : Nat) (h : io.tab = false) (hd : 128 ≤ d * io.indent) :
    indentSep io d = Gen.Sen.spaces.toList := by
  unfold indentSep
  simp only [h, Bool.false_eq_true, ↓reduceIte]
  apply List.take_of_length_le
  rw [spaces_shape, List.length_cons, List.length_replicate]
  omega

/-! A separator in front of the machine: the white-space lemmas of Props/C10TreeBase.lean and Props/C10Layout.lean
(`step_ws`, `step_numEnder`, `done_step_ws`) on a newline followed by blanks or tabs. What follows a value in any
layout, a separator of this writer included, is `lay_sep` there, and the layout theorems go through that one. -/

theorem ws_run (t : Bytes) : ∀ (st : St) (f : Fast) (p : Pos) (rest : Bytes), st.mode = .value → FOK f →
    (∀ x ∈ t, x = 32 ∨ x = 9 ∨ x = 10) →
    ∃ f' p', runBytes refTables {} st f p (t ++ rest) = runBytes refTables {} st f' p' rest ∧ FOK f' := by
  induction t with
  | nil => intro st f p rest _ hf _; exact ⟨f, p, rfl, hf⟩
  | cons b r ih =>
    intro st f p rest hm hf hb
    have hw : isWsB b = true := by rcases hb b List.mem_cons_self with rfl | rfl | rfl <;> rfl
    obtain ⟨f', p', h, hf'⟩ := ih st (fS f) (p.next (decide (b = 10))) rest hm (FOK_fS' f)
      (fun x hx => hb x (List.mem_cons_of_mem _ hx))
    exact ⟨f', p', by rw [List.cons_append, runBytes_cons_ok {} (fun l => step_ws st f b l hm hf.1 hw)]; exact h, hf'⟩

theorem step_numEnd_nl (st : St) (f : Fast) (l : Bool) (hm : NumMode st.mode)
    (hin : Inner st) (hf : f.nlSkipping = false) :
    step refTables {} st f 10 l = step refTables {} (st.pushed st.num.asNum.toJV) f 10 l :=
  step_numEnder st f 10 l hm hin (.inl rfl) hf

theorem done_sep (st : St) (f : Fast) (tgt : St) (h : DoneV st f tgt) (hm : tgt.mode = .value) (sep t : Bytes)
    (hs : sep = 10 :: t) (ht : ∀ x ∈ t, x = 32 ∨ x = 9) (p : Pos) (rest : Bytes) :
    ∃ s2 f2 p2, runBytes refTables {} st f p (sep ++ rest) = runBytes refTables {} s2 f2 p2 rest ∧
      CoreEq s2 tgt ∧ FOK f2 := by
  obtain ⟨s2, f2, hc2, hf2, hstep⟩ := done_step_ws st f tgt h hm 10 rfl
  obtain ⟨f3, p3, hrun, hf3⟩ := ws_run t s2 f2 (p.next true) rest (hc2.1.trans hm) hf2
    (fun x hx => by rcases ht x hx with h | h <;> simp [h])
  exact ⟨s2, f3, p3, by rw [hs, List.cons_append, runBytes_cons_ok {} hstep]; exact hrun, hc2, hf3⟩

theorem skipWs_sep (io : IOpts) (d : Nat) (T : Bytes) :
    skipWs (indentSep io d ++ T) = skipWs T ∧ headWs (indentSep io d ++ T) = true := by
  obtain ⟨t, hs, ht⟩ := indentSep_shape io d
  rw [hs]
  exact ⟨skipWs_ws_append (10 :: t) T (by
    intro x hx
    rcases List.mem_cons.mp hx with rfl | hx
    · rfl
    · rcases ht x hx with rfl | rfl <;> rfl), rfl⟩

theorem indentVal_head (o : WOpts) (io : IOpts) (d : Nat) (v : JV) (hadm : admVal o v) : HeadNW (indentVal o io d v) := by
  cases v with
  | arr xs =>
    cases xs with
    | nil => exact ⟨91, [93], by simp [indentVal], by decide⟩
    | cons x r => exact ⟨91, indentElems o io d (x :: r), by simp [indentVal], by decide⟩
  | obj kvs => exact ⟨123, indentMembers o io d kvs, by simp [indentVal], by decide⟩
  | _ => rw [indentVal_scalar o io d _ rfl]; exact tightVal_head o _ hadm

theorem indentElems_ws (o : WOpts) (io : IOpts) (d : Nat) (xs : List JV) (T : Bytes) :
    headWs (indentElems o io d xs ++ T) = true := by
  cases xs with
  | nil => simpa [indentElems, List.append_assoc] using (skipWs_sep io d (93 :: T)).2
  | cons x r => simpa [indentElems, List.append_assoc] using (skipWs_sep io (d + 1) _).2

theorem indentMembers_ws (o : WOpts) (io : IOpts) (d : Nat) : ∀ (kvs : List (Bytes × JV)) (T : Bytes),
    headWs (indentMembers o io d kvs ++ T) = true := by
  intro kvs
  induction kvs with
  | nil => intro T; simpa [indentMembers, List.append_assoc] using (skipWs_sep io d (125 :: T)).2
  | cons kv r ih =>
    obtain ⟨k, v⟩ := kv
    intro T
    cases hom : omitted o v with
    | true => simpa [indentMembers, hom] using ih T
    | false => simpa [indentMembers, hom, List.append_assoc] using (skipWs_sep io (d + 1) _).2

/-- the indented text, followed by anything, is a layout that leaves what follows. Elements and members stand behind
`skipWs`: their text begins with the separator, which `layVal` has passed behind the bracket or behind the value in front -/
def IV (o : WOpts) (io : IOpts) (v : JV) : Prop := ∀ d rest, layVal o v (indentVal o io d v ++ rest) = some rest
def IE (o : WOpts) (io : IOpts) (xs : List JV) : Prop :=
  ∀ d rest, layElems o xs (skipWs (indentElems o io d xs ++ rest)) = some rest
def IM (o : WOpts) (io : IOpts) (kvs : List (Bytes × JV)) : Prop :=
  ∀ d rest, layMembers o kvs (skipWs (indentMembers o io d kvs ++ rest)) = some rest

section indented
variable (o : WOpts) (io : IOpts)

theorem IV_scalar (v : JV) (hs : needSep v = true) : IV o io v := by
  intro d rest
  rw [indentVal_scalar o io d v hs, layVal_scalar o v hs, stripPrefix_append]

theorem IE_nil : IE o io [] := by
  intro d rest
  have e : indentElems o io d [] ++ rest = indentSep io d ++ (93 :: rest) := by simp [indentElems]
  rw [e, (skipWs_sep io d _).1]
  simp [skipWs, isWsB, layElems]

theorem IE_cons (x : JV) (r : List JV) (hx : admVal o x) (hV : IV o io x) (hE : IE o io r) : IE o io (x :: r) := by
  intro d rest
  have e : indentElems o io d (x :: r) ++ rest =
      indentSep io (d + 1) ++ (indentVal o io (d + 1) x ++ (indentElems o io d r ++ rest)) := by
    simp [indentElems, List.append_assoc]
  rw [e, (skipWs_sep io (d + 1) _).1, (skipWs_headNW ((indentVal_head o io (d + 1) x hx).append _)).1,
    layElems_cons o x r _ _ (hV (d + 1) _) (fun _ _ => indentElems_ws o io d r rest)]
  exact hE d rest

theorem IM_nil : IM o io [] := by
  intro d rest
  have e : indentMembers o io d [] ++ rest = indentSep io d ++ (125 :: rest) := by simp [indentMembers]
  rw [e, (skipWs_sep io d _).1]
  simp [skipWs, isWsB, layMembers]

theorem IM_cons (k : Bytes) (v : JV) (r : List (Bytes × JV)) (hV : admVal o v → IV o io v)
    (hadm : omitted o v = true ∨ (¬ C10.leadingSign k o.html ∧ admVal o v)) (hM : IM o io r) : IM o io ((k, v) :: r) := by
  intro d rest
  cases hom : omitted o v with
  | true =>
    rw [layMembers_omit o k v r _ hom,
      show indentMembers o io d ((k, v) :: r) = indentMembers o io d r by simp [indentMembers, hom]]
    exact hM d rest
  | false =>
    have ha := (adm_written hadm hom).2
    have e : indentMembers o io d ((k, v) :: r) ++ rest =
        indentSep io (d + 1) ++ (senString k o.html ++ 58 :: ([32] ++ (indentVal o io (d + 1) v ++ (indentMembers o io d r ++ rest)))) := by
      simp [indentMembers, hom, List.append_assoc]
    rw [e, (skipWs_sep io (d + 1) _).1, (skipWs_headNW ((senString_head k o.html).append _)).1,
      layMembers_cons o k v r _ _ hom
        (by rw [skipWs_blank ((indentVal_head o io (d + 1) v ha).append _) _ (Or.inr rfl)]; exact hV ha (d + 1) _)
        (fun _ _ => indentMembers_ws o io d r rest)]
    exact hM d rest

theorem IV_arr (xs : List JV) (hE : IE o io xs) : IV o io (.arr xs) := by
  intro d rest
  cases xs with
  | nil => simp [indentVal, layVal, layElems, skipWs, isWsB]
  | cons x r =>
    have e : indentVal o io d (.arr (x :: r)) ++ rest = 91 :: (indentElems o io d (x :: r) ++ rest) := by simp [indentVal]
    rw [e]
    simp only [layVal, ↓reduceIte]
    exact hE d rest

theorem IV_obj (kvs : List (Bytes × JV)) (hM : IM o io kvs) : IV o io (.obj kvs) := by
  intro d rest
  have e : indentVal o io d (.obj kvs) ++ rest = 123 :: (indentMembers o io d kvs ++ rest) := by simp [indentVal]
  rw [e]
  simp only [layVal, ↓reduceIte]
  exact hM d rest

theorem indent_lay :
    (∀ v, admVal o v → IV o io v) ∧ (∀ xs, admElems o xs → IE o io xs) ∧ (∀ kvs, admMembers o kvs → IM o io kvs) :=
  tree_ind (fun v hs _ => IV_scalar o io v hs) (fun xs ih hadm => IV_arr o io xs (ih hadm))
    (fun kvs ih hadm => IV_obj o io kvs (ih hadm)) (fun _ => IE_nil o io)
    (fun x r ihV ihE hadm => IE_cons o io x r hadm.1 (ihV hadm.1) (ihE hadm.2)) (fun _ => IM_nil o io)
    (fun k v r ihV ihM hadm => IM_cons o io k v r ihV hadm.1 (ihM hadm.2))

end indented

theorem indent_isLayout (o : WOpts) (io : IOpts) (d : Nat) (v : JV) (hadm : admVal o v) :
    isLayout o v (indentVal o io d v) = true := by
  rw [isLayout_iff, ← (indent_lay o io).1 v hadm d [], List.append_nil]

theorem senWrite_isLayout (o : WOpts) (io : IOpts) (v : JV) (hadm : admVal o v) : isLayout o v (senWrite o io v) = true := by
  unfold senWrite
  split
  · exact indent_isLayout o io 0 v hadm
  · exact tight_isLayout o v hadm

/-! The claims of Props/C10Layout.lean (`LV`, `LE`, `LM`, the claims the induction goes over) spelt out for the indented text
behind its separator: corollaries of `lay_claims` on the layout `indent_lay` (`EI_of_lay`, `MI_of_lay`), as `tight_claims`
(Props/C10Tree.lean) is for the tight text. -/

def VClaimI (o : WOpts) (io : IOpts) (v : JV) : Prop :=
  ∀ (depth : Nat) (st : St) (f : Fast) (p : Pos) (rest : Bytes), st.mode = .value → st.plus = false → Inner st → FOK f →
    ∃ st' f' p', runBytes refTables {} st f p (indentVal o io depth v ++ rest) = runBytes refTables {} st' f' p' rest ∧
      DoneV st' f' (st.pushed (nvVal o v))

def EClaimI (o : WOpts) (io : IOpts) (xs : List JV) : Prop :=
  ∀ (depth : Nat) (st : St) (f : Fast) (p : Pos) (rest : Bytes) (acc : List JV) (i : Nat) (outer : List (Option Nat))
    (below : List Item) (tgt : St),
    DoneV st f tgt → tgt.mode = .value → tgt.plus = false → tgt.starts = some i :: outer →
    tgt.stack = (acc.reverse.map Item.val) ++ Item.arrMark :: below → i = below.length →
    ValPos ({ tgt with starts := outer, stack := below } : St) →
    ∃ st' f' p', runBytes refTables {} st f p (indentElems o io depth xs ++ rest) = runBytes refTables {} st' f' p' rest ∧
      CoreEq st' (({ tgt with starts := outer, stack := below } : St).pushed (.arr (acc ++ nvElems o xs))) ∧ FOK f'

def MClaimI (o : WOpts) (io : IOpts) (kvs : List (Bytes × JV)) : Prop :=
  ∀ (depth : Nat) (st : St) (f : Fast) (p : Pos) (rest : Bytes) (acc : List (Bytes × JV)) (outer : List (Option Nat))
    (below : List Item) (tgt : St),
    DoneV st f tgt → tgt.mode = .value → tgt.plus = false →
    tgt.starts = none :: outer → tgt.stack = .obj acc :: below →
    ValPos ({ tgt with starts := outer, stack := below } : St) →
    ∃ st' f' p', runBytes refTables {} st f p (indentMembers o io depth kvs ++ rest) = runBytes refTables {} st' f' p' rest ∧
      CoreEq st' (({ tgt with starts := outer, stack := below } : St).pushed (.obj (nvMembers o kvs acc))) ∧ FOK f'

section claims
variable (o : WOpts) (io : IOpts)

theorem EI_of_lay (xs : List JV) (hL : LE o xs) (hI : IE o io xs) : EClaimI o io xs := by
  intro depth st f p rest acc i outer below tgt hdone tm tp ts tk hi hv
  obtain ⟨s2, f2, p2, hrun, hd2, hc2⟩ := lay_sep st f tgt hdone tm (indentElems o io depth xs ++ rest) p true true
    (by simp [indentElems_ws]) (fun h => by cases h)
  obtain ⟨st', f', p', hrun', h'⟩ := hL _ rest s2 f2 p2 acc i outer below tgt (hI depth rest) hd2 (fun _ => hc2 rfl)
    tm tp ts tk hi hv
  exact ⟨st', f', p', hrun.trans hrun', h'⟩

theorem MI_of_lay (kvs : List (Bytes × JV)) (hL : LM o kvs) (hI : IM o io kvs) : MClaimI o io kvs := by
  intro depth st f p rest acc outer below tgt hdone tm tp ts tk hv
  obtain ⟨s2, f2, p2, hrun, hd2, hc2⟩ := lay_sep st f tgt hdone tm (indentMembers o io depth kvs ++ rest) p true true
    (by simp [indentMembers_ws]) (fun h => by cases h)
  obtain ⟨st', f', p', hrun', h'⟩ := hL _ rest s2 f2 p2 acc outer below tgt (hI depth rest) hd2 (fun _ => hc2 rfl)
    tm tp ts tk hv
  exact ⟨st', f', p', hrun.trans hrun', h'⟩

/-- the three claims for the indented text: the claims for layouts (`lay_claims`) on the layout `indent_lay` -/
theorem indent_claims : (∀ v, admVal o v → VClaimI o io v) ∧ (∀ xs, admElems o xs → EClaimI o io xs) ∧
    (∀ kvs, admMembers o kvs → MClaimI o io kvs) := by
  refine ⟨fun v hadm depth st f p rest hm hp hin hf => ?_,
    fun xs hadm => EI_of_lay o io xs ((lay_claims o).2.1 xs hadm) ((indent_lay o io).2.1 xs hadm),
    fun kvs hadm => MI_of_lay o io kvs ((lay_claims o).2.2 kvs hadm) ((indent_lay o io).2.2 kvs hadm)⟩
  obtain ⟨st', f', p', h, hd, _⟩ := (lay_claims o).1 v hadm _ rest st f p ((indent_lay o io).1 v hadm depth rest) hm hp hin hf
  exact ⟨st', f', p', h, hd⟩

theorem claimsI_all : ∀ n : Nat,
    (∀ v, jsz v ≤ n → admVal o v → VClaimI o io v) ∧
    (∀ xs, jszE xs ≤ n → admElems o xs → EClaimI o io xs) ∧
    (∀ kvs, jszM kvs ≤ n → admMembers o kvs → MClaimI o io kvs) :=
  claims_bounded (indent_claims o io)

end claims

/-- **C10 on the indented writer model, whole trees**: for every `Indent`, `Tab` or not, every option combination
(OmitNil, OmitEmpty, HTML-safe or not) and every array or object `v` of the class `admVal` (as in
`C10_tree_partial`), to any depth and size, `sen.Parser.Parse` of the text the indented writer produces is the one
document `nvVal o v` — the document of the tight text -/
theorem C10_indent_partial (o : WOpts) (io : IOpts) (v : JV) (hc : (∃ xs, v = .arr xs) ∨ (∃ kvs, v = .obj kvs))
    (hadm : admVal o v) : C10.parsesTo (indentVal o io 0 v) (nvVal o v) :=
  C10_anylayout_partial o v _ hc hadm (indent_isLayout o io 0 v hadm)

/-- **every `sen.Writer` layout denotes the same document**: whatever `Indent` and `Tab` are (tight or indented
writer, `senWrite` follows the dispatch of `MustSEN`), `sen.Parser.Parse` of the written text is `nvVal o v` -/
theorem C10_layout_partial (o : WOpts) (io : IOpts) (v : JV) (hc : (∃ xs, v = .arr xs) ∨ (∃ kvs, v = .obj kvs))
    (hadm : admVal o v) : C10.parsesTo (senWrite o io v) (nvVal o v) :=
  C10_anylayout_partial o v _ hc hadm (senWrite_isLayout o io v hadm)

/-- **`sen.Parse(sen.String(v, &ojg.Options{Indent, Tab, …})) = v` on the model**: plain trees (valid UTF-8,
pairwise different member names, no member passed over) come back as themselves under every layout -/
theorem C10_layout_valid (o : WOpts) (io : IOpts) (v : JV) (hc : (∃ xs, v = .arr xs) ∨ (∃ kvs, v = .obj kvs))
    (hadm : admVal o v) (hplain : plainVal o v) : C10.parsesTo (senWrite o io v) v := by
  have h := C10_layout_partial o io v hc hadm
  rwa [nvVal_plain o v hplain] at h

/-- non-vacuity: `[1 -20 "a b" {k:true n:null "":[x]} [] {}]` meets the hypotheses, with `Indent: 2` and with `Tab` -/
example : C10.parsesTo
    (senWrite {} { indent := 2 } (.arr [.int 1, .int (-20), .str [97, 32, 98], .obj [([107], .bool true), ([110], .null), ([], .arr [.str [120]])], .arr [], .obj []]))
    (nvVal {} (.arr [.int 1, .int (-20), .str [97, 32, 98], .obj [([107], .bool true), ([110], .null), ([], .arr [.str [120]])], .arr [], .obj []])) := by
  apply C10_layout_partial {} _ _ (Or.inl ⟨_, rfl⟩)
  simp only [admVal, admElems, admMembers, omitted, C10.reservedWord, C10.leadingSign]
  decide +kernel

/-- and the text is what one expects: every element on its own line, `key: value`, the empty object over two lines -/
example : senWrite {} { indent := 2 } (.arr [.int 1, .obj [([107], .bool true)], .arr [], .obj []]) =
    "[\n  1\n  {\n    k: true\n  }\n  []\n  {\n  }\n]".toUTF8.toList := by decide +kernel

example : senWrite {} { tab := true } (.arr [.int 1, .obj [([107], .bool true)]]) =
    "[\n\t1\n\t{\n\t\tk: true\n\t}\n]".toUTF8.toList := by decide +kernel

/-- non-vacuity with floats: `[1.5 {k: 1e+06 z: -0}]`, `Indent: 2` -/
example : C10.parsesTo
    (senWrite {} { indent := 2 } (.arr [.flt "1.5".toUTF8.toList, .obj [([107], .flt "1e+06".toUTF8.toList), ([122], .flt "-0".toUTF8.toList)]]))
    (nvVal {} (.arr [.flt "1.5".toUTF8.toList, .obj [([107], .flt "1e+06".toUTF8.toList), ([122], .flt "-0".toUTF8.toList)]])) := by
  apply C10_layout_partial {} _ _ (Or.inl ⟨_, rfl⟩)
  simp only [admVal, admElems, admMembers, omitted]
  refine ⟨numAdm_text _ ⟨false, [49], some [53], none⟩ (by decide +kernel) (by decide +kernel),
    ⟨Or.inr ⟨fun h => absurd h.2 (by decide), numAdm_text _ ⟨false, [49], none, some ⟨101, [43], [48, 54]⟩⟩ (by decide +kernel) (by decide +kernel)⟩,
     Or.inr ⟨fun h => absurd h.2 (by decide), numAdm_text _ ⟨true, [48], none, none⟩ (by decide +kernel) (by decide +kernel)⟩, trivial⟩, trivial⟩

/-- … and what comes back there: `1.5` as the float of `1.5`, `1e+06` as the float of `1e6`, `-0` as the int64 0 -/
example : (nvVal {} (.arr [.flt "1.5".toUTF8.toList, .obj [([107], .flt "1e+06".toUTF8.toList), ([122], .flt "-0".toUTF8.toList)]])).render =
    "[F(312e35),{K(6b)F(316536),K(7a)I(0)}]" := by decide +kernel

/-- the int64 extremes: every int64 is in the class; 9223372036854775807 and -9223372036854775808 come back as
`json.Number` with the same digits (known finding C03sen-int19 on the positive side), -9223372036854775807 and
9223372036854775799 as int64 -/
example : C10.parsesTo
    (senWrite {} { tab := true } (.arr [.int 9223372036854775807, .int (-9223372036854775808), .int (-9223372036854775807), .int 9223372036854775799]))
    (nvVal {} (.arr [.int 9223372036854775807, .int (-9223372036854775808), .int (-9223372036854775807), .int 9223372036854775799])) := by
  apply C10_layout_partial {} _ _ (Or.inl ⟨_, rfl⟩)
  simp only [admVal, admElems]
  decide

example : (nvVal {} (.arr [.int 9223372036854775807, .int (-9223372036854775808), .int (-9223372036854775807), .int 9223372036854775799])).render =
    "[B(39323233333732303336383534373735383037),B(2d39323233333732303336383534373735383038),I(-9223372036854775807),I(9223372036854775799)]" := by
  decide +kernel

end OjgVerif.Sen
