import OjgVerif.Props.C10Layout
/-! # C10 on the tight writer model — whole trees

`C10_tree_partial`: for every option combination of the tight sen.Writer (OmitNil, OmitEmpty, HTML-safe or not) and
every array or object built from `null`, booleans, int64 and uint64 integers, floats (given by their strconv text),
strings, arrays and objects to any depth, `sen.Parser.Parse` of the text `Sen.tightVal` produces (the model of
`sen.String`/`sen.Bytes`/`sen.Write` with `Indent == 0`, compared byte for byte with the Go writer by the
correspondence run) is the one document `nvVal o v`. Excluded by `admVal`: strings in value position that are one of
the reserved words, strings and member names written bare with a leading sign (the two known findings
C10-reserved-word, C10-leading-sign), json.Number leaves. Integers: all int64 and uint64 — from 9223372036854775800 on
the parser's integer fast loop answers json.Number (known finding C03sen-int19), with the same digits: that is what
`nvVal` says there (`nvInt`; `int_done`). Floats: any literal of the RFC 8259 number grammar with a small integer
part (`NumAdm`, Props/C10Num.lean) comes back as `Json.numConv` of its text (`flt_done`). Both are cases of
`scalar_done` (Props/C10TreeBase.lean), through which every scalar enters the claims.

The tight text is one of the white-space layouts of the tree (`tight_isLayout`), so the theorem is the layout theorem
of Props/C10Layout.lean on that text, and the three claims about the tight text (`tight_claims`; `claims_all`: values `VClaim`, the
elements of an array up to and including `]` `EClaim`, the members of an object up to and including `}` `MClaim`,
stated in Props/C10TreeBase.lean) are the claims about layouts on it. -/
namespace OjgVerif.Sen
open OjgVerif.Writer (sanitize)

section claims
variable (o : WOpts)

/-- the three claims about the tight text: the claims about layouts (`lay_claims`) on the layout the tight writer
produces (`tight_lay`). In front of a member that is not the first one the writer puts a blank, which completes the
value in front of it (`lay_sep`). -/
theorem tight_claims :
    (∀ v, admVal o v → VClaim o v) ∧ (∀ xs, admElems o xs → EClaim o xs) ∧ (∀ kvs, admMembers o kvs → MClaim o kvs) := by
  refine ⟨fun v hadm st f p rest hm hp hin hf => ?_, fun xs hadm st f p rest acc i outer below hm hp hs hk hi hv hf => ?_,
    fun kvs hadm first st f p rest acc outer below tgt hdone hfirst tm tp ts tk hv => ?_⟩
  · exact (lay_claims o).1 v hadm _ rest st f p ((tight_lay o).1 v hadm rest) hm hp hin hf
  · exact (lay_claims o).2.1 xs hadm _ rest st f p acc i outer below st ((tight_lay o).2.1 xs hadm rest)
      (.complete (.rfl' st) hf) (fun _ => ⟨.rfl' st, hf⟩) hm hp hs hk hi hv
  · obtain ⟨s2, f2, p2, hrun, hd2, hc2⟩ := lay_sep st f tgt hdone tm (tightMembers o kvs first ++ rest) p (!first)
      (!allOmitted o kvs) (by
        cases first with
        | true => rfl
        | false =>
          cases ha : allOmitted o kvs with
          | true => simp
          | false => obtain ⟨T, hT⟩ := tightMembers_follow o kvs ha; simp [hT, headWs, isWsB])
      (fun h => hfirst (by simpa using h))
    obtain ⟨st', f', p', hrun', h'⟩ := (lay_claims o).2.2 kvs hadm _ rest s2 f2 p2 acc outer below tgt
      ((tight_lay o).2.2 kvs hadm first rest) hd2 (fun h => hc2 (by simp [h])) tm tp ts tk hv
    exact ⟨st', f', p', hrun.trans hrun', h'⟩

theorem claims_all : ∀ n : Nat,
    (∀ v, jsz v ≤ n → admVal o v → VClaim o v) ∧
    (∀ xs, jszE xs ≤ n → admElems o xs → EClaim o xs) ∧
    (∀ kvs, jszM kvs ≤ n → admMembers o kvs → MClaim o kvs) :=
  claims_bounded (tight_claims o)

end claims

/-- **C10 on the tight writer model, whole trees**: for every option combination of the tight writer
(OmitNil, OmitEmpty, HTML-safe or not) and every array or object `v` built from `null`, booleans, int64 and uint64
integers, floats (`NumAdm`), strings, arrays and objects to any depth — no string in value position one of the
reserved words, no string or member name written bare with a leading sign — `sen.Parser.Parse` of the text the tight
writer produces is the one document `nvVal o v`: the same tree with strings and member names sanitised (unchanged when
they are valid UTF-8), the members the writer passes over dropped, a repeated member name keeping its last value -/
theorem C10_tree_partial (o : WOpts) (v : JV) (hc : (∃ xs, v = .arr xs) ∨ (∃ kvs, v = .obj kvs)) (hadm : admVal o v) :
    C10.parsesTo (tightVal o v) (nvVal o v) :=
  C10_anylayout_partial o v _ hc hadm (tight_isLayout o v hadm)

/-- **C10 on the tight writer model: `sen.Parse(sen.String(v)) = v`** for every array or object `v` (any depth) of
`null`, booleans, integers below the limit, floats whose text is canonical, strings and containers (`plainVal`) whose
strings and member names are valid UTF-8 (and not in the two known-finding classes), whose member names are pairwise
different and none of whose members the writer passes over (OmitNil / OmitEmpty) -/
theorem C10_tree_valid (o : WOpts) (v : JV) (hc : (∃ xs, v = .arr xs) ∨ (∃ kvs, v = .obj kvs)) (hadm : admVal o v)
    (hplain : plainVal o v) : C10.parsesTo (tightVal o v) v := by
  have h := C10_tree_partial o v hc hadm
  rwa [nvVal_plain o v hplain] at h

/-- non-vacuity: `[1 -20 "a b" {k:true n:null "":[x]} []]` meets the hypotheses -/
example : C10.parsesTo
    (tightVal {} (.arr [.int 1, .int (-20), .str [97, 32, 98], .obj [([107], .bool true), ([110], .null), ([], .arr [.str [120]])], .arr []]))
    (nvVal {} (.arr [.int 1, .int (-20), .str [97, 32, 98], .obj [([107], .bool true), ([110], .null), ([], .arr [.str [120]])], .arr []])) := by
  apply C10_tree_partial {} _ (Or.inl ⟨_, rfl⟩)
  simp only [admVal, admElems, admMembers, omitted, C10.reservedWord, C10.leadingSign]
  decide +kernel

example : tightVal {} (.arr [.int 1, .int (-20), .str [97, 32, 98], .obj [([107], .bool true), ([110], .null)], .arr []]) =
    "[1 -20 \"a b\" {k:true n:null}[]]".toUTF8.toList := by decide +kernel

end OjgVerif.Sen

/-! The string level — one string as the only element, one member name with the value `1` — for EVERY byte string `s`
(no length bound) and both `htmlSafe` settings, as instances of the tree theorem (`valueDoc` is the tight text of
`[s]`, `keyDoc` of `{s:1}`). -/
namespace OjgVerif.C10
open OjgVerif.Sen
open OjgVerif.Writer (sanitize)

/-- **C10 at string level, value position, partial form**: every byte string that is not one of the
reserved words and is not written bare with a leading sign comes back from `[` text `]` as the one string
`sanitize s` — never a number, bool, null, sign, comment or error. No length bound. -/
theorem C10_value_partial (s : Bytes) (html : Bool) (h1 : ¬ reservedWord s) (h2 : ¬ leadingSign s html) :
    parsesTo (valueDoc s html) (.arr [.str (sanitize s)]) := by
  simpa [valueDoc, tightVal, tightElems, nvVal, nvElems] using
    C10_tree_partial { html := html } (.arr [.str s]) (.inl ⟨_, rfl⟩) ⟨⟨h1, h2⟩, trivial⟩

/-- **C10 at string level, key position, partial form**: the reserved words are fine as keys -/
theorem C10_key_partial (s : Bytes) (html : Bool) (h2 : ¬ leadingSign s html) :
    parsesTo (keyDoc s html) (.obj [(sanitize s, .int 1)]) := by
  simpa [keyDoc, tightVal, tightMembers, omitted, show fmtInt 1 = [49] from rfl, nvVal, nvMembers, nvInt, kvInsert] using
    C10_tree_partial { html := html } (.obj [(s, .int 1)]) (.inr ⟨_, rfl⟩) ⟨.inr ⟨h2, by decide, by decide⟩, trivial⟩

theorem quoted_adm (s : Bytes) (html : Bool) (hq : senString s html = 34 :: (senBody html 0 true s ++ [34])) :
    ¬ reservedWord s ∧ ¬ leadingSign s html := by
  constructor
  · rintro (rfl | rfl | rfl) <;> cases html <;> exact absurd hq (by decide +kernel)
  · rintro ⟨hf, hh⟩
    cases s with
    | nil => simp at hh
    | cons b r =>
      -- written bare the text is the body alone, two bytes shorter than the quoted form
      rw [senString, if_neg (by simp), if_neg (by simp [hf])] at hq
      exact absurd (congrArg List.length hq) (by simp only [List.length_cons, List.length_append, List.length_nil]; omega)

/-- **a quoted string in value position comes back as the (sanitised) string** — for every byte string -/
theorem quoted_value (s : Bytes) (html : Bool) (hq : senString s html = 34 :: (senBody html 0 true s ++ [34])) :
    parsesTo (valueDoc s html) (.arr [.str (sanitize s)]) :=
  C10_value_partial s html (quoted_adm s html hq).1 (quoted_adm s html hq).2

/-- **a quoted string in key position comes back as exactly that key** -/
theorem quoted_key (s : Bytes) (html : Bool) (hq : senString s html = 34 :: (senBody html 0 true s ++ [34])) :
    parsesTo (keyDoc s html) (.obj [(sanitize s, .int 1)]) :=
  C10_key_partial s html (quoted_adm s html hq).2

/-- **C10 at string level for valid UTF-8, value position**: a well-formed UTF-8 string (Unicode Table 3-7,
`Sen.WellFormedUtf8`) that is not a reserved word and has no leading sign comes back as ITSELF -/
theorem C10_value_valid (s : Bytes) (html : Bool) (hv : WellFormedUtf8 s) (h1 : ¬ reservedWord s)
    (h2 : ¬ leadingSign s html) : parsesTo (valueDoc s html) (.arr [.str s]) := by
  have h := C10_value_partial s html h1 h2
  rwa [sanitize_valid s hv] at h

/-- the same in key position -/
theorem C10_key_valid (s : Bytes) (html : Bool) (hv : WellFormedUtf8 s) (h2 : ¬ leadingSign s html) :
    parsesTo (keyDoc s html) (.obj [(s, .int 1)]) := by
  have h := C10_key_partial s html h2
  rwa [sanitize_valid s hv] at h

/-- the invalid-UTF-8 case (what `C10_value_partial` says beyond `C10_value_valid`): every byte that does not
start a well-formed sequence comes back as U+FFFD — `"a\x80b"` comes back as `"a\uFFFDb"` -/
example : parsesTo (valueDoc [97, 0x80, 98] false) (.arr [.str [97, 0xEF, 0xBF, 0xBD, 98]]) := by
  have h := C10_value_partial [97, 0x80, 98] false (by unfold reservedWord; decide) (by intro h; exact absurd h.2 (by decide))
  have e : sanitize [97, 0x80, 98] = [97, 0xEF, 0xBF, 0xBD, 98] := by decide
  rwa [e] at h

/-- non-vacuity: strings that meet the hypotheses — `ab` is written bare, `12` is quoted because of
its first byte, `- \xff` is quoted (a space, invalid UTF-8) although it begins with a sign -/
example : ¬ reservedWord [97, 98] ∧ ¬ leadingSign [97, 98] false ∧ senQuoted [97, 98] false = false := by
  refine ⟨by unfold reservedWord; decide, ?_, by decide +kernel⟩
  intro h; exact absurd h.2 (by decide)
example : ¬ reservedWord [49, 50] ∧ ¬ leadingSign [49, 50] false := by
  refine ⟨by unfold reservedWord; decide, ?_⟩
  intro h; exact absurd h.2 (by decide)
example : ¬ leadingSign [45, 32, 0xff] false := by
  intro h; exact absurd h.1 (by decide +kernel)

/-- `"a&b"` and the key `"a|b"` are quoted (the `senMap` of /repo from 9fd0aeb on; before it: `C10_nontoken_before`) and
come back -/
example : parsesTo (valueDoc [97, 38, 98] false) (.arr [.str (sanitize [97, 38, 98])]) :=
  C10_value_partial _ _ (by unfold reservedWord; decide) (by intro h; exact absurd h.2 (by decide))
example : parsesTo (keyDoc [97, 124, 98] false) (.obj [(sanitize [97, 124, 98], .int 1)]) :=
  C10_key_partial _ _ (by intro h; exact absurd h.2 (by decide))

end OjgVerif.C10
