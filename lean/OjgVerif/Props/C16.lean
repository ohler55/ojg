import OjgVerif.Reflect.RegLemmas
import OjgVerif.Gen.Reflect
/-! # C16 — Recompose is independent of the history (PARTIAL: registry logic on a model)

The title clause (Decompose/Recompose and Marshal/Unmarshal are inverse on values) is the subject of
`Props/C16inv.lean`; here the history clause, and only for target types WITHOUT an `interface{}` slot
(`noIface`) — which excludes exactly the case where a create-key name in the data is resolved against the
registry, the one place where the history matters by design. Recursive struct types are not values of
`GoType` (a finite tree).

Go types are data; `Reflect/Registry.lean` models `alt/recomposer.go` (`registerComposer`,
`indexType`, `recomp`, `setValue`, `recompAny`) with the registry keyed as the code keys it: bare
type name AND `pkgpath/name`. The flag `bareName` of the model is `false` for the code as it is
(since /repo a720b7c: a composer found under a name is used only for the type it was made for — 6d5fecb —
and the field walk of `registerComposer` unwraps containers completely — a720b7c;
`current_lookup_in_source` ties that to the source) and `true` for the code BEFORE 6d5fecb (lookup by
bare name, one level of unwrapping; the trees between the two commits are not modelled).

For every datum, fuel and create key: the code as it is recomposes a type without interface slot, after any
history, as `recomposePure` does (every struct decoded with its own field index), with no condition on
names (`recompose_current_eq_pure`, `C16_history_partial`); at full strength the clause is false only by
that design (`history_witness`). The code before 6d5fecb needed in addition that no two struct types met
share a bare or full name (`NameInj` over a universe closed under components, instance `uex_her`,
`uex_inj`; `recompose_before_eq_pure`), and failed otherwise (`history_witness_before`,
`nested_anonymous_lost_fields_before`). The repairs b19f06c, 4344ad7, f1da31f are shown on the model and
tied to the source (`embedded_pointer_repaired`, `nil_elements_kept`, `current_values_in_source`).

That `recomposePure` inverts `Decompose` on the value level (and the tree of `Marshal`) is the subject
of `Props/C16inv.lean` (fragment `rtOK`); outside that fragment it is checked by the oracle of the
harness only. `reflect` is below the model. -/
namespace OjgVerif.C16
open OjgVerif.Reflect

/-- the code as it is: the type test decides every lookup (`b = false`), so nothing is asked of the names
and every type is admitted -/
theorem keyed_current : Keyed (fun _ _ => True) (fun _ => True) false :=
  ⟨her_true, fun _ _ _ _ => ⟨trivial, trivial⟩, fun _ _ _ _ _ _ _ _ _ hb => nomatch hb⟩

/-- after ANY history a type without interface slots is recomposed as with the ideal registry
(since /repo b19f06c no struct type makes `indexType` panic: `goodT_true`) -/
theorem recompose_current_eq_pure (ck : Bytes) (h : List Event) (t : GoType) (hn : noIface t = true) (j : JV) :
    recompose false ck (regAfter false ck h) t j = recomposePure ck t j :=
  recompose_eq_pure (fun _ _ => True) (fun _ => True) false keyed_current ck h (fun e _ => eventOK_true e) t trivial hn j

theorem history_independent_current (ck : Bytes) (h₁ h₂ : List Event) (t : GoType) (hn : noIface t = true) (j : JV) :
    recompose false ck (regAfter false ck h₁) t j = recompose false ck (regAfter false ck h₂) t j := by
  rw [recompose_current_eq_pure ck h₁ t hn, recompose_current_eq_pure ck h₂ t hn]

/-- among the types of `U`, a bare or full name belongs to one struct type only -/
def NameInj (U : GoType → Prop) : Prop :=
  ∀ (n p : Bytes) (fs : List (FieldHdr × GoType)) (n' p' : Bytes) (fs' : List (FieldHdr × GoType)),
    U (.struct n p fs) → U (.struct n' p' fs') →
    (n' = n ∨ n' = fullName n p ∨ fullName n' p' = n ∨ fullName n' p' = fullName n p) →
    GoType.struct n' p' fs' = GoType.struct n p fs

/-- the key a composer is filed under is one of the two names of its type -/
def KName (k : Bytes) (T : GoType) : Prop := ∃ n p fs, T = .struct n p fs ∧ (k = n ∨ k = fullName n p)

/-- `U`, with a first conjunct that holds of every type (`goodT_true`) -/
def QU (U : GoType → Prop) (t : GoType) : Prop := goodT t = true ∧ U t

theorem qu_her {U : GoType → Prop} (hU : Her U) : Her (QU U) :=
  ⟨fun e h => ⟨goodT_true e, hU.slice e h.2⟩, fun n e h => ⟨goodT_true e, hU.array n e h.2⟩,
    fun e h => ⟨goodT_true e, hU.map e h.2⟩, fun e h => ⟨goodT_true e, hU.ptr e h.2⟩,
    fun n p fs i ht h hi => ⟨goodT_true ht.2, hU.field n p fs i ht h.2 hi⟩⟩

theorem lookupOK_before {U : GoType → Prop} (hinj : NameInj U) : LookupOK KName (QU U) true := by
  intro k n p fs T' hk hq hq' hK _
  obtain ⟨n', p', fs', rfl, hk'⟩ := hK
  apply hinj n p fs n' p' fs' hq.2 hq'.2
  rcases hk with rfl | rfl <;> rcases hk' with h | h
  · exact Or.inl h.symm
  · exact Or.inr (Or.inr (Or.inl h.symm))
  · exact Or.inr (Or.inl h.symm)
  · exact Or.inr (Or.inr (Or.inr h.symm))

/-- C16 (history) for the code before 6d5fecb, excluding exactly the name collisions -/
theorem recompose_before_eq_pure (U : GoType → Prop) (hU : Her U) (hinj : NameInj U) (ck : Bytes) (h : List Event)
    (hev : ∀ e ∈ h, EventOK (QU U) e) (t : GoType) (hq : QU U t) (hn : noIface t = true) (j : JV) :
    recompose true ck (regAfter true ck h) t j = recomposePure ck t j :=
  recompose_eq_pure KName (QU U) true
    ⟨qu_her hU, fun n p fs _ => ⟨⟨n, p, fs, rfl, Or.inl rfl⟩, ⟨n, p, fs, rfl, Or.inr rfl⟩⟩, lookupOK_before hinj⟩ ck h hev t hq hn j

theorem history_independent_before (U : GoType → Prop) (hU : Her U) (hinj : NameInj U) (ck : Bytes) (h₁ h₂ : List Event)
    (hev₁ : ∀ e ∈ h₁, EventOK (QU U) e) (hev₂ : ∀ e ∈ h₂, EventOK (QU U) e)
    (t : GoType) (hq : QU U t) (hn : noIface t = true) (j : JV) :
    recompose true ck (regAfter true ck h₁) t j = recompose true ck (regAfter true ck h₂) t j := by
  rw [recompose_before_eq_pure U hU hinj ck h₁ hev₁ t hq hn, recompose_before_eq_pure U hU hinj ck h₂ hev₂ t hq hn]

/-! The hypotheses are not vacuous: two named types of one package. -/

def sT : GoType := .struct "T".toUTF8.toList "pa".toUTF8.toList [(⟨"Alpha".toUTF8.toList, [], false⟩, .str), (⟨"Count".toUTF8.toList, [], false⟩, .int 0)]
def sLeaf : GoType := .struct "Leaf".toUTF8.toList "pa".toUTF8.toList [(⟨"Flag".toUTF8.toList, [], false⟩, .bool)]

example : goodT sT = true ∧ noIface sT = true ∧ goodT sLeaf = true := by decide +kernel

/-- a universe: the two named types and the types of their fields -/
def Uex (t : GoType) : Prop := t = sT ∨ t = sLeaf ∨ t = .str ∨ t = .int 0 ∨ t = .bool

theorem uex_her : Her Uex := by
  constructor
  · intro e h; rcases h with h | h | h | h | h <;> simp [sT, sLeaf] at h
  · intro n e h; rcases h with h | h | h | h | h <;> simp [sT, sLeaf] at h
  · intro e h; rcases h with h | h | h | h | h <;> simp [sT, sLeaf] at h
  · intro e h; rcases h with h | h | h | h | h <;> simp [sT, sLeaf] at h
  · intro n p fs i ht h hi
    rcases h with h | h | h | h | h
    · simp only [sT, GoType.struct.injEq] at h
      obtain ⟨_, _, rfl⟩ := h
      match i, hi with
      | 0, hi => simp at hi; subst hi; exact Or.inr (Or.inr (Or.inl rfl))
      | 1, hi => simp at hi; subst hi; exact Or.inr (Or.inr (Or.inr (Or.inl rfl)))
      | k + 2, hi => simp at hi
    · simp only [sLeaf, GoType.struct.injEq] at h
      obtain ⟨_, _, rfl⟩ := h
      match i, hi with
      | 0, hi => simp at hi; subst hi; exact Or.inr (Or.inr (Or.inr (Or.inr rfl)))
      | k + 1, hi => simp at hi
    · cases h
    · cases h
    · cases h

theorem uex_inj : NameInj Uex := by
  intro n p fs n' p' fs' h h' hk
  rcases h with h | h | h | h | h <;> rcases h' with h' | h' | h' | h' | h' <;>
    first
    | (rw [h', h]; done)
    | (simp [sT, sLeaf] at h h'; done)
    | (exfalso
       simp only [sT, sLeaf, GoType.struct.injEq] at h h'
       obtain ⟨rfl, rfl, rfl⟩ := h
       obtain ⟨rfl, rfl, rfl⟩ := h'
       revert hk
       decide +kernel)

/-- the theorem about the code before 6d5fecb applies: `pa.T` after `pa.Leaf` was registered -/
example (j : JV) : recompose true [] (regAfter true [] [.register sLeaf]) sT j = recompose true [] (regAfter true [] []) sT j :=
  history_independent_before Uex uex_her uex_inj [] [.register sLeaf] []
    (by
      intro e he
      simp only [List.mem_singleton] at he
      subst he
      intro n p fs heq
      simp only [derefT, sLeaf, GoType.struct.injEq] at heq
      obtain ⟨rfl, rfl, rfl⟩ := heq
      exact ⟨by decide +kernel, Or.inr (Or.inl rfl)⟩)
    (by intro e he; cases he)
    sT ⟨by decide +kernel, Or.inl rfl⟩ (by decide +kernel) j

/-- C16's second sentence at full strength, for the lookup `b` (`false`: the code as it is) -/
def C16_history_full_for (b : Bool) : Prop :=
  ∀ (ck : Bytes) (h₁ h₂ : List Event) (t : GoType) (j : JV),
    recompose b ck (regAfter b ck h₁) t j = recompose b ck (regAfter b ck h₂) t j

def C16_history_full : Prop := C16_history_full_for false
def C16_history_full_before : Prop := C16_history_full_for true

/-- **C16 (history), partial, for the code as it is**: excluded are exactly the interface slots
(`noIface`: create-key names in the data are resolved against the registry by design) -/
theorem C16_history_partial (ck : Bytes) (h₁ h₂ : List Event) (t : GoType) (hn : noIface t = true) (j : JV) :
    recompose false ck (regAfter false ck h₁) t j = recompose false ck (regAfter false ck h₂) t j :=
  history_independent_current ck h₁ h₂ t hn j

/-- `struct{ A any }` and the named type `pa.T` -/
def anyHolder : GoType := .struct [] [] [(⟨"A".toUTF8.toList, [], false⟩, .iface)]
def datumAny : JV := .obj [("a".toUTF8.toList, .obj [([94], .str "T".toUTF8.toList), ("alpha".toUTF8.toList, .str [120])])]

/-- with the create key "^", `{"a":{"^":"T","alpha":"x"}}` into `struct{A any}`: on a fresh recomposer the
interface holds the map; after `pa.T` was registered it holds a `*pa.T` — by design, the data names
the type -/
theorem history_witness :
    slotIs (recompose false [94] (regAfter false [94] []) anyHolder datumAny)
      (.struct [.iface (.map .iface) (.map [([94], .iface .str (.str "T".toUTF8.toList)),
        ("alpha".toUTF8.toList, .iface .str (.str [120]))])]) = true ∧
    slotIs (recompose false [94] (regAfter false [94] [.register sT]) anyHolder datumAny)
      (.struct [.iface (.ptr sT) (.ptr (.struct [.str [120], .int 0]))]) = true := by
  decide +kernel

theorem C16_history_full_false : ¬ C16_history_full := fun h =>
  slot_ne_of_slotIs (by decide +kernel) history_witness.1 (h [94] [] [.register sT] anyHolder datumAny).symm

/-- `type E struct{ Q int }; type U struct{ *E }; type T struct{ A int; P *U }` -/
def embU : GoType := .struct "U".toUTF8.toList [] [(⟨"E".toUTF8.toList, [], true⟩, .ptr (.struct "E".toUTF8.toList [] [(⟨"Q".toUTF8.toList, [], false⟩, .int 0)]))]
def embT : GoType := .struct "T".toUTF8.toList [] [(⟨"A".toUTF8.toList, [], false⟩, .int 0), (⟨"P".toUTF8.toList, [], false⟩, .ptr embU)]
def datumT : JV := .obj [("a".toUTF8.toList, .int 1)]
def datumU : JV := .obj [("q".toUTF8.toList, .int 2)]

/-- the witness of the embedded-pointer history dependence (before b19f06c registering `T` panicked at
`U` on a fresh recomposer and succeeded on one that had tried before) is gone: both give `T{1, nil}`;
and `U{*E}` is recomposed from `{"q":2}`, the embedded pointer being allocated -/
theorem embedded_pointer_repaired :
    slotIs (recompose false [] (regAfter false [] []) embT datumT) (.struct [.int 1, .nilPtr]) = true ∧
    slotIs (recompose false [] (regAfter false [] [.register embT]) embT datumT) (.struct [.int 1, .nilPtr]) = true ∧
    slotIs (recompose false [] [] embU datumU) (.struct [.ptr (.struct [.int 2])]) = true := by
  decide +kernel

/-- nil elements stay nil (4344ad7, f1da31f): `{"l":[null],"i":[null],"n":{"k":null}}` into
`struct{ L []*E; I []any; N map[string]any }` -/
theorem nil_elements_kept :
    slotIs (recompose false [] []
        (.struct [] [] [(⟨"L".toUTF8.toList, [], false⟩, .slice (.ptr (.struct "E".toUTF8.toList [] []))),
          (⟨"I".toUTF8.toList, [], false⟩, .slice .iface), (⟨"N".toUTF8.toList, [], false⟩, .map .iface)])
        (.obj [("l".toUTF8.toList, .arr [.null]), ("i".toUTF8.toList, .arr [.null]),
          ("n".toUTF8.toList, .obj [([107], .null)])]))
      (.struct [.slice [.nilPtr], .slice [.nilIface], .map [([107], .nilIface)]]) = true := by
  decide +kernel

/-- the value handling of the model is what the source has (regenerated facts; each fails on the
source before its commit) -/
theorem current_values_in_source :
    Gen.Reflect.altNilPtrElemKept = true ∧ Gen.Reflect.altNilIfaceKept = true ∧
    Gen.Reflect.altEmbeddedPtrIndexed = true := by
  decide +kernel

/-- the source has the guards and the complete unwrapping of containers in the field walk that the
model's `bareName = false` stands for (regenerated by `tools/extract/reflect.go`; on the source before
6d5fecb or before a720b7c this fails) -/
theorem current_lookup_in_source :
    Gen.Reflect.altRegisterWalkUnwrapsAll = true ∧
    Gen.Reflect.altRegisterNewCond = "c == nil || c.rtype != rt" ∧
    Gen.Reflect.altRecompLookups =
      ["c := r.composers[rv.Type().Name()]; c != nil && c.rtype == rv.Type() && c.any != nil",
       "c := r.composers[rv.Type().Name()]; c != nil && c.rtype == rv.Type()"] := by
  decide +kernel

/-- `struct{ Alpha string }` and `struct{ Beta int }`: two struct literal types, both named "" -/
def anonA : GoType := .struct [] [] [(⟨"Alpha".toUTF8.toList, [], false⟩, .str)]
def anonB : GoType := .struct [] [] [(⟨"Beta".toUTF8.toList, [], false⟩, .int 0)]
def datumB : JV := .obj [("beta".toUTF8.toList, .int 5)]

/-- on a fresh recomposer `{"beta":5}` gave `struct{Beta int}{5}`; after `struct{Alpha string}` was
registered the same call gave `{0}`: the composer filed under "" was the other type's -/
theorem history_witness_before :
    slotIs (recompose true [] (regAfter true [] []) anonB datumB) (.struct [.int 5]) = true ∧
    slotIs (recompose true [] (regAfter true [] [.register anonA]) anonB datumB) (.struct [.int 0]) = true := by
  decide +kernel

theorem C16_history_full_before_false : ¬ C16_history_full_before := fun h =>
  slot_ne_of_slotIs (by decide +kernel) history_witness_before.1 (h [] [] [.register anonA] anonB datumB).symm

/-- `struct{ URL struct{ Alpha string; Delta uint16 } }`: the inner struct literal shares the name ""
with the outer one -/
def anonNested : GoType :=
  .struct [] [] [(⟨"URL".toUTF8.toList, [], false⟩,
    .struct [] [] [(⟨"Alpha".toUTF8.toList, [], false⟩, .str), (⟨"Delta".toUTF8.toList, [], false⟩, .int 7)])]
def datumNested : JV := .obj [("url".toUTF8.toList, .obj [("alpha".toUTF8.toList, .str [120]), ("delta".toUTF8.toList, .int 3)])]

/-- without any history the inner fields were lost (Recompose(Decompose(v)) ≠ v), where the ideal
registry gives them back -/
theorem nested_anonymous_lost_fields_before :
    slotIs (recompose true [] [] anonNested datumNested) (.struct [.struct [.str [], .int 0]]) = true ∧
    slotIs (recomposePure [] anonNested datumNested) (.struct [.struct [.str [120], .int 3]]) = true := by
  decide +kernel

/-- the code as it is decodes both witnesses correctly -/
theorem current_decodes_witnesses :
    slotIs (recompose false [] (regAfter false [] [.register anonA]) anonB datumB) (.struct [.int 5]) = true ∧
    slotIs (recompose false [] [] anonNested datumNested) (.struct [.struct [.str [120], .int 3]]) = true := by
  decide +kernel

end OjgVerif.C16
