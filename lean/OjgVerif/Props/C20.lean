import OjgVerif.Asm.LemmasOrder
import OjgVerif.Asm.LemmasPrint
import OjgVerif.Asm.LemmasNum
import OjgVerif.Asm.LemmasLayout
import OjgVerif.Asm.LemmasText
import OjgVerif.Gen.AsmFacts
import OjgVerif.Gen.AsmShapes
/-! # C20 — assembly plans evaluate totally, deterministically and as documented

Over the model of `Asm/Model.lean` (heap of shared cells, the modelled functions, simple paths) and the
specification of `Asm/Spec.lean`. `Dev.current` is the code as it is (after the fix commits 312106f,
e5d206a, fb1d065, 52cf3c4, 9281d31, 54cf01b: no deviation is left, `Dev.current = Dev.none`), `Dev.before`
the code before them, `Dev.beforeCondCopy` the code between the first four and 9281d31; each deviation from
the documentation is stated at full strength, refuted by a concrete witness for the code that shows it
(`…_false`, marked "before <commit>" where a commit repaired it) and proved for the code that does not.

1. source ties: the function registry equals the documented table; REGRESSION TRIPWIRES over the lines the
   fix commits patched (`dev_current_source`, `execute_has_recover`): syntactic facts extracted from the
   source that break the build when a patched line changes shape — they are not semantic proofs about Go;
2. totality: no panic leaves `execute`; GENERAL (`execute_total`): every plan over the modelled functions
   that fits the fuel, has its literals in the plan's cells and never calls `equal`/`neq` returns nil or
   an error (or leaves the model / needs a map order) for every root and data — never out of fuel, never
   diverging; the exclusion is needed: `equal` on cyclic data does not end (`total_full_false`);
3. determinism: a run that never needs a map iteration order is the same under every order; a plan
   that enumerates a map is not (`order_matters`); GENERAL (`plan_cells_untouched`, `execute_insert`,
   `rerun_general`): no plan ever edits its own cells, evaluation commutes with inserting cells between
   plan and data, hence executing one plan twice on equal roots gives equal results and leaves the plan
   as it was — false before 52cf3c4 / 9281d31 (`rerun_full_false_before`, `rerun_cond_false_before`);
4. documented results: `eval f args = Spec.describe f (values of args)` for every function whose
   arguments are evaluated values, for arguments of every kind that evaluate without effect — with no
   side condition in the code as it is (`evalFn_describe_all`); the path, body and pair taking functions
   by their own statements; closed forms for integer arithmetic and for the text and conversion functions;
   `sort` returns a new array, a permutation in order (`sort_spec`);
5. frame: a plan that calls none of set/setall/del/delall leaves every existing cell as it was; a
   mutator changes at most one existing cell;
6. print: `newPlan (simplify p) = p` for compiled plans (the SEN text layer is tied by the run only). -/
namespace OjgVerif.C20
open OjgVerif.Asm

/-- the registry regenerated from asm/*.go is the documented table: names, the Go function behind each
name, compile hooks and description texts -/
theorem fn_table : Gen.AsmFacts.fns = Spec.fnTable := rfl

/-- the model knows exactly the registered names, split into modelled and unmodelled -/
theorem registry_names :
    (Spec.fnTable.map (·.1)).all isRegistered = true ∧
    (modelledFns ++ unmodelledFns).all (fun n => (Spec.fnTable.map (·.1)).contains n) = true ∧
    modelledFns.all (fun f => (fnKind f).isSome) = true ∧
    unmodelledFns.all (fun f => (fnKind f).isNone) = true ∧
    (fnTable.map (·.1)).all (fun f => modelledFns.contains f) = true := by decide +kernel

def evalIdent (f : Bytes) : Option String := (Spec.fnTable.find? (fun r => r.1 == f)).map (·.2.1)

/-- names the model treats as one function are one Go function -/
theorem aliases_share_eval :
    ([(b!"+", b!"sum"), (b!"-", b!"dif"), (b!"*", b!"product"), (b!"/", b!"quotient"),
      (b!"<", b!"lt"), (b!"<=", b!"lte"), (b!">", b!"gt"), (b!">=", b!"gte"),
      (b!"eq", b!"equal"), (b!"==", b!"equal"), (b!"!=", b!"neq"), (b!"nil?", b!"null?")] :
        List (Bytes × Bytes)).all (fun p => evalIdent p.1 == evalIdent p.2 && (evalIdent p.1).isSome) = true := by
  decide +kernel

/-- `Plan.Execute` runs under a deferred `recover()` -/
theorem execute_has_recover : "Plan.Execute" ∈ Gen.AsmFacts.recoverEntryPoints := by decide

/-- REGRESSION TRIPWIRE, not a semantic proof: the extractor reads a few syntactic shapes off the lines the fix
commits patched, and this theorem pins them to the flags of `Dev.current`; undoing a fix (or rewriting the
line) breaks it and forces a re-examination. That the code BEHAVES as the flags say is decided by the
correspondence run. The shapes:
`lt lte gt gte` switch on the EVALUATED first argument (312106f), `evalArg` hands out a copy of a literal
(52cf3c4), `quotient` tests its two float divisors for zero (e5d206a), the list clause of `evalValue` ends
with a copy of the list (fb1d065 + 9281d31), the comparison functions call the exact helpers `cmpNum` /
`cmpIntFloat` and the chains do not call `asFloat` (54cf01b) -/
theorem dev_current_source :
    Dev.current.cmpUneval = !(Gen.AsmFacts.cmpSwitchSubjects.all (fun p => p.2 == "evalArg(root, at, args[0])")) ∧
    Gen.AsmFacts.cmpSwitchSubjects.map (·.1) = ["lt", "lte", "gt", "gte"] ∧
    Dev.current.litAlias = !(Gen.AsmFacts.evalArgDefault == "val = dupLiteral(arg)") ∧
    Dev.current.divZeroInf = !(Gen.AsmFacts.quotientZeroTests == 2) ∧
    (Dev.current.condListNil || Dev.current.condListAlias) = !(Gen.AsmFacts.evalValueList == "result = dupLiteral(tv)") ∧
    Dev.current.cmpFloat = !(Gen.AsmFacts.cmpExactCalls ==
      [("lt", "1 exact, 0 asFloat"), ("lte", "1 exact, 0 asFloat"), ("gt", "1 exact, 0 asFloat"),
       ("gte", "1 exact, 0 asFloat"), ("equalVals", "2 exact, 3 asFloat")]) := by
  decide +kernel

/-- no deviation is left: the code as it is is the documented behaviour -/
theorem current_is_documented : Dev.current = Dev.none := rfl


/-- REGRESSION TRIPWIRE (syntactic, like `dev_current_source`): the only statements of package asm that assign
into an argument list (`args[i] = …`, `x.Args[i] = …`, `x.Args = …`) are in the functions that BUILD a plan
(`NewPlan`, `Fn.compile`) and in `evalValue` (cond's evaluator, which compiles a call it finds inside a pair — a
COPY of the pair's list since 4f445c7; before, in place: finding C20-cond-compiles-plan-list, fixed). No Eval
function writes into its `args` — which alias `Fn.Args`, the plan itself. The model cannot express such a write (a plan is an immutable `Arg` tree; only its literals are
heap cells, covered by `plan_cells_untouched`); that executing a plan leaves Simplify()/String() as they were and
that a reused plan behaves like a fresh one on ANOTHER root is oracle (b') of the run. -/
theorem plan_args_written_only_when_built :
    (Gen.AsmFacts.argWrites.map (·.1)).all (fun f => ["Fn.compile", "NewPlan", "evalValue"].contains f) = true ∧
    Gen.AsmFacts.argWrites ≠ [] := by decide

/-- the records of the text and conversion functions, read off the model's dispatch table -/
def scalarRecords : List (Bytes × ScalarFn) :=
  fnTable.filterMap (fun p => match p.2 with | .scalar g => some (p.1, g) | _ => none)

/-- the largest accepted argument count (up to 6) -/
def recMaxCount (g : ScalarFn) : Nat := ((List.range 7).filter g.arity).foldl max 0

/-- the indexes of the arguments in the order the record evaluates them, for a call with all of them -/
def recOrder (g : ScalarFn) : List Nat :=
  ((if g.swap then (List.range (recMaxCount g)).reverse else List.range (recMaxCount g)).take (g.wants (recMaxCount g)).length)

/-- what the extractor read off the Eval function registered under `f`: has a guard, accepted counts, order -/
def shapeOf (f : Bytes) : Option (Bool × List Nat × List Nat) :=
  (evalIdent f).bind (fun id => (Gen.AsmShapes.evalShapes.find? (fun r => r.1 == id)).map (·.2))

/-- SOURCE TIE for the text, conversion and list functions (re-checked on every run against Gen/AsmShapes.lean,
which the extractor regenerates from asm/*.go): for each of the eleven records, the Go function registered under that name
starts with an arity guard that lets through exactly the argument counts the record accepts (0..6 tried), and
evaluates `args[i]` in exactly the order of the record (`string` its format first); `reverse`, `append`, `include`
(second argument first) and `sort` (only its first argument is evaluated) likewise. A changed guard or a reordered
evaluation breaks this theorem (a tripwire over syntactic shapes — what the functions compute with the values is
the correspondence run). -/
theorem text_fns_source_shape :
    scalarRecords.length = 11 ∧
    scalarRecords.all (fun p => shapeOf p.1 == some (true, (List.range 7).filter p.2.arity, recOrder p.2)) = true ∧
    shapeOf b!"reverse" = some (true, [1], [0]) ∧
    shapeOf b!"append" = some (true, [2], [0, 1]) ∧
    shapeOf b!"include" = some (true, [2], [1, 0]) ∧
    shapeOf b!"sort" = some (true, [2], [0]) := by decide +kernel

/-- REGRESSION TRIPWIRE over the lines the fix commits de3017e and 4f445c7 patched (syntactic shapes, like
`dev_current_source`):
`appendEval` returns the array it built (`out`), not Go's `append(list, v)` (de3017e, C20-append-shares-backing: the
model's `fnAppend` allocates a new cell); `evalValue` and `Fn.compile` give a compiled nested call a fresh copy of
the rest of its list (`af.Args = make(…)`, 4f445c7, C20-cond-compiles-plan-list: in the model a plan is never
written). Undoing a fix breaks the build; that the code BEHAVES so is the run (copy box, append2, plan-edited oracle). -/
theorem round3_fixes_in_source :
    Gen.AsmShapes.appendReturn = "out" ∧
    Gen.AsmFacts.argWrites.contains ("evalValue", "af.Args = make([]any, len(tv)-1)") = true ∧
    Gen.AsmFacts.argWrites.contains ("Fn.compile", "af.Args = make([]any, len(list)-1)") = true ∧
    (Gen.AsmFacts.argWrites.any (fun w => w.2 == "af.Args = tv[1:]" || w.2 == "af.Args = list[1:]")) = false := by decide +kernel

/-! `no_panic_escapes`, `outcome_total` and `total_partial` are facts about the MODEL OF THE RECOVER WRAPPER:
`execute` is defined to turn a panic raised inside the evaluation into the outcome `err` when `hasRecover`
is set (Model.lean, `execute`). They say that this definition leaves no way for the outcome `panic`, nothing
more; that the real `Plan.Execute` has the deferred recover is the extracted fact `execute_has_recover`, and
that no panic escapes the real `Execute` is decided by the run (every case under recover in a worker
process). The statement about the evaluation itself — never out of fuel, never diverging — is `execute_total`. -/

/-- the heap `Execute` leaves is the one the top call leaves (anything but a call leaves it as it was) -/
theorem execute_snd (env : Env) (r : Bool) (fuel : Nat) (plan : Option Arg) (root : Val) (h : Heap) :
    (execute env r fuel plan root h).2 =
      match plan with
      | some (.call f args) => (evalFn env (eval env root fuel) root root f args h).2
      | _ => h := by
  unfold execute
  match plan with
  | some (.call f args) =>
    simp only
    cases evalFn env (eval env root fuel) root root f args h with
    | mk res h' => cases res with
      | ok v => rfl
      | error e => cases e <;> rfl
  | none | some (.lit _) | some (.raw _ _) | some (.path _) | some .unk => rfl

/-- the outcome `Execute` reports for the result of the top call -/
def outcomeOf (r : Bool) : Except Stop Val → Outcome
  | .ok _ => .ok
  | .error .panic => if r then .err else .panic
  | .error .diverge => .diverge
  | .error .unmodelled => .unmodelled
  | .error .enum => .enum
  | .error .fuel => .fuel

/-- `Execute` of a call is the evaluation of the call at the root, one level of fuel up, and its outcome read off -/
theorem execute_call (env : Env) (r : Bool) (fuel : Nat) (f : Bytes) (args : List Arg) (root : Val) (h : Heap) :
    execute env r fuel (some (.call f args)) root h =
      (outcomeOf r (eval env root (fuel + 1) (.call f args) root h).1, (eval env root (fuel + 1) (.call f args) root h).2) := by
  simp only [execute, eval]
  cases evalFn env (eval env root fuel) root root f args h with
  | mk res h' => cases res with
    | ok v => rfl
    | error e => cases e <;> rfl

/-- model of the wrapper: with `hasRecover` the outcome `panic` cannot arise (by the definition of
`execute`), whatever the plan, root, heap, deviations, map order and fuel -/
theorem no_panic_escapes (env : Env) (fuel : Nat) (plan : Option Arg) (root : Val) (h : Heap) :
    (execute env true fuel plan root h).1 ≠ .panic := by
  unfold execute
  simp only
  split <;> simp

/-- model of the wrapper: the outcome is nil, an error, or a stop of the model that is not a Go panic -/
theorem outcome_total (env : Env) (fuel : Nat) (plan : Option Arg) (root : Val) (h : Heap) :
    (execute env true fuel plan root h).1 ∈ [Outcome.ok, .err, .diverge, .unmodelled, .enum, .fuel] := by
  have := no_panic_escapes env fuel plan root h
  cases ho : (execute env true fuel plan root h).1 <;> simp_all

def envCur : Env := ⟨Dev.current, none⟩
def envBefore : Env := ⟨Dev.before, none⟩
def envDoc : Env := ⟨Dev.none, none⟩

/-- the wrapper is needed: `[not]` (a wrong arity) panics, and without the recover that panic escapes -/
theorem recover_needed :
    (execute envCur false 5 (some (.call b!"not" [])) (.mref 0) [Cell.map []]).1 = .panic ∧
    (execute envCur true 5 (some (.call b!"not" [])) (.mref 0) [Cell.map []]).1 = .err := by decide

/-- executing the nil plan (NewPlan of an empty array) is an error, not a crash -/
theorem nil_plan_is_error : (execute envCur true 5 none (.mref 0) [Cell.map []]).1 = .err := by decide

/-- full strength: every modelled run completes or returns an error -/
def total_full : Prop :=
  ∀ (fuel : Nat) (plan : Arg) (root : Val) (h : Heap),
    (execute envCur true fuel (some plan) root h).1 ∈ [Outcome.ok, .err, .unmodelled, .enum, .fuel]

/-- `[[set $.asm $] [set $.x [eq $ $]]]`: the root is stored under itself, then compared -/
def cyclicPlan : Arg :=
  .call b!"asm" [
    .call b!"set" [.path ⟨false, [.child b!"asm"]⟩, .path ⟨false, []⟩],
    .call b!"set" [.path ⟨false, [.child b!"x"]⟩, .call b!"eq" [.path ⟨false, []⟩, .path ⟨false, []⟩]]]

/-- not so: a plan can make the data cyclic, and `equal` then recurses without end (in Go: a fatal
stack overflow that no recover catches) — known finding C20-cyclic-data -/
theorem total_full_false : ¬ total_full := by
  intro hf
  have := hf 5 cyclicPlan (.mref 0) [Cell.map []]
  revert this
  decide

/-- model of the wrapper again (a corollary of `outcome_total`): if the outcome is not `diverge` it is one of
the others. The substantive statement about `diverge` and `fuel` is `execute_total`. -/
theorem total_partial (env : Env) (fuel : Nat) (plan : Option Arg) (root : Val) (h : Heap) :
    (execute env true fuel plan root h).1 ≠ .diverge →
    (execute env true fuel plan root h).1 ∈ [Outcome.ok, .err, .unmodelled, .enum, .fuel] := by
  intro hd
  have := outcome_total env fuel plan root h
  simp_all

example : (execute envCur true 5 (some (.call b!"set" [.path ⟨false, [.child b!"asm"]⟩, .lit (.int 1)])) (.mref 0)
    [Cell.map []]).1 ≠ .diverge := by decide

/-- GENERAL no-fault theorem for the modelled functions (the model-level counterpart of C06 for asm). Heap
split at `k` as in `rerun_general`: the plan's cells below `k`, laid out children first (`PlanOrd`: the
literals are finite trees), the data from `k` on, not referring to the plan, with the root in it. For
EVERY plan that fits (`Fit k (fuel + 1) plan`: its literals live in the plan's cells, its calls nest no
deeper than the fuel, and it never calls `equal`/`neq` — the named exclusion: structural comparison is
the one modelled traversal that does not end on cyclic data, C20-cyclic-data), every root and every data,
under the deviations of the code as it is: `Execute` returns nil or an error, or the run leaves the model
(`unmodelled`) or needs a map order (`enum`). It never faults: no panic escapes, it never runs out of
fuel, it never diverges — cyclic data or not (a plan without `equal`/`neq` may build cycles freely). -/
theorem execute_total (dev : Dev) (hd : dev.copies) (fuel : Nat) (plan : Arg) (root : Val) (h : Heap) (k : Nat)
    (hk : k ≤ h.length) (hh : HeapHi k h) (hp : PlanOrd k h) (hroot : root.hi k) (hfit : Fit k (fuel + 1) plan) :
    (execute ⟨dev, none⟩ true fuel (some plan) root h).1 ∈ [Outcome.ok, .err, .unmodelled, .enum] := by
  cases plan with
  | call f args =>
    rw [execute_call]
    have hm := (eval_st dev hd root hroot (fuel + 1) _ hfit root hroot).tot.run h hh hk hp
    cases hr : (eval ⟨dev, none⟩ root (fuel + 1) (.call f args) root h).1 with
    | ok v => simp [outcomeOf]
    | error e => rcases hm e hr with he | he | he <;> subst he <;> simp [outcomeOf]
  | _ => simp [execute]

/-- `execute_total` for the code as it is, which hands out no literal of the plan by reference (`Dev.copies`) -/
theorem execute_total_current (fuel : Nat) (plan : Arg) (root : Val) (h : Heap) (k : Nat)
    (hk : k ≤ h.length) (hh : HeapHi k h) (hp : PlanOrd k h) (hroot : root.hi k) (hfit : Fit k (fuel + 1) plan) :
    (execute envCur true fuel (some plan) root h).1 ∈ [Outcome.ok, .err, .unmodelled, .enum] :=
  execute_total Dev.current ⟨rfl, rfl, rfl⟩ fuel plan root h k hk hh hp hroot hfit

/-- the exclusion is needed: `cyclicPlan` fits in every other respect (no literals, nesting 2) but calls `eq`,
and diverges (`total_full_false`); a plan that builds the same cycle without comparing it,
`[set $.asm $]`, is covered by `execute_total` and ends `ok` -/
example : Fit 0 2 (.call b!"set" [.path ⟨false, [.child b!"asm"]⟩, .path ⟨false, []⟩]) ∧
    (execute envCur true 1 (some (.call b!"set" [.path ⟨false, [.child b!"asm"]⟩, .path ⟨false, []⟩])) (.mref 0)
      [Cell.map []]).1 = .ok := by
  refine ⟨.call _ _ _ (by decide) (fun a ha => ?_), by decide⟩
  simp at ha
  rcases ha with ha | ha <;> subst ha <;> exact .path _ _

/-- `execute` is a function of the plan, the root, the heap and the map iteration order; when the run
without an order does not stop with `enum`, the order plays no part: every order gives that very run -/
theorem order_independent (dev : Dev) (o : MapOrd) (r : Bool) (fuel : Nat) (plan : Option Arg) (root : Val) (h : Heap)
    (hne : (execute ⟨dev, none⟩ r fuel plan root h).1 ≠ .enum) :
    execute ⟨dev, some o⟩ r fuel plan root h = execute ⟨dev, none⟩ r fuel plan root h := by
  match plan with
  | some (.call f args) =>
    rw [execute_call] at hne
    rw [execute_call, execute_call, (eval_sim dev o root (fuel + 1) (.call f args) root).same h fun he => hne (by rw [he]; rfl)]
  | none | some (.lit _) | some (.raw _ _) | some (.path _) | some .unk => rfl

/-- an instance of the hypothesis: `[set $.asm [get $.src.a]]` never asks for an order -/
example : (execute ⟨Dev.current, none⟩ true 5
    (some (.call b!"set" [.path ⟨false, [.child b!"asm"]⟩, .call b!"get" [.path ⟨false, [.child b!"src", .child b!"a"]⟩]]))
    (.mref 0) [Cell.map [(b!"src", .mref 1)], Cell.map [(b!"a", .int 1)]]).1 ≠ .enum := by decide

/-- two orders, one run: under the hypothesis of `order_independent` any two orders agree -/
theorem deterministic (dev : Dev) (o1 o2 : MapOrd) (r : Bool) (fuel : Nat) (plan : Option Arg) (root : Val) (h : Heap)
    (hne : (execute ⟨dev, none⟩ r fuel plan root h).1 ≠ .enum) :
    execute ⟨dev, some o1⟩ r fuel plan root h = execute ⟨dev, some o2⟩ r fuel plan root h := by
  rw [order_independent dev o1 r fuel plan root h hne, order_independent dev o2 r fuel plan root h hne]

/-- `[set $.asm [getall $.src.*]]` -/
def enumPlan : Arg :=
  .call b!"set" [.path ⟨false, [.child b!"asm"]⟩, .call b!"getall" [.path ⟨false, [.child b!"src", .wild]⟩]]

def enumHeap : Heap := [Cell.map [(b!"src", .mref 1)], Cell.map [(b!"a", .int 1), (b!"b", .int 2)]]

/-- the hypothesis is needed: a plan that enumerates a map stops with `enum` when no order is given, and
two orders give two different results (known finding C20-map-order) -/
theorem order_matters :
    (execute ⟨Dev.current, none⟩ true 5 (some enumPlan) (.mref 0) enumHeap).1 = .enum ∧
    execute ⟨Dev.current, some id⟩ true 5 (some enumPlan) (.mref 0) enumHeap ≠
      execute ⟨Dev.current, some List.reverse⟩ true 5 (some enumPlan) (.mref 0) enumHeap := by decide

/-- the plan `[[set $.asm {n: 0}] [set $.asm.n [sum $.asm.n 1]]]`, its literal `{n: 0}` being cell 0 -/
def counterPlan : Arg :=
  .call b!"asm" [
    .call b!"set" [.path ⟨false, [.child b!"asm"]⟩, .lit (.mref 0)],
    .call b!"set" [.path ⟨false, [.child b!"asm", .child b!"n"]⟩,
      .call b!"sum" [.path ⟨false, [.child b!"asm", .child b!"n"]⟩, .lit (.int 1)]]]

/-- heap: the literal, and two equal roots `{src: 1}` -/
def counterHeap : Heap := [Cell.map [(b!"n", .int 0)], Cell.map [(b!"src", .int 1)], Cell.map [(b!"src", .int 1)]]

/-- the plan `[[set $.asm [cond [true [0 7]]]] [set $.asm[0] [sum $.asm[0] 1]]]`: the pair is cell 1, its
list value `[0 7]` cell 0 -/
def condCounterPlan : Arg :=
  .call b!"asm" [
    .call b!"set" [.path ⟨false, [.child b!"asm"]⟩,
      .call b!"cond" [.raw (.aref 1) [.lit (.bool true), .raw (.aref 0) [.lit (.int 0), .lit (.int 7)]]]],
    .call b!"set" [.path ⟨false, [.child b!"asm", .nth 0]⟩,
      .call b!"sum" [.path ⟨false, [.child b!"asm", .nth 0]⟩, .lit (.int 1)]]]

def condCounterHeap : Heap :=
  [Cell.arr [.int 0, .int 7], Cell.arr [.bool true, .aref 0], Cell.map [(b!"src", .int 1)], Cell.map [(b!"src", .int 1)]]

/-- what is looked at after a run on root cell `r`: `$.asm.n`, or `$.asm[0]` when `$.asm` is an array -/
def asmN (h : Heap) (r : Nat) : Option Val :=
  match kvGet b!"asm" (h.mapAt r) with
  | some (.mref a) => kvGet b!"n" (h.mapAt a)
  | some (.aref a) => (h.arrAt a).head?
  | _ => none

/-- full strength: executing one plan twice on equal roots gives equal results -/
def rerun_full (dev : Dev) : Prop :=
  ∀ (plan : Arg) (h : Heap) (r1 r2 : Nat), h.mapAt r1 = h.mapAt r2 →
    let run1 := execute ⟨dev, none⟩ true 9 (some plan) (.mref r1) h
    let run2 := execute ⟨dev, none⟩ true 9 (some plan) (.mref r2) run1.2
    asmN run1.2 r1 = asmN run2.2 r2

/-- before 52cf3c4: the first run edits the plan's literal, the second run starts from the edited literal
(1, then 2) — finding C20-literal-aliasing, fixed -/
theorem rerun_full_false_before : ¬ rerun_full Dev.before := by
  intro hf
  have := hf counterPlan counterHeap 1 2 (by decide)
  revert this
  decide

/-- the code as it is copies literals: the same two runs agree (1 and 1) -/
theorem rerun_counter_current :
    let run1 := execute envCur true 9 (some counterPlan) (.mref 1) counterHeap
    let run2 := execute envCur true 9 (some counterPlan) (.mref 2) run1.2
    asmN run1.2 1 = some (.int 1) ∧ asmN run2.2 2 = some (.int 1) := by decide

/-- before 9281d31 (after the other four): one literal was not copied — a list value returned by `cond`
(`result = tv` in evalValue) was the plan's own list, so the same happened through `cond` (1, then 2) —
finding C20-cond-list-alias, fixed -/
theorem rerun_cond_false_before : ¬ rerun_full Dev.beforeCondCopy := by
  intro hf
  have := hf condCounterPlan condCounterHeap 2 3 (by decide)
  revert this
  decide

/-- the code as it is copies that list as well: the two runs agree (1 and 1) -/
theorem rerun_cond_counter_current :
    let run1 := execute envCur true 9 (some condCounterPlan) (.mref 2) condCounterHeap
    let run2 := execute envCur true 9 (some condCounterPlan) (.mref 3) run1.2
    asmN run1.2 2 = some (.int 1) ∧ asmN run2.2 3 = some (.int 1) := by decide

/-- and neither run touches the plan's own cells (the list `[0 7]`, the pair): what they change is new -/
theorem rerun_cond_plan_untouched :
    let run1 := execute envCur true 9 (some condCounterPlan) (.mref 2) condCounterHeap
    let run2 := execute envCur true 9 (some condCounterPlan) (.mref 3) run1.2
    run2.2.take 2 = condCounterHeap.take 2 := by decide

/-- GENERAL: the plan is never edited. Split the heap at `k`: the plan's cells below, the data from `k` on,
the data not referring to the plan (`HeapHi`), the root in the data. Then for every plan over the MODELLED
functions (any literals; `sort`, `append` and the other list functions among them), fuel and root — a
call of one of the four unmodelled functions (`inspect`, `time`, `time?`, `zone`) is covered only in the
trivial sense that the model stops there (`unmodelled`) with the heap as it is: nothing is claimed about
what those do to the plan (that is oracle (d)/(b) of the run) — under the deviations of the code since
312106f, 52cf3c4 and 9281d31 (`Dev.copies`): after `Execute` every cell of the plan is what it was, and the
data still does not refer to the plan — the invariant that makes a plan reusable. (Order: runs that need no map
order; with `order_independent` every order.) -/
theorem plan_cells_untouched (dev : Dev) (hd : dev.copies) (r : Bool) (fuel : Nat) (plan : Option Arg) (root : Val)
    (h : Heap) (k : Nat) (hh : HeapHi k h) (hk : k ≤ h.length) (hroot : root.hi k) :
    (∀ i, i < k → (execute ⟨dev, none⟩ r fuel plan root h).2[i]? = h[i]?) ∧
    HeapHi k (execute ⟨dev, none⟩ r fuel plan root h).2 ∧
    h.length ≤ (execute ⟨dev, none⟩ r fuel plan root h).2.length := by
  match plan with
  | some (.call f args) =>
    rw [execute_call]
    obtain ⟨g1, g2, g3, _⟩ := (eval_safe dev hd root hroot (fuel + 1) (.call f args) root hroot).run h hh hk
    exact ⟨g1, g2, g3⟩
  | none | some (.lit _) | some (.raw _ _) | some (.path _) | some .unk => exact ⟨fun _ _ => rfl, hh, Nat.le_refl _⟩

/-- `plan_cells_untouched` for the code as it is (`Dev.copies` holds of `Dev.current`) -/
theorem plan_cells_untouched_current (r : Bool) (fuel : Nat) (plan : Option Arg) (root : Val)
    (h : Heap) (k : Nat) (hh : HeapHi k h) (hk : k ≤ h.length) (hroot : root.hi k) :
    ∀ i, i < k → (execute envCur r fuel plan root h).2[i]? = h[i]? :=
  (plan_cells_untouched Dev.current ⟨rfl, rfl, rfl⟩ r fuel plan root h k hh hk hroot).1

/-- the hypothesis `Dev.copies` is needed: before 52cf3c4 the plan's literal (cell 0) was edited -/
example : (execute envBefore true 9 (some counterPlan) (.mref 1) counterHeap).2[0]? ≠ counterHeap[0]? := by decide

/-- the cells of the plan only refer to cells of the plan (literals are trees of their own) -/
def Cell.lo (k : Nat) : Cell → Prop
  | .arr xs => ∀ v ∈ xs, v.lo k
  | .map kvs => ∀ kv ∈ kvs, kv.2.lo k

def PlanClosed (k : Nat) (h : Heap) : Prop := ∀ i c, i < k → h[i]? = some c → Cell.lo k c

theorem planOrd_closed {k : Nat} {h : Heap} (hp : PlanOrd k h) : PlanClosed k h := fun i c hi hg => by
  -- before cell `i`, so before the boundary: `Val.below` is `Val.lo`
  have hb := hp i c hi hg
  cases c with
  | arr xs => exact fun v hv => below_mono (hb v hv) (Nat.le_of_lt hi)
  | map kvs => exact fun kv hkv => below_mono (hb kv hkv) (Nat.le_of_lt hi)

theorem cell_lo_fixed (s : Sh) {c : Cell} (hc : Cell.lo s.k c) : s.cell c = c := by
  cases c with
  | arr xs => rw [Sh.cell, List.map_congr_left fun v hv => Sh.val_lo (hc v hv), List.map_id']
  | map kvs =>
    rw [Sh.cell, List.map_congr_left fun kv hkv => show (kv.1, s.val kv.2) = kv by rw [Sh.val_lo (hc kv hkv)], List.map_id']

/-- GENERAL equivariance: insert ANY cells `G` between the plan (the first `k` cells) and the data and
move the data up; for every plan whose literals live in the plan's cells, every root, heap, fuel, under
the deviations of the code as it is (`Dev.copies`): `Execute` has the same outcome and leaves the image
of the heap it leaves without the insertion — wherever the run without the insertion does not end in
`diverge` or `enum` (`Stop.soft`: `diverge` and the `enum` that `equal` reports may depend on the fuel the heap
size grants; the `enum` of a wildcard over a map does not, and is left out with it). -/
theorem execute_insert (dev : Dev) (hd : dev.copies) (r : Bool) (fuel : Nat) (plan : Arg) (root : Val) (h : Heap)
    (s : Sh) (hk : s.k ≤ h.length) (hlo : ArgLo s.k plan)
    (hfirm : (execute ⟨dev, none⟩ r fuel (some plan) root h).1 ≠ .diverge ∧
             (execute ⟨dev, none⟩ r fuel (some plan) root h).1 ≠ .enum) :
    execute ⟨dev, none⟩ r fuel (some plan) (s.val root) (s.heap h) =
      ((execute ⟨dev, none⟩ r fuel (some plan) root h).1, s.heap (execute ⟨dev, none⟩ r fuel (some plan) root h).2) := by
  cases plan with
  | call f args =>
    rw [execute_call] at hfirm
    rw [execute_call, execute_call]
    have hf : Firm (eval ⟨dev, none⟩ root (fuel + 1) (.call f args) root h).1 := by
      intro e he hs
      rw [he] at hfirm
      rcases hs with hs | hs <;> subst hs <;> simp [outcomeOf] at hfirm
    rw [((eval_eqv (s := s) dev hd root (fuel + 1) _ hlo root).eq h hk hf).1]
    cases (eval ⟨dev, none⟩ root (fuel + 1) (.call f args) root h).1 <;> rfl
  | _ => rfl

/-- GENERAL re-run theorem for the modelled functions. Heap `h`: the plan's cells below `k` (closed: they
only refer to each other), then the data, which does not refer to the plan, with the root in it. Run the
plan once; `G` is everything from `k` on that the run leaves (the used root, new cells). Put an equal root
after it — the original data cells, moved — and run THE SAME plan again. Then the second run has the same
outcome, leaves the plan's cells as they were, and leaves as data the image of the data the first run
left: equal results. Excluded, and named: runs that end `diverge` (cyclic data, C20-cyclic-data) or `enum`
(a map iteration order is needed, C20-map-order). -/
theorem rerun_general (dev : Dev) (hd : dev.copies) (r : Bool) (fuel : Nat) (plan : Arg) (root : Val) (h : Heap) (k : Nat)
    (hk : k ≤ h.length) (hlo : ArgLo k plan) (hclosed : PlanClosed k h) (hh : HeapHi k h) (hroot : root.hi k)
    (hfirm : (execute ⟨dev, none⟩ r fuel (some plan) root h).1 ≠ .diverge ∧
             (execute ⟨dev, none⟩ r fuel (some plan) root h).1 ≠ .enum) :
    let run1 := execute ⟨dev, none⟩ r fuel (some plan) root h
    let s : Sh := ⟨k, run1.2.drop k⟩
    -- the heap for the second run: what run 1 left, then the original data again (moved)
    let h2 := run1.2 ++ (h.drop k).map s.cell
    let run2 := execute ⟨dev, none⟩ r fuel (some plan) (s.val root) h2
    run2.1 = run1.1 ∧ run2.2 = s.heap run1.2 ∧ (∀ i, i < k → run2.2[i]? = h[i]?) := by
  intro run1 s h2 run2
  have hun := plan_cells_untouched dev hd r fuel (some plan) root h k hh hk hroot
  have hlen1 : k ≤ run1.2.length := Nat.le_trans hk hun.2.2
  -- the insertion leaves a closed plan's cells as they are
  have hfix : ∀ i, i < k → (h[i]?).map s.cell = h[i]? := fun i hi => by
    cases hg : h[i]? with
    | none => rfl
    | some c => simp only [Option.map]; rw [cell_lo_fixed s (hclosed i c hi hg)]
  -- the heap for the second run is the insertion of `G` into the first heap
  have htake : (h.take k).map s.cell = run1.2.take k := by
    apply List.ext_getElem?
    intro i
    by_cases hi : i < k
    · rw [List.getElem?_map, List.getElem?_take, List.getElem?_take]
      simp only [hi, if_true]
      rw [hun.1 i hi]
      exact hfix i hi
    · rw [List.getElem?_eq_none (by simp [List.length_take]; omega), List.getElem?_eq_none (by simp [List.length_take]; omega)]
  have hh2 : h2 = s.heap h := by
    show run1.2 ++ (h.drop k).map s.cell = (h.take s.k).map s.cell ++ s.G ++ (h.drop s.k).map s.cell
    show run1.2 ++ (h.drop k).map s.cell = (h.take k).map s.cell ++ run1.2.drop k ++ (h.drop k).map s.cell
    rw [htake, List.take_append_drop]
  have hins := execute_insert dev hd r fuel plan root h s hk hlo hfirm
  have hrun2 : run2 = (run1.1, s.heap run1.2) := by
    show execute ⟨dev, none⟩ r fuel (some plan) (s.val root) h2 = _
    rw [hh2]; exact hins
  refine ⟨by rw [hrun2], by rw [hrun2], ?_⟩
  intro i hi
  rw [hrun2]
  have hia : s.ad i = i := by
    have : i < s.k := hi
    unfold Sh.ad; rw [if_pos this]
  show (s.heap run1.2)[i]? = h[i]?
  rw [← hia, Sh.heap_get s run1.2 hlen1 i, hia, hun.1 i hi]
  exact hfix i hi

/-- "equal results": whatever a simple path reads under the second root after the second run is the image
of what it reads under the first root after the first run — the same scalar, or the moved reference -/
theorem rerun_reads_equal (s : Sh) (dev : Dev) (h1 : Heap) (hk : s.k ≤ h1.length) (root : Val) (fs : List Frag) :
    pathFirst ⟨dev, none⟩ (s.heap h1) (s.val root) fs = (pathFirst ⟨dev, none⟩ h1 root fs).map (Option.map s.val) :=
  Sh.pathFirst_sh s dev h1 hk fs root

/-- `rerun_general` for the code as it is (`Dev.copies` holds of `Dev.current`) -/
theorem rerun_current (r : Bool) (fuel : Nat) (plan : Arg) (root : Val) (h : Heap) (k : Nat)
    (hk : k ≤ h.length) (hlo : ArgLo k plan) (hclosed : PlanClosed k h) (hh : HeapHi k h) (hroot : root.hi k)
    (hfirm : (execute envCur r fuel (some plan) root h).1 ≠ .diverge ∧ (execute envCur r fuel (some plan) root h).1 ≠ .enum) :
    let run1 := execute envCur r fuel (some plan) root h
    let s : Sh := ⟨k, run1.2.drop k⟩
    let run2 := execute envCur r fuel (some plan) (s.val root) (run1.2 ++ (h.drop k).map s.cell)
    run2.1 = run1.1 ∧ run2.2 = s.heap run1.2 ∧ (∀ i, i < k → run2.2[i]? = h[i]?) :=
  rerun_general Dev.current ⟨rfl, rfl, rfl⟩ r fuel plan root h k hk hlo hclosed hh hroot hfirm

/-- the driver's check is sound: `layoutOK k h root plan` (evaluated on every case before every execution; a
failure is reported as a disagreement) implies every hypothesis of `plan_cells_untouched`, `rerun_general`
and `execute_total` about how the heap is laid out — only `Fit`'s two conditions on the plan itself
(nesting within the fuel, no `equal`/`neq`) are not layout -/
theorem layoutOK_sound (k : Nat) (h : Heap) (root : Val) (plan : Arg) (hok : layoutOK k h root (some plan) = true) :
    k ≤ h.length ∧ HeapHi k h ∧ PlanOrd k h ∧ PlanClosed k h ∧ root.hi k ∧ ArgLo k plan := by
  simp only [layoutOK, Bool.and_eq_true, decide_eq_true_eq] at hok
  obtain ⟨⟨⟨hk, hl⟩, hr⟩, ha⟩ := hok
  have hs := heapLayoutB_sound k h 0 hl
  have hord : PlanOrd k h := fun i c hi hg => by simpa using (hs i c hg).1 (by omega)
  -- `400` is the fuel `layoutOK` walks the plan with, and `argLoB_sound` holds at any fuel; a plan the driver compiles
  -- with its fuel 200 nests at most 201 deep, so the check does not fail for want of it
  exact ⟨hk, fun i c hi hg => (hs i c hg).2 (by omega), hord, planOrd_closed hord, hiB_sound hr, argLoB_sound k 400 plan ha⟩

/-- the check holds on the instance used above -/
example : layoutOK 2 condCounterHeap (.mref 2) (some condCounterPlan) = true := by decide

/-- an instance of the hypotheses: the heap of `rerun_cond_counter_current` — plan cells 0 and 1, the two
roots `{src: 1}` from 2 on -/
example : HeapHi 2 condCounterHeap ∧ 2 ≤ condCounterHeap.length ∧ Val.hi 2 (.mref 2) := by
  obtain ⟨hk, hh, _, _, hroot, _⟩ := layoutOK_sound 2 condCounterHeap (.mref 2) condCounterPlan (by decide)
  exact ⟨hh, hk, hroot⟩

/-- an instance of the hypotheses: `condCounterPlan` on `condCounterHeap` with the boundary 2 (cells 0, 1 are
the plan's list `[0 7]` and pair; the literals of the plan are those two cells) — and the run ends `ok` -/
example : ArgLo 2 condCounterPlan ∧ PlanClosed 2 condCounterHeap ∧
    (execute envCur true 9 (some condCounterPlan) (.mref 2) condCounterHeap).1 = .ok := by
  obtain ⟨_, _, _, hclosed, _, hlo⟩ := layoutOK_sound 2 condCounterHeap (.mref 2) condCounterPlan (by decide)
  exact ⟨hlo, hclosed, by decide⟩

/-- an instance of `PlanOrd`: the plan cells of `condCounterHeap` (cell 0 the list `[0 7]`, cell 1 the pair
that refers to cell 0) -/
example : PlanOrd 2 condCounterHeap :=
  (layoutOK_sound 2 condCounterHeap (.mref 2) condCounterPlan (by decide)).2.2.1

/-- the functions whose arguments are all evaluated values -/
def eagerFns : List Bytes :=
  [b!"sum", b!"+", b!"dif", b!"-", b!"product", b!"*", b!"quotient", b!"/", b!"mod",
   b!"lt", b!"<", b!"lte", b!"<=", b!"gt", b!">", b!"gte", b!">=", b!"equal", b!"eq", b!"==", b!"neq", b!"!=",
   b!"and", b!"or", b!"not", b!"at", b!"root", b!"list", b!"nth", b!"size",
   b!"array?", b!"bool?", b!"map?", b!"nil?", b!"null?", b!"num?", b!"string?"]

def cmpFns : List Bytes := [b!"lt", b!"<", b!"lte", b!"<=", b!"gt", b!">", b!"gte", b!">="]

/-- the text, conversion and list functions whose arguments are all evaluated values -/
def textFns : List Bytes :=
  [b!"tolower", b!"toupper", b!"title", b!"trim", b!"replace", b!"split", b!"substr", b!"join", b!"int", b!"float",
   b!"string", b!"reverse", b!"append", b!"include"]

/-- the documented result of a function kind on evaluated arguments (`none`: the kind takes a path, a body or
unevaluated pairs): what `Spec.describe` says under each name of that kind (`describe_kind`) -/
def kindSpec (dev : Dev) : FnKind → Option (List Val → M Val)
  | .sum => some fun vs h => (Spec.sum vs, h)
  | .arith op => some fun vs h => (Spec.arith dev op.spec vs, h)
  | .mod => some fun vs h => (Spec.mod vs, h)
  | .cmp op => some fun vs h => (Spec.cmp dev op vs, h)
  | .equal => some fun vs h => ((Spec.equal dev h vs).map .bool, h)
  | .neq => some fun vs h => ((Spec.equal dev h vs).map (fun b => .bool (!b)), h)
  | .and => some fun vs h => (Spec.land vs, h)
  | .or => some fun vs h => (Spec.lor vs, h)
  | .not => some fun vs h => (Spec.lnot vs, h)
  | .pathOf isAt => some fun vs h => (Spec.pathOf isAt vs, h)
  | .list => some Spec.list
  | .nth => some fun vs h => (Spec.nth h vs, h)
  | .size => some fun vs h => (Spec.size h vs, h)
  | .pred p => some fun vs h => (Spec.pred p vs, h)
  | .scalar g => some (Spec.scalar g)
  | .reverse => some Spec.reverse
  | .append => some Spec.append
  | .incl => some fun vs h => (Spec.includ h vs, h)
  | _ => none

/-- model = specification, kind by kind: on arguments that evaluate without effect each kind with a
`kindSpec` computes it -/
theorem evalKind_describe (env : Env) (ev : Arg → Val → M Val) (root at_ : Val) (h : Heap) (k : FnKind)
    (d : List Val → M Val) (args : List Arg) (vs : List Val)
    (hp : PureArgs (fun a => ev a at_) h args vs) (hk : kindSpec env.dev k = some d)
    (hcmp : ∀ op, k = .cmp op → env.dev.cmpUneval = false ∨ ∃ v r, args = .lit v :: r ∧ vs.head? = some v) :
    evalKind env ev root at_ k args h = d vs h := by
  cases k <;> cases hk
  case sum => exact fnSum_spec _ h args vs hp
  case arith op => exact fnArith_spec _ op _ h args vs hp
  case mod => exact fnMod_spec _ h args vs hp
  case cmp op => exact fnCmp_spec _ op _ h args vs hp (hcmp op rfl)
  case equal =>
    simp only [evalKind, bind_apply, fnEqual_spec _ _ h args vs hp]
    cases Spec.equal env.dev h vs <;> rfl
  case neq =>
    simp only [evalKind, bind_apply, fnEqual_spec _ _ h args vs hp]
    cases Spec.equal env.dev h vs <;> rfl
  case and => exact fnAnd_spec _ h args vs hp
  case or => exact fnOr_spec _ h args vs hp
  case not => exact fnNot_spec _ h args vs hp
  case pathOf isAt => exact fnPathOf_spec isAt _ h args vs hp
  case list => exact fnList_spec _ h args vs hp
  case nth => exact fnNth_spec _ h args vs hp
  case size => exact fnSize_spec _ h args vs hp
  case pred p => exact fnPred_spec p _ h args vs hp
  case scalar g => exact fnScalar_spec g _ h args vs hp
  case reverse => exact fnReverse_spec _ h args vs hp
  case append => exact fnAppend_spec _ h args vs hp
  case incl => exact fnInclude_spec _ h args vs hp

/-- the two dispatch tables agree, name by name (each line an evaluation of `fnKind` and of the `if` chain of
`Spec.describe` at one name): the model's kind of the name has a `kindSpec`, and it is what `Spec.describe` says
under that name -/
theorem describe_kind (dev : Dev) {f : Bytes} (hf : f ∈ eagerFns ++ textFns) :
    ∃ k d, fnKind f = some k ∧ kindSpec dev k = some d ∧ (∀ op, k = .cmp op → f ∈ cmpFns) ∧
      ∀ vs h, Spec.describe dev f vs h = d vs h := by
  simp only [eagerFns, textFns, List.cons_append, List.nil_append] at hf
  repeat (rcases List.mem_cons.mp hf with rfl | hf
          exact ⟨_, _, rfl, rfl, fun _ hk => by cases hk <;> decide, fun _ _ => rfl⟩)
  cases hf

/-- all 51 functions whose arguments are evaluated values, for every `Dev` — the comparison functions under
`cmpUneval` only with a literal first argument (`hcmp`) -/
theorem evalFn_describe_mem (env : Env) (ev : Arg → Val → M Val) (root at_ : Val) (h : Heap) (f : Bytes)
    (args : List Arg) (vs : List Val)
    (hp : PureArgs (fun a => ev a at_) h args vs) (hf : f ∈ eagerFns ++ textFns)
    (hcmp : env.dev.cmpUneval = false ∨ f ∉ cmpFns ∨ ∃ v r, args = .lit v :: r ∧ vs.head? = some v) :
    evalFn env ev root at_ f args h = Spec.describe env.dev f vs h := by
  obtain ⟨k, d, hk, hd, hc, hs⟩ := describe_kind env.dev hf
  rw [hs, evalFn, hk]
  refine evalKind_describe env ev root at_ h k d args vs hp hd (fun op hop => ?_)
  rcases hcmp with h1 | h2 | h3
  · exact Or.inl h1
  · exact absurd (hc op hop) h2
  · exact Or.inr h3

/-- For every eager function, arguments of every syntactic kind (literals, paths, nested calls) that
evaluate without effect to values `vs` of every kind: the evaluator returns what the specification says
about `vs`, in the same heap — for the comparison functions provided the first argument is evaluated
(`cmpUneval = false`, the documented behaviour and the code as it is) or is a literal (all the code before
312106f accepted). -/
theorem evalFn_describe (env : Env) (ev : Arg → Val → M Val) (root at_ : Val) (h : Heap) (f : Bytes)
    (args : List Arg) (vs : List Val)
    (hp : PureArgs (fun a => ev a at_) h args vs) (hf : f ∈ eagerFns)
    (hcmp : env.dev.cmpUneval = false ∨ f ∉ cmpFns ∨ ∃ v r, args = .lit v :: r ∧ vs.head? = some v) :
    evalFn env ev root at_ f args h = Spec.describe env.dev f vs h :=
  evalFn_describe_mem env ev root at_ h f args vs hp (List.mem_append_left _ hf) hcmp

/-- an instance of the hypotheses: `[sum $.src.a 2 "x"]` with `$.src.a = 1` evaluates its three arguments
without effect, and the result is the text `3x` -/
example :
    let h : Heap := [Cell.map [(b!"src", .mref 1)], Cell.map [(b!"a", .int 1)]]
    let args : List Arg := [.path ⟨false, [.child b!"src", .child b!"a"]⟩, .lit (.int 2), .lit (.str b!"x")]
    PureArgs (fun a => eval envCur (.mref 0) 3 a (.mref 0)) h args [.int 1, .int 2, .str b!"x"] ∧
    evalFn envCur (eval envCur (.mref 0) 3) (.mref 0) (.mref 0) b!"sum" args h = (.ok (.str b!"3x"), h) := by
  decide

/-- full strength for the comparison functions: whatever the first argument is -/
def cmp_full (dev : Dev) : Prop :=
  ∀ (ev : Arg → Val → M Val) (root at_ : Val) (h : Heap) (f : Bytes) (args : List Arg) (vs : List Val),
    f ∈ cmpFns → PureArgs (fun a => ev a at_) h args vs →
      evalFn ⟨dev, none⟩ ev root at_ f args h = Spec.describe dev f vs h

/-- before 312106f: `[lt $.src.a 5]` with `$.src.a = 1` was an error although 1 < 5 — finding
C20-cmp-unevaluated-first, fixed -/
theorem cmp_full_false_before : ¬ cmp_full Dev.before := by
  intro hf
  have := hf (eval envBefore (.mref 0) 3) (.mref 0) (.mref 0)
    [Cell.map [(b!"src", .mref 1)], Cell.map [(b!"a", .int 1)]] b!"lt"
    [.path ⟨false, [.child b!"src", .child b!"a"]⟩, .lit (.int 5)] [.int 1, .int 5] (by decide) (by decide)
  revert this
  decide

/-- it holds as soon as the first argument is evaluated like the others -/
theorem cmp_full_fixed (dev : Dev) (hd : dev.cmpUneval = false) : cmp_full dev := by
  intro ev root at_ h f args vs hf hp
  have hmem : ∀ f ∈ cmpFns, f ∈ eagerFns := by decide
  exact evalFn_describe ⟨dev, none⟩ ev root at_ h f args vs hp (hmem f hf) (Or.inl hd)

/-- the code as it is: the comparison functions compute the documented chain whatever their first
argument is -/
theorem cmp_full_current : cmp_full Dev.current := cmp_full_fixed Dev.current rfl

/-- the code as it is, all of `eagerFns` at once, with no side condition on the comparison functions -/
theorem evalFn_describe_current (ord : Option MapOrd) (ev : Arg → Val → M Val) (root at_ : Val) (h : Heap) (f : Bytes)
    (args : List Arg) (vs : List Val)
    (hp : PureArgs (fun a => ev a at_) h args vs) (hf : f ∈ eagerFns) :
    evalFn ⟨Dev.current, ord⟩ ev root at_ f args h = Spec.describe Dev.current f vs h :=
  evalFn_describe ⟨Dev.current, ord⟩ ev root at_ h f args vs hp hf (Or.inl rfl)

/-- `[lt $.src.a 5]` with `$.src.a = 1` is true in the code as it is -/
example :
    evalFn envCur (eval envCur (.mref 0) 3) (.mref 0) (.mref 0) b!"lt"
      [.path ⟨false, [.child b!"src", .child b!"a"]⟩, .lit (.int 5)]
      [Cell.map [(b!"src", .mref 1)], Cell.map [(b!"a", .int 1)]] =
    (.ok (.bool true), [Cell.map [(b!"src", .mref 1)], Cell.map [(b!"a", .int 1)]]) := by decide

/-- the documented quotient raises an error on a zero divisor, and so does the code as it is; before
e5d206a `[/ 1.5 0]` was +Inf — finding C20-quotient-float-zero, fixed -/
theorem quotient_zero_current :
    Spec.describe Dev.none b!"/" [.flt (.fin false 3 (-1)), .int 0] [] = (.error .panic, []) ∧
    Spec.describe Dev.current b!"/" [.flt (.fin false 3 (-1)), .int 0] [] = (.error .panic, []) ∧
    Spec.describe Dev.before b!"/" [.flt (.fin false 3 (-1)), .int 0] [] = (.ok (.flt (.inf false)), []) := by
  decide

/-- on the arithmetic functions the code as it is IS the documented function -/
theorem arith_current (op : Spec.Arith) (vs : List Val) : Spec.arith Dev.current op vs = Spec.arith Dev.none op vs := rfl

/-- documented comparison is by value. Before 54cf01b the code rounded integers to float64 first, so 2^53
and 2^53+1 compared equal and `equal` was not transitive across int and float — finding
C20-cmp-float-2p53, fixed -/
theorem cmp_float_before_54cf01b :
    Spec.describe Dev.none b!"lt" [.int 9007199254740992, .int 9007199254740993] [] = (.ok (.bool true), []) ∧
    Spec.describe Dev.beforeCmpExact b!"lt" [.int 9007199254740992, .int 9007199254740993] [] = (.ok (.bool false), []) ∧
    Spec.describe Dev.beforeCmpExact b!"eq" [.flt (.fin false 9007199254740992 0), .int 9007199254740993, .int 9007199254740992] []
      = (.ok (.bool true), []) := by
  decide

/-- the code as it is compares by value: 2^53 < 2^53+1, the float 2^53 is not the integer 2^53+1, MaxInt64 is
less than the float 2^63 -/
theorem cmp_exact_current :
    Spec.describe Dev.current b!"lt" [.int 9007199254740992, .int 9007199254740993] [] = (.ok (.bool true), []) ∧
    Spec.describe Dev.current b!"eq" [.flt (.fin false 9007199254740992 0), .int 9007199254740993, .int 9007199254740992] []
      = (.ok (.bool false), []) ∧
    Spec.describe Dev.current b!"lt" [.int 9223372036854775807, .flt (.fin false 1 63)] [] = (.ok (.bool true), []) ∧
    Spec.describe Dev.current b!"gte" [.int 9223372036854775807, .flt (.fin false 1 63)] [] = (.ok (.bool false), []) := by
  decide

/-- `[cond [true [1 2]]]`: the value is a list that is not a function call; documented "the second can
be any value". Before fb1d065 the answer was nil (finding C20-cond-list-value, fixed); before 9281d31 it
was the plan's own cell 1 (C20-cond-list-alias, fixed); the code as it is answers a copy, which is the
documented behaviour -/
theorem cond_list_current :
    let plan : Arg := .call b!"cond" [.raw (.aref 0) [.lit (.bool true), .raw (.aref 1) [.lit (.int 1), .lit (.int 2)]]]
    let h : Heap := [Cell.arr [.bool true, .aref 1], Cell.arr [.int 1, .int 2]]
    (eval envBefore .null 3 plan .null h).1 = .ok .null ∧
    (eval ⟨Dev.beforeCondCopy, none⟩ .null 3 plan .null h).1 = .ok (.aref 1) ∧
    eval envCur .null 3 plan .null h = (.ok (.aref 2), h ++ [Cell.arr [.int 1, .int 2]]) ∧
    eval envCur .null 3 plan .null h = eval envDoc .null 3 plan .null h := by
  decide

/-- map equality is "same key set, equal values": a member whose key the other map lacks makes the maps
different even when it holds null (found by `kvGet … = none → no`, never by comparing with a missing
value) -/
theorem eqVals_map_missing_key (dev : Dev) (h : Heap) (n : Nat) (seen : List (Nat × Nat)) (a b : Nat) (k : Bytes) (v : Val)
    (hk : (k, v) ∈ h.mapAt a) (hno : kvGet k (h.mapAt b) = none) (hlen : (h.mapAt a).length = (h.mapAt b).length)
    (hseen : seen.contains (a, b) = false) :
    eqVals dev h (n + 1) seen (.mref a) (.mref b) = .no ∨ eqVals dev h (n + 1) seen (.mref a) (.mref b) = .amb := by
  unfold eqVals
  simp only [hlen, hseen, ne_eq, not_true_eq_false, if_false, Bool.false_eq_true]
  generalize hrs : List.map _ (h.mapAt a) = rs
  have hmem : EqRes.no ∈ rs := by
    rw [← hrs]
    refine List.mem_map.mpr ⟨(k, v), hk, ?_⟩
    simp [hno]
  unfold eqCombine
  simp only [List.contains_iff_mem]
  by_cases h1 : EqRes.amb ∈ rs
  · right; simp [h1]
  · by_cases h2 : EqRes.cyc ∈ rs
    · right; simp [h1, hmem, h2]
    · left; simp [h1, hmem, h2]

/-- `{a: 1, b: null}` and `{a: 1, c: 2}` (same size, one key renamed, the extra key of the first holding
null) are different in both argument orders, and a map equals a reordered copy of itself -/
theorem equal_maps_same_keys :
    let h : Heap := [Cell.map [(b!"a", .int 1), (b!"b", .null)], Cell.map [(b!"a", .int 1), (b!"c", .int 2)],
                     Cell.map [(b!"b", .null), (b!"a", .int 1)]]
    Spec.equal Dev.current h [.mref 0, .mref 1] = .ok false ∧
    Spec.equal Dev.current h [.mref 1, .mref 0] = .ok false ∧
    Spec.equal Dev.current h [.mref 0, .mref 2] = .ok true := by decide

/-- closed form: the sum of int64 arguments is the mathematical sum wrapped once (the running int64
accumulator of the code loses nothing more than that) -/
theorem sum_ints (x : Int) (xs : List Int) (hx : inInt64 x) :
    Spec.sum ((x :: xs).map .int) = .ok (.int (wrap64 (x + xs.sum))) := by
  simp only [List.map, Spec.sum]
  rw [← wrap64_of_inInt64 hx, foldAdd_ints xs x, wrap64_of_inInt64 hx]

/-- closed form: `dif` of int64 arguments is first − (sum of the rest), wrapped once -/
theorem dif_ints (dev : Dev) (x : Int) (xs : List Int) (hx : inInt64 x) :
    Spec.arith dev .dif ((x :: xs).map .int) = .ok (.int (wrap64 (x - xs.sum))) := by
  simp only [List.map, Spec.arith, Val.isNum, if_true]
  rw [← wrap64_of_inInt64 hx, foldDif_ints dev xs x, wrap64_of_inInt64 hx]

example : inInt64 9223372036854775807 ∧
    Spec.sum [.int 9223372036854775807, .int 1] = .ok (.int (-9223372036854775808)) := by
  unfold inInt64 minInt64 maxInt64; decide

/-- "each argument is less than any subsequent argument": for integers compared exactly (the documented
comparison) the neighbour chain the code walks is true exactly when ALL pairs are in order -/
theorem lt_ints_pairwise (dev : Dev) (hd : dev.cmpFloat = false) (x : Int) (xs : List Int) :
    Spec.cmp dev .lt ((x :: xs).map .int) = .ok (.bool true) ↔ (x :: xs).Pairwise (· < ·) := by
  simp only [List.map, Spec.cmp, numOf_int dev hd, numChain_lt_ints dev hd xs x]
  rw [← intChain_pairwise xs x]
  constructor
  · intro h; injection h with h; injection h
  · intro h; rw [h]

/-- the code as it is: `lt` on integers is true exactly when all pairs are in order -/
theorem lt_ints_pairwise_current (x : Int) (xs : List Int) :
    Spec.cmp Dev.current .lt ((x :: xs).map .int) = .ok (.bool true) ↔ (x :: xs).Pairwise (· < ·) :=
  lt_ints_pairwise Dev.current rfl x xs

/-- not so through float64 (before 54cf01b): 2^53 < 2^53+1 < 2^53+2, but the chain over the rounded values
failed at the first step; compared exactly it holds -/
example : Spec.cmp Dev.beforeCmpExact .lt [.int 9007199254740992, .int 9007199254740993, .int 9007199254740994] = .ok (.bool false) ∧
    Spec.cmp Dev.current .lt [.int 9007199254740992, .int 9007199254740993, .int 9007199254740994] = .ok (.bool true) := by
  decide

/-! get/getall/set/setall/del/delall with a path argument, `cond`, `asm`, `each`: the evaluator computes
the specification's function of the path, the evaluated value arguments and the sub-plans' meanings -/

theorem get_spec (env : Env) (e : Arg → M Val) (root at_ : Val) (p : Path) (h : Heap) :
    fnGet env e root at_ [.path p] h = (Spec.get env h p (if p.isAt then at_ else root), h) :=
  fnGet_path env e root at_ _ p h rfl

theorem get_from_spec (env : Env) (e : Arg → M Val) (root at_ : Val) (p : Path) (d : Arg) (data : Val) (h : Heap)
    (hd : e d h = (.ok data, h)) : fnGet env e root at_ [.path p, d] h = (Spec.get env h p data, h) :=
  fnGet_data env e root at_ _ p d data h rfl hd

theorem getall_spec (env : Env) (e : Arg → M Val) (root at_ : Val) (p : Path) (h : Heap) :
    fnGetall env e root at_ [.path p] h = Spec.getall env p (if p.isAt then at_ else root) h :=
  fnGetall_path env e root at_ _ p h rfl

theorem getall_from_spec (env : Env) (e : Arg → M Val) (root at_ : Val) (p : Path) (d : Arg) (data : Val) (h : Heap)
    (hd : e d h = (.ok data, h)) : fnGetall env e root at_ [.path p, d] h = Spec.getall env p data h :=
  fnGetall_data env e root at_ _ p d data h rfl hd

theorem set_spec (e : Arg → M Val) (root at_ : Val) (p : Path) (b : Arg) (v : Val) (h : Heap)
    (hb : e b h = (.ok v, h)) :
    fnSet e root at_ [.path p, b] h = Spec.setOrDel (some v) p (if p.isAt then at_ else root) at_ h :=
  fnSet_path e root at_ _ p b v h rfl hb

theorem del_spec (root at_ : Val) (p : Path) (h : Heap) :
    fnDel root at_ [.path p] h = Spec.setOrDel none p (if p.isAt then at_ else root) at_ h :=
  setAt_spec ..

theorem cond_spec (dev : Dev) (e : Arg → M Val) (args : List Arg) (hno : ∀ a ∈ args, ∀ r, a ≠ .lit (.aref r)) :
    fnCond dev e args = Spec.cond (args.map (condPair dev e)) := by
  induction args with
  | nil => rfl
  | cons a r ih =>
    obtain ⟨ha, hr⟩ := List.forall_mem_cons.1 hno
    cases a with
    | raw l es =>
      match es with
      | [c, v] => simp only [fnCond, List.map, condPair, Spec.cond, ih hr]
      | [] | [_] | _ :: _ :: _ :: _ => rfl
    | lit v => cases v <;> first | rfl | exact absurd rfl (ha _)
    | path p => rfl
    | call f as => rfl
    | unk => rfl

theorem asm_spec (ev : Arg → Val → M Val) (args : List Arg) (at_ : Val) :
    fnAsm ev args at_ = Spec.asm (args.map (fun a => ev a)) at_ := by
  induction args generalizing at_ with
  | nil => rfl
  | cons a r ih =>
    simp only [fnAsm, Spec.asm, List.map]
    congr 1
    funext v
    exact ih v

theorem each_spec (ev : Arg → Val → M Val) (at_ : Val) (a0 : Arg) (f : Bytes) (fargs : List Arg) (a : Nat) (h : Heap)
    (h0 : ev a0 at_ h = (.ok (.aref a), h)) :
    fnEach ev at_ [a0, .call f fargs] h = Spec.each (fun at' => ev (.call f fargs) at') b!"asm" a h :=
  fnEach_spec ev at_ a0 f fargs a h h0

theorem each_key_spec (ev : Arg → Val → M Val) (at_ : Val) (a0 k : Arg) (f : Bytes) (fargs : List Arg) (a : Nat)
    (key : Bytes) (h : Heap)
    (h0 : ev a0 at_ h = (.ok (.aref a), h)) (hk : ev k at_ h = (.ok (.str key), h)) :
    fnEach ev at_ [a0, .call f fargs, k] h = Spec.each (fun at' => ev (.call f fargs) at') key a h := by
  simp only [fnEach, bind_apply, h0, hk, pure_apply]
  exact each_tail_spec ..

/-- instances of the hypotheses of `cond_spec` and `each_spec`: the plan
`[each $.src.l [set @.asm [cond [[lt 1 @.src] big] [true small]]]]` on `{src: {l: [1 5]}}` — every `cond`
argument is a two-element list, the array argument evaluates without effect — gives `[small big]` -/
example :
    let condArgs : List Arg := [
      .raw (.aref 2) [.call b!"lt" [.lit (.int 1), .path ⟨true, [.child b!"src"]⟩], .lit (.str b!"big")],
      .raw (.aref 3) [.lit (.bool true), .lit (.str b!"small")]]
    let body : Arg := .call b!"set" [.path ⟨true, [.child b!"asm"]⟩, .call b!"cond" condArgs]
    let h : Heap := [Cell.map [(b!"src", .mref 1)], Cell.map [(b!"l", .aref 4)], Cell.arr [], Cell.arr [],
                     Cell.arr [.int 1, .int 5]]
    (∀ a ∈ condArgs, ∀ r, a ≠ .lit (.aref r)) ∧
    eval envCur (.mref 0) 5 (.path ⟨false, [.child b!"src", .child b!"l"]⟩) (.mref 0) h = (.ok (.aref 4), h) ∧
    (match fnEach (eval envCur (.mref 0) 5) (.mref 0) [.path ⟨false, [.child b!"src", .child b!"l"]⟩, body] h with
     | (.ok (.aref c), h') => h'.arrAt c
     | _ => []) = [.str b!"small", .str b!"big"] := by
  refine ⟨?_, by decide, by decide⟩
  intro a ha r
  simp at ha
  rcases ha with ha | ha <;> subst ha <;> simp


/-- For the 14 text, conversion and list functions, arguments of every syntactic kind that evaluate without
effect to values `vs` of every kind: the evaluator returns what `Spec.describe` says about `vs` — including
which wrong argument count or kind is an error and which assertion fails first. (For the first eleven the
specification applies the function's record to the values, see the disclosure in Asm/Spec.lean; the
closed forms below state what the records compute.) -/
theorem evalFn_describe_text (env : Env) (ev : Arg → Val → M Val) (root at_ : Val) (h : Heap) (f : Bytes)
    (args : List Arg) (vs : List Val)
    (hp : PureArgs (fun a => ev a at_) h args vs) (hf : f ∈ textFns) :
    evalFn env ev root at_ f args h = Spec.describe env.dev f vs h :=
  evalFn_describe_mem env ev root at_ h f args vs hp (List.mem_append_right _ hf)
    (Or.inr (Or.inl (by revert f; decide)))

/-- all 51 functions whose arguments are evaluated values at once, for the code as it is: the evaluator returns what
`Spec.describe` says, for arguments of every syntactic kind that evaluate without effect -/
theorem evalFn_describe_all (ord : Option MapOrd) (ev : Arg → Val → M Val) (root at_ : Val) (h : Heap) (f : Bytes)
    (args : List Arg) (vs : List Val)
    (hp : PureArgs (fun a => ev a at_) h args vs) (hf : f ∈ eagerFns ++ textFns) :
    evalFn ⟨Dev.current, ord⟩ ev root at_ f args h = Spec.describe Dev.current f vs h :=
  evalFn_describe_mem ⟨Dev.current, ord⟩ ev root at_ h f args vs hp hf (Or.inl rfl)

/-- an instance of the hypotheses: `[substr $.src.s 1 2]` with `$.src.s = "hello"` is `"el"` -/
example :
    let h : Heap := [Cell.map [(b!"src", .mref 1)], Cell.map [(b!"s", .str b!"hello")]]
    let args : List Arg := [.path ⟨false, [.child b!"src", .child b!"s"]⟩, .lit (.int 1), .lit (.int 2)]
    PureArgs (fun a => eval envCur (.mref 0) 3 a (.mref 0)) h args [.str b!"hello", .int 1, .int 2] ∧
    evalFn envCur (eval envCur (.mref 0) 3) (.mref 0) (.mref 0) b!"substr" args h = (.ok (.str b!"el"), h) := by
  decide

/-- a name whose record takes its arguments in order, on values that pass the record's assertions and on which its
result function gives a text -/
theorem describe_str (dev : Dev) (f : Bytes) (g : ScalarFn) (vs : List Val) (h : Heap) (acc : List Tree) (s : Bytes)
    (hd : ∀ vs, Spec.describe dev f vs h = Spec.scalar g vs h)
    (ha : g.arity vs.length = true) (hs : g.swap = false)
    (hadm : Spec.acceptAll h (g.wants vs.length) vs [] = .ok acc)
    (hfin : g.fin vs.length acc = .ok (.str s)) : Spec.describe dev f vs h = (.ok (.str s), h) := by
  simp [hd, Spec.scalar, ha, hs, hadm, hfin, Tree.toVal]

/-- `tolower`/`toupper` map every character of an ASCII text; anything but exactly one string is an error -/
theorem tolower_spec (dev : Dev) (s : Bytes) (hs : isAscii s = true) (h : Heap) :
    Spec.describe dev b!"tolower" [.str s] h = (.ok (.str (s.map lowerB)), h) ∧
    Spec.describe dev b!"toupper" [.str s] h = (.ok (.str (s.map upperB)), h) :=
  ⟨describe_str dev _ (sfCase lowerB) [.str s] h [.str s] _ (fun _ => rfl) rfl rfl rfl (by simp [sfCase, asciiOr, hs]),
   describe_str dev _ (sfCase upperB) [.str s] h [.str s] _ (fun _ => rfl) rfl rfl rfl (by simp [sfCase, asciiOr, hs])⟩

theorem text_fn_not_string (dev : Dev) (v : Val) (hv : v.isStr = false) (h : Heap) :
    ∀ f ∈ [b!"tolower", b!"toupper", b!"title", b!"trim"], Spec.describe dev f [v] h = (Spec.raise, h) := by
  have hacc : Want.accept h .str v = .error .panic := by cases v <;> first | rfl | cases hv
  -- all four records assert a string first; a wrong argument count is the same error
  have key : ∀ g : ScalarFn, g.swap = false → (∃ ws, g.wants 1 = .str :: ws) → Spec.scalar g [v] h = (Spec.raise, h) := by
    intro g hs ⟨ws, hw⟩
    simp [Spec.scalar, hs, hw, Spec.acceptAll, hacc, Spec.raise]
  intro f hf
  simp only [List.mem_cons, List.mem_nil_iff, or_false] at hf
  rcases hf with rfl | rfl | rfl | rfl
  · exact key (sfCase lowerB) rfl ⟨_, rfl⟩
  · exact key (sfCase upperB) rfl ⟨_, rfl⟩
  · exact key sfTitle rfl ⟨_, rfl⟩
  · exact key sfTrim rfl ⟨_, rfl⟩

/-- `title`: the first character to upper case, the rest as it is -/
theorem title_spec (dev : Dev) (c : UInt8) (r : Bytes) (hs : isAscii (c :: r) = true) (h : Heap) :
    Spec.describe dev b!"title" [.str (c :: r)] h = (.ok (.str (upperB c :: r)), h) ∧
    Spec.describe dev b!"title" [.str []] h = (.ok (.str []), h) :=
  ⟨describe_str dev _ sfTitle [.str (c :: r)] h [.str (c :: r)] _ (fun _ => rfl) rfl rfl rfl (by simp [sfTitle, asciiOr, hs]), rfl⟩

/-- `trim`: white space (one argument) or the characters of the cut set (two) removed from both ends -/
theorem trim_spec (dev : Dev) (s cut : Bytes) (hs : isAscii s = true) (hc : isAscii cut = true) (h : Heap) :
    Spec.describe dev b!"trim" [.str s] h = (.ok (.str (trimBoth isSpaceB s)), h) ∧
    Spec.describe dev b!"trim" [.str s, .str cut] h = (.ok (.str (trimBoth (fun c => cut.contains c) s)), h) := by
  have hsc : isAscii (s ++ cut) = true := by simp_all [isAscii]
  exact ⟨describe_str dev _ sfTrim [.str s] h [.str s] _ (fun _ => rfl) rfl rfl rfl (by simp [sfTrim, asciiOr, hs]),
    describe_str dev _ sfTrim [.str s, .str cut] h [.str s, .str cut] _ (fun _ => rfl) rfl rfl rfl (by simp [sfTrim, asciiOr, hsc])⟩

/-- `replace`: every occurrence (found from left to right) of a non-empty second argument replaced -/
theorem replace_spec (dev : Dev) (s old new : Bytes) (ho : old ≠ []) (h : Heap) :
    Spec.describe dev b!"replace" [.str s, .str old, .str new] h = (.ok (.str (replaceAll s old new)), h) :=
  describe_str dev _ sfReplace [.str s, .str old, .str new] h [.str s, .str old, .str new] _ (fun _ => rfl) rfl rfl rfl
    (by simp [sfReplace, ho])

/-- `split`: a NEW array of the pieces between the occurrences of a non-empty separator -/
theorem split_spec (dev : Dev) (s sep : Bytes) (hsep : sep ≠ []) (h : Heap) :
    Spec.describe dev b!"split" [.str s, .str sep] h =
      (.ok (.aref h.length), h ++ [.arr ((splitOn s sep).map Val.str)]) := by
  show Spec.scalar sfSplit [.str s, .str sep] h = _
  simp [Spec.scalar, Spec.acceptAll, sfSplit, Want.accept, hsep, List.map_map, Function.comp_def, Tree.toVal]

theorem substr_fin2 (s : Bytes) (start : Nat) (hst : start ≤ s.length) :
    sfSubstr.fin 2 [.str s, .int start] = .ok (.str (s.drop start)) := by
  have h1 : ¬ ((start : Int) < 0) := by omega
  simp only [sfSubstr, h1, if_false]
  simp [sliceStr, hst, List.take_of_length_le]

theorem substr_fin3 (s : Bytes) (start count : Nat) (hst : start ≤ s.length)
    (hc : inInt64 ((start : Int) + count)) :
    sfSubstr.fin 3 [.str s, .int start, .int count] = .ok (.str ((s.drop start).take count)) := by
  have hw : wrap64 ((start : Int) + count) = (start : Int) + count := wrap64_of_inInt64 hc
  have h1 : ¬ ((start : Int) < 0) := by omega
  have h2 : ¬ ((count : Int) < 0) := by omega
  simp only [sfSubstr, h1, h2, if_false, hw]
  by_cases hlen : (s.length : Int) < (start : Int) + count
  · have hl2 : s.length - start ≤ count := by omega
    simp [sliceStr, hlen, hst]
    omega
  · have h3 : (start : Int) ≤ (start : Int) + count := by omega
    have h5 : (start : Int) + count ≤ (s.length : Int) := by omega
    have h4 : ((start : Int) + count).toNat - start = count := by omega
    simp [sliceStr, hlen, h3, h4, h5]

/-- `substr` with a start inside the text: `count` bytes from `start` (as many as there are), or the rest -/
theorem substr_spec (dev : Dev) (s : Bytes) (start count : Nat) (hst : start ≤ s.length)
    (hc : inInt64 ((start : Int) + count)) (h : Heap) :
    Spec.describe dev b!"substr" [.str s, .int start] h = (.ok (.str (s.drop start)), h) ∧
    Spec.describe dev b!"substr" [.str s, .int start, .int count] h = (.ok (.str ((s.drop start).take count)), h) :=
  ⟨describe_str dev _ sfSubstr [.str s, .int start] h [.str s, .int start] _ (fun _ => rfl) rfl rfl rfl (substr_fin2 s start hst),
   describe_str dev _ sfSubstr [.str s, .int start, .int count] h [.str s, .int start, .int count] _ (fun _ => rfl) rfl rfl rfl
     (substr_fin3 s start count hst hc)⟩

theorem treeStrs_strs : ∀ (ss : List Bytes), treeStrs (ss.map (Val.toTreeS ∘ Val.str)) = ss
  | [] => rfl
  | x :: r => by simp [treeStrs, Val.toTreeS, treeStrs_strs r]

/-- `join`: the strings of the list with the separator between them (none: nothing between them) -/
theorem join_spec (dev : Dev) (a : Nat) (ss : List Bytes) (sep : Bytes) (h : Heap) (ha : h.arrAt a = ss.map Val.str) :
    Spec.describe dev b!"join" [.aref a] h = (.ok (.str (joinWith [] ss)), h) ∧
    Spec.describe dev b!"join" [.aref a, .str sep] h = (.ok (.str (joinWith sep ss)), h) := by
  have hacc : Want.accept h .strs (.aref a) = .ok (ss.map (Val.toTreeS ∘ Val.str)) := by
    simp [Want.accept, ha, Val.isStr]
  exact ⟨describe_str dev _ sfJoin [.aref a] h (ss.map (Val.toTreeS ∘ Val.str)) _ (fun _ => rfl) rfl rfl
      (by simp only [Spec.acceptAll, sfJoin, hacc, List.nil_append]) (by simp [sfJoin, treeStrs_strs]),
    describe_str dev _ sfJoin [.aref a, .str sep] h (ss.map (Val.toTreeS ∘ Val.str) ++ [.str sep]) _ (fun _ => rfl) rfl rfl
      (by simp only [Spec.acceptAll, sfJoin, hacc]; rfl) (by simp [sfJoin, treeStrs_strs])⟩

/-- `int`: an integer as it is, a float truncated toward zero, a decimal text read; anything else is nil -/
theorem int_spec (dev : Dev) (i : Int) (h : Heap) :
    Spec.describe dev b!"int" [.int i] h = (.ok (.int i), h) ∧
    Spec.describe dev b!"int" [.flt (.fin true 5 (-1))] h = (.ok (.int (-2)), h) ∧
    Spec.describe dev b!"int" [.str b!"-12"] h = (.ok (.int (-12)), h) ∧
    Spec.describe dev b!"int" [.str b!"1x"] h = (.ok .null, h) ∧
    Spec.describe dev b!"int" [.bool true] h = (.ok .null, h) ∧
    Spec.describe dev b!"int" [.aref 0] h = (.ok .null, h) ∧
    Spec.describe dev b!"int" [] h = (Spec.raise, h) :=
  ⟨rfl, rfl, rfl, rfl, rfl, rfl, rfl⟩

/-- `float`: an integer converted (rounded to binary64), a float as it is; a list is nil -/
theorem float_spec (dev : Dev) (i : Int) (x : Flt) (h : Heap) :
    Spec.describe dev b!"float" [.int i] h = (.ok (.flt (Flt.ofInt i)), h) ∧
    Spec.describe dev b!"float" [.flt x] h = (.ok (.flt x), h) ∧
    Spec.describe dev b!"float" [.mref 0] h = (.ok .null, h) :=
  ⟨rfl, rfl, rfl⟩

/-- `float` of a decimal text is the binary64 NEAREST to its exact value (`strconv.ParseFloat`): 0.1 is
3602879701896397·2^-55, 2^53+1 rounds to even, 1e23 is 2980232238769531·2^25 (not the neighbour a two-step rounding gives), a text that is not
a number gives nil (so does a text beyond the largest float; an underflow gives 0 — compared with the implementation by the
text box of the run, the kernel does not evaluate 10^400) -/
theorem float_text_spec :
    (match floatOfText b!"0.1" with | .ok (.flt f) => Flt.eq f (.fin false 3602879701896397 (-55)) | _ => false) = true ∧
    (match floatOfText b!"9007199254740993" with | .ok (.flt f) => Flt.eq f (.fin false 9007199254740992 0) | _ => false) = true ∧
    (match floatOfText b!"1e23" with | .ok (.flt f) => Flt.eq f (.fin false 2980232238769531 25) | _ => false) = true ∧
    (match floatOfText b!"-0.0" with | .ok (.flt f) => f.isZero | _ => false) = true ∧
    (match floatOfText b!"1.5.2" with | .ok .null => true | _ => false) = true ∧
    (match floatOfText b!"abc" with | .ok .null => true | _ => false) = true ∧
    (match floatOfText b!"0x10" with | .error .unmodelled => true | _ => false) = true := by decide

/-- `string` without a format: `%d` of an integer, the string itself, `%v` of nil and booleans -/
theorem string_spec (dev : Dev) (i : Int) (s : Bytes) (h : Heap) :
    Spec.describe dev b!"string" [.int i] h = (.ok (.str (fmtD i)), h) ∧
    Spec.describe dev b!"string" [.str s] h = (.ok (.str s), h) ∧
    Spec.describe dev b!"string" [.null] h = (.ok (.str b!"<nil>"), h) ∧
    Spec.describe dev b!"string" [.bool true] h = (.ok (.str b!"true"), h) ∧
    Spec.describe dev b!"string" [.int i, .int 3] h = (Spec.raise, h) :=
  ⟨rfl, rfl, rfl, rfl, rfl⟩

/-- `include`: a value is found among scalars by Go's `==`; an int is not the float of the same value -/
theorem include_spec (dev : Dev) (h : Heap) (a : Nat) (ha : h.arrAt a = [.int 1, .str b!"x", .flt (.fin false 2 0)]) :
    Spec.describe dev b!"include" [.aref a, .str b!"x"] h = (.ok (.bool true), h) ∧
    Spec.describe dev b!"include" [.aref a, .int 2] h = (.ok (.bool false), h) ∧
    Spec.describe dev b!"include" [.str b!"hello", .str b!"ell"] h = (.ok (.bool true), h) ∧
    Spec.describe dev b!"include" [.str b!"hello", .int 1] h = (Spec.raise, h) := by
  have e : ∀ v1, Spec.describe dev b!"include" [.aref a, v1] h =
      (Spec.includes v1 [.int 1, .str b!"x", .flt (.fin false 2 0)], h) := fun v1 => by rw [← ha]; rfl
  exact ⟨(e _).trans rfl, (e _).trans rfl, rfl, rfl⟩

/-- `reverse`, `append`, `sort` applied to arguments that are evaluated by mutator-free computations only ADD
cells: the array they are given is unchanged (`eval_pres`, which says so of every function but the four
mutators) -/
theorem list_fns_copy (env : Env) (root at_ : Val) (fuel : Nat) (f : Bytes) (args : List Arg) (h : Heap)
    (hf : f ∈ [b!"reverse", b!"append", b!"sort"]) (hargs : ∀ a ∈ args, NoMut a) :
    ∃ t, (evalFn env (eval env root fuel) root at_ f args h).2 = h ++ t := by
  have hnm : f ∉ mutatorFns := by revert f; decide
  exact (eval_pres env root (fuel + 1) _ (.call f args hnm hargs) at_).ext h

/-- `sort` as documented ("Sort the items in an array and return a copy of the array. Valid types for comparison
are strings, numbers … a type mismatch will raise an error"), for arrays of at most 12 elements (Go's insertion
sort; longer arrays are outside the model): with the first argument evaluating without effect to the array `c`
and a path as second argument, the call returns a NEW array `r` (the heap only grows by that cell) that is a
permutation of the elements of `c` — the same values and references — and is in order by the key the path
selects in each element: no element's key is less than its predecessor's (`SortedBy`; strings with strings,
numbers with numbers by exact value). -/
theorem sort_spec (env : Env) (e : Arg → M Val) (a : Arg) (p : Path) (c : Nat) (h : Heap)
    (ha : e a h = (.ok (.aref c), h)) :
    fnSort env e [a, .path p] h =
      (match sortList env h p.frags (h.arrAt c) with
       | .ok r => (.ok (.aref h.length), h ++ [.arr r])
       | .error er => (.error er, h)) ∧
    ∀ r, sortList env h p.frags (h.arrAt c) = .ok r → List.Perm r (h.arrAt c) ∧ SortedBy env h p.frags r := by
  constructor
  · simp only [fnSort, bind_apply, ha, getHeap_apply, liftE_apply]
    cases sortList env h p.frags (h.arrAt c) <;> simp
  · intro r hr
    exact ⟨sortList_perm env h p.frags _ r hr, sortList_sorted env h p.frags _ r hr⟩

/-- mixed key kinds, a key that is neither a string nor a number, and a second argument that is not a path are
errors; a single element is never compared (no error whatever it is) -/
theorem sort_errors :
    sortList envCur [] [] [.int 3, .str b!"a"] = .error .panic ∧
    sortList envCur [] [] [.bool true, .bool false] = .error .panic ∧
    sortList envCur [] [] [.bool true] = .ok [.bool true] ∧
    sortList envCur [] [] [.int 3, .flt (.fin false 5 (-1)), .int 1, .int 1] = .ok [.int 1, .int 1, .flt (.fin false 5 (-1)), .int 3] ∧
    (fnSort envCur (fun _ => pure (.aref 0)) [.lit .null, .lit (.str b!"x")] [Cell.arr []]).1 = .error .panic := by
  decide

/-- `[sort $.src.l @]` on `{src:{l:[3,1,2]}}`: the result is the new array `[1,2,3]`, `$.src.l` still reads `[3,1,2]`
(the seeded change C20-m2, "sort sorts its argument in place", contradicts this) -/
theorem sort_copies :
    let h : Heap := [Cell.map [(b!"src", .mref 1)], Cell.map [(b!"l", .aref 2)], Cell.arr [.int 3, .int 1, .int 2]]
    let r := evalFn envCur (eval envCur (.mref 0) 3) (.mref 0) (.mref 0) b!"sort"
      [.path ⟨false, [.child b!"src", .child b!"l"]⟩, .path ⟨true, []⟩] h
    r.1 = .ok (.aref 3) ∧ r.2 = h ++ [Cell.arr [.int 1, .int 2, .int 3]] := by decide

/-- A plan that calls none of set/setall/del/delall (anywhere, the elements of its list literals
included) only ever ADDS cells: every cell that existed before `Execute` — the whole of `$.src`, the
rest of the root, the plan's own literals — is unchanged afterwards. Whatever the deviations, order,
fuel and root. -/
theorem src_frame (env : Env) (r : Bool) (fuel : Nat) (plan : Arg) (root : Val) (h : Heap) (hn : NoMut plan) :
    ∃ t, (execute env r fuel (some plan) root h).2 = h ++ t := by
  cases hn with
  | call _ _ hf hargs =>
    rw [execute_call]
    exact (eval_pres env root (fuel + 1) _ (.call _ _ hf hargs) root).ext h
  | _ => exact ⟨[], by simp [execute]⟩

/-- in particular every existing cell reads as before -/
theorem src_cells_unchanged (env : Env) (r : Bool) (fuel : Nat) (plan : Arg) (root : Val) (h : Heap) (hn : NoMut plan)
    (i : Nat) (hi : i < h.length) :
    (execute env r fuel (some plan) root h).2[i]? = h[i]? := by
  obtain ⟨t, ht⟩ := src_frame env r fuel plan root h hn
  rw [ht, List.getElem?_append_left hi]

/-- an instance: `[get $.src]` is mutator-free -/
example : NoMut (.call b!"get" [.path ⟨false, [.child b!"src"]⟩]) :=
  .call _ _ (by decide) (by intro a ha; simp at ha; subst ha; exact .path _)

/-- the mutators are local: `set`/`setall`/`del`/`delall` at a simple path change at most ONE cell that
existed before (the container their path leads to); whatever else they write is new. With `get_spec …
del_spec` this is all a mutator does to the data. -/
theorem mutator_one_cell (value : Option Val) (p : Path) (data at_ : Val) (h : Heap) :
    ∃ a, ∀ i, i < h.length → i ≠ a → (Spec.setOrDel value p data at_ h).2[i]? = h[i]? := by
  unfold Spec.setOrDel
  by_cases hf : p.frags.isEmpty = true
  · exact ⟨0, by simp [hf]⟩
  · obtain ⟨a, ha⟩ := pathSet_one_cell value p.frags data h
    refine ⟨a, ?_⟩
    intro i hi hne
    simp only [hf]
    cases hps : pathSet value data p.frags h with
    | mk r h' =>
      have := ha i hi hne
      rw [hps] at this
      cases r <;> simpa using this

/-- the hypothesis is needed, and the mutation may reach `$.src` through another name: after
`[set $.asm $.src]` the plan `[set $.asm.a 9]` changes `$.src.a` (the two names denote one map) -/
theorem set_through_alias :
    let plan : Arg := .call b!"asm" [
      .call b!"set" [.path ⟨false, [.child b!"asm"]⟩, .path ⟨false, [.child b!"src"]⟩],
      .call b!"set" [.path ⟨false, [.child b!"asm", .child b!"a"]⟩, .lit (.int 9)]]
    let h : Heap := [Cell.map [(b!"src", .mref 1)], Cell.map [(b!"a", .int 1)]]
    (execute envCur true 5 (some plan) (.mref 0) h).2[1]? = some (Cell.map [(b!"a", .int 9)]) := by decide

/-- `NewPlan(p.Simplify())` is `p` again (tree level): the Simplify form is an array that names the same
function and compiles to the same arguments — for plans inside the model whose paths print to text that
parses back (`pathsRoundTrip`) -/
theorem newPlan_simplify (fuel : Nat) (xs : List Tree) (p : ArgT) (hp : newPlan fuel xs = some p)
    (hrt : pathsRoundTrip (fuel + 1) p = true) :
    ∃ ys, simplify (fuel + 1) p = .arr ys ∧ newPlan fuel ys = some p := by
  obtain ⟨name, rest, rfl, hnew⟩ := newPlan_eq fuel xs p hp
  obtain ⟨ys, hs, hc⟩ := compileCall_simplify fuel name rest (compile_simplify fuel) hrt
  exact ⟨_, hs, by rw [hnew, hc]⟩

/-- an instance: `[[set $.asm {a: 1}] [get "$.src.l[-1]"]]` compiles (implicit `asm`), its paths round-trip,
and its Simplify form `[asm [set $.asm {a: 1}] [get "$.src.l[-1]"]]` compiles to the same plan -/
example :
    let src : List Tree := [.arr [.str b!"set", .str b!"$.asm", .obj [(b!"a", .int 1)]],
                            .arr [.str b!"get", .str b!"$.src.l[-1]"]]
    ∃ p, newPlan 9 src = some p ∧ pathsRoundTrip 10 p = true ∧
      simplify 10 p = .arr (.str b!"asm" :: src) := by
  exact ⟨_, rfl, by decide, rfl⟩

end OjgVerif.C20
