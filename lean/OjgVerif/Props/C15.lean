import OjgVerif.Reflect.Lemmas
import OjgVerif.Gen.Reflect
/-! # C15 — all encoders agree on how a Go value is encoded (PARTIAL: plan logic on a model)

Go types are data (`Reflect/Model.lean`). Proved here, for every type, value, option combination
with `OmitNil` and `OmitEmpty` OFF (both are hypotheses of every statement: the model does not read
`omitNil` at all and treats `omitEmpty` only in the plan builders; what the options do is the subject of
`Props/C15Omit.lean`, known finding `C15-omit-options`) and every fuel. Struct types that contain themselves
(`type N struct{ Next *N }`, self-embedding) are not values of `GoType`, a finite tree: the theorems do
not speak about them (the run does, against encoding/json).

The masks and tables of the three packages are tied to the source first (`mask_constants` …
`function_tables`, `dev_current_matches_source`). `encoders_agree_with_reference`: with the seven deviations
of `Dev` repaired every encoder describes the tree of the reference `refEncode`, which reads like the option
documentation. `untriggered_eq_reference`: under any set of deviations, a run that meets none of their
triggers does. The code as it is is `Dev.current` (/repo 272431d), with two live deviations, so at full
strength the statement is false (`C15_full_false`); the earlier trees `Dev.before…` have their own witnesses.

`reflect`, `unsafe` offsets, the type caches and the written text are below the model; the tie to
the Go code is the correspondence run of `harness/cmd/reflect`. -/
namespace OjgVerif.C15
open OjgVerif.Reflect

/-- the plan-table masks are distinct single bits below the table size; sen's are oj's; the masks
that index the 8-entry append/value function tables are the three low bits -/
theorem mask_constants :
    (Gen.Oj.maskByTag_int = 1 ∧ Gen.Oj.maskExact_int = 2 ∧ Gen.Oj.maskNested_int = 4 ∧ Gen.Oj.maskPretty_int = 8 ∧
      Gen.Oj.maskMax_int = 16) ∧
    (Gen.Sen.maskByTag_int = Gen.Oj.maskByTag_int ∧ Gen.Sen.maskExact_int = Gen.Oj.maskExact_int ∧
      Gen.Sen.maskNested_int = Gen.Oj.maskNested_int ∧ Gen.Sen.maskPretty_int = Gen.Oj.maskPretty_int ∧
      Gen.Sen.maskMax_int = Gen.Oj.maskMax_int) ∧
    (Gen.Alt.maskByTag_int = 1 ∧ Gen.Alt.maskExact_int = 2 ∧ Gen.Alt.maskNested_int = 4 ∧ Gen.Alt.maskSet_int = 8) ∧
    (Gen.Oj.strMask_int = 1 ∧ Gen.Oj.omitMask_int = 2 ∧ Gen.Oj.embedMask_int = 4) ∧
    (Gen.Sen.strMask_int = 1 ∧ Gen.Sen.omitMask_int = 2 ∧ Gen.Sen.embedMask_int = 4) ∧
    (Gen.Alt.strMask_int = 1 ∧ Gen.Alt.omitMask_int = 2 ∧ Gen.Alt.embedMask_int = 4) := by decide

/-- oj, sen: `sinfo.fields[calcFieldsIndex()]` is the tag plan iff `UseTags`, else the exact plan iff
`KeyExact`, else the lower-case plan; flattened iff not `NestEmbed` -/
theorem mask_wiring_oj (o : Opts) (d : Dev) (om0 : Bool) (tf : Nat) (fs : List (FieldHdr × GoType)) :
    ojPlanForMask d o.keyExact om0 tf fs (ojFindex o) =
      if o.useTags then ojTagFields d.leak d.tagExact o.keyExact o.nestEmbed tf fs om0
      else plainFields o.keyExact o.nestEmbed om0 tf fs := ojFindex_cases o d om0 tf fs

/-- alt: the same for `getFields` (whose builders take the flag inverted: `(maskNested&u) == 0`) -/
theorem mask_wiring_alt (o : Opts) (d : Dev) (om0 : Bool) (tf : Nat) (fs : List (FieldHdr × GoType)) :
    altPlanForMask d o.keyExact om0 tf fs (altFindex o) =
      if o.useTags then altTagFields d.tagExact o.keyExact o.nestEmbed tf fs
      else plainFields o.keyExact o.nestEmbed om0 tf fs := altFindex_cases o d om0 tf fs

/-- the computed index is inside the table (`[16][]*finfo`, `[8][]*finfo`) -/
theorem findex_in_table (o : Opts) : ojFindex o < ojMaskMax ∧ altFindex o < altMaskSet := by
  obtain ⟨ut, ke, ne, _, _, _, ind, _, _, _⟩ := o
  obtain ⟨h1, h2, h3, h4, h5⟩ := ojMasks
  obtain ⟨a1, a2, a3, a4⟩ := altMasks
  cases ut <;> cases ke <;> cases ne <;> cases ind <;> simp [ojFindex, altFindex, h1, h2, h3, h4, h5, a1, a2, a3, a4]

/-- The wiring as written in the source (facts regenerated by `tools/extract/reflect.go`): `calcFieldsIndex` (oj, sen) and `getFields` (alt) set the masks the model's `ojFindex`/`altFindex`
set, in the same if/else structure; sen/sinfo.go is a copy of oj/sinfo.go (so `Enc.sen` executes
`Enc.oj`'s plans); `buildFields` hands `(maskNested&u) != 0` to the builders of oj and sen and
`(maskNested&u) == 0` to alt's, whose builders flatten when the flag is SET -/
theorem source_wiring :
    Gen.Reflect.senSinfoIsCopy = true ∧
    Gen.Reflect.ojCalcFieldsIndex =
      ["wr.NestEmbed->maskNested", "0 < wr.Indent->maskPretty", "wr.UseTags->maskByTag", "else wr.KeyExact->maskExact"] ∧
    Gen.Reflect.senCalcFieldsIndex = Gen.Reflect.ojCalcFieldsIndex ∧
    Gen.Reflect.altGetFields = ["o.NestEmbed->maskNested", "o.UseTags->maskByTag", "else o.KeyExact->maskExact"] ∧
    Gen.Reflect.ojBuildFieldsNested =
      ["buildTagFields:(maskNested & u) != 0", "buildExactFields:(maskNested & u) != 0", "buildLowFields:(maskNested & u) != 0"] ∧
    Gen.Reflect.senBuildFieldsNested = Gen.Reflect.ojBuildFieldsNested ∧
    Gen.Reflect.altBuildFieldsNested =
      ["buildTagFields:(maskNested & u) == 0", "buildExactFields:(maskNested & u) == 0", "buildLowFields:(maskNested & u) == 0"] := by
  decide +kernel

/-- the names a table must hold at index 0..7: bit 0 `AsString` (strMask), bit 1 `NotEmpty`
(omitMask), bit 2 the index access `i…` (embedMask) -/
def variantNames (pre kind : String) : List String :=
  [pre ++ kind, pre ++ kind ++ "AsString", pre ++ kind ++ "NotEmpty", pre ++ kind ++ "NotEmptyAsString",
   "i" ++ pre ++ kind, "i" ++ pre ++ kind ++ "AsString", "i" ++ pre ++ kind ++ "NotEmpty",
   "i" ++ pre ++ kind ++ "NotEmptyAsString"]

def expectedTables (pre suffix : String) : List (String × List String) :=
  ([("bool", "Bool"), ("float32", "Float32"), ("float64", "Float64"), ("int16", "Int16"), ("int32", "Int32"),
    ("int64", "Int64"), ("int8", "Int8"), ("int", "Int"), ("uint16", "Uint16"), ("uint32", "Uint32"),
    ("uint64", "Uint64"), ("uint8", "Uint8"), ("uint", "Uint")] : List (String × String)).map
    fun lk => (lk.1 ++ suffix, variantNames pre lk.2)

/-- `newFinfo` indexes the 13 × 3 function tables with `strMask | omitMask | embedMask`; every table
holds, at every index, the function named for exactly those flags and for its own kind -/
theorem function_tables :
    Gen.Reflect.ojAppendTables = expectedTables "append" "AppendFuncs" ∧
    Gen.Reflect.senAppendTables = expectedTables "append" "AppendFuncs" ∧
    Gen.Reflect.altValTables = expectedTables "val" "ValFuncs" := by
  have h : Gen.Reflect.ojAppendTables = expectedTables "append" "AppendFuncs" := by decide +kernel
  -- sen's tables are oj's, name by name
  exact ⟨h, (rfl : Gen.Reflect.senAppendTables = Gen.Reflect.ojAppendTables) ▸ h, by decide +kernel⟩

theorem same_plan (e₁ e₂ : Enc) (o : Opts) (_hn : o.omitNil = false) (ho : o.omitEmpty = false) (tf : Nat) (fs : List (FieldHdr × GoType)) :
    planOf e₁ Dev.fixed o tf false fs = planOf e₂ Dev.fixed o tf false fs := by
  rw [planOf_fixed e₁ o ho, planOf_fixed e₂ o ho]

/-- **C15, partial.** With the listed deviations (`Dev`) repaired, every encoder describes the tree the
option documentation prescribes: for every struct type (field kinds, order, tags, embedding,
nesting), every value of it and every option combination (`OmitEmpty` off). -/
theorem encoders_agree_with_reference (e : Enc) (o : Opts) (_hn : o.omitNil = false) (ho : o.omitEmpty = false) (tf vf : Nat)
    (t : GoType) (v : GoVal) :
    encode e Dev.fixed o tf vf t v = refEncode o tf vf t v := by
  unfold encode refEncode
  rw [quirksOf_fixed]
  exact encVal_fixed_eq_ref o tf (planOf e Dev.fixed o tf) (fun fs => planOf_fixed e o ho tf fs) vf true false t v

/-- the partial clause under the property's name: `encoders_agree_with_reference` -/
theorem C15_partial (e : Enc) (o : Opts) (hn : o.omitNil = false) (ho : o.omitEmpty = false) (tf vf : Nat) (t : GoType) (v : GoVal) :
    encode e Dev.fixed o tf vf t v = refEncode o tf vf t v := encoders_agree_with_reference e o hn ho tf vf t v

/-- the hypothesis is not vacuous: the Go-compatible options -/
def goOpts : Opts := ⟨true, true, false, false, false, false, false, false, Gen.Root.BytesAsBase64_int.toNat, []⟩
example : goOpts.omitNil = false ∧ goOpts.omitEmpty = false := ⟨rfl, rfl⟩

/-- with ALL listed deviations repaired (`Dev.fixed` — NOT the code as it is: exact tag keys and `[]byte`
as a slice are still on, see `encoders_agree_current`) oj.JSON/Marshal/Write, sen.String, pretty.JSON
and alt.Decompose describe the same tree. In the model oj, sen and alt are ONE walker (`encVal`) with
per-package flags (`quirksOf`) and per-package plan builders, so with the flags off the agreement is
by construction; that the Go packages ARE one walker is not proved — it is the regenerated fact that
sen/sinfo.go is a copy of oj/sinfo.go (`source_wiring`), the function-table facts, and the run. -/
theorem encoders_agree (e₁ e₂ : Enc) (o : Opts) (hn : o.omitNil = false) (ho : o.omitEmpty = false) (tf vf : Nat) (t : GoType) (v : GoVal) :
    encode e₁ Dev.fixed o tf vf t v = encode e₂ Dev.fixed o tf vf t v := by
  rw [encoders_agree_with_reference e₁ o hn ho, encoders_agree_with_reference e₂ o hn ho]

/-- a nil pointer handed to an encoder AT TOP LEVEL is null (with the deviations repaired); for the
other positions see `nil_pointer_slot_is_null` -/
theorem nil_pointer_is_null (e : Enc) (o : Opts) (hn : o.omitNil = false) (ho : o.omitEmpty = false) (tf vf : Nat) (t : GoType) :
    encode e Dev.fixed o tf (vf + 1) (.ptr t) .nilPtr = .null := by
  rw [encoders_agree_with_reference e o hn ho]; rfl

/-- a nil pointer in ANY slot the walker reaches — a struct field, an element of a slice, array or
map, behind an interface, at top level (the position flags `viaIface inElem oe` are arbitrary, and
so are the plan and the options) — is written as null by the code as it is, never a failure
(before /repo 413ccf5 oj's tight writers failed on a nil pointer ELEMENT: `dev_tightNil_observable`).
A struct FIELD holding a nil pointer is dropped instead when its tag says `omitempty`: that is
decided by the field loop, before the walker is called. -/
theorem nil_pointer_slot_is_null (e : Enc) (o : Opts) (plan : Bool → List (FieldHdr × GoType) → List Finfo)
    (vf : Nat) (viaIface inElem oe : Bool) (t : GoType) :
    encVal (quirksOf e Dev.current o) o plan (vf + 1) viaIface inElem oe (.ptr t) .nilPtr = .null := by
  cases e <;> simp [encVal, quirksOf, Dev.current]

/-- A run of an encoder under ANY set of deviations `d` that meets none of their triggers
(`untriggered`, executable) describes the reference tree. -/
theorem untriggered_eq_reference (d : Dev) (e : Enc) (o : Opts) (_hn : o.omitNil = false) (ho : o.omitEmpty = false) (tf vf : Nat)
    (t : GoType) (v : GoVal)
    (hU : untriggered e d o tf (planFixed o tf) vf true false t v = true) :
    encode e d o tf vf t v = refEncode o tf vf t v := by
  unfold encode refEncode
  rw [encVal_untriggered e d o ho tf vf true false t v hU]
  exact encVal_fixed_eq_ref o tf (fun _ => planFixed o tf) (fun _ => rfl) vf true false t v

/-- **C15 about `Dev.current` (/repo 272431d), excluding exactly the named triggers**: `UseTags` without
`KeyExact`; a `[]byte` outside the `appendJSON` type switch in oj/sen. The leak, the tight nil pointer, alt's
map nil, the nested omit (a regression of 8169704) and the nil embedded pointer are off in `Dev.current` and
so are not triggers there. -/
theorem untriggered_current_eq_reference (e : Enc) (o : Opts) (hn : o.omitNil = false) (ho : o.omitEmpty = false) (tf vf : Nat)
    (t : GoType) (v : GoVal)
    (hU : untriggered e Dev.current o tf (planFixed o tf) vf true false t v = true) :
    encode e Dev.current o tf vf t v = refEncode o tf vf t v :=
  untriggered_eq_reference Dev.current e o hn ho tf vf t v hU

/-- **The headline about the code as it is**: any two encoders describe the same tree on every
(type, value, options) on which neither run meets one of the two live exclusions — `UseTags` without
`KeyExact` on a field without a tag name (`C15-usetags-keyexact`) and a `[]byte` outside the
`appendJSON` type switch of oj/sen (`C15-bytes-as-slice`); `untriggered` is the executable predicate
that says so. `OmitNil` and `OmitEmpty` are off (for them see `Props/C15Omit.lean`, finding `C15-omit-options`). -/
theorem encoders_agree_current (e₁ e₂ : Enc) (o : Opts) (hn : o.omitNil = false) (ho : o.omitEmpty = false) (tf vf : Nat)
    (t : GoType) (v : GoVal)
    (h₁ : untriggered e₁ Dev.current o tf (planFixed o tf) vf true false t v = true)
    (h₂ : untriggered e₂ Dev.current o tf (planFixed o tf) vf true false t v = true) :
    encode e₁ Dev.current o tf vf t v = encode e₂ Dev.current o tf vf t v := by
  rw [untriggered_current_eq_reference e₁ o hn ho tf vf t v h₁, untriggered_current_eq_reference e₂ o hn ho tf vf t v h₂]

/-- the same about /repo ba8abfd, before any of the fixes (`Dev.before`) -/
theorem untriggered_before_eq_reference (e : Enc) (o : Opts) (hn : o.omitNil = false) (ho : o.omitEmpty = false) (tf vf : Nat)
    (t : GoType) (v : GoVal)
    (hU : untriggered e Dev.before o tf (planFixed o tf) vf true false t v = true) :
    encode e Dev.before o tf vf t v = refEncode o tf vf t v :=
  untriggered_eq_reference Dev.before e o hn ho tf vf t v hU

def fld (name : String) (tag : String := "") (emb : Bool := false) : FieldHdr :=
  ⟨name.toUTF8.toList, tag.toUTF8.toList, emb⟩

/-- `type T1 struct { A int; B int `json:"b,omitempty"`; C int }` -/
def T1 : GoType := .struct "T1".toUTF8.toList [] [(fld "A", .int 0), (fld "B" "b,omitempty", .int 0), (fld "C", .int 0)]
def T1zero : GoVal := .struct [.int 0, .int 0, .int 0]

/-- a non-trivial instance of the hypothesis: `T1{}` has an `omitempty` tag on an `int` field; under
`Dev.current` it meets no trigger, under `Dev.before` it meets the leak trigger -/
example : untriggered .oj Dev.current goOpts 4 (planFixed goOpts 4) 4 true false T1 T1zero = true ∧
    untriggered .oj Dev.before goOpts 4 (planFixed goOpts 4) 4 true false T1 T1zero = false := by decide +kernel

/-- `Dev.current` is what the source says (facts regenerated by `tools/extract/reflect.go`): the
`omitempty` case of `buildTagFields` assigns to a local, not to the parameter (leak repaired, oj
and sen alike); `tightSlice`/`tightMap` of oj test for nil before `Elem()`; alt's `reflectMap` no
longer calls `isNil`; `getTypeStruct` selects `structEmptyMap` by its flag, and `newFinfo` hands it its
parameter `nestOmit`, for which every builder passes the STRUCT-level `omitEmpty` (9b6b623: the
nested-omit deviation is off; on 8169704 … 6b93c2a `newFinfo` handed the field's own flag and this
theorem fails); every `buildTagFields`/`buildExactFields`/`buildLowFields` of oj, sen and alt wraps the
entries of an embedded pointer with `skipNilEmbedded` (272431d: three call sites per package; before,
none). Reverting or applying a fix in /repo without flipping the flag breaks this theorem. -/
theorem dev_current_matches_source :
    Dev.current.leak = (Gen.Reflect.ojTagOmitAssignsParam || Gen.Reflect.senTagOmitAssignsParam) ∧
    Dev.current.tightNilDeref =
      !(decide (Gen.Reflect.ojTightSlicePtrCond = "rm.Kind() == reflect.Ptr && !rm.IsNil()") &&
        decide (Gen.Reflect.ojTightMapPtrStmt =
          "if rm.Kind() == reflect.Ptr { if rm.IsNil() { if wr.OmitNil { continue } } else { rm = rm.Elem() } }")) ∧
    Dev.current.mapNilNull = Gen.Reflect.altReflectMapUsesIsNil ∧
    Dev.current.nestedOmit =
      (Gen.Reflect.ojGetTypeStructSelectsMap &&
        !(Gen.Reflect.ojNewFinfoNestFlags.all (· == "nestOmit") &&
          Gen.Reflect.ojNewFinfoNestArgs == ["omitEmpty", "omitEmpty", "omitEmpty"])) ∧
    Dev.current.nestedOmit =
      (Gen.Reflect.senGetTypeStructSelectsMap &&
        !(Gen.Reflect.senNewFinfoNestFlags.all (· == "nestOmit") &&
          Gen.Reflect.senNewFinfoNestArgs == ["omitEmpty", "omitEmpty", "omitEmpty"])) ∧
    Dev.current.embNilPanic =
      !(Gen.Reflect.ojSkipNilEmbeddedCalls == 3 && Gen.Reflect.senSkipNilEmbeddedCalls == 3 &&
        Gen.Reflect.altSkipNilEmbeddedCalls == 3) := by
  decide +kernel

/-- each of the nine field-plan builders (`buildTagFields` / `buildExactFields` / `buildLowFields` of oj,
sen and alt) returns at once for a type it is already inside of and hands the list of those types on
in both recursive calls (/repo 1c47510, finding `C15-self-embedding`: before, a struct type that
embeds a pointer to itself made every encoder recurse until a fatal stack overflow). Regenerated
from the source; reverting the guard in any builder breaks this theorem. Such types are not values
of the model's `GoType` (a finite tree): for them the harness compares the encoders with
encoding/json only. -/
theorem builders_guard_self_embedding :
    Gen.Reflect.ojBuildersGuardCycles = 3 ∧ Gen.Reflect.senBuildersGuardCycles = 3 ∧
    Gen.Reflect.altBuildersGuardCycles = 3 := by
  decide +kernel

/-- C15 at full strength, about the code as it is -/
def C15_full : Prop :=
  ∀ (e : Enc) (o : Opts) (tf vf : Nat) (t : GoType) (v : GoVal), o.omitNil = false → o.omitEmpty = false →
    encode e Dev.current o tf vf t v = refEncode o tf vf t v

/-- `struct{ Body int }{1}` with `UseTags` and without `KeyExact` -/
def T3 : GoType := .struct [] [] [(fld "Body", .int 0)]
def T3one : GoVal := .struct [.int 1]
def tagsOnly : Opts := { goOpts with keyExact := false }

/-- `oj.JSON(struct{Body int}{1}, &ojg.Options{UseTags: true})` is `{"Body":1}`; the documentation of
`UseTags` says `KeyExact` decides the key of a field without a tag: `{"body":1}`
(known finding C15-usetags-keyexact, still live) -/
theorem tagexact_witness :
    jvBeq (encode .oj Dev.current tagsOnly 4 4 T3 T3one) (.obj [("Body".toUTF8.toList, .int 1)]) = true ∧
    jvBeq (refEncode tagsOnly 4 4 T3 T3one) (.obj [("body".toUTF8.toList, .int 1)]) = true := by
  decide +kernel

theorem C15_full_false : ¬ C15_full := fun h =>
  ne_of_jvBeq (lit := .obj [("Body".toUTF8.toList, .int 1)]) (by decide +kernel) tagexact_witness.1 (h .oj tagsOnly 4 4 T3 T3one rfl rfl).symm

/-- `type In struct{ X int }; type T2 struct{ A In `json:"a,omitempty"` }` -/
def T2 : GoType := .struct "T2".toUTF8.toList [] [(fld "A" "a,omitempty", .struct "In".toUTF8.toList [] [(fld "X", .int 0)])]
def T2zero : GoVal := .struct [.struct [.int 0]]

/-- the nested omit is repaired (9b6b623): `oj.JSON(T2{})` is the reference tree `{"a":{"X":0}}` -/
theorem nested_omit_repaired : encode .oj Dev.current goOpts 4 4 T2 T2zero = refEncode goOpts 4 4 T2 T2zero :=
  untriggered_current_eq_reference .oj goOpts rfl rfl 4 4 T2 T2zero (by decide +kernel)

/-- without the leak (`Dev.current`, repaired by 5f44527) `oj.JSON(T1{})` is the reference tree `{"A":0,"C":0}` -/
theorem leak_repaired : encode .oj Dev.current goOpts 4 4 T1 T1zero = refEncode goOpts 4 4 T1 T1zero :=
  untriggered_current_eq_reference .oj goOpts rfl rfl 4 4 T1 T1zero (by decide +kernel)

/-- `type E struct{ Q int }; type W struct{ *E; Z int }`, `W{Z: 1}` -/
def W : GoType := .struct "W".toUTF8.toList [] [(fld "E" "" true, .ptr (.struct "E".toUTF8.toList [] [(fld "Q", .int 0)])), (fld "Z", .int 0)]
def Wnil : GoVal := .struct [.nilPtr, .int 1]

/-- the nil embedded pointer is repaired (272431d): `oj.JSON(W{Z: 1})` is the reference tree `{"Z":1}` -/
theorem embnil_repaired : encode .oj Dev.current goOpts 4 4 W Wnil = refEncode goOpts 4 4 W Wnil :=
  untriggered_current_eq_reference .oj goOpts rfl rfl 4 4 W Wnil (by decide +kernel)

def C15_full_before_272431d : Prop :=
  ∀ (e : Enc) (o : Opts) (tf vf : Nat) (t : GoType) (v : GoVal), o.omitNil = false → o.omitEmpty = false →
    encode e Dev.before272431d o tf vf t v = refEncode o tf vf t v

/-- `oj.JSON(W{Z: 1})` panicked (answer "") before 272431d: the plan entry of the promoted field `Q`
went through `FieldByIndex` over the nil `*E`; encoding/json and the reference write `{"Z":1}` -/
theorem embnil_witness_before_272431d :
    jvBeq (encode .oj Dev.before272431d goOpts 4 4 W Wnil) (.obj [([90], .int 1), ([81], panicMark)]) = true ∧
    jvBeq (refEncode goOpts 4 4 W Wnil) (.obj [([90], .int 1)]) = true := by
  decide +kernel

theorem C15_full_before_272431d_false : ¬ C15_full_before_272431d := fun h =>
  ne_of_jvBeq (lit := .obj [([90], .int 1), ([81], panicMark)]) (by decide +kernel) embnil_witness_before_272431d.1 (h .oj goOpts 4 4 W Wnil rfl rfl).symm

def C15_full_before : Prop :=
  ∀ (e : Enc) (o : Opts) (tf vf : Nat) (t : GoType) (v : GoVal), o.omitNil = false → o.omitEmpty = false →
    encode e Dev.before o tf vf t v = refEncode o tf vf t v

/-- `oj.JSON(T1{})` was `{"C":0}`: the `omitempty` of `B` leaked to `A`, declared before it -/
theorem leak_witness_before :
    jvBeq (encode .oj Dev.before goOpts 4 4 T1 T1zero) (.obj [([67], .int 0)]) = true ∧
    jvBeq (refEncode goOpts 4 4 T1 T1zero) (.obj [([67], .int 0), ([65], .int 0)]) = true := by
  decide +kernel

theorem C15_full_before_false : ¬ C15_full_before := fun h =>
  ne_of_jvBeq (lit := .obj [([67], .int 0)]) (by decide +kernel) leak_witness_before.1 (h .oj goOpts 4 4 T1 T1zero rfl rfl).symm

def C15_full_before_9b6b623 : Prop :=
  ∀ (e : Enc) (o : Opts) (tf vf : Nat) (t : GoType) (v : GoVal), o.omitNil = false → o.omitEmpty = false →
    encode e Dev.before9b6b623 o tf vf t v = refEncode o tf vf t v

/-- `oj.JSON(T2{})` was `{"a":{}}` on 8169704 … 6b93c2a: the `omitempty` of field `A` made every field of
`In` `omitempty`; the documentation (and encoding/json) prescribe `{"a":{"X":0}}` -/
theorem nested_omit_witness_before_9b6b623 :
    jvBeq (encode .oj Dev.before9b6b623 goOpts 4 4 T2 T2zero) (.obj [([97], .obj [])]) = true ∧
    jvBeq (refEncode goOpts 4 4 T2 T2zero) (.obj [([97], .obj [([88], .int 0)])]) = true := by
  decide +kernel

theorem C15_full_before_9b6b623_false : ¬ C15_full_before_9b6b623 := fun h =>
  ne_of_jvBeq (lit := .obj [([97], .obj [])]) (by decide +kernel) nested_omit_witness_before_9b6b623.1 (h .oj goOpts 4 4 T2 T2zero rfl rfl).symm

/-- one deviation switched on at a time: each of the seven is observable by itself -/
def only (l x y e n m : Bool) (o : Bool := false) : Dev := ⟨l, x, y, e, n, m, o⟩

theorem dev_leak_observable :
    encode .oj (only true false false false false false) goOpts 4 4 T1 T1zero ≠ refEncode goOpts 4 4 T1 T1zero :=
  ne_of_jvBeq (lit := .obj [([67], .int 0), ([65], .int 0)]) (by decide +kernel) (by decide +kernel)

/-- `struct{ Body int }` with `UseTags` and not `KeyExact`: `Body` instead of `body` -/
theorem dev_tagExact_observable :
    encode .alt (only false true false false false false) { goOpts with keyExact := false } 4 4
        (.struct [] [] [(fld "Body", .int 0)]) (.struct [.int 1]) ≠
      refEncode { goOpts with keyExact := false } 4 4 (.struct [] [] [(fld "Body", .int 0)]) (.struct [.int 1]) :=
  ne_of_jvBeq (lit := .obj [("body".toUTF8.toList, .int 1)]) (by decide +kernel) (by decide +kernel)

/-- `struct{ B []byte }{[]byte("ab")}` under the Go options: `[97,98]` instead of `"YWI="` -/
theorem dev_bytes_observable :
    encode .sen (only false false true false false false) goOpts 4 4
        (.struct [] [] [(fld "B", .bytes)]) (.struct [.bytes [97, 98]]) ≠
      refEncode goOpts 4 4 (.struct [] [] [(fld "B", .bytes)]) (.struct [.bytes [97, 98]]) :=
  ne_of_jvBeq (lit := .obj [([66], .str "YWI=".toUTF8.toList)]) (by decide +kernel) (by decide +kernel)

/-- `type E struct{ Q int }; type W struct{ *E; Z int }`, `W{Z: 1}`: a panic instead of `{"Z":1}` -/
theorem dev_embNil_observable :
    encode .oj (only false false false true false false) goOpts 4 4
        (.struct [] [] [(fld "E" "" true, .ptr (.struct [] [] [(fld "Q", .int 0)])), (fld "Z", .int 0)])
        (.struct [.nilPtr, .int 1]) ≠
      refEncode goOpts 4 4
        (.struct [] [] [(fld "E" "" true, .ptr (.struct [] [] [(fld "Q", .int 0)])), (fld "Z", .int 0)])
        (.struct [.nilPtr, .int 1]) :=
  ne_of_jvBeq (lit := .obj [([90], .int 1)]) (by decide +kernel) (by decide +kernel)

/-- `[]*T{nil}` through the tight writer: a panic instead of `[null]` -/
theorem dev_tightNil_observable :
    encode .oj (only false false false false true false) goOpts 4 4
        (.slice (.ptr (.struct [] [] []))) (.slice [.nilPtr]) ≠
      refEncode goOpts 4 4 (.slice (.ptr (.struct [] [] []))) (.slice [.nilPtr]) :=
  ne_of_jvBeq (lit := .arr [.null]) (by decide +kernel) (by decide +kernel)

/-- `map[string][]int{"a": nil}` through alt: `{"a":null}` instead of `{"a":[]}` -/
theorem dev_mapNil_observable :
    encode .alt (only false false false false false true) goOpts 4 4
        (.map (.slice (.int 0))) (.map [([97], .nilSlice)]) ≠
      refEncode goOpts 4 4 (.map (.slice (.int 0))) (.map [([97], .nilSlice)]) :=
  ne_of_jvBeq (lit := .obj [([97], .arr [])]) (by decide +kernel) (by decide +kernel)

/-- `T2{}` through oj with only the nested-omit deviation: `{"a":{}}` instead of `{"a":{"X":0}}` -/
theorem dev_nestedOmit_observable :
    encode .oj (only false false false false false false true) goOpts 4 4 T2 T2zero ≠ refEncode goOpts 4 4 T2 T2zero :=
  ne_of_jvBeq (lit := .obj [([97], .obj [([88], .int 0)])]) (by decide +kernel) (by decide +kernel)

end OjgVerif.C15
