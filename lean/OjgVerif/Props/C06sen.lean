import OjgVerif.Sen.LemmasSafe
import OjgVerif.Sen.LemmasTok
import OjgVerif.Gen.SenFacts
/-! # C06 (SEN clause) — no SEN input makes sen.Parse / ParseReader / Tokenize panic or hang
(what is PROVED about the machine model; the crash search itself is the harness run)

The model (`Sen.step`) is a total function: one call per input byte, structural recursion over the
input (`runBytes`), so a run of the model always ends. Two things could make the Go loop differ from
that, and both are excluded by facts about the regenerated tables:

* the token fast path re-reads the ending byte (`off--`); if a byte started a token in `valueMap`
  without being a token byte in `tokenMap` the empty token would be added and the same byte read
  again for ever. `tokenStart_progress`: in the regenerated tables every `tokenStart` byte is a
  `tokenOk` byte, so the model's `hang` outcome is unreachable;
* `closeArray` and `closeParen` read `p.mode[256]` without a length test. `closers_have_endmark`: every
  mode table that has one of these codes is 257 bytes long.

That the parser machine never ends in a run-time fault (`never_faults_current`; the code as it is since 285bbf9
and ece2934) rests on the stack-shape invariant (`Sen.wf`: under every key lies a map; `starts` and the build
stack agree; only finished values above an array placeholder and at depth 0), which every case of the switch
keeps; since 285bbf9 `addString` after a `+` answers "expected a string before '+'" where it asserted before.
For the code before it (`plusFault := true`, that `addString` kept as `St.addStringPOld`) the statement is false:
`[1 + "x"]` faults (`never_faults_before_false`, finding C06sen-plus-panic). The tokenizer has no build stack; the
only fault of its switch is `t.mode[256]` read without a length test in `closeArray`.

That the Go code behaves like the model on malformed input is the correspondence run (every call under
`recover` and a watchdog; the model predicts no panic at all).

Where a theorem over a table set `T` with `TablesOK T` has an instance at the regenerated tables (`senTables`, through
`senTables_ok`), the instance follows it under the name `…_sen`. -/
namespace OjgVerif.C06sen
open OjgVerif.Sen

theorem tables_ok : TablesOK senTables := senTables_ok

/-- a byte that starts a token (in whatever mode) continues one: the fast path always makes progress -/
theorem tokenStart_progress {T : Tables} (hT : TablesOK T) (m : Mode) (b : UInt8) (h : T.act m b = .tokenStart) :
    T.act .token b = .tokenOk := by
  rw [hT.act] at h ⊢
  exact tokenStart_tokenOk m b h

theorem tokenStart_progress_sen (m : Mode) (b : UInt8) (h : senTables.act m b = .tokenStart) :
    senTables.act .token b = .tokenOk := tokenStart_progress senTables_ok m b h

/-- the `tokenStart` case of both switches never takes the no-progress branch -/
theorem tokenStart_case_parser {T : Tables} (hT : TablesOK T) (cfg : Cfg) (s : St) (i : Bool) (b : UInt8)
    (h : T.act s.mode b = .tokenStart) :
    stepActP T cfg s i b = .ok ({ s with tmp := [b], mode := .token }, true, false) := by
  unfold stepActP
  simp [h, tokenStart_progress hT s.mode b h]

theorem tokenStart_case_tokenizer {T : Tables} (hT : TablesOK T) (cfg : Cfg) (s : St) (b : UInt8)
    (h : T.act s.mode b = .tokenStart) :
    stepActT T cfg s b = .ok ({ s with tmp := [b], mode := .token }, true, false) := by
  unfold stepActT
  simp [h, tokenStart_progress hT s.mode b h]

/-- `p.mode[256]` is in range wherever `closeArray` / `closeParen` read it without a length test -/
theorem closers_have_endmark {T : Tables} (hT : TablesOK T) (m : Mode) (b : UInt8)
    (h : T.act m b = .closeArray ∨ T.act m b = .closeParen) : T.fin m ≠ .absent := by
  rw [hT.act] at h
  rw [hT.fin]
  exact close_fin m b h

/-- the table codes the parser model has a branch for: all of them -/
def modelParserCases : List String :=
  ["skipNewline", "cskipNewline", "tokenStart", "strOk", "colonColon", "skipChar", "cskipChar", "openObject",
   "closeObject", "valDigit", "valQuote", "numSpc", "strSlash", "escOk", "val0", "valNeg", "escU", "openArray",
   "closeArray", "numDot", "numFrac", "fracE", "tokenOk", "tokenSpc", "tokenColon", "tokenNlColon", "valPlus",
   "strQuote", "numZero", "numDigit", "negDigit", "numNewline", "expSign", "expDigit", "uOk", "valSlash",
   "commentStart", "commentEnd", "ccommentStart", "ccommentEnd", "openParen", "closeParen", "charErr"]

/-- the codes `sen.Tokenizer.tokenizeBuffer` has no `case` for (they fall through the switch) -/
def tokenizerMissing : List String := ["valPlus", "openParen", "closeParen"]

/-- the regenerated case labels are exactly what the model assumes (the tokenizer's in any order: the
C-comment cases were appended by f233b47; before it they were missing and this theorem fails) -/
theorem switch_cases :
    Gen.SenFacts.parserCases = modelParserCases ∧
    Gen.SenFacts.tokenizerCases.Nodup ∧
    (Gen.SenFacts.tokenizerCases.all fun c => modelParserCases.contains c) = true ∧
    (modelParserCases.all fun c => Gen.SenFacts.tokenizerCases.contains c != tokenizerMissing.contains c) = true := by
  decide +kernel

/-- the regenerated count of one-valued (panicking) type assertions in `(*Parser).addString` is 0: undoing 285bbf9
breaks this -/
theorem addString_checked : Gen.SenFacts.addStringUnchecked = 0 := by decide

/-- as many case names in the model's list as action codes in `codeList`, and the codes pairwise distinct; that the
names are the case labels of the Go switch is `switch_cases` -/
theorem codes_complete : modelParserCases.length = codeList.length ∧ codeList.Nodup :=
  ⟨by decide, codes_distinct⟩

/-- the code as it is: `addString` checks what precedes a `+` (285bbf9), `plus` is reset at entry (ece2934) -/
def Current (cfg : Cfg) : Prop := cfg.plusFault = false ∧ cfg.keepPlus = false

theorem Current.plusFault {cfg : Cfg} (h : Current cfg) : cfg.plusFault = false := h.1
theorem Current.keepPlus {cfg : Cfg} (h : Current cfg) : cfg.keepPlus = false := h.2

theorem current_default : Current {} := ⟨rfl, rfl⟩

/-- **C06 (SEN parser)**: the parser machine never ends in a run-time fault (a failed type assertion, an index
out of range, a nil-map write, a slice-bounds fault) — over every table set that passes `TablesOK`, every
configuration of the current code, every prior instance state, input and chunking -/
theorem never_faults_current {T : Tables} (hT : TablesOK T) (cfg : Cfg) (hc : cfg.tokenizer = false)
    (hcur : Current cfg) (prev : St) (chunks : List Bytes) (e : Err)
    (h : call T cfg prev chunks = .error e) (w : String) : e.kind ≠ .fault w := by
  rw [call_eq_ref hT] at h
  intro hw
  have := call_safe_ref cfg hc prev (fun hk => by rw [hcur.keepPlus] at hk; cases hk) chunks e h w hw
  have h1 : cfg.plusFault = true := this.1
  rw [hcur.plusFault] at h1
  cases h1

theorem never_faults_current_sen (cfg : Cfg) (hc : cfg.tokenizer = false) (hcur : Current cfg) (prev : St)
    (chunks : List Bytes) (e : Err) (h : call senTables cfg prev chunks = .error e) (w : String) :
    e.kind ≠ .fault w :=
  never_faults_current senTables_ok cfg hc hcur prev chunks e h w

/-- the parser machine never reaches the no-progress state -/
theorem no_hang {T : Tables} (hT : TablesOK T) (cfg : Cfg) (hc : cfg.tokenizer = false)
    (prev : St) (chunks : List Bytes) (e : Err) (h : call T cfg prev chunks = .error e) : e.kind ≠ .hang := by
  rw [call_eq_ref hT] at h
  exact call_noHang_ref cfg hc prev chunks e h

/-- the model never faults or hangs, on any input (stated for a configuration) -/
def never_faults_full (cfg : Cfg) : Prop :=
  ∀ (chunks : List Bytes),
    (match run refTables cfg chunks with | .error e => e.kind.isFault | .ok _ => false) = false

/-- the full statement for the default configuration of the code as it is (sen.Parser, `OnlyOne`, the `[]byte`
entry point, no token functions) -/
theorem never_faults_full_current : never_faults_full {} := by
  intro chunks
  cases h : run refTables {} chunks with
  | ok o => rfl
  | error e =>
    simp only []
    cases hk : e.kind with
    | fault w => exact absurd hk (never_faults_current .ref {} rfl current_default {} chunks e h w)
    | hang => exact absurd hk (no_hang .ref {} rfl {} chunks e h)
    | _ => simp [ErrKind.isFault]

/-- with the default configuration the witness `[1 + "x"]` of `never_faults_before_false` is an ordinary error -/
example : (match run senTables {} [[91, 49, 32, 43, 32, 34, 120, 34, 93]] with
    | .error e => e.kind == .plusNoString | .ok _ => false) = true := by decide +kernel

/-- **C06 (SEN tokenizer)**: the sen.Tokenizer machine never ends in a run-time fault or in the no-progress
state — over every table set that passes `TablesOK`, every configuration of the tokenizer profile, every
prior instance state, input and chunking -/
theorem tokenizer_never_faults {T : Tables} (hT : TablesOK T) (cfg : Cfg) (ht : cfg.tokenizer = true)
    (prev : St) (chunks : List Bytes) (e : Err) (h : call T cfg prev chunks = .error e) : e.kind.isFault = false := by
  rw [call_eq_ref hT] at h
  exact call_quiet_tok_ref cfg ht prev chunks e h

theorem tokenizer_never_faults_sen (cfg : Cfg) (ht : cfg.tokenizer = true) (prev : St) (chunks : List Bytes)
    (e : Err) (h : call senTables cfg prev chunks = .error e) : e.kind.isFault = false :=
  tokenizer_never_faults senTables_ok cfg ht prev chunks e h

/-- BEFORE 285bbf9 (any configuration): on an instance without a pending `+`, a call that ends in a
run-time fault has read a `+` in value position before (mark `p`) -/
theorem no_fault_without_plus_before {T : Tables} (hT : TablesOK T) (cfg : Cfg) (hc : cfg.tokenizer = false)
    (prev : St) (hp : prev.plus = false) (chunks : List Bytes) (e : Err)
    (h : call T cfg prev chunks = .error e) (w : String) (hw : e.kind = .fault w) : 'p' ∈ e.feat := by
  rw [call_eq_ref hT] at h
  exact (call_safe_ref cfg hc prev (fun _ => hp) chunks e h w hw).2

/-- BEFORE 285bbf9 `[1 + "x"]` faulted: the `+` branch of `addString` asserted that the previous value
is a string (finding C06sen-plus-panic) -/
theorem never_faults_before_false : ¬ never_faults_full { plusFault := true } := by
  intro h
  have := h [[91, 49, 32, 43, 32, 34, 120, 34, 93]]
  revert this
  decide +kernel

/-- and that run carried the mark -/
example : (match run senTables { plusFault := true } [[91, 49, 32, 43, 32, 34, 120, 34, 93]] with
    | .error e => e.kind.isFault && e.feat.contains 'p' | .ok _ => false) = true := by decide +kernel

end OjgVerif.C06sen
