import OjgVerif.Props.C05
import OjgVerif.JPath.LemmasAddr
import OjgVerif.JPath.LemmasTyped
import OjgVerif.JPath.LemmasBudget
import OjgVerif.JPath.LemmasNodes
import OjgVerif.Gen.JpathFacts
/-! # C11 — every JSONPath evaluator and data representation agrees with Get

* Every evaluator is the shared traversal skeleton `evalSel` over per-evaluator *selection functions*. For `Get`
  the skeleton is proved equal to the work-list machine (C05.machine_eq_skeleton); for the others it is tied to
  the code by the correspondence run only.
* FirstFound, Has, Locate, Walk, GetNodes and FirstNode ALSO exist as programs of their own
  (`JPath/Machines.lean`: `firstMach`, `hasMach` — the work-list loops of get.go FirstFound / has.go transcribed
  round by round; `locateRec` with the budget `max`, `walkRecM` — the recursion of the `locate`/`Walk` methods;
  `nodesMach`, `firstNodeMach` — node.go's copies of the two loops). The `*_machine*` and `*_recursive*` theorems
  prove them equal to the Get machine's head / non-emptiness and to the skeleton models below; those theorems
  are not definitional.
* In the SKELETON models `firstM`/`hasM` FirstFound and Has are **not** independent programs: where get.go/has.go
  copy Get's code, the skeleton reuses Get's functions, so part of `C11_first`/`C11_has` is definitional. The code paths the model has
  of its own are: the last-position branches (`First.last`: first element only; the slice test `start < end`
  / `end < start` and `tv[start]`, `First.sliceLast`), the inner slice push (`First.sliceInner`), on typed data
  `reflectGetWildOne` (`First.wildOne`, flag `firstTypedWildOne`) and `reflectGetNth(tv, start)` (flag
  `firstTypedSlice`), Has's missing kinds and missing descent `default:` (flags `hasTypedMap`,
  `hasTypedDescent`, `Has.sel.sets`). The theorems say these agree with Get's; that the model has the right
  code paths is the run's business.
* A **representation** (`Rep`) is a two-field tag (array kind, object kind) on the same `JV` value. It selects
  between branch tables of the model: the slice normalisation (`Get.normFor`: `[]any`/`Indexed` clamp the end for
  both step signs, `gen.Array` for a positive step only, typed data go through `reflectGetSlice` = `Get.rnorm`
  and push the reversed result instead of using the truncated division), the members a wildcard, descent or
  filter sees (`Get.wildKids`, `Get.filterKids`, `nodesInnerCut`: flags `typedMapWild`, `typedObjFilter`), what
  First/Has/Walk do on typed data (flags above, `walkTypedArray`). Reflection, `Keyed`, `Indexed`, struct tags,
  pointers are **not** modelled; `C11_repr_current` says that these branch tables select the same elements —
  that the branch tables are what the reflect/Keyed/Indexed code does is established by the correspondence run
  on real typed Go data (reflect.SliceOf/ArrayOf/StructOf/MapOf values and two hand-written collections).
* Filters are an abstract predicate (see Props/C05.lean): every theorem here says that two evaluators handed
  THE SAME predicate agree. Which predicate a script denotes for an evaluator is outside the theorems: it is
  the run that gives each model the predicate of its evaluator (`FilterSpec.filterOf` with the root that
  evaluator hands to a script, `Driver.rootFor`) and judges the agreement. For a script that reads from `$`
  that was not the same predicate everywhere before 049a508: `Filter.locate` handed nil and `Filter.Walk` the
  tested element where Get, FirstFound, Has, GetNodes and FirstNode hand their own argument (flags
  `locFilterRootNil`, `walkFilterRootSelf`; repaired findings C11-locate-filter-root, C11-walk-filter-root).
  Now every entry point hands the query argument, and the run checks that with `$` operands in filters below
  the root (stream `root_box`, random scripts).

Deviations are flags of `Cfg`; the general theorems are parametric in the configuration and name the flags
they need off. `*_current` are the statements for **the code as it is now** (`Cfg.pinned`, after the fixes
baff053, 0e0caaf, fa2ed77, 5d79291, 360668e, 1af5385, 21977aa, 6d09ec9, 6f19325, 927d89c, c654348, 049a508,
22c4424): only `locStartClamp` and `firstTypedSlice`, both pinned by the suite, are still on. `*_before_*`
document what failed before a fix (`Cfg.original`). -/
namespace OjgVerif.C11
open OjgVerif.JPath

/-- **FirstFound returns the first of Get's results** (every configuration, every path, every tree) -/
theorem C11_first (cfg : Cfg) (x : List Frag) (d : JV) :
    firstM cfg Rep.simple x d = (getM cfg Rep.simple x d).head? := by
  rw [C05.machine_eq_skeleton cfg Rep.simple (simple_not_cut cfg)]
  exact evalSel_first (First.sel cfg Rep.simple) (Get.sel cfg Rep.simple) _ (first_inner cfg)
    (fun f v => by simp only [First.sel, Get.sel, first_last, head?_map_take_one]) x d (Or.inl rfl)

/-- **Has is true exactly when Get is non-empty** — for the code before baff053 where no descent follows another
fragment directly (`descentSiblings`: Get's `default:` case set the descent flag for a non-container
that a filter handed on, Has has no such case), since then always -/
theorem C11_has (cfg : Cfg) (x : List Frag) (d : JV)
    (hs : cfg.descentSiblings = false ∨ noDescAfter x = true) :
    hasM cfg Rep.simple x d = !(getM cfg Rep.simple x d).isEmpty := by
  rw [C05.machine_eq_skeleton cfg Rep.simple (simple_not_cut cfg)]
  simp only [hasM, getS, List.isEmpty_map]
  rw [evalSel_isEmpty (Has.sel cfg Rep.simple) (Get.sel cfg Rep.simple) _
    (fun f v => by simp only [Has.sel]; rw [has_inner, first_inner])
    (fun f v => by simp only [Has.sel, Get.sel, first_last]; cases Get.last cfg Rep.simple f v <;> rfl) x d (Or.inr hs)]

/-- non-trivial instance of the second alternative of the hypothesis of `C11_has`: `$..a[0][?]` -/
example : Cfg.pinned.descentSiblings = false ∨
    noDescAfter [.descent, .child [97], .nth 0, .filter (fun _ => true)] = true := Or.inr (by decide)

/-- **Has ⇔ Get non-empty, for the code as it is now**: every path, every tree -/
theorem C11_has_current (x : List Frag) (d : JV) :
    hasM Cfg.pinned Rep.simple x d = !(getM Cfg.pinned Rep.simple x d).isEmpty :=
  C11_has Cfg.pinned x d (Or.inl rfl)

theorem C11_first_current (x : List Frag) (d : JV) :
    firstM Cfg.pinned Rep.simple x d = (getM Cfg.pinned Rep.simple x d).head? :=
  C11_first Cfg.pinned x d

theorem C11_has_fixed (x : List Frag) (d : JV) :
    hasM Cfg.fixed Rep.simple x d = !(getM Cfg.fixed Rep.simple x d).isEmpty :=
  C11_has Cfg.fixed x d (Or.inl rfl)

def C11_has_full (cfg : Cfg) : Prop :=
  ∀ (x : List Frag) (d : JV), hasM cfg Rep.simple x d = !(getM cfg Rep.simple x d).isEmpty

/-- `$[?(true)]..a` on `[1,[{"a":5}]]`: Get handed the leaf `1` to the descent first, which set the flag on
the shared marker, and `[{"a":5}]` was not descended into; Has dropped the leaf without setting the flag -/
def w4path : List Frag := [.filter (fun _ => true), .descent, .child [97]]
def w4data : JV := .arr [.int 1, .arr [.obj [([97], .int 5)]]]

/-- before baff053 Has and Get could disagree; now `C11_has_full Cfg.pinned` is `C11_has_current` -/
theorem C11_has_full_false_before_baff053 : ¬ C11_has_full Cfg.original := by
  intro h
  have h1 := h w4path w4data
  have h2 : hasM Cfg.original Rep.simple w4path w4data = true := by decide
  have h3 : (getM Cfg.original Rep.simple w4path w4data).isEmpty = true := by decide
  rw [h2, h3] at h1
  simp at h1

/-! `firstMach`/`hasMach` (JPath/Machines.lean) are the work-list loops of `Expr.FirstFound` (jp/get.go) and
`Expr.Has` (jp/has.go) transcribed from their own text — stack frames, markers, flags, early `return` — not the
skeleton `evalSel`. The theorems below are about these two programs and the Get machine `getM`; nothing in them
is definitional: the proof is a round-by-round simulation (`first_step_sim`; Has's round is FirstFound's with the
value forgotten, `has_step_first`). -/

/-- **FirstFound (the machine) returns the first of Get's results** — every configuration of the deviation
flags, every tree, every path that does not end in a bare descent (the property's quantifier; with a trailing
descent the two loops differ by construction: `C11_first_machine_trailing_descent`) -/
theorem C11_first_machine (cfg : Cfg) (x : List Frag) (d : JV) (ht : endsInDescent x = false) :
    firstMach cfg Rep.simple x d = (getM cfg Rep.simple x d).head? := by
  cases x with
  | nil => simp [firstMach, getM]
  | cons f r =>
    simp only [firstMach, getM, first_pushV_simple]
    exact first_run_sim _ (Get.lastV cfg Rep.simple) (Get.pushV cfg Rep.simple) (f :: r) _
      (first_ret_simple cfg) (drop_ne_descent _ ht) _ _

/-- **Has (the machine) is true exactly when Get is non-empty** — every configuration in which has.go's
descent has a case for every element (`hasTypedDescent` off: so since 21977aa), every tree, every path that
does not end in a bare descent. No condition on `descentSiblings`: the machines share the marker discipline. -/
theorem C11_has_machine (cfg : Cfg) (hd : cfg.hasTypedDescent = false) (x : List Frag) (d : JV)
    (ht : endsInDescent x = false) :
    hasMach cfg Rep.simple x d = !(getM cfg Rep.simple x d).isEmpty := by
  rw [hasMach_eq_isSome cfg Rep.simple hd (has_pushV_simple cfg), C11_first_machine cfg x d ht]
  cases getM cfg Rep.simple x d <;> rfl

/-- non-trivial instance of the hypothesis: `$..a[1:3][?]..b` does not end in a bare descent -/
example : endsInDescent [.descent, .child [97], .slice (some 1) (some 3) none, .filter (fun _ => true),
    .descent, .child [98]] = false := by decide

/-- **for the code as it is now**: the FirstFound machine returns the head of the Get machine's results, the
Has machine says whether there are any, and both are what the skeleton models `firstM`/`hasM` compute -/
theorem C11_first_has_machine_current (x : List Frag) (d : JV) (ht : endsInDescent x = false) :
    firstMach Cfg.pinned Rep.simple x d = (getM Cfg.pinned Rep.simple x d).head? ∧
    hasMach Cfg.pinned Rep.simple x d = !(getM Cfg.pinned Rep.simple x d).isEmpty ∧
    firstMach Cfg.pinned Rep.simple x d = firstM Cfg.pinned Rep.simple x d ∧
    hasMach Cfg.pinned Rep.simple x d = hasM Cfg.pinned Rep.simple x d :=
  ⟨C11_first_machine Cfg.pinned x d ht, C11_has_machine Cfg.pinned rfl x d ht,
   (C11_first_machine Cfg.pinned x d ht).trans (C11_first_current x d).symm,
   (C11_has_machine Cfg.pinned rfl x d ht).trans (C11_has_current x d).symm⟩

/-- the target once every recorded deviation is repaired (`Cfg.fixed`), for the two machines -/
theorem C11_first_has_machine_fixed (x : List Frag) (d : JV) (ht : endsInDescent x = false) :
    firstMach Cfg.fixed Rep.simple x d = (getM Cfg.fixed Rep.simple x d).head? ∧
    hasMach Cfg.fixed Rep.simple x d = !(getM Cfg.fixed Rep.simple x d).isEmpty :=
  ⟨C11_first_machine Cfg.fixed x d ht, C11_has_machine Cfg.fixed rfl x d ht⟩

/-- where the loops differ, outside the property: `$..` on `[]` — Get reports the node itself in the second
pass of a last descent, FirstFound and Has drop it (get.go FirstFound and has.go Has, `case Descent`, second pass:
the `else` branch only puts the element back for the next fragment) -/
theorem C11_first_machine_trailing_descent :
    (firstMach Cfg.pinned Rep.simple [.descent] (.arr [])).isSome = false ∧
    hasMach Cfg.pinned Rep.simple [.descent] (.arr []) = false ∧
    (getM Cfg.pinned Rep.simple [.descent] (.arr [])).length = 1 := by decide

/-! Locate and Expr.Walk: the model reports (normalized path, value); a normalized path is a list of member
names and absolute indexes by construction (`Path = List Loc`). With the flags of slice.go `startEndStep` off
(and, for Walk, `walkDescentNoSelf`) both report exactly the locations the path denotes, hence — by
`C05.C05_located` — exactly the locations of Get's results; as multisets: Locate visits a descent parents
first and a filter back to front, Get children first and front to back. -/

/-- the path-level form of `ClampFree`: the start clamp is off, or no slice of the path has a positive start -/
def ClampFreePath (cfg : Cfg) (x : List Frag) : Prop :=
  cfg.locStartClamp = false ∨ (cfg.locEmptyArray = false ∧ x.all lowStart = true)

theorem clampFree_of_path (cfg : Cfg) (x : List Frag) (h : ClampFreePath cfg x) : ∀ f ∈ x, ClampFree cfg f := by
  intro f hf
  rcases h with h | ⟨h1, h2⟩
  · exact Or.inl h
  · exact Or.inr ⟨h1, (List.all_eq_true.mp h2) f hf⟩

theorem C11_locate (cfg : Cfg) (hn : cfg.locNegEnd = false) (x : List Frag) (d : JV)
    (hc : ClampFreePath cfg x) (hx : x ≠ [] ∨ cfg.locateRoot = false)
    (ht : endsInDescent x = false) (hz : (jsize d : Int) ≤ maxEnd) :
    (locateM cfg Rep.simple x d).Perm (eval x d) ∧ Locate.fault cfg Rep.simple x d = false := by
  refine ⟨?_, locate_fault cfg hn x d (clampFree_of_path cfg x hc)⟩
  cases x with
  | nil =>
    rcases hx with h | h
    · exact absurd rfl h
    · simp [locateM, h, eval]
  | cons f r => exact locate_perm_eval cfg hn (f :: r) d (clampFree_of_path cfg _ hc) ht hz

/-- Locate against Get itself (the property's own comparison) -/
theorem C11_locate_get (cfg : Cfg) (hn : cfg.locNegEnd = false) (x : List Frag) (d : JV)
    (hc : ClampFreePath cfg x) (hx : x ≠ [] ∨ cfg.locateRoot = false)
    (hs : cfg.descentSiblings = false ∨ noDescAfter x = true)
    (he : cfg.innerEmptySlice = false ∨ x.dropLast.all narrow = true)
    (ht : endsInDescent x = false) (hz : (jsize d : Int) ≤ maxEnd) :
    (locateM cfg Rep.simple x d).Perm (getS cfg Rep.simple x d) := by
  rw [C05.C05_located cfg x d hs he ht hz]
  exact (C11_locate cfg hn x d hc hx ht hz).1

theorem C11_walk (cfg : Cfg) (hn : cfg.locNegEnd = false) (hw : cfg.walkDescentNoSelf = false)
    (x : List Frag) (d : JV) (hc : ClampFreePath cfg x)
    (ht : endsInDescent x = false) (hz : (jsize d : Int) ≤ maxEnd) :
    (walkM cfg Rep.simple x d).Perm (eval x d) :=
  walk_perm_eval cfg hn hw x d (clampFree_of_path cfg x hc) ht hz

theorem C11_walk_get (cfg : Cfg) (hn : cfg.locNegEnd = false) (hw : cfg.walkDescentNoSelf = false)
    (x : List Frag) (d : JV) (hc : ClampFreePath cfg x)
    (hs : cfg.descentSiblings = false ∨ noDescAfter x = true)
    (he : cfg.innerEmptySlice = false ∨ x.dropLast.all narrow = true)
    (ht : endsInDescent x = false) (hz : (jsize d : Int) ≤ maxEnd) :
    (walkM cfg Rep.simple x d).Perm (getS cfg Rep.simple x d) := by
  rw [C05.C05_located cfg x d hs he ht hz]
  exact C11_walk cfg hn hw x d hc ht hz

/-- **Locate and Walk for the code as it is now.** RESTRICTION FIRST: the theorem covers only paths in which
**no slice fragment has a positive start** (`lowStart`: start absent, 0 or negative) — slice.go `startEndStep`
clamps a start at or beyond the length to the last element (pinned by TestExprLocateAny), which Get does not,
and whether a positive start is beyond the length depends on the data; known finding C11-locate-start-clamp,
refuted in general by `C11_locate_full_false`. For the paths it covers, not ending in a bare descent: Locate
and Walk report exactly the locations of Get's results (as multisets) and Locate does not fault. -/
theorem C11_locate_walk_current (x : List Frag) (d : JV) (hlow : x.all lowStart = true)
    (ht : endsInDescent x = false) (hz : (jsize d : Int) ≤ maxEnd) :
    (locateM Cfg.pinned Rep.simple x d).Perm (getS Cfg.pinned Rep.simple x d) ∧
    Locate.fault Cfg.pinned Rep.simple x d = false ∧
    (walkM Cfg.pinned Rep.simple x d).Perm (getS Cfg.pinned Rep.simple x d) :=
  ⟨C11_locate_get Cfg.pinned rfl x d (Or.inr ⟨rfl, hlow⟩) (Or.inr rfl) (Or.inl rfl) (Or.inl rfl) ht hz,
   (C11_locate Cfg.pinned rfl x d (Or.inr ⟨rfl, hlow⟩) (Or.inr rfl) ht hz).2,
   C11_walk_get Cfg.pinned rfl rfl x d (Or.inr ⟨rfl, hlow⟩) (Or.inl rfl) (Or.inl rfl) ht hz⟩

/-- included: `$.a[:3]..b[-2:]`, `$[0:2]`, `$[-3::2]`; excluded: `$[1:3]`, `$.a[2:]`, `$[5:0:-1]` (a positive
start) -/
example : [Frag.slice (some 0) (some 2) none].all lowStart = true ∧
    [Frag.slice (some (-3)) none (some 2)].all lowStart = true ∧
    [Frag.slice (some 1) (some 3) none].all lowStart = false ∧
    [Frag.child [97], .slice (some 2) none none].all lowStart = false ∧
    [Frag.slice (some 5) (some 0) (some (-1))].all lowStart = false := by decide

/-- non-trivial instance of the hypotheses of `C11_locate_walk_current`: `$.a[:3]..b[-2:]` -/
example : [Frag.child [97], .slice none (some 3) none, .descent, .child [98], .slice (some (-2)) none none].all lowStart = true ∧
    endsInDescent [.child [97], .slice none (some 3) none, .descent, .child [98], .slice (some (-2)) none none] = false := by
  decide

/-- a normalized path run through Get (the code as it is now) yields exactly the element it addresses -/
theorem get_of_address (d : JV) (p : Path) (c : JV) (h : Addr d p c) (hz : (jsize d : Int) ≤ maxEnd) :
    getM Cfg.pinned Rep.simple (p.map Loc.toFrag) d = [c] := by
  rw [C05.C05_current _ d (toFrag_not_descent p) hz, evalV, h]
  rfl

/-- **"Locate and Walk report exactly the normalized paths whose individual Get yields those results"**, for
the code as it is now, on data whose objects have unique member names (`wf`; a Go map has), under the
restriction of `C11_locate_walk_current`: every reported location `(p, v)` is a list of member names and
absolute indexes (by type), `Get` of the path `p` (as `child`/`nth` fragments) on the same data returns exactly
`[v]`, and the reported values are, as a multiset, Get's results of the original path -/
theorem C11_locate_walk_addresses_current (x : List Frag) (d : JV) (hw : wf d = true)
    (hlow : x.all lowStart = true) (ht : endsInDescent x = false) (hz : (jsize d : Int) ≤ maxEnd) :
    (∀ m ∈ locateM Cfg.pinned Rep.simple x d, getM Cfg.pinned Rep.simple (m.1.map Loc.toFrag) d = [m.2]) ∧
    ((locateM Cfg.pinned Rep.simple x d).map (·.2)).Perm (getM Cfg.pinned Rep.simple x d) ∧
    (∀ m ∈ walkM Cfg.pinned Rep.simple x d, getM Cfg.pinned Rep.simple (m.1.map Loc.toFrag) d = [m.2]) ∧
    ((walkM Cfg.pinned Rep.simple x d).map (·.2)).Perm (getM Cfg.pinned Rep.simple x d) := by
  have hl := (C11_locate Cfg.pinned rfl x d (Or.inr ⟨rfl, hlow⟩) (Or.inr rfl) ht hz).1
  have hk := C11_walk Cfg.pinned rfl rfl x d (Or.inr ⟨rfl, hlow⟩) ht hz
  have hg : getM Cfg.pinned Rep.simple x d = (eval x d).map (·.2) := by rw [C05.C05_current x d ht hz]; rfl
  refine ⟨?_, ?_, ?_, ?_⟩
  · intro m hm
    exact get_of_address d m.1 m.2 (eval_address x d hw m (hl.mem_iff.mp hm)).1 hz
  · rw [hg]; exact hl.map _
  · intro m hm
    exact get_of_address d m.1 m.2 (eval_address x d hw m (hk.mem_iff.mp hm)).1 hz
  · rw [hg]; exact hk.map _

/-- the same without the restriction on slices, for the denotation itself: every located element of
`Spec.eval` is addressed by its path (`eval_address`) -/
theorem C11_eval_addresses (x : List Frag) (d : JV) (hw : wf d = true) :
    ∀ m ∈ eval x d, eval (m.1.map Loc.toFrag) d = [m] :=
  fun m hm => (eval_address x d hw m hm).1

/-- non-trivial instance of `wf`: `{"a":[{"b":1},{"b":2}],"c":{}}`; a repeated name is not well-formed -/
example : wf (.obj [([97], .arr [.obj [([98], .int 1)], .obj [([98], .int 2)]]), ([99], .obj [])]) = true ∧
    wf (.obj [([97], .int 1), ([97], .int 2)]) = false := by decide

/-- every flag off: every path not ending in a bare descent -/
theorem C11_locate_walk_fixed (x : List Frag) (d : JV) (ht : endsInDescent x = false)
    (hz : (jsize d : Int) ≤ maxEnd) :
    (locateM Cfg.fixed Rep.simple x d).Perm (getS Cfg.fixed Rep.simple x d) ∧
    (walkM Cfg.fixed Rep.simple x d).Perm (getS Cfg.fixed Rep.simple x d) :=
  ⟨C11_locate_get Cfg.fixed rfl x d (Or.inl rfl) (Or.inr rfl) (Or.inl rfl) (Or.inl rfl) ht hz,
   C11_walk_get Cfg.fixed rfl rfl x d (Or.inl rfl) (Or.inl rfl) (Or.inl rfl) ht hz⟩

def C11_locate_full (cfg : Cfg) : Prop :=
  ∀ (x : List Frag) (d : JV), endsInDescent x = false → (jsize d : Int) ≤ maxEnd →
    (locateM cfg Rep.simple x d).Perm (getS cfg Rep.simple x d)

def C11_walk_full (cfg : Cfg) : Prop :=
  ∀ (x : List Frag) (d : JV), endsInDescent x = false → (jsize d : Int) ≤ maxEnd →
    (walkM cfg Rep.simple x d).Perm (getS cfg Rep.simple x d)

/-- `$[5:0:-1]` on `[1,2,3]`: the start is clamped to the last element, Locate and Walk report `$[2] $[1]`,
Get nothing (still so: pinned by TestExprLocateAny) -/
def w8path : List Frag := [.slice (some 5) (some 0) (some (-1))]
def w8data : JV := .arr [.int 1, .int 2, .int 3]

theorem C11_locate_full_false : ¬ C11_locate_full Cfg.pinned := by
  intro h
  have h1 := (h w8path w8data (by decide) (by decide)).length_eq
  have h2 : (locateM Cfg.pinned Rep.simple w8path w8data).length = 2 := by decide
  have h3 : (getS Cfg.pinned Rep.simple w8path w8data).length = 0 := by decide
  omega

theorem C11_walk_full_false : ¬ C11_walk_full Cfg.pinned := by
  intro h
  have h1 := (h w8path w8data (by decide) (by decide)).length_eq
  have h2 : (walkM Cfg.pinned Rep.simple w8path w8data).length = 2 := by decide
  have h3 : (getS Cfg.pinned Rep.simple w8path w8data).length = 0 := by decide
  omega

/-- `$[0:-1]` on `[1,2,3]`: before fa2ed77 Locate reported three locations, Get two elements; now two -/
def w5path : List Frag := [.slice (some 0) (some (-1)) none]
def w5data : JV := .arr [.int 1, .int 2, .int 3]

theorem C11_locate_negative_end_before_fa2ed77 :
    (locateM Cfg.original Rep.simple w5path w5data).length = 3 ∧
    (getS Cfg.original Rep.simple w5path w5data).length = 2 ∧
    (locateM Cfg.pinned Rep.simple w5path w5data).length = 2 := by decide

/-- `$..a` on `{"a":1}`: before 5d79291 Walk reported nothing; now the one location -/
def w6path : List Frag := [.descent, .child [97]]
def w6data : JV := .obj [([97], .int 1)]

theorem C11_walk_descent_self_before_5d79291 :
    (walkM Cfg.original Rep.simple w6path w6data).length = 0 ∧
    (getS Cfg.original Rep.simple w6path w6data).length = 1 ∧
    (walkM Cfg.pinned Rep.simple w6path w6data).length = 1 := by decide

/-! `locateRec`/`walkRecM` (JPath/Machines.lean) transcribe the per-fragment `locate` and `Walk` methods: recursion
on the rest of the path, the descent walking the tree, Locate's budget `max` threaded through
`locateContinueFrag`. They are proved equal to the skeleton models `locateM`/`walkM`, so every statement above
about `locateM`/`walkM` is a statement about these programs. -/

/-- **the recursive Walk methods are the skeleton model**: every configuration, representation tag, path, tree -/
theorem C11_walk_recursive (cfg : Cfg) (rep : Rep) (x : List Frag) (d : JV) :
    walkRecM cfg rep x d = walkM cfg rep x d :=
  walkRec_eq_evalSel cfg rep x d

/-- **the recursive locate methods without a budget (`max ≤ 0`) are the skeleton model**: every configuration
and representation tag in which the descent sees the members of every object (`typedMapWild` off or not a
typed map), every path that does not end in a bare descent, every tree -/
theorem C11_locate_recursive (cfg : Cfg) (rep : Rep)
    (hcut : (cfg.typedMapWild && decide (rep.ok = OKind.rmap)) = false) (max : Int) (hm : max ≤ 0)
    (x : List Frag) (d : JV) (ht : endsInDescent x = false) :
    locateRec cfg rep x max d = locateM cfg rep x d := by
  cases x with
  | nil => rfl
  | cons f r => exact locRec_eq_evalSel cfg rep hcut max hm (f :: r) d (by simp) ht

/-- **Locate and Walk, the recursive programs, for the code as it is now**, under the restriction of
`C11_locate_walk_current` (no slice with a positive start, no trailing bare descent): they report exactly the
locations of Get's results (as multisets) -/
theorem C11_locate_walk_recursive_current (x : List Frag) (d : JV) (hlow : x.all lowStart = true)
    (ht : endsInDescent x = false) (hz : (jsize d : Int) ≤ maxEnd) :
    (locateRec Cfg.pinned Rep.simple x 0 d).Perm (getS Cfg.pinned Rep.simple x d) ∧
    (walkRecM Cfg.pinned Rep.simple x d).Perm (getS Cfg.pinned Rep.simple x d) := by
  rw [C11_locate_recursive Cfg.pinned Rep.simple rfl 0 (by omega) x d ht, C11_walk_recursive]
  exact ⟨(C11_locate_walk_current x d hlow ht hz).1, (C11_locate_walk_current x d hlow ht hz).2.2⟩

/-- the budget, on `[1,2,3,4]`: `$[*]` with `max = 1` returns one path; `$[0:3]` with `max = 1` returns three —
a slice in the last position has no budget test (slice.go:439-441; the doc comment of `Locate` says "limited to
the max specified"; the property does not speak of `max`) -/
theorem C11_locate_budget_witness :
    (locateRec Cfg.pinned Rep.simple [.wild] 1 (.arr [.int 1, .int 2, .int 3, .int 4])).length = 1 ∧
    (locateRec Cfg.pinned Rep.simple [.slice (some 0) (some 3) none] 1 (.arr [.int 1, .int 2, .int 3, .int 4])).length = 3 ∧
    (locateRec Cfg.pinned Rep.simple [.descent] 2 (.arr [.arr [.int 1, .int 2], .arr [.int 3]])).length = 2 := by
  decide

/-- **Locate respects its budget on every path without a slice fragment**: for `max > 0` the recursive `locate`
methods return at most `max` paths — every configuration, representation tag and tree. (With a slice the claim is
false: `C11_locate_budget_witness`. "The returned slice is limited to the max specified" is Locate's doc comment; the
property C11 does not speak of `max`.) -/
theorem C11_locate_budget (cfg : Cfg) (rep : Rep) (x : List Frag) (hx : x.all noSlice = true)
    (max : Int) (hm : 0 < max) (d : JV) : ((locateRec cfg rep x max d).length : Int) ≤ max := by
  cases x with
  | nil => simp only [locateRec]; split <;> simp <;> omega
  | cons f r => exact locRec_le cfg rep (f :: r) hx max d hm

/-- non-trivial instance of the hypothesis: `$..a[*][?].b[1,2]` has no slice fragment -/
example : [Frag.descent, .child [97], .wild, .filter (fun _ => true), .child [98], .union [.idx 1, .idx 2]].all noSlice = true := by
  decide

/-- **GetNodes is Get on gen data** (node.go's flags and `innerEmptySlice` off, and no descent after a
fragment while `descentSiblings` is on: node.go's descent has no case for a non-container) -/
theorem C11_nodes (cfg : Cfg) (he : cfg.innerEmptySlice = false) (hu : cfg.nodesUnionNil = false)
    (hr : cfg.nodesFilterRev = false) (hz : cfg.nodesFilterNull = false) (x : List Frag) (d : JV)
    (hs : cfg.descentSiblings = false ∨ noDescAfter x = true) :
    nodesM cfg x d = getM cfg Rep.gen x d := by
  rw [C05.machine_eq_skeleton cfg Rep.gen (gen_not_cut cfg)]
  simp only [nodesM, getS]
  rw [evalSel_congr (Nodes.sel cfg) (Get.sel cfg Rep.gen) cfg.descentSiblings
    (nodes_inner cfg he hz) (nodes_last cfg hu hr hz) x d (Or.inr hs)]

/-- FirstNode returns the first of GetNodes' results (flags `firstNodeLast`, `nodesUnionNil`,
`nodesFilterRev` off) -/
theorem C11_firstnode (cfg : Cfg) (hl : cfg.firstNodeLast = false) (hu : cfg.nodesUnionNil = false)
    (hr : cfg.nodesFilterRev = false) (x : List Frag) (d : JV) :
    firstNodeM cfg x d = (nodesM cfg x d).head? := by
  exact evalSel_first (FirstNode.sel cfg) (Nodes.sel cfg) _ (fun _ _ => rfl)
    (fun f v => by simp only [FirstNode.sel, Nodes.sel, firstNode_last cfg hl hu hr, head?_map_take_one])
    x d (Or.inl rfl)

/-- **Get on a representation selects the corresponding elements** whenever none of the three flagged branch tables
is reached: the inner slice push with the truncated division and another clamp (`innerEmptySlice` on `gen.Array` and
typed data), the cut descent of a typed map (`typedMapWild`), the filter on typed objects (`typedObjFilter`). The
statements per representation below are its instances. -/
theorem getM_rep (cfg : Cfg) (rep : Rep) (he : cfg.innerEmptySlice = false ∨ rep.ak = .any ∨ rep.ak = .indexed)
    (hcut : (cfg.typedMapWild && decide (rep.ok = OKind.rmap)) = false)
    (hfil : (cfg.typedObjFilter && rep.ok.typed) = false) (x : List Frag) (d : JV) :
    getM cfg rep x d = getM cfg Rep.simple x d := by
  rw [C05.machine_eq_skeleton cfg rep hcut, C05.machine_eq_skeleton cfg Rep.simple (simple_not_cut cfg), getS, getS,
    get_sel_rep cfg rep he hcut hfil]

/-- **Get on gen nodes selects the corresponding elements** (`innerEmptySlice` off: get.go clamps the end
of a `gen.Array` slice for a positive step only, which moves the deviation) -/
theorem C11_repr_gen (cfg : Cfg) (he : cfg.innerEmptySlice = false) (x : List Frag) (d : JV) :
    getM cfg Rep.gen x d = getM cfg Rep.simple x d :=
  getM_rep cfg Rep.gen (Or.inl he) (gen_not_cut cfg) (by cases cfg.typedObjFilter <;> rfl) x d

/-- **Get on user Indexed/Keyed collections selects the corresponding elements** (every configuration) -/
theorem C11_repr_user (cfg : Cfg) (x : List Frag) (d : JV) :
    getM cfg ⟨.indexed, .keyed⟩ x d = getM cfg Rep.simple x d :=
  getM_rep cfg _ (Or.inr (Or.inr rfl)) (by cases cfg.typedMapWild <;> rfl) (by cases cfg.typedObjFilter <;> rfl) x d

/-- **for the code as it is now**: GetNodes is Get on gen data, FirstNode the first of it, Get on gen data is
Get on simple data — every path, every tree -/
theorem C11_nodes_current (x : List Frag) (d : JV) :
    nodesM Cfg.pinned x d = getM Cfg.pinned Rep.gen x d ∧
    firstNodeM Cfg.pinned x d = (nodesM Cfg.pinned x d).head? ∧
    getM Cfg.pinned Rep.gen x d = getM Cfg.pinned Rep.simple x d ∧
    getM Cfg.pinned ⟨.indexed, .keyed⟩ x d = getM Cfg.pinned Rep.simple x d :=
  ⟨C11_nodes Cfg.pinned rfl rfl rfl rfl x d (Or.inl rfl), C11_firstnode Cfg.pinned rfl rfl rfl x d,
   C11_repr_gen Cfg.pinned rfl x d, C11_repr_user Cfg.pinned x d⟩

def C11_nodes_full (cfg : Cfg) : Prop := ∀ (x : List Frag) (d : JV), nodesM cfg x d = getM cfg Rep.gen x d

/-- `$[5,0]` on `[7]`: before 360668e GetNodes returned a nil and the element -/
def w7path : List Frag := [.union [.idx 5, .idx 0]]
def w7data : JV := .arr [.int 7]

theorem C11_nodes_full_false_before_360668e : ¬ C11_nodes_full Cfg.original := by
  intro h
  have h1 := congrArg List.length (h w7path w7data)
  have h2 : (nodesM Cfg.original w7path w7data).length = 2 := by decide
  have h3 : (getM Cfg.original Rep.gen w7path w7data).length = 1 := by decide
  omega

/-- **the GetNodes machine** (`nodesMach`: Get's round with node.go's one difference in control flow — a leaf handed
to a descent is dropped, there is no `default:` arm) **computes the skeleton model `nodesM`**, hence, for the code as
it is now, is Get on gen data and Get on the plain data: every tree, every path not ending in a bare descent -/
theorem C11_nodes_machine (cfg : Cfg) (hs : cfg.descentSiblings = false) (x : List Frag) (d : JV)
    (ht : endsInDescent x = false) : nodesMach cfg x d = nodesM cfg x d :=
  nodesMach_eq_nodesM cfg hs x d ht

theorem C11_nodes_machine_current (x : List Frag) (d : JV) (ht : endsInDescent x = false) :
    nodesMach Cfg.pinned x d = getM Cfg.pinned Rep.gen x d ∧
    nodesMach Cfg.pinned x d = getM Cfg.pinned Rep.simple x d := by
  have h := C11_nodes_current x d
  rw [C11_nodes_machine Cfg.pinned rfl x d ht]
  exact ⟨h.1, h.1.trans h.2.2.1⟩

/-- **the FirstNode machine** (`firstNodeMach`: FirstFound's round with node.go's dropped-leaf branch) **returns the
first of what the GetNodes machine returns** (node.go's flags off: since 360668e; every configuration of the others),
hence, for the code as it is now, the first of Get's results on the plain data -/
theorem C11_firstnode_machine (cfg : Cfg) (hl : cfg.firstNodeLast = false) (hu : cfg.nodesUnionNil = false)
    (hr : cfg.nodesFilterRev = false) (x : List Frag) (d : JV) (ht : endsInDescent x = false) :
    firstNodeMach cfg x d = (nodesMach cfg x d).head? :=
  firstNodeMach_eq_head cfg hl hu hr x d ht

theorem C11_firstnode_machine_current (x : List Frag) (d : JV) (ht : endsInDescent x = false) :
    firstNodeMach Cfg.pinned x d = (getM Cfg.pinned Rep.simple x d).head? := by
  rw [C11_firstnode_machine Cfg.pinned rfl rfl rfl x d ht, (C11_nodes_machine_current x d ht).2]

/-! With `typedMapWild` (927d89c) and `typedObjFilter` (c654348) off, Get's selection functions on typed slices,
arrays, structs and maps are those on `[]any`/`map[string]any` (the slice code of `reflectGetSlice` visits the
same indexes: `rnorm_idx`), so Get on every representation is Get on the simple data. -/

/-- **Get on any representation selects the corresponding elements** (flags `innerEmptySlice`,
`typedMapWild`, `typedObjFilter` off) -/
theorem C11_repr (cfg : Cfg) (he : cfg.innerEmptySlice = false) (hm : cfg.typedMapWild = false)
    (ht : cfg.typedObjFilter = false) (rep : Rep) (x : List Frag) (d : JV) :
    getM cfg rep x d = getM cfg Rep.simple x d :=
  getM_rep cfg rep (Or.inl he) (by simp [hm]) (by simp [ht]) x d

/-- **for the code as it is now**: Get on gen nodes, Indexed/Keyed collections, typed slices, arrays, structs
and maps is Get on the simple data — every representation, every path, every tree -/
theorem C11_repr_current (rep : Rep) (x : List Frag) (d : JV) :
    getM Cfg.pinned rep x d = getM Cfg.pinned Rep.simple x d :=
  C11_repr Cfg.pinned rfl rfl rfl rep x d

/-- `$.*` on `{"a":1}` held as `map[string]int64`: before 927d89c Get saw no member; now one -/
theorem C11_typed_map_before_927d89c :
    (getS Cfg.original ⟨.rslice, .rmap⟩ [.wild] (.obj [([97], .int 1)])).length = 0 ∧
    (getS Cfg.pinned ⟨.rslice, .rmap⟩ [.wild] (.obj [([97], .int 1)])).length = 1 := by decide

/-- `$[?(true)]` on `{"a":1}` held as a struct: before c654348 the filter selected nothing; now the member -/
theorem C11_typed_filter_before_c654348 :
    (getS Cfg.original ⟨.rslice, .struct⟩ [.filter (fun _ => true)] (.obj [([97], .int 1)])).length = 0 ∧
    (getS Cfg.pinned ⟨.rslice, .struct⟩ [.filter (fun _ => true)] (.obj [([97], .int 1)])).length = 1 ∧
    (walkM Cfg.original ⟨.rslice, .struct⟩ [.filter (fun _ => true)] (.obj [([97], .int 1)])).length = 0 ∧
    (walkM Cfg.pinned ⟨.rslice, .struct⟩ [.filter (fun _ => true)] (.obj [([97], .int 1)])).length = 1 := by decide

/-- `$[0:2]` on `[1,2,3]` held as a typed array: before 6f19325 Walk reported nothing; now two locations -/
theorem C11_walk_typed_array_before_6f19325 :
    (walkM Cfg.original ⟨.rarray, .struct⟩ [.slice (some 0) (some 2) none] (.arr [.int 1, .int 2, .int 3])).length = 0 ∧
    (walkM Cfg.pinned ⟨.rarray, .struct⟩ [.slice (some 0) (some 2) none] (.arr [.int 1, .int 2, .int 3])).length = 2 := by
  decide

/-- `$[*][0]` on `[[],[7]]` held as typed slices: before 6d09ec9 FirstFound and Has searched element 0 only -/
theorem C11_first_typed_wildcard_before_6d09ec9 :
    firstM Cfg.original ⟨.rslice, .struct⟩ [.wild, .nth 0] (.arr [.arr [], .arr [.int 7]]) = none ∧
    hasM Cfg.original ⟨.rslice, .struct⟩ [.wild, .nth 0] (.arr [.arr [], .arr [.int 7]]) = false ∧
    (firstM Cfg.pinned ⟨.rslice, .struct⟩ [.wild, .nth 0] (.arr [.arr [], .arr [.int 7]])).isSome = true ∧
    hasM Cfg.pinned ⟨.rslice, .struct⟩ [.wild, .nth 0] (.arr [.arr [], .arr [.int 7]]) = true := by decide

/-- still so (pinned by TestExprFirst/TestExprHas): on typed data FirstFound and Has read a slice fragment as
`Nth(start)`: `$[1:1]` on `[1,2,3]` finds `2`, Get nothing -/
theorem C11_first_typed_slice_witness :
    (firstM Cfg.pinned ⟨.rslice, .struct⟩ [.slice (some 1) (some 1) none] (.arr [.int 1, .int 2, .int 3])).isSome = true ∧
    hasM Cfg.pinned ⟨.rslice, .struct⟩ [.slice (some 1) (some 1) none] (.arr [.int 1, .int 2, .int 3]) = true ∧
    (getM Cfg.pinned ⟨.rslice, .struct⟩ [.slice (some 1) (some 1) none] (.arr [.int 1, .int 2, .int 3])).length = 0 := by
  decide

/-- **the FirstFound machine computes the skeleton model on every representation tag** (so every statement about
`firstM` is one about the machine): every configuration, every tree, every path not ending in a bare descent -/
theorem C11_first_machine_skeleton (cfg : Cfg) (rep : Rep)
    (hcut : (cfg.typedMapWild && decide (rep.ok = OKind.rmap)) = false)
    (x : List Frag) (d : JV) (ht : endsInDescent x = false) :
    firstMach cfg rep x d = firstM cfg rep x d :=
  firstMach_eq_firstM cfg rep hcut x d ht

/-- the same for Has (has.go's kind lists complete: `hasTypedMap`, `hasTypedDescent` off, since 21977aa) -/
theorem C11_has_machine_skeleton (cfg : Cfg) (rep : Rep) (hd : cfg.hasTypedDescent = false)
    (hh : cfg.hasTypedMap = false) (hcut : (cfg.typedMapWild && decide (rep.ok = OKind.rmap)) = false)
    (x : List Frag) (d : JV) (ht : endsInDescent x = false) :
    hasMach cfg rep x d = hasM cfg rep x d :=
  hasMach_eq_hasM cfg rep hd hh hcut x d ht

/-- **FirstFound and Has on gen nodes and on user Indexed/Keyed collections** (every representation tag whose
array and object kinds are not reached by reflection), the machines, every configuration with has.go's kind
lists complete, every tree, every path not ending in a bare descent: the first of / whether there are results
of Get on the plain data -/
theorem C11_first_has_untyped (cfg : Cfg) (hd : cfg.hasTypedDescent = false) (hh : cfg.hasTypedMap = false)
    (rep : Rep) (ha : rep.ak.typed = false) (ho : rep.ok.typed = false)
    (x : List Frag) (d : JV) (ht : endsInDescent x = false) :
    firstMach cfg rep x d = (getM cfg Rep.simple x d).head? ∧
    hasMach cfg rep x d = !(getM cfg Rep.simple x d).isEmpty := by
  have hcut : (cfg.typedMapWild && decide (rep.ok = OKind.rmap)) = false := by
    have := (untyped_facts rep ha ho).1
    simp [this]
  refine ⟨?_, ?_⟩
  · rw [firstMach_eq_firstM cfg rep hcut x d ht, ← C11_first cfg x d]
    simp only [firstM, first_sel_untyped cfg rep ha ho]
  · rw [hasMach_eq_hasM cfg rep hd hh hcut x d ht, ← C11_has_machine cfg hd x d ht,
      hasMach_eq_hasM cfg Rep.simple hd hh (simple_not_cut cfg) x d ht]
    simp only [hasM, has_sel_untyped cfg rep ha ho]

/-- the hypotheses hold for gen data and for Indexed/Keyed collections -/
example : (Rep.gen.ak.typed = false ∧ Rep.gen.ok.typed = false) ∧
    ((⟨.indexed, .keyed⟩ : Rep).ak.typed = false ∧ (⟨.indexed, .keyed⟩ : Rep).ok.typed = false) := by decide

/-- **FirstFound and Has on typed slices and arrays, for the code as it is now, exactly.** The one deviation
left (`firstTypedSlice`, pinned by TestExprFirst/TestExprHas) is that a slice fragment `[s:e:t]` is read as the
index `[s]` (`typedView`; nothing if the step is written 0). With that reading of the path, on every typed
representation (typed slice or array; struct or typed map), every path not ending in a bare descent, every
tree: **Has (the machine) is true exactly when Get — on the plain `[]any`/`map[string]any` data — has a result
for the viewed path**, and, when the objects are not structs (`reflectGetWildOne` returns the last field of a
struct, so the order differs there), **FirstFound (the machine) returns the first of those results**. -/
theorem C11_typed_first_has_current (rep : Rep) (hty : rep.ak.typed = true) (x : List Frag) (d : JV)
    (ht : endsInDescent x = false) :
    hasMach Cfg.pinned rep x d = !(getM Cfg.pinned Rep.simple (x.map typedView) d).isEmpty ∧
    (rep.ok ≠ OKind.struct →
      firstMach Cfg.pinned rep x d = (getM Cfg.pinned Rep.simple (x.map typedView) d).head?) := by
  have hg : getM Cfg.pinned Rep.simple (x.map typedView) d
      = (getS Cfg.pinned rep (x.map typedView) d).map (·.2) := by
    rw [← C11_repr_current rep, C05.machine_eq_skeleton Cfg.pinned rep rfl]
  refine ⟨?_, ?_⟩
  · rw [hasMach_eq_hasM Cfg.pinned rep rfl rfl rfl x d ht, has_typed_view Cfg.pinned rep hty rfl rfl rfl rfl rfl x d, hg]
    simp
  · intro hst
    rw [firstMach_eq_firstM Cfg.pinned rep rfl x d ht, first_typed_view Cfg.pinned rep hty rfl rfl rfl hst x d, hg]

/-- the view is the identity on a path without a slice fragment -/
theorem typedView_noSlice (x : List Frag) (h : x.all (fun f => match f with | .slice _ _ _ => false | _ => true) = true) :
    x.map typedView = x := by
  induction x with
  | nil => rfl
  | cons f t ih =>
    simp only [List.all_cons, Bool.and_eq_true] at h
    rw [List.map_cons, ih h.2]
    cases f with
    | slice s e t => simp at h
    | _ => rfl

/-- **C11 for First/Has on typed representations, paths without a slice fragment** (the code as it is now):
Has ⇔ Get non-empty, FirstFound = the first of Get's results (objects not structs) -/
theorem C11_typed_no_slice_current (rep : Rep) (hty : rep.ak.typed = true) (x : List Frag) (d : JV)
    (hns : x.all (fun f => match f with | .slice _ _ _ => false | _ => true) = true)
    (ht : endsInDescent x = false) :
    hasMach Cfg.pinned rep x d = !(getM Cfg.pinned Rep.simple x d).isEmpty ∧
    (rep.ok ≠ OKind.struct → firstMach Cfg.pinned rep x d = (getM Cfg.pinned Rep.simple x d).head?) := by
  have h := C11_typed_first_has_current rep hty x d ht
  rwa [typedView_noSlice x hns] at h

/-- non-trivial instances: `$..a[1:3][?]` viewed is `$..a[1][?]`; `$[::0]` viewed selects nothing; the
hypotheses hold for `⟨typed slice, typed map⟩` and `$..a[*].b` -/
example : (AK.typed (Rep.ak ⟨.rslice, .rmap⟩) = true) ∧ (Rep.ok ⟨.rslice, .rmap⟩ ≠ OKind.struct) ∧
    endsInDescent [.descent, .child [97], .wild, .child [98]] = false ∧
    [Frag.descent, .child [97], .wild, .child [98]].all (fun f => match f with | .slice _ _ _ => false | _ => true) = true := by
  decide

/-! The model evaluators are functions of (path, data). A parsed `jp.Expr` is a Go value that callers keep and
reuse; an evaluator that wrote into it (seeded C11-m7: `Filter.withRoot` rooting the caller's filter in place, so
that `Get(docB)` after `Locate(docA)` read `$` from docA) would make the answer depend on the calls made before. **Nothing in the Lean model can express that**: the
model evaluators take the path as a value and return only results. The statement below records exactly this —
in the model a sequence of calls on one path is answered call by call — so that it is clear what the theorems of
this file do *not* cover: that the Go evaluators leave the Expr alone is checked by the run (stream `history`:
one parsed Expr, a sequence of calls over three documents, each compared with a freshly parsed Expr) and by
the tripwire `exprNotWritten` of `pinned_is_source`. -/

inductive Call where
  | get | first | has | locate | walk | nodes | firstnode
  deriving DecidableEq

/-- the union of the answer shapes of the evaluators: a call fills its own field, the others keep their defaults -/
structure Ans where
  vals : List JV := []
  located : List (Path × JV) := []
  found : Option JV := none
  has : Bool := false

/-- what a call answers in the model (for the code as it is now): the machines / recursive programs; the node.go
pair is answered by the skeleton models `nodesM`/`firstNodeM` (`nodesMach`/`firstNodeMach` would serve as well:
`model_history_independent` does not look inside) -/
def answerOf (rep : Rep) (x : List Frag) (c : Call) (d : JV) : Ans :=
  match c with
  | .get => { vals := getM Cfg.pinned rep x d }
  | .first => { found := firstMach Cfg.pinned rep x d }
  | .has => { has := hasMach Cfg.pinned rep x d }
  | .locate => { located := locateRec Cfg.pinned rep x 0 d }
  | .walk => { located := walkRecM Cfg.pinned rep x d }
  | .nodes => { vals := nodesM Cfg.pinned x d }
  | .firstnode => { found := firstNodeM Cfg.pinned x d }

/-- one path value through a sequence of calls on any documents: the model has no state to carry -/
def answerAll (rep : Rep) (x : List Frag) : List (Call × JV) → List Ans
  | [] => []
  | (c, d) :: r => answerOf rep x c d :: answerAll rep x r

/-- **history independence of the model** (by construction — see the comment above `Call` for what this does and
does not say): the answer to the `i`-th call depends on that call's evaluator and document only -/
theorem model_history_independent (rep : Rep) (x : List Frag) (h : List (Call × JV)) :
    answerAll rep x h = h.map fun cd => answerOf rep x cd.1 cd.2 := by
  induction h with
  | nil => rfl
  | cons a t ih => obtain ⟨c, d⟩ := a; simp [answerAll, ih]

/-- A **regression tripwire**, not a proof about the code: `Gen.JpathFacts` holds one Bool per deviation,
computed by the extractor by searching the printed function bodies of jp/*.go for the line a repair put in or
took out (tools/extract/jpath.go); this theorem is `decide` over those Bools. It says `Cfg.pinned` carries
exactly the deviations whose tell-tale lines are in the source now, so undoing a repair (or repairing one of
the pinned deviations) breaks the build. That the model matches the code otherwise is the run's business. -/
theorem pinned_is_source :
    Cfg.pinned.innerEmptySlice = Gen.JpathFacts.innerEmptySlice ∧
    Cfg.pinned.descentSiblings = Gen.JpathFacts.descentSiblings ∧
    Cfg.pinned.locNegEnd = Gen.JpathFacts.locNegEnd ∧
    Cfg.pinned.locStartClamp = Gen.JpathFacts.locStartClamp ∧
    Cfg.pinned.locEmptyArray = Gen.JpathFacts.locEmptyArray ∧
    Cfg.pinned.locateRoot = Gen.JpathFacts.locateRoot ∧
    Cfg.pinned.walkDescentNoSelf = Gen.JpathFacts.walkDescentNoSelf ∧
    Cfg.pinned.nodesUnionNil = Gen.JpathFacts.nodesUnionNil ∧
    Cfg.pinned.nodesFilterRev = Gen.JpathFacts.nodesFilterRev ∧
    Cfg.pinned.firstNodeLast = Gen.JpathFacts.firstNodeLast ∧
    Cfg.pinned.nodesFilterNull = Gen.JpathFacts.nodesFilterNull ∧
    Cfg.pinned.typedMapWild = Gen.JpathFacts.typedMapWild ∧
    Cfg.pinned.typedObjFilter = Gen.JpathFacts.typedObjFilter ∧
    Cfg.pinned.firstTypedSlice = Gen.JpathFacts.firstTypedSlice ∧
    Cfg.pinned.firstTypedWildOne = Gen.JpathFacts.firstTypedWildOne ∧
    Cfg.pinned.hasTypedMap = Gen.JpathFacts.hasTypedMap ∧
    Cfg.pinned.hasTypedDescent = Gen.JpathFacts.hasTypedDescent ∧
    Cfg.pinned.walkTypedArray = Gen.JpathFacts.walkTypedArray ∧
    Cfg.pinned.nestedFilterRoot = Gen.JpathFacts.nestedFilterRoot ∧
    Cfg.pinned.locFilterRootNil = Gen.JpathFacts.locFilterRootNil ∧
    Cfg.pinned.walkFilterRootSelf = Gen.JpathFacts.walkFilterRootSelf ∧
    -- not a flag: Get, FirstFound, Has, GetNodes and FirstNode hand their own argument to a filter as its root
    Gen.JpathFacts.filterRootIsArgument = true ∧
    -- not a flag: no evaluator (nor Filter.withRoot / Expr.rootedFilters / nestedRoot) writes through the Expr or
    -- Filter it is given; rooting a filter makes a new one (seeded C11-m7 rooted the caller's filter in place)
    Gen.JpathFacts.exprNotWritten = true ∧
    -- not flags (mixed data and pointers are outside the model): the descent case of Get, FirstFound and Has gives
    -- every member it pushes a marker of its own (172dffb), a filter follows a pointer (46bed20)
    Gen.JpathFacts.descentMarkerMissing = false ∧
    Gen.JpathFacts.filterPointerBlind = false := by decide

end OjgVerif.C11
