import OjgVerif.Sen.LemmasWriter
import OjgVerif.Sen.WriterStream
/-! # C10 — `sen.Write` with any `WriteLimit` writes the text of `sen.String`

`C10_stream`: for every tree, every option combination (tight or indented) and every `WriteLimit`, the chunks the
model of `sen.Write` hands to the `io.Writer` (`Sen.senWriteTo`, Sen/WriterStream.lean: the buffer, the flush at the end
of every `appendSEN`, the overwrite `wr.buf[len(wr.buf)-1] = ']'` of the tight functions) joined together are exactly
`Sen.senWrite o io v`, and no index goes out of range (the byte the tight functions overwrite is the blank appended
after the last `appendSEN`, i.e. after the last possible flush). With it every theorem about `senWrite`
(`C10_layout_partial`, `C10_top_partial`) is a theorem about what `sen.Write` writes. No restriction on the tree
(all leaf kinds, no `admVal`). -/
namespace OjgVerif.Sen

/-- `s'` is `s` after `t` has been written: the bytes handed out and buffered so far have grown by `t` — wherever the
flushes fell — and no index went out of range on the way -/
def Wr (s s' : WS) (t : Bytes) : Prop := s'.bad = s.bad ∧ s'.total = s.total ++ t

theorem total_push (s : WS) (bs : Bytes) : (s.push bs).total = s.total ++ bs := by
  simp [WS.push, WS.total, List.append_assoc]

theorem bad_push (s : WS) (bs : Bytes) : (s.push bs).bad = s.bad := rfl

theorem total_flush (lim : Nat) (s : WS) : (s.flush lim).total = s.total := by
  unfold WS.flush
  split
  · simp [WS.total]
  · rfl

theorem bad_flush (lim : Nat) (s : WS) : (s.flush lim).bad = s.bad := by
  unfold WS.flush
  split <;> rfl

theorem Wr.refl (s : WS) : Wr s s [] := ⟨rfl, (List.append_nil _).symm⟩

theorem Wr.push (s : WS) (bs : Bytes) : Wr s (s.push bs) bs := ⟨bad_push s bs, total_push s bs⟩

theorem Wr.trans {s s1 s2 : WS} {t1 t2 : Bytes} (h1 : Wr s s1 t1) (h2 : Wr s1 s2 t2) : Wr s s2 (t1 ++ t2) :=
  ⟨h2.1.trans h1.1, by rw [h2.2, h1.2, List.append_assoc]⟩

theorem Wr.flush {s s' : WS} {t : Bytes} (h : Wr s s' t) (lim : Nat) : Wr s (s'.flush lim) t :=
  ⟨(bad_flush lim s').trans h.1, (total_flush lim s').trans h.2⟩

theorem Wr.setLast (s : WS) (c : UInt8) : Wr s ((s.push [32]).setLast c) [c] := by
  have hne : (s.buf ++ [32]).isEmpty = false := by simp
  simp [Wr, WS.setLast, WS.push, WS.total, hne, List.append_assoc]

theorem Wr.blank (s : WS) (b : Bool) : Wr s (if b then s.push [32] else s) (if b then [32] else []) := by
  cases b
  · exact Wr.refl s
  · exact Wr.push s [32]

/-- the text of `sen.String` at depth `d` -/
def senText (o : WOpts) (io : IOpts) (d : Nat) (v : JV) : Bytes :=
  if usesIndented io then indentVal o io d v else tightVal o v

def SV (o : WOpts) (io : IOpts) (lim : Nat) (v : JV) : Prop :=
  ∀ (d : Nat) (s : WS), Wr s (wVal o io lim d v s) (senText o io d v)

/-- the loop of `tightArray` from any point on; `s0` is the state before the pending blank (`space`), which the next
element keeps and the closing bracket overwrites -/
def STE (o : WOpts) (io : IOpts) (lim : Nat) (xs : List JV) : Prop :=
  usesIndented io = false → ∀ (s0 : WS) (space : Bool),
    Wr s0 (wTElems o io lim xs (if space then s0.push [32] else s0) space)
      ((if space && !xs.isEmpty then [32] else []) ++ tightElems o xs)

def STM (o : WOpts) (io : IOpts) (lim : Nat) (kvs : List (Bytes × JV)) : Prop :=
  usesIndented io = false → ∀ (s0 : WS) (comma : Bool),
    Wr s0 (wTMembers o io lim kvs (if comma then s0.push [32] else s0) comma) (tightMembers o kvs (!comma))

def SIE (o : WOpts) (io : IOpts) (lim : Nat) (xs : List JV) : Prop :=
  usesIndented io = true → ∀ (d : Nat) (s : WS), Wr s (wIElems o io lim d xs s) (indentElems o io d xs)

def SIM (o : WOpts) (io : IOpts) (lim : Nat) (kvs : List (Bytes × JV)) : Prop :=
  usesIndented io = true → ∀ (d : Nat) (s : WS), Wr s (wIMembers o io lim d kvs s) (indentMembers o io d kvs)

section claims
variable (o : WOpts) (io : IOpts) (lim : Nat)

theorem senText_tight (hio : usesIndented io = false) (d : Nat) (v : JV) : senText o io d v = tightVal o v := by
  simp [senText, hio]

theorem senText_indent (hio : usesIndented io = true) (d : Nat) (v : JV) : senText o io d v = indentVal o io d v := by
  simp [senText, hio]

theorem SV_scalar (v : JV) (hs : needSep v = true) : SV o io lim v := by
  intro d s
  have ht : senText o io d v = tightVal o v := by
    unfold senText
    split
    · exact indentVal_scalar o io d v hs
    · rfl
  rw [ht]
  cases v with
  | arr xs => cases hs
  | obj kvs => cases hs
  | bool b => cases b <;> exact (Wr.push s _).flush lim
  | _ => exact (Wr.push s _).flush lim

theorem STE_nil : STE o io lim [] := by
  intro _ s0 space
  cases space
  · exact Wr.push s0 [93]
  · exact Wr.setLast s0 93

theorem STE_cons (x : JV) (r : List JV) (hV : SV o io lim x) (hE : STE o io lim r) : STE o io lim (x :: r) := by
  intro hio s0 space
  have hx := (Wr.blank s0 space).trans (senText_tight o io hio 0 x ▸ hV 0 _)
  have he := hE hio (wVal o io lim 0 x (if space then s0.push [32] else s0)) (needSep x)
  simp only [wTElems, tightElems_cons]
  cases hn : needSep x <;> simp only [hn, ↓reduceIte, Bool.false_eq_true] at he ⊢ <;>
    simpa [List.append_assoc] using hx.trans he

theorem STM_nil : STM o io lim [] := by
  intro _ s0 comma
  cases comma
  · exact Wr.push s0 [125]
  · exact Wr.setLast s0 125

theorem STM_cons (k : Bytes) (v : JV) (r : List (Bytes × JV)) (hV : SV o io lim v) (hM : STM o io lim r) :
    STM o io lim ((k, v) :: r) := by
  intro hio s0 comma
  cases hom : omitted o v with
  | true =>
    simp only [wTMembers, tightMembers, hom, ↓reduceIte]
    exact hM hio s0 comma
  | false =>
    have hv := (((Wr.blank s0 comma).trans (Wr.push _ (senString k o.html))).trans (Wr.push _ [58])).trans
      (senText_tight o io hio 0 v ▸ hV 0 _)
    have he := hM hio (wVal o io lim 0 v (((if comma then s0.push [32] else s0).push (senString k o.html)).push [58])) true
    simp only [↓reduceIte] at he
    simp only [wTMembers, hom, Bool.false_eq_true, ↓reduceIte, tightMembers]
    cases comma <;> simpa [List.append_assoc] using hv.trans he

theorem SIE_nil : SIE o io lim [] := fun _ _ s => (Wr.push s _).trans (Wr.push _ [93])

theorem SIE_cons (x : JV) (r : List JV) (hV : SV o io lim x) (hE : SIE o io lim r) : SIE o io lim (x :: r) := by
  intro hio d s
  have h := ((Wr.push s (indentSep io (d + 1))).trans (senText_indent o io hio (d + 1) x ▸ hV (d + 1) _)).trans (hE hio d _)
  simpa [wIElems, indentElems, List.append_assoc] using h

theorem SIM_nil : SIM o io lim [] := fun _ _ s => (Wr.push s _).trans (Wr.push _ [125])

theorem SIM_cons (k : Bytes) (v : JV) (r : List (Bytes × JV)) (hV : SV o io lim v) (hM : SIM o io lim r) :
    SIM o io lim ((k, v) :: r) := by
  intro hio d s
  cases hom : omitted o v with
  | true =>
    simp only [wIMembers, indentMembers, hom, ↓reduceIte]
    exact hM hio d s
  | false =>
    have h := ((((Wr.push s (indentSep io (d + 1))).trans (Wr.push _ (senString k o.html))).trans (Wr.push _ [58, 32])).trans
      (senText_indent o io hio (d + 1) v ▸ hV (d + 1) _)).trans (hM hio d _)
    simpa [wIMembers, indentMembers, hom, List.append_assoc] using h

theorem SV_arr (xs : List JV) (hT : STE o io lim xs) (hI : SIE o io lim xs) : SV o io lim (.arr xs) := by
  intro d s
  cases xs with
  | nil =>
    have : senText o io d (.arr []) = [91, 93] := by unfold senText; split <;> rfl
    rw [this]
    exact (Wr.push s _).flush lim
  | cons x r =>
    cases hio : usesIndented io with
    | true =>
      have h := ((Wr.push s [91]).trans (hI hio d _)).flush lim
      simpa [wVal, hio, senText, indentVal] using h
    | false =>
      have h := ((Wr.push s [91]).trans (hT hio _ false)).flush lim
      simpa [wVal, hio, senText, tightVal] using h

theorem SV_obj (kvs : List (Bytes × JV)) (hT : STM o io lim kvs) (hI : SIM o io lim kvs) : SV o io lim (.obj kvs) := by
  intro d s
  cases hio : usesIndented io with
  | true =>
    have h := ((Wr.push s [123]).trans (hI hio d _)).flush lim
    simpa [wVal, hio, senText, indentVal] using h
  | false =>
    have h := ((Wr.push s [123]).trans (hT hio _ false)).flush lim
    simpa [wVal, hio, senText, tightVal] using h

theorem claimsS_all : (∀ v, SV o io lim v) ∧ (∀ xs, STE o io lim xs ∧ SIE o io lim xs) ∧
    (∀ kvs, STM o io lim kvs ∧ SIM o io lim kvs) :=
  tree_ind (SV_scalar o io lim) (fun xs ih => SV_arr o io lim xs ih.1 ih.2) (fun kvs ih => SV_obj o io lim kvs ih.1 ih.2)
    ⟨STE_nil o io lim, SIE_nil o io lim⟩
    (fun x r ihV ihE => ⟨STE_cons o io lim x r ihV ihE.1, SIE_cons o io lim x r ihV ihE.2⟩)
    ⟨STM_nil o io lim, SIM_nil o io lim⟩
    (fun k v r ihV ihM => ⟨STM_cons o io lim k v r ihV ihM.1, SIM_cons o io lim k v r ihV ihM.2⟩)

end claims

/-- **C10, `sen.Write` for every `WriteLimit`**: the chunks handed to the `io.Writer`, joined, are the text of
`sen.String` (`senWrite`), and no index of the buffer goes out of range -/
theorem C10_stream (o : WOpts) (io : IOpts) (lim : Nat) (v : JV) :
    ∃ chunks, senWriteTo o io lim v = some chunks ∧ chunks.flatten = senWrite o io v := by
  obtain ⟨h1, h2⟩ : (wVal o io lim 0 v {}).bad = false ∧ (wVal o io lim 0 v {}).total = [] ++ senWrite o io v :=
    (claimsS_all o io lim).1 v 0 {}
  unfold senWriteTo
  simp only [h1, Bool.false_eq_true, ↓reduceIte]
  refine ⟨_, rfl, ?_⟩
  rw [← List.nil_append (senWrite o io v), ← h2]
  unfold WS.total
  split
  · rename_i he
    simp [List.isEmpty_iff.mp he]
  · simp

end OjgVerif.Sen
