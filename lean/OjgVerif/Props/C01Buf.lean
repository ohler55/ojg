import OjgVerif.Json.BufTok
import OjgVerif.Props.C01Lang
import OjgVerif.Props.C03Fast
import OjgVerif.Props.C06
import OjgVerif.Props.C09Viable
/-! # The Go fast paths under the theorems (C01, C03, C06, C09 for the buffer-level model)

`Json/BufModel.lean` transcribes ONE call of `(*oj.Parser).parseBuffer` on one read buffer, with the
whitespace skip, the string scan, the literal look-ahead, the integer loop and the fraction loop, their
buffer-end guards, Go's stale range-loop variables and partial slice expressions. `Json.runBuf_eq_fold`
(`Json/BufMain.lean`) shows that such a call is the fold of the byte-at-a-time `step` over the buffer.
Here the property theorems are transferred to the entry points over the buffer-level model (`runB`). -/
namespace OjgVerif.C01
open OjgVerif.Json

/-- oj.Parser, buffer level = byte level: every configuration with the parsers' integer loop, every
input, every chunking — same documents and values, or the same error at the same position -/
theorem oj_buf_is_machine (cfg : Cfg) (h : cfg.fastInt = true) (chunks : List Bytes) :
    runB ojTables cfg FP.all chunks = run ojTables cfg chunks :=
  runB_eq_run ojTables_ok cfg FP.all h chunks

/-- the same transcription over the gen tables (gen.Parser.parseBuffer has the same fast paths) -/
theorem gen_buf_is_machine (cfg : Cfg) (h : cfg.fastInt = true) (chunks : List Bytes) :
    runB genTables cfg FP.all chunks = run genTables cfg chunks :=
  runB_eq_run genTables_ok cfg FP.all h chunks

/-- a transcription with any subset of the fast paths (the integer loop is tied to the configuration) -/
theorem buf_is_machine_of_tablesOK {T : Tables} (hT : TablesOK T) (cfg : Cfg) (fp : FP)
    (h : cfg.fastInt = fp.int) (chunks : List Bytes) : runB T cfg fp chunks = run T cfg chunks :=
  runB_eq_run hT cfg fp h chunks

/-- **C01 at buffer level**: `oj.Parse` with all its fast paths accepts exactly the blank texts and
the single RFC 8259 texts (behind an optional BOM) -/
theorem oj_parser_buf_accepts_spec (bs : Bytes) :
    (toOpt (runB ojTables cfgP FP.all [bs])).isSome = Spec.accepts bs := by
  rw [oj_buf_is_machine cfgP rfl]; exact oj_parser_accepts_spec bs

/-- … and `oj.ParseReader`, whatever the reader's chunking -/
theorem oj_parser_buf_reader_accepts_spec (chunks : List Bytes) :
    (toOpt (runB ojTables cfgPR FP.all chunks)).isSome = Spec.accepts chunks.flatten := by
  rw [oj_buf_is_machine cfgPR rfl]; exact oj_parser_reader_accepts_spec chunks

/-- oj.Validator, buffer level (`Json/BufModelV.lean`: its own string scan — no guard, `i = 0`,
`b == '"' && 0 < i` —, `i = 0` before the skip loop of `numNewline`, the parser's whitespace skip and
literal look-ahead, no digit loops) = byte level -/
theorem oj_validator_buf_is_machine (cfg : Cfg) (h : cfg.fastInt = false) (chunks : List Bytes) :
    runBV ojTables cfg chunks = run ojTables cfg chunks :=
  runBV_eq_run ojTables_ok cfg h chunks

/-- oj.Tokenizer, buffer level (the parser's fast paths, with the integer loop in which `AddDigit`
decides at the limit) = byte level -/
theorem oj_tokenizer_buf_is_machine (cfg : Cfg) (h : cfg.fastInt = false) (chunks : List Bytes) :
    runBT ojTables cfg chunks = run ojTables cfg chunks :=
  runBT_eq_run ojTables_ok cfg h chunks

/-- **C01 at buffer level for oj.Validate / oj.ValidateReader and oj.Tokenizer** -/
theorem oj_validator_buf_accepts_spec (bs : Bytes) :
    (toOpt (runBV ojTables cfg1 [bs])).isSome = Spec.accepts bs := by
  rw [oj_validator_buf_is_machine cfg1 rfl]; exact oj_accepts_spec bs

theorem oj_validator_buf_reader_accepts_spec (chunks : List Bytes) :
    (toOpt (runBV ojTables cfgR chunks)).isSome = Spec.accepts chunks.flatten := by
  rw [oj_validator_buf_is_machine cfgR rfl]; exact oj_reader_accepts_spec chunks

theorem oj_tokenizer_buf_accepts_spec (bs : Bytes) :
    (toOpt (runBT ojTables cfg1 [bs])).isSome = Spec.accepts bs := by
  rw [oj_tokenizer_buf_is_machine cfg1 rfl]; exact oj_accepts_spec bs

theorem oj_tokenizer_buf_reader_accepts_spec (chunks : List Bytes) :
    (toOpt (runBT ojTables cfgR chunks)).isSome = Spec.accepts chunks.flatten := by
  rw [oj_tokenizer_buf_is_machine cfgR rfl]; exact oj_reader_accepts_spec chunks

example : (toOpt (runBV ojTables cfgR [[91, 34], [34, 44, 34, 97], [34, 44, 10], [32, 49, 93]])).isSome = true := by
  decide +kernel

-- non-vacuity: the buffer model on a document that takes every fast path, cut inside a string, a
-- literal and a number
example : (toOpt (runB ojTables cfgPR FP.all
    [[123, 34, 97], [98, 34, 58, 91, 116, 114], [117, 101, 44, 10, 32, 32, 49, 50],
     [46, 53, 44, 110, 117, 108, 108, 93, 125]])).isSome = true := by
  decide +kernel

end OjgVerif.C01

namespace OjgVerif.C06
open OjgVerif.Json

/-- **C06 at buffer level, NO INDEX OR SLICE OUT OF RANGE in the fast paths**: the buffer-level model
keeps every slice expression of `parseBuffer` partial (`sliceOf`; the outcome of an out-of-range slice
is an error of kind `fault`), and no call, on any input under any chunking, ends in a fault -/
theorem oj_buf_no_fault (cfg : Cfg) (hc : cfg.fastInt = true) (chunks : List Bytes) (e : Err)
    (h : runB ojTables cfg FP.all chunks = .error e) : e.kind.isFault = false := by
  rw [C01.oj_buf_is_machine cfg hc] at h
  exact oj_no_fault cfg chunks e h

theorem buf_no_fault_of_tablesOK {T : Tables} (hT : TablesOK T) (cfg : Cfg) (fp : FP) (hc : cfg.fastInt = fp.int)
    (chunks : List Bytes) (e : Err) (h : runB T cfg fp chunks = .error e) : e.kind.isFault = false := by
  rw [runB_eq_run hT cfg fp hc] at h
  exact no_fault_of_tablesOK hT cfg chunks e h

/-- the same for the validator's and the tokenizer's buffer-level models -/
theorem oj_validator_buf_no_fault (cfg : Cfg) (hc : cfg.fastInt = false) (chunks : List Bytes) (e : Err)
    (h : runBV ojTables cfg chunks = .error e) : e.kind.isFault = false := by
  rw [C01.oj_validator_buf_is_machine cfg hc] at h
  exact oj_no_fault cfg chunks e h

theorem oj_tokenizer_buf_no_fault (cfg : Cfg) (hc : cfg.fastInt = false) (chunks : List Bytes) (e : Err)
    (h : runBT ojTables cfg chunks = .error e) : e.kind.isFault = false := by
  rw [C01.oj_tokenizer_buf_is_machine cfg hc] at h
  exact oj_no_fault cfg chunks e h

/-- the fault outcome is really there in the model: a slice beyond the buffer is `none` -/
example : sliceOf [1, 2, 3] 2 5 = none := by decide

end OjgVerif.C06

namespace OjgVerif.C03
open OjgVerif.Json

/-- **C03 at buffer level**: `oj.ParseReader` with all its fast paths gives the same outcome for a
chunking and for the whole input in one buffer — where the buffer boundaries fall (inside a string, a
literal, a number, behind a newline) does not matter — with the exact exclusion of known finding C03-int19 -/
theorem oj_parser_buf_chunks_irrelevant (chunks : List Bytes)
    (h1 : NoHitCall true chunks) (h2 : NoHitCall true [chunks.flatten]) :
    runB ojTables (cfgParser true) FP.all chunks = runB ojTables (cfgParser true) FP.all [chunks.flatten] := by
  rw [C01.oj_buf_is_machine _ rfl, C01.oj_buf_is_machine _ rfl]
  exact oj_parser_chunks_irrelevant chunks h1 h2

/-- **C03 at buffer level, full statement, for the front-ends without the integer loop**: the validator's and
the tokenizer's outcome over their buffer-level models depends only on the concatenation of the reads -/
theorem oj_validator_buf_chunks_irrelevant (chunks : List Bytes) :
    runBV ojTables C01.cfgR chunks = runBV ojTables C01.cfgR [chunks.flatten] := by
  rw [C01.oj_validator_buf_is_machine _ rfl, C01.oj_validator_buf_is_machine _ rfl]
  exact chunks_irrelevant ojTables C01.cfgR rfl rfl chunks

theorem oj_tokenizer_buf_chunks_irrelevant (chunks : List Bytes) :
    runBT ojTables C01.cfgR chunks = runBT ojTables C01.cfgR [chunks.flatten] := by
  rw [C01.oj_tokenizer_buf_is_machine _ rfl, C01.oj_tokenizer_buf_is_machine _ rfl]
  exact chunks_irrelevant ojTables C01.cfgR rfl rfl chunks

end OjgVerif.C03

namespace OjgVerif.C09
open OjgVerif.Json

/-- **C09 at buffer level**: when the first call of `parseBuffer` (all fast paths, no BOM handling) rejects its
buffer, the reported line and column designate the first byte behind which no extension is in the language -/
theorem buf_error_position_first_unextendable (bs : Bytes) (e : Err)
    (h : runBuf ojTables C01.cfgP FP.all {} bs = .error e) :
    ∃ pre b post, bs = pre ++ b :: post ∧ (e.line, e.col) = lineColOf pre ∧
      (∃ q, InLang (pre ++ q)) ∧ ∀ q, ¬ InLang (pre ++ b :: q) := by
  have hs := runBuf_eq_fold C01.ojTables_ok C01.cfgP FP.all rfl {} {} bs rel_init rfl NumInv.init
  rw [h] at hs
  cases hy : runBytes ojTables C01.cfgP {} bs with
  | ok m => rw [hy] at hs; exact hs.elim
  | error e' =>
    rw [hy] at hs
    have he : e = e' := hs
    subst he
    rw [Json.runBytes_eq_ref C01.ojTables_ok] at hy
    -- `error_position_first_unextendable` is stated for the configuration `cfg1`: the error of the parser
    -- configuration is that of `cfg1` because errors do not depend on values or the fast loop (erasure)
    have hr := runBytes_rel C01.cfgP cfg1 rfl bs (a := {}) (b := {}) rfl
    rw [hy] at hr
    cases hz : runBytes refTables cfg1 {} bs with
    | ok m => rw [hz] at hr; simp [eraseR] at hr
    | error e'' =>
      rw [hz] at hr
      simp only [eraseR, Except.error.injEq] at hr
      subst hr
      apply error_position_first_unextendable bs e
      rw [Json.runBytes_eq_ref C01.ojTables_ok]; exact hz

end OjgVerif.C09
