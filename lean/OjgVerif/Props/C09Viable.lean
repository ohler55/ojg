import OjgVerif.Props.C09
import OjgVerif.Props.C01Lang
import OjgVerif.Json.Viable
/-! # C09 — the reported position is the first byte after which the input cannot be completed

`Props/C09.lean` shows that a rejected input is rejected at a byte all of whose predecessors were
accepted, and that the error carries that byte's line and column. This file adds what makes that
byte "the first byte after which the input can no longer be extended to a valid JSON text": every
prefix the machine has accepted can be extended to a text of the specification's language
(`Json/Viable.lean`: control abstraction of the machine, invariants of reachable states, an explicit
completion for each of the 21 modes and for every container stack), and once a byte is rejected no
continuation is in the language.

"In the language" is `Spec.parseText … ≠ bad`: blank, or exactly one RFC 8259 text (C01). -/
namespace OjgVerif.C09
open OjgVerif.Json

/-- the text is in the specification's language (blank or exactly one JSON text); the numbers are those of
`Spec.Doc.kind` (`Json/RefineSpec.lean`): 0 `none`, 1 `one`, 2 `bad` -/
def InLang (bs : Bytes) : Prop := (Spec.parseText bs).kind ≠ 2

theorem inLang_iff_exec (bs : Bytes) : InLang bs ↔ (exec {} bs).isSome = true := by
  unfold InLang
  rw [exec_text, ← parseTextM_kind]
  cases parseTextM bs <;> simp [Spec.Doc.kind, Spec.Doc.result]

/-- **Viable prefix.** Every prefix the reference automaton has accepted can be extended to a text of
the language. -/
theorem accepted_prefix_viable (p : Bytes) (s : St) (h : runBytes refTables cfg1 {} p = .ok s) :
    ∃ q, InLang (p ++ q) := by
  obtain ⟨hw, hr⟩ := reach_inv p {} s WF.init RInv.init h
  obtain ⟨q, docs, hq⟩ := viable_state s hw hr
  refine ⟨q, (inLang_iff_exec _).mpr ?_⟩
  rw [exec_append, h]
  simp only [hq, Option.isSome_some]

/-- **A rejected byte is final.** After a byte the automaton rejects, no continuation is in the language. -/
theorem rejected_byte_final (p : Bytes) (b : UInt8) (s : St) (e : Err)
    (h1 : runBytes refTables cfg1 {} p = .ok s) (h2 : step refTables cfg1 s b = .error e) (q : Bytes) :
    ¬ InLang (p ++ b :: q) := by
  rw [inLang_iff_exec, exec_append, h1]
  simp only [exec_cons, h2, Option.isSome_none, Bool.false_eq_true, not_false_eq_true]

/-- an input that is only incomplete is a viable prefix: it can be extended to a text of the language -/
theorem incomplete_is_viable (bs : Bytes) (s : St) (h : runBytes ojTables cfg1 {} bs = .ok s) :
    ∃ q, InLang (bs ++ q) := by
  rw [Json.runBytes_eq_ref C01.ojTables_ok] at h
  exact accepted_prefix_viable bs s h

theorem skipWs_eq_nil_append (bs : Bytes) (h : Spec.skipWs bs = []) (t : Bytes) :
    Spec.skipWs (bs ++ t) = Spec.skipWs t := by
  induction bs with
  | nil => rfl
  | cons b r ih =>
    simp only [Spec.skipWs] at h
    by_cases hb : Spec.isWs b = true
    · simp only [hb, ↓reduceIte] at h
      simp only [List.cons_append, Spec.skipWs, hb, ↓reduceIte]
      exact ih h
    · simp only [hb, Bool.false_eq_true, ↓reduceIte] at h; cases h

/-- a blank text followed by `0` is a JSON text -/
theorem blank_then_zero (bs : Bytes) (h : Spec.skipWs bs = []) : (Spec.parseText (bs ++ [48])).kind = 1 := by
  unfold Spec.parseText
  rw [skipWs_eq_nil_append bs h [48]]
  have : Spec.skipWs [48] = [48] := rfl
  rw [this]
  simp only
  have hp : ∀ n, Spec.pValue (n + 1) [48] = some (.num [48], []) := by intro n; rfl
  rw [hp]
  rfl

/-- **Viable prefix, strong form.** Every prefix the reference automaton has accepted can be extended
to exactly one valid JSON text (not merely to a blank text). -/
theorem accepted_prefix_extends_to_text (p : Bytes) (s : St) (h : runBytes refTables cfg1 {} p = .ok s) :
    ∃ q, (Spec.parseText (p ++ q)).kind = 1 := by
  obtain ⟨q, hq⟩ := accepted_prefix_viable p s h
  unfold InLang at hq
  cases hk : Spec.parseText (p ++ q) with
  | bad => rw [hk] at hq; exact absurd rfl hq
  | one v => exact ⟨q, by rw [hk]; rfl⟩
  | none =>
    -- blank so far: append a zero
    have hblank : Spec.skipWs (p ++ q) = [] := by
      unfold Spec.parseText at hk
      cases hs : Spec.skipWs (p ++ q) with
      | nil => rfl
      | cons b r =>
        rw [hs] at hk
        simp only at hk
        split at hk
        · split at hk <;> cases hk
        · cases hk
    refine ⟨q ++ [48], ?_⟩
    rw [← List.append_assoc]
    exact blank_then_zero (p ++ q) hblank

/-- **C09 for any table set that agrees with the reference.** When the machine rejects an input, the
reported line and column designate a byte `b` such that the input up to `b` can still be extended to
exactly one valid JSON text, and the input up to and including `b` to nothing in the language. -/
theorem first_unextendable {T : Tables} (hT : TablesOK T) (bs : Bytes) (e : Err)
    (h : runBytes T cfg1 {} bs = .error e) :
    ∃ pre b post, bs = pre ++ b :: post ∧ (e.line, e.col) = lineColOf pre ∧
      (∃ q, (Spec.parseText (pre ++ q)).kind = 1) ∧ ∀ q, ¬ InLang (pre ++ b :: q) := by
  obtain ⟨pre, b, post, hbs, ⟨s1, hrun, hstep⟩, hpos⟩ := error_position hT cfg1 bs e h
  rw [Json.runBytes_eq_ref hT] at hrun
  rw [Json.step_eq_ref hT] at hstep
  exact ⟨pre, b, post, hbs, hpos, accepted_prefix_extends_to_text pre s1 hrun,
    rejected_byte_final pre b s1 e hrun hstep⟩

theorem InLang.of_text {bs : Bytes} (h : (Spec.parseText bs).kind = 1) : InLang bs := by
  unfold InLang; rw [h]; decide

/-- **C09, strong reading.** The input up to the reported byte can still be extended to exactly one
valid JSON text; up to and including it, to nothing in the language. -/
theorem error_position_first_unextendable_text (bs : Bytes) (e : Err)
    (h : runBytes ojTables cfg1 {} bs = .error e) :
    ∃ pre b post, bs = pre ++ b :: post ∧ (e.line, e.col) = lineColOf pre ∧
      (∃ q, (Spec.parseText (pre ++ q)).kind = 1) ∧ ∀ q, ¬ InLang (pre ++ b :: q) :=
  first_unextendable C01.ojTables_ok bs e h

/-- **C09.** When the strict-JSON machine over the regenerated oj tables rejects an input, the
reported line and column designate a byte `b` such that the input up to `b` can still be extended to
a text of the language, and the input up to and including `b` cannot. -/
theorem error_position_first_unextendable (bs : Bytes) (e : Err)
    (h : runBytes ojTables cfg1 {} bs = .error e) :
    ∃ pre b post, bs = pre ++ b :: post ∧ (e.line, e.col) = lineColOf pre ∧
      (∃ q, InLang (pre ++ q)) ∧ ∀ q, ¬ InLang (pre ++ b :: q) := by
  obtain ⟨pre, b, post, hbs, hpos, ⟨q, hq⟩, hfin⟩ := first_unextendable C01.ojTables_ok bs e h
  exact ⟨pre, b, post, hbs, hpos, ⟨q, .of_text hq⟩, hfin⟩

/-- the same over the regenerated gen tables -/
theorem error_position_first_unextendable_gen (bs : Bytes) (e : Err)
    (h : runBytes genTables cfg1 {} bs = .error e) :
    ∃ pre b post, bs = pre ++ b :: post ∧ (e.line, e.col) = lineColOf pre ∧
      (∃ q, InLang (pre ++ q)) ∧ ∀ q, ¬ InLang (pre ++ b :: q) := by
  obtain ⟨pre, b, post, hbs, hpos, ⟨q, hq⟩, hfin⟩ := first_unextendable C01.genTables_ok bs e h
  exact ⟨pre, b, post, hbs, hpos, ⟨q, .of_text hq⟩, hfin⟩

end OjgVerif.C09
