import OjgVerif.JPMut.Model
import OjgVerif.Gen.JpMutArms
/-! # C13, the tie to the source beyond the patched lines: the type-switch skeleton of the mutators

tools/extract/jpmut_arms.go reads, on every run, which fragment kinds `Expr.set` / `Expr.modify` switch over, which
container types each fragment arm handles (`switch tv := prev.(type)`), which type lists guard a push (`switch v.(type)`,
with how many clauses carry each list) and the container arms of every `remove` / `removeOne` method.

* `arms_are_source` — the skeleton is the one the model (JPMut/Model.lean) was written against: the tables below. A case
  list that loses or gains a type (seeded change: `gen.Array` dropped from ONE followable-type list of set.go), a
  fragment arm or a container arm that disappears, breaks this theorem — before any input is run.
* `model_acts_as_arms` — and the model agrees with that skeleton about WHICH simple containers a fragment kind acts on:
  for Child, Nth, Wildcard, Union (of names, of indexes) and Slice (the table `kinds`) and for a map and a slice witness,
  the model's Modify (fragment in last position) and Set (Child, Nth, Wildcard, Union in last position; the six rows in
  inner position) change the witness exactly when the fragment's arm lists that container type (`map[string]any` /
  `[]any`). Filter and Descent are NOT in the table: a Filter reaches a map outside the `prev` switch (the `default` arm's
  reflection branch in modify.go, `evalWithRoot` in set.go), so its arm does not say which containers it acts on. (The
  Filter arm of modify.go has a `Keyed` case, /repo d792e9c, finding C13-modify-filter-keyed-untouched; it is in
  `modifyContArmsModel`.)
This is still a tie of shape, not of behaviour: what the arms DO is tied by the correspondence run. -/
namespace OjgVerif.C13
open OjgVerif.JPath OjgVerif.JPMut

/-- fragment kinds `Expr.set` switches over (jp/set.go) -/
def setFragArmsModel : List String := ["Child", "Nth", "Wildcard", "Descent", "Union", "Slice", "*Filter", "Root", "At,Bracket"]

/-- container arms per fragment arm of `Expr.set` -/
def setContArmsModel : List (String × List String) := [
  ("Child", ["map[string]any", "Keyed", "gen.Object", "default"]),
  ("Nth", ["[]any", "Indexed", "gen.Array", "default"]),
  ("Wildcard", ["map[string]any", "[]any", "Keyed", "Indexed", "gen.Object", "gen.Array", "default"]),
  ("Descent", ["map[string]any", "[]any", "Keyed", "Indexed", "gen.Object", "gen.Array"]),
  ("Union/string", ["map[string]any", "Keyed", "gen.Object", "default"]),
  ("Union/int64", ["[]any", "Indexed", "gen.Array", "default"]),
  ("Slice", ["[]any", "Indexed", "gen.Array", "default"])]

/-- the type lists that guard a push in `Expr.set`, with the number of clauses that carry each -/
def setValueListsModel : List (String × Nat) := [
  ("bool,string,float64,float32,int,uint,int8,int16,int32,int64,uint8,uint16,uint32,uint64,nil,gen.Bool,gen.Int,gen.Float,gen.String", 3),
  ("default", 28),
  ("gen.Object,gen.Array", 4),
  ("map[string]any,[]any,gen.Object,gen.Array,Keyed,Indexed", 32),
  ("nil,gen.Bool,gen.Int,gen.Float,gen.String,bool,string,float64,float32,int,uint,int8,int16,int32,int64,uint8,uint16,uint32,uint64", 23)]

def modifyFragArmsModel : List String := ["Child", "Nth", "Wildcard", "Union", "Slice", "*Filter", "Descent", "Root", "At,Bracket"]

def modifyContArmsModel : List (String × List String) := [
  ("Child", ["map[string]any", "Keyed", "gen.Object", "default"]),
  ("Nth", ["[]any", "Indexed", "gen.Array", "default"]),
  ("Wildcard", ["map[string]any", "[]any", "Keyed", "Indexed", "gen.Object", "gen.Array", "default"]),
  ("Union/string", ["map[string]any", "Keyed", "gen.Object", "default"]),
  ("Union/int64", ["[]any", "Indexed", "gen.Array", "default"]),
  ("Slice", ["[]any", "Indexed", "gen.Array", "default"]),
  ("*Filter", ["[]any", "Indexed", "gen.Array", "Keyed", "default"]),
  ("Descent", ["map[string]any", "[]any", "Keyed", "Indexed", "gen.Object", "gen.Array"])]

def modifyValueListsModel : List (String × Nat) := [
  ("gen.Object,gen.Array", 8),
  ("map[string]any,[]any,gen.Object,gen.Array,Keyed,Indexed", 6)]

/-- container arms of the `remove` / `removeOne` methods (child.go, nth.go, wildcard.go, union.go, slice.go, filter.go) -/
def removeArmsModel : List (String × List String) := [
  ("Child.remove", ["map[string]any", "gen.Object", "Keyed", "default"]),
  ("Nth.remove", ["[]any", "gen.Array", "RemovableIndexed", "default"]),
  ("Wildcard.remove", ["[]any", "map[string]any", "gen.Array", "gen.Object", "RemovableIndexed", "Keyed", "default"]),
  ("Wildcard.removeOne", ["[]any", "map[string]any", "gen.Array", "gen.Object", "RemovableIndexed", "Keyed", "default"]),
  ("Union.remove", ["[]any", "map[string]any", "gen.Array", "gen.Object", "RemovableIndexed", "Keyed", "default"]),
  ("Union.removeOne", ["[]any", "map[string]any", "gen.Array", "gen.Object", "RemovableIndexed", "Keyed", "default"]),
  ("Slice.remove", ["[]any", "gen.Array", "RemovableIndexed", "default"]),
  ("Slice.removeOne", ["[]any", "gen.Array", "RemovableIndexed", "default"]),
  ("Filter.remove", ["[]any", "map[string]any", "gen.Array", "gen.Object", "RemovableIndexed", "Keyed", "default"]),
  ("Filter.removeOne", ["[]any", "map[string]any", "gen.Array", "gen.Object", "RemovableIndexed", "Keyed", "default"])]

/-- the type-switch skeleton of jp/set.go, modify.go and the remove methods is the one the model was written against -/
theorem arms_are_source :
    Gen.JpMutArms.setFragArms = setFragArmsModel ∧ Gen.JpMutArms.setContArms = setContArmsModel ∧
    Gen.JpMutArms.setValueLists = setValueListsModel ∧
    Gen.JpMutArms.modifyFragArms = modifyFragArmsModel ∧ Gen.JpMutArms.modifyContArms = modifyContArmsModel ∧
    Gen.JpMutArms.modifyValueLists = modifyValueListsModel ∧
    Gen.JpMutArms.removeArms = removeArmsModel := ⟨rfl, rfl, rfl, rfl, rfl, rfl, rfl⟩

/-- regression tripwire for the repair 0367e03 (finding C13-nth-remove-shared-list): Nth.remove collects the
survivors in a NEW list in both list arms (`make`, no `append(tv[:i], …)`), like every other remover — a second reference
to the list it was given is left alone. Undoing the repair flips the generated fact. (The behaviour itself is checked by
the alias stream of the run.) -/
theorem nth_remove_allocates : Gen.JpMutArms.nthRemoveAllocates = true := rfl

/-- the arm of fragment kind `frag` lists the container type `cont` -/
def armHas (arms : List (String × List String)) (frag cont : String) : Bool :=
  arms.any fun e => e.1 == frag && e.2.contains cont

def kA' : Bytes := [97]
def wObj : JV := .obj [(kA', .int 1)]
def wArr : JV := .arr [.int 1]
def wObj2 : JV := .obj [(kA', .obj [(kA', .int 1)])]
def wArr2 : JV := .arr [.obj [(kA', .int 1)]]

/-- the outcome carries a 9 where the witness had 1 -/
def hit : Out → Bool
  | .ok (.arr [.int i]) => i == 9
  | .ok (.obj [(_, .int i)]) => i == 9
  | .ok (.arr [.obj [(_, .int i)]]) => i == 9
  | .ok (.obj [(_, .obj [(_, .int i)])]) => i == 9
  | _ => false

def nine : Modifier := fun _ => (.int 9, true)

/-- the fragment kinds `model_acts_as_arms` speaks of, with the name of their arm. The third component (a map is reached
outside the `prev` switch) is false in every row and the theorem does not read it: Filter, for which it would be true, is
not in the table -/
def kinds : List (Frag × String × Bool) := [
  (.child kA', "Child", false), (.nth 0, "Nth", false), (.wild, "Wildcard", false),
  (.union [.key kA'], "Union/string", false), (.union [.idx 0], "Union/int64", false),
  (.slice none none none, "Slice", false)]

/-- Modify, fragment in last position; Set, fragment in last position (the four kinds set.go accepts there) and in inner
position before `.a` (every row of `kinds`): the model changes the map witness iff the arm lists `map[string]any`, the slice
witness iff it lists `[]any` -/
theorem model_acts_as_arms :
    (kinds.all fun k =>
      hit (modifyM false Dev.current false nine [k.1] wObj) == armHas Gen.JpMutArms.modifyContArms k.2.1 "map[string]any" &&
      hit (modifyM false Dev.current false nine [k.1] wArr) == armHas Gen.JpMutArms.modifyContArms k.2.1 "[]any" &&
      hit (setM false Dev.current false (.val (.int 9)) [k.1, .child kA'] wObj2) == armHas Gen.JpMutArms.setContArms k.2.1 "map[string]any" &&
      hit (setM false Dev.current false (.val (.int 9)) [k.1, .child kA'] wArr2) == armHas Gen.JpMutArms.setContArms k.2.1 "[]any") = true ∧
    ((kinds.take 5).all fun k =>
      hit (setM false Dev.current false (.val (.int 9)) [k.1] wObj) == armHas Gen.JpMutArms.setContArms k.2.1 "map[string]any" &&
      hit (setM false Dev.current false (.val (.int 9)) [k.1] wArr) == armHas Gen.JpMutArms.setContArms k.2.1 "[]any") = true := by
  constructor <;> decide

end OjgVerif.C13
