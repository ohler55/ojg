import OjgVerif.Diff.Lemmas
import OjgVerif.Gen.AltDiff
/-! # C19 — Diff, Compare and Match report exactly the real differences

Statements are about the model of `alt/diff.go` (`Diff/Model.lean`), which the correspondence run
ties to the Go code, for every Go map iteration order (`OrdOK ord`) and both data flavours.
`Dev` names the five places where the pinned code (d4b55cf) deviated from the property; the
theorems are proved for every `D : Dev` on the inputs that the switched-on deviations cannot touch
(`Clear`), for trees whose integers are machine integers (`MachineTree`: -2^63 ≤ i < 2^64, the
values `int64` and `uint64` hold — the domain of the model, not an exclusion). All five defects
are repaired in the repository (`fix:` commits c0c8224, 2f372fe, 36b721b, 23c2317, d149f2d), so
`Dev.current` — the code as it is — has every flag off: `C19_current` / `C19_holds` are the
property at full strength, with no exclusion. `source_is_current` ties `Dev.current` to the
regenerated source facts (`Gen/AltDiff.lean`): a tree that loses one of the repairs breaks it. The
`full_false_*` theorems keep one kernel-evaluated witness per deviation as the record of the
repaired defects (they are about the model with the flag switched on). -/
namespace OjgVerif.C19
open OjgVerif.Diff

/-- a Go map iteration order: any arrangement (even with repetitions) of exactly the given names -/
def OrdOK (ord : List Bytes → List Bytes) : Prop := ∀ l k, k ∈ ord l ↔ k ∈ l

/-- the input is out of reach of every deviation that `D` switches on -/
structure Clear (D : Dev) (fl : Flavour) (a b : JV) (ign : List Path) : Prop where
  /-- C19-multi-index-ignore needs two ignore paths of more than one fragment, one of them with an
  index before its last fragment (or a negative such index) -/
  idx : D.lastIndex = true → IdxSafe ign
  /-- C19-ignored-length-index needs an ignore path that ends in an index -/
  tail : D.tailSkip = true → NoFinalIdx ign
  /-- C19-int-float-2p53 needs an integer of magnitude ≥ 2^53 on the right -/
  flt : D.floatRound = true → AllInts IsFloatExact b
  /-- C19-gen-root-number needs generic data whose roots are an integer and a float -/
  gen : D.genRoot = true → fl = .gen → numKindMix a b = false
  /-- C19-uint64-wrap needs an unsigned integer above `MaxInt64` (or, vacuously, below `MinInt64`) -/
  wrap : D.uintWrap = true → Int64Tree a ∧ Int64Tree b

theorem clear_fixed (fl : Flavour) (a b : JV) (ign : List Path) : Clear Dev.fixed fl a b ign :=
  ⟨nofun, nofun, nofun, nofun, nofun⟩

section
variable {D : Dev} {ord : List Bytes → List Bytes} {fl : Flavour} {a b : JV} {ign : List Path}

/-- the paths returned by Diff are exactly the leaf differences that no ignore path covers -/
theorem diff_exact (hord : OrdOK ord) (ha : MachineTree a) (hb : MachineTree b) (hc : Clear D fl a b ign) (p : Path) :
    p ∈ (diff D ord fl a b ign).map norm ↔ LeafDiff a b p ∧ ¬ Ignored ign p := by
  unfold diff
  rw [diffTop_eq_fixed D ord fl false a b ign hc.idx hc.tail hc.flt hc.gen hc.wrap]
  simp only [diffTop, Ignored]
  rw [mem_norm_diffF_fixed ord hord _ a b ign p (Nat.lt_succ_self _) ha hb]
  simp

/-- Diff is empty exactly when the trees are equal once the ignored locations are disregarded -/
theorem diff_empty (hord : OrdOK ord) (ha : MachineTree a) (hb : MachineTree b) (hc : Clear D fl a b ign) :
    diff D ord fl a b ign = [] ↔ EquivModulo ign a b := by
  constructor
  · intro h q hq
    refine Classical.byContradiction fun hi => ?_
    have := (diff_exact hord ha hb hc q).2 ⟨hq, hi⟩
    rw [h] at this; cases this
  · intro h
    refine List.eq_nil_iff_forall_not_mem.2 fun p hp => ?_
    have := (diff_exact hord ha hb hc (norm p)).1 (List.mem_map.2 ⟨p, hp, rfl⟩)
    exact this.2 (h _ this.1)

/-- every returned path leads to a genuine difference — in fact to a leaf difference — and is not ignored -/
theorem diff_sound (hord : OrdOK ord) (ha : MachineTree a) (hb : MachineTree b) (hc : Clear D fl a b ign) {p : Path}
    (hp : p ∈ diff D ord fl a b ign) :
    DiffersAt a b (norm p) ∧ LeafDiff a b (norm p) ∧ ¬ Ignored ign (norm p) := by
  have := (diff_exact hord ha hb hc (norm p)).1 (List.mem_map.2 ⟨p, hp, rfl⟩)
  exact ⟨leafDiff_differsAt this.1, this.1, this.2⟩

/-- every leaf difference that is not ignored lies under (is) a returned path -/
theorem diff_complete (hord : OrdOK ord) (ha : MachineTree a) (hb : MachineTree b) (hc : Clear D fl a b ign) {q : Path}
    (hq : LeafDiff a b q) (hi : ¬ Ignored ign q) :
    ∃ p, p ∈ diff D ord fl a b ign ∧ norm p <+: q := by
  obtain ⟨p, hp, he⟩ := List.mem_map.1 ((diff_exact hord ha hb hc q).2 ⟨hq, hi⟩)
  exact ⟨p, hp, by rw [he]; exact List.prefix_refl q⟩

end

/-- without ignore paths: Diff is empty exactly when the trees are equal up to numeric width and
null-versus-absent members -/
theorem diff_empty_iff_equiv {D : Dev} {ord : List Bytes → List Bytes} {fl : Flavour} {a b : JV}
    (hord : OrdOK ord) (ha : MachineTree a) (hb : MachineTree b) (hc : Clear D fl a b []) :
    diff D ord fl a b [] = [] ↔ Equiv a b := by
  rw [diff_empty hord ha hb hc, equiv_iff_no_leafDiff]
  exact forall_congr' fun q => ⟨fun h hq => Bool.noConfusion (h hq), fun h hq => absurd hq h⟩

/-- Compare returns the first of Diff's paths, in the same iteration order -/
theorem compare_eq_head (D : Dev) (ord : List Bytes → List Bytes) (fl : Flavour) (a b : JV) (ign : List Path) :
    Diff.compare D ord fl a b ign = (diff D ord fl a b ign).head? := by
  unfold Diff.compare diff
  rw [diffTop_one]
  cases diffTop D ord fl false a b ign <;> rfl

/-- Compare returns nil exactly when Diff is empty -/
theorem compare_none (D : Dev) (ord : List Bytes → List Bytes) (fl : Flavour) (a b : JV) (ign : List Path) :
    Diff.compare D ord fl a b ign = none ↔ diff D ord fl a b ign = [] := by
  rw [compare_eq_head, List.head?_eq_none_iff]

/-- otherwise it returns one of Diff's paths (the first in the same iteration order) -/
theorem compare_mem (D : Dev) (ord : List Bytes → List Bytes) (fl : Flavour) (a b : JV) (ign : List Path)
    {p : Path} (h : Diff.compare D ord fl a b ign = some p) : p ∈ diff D ord fl a b ign :=
  List.mem_of_head? (compare_eq_head D ord fl a b ign ▸ h)

/-- Match holds exactly when every member of the fingerprint is matched in the target -/
theorem match_iff {D : Dev} {fl : Flavour} {f t : JV} (hf : MachineTree f) (ht : MachineTree t)
    (h3 : D.floatRound = true → AllInts IsFloatExact t)
    (h4 : D.genRoot = true → fl = .gen → numKindMix f t = false)
    (h5 : D.uintWrap = true → Int64Tree f ∧ Int64Tree t) :
    altMatch D fl f t = true ↔ FpMatch f t := by
  rw [altMatch_eq_fixed D fl f t h3 h4 h5]
  exact matchF_iff _ f t (Nat.lt_succ_self _) hf ht

/-- C19 for the model with deviations `D` -/
def Full (D : Dev) : Prop :=
  ∀ (ord : List Bytes → List Bytes), OrdOK ord → ∀ (fl : Flavour) (a b : JV) (ign : List Path), MachineTree a → MachineTree b →
    (∀ p, p ∈ (diff D ord fl a b ign).map norm ↔ LeafDiff a b p ∧ ¬ Ignored ign p) ∧
    (diff D ord fl a b ign = [] ↔ EquivModulo ign a b) ∧
    (Diff.compare D ord fl a b ign = none ↔ diff D ord fl a b ign = []) ∧
    (∀ p, Diff.compare D ord fl a b ign = some p → p ∈ diff D ord fl a b ign) ∧
    (altMatch D fl a b = true ↔ FpMatch a b)

/-- the clauses of `Full D` on an input clear of the deviations of `D` -/
theorem full_of_clear {D : Dev} {ord : List Bytes → List Bytes} (hord : OrdOK ord) {fl : Flavour} {a b : JV}
    {ign : List Path} (ha : MachineTree a) (hb : MachineTree b) (hc : Clear D fl a b ign) :
    (∀ p, p ∈ (diff D ord fl a b ign).map norm ↔ LeafDiff a b p ∧ ¬ Ignored ign p) ∧
    (diff D ord fl a b ign = [] ↔ EquivModulo ign a b) ∧
    (Diff.compare D ord fl a b ign = none ↔ diff D ord fl a b ign = []) ∧
    (∀ p, Diff.compare D ord fl a b ign = some p → p ∈ diff D ord fl a b ign) ∧
    (altMatch D fl a b = true ↔ FpMatch a b) :=
  ⟨diff_exact hord ha hb hc, diff_empty hord ha hb hc, compare_none _ _ _ _ _ _, fun _ => compare_mem _ _ _ _ _ _,
    match_iff ha hb hc.flt hc.gen hc.wrap⟩

theorem full_fixed : Full Dev.fixed :=
  fun _ hord fl a b ign ha hb => full_of_clear hord ha hb (clear_fixed fl a b ign)

/-- `Dev.current` and `Dev.fixed` are the same value (Diff/Model.lean), so this is the proposition of `full_fixed`;
`C19_holds` proves it under this name -/
def C19_full : Prop := Full Dev.current

theorem machine_of_int64 {a : JV} (h : Int64Tree a) : MachineTree a :=
  h.mono fun _ hi => ⟨hi.1, Int.lt_trans hi.2 (by decide)⟩

/-- `full_of_clear` at `Dev.current`. `Dev.current` switches no deviation on, so `clear_current` gives `hc` on
every input and nothing here is partial: `C19_current`, `C19_holds` -/
theorem C19_partial {ord : List Bytes → List Bytes} (hord : OrdOK ord) {fl : Flavour} {a b : JV} {ign : List Path}
    (ha : MachineTree a) (hb : MachineTree b) (hc : Clear Dev.current fl a b ign) :
    (∀ p, p ∈ (diff Dev.current ord fl a b ign).map norm ↔ LeafDiff a b p ∧ ¬ Ignored ign p) ∧
    (diff Dev.current ord fl a b ign = [] ↔ EquivModulo ign a b) ∧
    (Diff.compare Dev.current ord fl a b ign = none ↔ diff Dev.current ord fl a b ign = []) ∧
    (∀ p, Diff.compare Dev.current ord fl a b ign = some p → p ∈ diff Dev.current ord fl a b ign) ∧
    (altMatch Dev.current fl a b = true ↔ FpMatch a b) :=
  full_of_clear hord ha hb hc

/-- no exclusion is left for the code as it is -/
theorem clear_current (fl : Flavour) (a b : JV) (ign : List Path) : Clear Dev.current fl a b ign :=
  clear_fixed fl a b ign

/-- **C19 for the code as it is, at full strength**: for every map iteration order, both data
flavours, every ignore set and every pair of trees whose integers are machine integers
(-2^63 ≤ i < 2^64: the domain of the model, not an exclusion): Diff returns exactly the leaf
differences that no ignore path covers — hence it is empty iff the trees are equivalent modulo the
ignore paths, sound and complete —, Compare is nil iff Diff is empty and otherwise one of Diff's
paths, and Match is the fingerprint relation. No hypothesis on ignore paths, generic roots,
magnitudes or signedness. -/
theorem C19_current {ord : List Bytes → List Bytes} (hord : OrdOK ord) {fl : Flavour} {a b : JV} {ign : List Path}
    (ha : MachineTree a) (hb : MachineTree b) :
    (∀ p, p ∈ (diff Dev.current ord fl a b ign).map norm ↔ LeafDiff a b p ∧ ¬ Ignored ign p) ∧
    (diff Dev.current ord fl a b ign = [] ↔ EquivModulo ign a b) ∧
    (∀ p, p ∈ diff Dev.current ord fl a b ign →
      DiffersAt a b (norm p) ∧ LeafDiff a b (norm p) ∧ ¬ Ignored ign (norm p)) ∧
    (∀ q, LeafDiff a b q → ¬ Ignored ign q → ∃ p, p ∈ diff Dev.current ord fl a b ign ∧ norm p <+: q) ∧
    (Diff.compare Dev.current ord fl a b ign = none ↔ diff Dev.current ord fl a b ign = []) ∧
    (∀ p, Diff.compare Dev.current ord fl a b ign = some p → p ∈ diff Dev.current ord fl a b ign) ∧
    (altMatch Dev.current fl a b = true ↔ FpMatch a b) :=
  have hc : Clear Dev.current fl a b ign := clear_current fl a b ign
  let ⟨hex, hem, hcmp⟩ := full_of_clear hord ha hb hc
  ⟨hex, hem, fun _ hp => diff_sound hord ha hb hc hp, fun _ hq hi => diff_complete hord ha hb hc hq hi, hcmp⟩

/-- without ignore paths: Diff is empty exactly when the trees are equal up to numeric width and
null-versus-absent members -/
theorem C19_current_equiv {ord : List Bytes → List Bytes} (hord : OrdOK ord) {fl : Flavour} {a b : JV}
    (ha : MachineTree a) (hb : MachineTree b) : diff Dev.current ord fl a b [] = [] ↔ Equiv a b :=
  diff_empty_iff_equiv hord ha hb (clear_current fl a b [])

theorem C19_holds : C19_full := full_fixed

/-- the deviation set read off the regenerated facts about `alt/diff.go` (`tools/extract/diff.go`):
* `lastIndex` unless the child ignore paths are built per element, inside the element loop;
* `floatRound` unless `floatEqual` exists, compares through `asInt`, and is what the float cases of
  both `diff` and `Match` call;
* `tailSkip` unless the `len(t1) <= i` test comes first in the element loop and consults `ignoreIndex`;
* `genRoot` unless `gen.Int` / `gen.Float` are named in the integer / float cases of both switches;
* `uintWrap` unless `intEqual` exists, it and `floatEqual` consult `asBigUint`, and `intEqual` is what
  the integer cases of both `diff` and `Match` call. -/
def Dev.ofSource : Dev where
  lastIndex := !Gen.AltDiff.arrChildIgnoresInsideLoop
  floatRound := !(Gen.AltDiff.hasFloatEqual && Gen.AltDiff.floatEqualCalls.contains "asInt" &&
    Gen.AltDiff.diffFloatCaseCalls.contains "floatEqual" && Gen.AltDiff.matchFloatCaseCalls.contains "floatEqual")
  tailSkip := !(Gen.AltDiff.arrLengthTestFirst && Gen.AltDiff.arrLengthTestHonoursIgnore)
  genRoot := !(Gen.AltDiff.diffIntCaseTypes.contains "gen.Int" && Gen.AltDiff.matchIntCaseTypes.contains "gen.Int" &&
    Gen.AltDiff.diffFloatCaseTypes.contains "gen.Float" && Gen.AltDiff.matchFloatCaseTypes.contains "gen.Float")
  uintWrap := !(Gen.AltDiff.hasIntEqual && Gen.AltDiff.intEqualCalls.contains "asBigUint" &&
    Gen.AltDiff.floatEqualCalls.contains "asBigUint" &&
    Gen.AltDiff.diffIntCaseCalls.contains "intEqual" && Gen.AltDiff.matchIntCaseCalls.contains "intEqual")

/-- the source the check runs against has the shape of the model's `Dev.current` -/
theorem source_is_current : Dev.ofSource = Dev.current := by decide

theorem ordOK_id : OrdOK id := fun _ _ => Iff.rfl

theorem not_full_of_missed {D : Dev} (fl : Flavour) (a b : JV) (ign : List Path) (q : Path)
    (ha : MachineTree a) (hb : MachineTree b) (hl : LeafDiff a b q) (hi : ¬ Ignored ign q)
    (hm : q ∉ (diff D id fl a b ign).map norm) : ¬ Full D :=
  fun h => hm (((h id ordOK_id fl a b ign ha hb).1 q).2 ⟨hl, hi⟩)

theorem not_full_of_spurious {D : Dev} (fl : Flavour) (a b : JV) (ign : List Path) (p : Path)
    (ha : MachineTree a) (hb : MachineTree b) (hp : p ∈ (diff D id fl a b ign).map norm)
    (hn : ¬ LeafDiff a b p) : ¬ Full D :=
  fun h => hn (((h id ordOK_id fl a b ign ha hb).1 p).1 hp).1

def kA : Bytes := [97]
def kB : Bytes := [98]

/-- `[{a:1,b:2},{a:3,b:4}]` -/
def w1a : JV := .arr [.obj [(kA, .int 1), (kB, .int 2)], .obj [(kA, .int 3), (kB, .int 4)]]
/-- `[{a:9,b:2},{a:8,b:4}]` -/
def w1b : JV := .arr [.obj [(kA, .int 9), (kB, .int 2)], .obj [(kA, .int 8), (kB, .int 4)]]
/-- `Path{0,"a"}, Path{1,"b"}` -/
def w1ign : List Path := [[.idx 0, .key kA], [.idx 1, .key kB]]

theorem w1_all (P : Int → Prop) (h : P 1 ∧ P 2 ∧ P 3 ∧ P 4 ∧ P 8 ∧ P 9) : AllInts P w1a ∧ AllInts P w1b := by
  obtain ⟨h1, h2, h3, h4, h8, h9⟩ := h
  have ho : ∀ i j, P i → P j → AllInts P (.obj [(kA, .int i), (kB, .int j)]) := fun i j hi hj =>
    .obj _ (by simpa using ⟨AllInts.int i hi, AllInts.int j hj⟩)
  exact ⟨.arr _ (by simpa using ⟨ho 1 2 h1 h2, ho 3 4 h3 h4⟩), .arr _ (by simpa using ⟨ho 9 2 h9 h2, ho 8 4 h8 h4⟩)⟩

theorem w1a_int64 : Int64Tree w1a := (w1_all IsInt64 (by decide)).1
theorem w1b_int64 : Int64Tree w1b := (w1_all IsInt64 (by decide)).2
theorem w1a_machine : MachineTree w1a := (w1_all IsMachineInt (by decide)).1
theorem w1b_machine : MachineTree w1b := (w1_all IsMachineInt (by decide)).2

/-- an instance on the multi-index witness: for the code as it is the ignore paths
`Path{0,"a"}, Path{1,"b"}` need no exclusion -/
example : (∀ p, p ∈ (diff Dev.current id .simple w1a w1b w1ign).map norm ↔
    LeafDiff w1a w1b p ∧ ¬ Ignored w1ign p) :=
  (C19_current ordOK_id w1a_machine w1b_machine).1

/-- before c0c8224: `Diff(a, b, Path{0,"a"}, Path{1,"b"})` is `[[0 a]]`: the ignored `[0].a` is reported -/
theorem w1_model : diff ⟨true, false, false, false, false⟩ id .simple w1a w1b w1ign = [[.idx 0, .key kA]] := by
  decide +kernel

/-- with `lastIndex` alone: on the multi-index witness `[1].a`, a difference that is not ignored, is missed -/
theorem full_false_lastIndex : ¬ Full ⟨true, false, false, false, false⟩ :=
  not_full_of_missed .simple w1a w1b w1ign [.idx 1, .key kA] w1a_machine w1b_machine
    (LeafDiff.elem (i := 1) rfl rfl (LeafDiff.member (k := kA) (LeafDiff.here (by decide)))) (by decide)
    (by rw [w1_model]; decide)

/-- 2^53 as a float -/
def w2a : JV := .flt [57, 48, 48, 55, 49, 57, 57, 50, 53, 52, 55, 52, 48, 57, 57, 50]
/-- 2^53 + 1 as an integer -/
def w2b : JV := .int 9007199254740993

theorem w2_model : diff ⟨false, true, false, false, false⟩ id .simple w2a w2b [] = [] := by decide +kernel
theorem w2_pinned : diff Dev.pinned id .simple w2a w2b [] = [] := by decide +kernel

theorem w2_leaf : LeafDiff w2a w2b [] := LeafDiff.here (by decide +kernel)

/-- before 23c2317: `Diff(float64(1<<53), int64(1<<53+1))` is empty although the numbers differ -/
theorem full_false_floatRound : ¬ Full ⟨false, true, false, false, false⟩ :=
  not_full_of_missed .simple w2a w2b [] [] (AllInts.flt _) (AllInts.int _ (by decide)) w2_leaf (by decide) (by rw [w2_model]; nofun)

/-- a second name of `full_false_floatRound`, after the commit that repairs `floatRound` -/
theorem C19_full_false_before_23c2317 : ¬ Full ⟨false, true, false, false, false⟩ := full_false_floatRound

/-- the pinned code (all five deviations) did not satisfy C19 -/
theorem full_false_pinned : ¬ Full Dev.pinned :=
  not_full_of_missed .simple w2a w2b [] [] (AllInts.flt _) (AllInts.int _ (by decide)) w2_leaf (by decide) (by rw [w2_pinned]; nofun)

/-- with `floatRound` off the same pair is reported: `Dev.current` returns `[[nil]]` -/
theorem w2_now : diff Dev.current id .simple w2a w2b [] = [here] := by decide +kernel

/-- `[1,2,3]` against `[1]` with `Path{1}` ignored -/
def w3a : JV := .arr [.int 1, .int 2, .int 3]
def w3b : JV := .arr [.int 1]

theorem w3a_machine : MachineTree w3a :=
  .arr _ (by simpa using ⟨AllInts.int 1 (by decide), AllInts.int 2 (by decide), AllInts.int 3 (by decide)⟩)

theorem w3b_machine : MachineTree w3b := .arr _ (by simpa using AllInts.int 1 (by decide))

theorem w3_model : diff ⟨false, false, true, false, false⟩ id .simple w3a w3b [[.idx 1]] = [[.idx 2]] := by decide +kernel

/-- before 2f372fe: `Diff([1,2,3], [1], Path{1})` is `[[2]]`: not a leaf difference (the length mismatch lives at
`[1]`, which is ignored; with the arrays swapped the code returns nothing) -/
theorem full_false_tailSkip : ¬ Full ⟨false, false, true, false, false⟩ :=
  not_full_of_spurious .simple w3a w3b [[.idx 1]] [.idx 2] w3a_machine w3b_machine (by rw [w3_model]; decide)
    (fun h => by cases h with | elem _ h3 _ => cases h3)

theorem w4_model : diff ⟨false, false, false, true, false⟩ id .gen (.int 3) (.flt [51]) [] = [here] := by decide +kernel

/-- before 36b721b: `Diff(gen.Int(3), gen.Float(3))` is `[[nil]]` although 3 = 3.0 -/
theorem full_false_genRoot : ¬ Full ⟨false, false, false, true, false⟩ :=
  not_full_of_spurious .gen (.int 3) (.flt [51]) [] [] (AllInts.int _ (by decide)) (AllInts.flt _) (by rw [w4_model]; decide)
    (fun h => by cases h with | here hc => revert hc; decide +kernel)

/-- 2^63 as a `uint64` -/
def w5a : JV := .int 9223372036854775808
/-- `math.MinInt64` -/
def w5b : JV := .int (-9223372036854775808)

theorem w5_model : diff ⟨false, false, false, false, true⟩ id .simple w5a w5b [] = [] := by decide +kernel
theorem w5_leaf : LeafDiff w5a w5b [] := LeafDiff.here (by decide +kernel)

/-- before d149f2d: `Diff(uint64(1<<63), int64(math.MinInt64))` is empty although the numbers differ -/
theorem full_false_uintWrap : ¬ Full ⟨false, false, false, false, true⟩ :=
  not_full_of_missed .simple w5a w5b [] [] (AllInts.int _ (by decide)) (AllInts.int _ (by decide)) w5_leaf (by decide)
    (by rw [w5_model]; nofun)

/-- a second name of `full_false_uintWrap`, after the commit that repairs `uintWrap` -/
theorem C19_full_false_before_d149f2d : ¬ Full ⟨false, false, false, false, true⟩ := full_false_uintWrap

/-- with `uintWrap` off the pair is reported, and 2^63 as a `uint64` and as a float are equal (with `uintWrap`
on they are reported different: third clause): an instance of `C19_current` outside the int64 range -/
theorem w5_now : diff Dev.current id .simple w5a w5b [] = [here]
    ∧ diff Dev.current id .simple w5a (.flt [57, 50, 50, 51, 51, 55, 50, 48, 51, 54, 56, 53, 52, 55, 55, 53, 56, 48, 56]) [] = []
    ∧ diff ⟨false, false, false, false, true⟩ id .simple w5a
        (.flt [57, 50, 50, 51, 51, 55, 50, 48, 51, 54, 56, 53, 52, 55, 55, 53, 56, 48, 56]) [] = [here] := by
  refine ⟨?_, ?_, ?_⟩ <;> decide +kernel

/-! `NoInnerIdx`, `IdxSafe`, `NoFinalIdx`, `Clear Dev.pinned`, `OrdOK` and the specification's relations hold of non-trivial data. -/

/-- an ignore set with a wildcard and names is clear of the ignore-path deviations -/
example : NoInnerIdx [[.wild, .key kA], [.key kB]] ∧ NoFinalIdx [[.wild, .key kA], [.key kB]] := by
  constructor <;> intro g hg <;> simp only [List.mem_cons, List.not_mem_nil, or_false] at hg <;>
    rcases hg with rfl | rfl <;> rfl

/-- a single index at the end of a path is clear of C19-multi-index-ignore -/
example : NoInnerIdx [[.key kA, .idx 2]] := by
  intro g hg; simp only [List.mem_cons, List.not_mem_nil, or_false] at hg; subst hg; rfl

/-- so is one path through an array index next to any number of one-fragment paths
(`Path{"a", 1, "b"}, Path{"b"}, Path{0}`: the use the repository's tests make of indexes) -/
example : IdxSafe [[.key kA, .idx 1, .key kB], [.key kB], [.idx 0]] := by
  refine Or.inr ⟨by decide, fun g hg => ?_⟩
  simp only [List.mem_cons, List.not_mem_nil, or_false] at hg
  rcases hg with rfl | rfl | rfl <;> rfl

/-- the whole of `Clear` for the pinned code, on a case with a real difference and an ignore path -/
example : Clear Dev.pinned .simple w1a w1b [[.wild, .key kB]] :=
  ⟨fun _ => Or.inl (fun g hg => by simp only [List.mem_cons, List.not_mem_nil, or_false] at hg; subst hg; rfl),
   fun _ g hg => by simp only [List.mem_cons, List.not_mem_nil, or_false] at hg; subst hg; rfl,
   fun _ => (w1_all IsFloatExact (by decide)).2,
   fun _ h => (by cases h), fun _ => ⟨w1a_int64, w1b_int64⟩⟩

/-- a leaf difference below an array and an object, not covered by `Path{nil,"b"}` -/
example : LeafDiff w1a w1b [.idx 0, .key kA] ∧ ¬ Ignored [[.wild, .key kB]] [.idx 0, .key kA] :=
  ⟨LeafDiff.elem (i := 0) rfl rfl (LeafDiff.member (k := kA) (LeafDiff.here (by decide))), by decide⟩

/-- equal up to numeric width and a null member: `{a:1, b:null}` and `{a:1.0}` -/
example : Equiv (.obj [(kA, .int 1), (kB, .null)]) (.obj [(kA, .flt [49])]) := by
  refine Equiv.obj (fun k => ?_)
  simp only [member]
  by_cases h1 : kA = k
  · simp only [h1, if_true]; exact Equiv.atom (by decide +kernel)
  · by_cases h2 : kB = k
    · simp only [h1, h2, if_true, if_false]; exact Equiv.atom rfl
    · simp only [h1, h2, if_false]; exact Equiv.atom rfl

/-- a fingerprint with a null member against a target without it -/
example : FpMatch (.obj [(kA, .null)]) (.obj [(kB, .int 2)]) := by
  refine FpMatch.obj (fun k hk => ?_)
  simp only [keysOf, List.map_cons, List.map_nil, List.mem_cons, List.not_mem_nil, or_false] at hk
  subst hk
  exact FpMatch.atom (by decide)

example : OrdOK List.reverse := fun _ _ => List.mem_reverse

end OjgVerif.C19
