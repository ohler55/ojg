import OjgVerif.Props.C13
import OjgVerif.JPMut.LemmasOneSet
/-! # C13, continued: what an ERRORING mutation leaves behind; the One forms exactly

The exactness theorems of Props/C13.lean speak about calls that report no error. `Expr.set` edits in place as it
goes and can fail half-way (`$[*].a[5]` on `[{"a":[1]},…]`: out of bounds at the first element after nothing, or at the
second after the first was edited; `$.a.b.c` where `b` holds a number: "can not follow"). The property's frame clause —
"change only those, leaving every other part of the data equal to before" — does not depend on success:

* `frame_set` / `err_frame_set` — Set, SetOne, Del, DelOne, simple and gen data, every deviation set, a path without
  recursive descent: WHATEVER is reported (a result, a One form's early stop, an error after some edits), every location
  that is not at, above or below a selected location — or, Set, a member the path may create (`createRootsG`) — holds what
  it held. Proved on the traversal itself (LemmasErr.lean), not via the exactness theorems.
* `err_same_modify` / `err_same_remove` — Modify, ModifyOne, Remove, RemoveOne, EVERY path (descent included): once the
  `gen.Node` assertion cannot fail (`genModifyNil` off — `Dev.current`; or simple data) the traversal of `Expr.modify` has
  no error exit: an error means the request was refused up front (last fragment a Descent / not removable) and the data is
  untouched.
* `err_frame` — the four mutators, all matches and One, simple and gen data, the code as it is: an error outcome satisfies
  the frame w.r.t. the inclusive selection (no hypothesis about slices); `err_frame_current` — w.r.t. Get's selection on
  clean paths, which is literally the `.err` clause of `C13_full` (`Holds`): `holds_err_current`.
-/
namespace OjgVerif.C13
open OjgVerif.JPath OjgVerif.JPMut

variable {σ : SliceFn} [NodupSlice σ]

/-- the locations outside which nothing may change, under the reading `σ` of slices (`frameSet` = the instance `sliceIdx`) -/
def frameSetG (σ : SliceFn) (x : List Frag) (d : JV) : Op → List Path
  | .set _ => locsG σ x d ++ createRootsG σ x d
  | .del => locsG σ x d
  | .mod _ => locsG σ x d
  | .rem => (locsG σ x d).map List.dropLast

theorem frameSetG_spec (x : List Frag) (d : JV) (op : Op) : frameSetG sliceIdx x d op = frameSet x d op := by
  cases op <;> rfl

/-- The frame whatever the outcome. Set/SetOne (`a = .val v`), Del/DelOne (`a = .del`), simple and gen data, any deviation
set: the data the call leaves (after a result, a One form's stop, or an error following partial edits) agrees with the
data before at every location that is not at, above or below a location of `setFrameG σ a x d` = the selected locations
plus, for Set, the members the path may create -/
theorem frame_set (gen : Bool) (dev : Dev) (one : Bool) (a : SetArg) (x : List Frag) (d : JV) (hnd : NoDescent x) (hw : WF d)
    (hg : GoodPathS σ dev x d) : Frame (setFrameG σ a x d) d ((setM gen dev one a x d).data d) :=
  setM_frame gen dev one a x d hnd hw hg

/-- the error case spelled out: after an erroring Set/Del every location not selected (nor creatable) holds its old value -/
theorem err_frame_set (gen : Bool) (dev : Dev) (one : Bool) (a : SetArg) (x : List Frag) (d d' : JV) (e : E) (hnd : NoDescent x)
    (hw : WF d) (hg : GoodPathS σ dev x d) (h : setM gen dev one a x d = .err e d') : Frame (setFrameG σ a x d) d d' := by
  have := frame_set (σ := σ) gen dev one a x d hnd hw hg
  rw [h] at this
  exact this

/-- an erroring call that has edited: `Set $[*].a[1]` on `[{"a":[1,2]},{"a":[3]}]` replaces `$[0].a[1]`, then reports
"out of bounds" at `$[1].a` — the edit stays, everything else is as it was -/
example : setM false Dev.current false (.val (.int 9)) [.wild, .child kA, .nth 1]
      (.arr [.obj [(kA, ints [1, 2])], .obj [(kA, ints [3])]]) =
    .err .outOfBounds (.arr [.obj [(kA, ints [1, 9])], .obj [(kA, ints [3])]]) := by rfl

/-- the hypotheses of `err_frame_set` hold there -/
example : NoDescent [.wild, .child kA, .nth 1] ∧
    GoodPathS σ Dev.current [.wild, .child kA, .nth 1] (.arr [.obj [(kA, ints [1, 2])], .obj [(kA, ints [3])]]) := by
  refine ⟨?_, trivial, fun _ _ => ⟨trivial, fun _ _ => ⟨trivial, fun _ _ => trivial⟩⟩⟩
  intro f hf; simp at hf; rcases hf with rfl | rfl | rfl <;> rfl

/-- Modify / ModifyOne, EVERY path (recursive descent included), simple and gen data: an error means the request was
refused before the traversal began — the data is untouched (and the error is "last fragment is a Descent") -/
theorem err_same_modify (gen : Bool) (dev : Dev) (one : Bool) (m : Modifier) (h : gen = false ∨ dev.genModifyNil = false)
    (x : List Frag) (d d' : JV) (e : E) (he : modifyM gen dev one m x d = .err e d') : d' = d ∧ e = .lastDescent :=
  modifyCore_err_same gen dev one m (by rcases h with h | h <;> simp [h]) x d d' e he

/-- Remove / RemoveOne, EVERY path: an error means the request was refused before anything was touched -/
theorem err_same_remove (gen : Bool) (dev : Dev) (one : Bool) (h : gen = false ∨ dev.genModifyNil = false)
    (x : List Frag) (d d' : JV) (e : E) (he : removeM gen dev one x d = .err e d') : d' = d :=
  removeM_err_same gen dev one (by rcases h with h | h <;> simp [h]) x d d' e he

example : modifyM false Dev.current false inc [.child kA, .descent] (.obj [(kA, .int 1)]) = .err .lastDescent (.obj [(kA, .int 1)]) := by rfl

theorem setFrame_sub_frameSet (a : SetArg) (x : List Frag) (d : JV) :
    ∀ p ∈ setFrameG σ a x d, p ∈ frameSetG σ x d a.op := by
  intro p hp
  cases a with
  | val v => exact hp
  | del => simpa [setFrameG, crG, frameSetG, SetArg.op] using hp

/-- the frame after an error, the code as it is, under any reading `σ` of slices the path is good for -/
theorem err_frame_good (gen one : Bool) (op : Op) (x : List Frag) (d d' : JV) (e : E) (hnd : NoDescent x) (hw : WF d)
    (hg : GoodPathS σ Dev.current x d) (h : runModel gen Dev.current one x d op = .err e d') : Frame (frameSetG σ x d op) d d' := by
  cases op with
  | set v => exact err_frame_set gen Dev.current one (.val v) x d d' e hnd hw hg h
  | del => exact (err_frame_set gen Dev.current one .del x d d' e hnd hw hg h).mono (setFrame_sub_frameSet .del x d)
  | mod m => rw [(err_same_modify gen Dev.current one m (Or.inr rfl) x d d' e h).1]; exact Frame.refl _ _
  | rem => rw [err_same_remove gen Dev.current one (Or.inr rfl) x d d' e h]; exact Frame.refl _ _

/-- The code as it is, the four mutators, all matches and One, simple and gen data, a path without
recursive descent in which no union lists a member twice: after an ERROR every location that is not at, above or below
a location selected under the inclusive reading (or, Set, creatable) holds its old value. No hypothesis about slices. -/
theorem err_frame (gen one : Bool) (op : Op) (x : List Frag) (d d' : JV) (e : E) (hnd : NoDescent x) (hw : WF d)
    (hu : UnionsClean x d) (h : runModel gen Dev.current one x d op = .err e d') : Frame (frameSetG inclIdx x d op) d d' :=
  err_frame_good gen one op x d d' e hnd hw (unionsClean_goodS x d hnd hu) h

/-- the same against the PROPERTY's selection (Get's, exclusive slices) on clean paths -/
theorem err_frame_current (gen one : Bool) (op : Op) (x : List Frag) (d d' : JV) (e : E) (hnd : NoDescent x) (hw : WF d)
    (hc : CleanPath x d) (h : runModel gen Dev.current one x d op = .err e d') : Frame (frameSet x d op) d d' := by
  rw [← frameSetG_spec]
  exact err_frame_good gen one op x d d' e hnd hw (cleanPath_goodS x d hc) h

/-- the `.err` clause of `C13_full` holds for the code as it is on clean paths: all matches and One, simple and gen data -/
theorem holds_err_current (gen one : Bool) (op : Op) (x : List Frag) (d d' : JV) (e : E) (hnd : NoDescent x) (hw : WF d)
    (hc : CleanPath x d) (h : runModel gen Dev.current one x d op = .err e d') :
    Holds op one x d (runModel gen Dev.current one x d op) := by
  rw [h]
  exact err_frame_current gen one op x d d' e hnd hw hc h

/-! The One forms exactly.
`one_set`, `one_modify`, `one_remove` (Props/C13.lean) say: at most one member of one container changes. The theorems
below say WHICH change it is, for paths without recursive descent on simple data: the all-matches edit at ONE selected
location (`single p d op` with `p ∈ locs x d`), and no change only when there is nothing to do. -/

/-- ModifyOne EXACTLY, any deviation set with `filterMapNil` off, any reading `σ` of slices the code agrees with on the arrays
met (`GoodPath`): no error is possible; the returned tree is `updAll m.eff [p] d` for ONE selected location `p` at which
the modifier reports a change (`ModOneOut`, second case; which such location is not stated — the example below shows
modify.go's order on one input), or the input itself when the modifier reports no change at any selected location (first
case). Hence `OneOKG`. -/
theorem one_modify_exact (dev : Dev) (m : Modifier) (x : List Frag) (d : JV) (hfm : dev.filterMapNil = false) (hnd : NoDescent x)
    (hw : WF d) (hg : GoodPath σ dev x d) (hroot : ¬ (x = [] ∧ dev.rootScalar = true ∧ isContainer d = false)) :
    ∃ d', modifyM false dev true m x d = .ok d' ∧ ModOneOut σ m x d d' ∧ OneOKG σ x d d' (.mod m) := by
  obtain ⟨d', h1, h2⟩ := modifyCore_one_exact (σ := σ) dev m x d hfm hnd hw hg hroot
  exact ⟨d', h1, h2, h2.oneOKG hw⟩

/-- ModifyOne, the code as it is, every slice (inclusive reading) -/
theorem one_modify_incl (m : Modifier) (x : List Frag) (d : JV) (hnd : NoDescent x) (hw : WF d) (hu : UnionsClean x d) :
    ∃ d', modifyM false Dev.current true m x d = .ok d' ∧ ModOneOut inclIdx m x d d' ∧ OneOKG inclIdx x d d' (.mod m) :=
  one_modify_exact Dev.current m x d rfl hnd hw (unionsClean_good x d hnd hu) (fun h => by simp [Dev.current] at h)

/-- ModifyOne, the code as it is, against the PROPERTY (`OneOK` of Spec.lean, Get's selection) on clean paths -/
theorem one_modify_current (m : Modifier) (x : List Frag) (d : JV) (hnd : NoDescent x) (hw : WF d) (hc : CleanPath x d) :
    ∃ d', modifyM false Dev.current true m x d = .ok d' ∧ OneOK x d d' (.mod m) := by
  obtain ⟨d', h1, _, h3⟩ := one_modify_exact (σ := sliceIdx) Dev.current m x d rfl hnd hw (cleanPath_good x d hc)
    (fun h => by simp [Dev.current] at h)
  exact ⟨d', h1, (oneOKG_spec x d d' _).1 h3⟩

/-- `ModifyOne $[*].a` with `inc` on `[{"a":1},{"a":2}]`: modify.go pops the LAST element first — `$[1].a` is the one edited -/
example : modifyM false Dev.current true inc [.wild, .child kA] (.arr [objA 1, objA 2]) = .ok (.arr [objA 1, objA 3]) ∧
    single [.idx 1, .key kA] (.arr [objA 1, objA 2]) (.mod inc) = .arr [objA 1, objA 3] := ⟨by rfl, by rfl⟩

/-- SetOne / DelOne EXACTLY, any deviation set with `delOneAbsent` off, any reading `σ` the code's slice arithmetic agrees
with: when no error is reported the data is the input with the new value written (Del: the member gone, the element null)
at ONE selected location, or (Set) with ONE member created along a name/index chain, or the input itself — that only when
nothing is selected and nothing is to be created -/
theorem one_set_exact (dev : Dev) (hda : dev.delOneAbsent = false) (a : SetArg) (x : List Frag) (d d' : JV) (hnd : NoDescent x)
    (hw : WF d) (hg : GoodPathS σ dev x d) (h : setM false dev true a x d = .ok d') : OneOKG σ x d d' a.op := by
  simp only [setM] at h
  split at h
  · cases h
  next hr =>
    have hx : x ≠ [] := fun e => hr (by rw [e]; rfl)
    exact (setF_one (σ := σ) dev hda a x hx hnd (endable_of_not_refused hr) false d hw hg).oneOKG h

/-- RemoveOne EXACTLY: no error is possible; the returned tree is the input with ONE selected member removed, or the
input itself when nothing is selected -/
theorem one_remove_exact (dev : Dev) (sx : List Frag) (f : Frag) (d : JV) (hfm : dev.filterMapNil = false)
    (hnd : NoDescent (sx ++ [f])) (hw : WF d) (hg : GoodPath σ dev sx d) (hr : RemPath σ dev f sx d) :
    ∃ d', removeM false dev true (sx ++ [f]) d = .ok d' ∧ OneOKG σ (sx ++ [f]) d d' .rem := by
  have hf : isDescentF f = false := hnd f (by simp)
  have hndx : NoDescent sx := fun g hg => hnd g (List.mem_append_left _ hg)
  obtain ⟨m, hm⟩ : ∃ m, removeOneOf dev f = some m := by
    cases f <;> first | exact ⟨_, rfl⟩ | cases hf
  simp only [removeM, List.getLast?_append, List.getLast?_singleton, Option.some_or, hm, if_true, List.dropLast_concat]
  by_cases hroot : sx = [] ∧ dev.rootScalar = true ∧ isContainer d = false
  · obtain ⟨rfl, h2, h3⟩ := hroot
    have : isDescent ([] : List Frag).getLast? = false := rfl
    simp only [modifyCore, this, Bool.false_eq_true, if_false, List.isEmpty_nil, h2, h3, Bool.not_false, Bool.and_self, if_true,
      List.nil_append]
    exact ⟨d, rfl, Or.inl ⟨locs_scalar (σ := σ) f [] d hf h3, trivial, rfl⟩⟩
  · obtain ⟨d', h1, h2⟩ := modifyCore_one_exact (σ := σ) dev m sx d hfm hndx hw hg hroot
    exact ⟨d', h1, h2.remove hw fun p hp c hv =>
      removeOneOf_single (σ := σ) dev f m hm c (WF_top c (WF_valAt p d c hw hv)) (remPath_at dev f sx hndx d hw hr p hp c hv)⟩

/-- every `removeOne` method (and `remove` of Child/Nth) drops ONE member its fragment selects, or nothing when it
selects nothing (`JPMut.removeOneOf_single`, the lemma `one_remove_exact` uses, under the name of the property) -/
theorem removeOne_methods (dev : Dev) (f : Frag) (m : Modifier) (hm : removeOneOf dev f = some m) (c : JV)
    (hw : TopNodup c) (hg : RemGood σ dev f c) : RemOne σ f m c := removeOneOf_single dev f m hm c hw hg

theorem split_last (x : List Frag) (f : Frag) (hx : x.getLast? = some f) : x = x.dropLast ++ [f] := by
  have hne : x ≠ [] := by intro e; subst e; simp at hx
  rw [List.getLast?_eq_some_getLast hne] at hx
  injection hx with hx
  rw [← hx, List.dropLast_concat_getLast hne]

/-- the One forms, the code as it is, under any reading `σ` of slices the path — and, for RemoveOne, its two parts — are
good for -/
theorem one_good (op : Op) (x : List Frag) (d d' : JV) (hnd : NoDescent x) (hw : WF d) (hgS : GoodPathS σ Dev.current x d)
    (hg : GoodPath σ Dev.current x d)
    (hrem : ∀ sx f, x = sx ++ [f] → GoodPath σ Dev.current sx d ∧ RemPath σ Dev.current f sx d)
    (h : runModel false Dev.current true x d op = .ok d') : OneOKG σ x d d' op := by
  cases op with
  | set v => exact one_set_exact Dev.current rfl (.val v) x d d' hnd hw hgS h
  | del => exact one_set_exact Dev.current rfl .del x d d' hnd hw hgS h
  | mod m =>
    obtain ⟨d'', h1, _, h3⟩ := one_modify_exact Dev.current m x d rfl hnd hw hg (fun h => by simp [Dev.current] at h)
    cases h1.symm.trans h
    exact h3
  | rem =>
    cases hx : x.getLast? with
    | none =>
      cases List.getLast?_eq_none_iff.1 hx
      cases h
    | some f =>
      have hsplit := split_last x f hx
      obtain ⟨hgd, hr⟩ := hrem _ f hsplit
      rw [hsplit] at hnd h ⊢
      obtain ⟨d'', h3, h4⟩ := one_remove_exact Dev.current x.dropLast f d rfl hnd hw hgd hr
      cases h3.symm.trans h
      exact h4

/-- The One forms, the code as it is, every slice (inclusive reading): a One form that reports no error leaves the edit of
ONE selected location (or one created member), the input itself only when nothing is selected -/
theorem one_incl (op : Op) (x : List Frag) (d d' : JV) (hnd : NoDescent x) (hw : WF d) (hu : UnionsClean x d)
    (h : runModel false Dev.current true x d op = .ok d') : OneOKG inclIdx x d d' op := by
  refine one_good op x d d' hnd hw (unionsClean_goodS x d hnd hu) (unionsClean_good x d hnd hu) (fun sx f e => ?_) h
  subst e
  have hs := unionsClean_split f (hnd f (by simp)) sx d hu
  exact ⟨unionsClean_good sx d (fun g hg => hnd g (List.mem_append_left _ hg)) hs.1, hs.2⟩

/-- The One forms against the PROPERTY (`OneOK` of Spec.lean: Get's selection), the code as it is, clean paths -/
theorem one_current (op : Op) (x : List Frag) (d d' : JV) (hnd : NoDescent x) (hw : WF d) (hc : CleanPath x d)
    (h : runModel false Dev.current true x d op = .ok d') : OneOK x d d' op := by
  refine (oneOKG_spec x d d' op).1
    (one_good op x d d' hnd hw (cleanPath_goodS x d hc) (cleanPath_good x d hc) (fun sx f e => ?_) h)
  subst e
  have hs := cleanPath_split f sx d hc
  exact ⟨cleanPath_good sx d hs.1, hs.2⟩

/-- Every clause of C13 on clean paths. The code as it is, the four mutators, all matches AND One, simple AND gen data, a
result AND an error: on a path without recursive descent that is clean on the data (no repeated union member, slices on
which the inclusive and the exclusive reading agree) the outcome satisfies what `C13_full` demands (`Holds`): the
all-matches forms leave exactly `expected`, the One forms satisfy `OneOK`, an error respects the frame, and there is no
fault. (`C13_full_false`: without the cleanness hypothesis the statement is false.) -/
theorem C13_clean (gen one : Bool) (op : Op) (x : List Frag) (d : JV) (hnd : NoDescent x) (hw : WF d) (hc : CleanPath x d) :
    Holds op one x d (runModel gen Dev.current one x d op) := by
  have hrep := reported_current gen one op x d
  cases hout : runModel gen Dev.current one x d op with
  | ok d' =>
    have hout : runModel false Dev.current one x d op = .ok d' := by
      cases gen with
      | false => exact hout
      | true => rw [← gen_current]; exact hout
    cases one with
    | true => simp only [Holds, if_true]; exact one_current op x d d' hnd hw hc hout
    | false => simp only [Holds, Bool.false_eq_true, if_false]; exact C13_current op x d d' hnd hw hc hout
  | err e d' => exact err_frame_current gen one op x d d' e hnd hw hc hout
  | fault d' => rw [hout] at hrep; exact hrep
  | unmodelled => rw [hout] at hrep; exact hrep

/-- `SetOne $[*].a` with 9 on `[{"b":3},{"a":1}]`: the first element lacks `a` — the member is CREATED there (one created
member), the selected `$[1].a` is not touched -/
example : setM false Dev.current true (.val (.int 9)) [.wild, .child kA] (.arr [.obj [(kB, .int 3)], objA 1]) =
    .ok (.arr [.obj [(kB, .int 3), (kA, .int 9)], objA 1]) := by rfl

/-- `RemoveOne $[1:]` on `[0,1,2,3]` removes element 1 (the first selected) -/
example : removeM false Dev.current true [.slice (some 1) none none] (ints [0, 1, 2, 3]) = .ok (ints [0, 2, 3]) := by rfl

end OjgVerif.C13
