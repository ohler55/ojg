import OjgVerif.Props.C01
import OjgVerif.Json.FastSlow
/-! # C02 for oj.Parse (integer fast loop on)

`Props/C02Tree.lean` and `Props/C02Value.lean` state C02 for the byte-at-a-time machine. The parsers
(oj.Parser, gen.Parser) run the same machine with the integer fast loop switched on. This file bounds what
the loop can change: on every input on which no digit reaches the loop while the accumulator equals
`BigLimit` exactly — the condition under which known finding C02-int19 shows (19-digit integers
9223372036854775800 … 807) — the machine over the oj tables returns exactly what the byte-at-a-time
machine returns: the same documents with the same values, or the same error
(`Json.exec_fast_eq_slow_of_ok` is the same over any table set that passes `TablesOK`;
`C03.gen_parser_is_bytewise` is the statement over the gen tables, for a whole call). (That acceptance,
document count and error position are the same even when the condition fails is
`C01.outcome_independent_of_fastInt`.) -/
namespace OjgVerif.C02
open OjgVerif.Json

theorem oj_parser_eq_bytewise (bs : Bytes) (h : NoHitRun {} bs) :
    (match runBytes ojTables cfgFast {} bs with
      | .error e => Except.error e
      | .ok s => finish ojTables s) =
    (match runBytes ojTables cfg1 {} bs with
      | .error e => Except.error e
      | .ok s => finish ojTables s) :=
  exec_fast_eq_slow_of_ok C01.ojTables_ok bs h

/-- non-vacuity: ordinary documents meet the hypothesis, also with 19-digit integers outside that
range and with long fractions -/
example : NoHitRun {} "[123,-4.5e3,9223372036854775799,1234567890123456789012]".toUTF8.toList :=
  noHitRun_of_B _ _ (by decide +kernel)

/-- … and the known finding's literals do not -/
example : noHitRunB {} "9223372036854775807".toUTF8.toList = false := by decide +kernel

end OjgVerif.C02
