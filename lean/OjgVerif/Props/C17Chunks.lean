import OjgVerif.Props.C17
import OjgVerif.Match.LemmasTokChunks
import OjgVerif.Match.LemmasTokRef
import OjgVerif.Match.LemmasEventsInj
import OjgVerif.Match.LemmasNoRepeat
/-! # C17 — chunk independence of the callbacks as a PROVED clause

`Match/Tokenizer.lean` defines the token-event sequence of `oj.Tokenizer` as a function of the run of
the JSON byte machine (Json/Machine.lean): `tokEvents T cfg chunks`, one event per action of
`tokenizeBuffer` that calls a handler method, also the calls made before an error. The theorems are
over the regenerated oj tables (`ojTables`, Gen/Oj.lean) and the configuration of `oj.TokenizeLoad`
(`tokCfg true`: reader entry with BOM top-up, several documents allowed, no integer fast loop).

The event sequence depends only on the bytes delivered (`tokEvents_chunk_independent`, from the lemmas
behind `C03.chunks_irrelevant`). For an accepted input it is `events` of the trees AS WRITTEN
(`tokEvents_accepted`: members in the order of the text, repeated member names kept), and the documents
the machine delivers are those trees with repeated names overwritten (`dd`). `events` is injective, so
when no object of the text repeats a member name (`NoRepeatedNames`) the token stream under every
chunking is `events` of the parsed value (`tokEvents_of_text`): the hypotheses `hC03`/`htok` of
`callbacks_any_chunking_given_C03` (Props/C17.lean), as facts about the tokenizer model. `C17_streamed` on
that event sequence is `C17_chunked` (proved directly: in the conditional theorem `tok` takes the chunking
and the text as unrelated arguments); `C17_bytes` is the same for `oj.Match` / `oj.MatchString` on a
byte slice.

What is NOT covered: texts that repeat a member name (the events show both members, a parser keeps
the last: `repeated_name_events`), the Go fast paths of the tokenizer (string scan, literal compare,
digit loops: tied to this byte-at-a-time model by the correspondence run), and the SEN tokenizer
(`sen.Match`/`sen.MatchLoad`): there is no proved chunk-independence of the SEN byte machine to
start from (C03sen is partial), so for SEN chunk independence of the callbacks stays with the
correspondence run; the handler side of the theorems (`matchRun` on an event list) is shared. -/
namespace OjgVerif.C17
open OjgVerif.Match OjgVerif.Json

/-- **Chunk independence of the token-event sequence** of `oj.Tokenizer.Load` (regenerated oj
tables, code as it is): every handler call, in order, with its argument, also before an error — for
EVERY chunking, those with empty reads included (`emptyFirstReadNoBom` is off) -/
theorem tokEvents_chunk_independent (chunks : List Bytes) :
    tokEvents ojTables (tokCfg true) chunks = tokEvents ojTables (tokCfg true) [chunks.flatten] :=
  tokEvents_go_chunks_irrelevant ojTables (tokCfg true) rfl rfl chunks

theorem tokEvents_same_bytes (c c' : List Bytes) (h : c.flatten = c'.flatten) :
    tokEvents ojTables (tokCfg true) c = tokEvents ojTables (tokCfg true) c' := by
  rw [tokEvents_chunk_independent c, tokEvents_chunk_independent c', h]

/-- **Accepted input: the events are those of the trees as written.** Any configuration, any
chunking, regenerated oj tables. -/
theorem tokEvents_accepted (cfg : Cfg) (chunks : List Bytes) (docs : List JV)
    (h : Json.run ojTables cfg chunks = .ok docs) :
    ∃ raws : List JV, raws.map dd = docs ∧ tokEvents ojTables cfg chunks = raws.flatMap events := by
  rw [tokEvents_eq_ideal_now]
  exact tokEventsIdeal_accepted C01.ojTables_ok cfg chunks docs h

theorem map_dd_of_nodup (raws : List JV) (h : ∀ r ∈ raws, NoDupKeys r = true) : raws.map dd = raws :=
  (List.map_congr_left fun r hr => dd_of_nodup r (h r hr)).trans (List.map_id' raws)

/-- the trees as written are determined by the event sequence (`events` is injective): when they
have no repeated member name they ARE the documents the machine delivers. Any table set that passes
`TablesOK`. -/
theorem docs_eq_raws {T : Tables} (hT : TablesOK T) (cfg : Cfg) (chunks : List Bytes) (docs : List JV)
    (h : Json.run T cfg chunks = .ok docs) (raws : List JV)
    (hev : tokEventsIdeal T cfg chunks = raws.flatMap events) (hnd : ∀ r ∈ raws, NoDupKeys r = true) :
    docs = raws := by
  obtain ⟨raws', h1, h2⟩ := tokEventsIdeal_accepted hT cfg chunks docs h
  rw [flatMap_events_inj _ _ (h2.symm.trans hev), map_dd_of_nodup raws hnd] at h1
  exact h1.symm

/-- `docs_eq_raws` for the regenerated oj tables: the token stream of the tokenizer model is then the
`machineEvents` (Props/C17.lean) of the byte machine's result -/
theorem tokEvents_eq_machineEvents (cfg : Cfg) (chunks : List Bytes) (docs : List JV)
    (h : Json.run ojTables cfg chunks = .ok docs) (raws : List JV)
    (hev : tokEvents ojTables cfg chunks = raws.flatMap events) (hnd : ∀ r ∈ raws, NoDupKeys r = true) :
    docs = raws ∧ tokEvents ojTables cfg chunks = machineEvents (Json.run ojTables cfg chunks) := by
  rw [tokEvents_eq_ideal_now] at hev ⊢
  cases docs_eq_raws C01.ojTables_ok cfg chunks docs h raws hev hnd
  exact ⟨rfl, by rw [h]; exact hev⟩

/-- the text does not repeat a member name inside one object: the trees its token events spell
(unique: `flatMap_events_inj`) have pairwise different member names in every object. Stated with
`tokEventsIdeal`, as are the family lemmas `tokEvents_chunks_irrelevant`, `tokEvents_eq_ref`,
`tokEvents_accepted_ref`; it is the same sequence as `tokEvents` (`tokEvents_eq_ideal_now`). -/
def NoRepeatedNames (cfg : Cfg) (chunks : List Bytes) : Prop :=
  ∃ raws : List JV, tokEventsIdeal ojTables cfg chunks = raws.flatMap events ∧ ∀ r ∈ raws, NoDupKeys r = true

/-- **Chunk independence of the callbacks, unconditionally**: every input (accepted or not), every
target set (filters included), every setting of the deviations of the matcher — the callbacks of the
handler behind `oj.Tokenizer.Load` are the same for any two chunkings of the same bytes: the conclusion of
`callbacks_chunk_independent_given_C03` for the tokenizer model, without its hypothesis. -/
theorem callbacks_chunk_independent (dv : Dev) (targets : List Target) (c c' : List Bytes)
    (h : c.flatten = c'.flatten) :
    matchRun dv targets (tokEvents ojTables (tokCfg true) c) = matchRun dv targets (tokEvents ojTables (tokCfg true) c') := by
  rw [tokEvents_same_bytes c c' h]

/-- an accepted text without a repeated member name, read in one piece (either entry point): the
token events are the events of the parsed document -/
theorem tokEvents_single (cfg : Cfg) (text : Bytes) (doc : JV) (hacc : Json.run ojTables cfg [text] = .ok [doc])
    (hnr : NoRepeatedNames cfg [text]) : tokEvents ojTables cfg [text] = events doc ∧ NoDupKeys doc = true := by
  obtain ⟨raws, hev, hnd⟩ := hnr
  cases docs_eq_raws C01.ojTables_ok _ _ _ hacc raws hev hnd
  exact ⟨by rw [tokEvents_eq_ideal_now]; simpa using hev, hnd doc (by simp)⟩

/-- the core of the `C17_chunked*` theorems: for an accepted text without a repeated member name the
token events under ANY chunking are the events of the parsed document -/
theorem tokEvents_of_text (text : Bytes) (doc : JV) (hacc : Json.run ojTables (tokCfg true) [text] = .ok [doc])
    (hnr : NoRepeatedNames (tokCfg true) [text]) (chunks : List Bytes) (hch : chunks.flatten = text) :
    tokEvents ojTables (tokCfg true) chunks = events doc ∧ NoDupKeys doc = true := by
  rw [tokEvents_same_bytes chunks [text] (by simp [hch])]
  exact tokEvents_single _ text doc hacc hnr

/-- **C17 with the chunking in the statement.** For every text the tokenizer accepts as ONE JSON
document `doc` (the parsed value) and that does not repeat a member name inside an object, every
chunking of the reader and every target set WITHOUT FILTERS: the callbacks of `jp.MatchHandler`
behind `oj.Tokenizer.Load` (code as it is) are `expected` of the streamed reading of the targets
on `doc`. -/
theorem C17_chunked (text : Bytes) (doc : JV) (hacc : Json.run ojTables (tokCfg true) [text] = .ok [doc])
    (hnr : NoRepeatedNames (tokCfg true) [text]) (targets : List Target)
    (hnf : ∀ t ∈ targets, usesFilter t = false) (chunks : List Bytes) (hch : chunks.flatten = text) :
    matchRun Dev.cur targets (tokEvents ojTables (tokCfg true) chunks) = expected (targets.map asStreamed) doc := by
  obtain ⟨hev, hnd⟩ := tokEvents_of_text text doc hacc hnr chunks hch
  rw [hev]
  exact C17_streamed targets doc hnd hnf

/-- **`NoRepeatedNames` is executable on the text**: for an accepted input it says exactly that the
check `noRepeat` (a fold over the token events that keeps the names seen in each open object) passes -/
theorem noRepeatedNames_iff (cfg : Cfg) (chunks : List Bytes) (docs : List JV)
    (h : Json.run ojTables cfg chunks = .ok docs) :
    NoRepeatedNames cfg chunks ↔ noRepeat (tokEventsIdeal ojTables cfg chunks) = true := by
  obtain ⟨raws, _, hev⟩ := tokEventsIdeal_accepted C01.ojTables_ok cfg chunks docs h
  rw [hev, noRepeat_events]
  constructor
  · rintro ⟨raws', hev', hnd⟩
    have : raws' = raws := flatMap_events_inj _ _ (hev'.symm.trans hev)
    subst this
    simpa [List.all_eq_true] using hnd
  · intro hall
    exact ⟨raws, hev, by simpa [List.all_eq_true] using hall⟩

/-- `C17_chunked` with the executable hypothesis -/
theorem C17_chunked_exec (text : Bytes) (doc : JV) (hacc : Json.run ojTables (tokCfg true) [text] = .ok [doc])
    (hnr : noRepeat (tokEventsIdeal ojTables (tokCfg true) [text]) = true) (targets : List Target)
    (hnf : ∀ t ∈ targets, usesFilter t = false) (chunks : List Bytes) (hch : chunks.flatten = text) :
    matchRun Dev.cur targets (tokEvents ojTables (tokCfg true) chunks) = expected (targets.map asStreamed) doc :=
  C17_chunked text doc hacc ((noRepeatedNames_iff _ _ _ hacc).mpr hnr) targets hnf chunks hch

/-- the same with the specification itself on the right when no target deviates -/
theorem C17_chunked_partial (text : Bytes) (doc : JV) (hacc : Json.run ojTables (tokCfg true) [text] = .ok [doc])
    (hnr : NoRepeatedNames (tokCfg true) [text]) (targets : List Target)
    (hdev : ∀ t ∈ targets, deviates t = false) (chunks : List Bytes) (hch : chunks.flatten = text) :
    matchRun Dev.cur targets (tokEvents ojTables (tokCfg true) chunks) = expected targets doc := by
  rw [C17_chunked text doc hacc hnr targets (fun t ht => usesFilter_of_deviates (hdev t ht)) chunks hch,
    map_asStreamed_id targets hdev]

/-- `oj.Match` / `oj.MatchString` on a byte slice (`Tokenizer.Parse`: one buffer, the `[]byte` BOM
rule) -/
theorem C17_bytes (text : Bytes) (doc : JV) (hacc : Json.run ojTables (tokCfg false) [text] = .ok [doc])
    (hnr : NoRepeatedNames (tokCfg false) [text]) (targets : List Target)
    (hnf : ∀ t ∈ targets, usesFilter t = false) :
    matchRun Dev.cur targets (tokEvents ojTables (tokCfg false) [text]) = expected (targets.map asStreamed) doc := by
  obtain ⟨hev, hnd⟩ := tokEvents_single _ text doc hacc hnr
  rw [hev]
  exact C17_streamed targets doc hnd hnf

/-- what the model `emit` assumes of the Go case of an action: (the case calls a method of
`t.handler` directly, the case calls `t.handleNum()`). `keyQuote`, `valQuote`, `valNull`, `valTrue`,
`valFalse` call the handler only on their fast paths (whole string / whole literal inside the read
buffer), which the byte-at-a-time model leaves to `strQuote` / `tokenOk` (`fastOnly`). -/
def handlerUse : Act → Bool × Bool
  | .openObject | .openArray | .strQuote | .tokenOk => (true, false)
  | .closeObject | .closeArray => (true, true)
  | .numComma | .numSpc | .numNewline => (false, true)
  | .keyQuote | .valQuote | .valNull | .valTrue | .valFalse => (true, false)
  | _ => (false, false)

def fastOnly : Act → Bool
  | .keyQuote | .valQuote | .valNull | .valTrue | .valFalse => true
  | _ => false

/-- the model emits events exactly on the actions whose Go case uses the handler off the fast paths -/
theorem emits_iff_handlerUse (a : Act) : a.emits = (((handlerUse a).1 || (handlerUse a).2) && !fastOnly a) := by
  cases a <;> rfl

/-- **Which action fires a handler call, read from the source**: for every `case` of the
`switch t.mode[b]` of `(*oj.Tokenizer).tokenizeBuffer` (regenerated on every run by
tools/extract/jsonswitch.go), whether it calls a `t.handler` method and whether it calls
`t.handleNum()` is what `emit` assumes. A handler call dropped from or added to a case breaks this
proof. (Which method, and with which argument, is tied by the correspondence stream `tok`.) -/
theorem emit_actions_match_source :
    Gen.JsonSwitch.ojTokenizer.map (fun c => (c.labels, c.calls.contains "handler", c.calls.contains "handleNum"))
      = decodeOrder.map (fun a => ([a.goName], (handlerUse a).1, (handlerUse a).2)) := by decide +kernel

/-- `{"a":[1,2]}` -/
def sampleText : Bytes := [123, 34, 97, 34, 58, 91, 49, 44, 50, 93, 125]
def sampleDoc : JV := .obj [([97], .arr [.int 1, .int 2])]

/-- the hypotheses of `C17_chunked` are satisfiable -/
example : Json.run ojTables (tokCfg true) [sampleText] = .ok [sampleDoc] ∧
    tokEventsIdeal ojTables (tokCfg true) [sampleText] = [sampleDoc].flatMap events ∧
    (∀ r ∈ [sampleDoc], NoDupKeys r = true) := by
  refine ⟨by rw [C01.oj_is_reference]; rfl, by rw [tokEvents_eq_ref C01.ojTables_ok]; rfl, by decide⟩

/-- `{"a":1,"a":2}`: the events show both members, the parser keeps the last — a text outside
`NoRepeatedNames` (and outside the document class of the property's formalisation) -/
def repText : Bytes := [123, 34, 97, 34, 58, 49, 44, 34, 97, 34, 58, 50, 125]

theorem repeated_name_events :
    tokEventsIdeal ojTables (tokCfg true) [repText] = events (.obj [([97], .int 1), ([97], .int 2)]) ∧
    Json.run ojTables (tokCfg true) [repText] = .ok [.obj [([97], .int 2)]] := by
  refine ⟨by rw [tokEvents_eq_ref C01.ojTables_ok]; rfl, by rw [C01.oj_is_reference]; rfl⟩

/-- `EF BB BF [1]` -/
def bomText : Bytes := [0xEF, 0xBB, 0xBF, 91, 49, 93]

/-- **Finding C17-empty-first-read-bom (FIXED in /repo, c109a1a)**: before the fix (flag on) a first
`Read` of 0 bytes switched the byte-order-mark handling of `Tokenizer.Load` off — the same bytes gave
the events of `[1]` read in one piece and no event at all (a syntax error at the mark) when an empty
read came first; the code as it is gives the events of `[1]` either way. -/
theorem empty_first_read_bom_before_fix :
    tokEventsWith ojTables (tokCfg true) true [bomText] = events (.arr [.int 1]) ∧
    tokEventsWith ojTables (tokCfg true) true [[], bomText] = [] ∧
    tokEvents ojTables (tokCfg true) [[], bomText] = events (.arr [.int 1]) ∧
    [bomText].flatten = [[], bomText].flatten := by
  refine ⟨?_, ?_, ?_, rfl⟩
  · rw [tokEvents_eq_ideal ojTables (tokCfg true) true _ (by simp [bomText]), tokEvents_eq_ref C01.ojTables_ok]; rfl
  · have : tokEventsWith ojTables (tokCfg true) true [[], bomText] = evAfterBom ojTables (tokCfg true) [bomText] := rfl
    rw [this, evAfterBom_eq_ref C01.ojTables_ok]; rfl
  · rw [tokEvents_eq_ideal_now, tokEvents_eq_ref C01.ojTables_ok]; rfl

/-- Regression tripwire for the flag `emptyFirstReadNoBom` (as `dev_cur_matches_source`): the flag is
on exactly while the byte-order-mark top-up loop of `(*oj.Tokenizer).Load` demands `0 < cnt` (its
condition, regenerated from oj/tokenizer.go on every run by tools/extract/match.go). The code as it is
(fix c109a1a) does not: the flag is off. Reverting the line without the flag breaks this proof. -/
theorem emptyFirstRead_matches_source :
    emptyFirstReadNoBom = (Gen.MatchFacts.ojLoadTopUpCond == "err == nil && 0 < cnt && cnt < 4 && buf[0] == 0xEF") := by
  decide +kernel

end OjgVerif.C17
