import OjgVerif.Sen.Lemmas
import OjgVerif.Sen.LemmasStr
/-! # C10 — SEN writer and parser round-trip every value: the string level

Two generated tables and two pieces of logic have to be inverse: `ojg.AppendSENString` decides from `senMap`, the
first byte and `maxTokenLen` whether a string is written bare or quoted and how it is escaped (`Sen.senString`, over
`Gen.Root.senMap`); `sen.Parser` decides from `valueMap`, `tokenMap`, `stringMap`, `escMap`, `uMap` what it reads
back (`Sen.run` over the `Gen.Sen` tables).

Here are the two excluded input classes and the refutations of the statement without them. The positive statements
for every string (`C10_value_partial`, `C10_key_partial`, `quoted_value`, `quoted_key`, the `_valid` forms) are
instances of the tree theorem and stand at the end of Props/C10Tree.lean.

That `ojg.AppendSENString` and `sen.Parser` behave like `Sen.senString` and `Sen.run` is not proved: the
correspondence run compares them with the Go code byte for byte.

The whole C10 chain is about the configuration `{}` of `Sen.Cfg` (`parsesTo`: `sen.Parser.Parse`, no options), and its
step lemmas are stated at `{}`. What they use of it: `tokenizer = false` (the parser's switch), `tokSlow = true` (a bare
token that lies in one buffer is ended by the token-end fast path: `tokFast := true` in `bare_run`, `step_tokenEnd`),
`fastInt = true` (the integer loop `valDigit` starts: `step_valDigit`, and with it `nvInt`), `onlyOne = true` (after the
document the mode is `space`: `St.pushed` at the top, as `deliverP`), `nlSkip = plusFault = missingValue = false` (the
code as it is). -/
namespace OjgVerif.C10
open OjgVerif.Sen
open OjgVerif.Writer (sanitize)

/-- `[` text `]` -/
def valueDoc (s : Bytes) (html : Bool) : Bytes := 91 :: (senString s html ++ [93])
/-- `{` text `:1}` -/
def keyDoc (s : Bytes) (html : Bool) : Bytes := 123 :: (senString s html ++ [58, 49, 125])

/-- sen.Parser.Parse (fresh instance, no options) accepts the document and returns exactly `v` -/
def parsesTo (doc : Bytes) (v : JV) : Prop :=
  ∃ o, run senTables {} [doc] = .ok o ∧ o.docs = [v]

def reservedWord (s : Bytes) : Prop :=
  s = [116, 114, 117, 101] ∨ s = [102, 97, 108, 115, 101] ∨ s = [110, 117, 108, 108]

/-- written bare although it begins with a sign -/
def leadingSign (s : Bytes) (html : Bool) : Prop :=
  senQuoted s html = false ∧ (s.head? = some 43 ∨ s.head? = some 45)


theorem step_colon (st : St) (f : Fast) (l : Bool) (hm : st.mode = .colon) (hf : f.nlSkipping = false) :
    step refTables {} st f 58 l = .ok ({ st with mode := .value }, fS f, false) := by
  simp [step, stepCore, stepAct, stepActP, nextFast, refTables, expected, isBlank, hm, hf, fS]

theorem finish_space (st : St) (p : Pos) (hm : st.mode = .space) (hs : st.starts = []) :
    finish refTables {} st p =
      .ok { docs := st.docs.reverse, evs := st.evs.reverse, feat := st.feat, plus := st.plus, lastStrKey := st.lastStrKey, lastKey := st.lastKey } := by
  simp [finish, hm, hs, refTables, expectedFin]

theorem bomRule_keep_head (b : UInt8) (r : Bytes) (hb : b ≠ 0xEF) : Json.bomRule (b :: r) = .keep := by
  unfold Json.bomRule
  split
  · rename_i heq; simp only [List.cons.injEq] at heq; exact absurd heq.1 hb
  · rfl

theorem parsesTo_of_fin (doc : Bytes) (v : JV) (hbom : Json.bomRule doc = .keep)
    (h : ∃ st f p out, runBytes refTables {} {} {} {} doc = .ok (st, f, p) ∧ finish refTables {} st p = .ok out ∧
      out.docs = [v]) : parsesTo doc v := by
  obtain ⟨st, f, p, out, hr, ho, hd⟩ := h
  refine ⟨out, ?_, hd⟩
  rw [run_eq_ref senTables_ok]
  have hentry : (St.entry ({} : Cfg) ({} : St)) = {} := rfl
  have hr' : runBytes refTables {} {} {} { ({} : Pos) with off := 0 } doc = .ok (st, f, p) := hr
  rw [run, call_ref]
  simp [callWith, hbom, hentry, runChunks, hr', ho]

/-- the opening quote and the body only: the run ends IN string mode with the sanitised string pending. The closing
quote is left to the caller, since it does different things to a value (`str_done`: `step_quoteEnd`,
`addStringP_deliver`) and to a member name (`key_run`: `quoteEnd_key`) -/
theorem quoted_run (s : Bytes) (html : Bool) (st : St) (f : Fast) (p : Pos) (rest : Bytes) (hm : st.mode = .value) :
    ∃ ri rn p', runBytes refTables {} st f p (34 :: (senBody html 0 true s ++ rest)) =
      runBytes refTables {} { st with quoteDelim := 34, mode := .string, ri := ri, rn := rn, tmp := (sanitize s).reverse }
        (fS f) p' rest := by
  rw [runBytes_cons_ok {} (fun l => step_valQuote {} rfl st f l hm)]
  obtain ⟨ri, rn, p', h⟩ := reads_body {} rfl html s 0 true (fun _ => trivial)
    { st with quoteDelim := 34, tmp := [], mode := .string } (fS f) (p.next false) rest rfl rfl rfl rfl
  refine ⟨ri, rn, p', ?_⟩
  rw [h, senDenote_eq_sanitize]
  simp

theorem bare_facts (s : Bytes) (html : Bool) (hne : s ≠ []) (hq : senQuoted s html = false) :
    senString s html = s ∧ sanitize s = s ∧ (∀ x ∈ s, bareByte html x) ∧
      ∃ b t, s = b :: t ∧ (senClass b = cO ∨ senClass b = c8 ∨ senClass b = cH) := by
  unfold senQuoted at hq
  simp only [Bool.or_eq_false_iff] at hq
  obtain ⟨h1, h2, h3⟩ := force_false html s 0 trivial hq.2
  refine ⟨?_, h2, h3, ?_⟩
  · unfold senString
    have : s.isEmpty = false := by cases s <;> simp_all
    simp [this, senQuoted, hq.1, hq.2, h1]
  · cases s with
    | nil => exact absurd rfl hne
    | cons b t =>
      refine ⟨b, t, rfl, ?_⟩
      -- the initial value of `quote` is false only when the first byte is of class `o`, `8` or (not HTML-safe) `h`
      have hf := hq.1
      simp only [firstForces, Bool.or_eq_false_iff, Bool.and_eq_false_iff, bne_eq_false_iff_eq,
        Bool.not_eq_false', Bool.and_eq_true, Bool.not_eq_true', beq_iff_eq] at hf
      rcases hf.2 with (h | h) | h
      · exact Or.inl h
      · exact Or.inr (Or.inl h)
      · exact Or.inr (Or.inr h.2)

theorem bare_run (s : Bytes) (html : Bool) (st : St) (f : Fast) (p : Pos) (rest : Bytes) (hm : st.mode = .value)
    (hne : s ≠ []) (hq : senQuoted s html = false) (h2 : ¬ leadingSign s html) :
    ∃ p', runBytes refTables {} st f p (senString s html ++ rest) =
      runBytes refTables {} { st with mode := .token, tmp := s.reverse }
        { inFast := false, tokFast := true, nlSkipping := false } p' rest := by
  obtain ⟨hs, _, hb, b, t, rfl, hc⟩ := bare_facts s html hne hq
  have nsign : b ≠ 43 ∧ b ≠ 45 :=
    ⟨fun e => h2 ⟨hq, .inl (congrArg some e)⟩, fun e => h2 ⟨hq, .inr (congrArg some e)⟩⟩
  have h0 : senClass b ≠ c0 := by rcases hc with h | h | h <;> rw [h] <;> decide
  obtain ⟨t1, t2, t3⟩ := first_tokenStart html b (hb b List.mem_cons_self) h0 nsign.1 nsign.2
  rw [hs, List.cons_append, runBytes_cons_ok {} (fun l => step_tokenStart {} rfl st f b l hm t1 t2 t3)]
  obtain ⟨p', h⟩ := token_run {} rfl t { st with tmp := [b], mode := .token }
    { inFast := false, tokFast := true, nlSkipping := false } (p.next false) rest rfl rfl rfl
    (fun x hx => bare_tokenOk html x (hb x (List.mem_cons_of_mem _ hx)))
  exact ⟨p', by rw [h]; simp⟩

theorem tokenValue_str (s : Bytes) (h : ¬ reservedWord s) : tokenValue s = .str s := by
  unfold tokenValue
  unfold reservedWord at h
  simp only [not_or] at h
  simp [h.1, h.2.1, h.2.2]

theorem quoted_form (s : Bytes) (html : Bool) (h : s = [] ∨ senQuoted s html = true) :
    senString s html = 34 :: (senBody html 0 true s ++ [34]) := by
  rcases h with rfl | h
  · rfl
  · cases s with
    | nil => rfl
    | cons b r => simp [senString, h]

theorem quoted_or_bare (s : Bytes) (html : Bool) :
    senString s html = 34 :: (senBody html 0 true s ++ [34]) ∨ (s ≠ [] ∧ senQuoted s html = false) := by
  by_cases h : s = [] ∨ senQuoted s html = true
  · exact .inl (quoted_form s html h)
  · exact .inr ⟨fun e => h (.inl e), by simpa using fun e => h (.inr e)⟩

/-- the full statement: every string, in value and in key position -/
def C10_string_full : Prop :=
  ∀ (s : Bytes) (html : Bool),
    parsesTo (valueDoc s html) (.arr [.str (sanitize s)]) ∧ parsesTo (keyDoc s html) (.obj [(sanitize s, .int 1)])

def checkDocs (r : Except Err Out) (p : List JV → Bool) : Bool :=
  match r with
  | .ok o => p o.docs
  | .error _ => false

def isArrTrue : List JV → Bool
  | [.arr [.bool true]] => true
  | _ => false

def isArrIntNeg1 : List JV → Bool
  | [.arr [.int (-1)]] => true
  | _ => false

/-- `"true"` in value position comes back as the bool `true` (known finding C10-reserved-word) -/
theorem C10_string_full_false : ¬ C10_string_full := by
  intro h
  obtain ⟨o, ho, hd⟩ := (h [116, 114, 117, 101] false).1
  have hc : checkDocs (run senTables {} [valueDoc [116, 114, 117, 101] false]) isArrTrue = true := by decide +kernel
  rw [ho] at hc
  simp only [checkDocs, hd, isArrTrue] at hc
  cases hc

/-- `"-1"` in value position comes back as the number -1 (known finding C10-leading-sign) -/
theorem C10_string_full_false_sign : ¬ C10_string_full := by
  intro h
  obtain ⟨o, ho, hd⟩ := (h [45, 49] false).1
  have hc : checkDocs (run senTables {} [valueDoc [45, 49] false]) isArrIntNeg1 = true := by decide +kernel
  rw [ho] at hc
  simp only [checkDocs, hd, isArrIntNeg1] at hc
  cases hc

/-- BEFORE 9fd0aeb: `"a&b"` was written bare (`senStringBefore`), and the parser has no token with `&`:
the document did not parse (was known finding C10-bare-nontoken-byte) -/
theorem C10_nontoken_before :
    checkDocs (run senTables {} [91 :: (senStringBefore [97, 38, 98] false ++ [93])]) (fun _ => true) = false := by
  decide +kernel

/-- `"-"` as a key does not parse at all (C10-leading-sign in key position) -/
theorem C10_key_full_false_sign : ¬ C10_string_full := by
  intro h
  obtain ⟨o, ho, _⟩ := (h [45] false).2
  have hc : checkDocs (run senTables {} [keyDoc [45] false]) (fun _ => true) = false := by decide +kernel
  rw [ho] at hc
  cases hc

end OjgVerif.C10
