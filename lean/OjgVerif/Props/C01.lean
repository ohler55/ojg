import OjgVerif.Json.Lemmas
/-! # C01 — strict JSON front-ends accept exactly the RFC 8259 language: the tables

Every cell of the regenerated mode tables (`Gen.Oj`, `Gen.GenPkg`, re-checked on every run) is the
reference transition function, so the machines over them are the reference automaton
(`oj_is_reference`, `gen_is_reference`). That the reference automaton accepts the RFC 8259 language
is Props/C01Lang.lean. -/
namespace OjgVerif.C01
open OjgVerif.Json

/-- all 21 × 256 cells decode to the reference transition -/
def cellsOK (c : Codes) (tbl : Mode → Array UInt8) : Bool :=
  Mode.all.all fun m =>
    ((tbl m).toList.take 256).map c.decode == (List.range 256).map fun i => expected m (UInt8.ofNat i)

/-- the end markers are the reference ones (the comma table's marker only has to be harmless) -/
def finsOK (tbl : Mode → Array UInt8) : Bool :=
  (Mode.all.all fun m => m == .comma || decodeFin (tbl m) == expectedFin m) &&
    decodeFin (tbl .comma) != .a && decodeFin (tbl .comma) != .n && decodeFin (tbl .comma) != .v

/-- the eight bytes the reference sends to `escOk` -/
def escBytes : List UInt8 := [34, 47, 92, 98, 102, 110, 114, 116]

theorem escOk_mem (b : UInt8) (h : expected .esc b = .escOk) : b ∈ escBytes := by
  simpa [h] using all_bytes (fun b => !(expected .esc b == .escOk) || escBytes.contains b) (by decide +kernel) b

/-- the unescape table is right wherever the escape table sends the machine to it -/
def escOK (esc : Array UInt8) : Bool :=
  escBytes.all fun b => esc.getD b.toNat 0 == unesc b

theorem tablesOK_of_checks (c : Codes) (tbl : Mode → Array UInt8) (esc : Array UInt8)
    (h1 : cellsOK c tbl = true) (h2 : finsOK tbl = true) (h3 : escOK esc = true) :
    TablesOK (mkTables c tbl esc) where
  act := by
    intro m b
    simp only [cellsOK, List.all_eq_true, beq_iff_eq] at h1
    have := getD_of_rows (tbl m) c.decode (fun i => expected m (UInt8.ofNat i)) 0 (h1 m (Mode.mem_all m)) b.toNat b.toNat_lt
    simpa [mkTables] using this
  fin := by
    intro m hne
    simp only [finsOK, Bool.and_eq_true, List.all_eq_true, Bool.or_eq_true, beq_iff_eq] at h2
    rcases h2.1.1.1 m (Mode.mem_all m) with h | h
    · exact absurd h hne
    · simpa [mkTables] using h
  finComma := by
    simp only [finsOK, Bool.and_eq_true, bne_iff_ne, ne_eq] at h2
    exact ⟨h2.1.1.2, h2.1.2, h2.2⟩
  esc := by
    intro b hb
    simp only [escOK, List.all_eq_true, beq_iff_eq] at h3
    simpa [mkTables] using h3 b (escOk_mem b hb)

/-- the 2 × 21 × 256 cells of both packages' tables in one evaluation -/
theorem cells_ok : (cellsOK ojCodes ojTbl && cellsOK genCodes genTbl) = true := by decide +kernel

/-- the regenerated `oj` tables pass `TablesOK` by the three evaluations `tablesOK_of_checks` asks for: cells
(`cells_ok`), end markers (`finsOK`), unescape entries (`escOK`) -/
theorem ojTables_ok : TablesOK ojTables :=
  tablesOK_of_checks ojCodes ojTbl _ (Bool.and_eq_true_iff.mp cells_ok).1 (by decide +kernel) (by decide +kernel)

/-- the same three evaluations for the regenerated `gen` tables -/
theorem genTables_ok : TablesOK genTables :=
  tablesOK_of_checks genCodes genTbl _ (Bool.and_eq_true_iff.mp cells_ok).2 (by decide +kernel) (by decide +kernel)

/-- oj.Parser / oj.Validator / oj.Tokenizer over the regenerated `oj` tables behave exactly like the
reference automaton: same documents, values and error line/column/kind, for every configuration
(single/multi document, reader or `[]byte` entry, integer fast loop) and every chunking. -/
theorem oj_is_reference (cfg : Cfg) (chunks : List Bytes) :
    run ojTables cfg chunks = run refTables cfg chunks :=
  run_eq_ref ojTables_ok cfg chunks

/-- the same for gen.Parser over the regenerated `gen` tables -/
theorem gen_is_reference (cfg : Cfg) (chunks : List Bytes) :
    run genTables cfg chunks = run refTables cfg chunks :=
  run_eq_ref genTables_ok cfg chunks

/-- consequently the two packages' machines agree with each other on every input -/
theorem oj_eq_gen (cfg : Cfg) (chunks : List Bytes) :
    run ojTables cfg chunks = run genTables cfg chunks := by
  rw [oj_is_reference, gen_is_reference]

end OjgVerif.C01
