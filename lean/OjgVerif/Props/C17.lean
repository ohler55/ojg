import OjgVerif.Match.LemmasSel
import OjgVerif.Match.LemmasSpec
import OjgVerif.Match.LemmasStream
import OjgVerif.Gen.MatchFacts
import OjgVerif.Props.C03
/-! # C17 — streaming Match equals parse-then-locate

`matchRun dv targets (events doc)` are the callbacks of the `MatchHandler` model (Match/Model.lean)
on the token events of a document, `expected targets doc` the outermost locations the targets
select, in document order, with their values (Match/Spec.lean). Chunking does not appear: the
handler sits behind oj.Tokenizer / sen.Tokenizer, sees token events only and is a function of the
event sequence (the event list is an explicit argument of `matchRun`).
`callbacks_chunk_independent_given_C03` records just that, with chunk independence of the events as
a hypothesis; `callbacks_chunk_independent_machine` has the conclusion for the events of the
documents that C03's byte machine delivers. For the tokenizer's own event sequence, defined from the
run of the byte machine, chunk independence of the callbacks is proved in Props/C17Chunks.lean
(`callbacks_chunk_independent`, `C17_chunked`); Props/C17Filter.lean covers target sets with
filters, Props/C17Coincide.lean characterises the excluded from-the-end/slice class.

SCOPE: `C17_partial` holds for target SETS in which NO target uses a slice (other than `[:]`), a
filter or a from-the-end index/union member anywhere. `C17_streamed` weakens that for slices and
from-the-end indexes: in a set without filters such a target does not disturb the others (it is
read as `asStreamed`: from-the-end selects nothing, a slice is `[:]`); only a FILTER target masks
other targets (`dev_filter_masks_other_target`).

The full statement is false for the code as it is (`C17_full_false` and one witness per recorded
deviation); `C17_partial` proves it for every document and every target set that avoids exactly
the named constructs (`deviates`: from-the-end indexes/union members, slices, filters; trailing
descents are repaired in /repo and covered), and `C17_general` for any setting of the repairable deviations
(`Dev`), so that the same theorem covers the patched matcher. -/
namespace OjgVerif.C17
open OjgVerif.Match

/-- the property at full strength, for the matcher as it is (`Dev.cur`) -/
def C17_full : Prop :=
  ∀ (targets : List Target) (doc : JV), NoDupKeys doc = true →
    matchRun Dev.cur targets (events doc) = expected targets doc

def memFromEnd : UMem → Bool
  | .index i => decide (i < 0)
  | .name _ => false

/-- an index or union member counted from the end -/
def fragFromEnd : Frag → Bool
  | .index i => decide (i < 0)
  | .union ms => ms.any memFromEnd
  | _ => false

/-- a slice other than `[:]` (start 0, no end, step 1): the matcher ignores bounds and step -/
def isPartialSlice : Frag → Bool
  | .slice a b st => !(decide (a = 0) && b.isNone && decide (st = 1))
  | _ => false

def usesFromEnd (t : Target) : Bool := t.any fragFromEnd
def usesSlice (t : Target) : Bool := t.any isPartialSlice
def usesFilter (t : Target) : Bool := t.any isFilterFrag

/-- the target uses one of the constructs with a recorded deviation, ANYWHERE in it
(known_findings.json: C17-from-end-index, C17-slice-bounds — a slice other than `[:]` —,
C17-filter-first-only). A target that ends in a descent is not among them (repaired in /repo,
ba8abfd: `Dev.cur.descentNoSelf` is off). -/
def deviates (t : Target) : Bool :=
  usesFromEnd t || usesSlice t || usesFilter t

theorem memOK_iff (m : UMem) : memOK m = !memFromEnd m := by
  cases m with
  | name k => rfl
  | index i =>
    simp only [memOK, memFromEnd]
    by_cases h : 0 ≤ i
    · have : ¬ i < 0 := by omega
      simp [h, this]
    · have : i < 0 := by omega
      simp [h, this]

theorem all_memOK (ms : List UMem) : ms.all memOK = !ms.any memFromEnd := by
  induction ms with
  | nil => rfl
  | cons m r ih => simp [List.all_cons, List.any_cons, ih, memOK_iff, Bool.not_or]

theorem fragOK_cur (f : Frag) :
    fragOK Dev.cur f = !(fragFromEnd f || isPartialSlice f || isFilterFrag f) := by
  cases f with
  | child k => rfl
  | index i =>
    simp only [fragOK, fragFromEnd, isPartialSlice, isFilterFrag, Bool.or_false]
    exact memOK_iff (.index i)
  | wildcard => rfl
  | union ms => simp [fragOK, fragFromEnd, isPartialSlice, isFilterFrag, all_memOK]
  | slice a b st => simp [fragOK, Dev.cur, fragFromEnd, isPartialSlice, isFilterFrag]
  | descent => rfl
  | filter p => rfl

/-- the targets the current matcher is claimed correct on are exactly those that avoid the named
constructs -/
theorem okTarget_cur : ∀ (t : Target), okTarget Dev.cur t = !deviates t
  | [] => rfl
  | f :: fs => by
    have hd : Dev.cur.descentNoSelf = false := rfl
    simp only [okTarget, okTarget_cur fs, fragOK_cur f, hd, Bool.false_and, Bool.not_false, Bool.and_true,
      deviates, usesFromEnd, usesSlice, usesFilter, List.any_cons]
    -- an identity of Boolean algebra in the six tests
    generalize fragFromEnd f = a, isPartialSlice f = b, isFilterFrag f = c,
      fs.any fragFromEnd = a', fs.any isPartialSlice = b', fs.any isFilterFrag = c'
    revert a b c a' b' c'
    decide

/-- For EVERY target set (deviating constructs included) the handler model on the events of a
document is the top-down traversal that reports a node when `PathMatch` accepts its path and looks
at the children otherwise: path bookkeeping (`incNth`, push/pop, `Key`), collection of a matched
element on the stack with its two-step stores, and "outermost only" are right whatever `PathMatch`
answers. -/
theorem transducer_is_traversal (dv : Dev) (targets : List Target) (doc : JV) (h : NoDupKeys doc = true) :
    matchRun dv targets (events doc) = found dv (targets.map splitTarget) [] doc :=
  run_events dv targets doc h

/-- `PathMatch` on a path that exists in the document says "the target selects the path or one of
its prefixes" (for targets without a deviating construct) -/
theorem pathMatch_is_prefix_selection (dv : Dev) (t : Target) (ht : okTarget dv t = true)
    (doc : JV) (q : NPath) (u : JV) (hq : nav doc q = some u) :
    pathMatch dv t q = (selects t doc q || (properPrefixes q).any (selects t doc)) := by
  rw [pathMatch_prefixes dv t ht doc q u hq]
  simp [prefixesIncl, Bool.or_comm]

/-- C17 for any setting of the repairable deviations (`Dev`: slice bounds, descent matching the
node itself, filter reporting): all documents, all target sets of supported targets (`okTarget dv`;
filters are never among them) -/
theorem C17_general (dv : Dev) (targets : List Target) (doc : JV) (hdoc : NoDupKeys doc = true)
    (hok : ∀ t ∈ targets, okTarget dv t = true) :
    matchRun dv targets (events doc) = expected targets doc := by
  rw [run_events dv targets doc hdoc, found_expected dv targets doc hdoc hok]

/-- C17 for the code as it is (trailing descents are repaired in /repo): every document, every set of
targets none of which uses a from-the-end index or union member, a slice or a filter; targets
ending in a descent (`$..`, `$.a..`) are covered. One deviating target puts the whole SET outside
the theorem: while a container is collected for a filter target no other target is looked at. -/
theorem C17_partial (targets : List Target) (doc : JV) (hdoc : NoDupKeys doc = true)
    (hdev : ∀ t ∈ targets, deviates t = false) :
    matchRun Dev.cur targets (events doc) = expected targets doc :=
  C17_general Dev.cur targets doc hdoc (fun t ht => by simp [okTarget_cur, hdev t ht])

theorem asStreamed_id (t : Target) (h : deviates t = false) : asStreamed t = t :=
  asStreamed_ok Dev.cur rfl t (by simp [okTarget_cur, h])

theorem map_asStreamed_id (ts : List Target) (h : ∀ t ∈ ts, deviates t = false) : ts.map asStreamed = ts :=
  (List.map_congr_left fun t ht => asStreamed_id t (h t ht)).trans (List.map_id' ts)

theorem usesFilter_of_deviates {t : Target} (h : deviates t = false) : usesFilter t = false := by
  simp only [deviates, Bool.or_eq_false_iff] at h
  exact h.2

/-- C17 for the code as it is, for every target set WITHOUT FILTERS: the callbacks are the
specification's for the targets read the way the streaming matcher reads them — a from-the-end
index or union member selects nothing, a slice selects every index, and every target without such
a construct keeps its meaning (`asStreamed_id`). So a from-the-end or slice target does not mask
or disturb the other targets of the set: they are judged as if it stood alone in its streamed
reading. (A filter target does mask the others: `dev_filter_masks_other_target`.) -/
theorem C17_streamed (targets : List Target) (doc : JV) (hdoc : NoDupKeys doc = true)
    (hnf : ∀ t ∈ targets, usesFilter t = false) :
    matchRun Dev.cur targets (events doc) = expected (targets.map asStreamed) doc := by
  rw [run_events Dev.cur targets doc hdoc]
  exact found_streamed Dev.cur rfl rfl targets doc hdoc hnf

/-- in particular: deviating non-filter targets `bad` next to non-deviating `good` ones give the
outermost locations of `good` together with the streamed readings of `bad` -/
theorem C17_mixed (good bad : List Target) (doc : JV) (hdoc : NoDupKeys doc = true)
    (hg : ∀ t ∈ good, deviates t = false) (hb : ∀ t ∈ bad, usesFilter t = false) :
    matchRun Dev.cur (good ++ bad) (events doc) = expected (good ++ bad.map asStreamed) doc := by
  rw [C17_streamed (good ++ bad) doc hdoc (by
    intro t ht
    rcases List.mem_append.mp ht with h | h
    · exact usesFilter_of_deviates (hg t h)
    · exact hb t h), List.map_append, map_asStreamed_id good hg]

/-- The handler is a function of the event sequence (`evs` is an explicit argument of `matchRun`): IF a
tokenizer `tok` delivers the same event sequence for every chunking `c` (`hC03`, a HYPOTHESIS), THEN
the callbacks do not depend on the chunking. `hC03` holds of the tokenizer model of
Match/Tokenizer.lean (`callbacks_chunk_independent`, Props/C17Chunks.lean, is the statement without
it); for the event sequences of the Go tokenizers themselves it is tied by the correspondence runs of
C03 and of this harness (chunkings of MatchLoad) only. -/
theorem callbacks_chunk_independent_given_C03 {C : Type} (tok : C → Bytes → List Event)
    (hC03 : ∀ (c c' : C) (text : Bytes), tok c text = tok c' text)
    (dv : Dev) (targets : List Target) (c c' : C) (text : Bytes) :
    matchRun dv targets (tok c text) = matchRun dv targets (tok c' text) := by
  rw [hC03 c c' text]

/-- the same with `C17_partial` behind it; conditional on `hC03` and `htok` in the same way -/
theorem callbacks_any_chunking_given_C03 {C : Type} (tok : C → Bytes → List Event)
    (hC03 : ∀ (c c' : C) (text : Bytes), tok c text = tok c' text)
    (targets : List Target) (doc : JV) (hdoc : NoDupKeys doc = true)
    (hdev : ∀ t ∈ targets, deviates t = false)
    (c₀ : C) (text : Bytes) (htok : tok c₀ text = events doc) (c : C) :
    matchRun Dev.cur targets (tok c text) = expected targets doc := by
  rw [hC03 c c₀ text, htok]
  exact C17_partial targets doc hdoc hdev

/-- the token events of the documents a run of the JSON byte machine delivers (none on an error:
the events a tokenizer hands over BEFORE an error are not in this model) -/
def machineEvents : Except Json.Err (List JV) → List Event
  | .ok docs => docs.flatMap events
  | .error _ => []

/-- For the token stream DEFINED as the events of the documents that the C03 byte machine delivers in
the configuration of oj.Tokenizer.Load (reader entry point, no integer fast loop), the callbacks are
the same for every chunking — by `C03.chunks_irrelevant`, BOM top-up included. The tokenizer calls
the handler token by token, also before an error: when its event sequence IS `machineEvents` of that
run is `tokEvents_eq_machineEvents` (Props/C17Chunks.lean). Not covered: the SEN tokenizer (C03 is
partial for SEN). -/
theorem callbacks_chunk_independent_machine (T : Json.Tables) (cfg : Json.Cfg)
    (h : cfg.fastInt = false) (hr : cfg.reader = true) (dv : Dev) (targets : List Target)
    (chunks : List Bytes) :
    matchRun dv targets (machineEvents (Json.run T cfg chunks))
      = matchRun dv targets (machineEvents (Json.run T cfg [chunks.flatten])) := by
  rw [C03.chunks_irrelevant T cfg h hr chunks]

/-- Regression tripwire over the patched lines (NOT a proof that the Go code is the model; that tie
is the correspondence run): the deviation flags of `Dev.cur` agree with syntactic facts regenerated
from jp/match.go and jp/matchhandler.go on every run (tools/extract/match.go) — `case Slice` of
PathMatch calls nothing (every index matches), the descent is tested in front of the
`len(path) == 0` return with an endless loop (repair ba8abfd), `checkRest` asks `Locate` for one
location and takes the value from `First`. Changing one of these lines without `Dev.cur` breaks
this theorem. -/
theorem dev_cur_matches_source :
    Dev.cur.sliceAll = Gen.MatchFacts.sliceCaseCalls.isEmpty ∧
    Dev.cur.descentNoSelf = !Gen.MatchFacts.descentBeforeLenCheck ∧
    Dev.cur.filterFirstOnly =
      (decide (Gen.MatchFacts.checkRestLocateMax = 1) && Gen.MatchFacts.checkRestCallsFirst) := by decide

/-- with the remaining proposed fix of `PathMatch` (slice bounds) the theorem also covers slices
with bounds from the start and a forward step -/
theorem C17_fixed (targets : List Target) (doc : JV) (hdoc : NoDupKeys doc = true)
    (hok : ∀ t ∈ targets, okTarget Dev.fixed t = true) :
    matchRun Dev.fixed targets (events doc) = expected targets doc :=
  C17_general Dev.fixed targets doc hdoc hok

/-- what the right-hand side says, without the enumeration: (path, value) is expected iff the path
exists in the document with that value, some target selects it, and no target selects a proper
prefix of it -/
theorem expected_characterised (targets : List Target) (doc : JV) (h : NoDupKeys doc = true) (q : NPath) (u : JV) :
    (q, u) ∈ expected targets doc ↔
      nav doc q = some u ∧ selectedBy targets doc q = true ∧
        ∀ q' ∈ properPrefixes q, selectedBy targets doc q' = false :=
  mem_expected_iff targets doc h q u

/-- "once": no location is expected twice -/
theorem expected_once (targets : List Target) (doc : JV) (h : NoDupKeys doc = true) :
    ((expected targets doc).map (·.1)).Nodup :=
  expected_nodup targets doc h

/-- hence, for supported targets, the handler calls back once per outermost selected location -/
theorem callbacks_once (dv : Dev) (targets : List Target) (doc : JV) (hdoc : NoDupKeys doc = true)
    (hok : ∀ t ∈ targets, okTarget dv t = true) :
    ((matchRun dv targets (events doc)).map (·.1)).Nodup := by
  rw [C17_general dv targets doc hdoc hok]
  exact expected_once targets doc hdoc

/-- `$..a[*]['b',0][2]`, `$.a`, and the trailing descents `$..`, `$.a..` -/
example : ∀ t ∈ [[Frag.descent, .child [97], .wildcard, .union [.name [98], .index 0], .index 2], [.child [97]],
    [.descent], [.child [97], .descent]], deviates t = false := by decide

/-- an INCLUDED target set of `C17_partial`: `$.*`, `$.a[0]`, `$..b`, `$[:]`; an EXCLUDED one: the
same with `$[-1]` added (one such target puts the whole set outside `C17_partial`) — which
`C17_streamed` still covers, with `$[-1]` read as "selects nothing"; and a set outside both
(`C17_filter_sets`, Props/C17Filter.lean, covers it): `$.*` with the filter target `$[?…]` -/
example : (∀ t ∈ [[Frag.wildcard], [.child [97], .index 0], [.descent, .child [98]], [.slice 0 none 1]],
      deviates t = false) ∧
    (∃ t ∈ [[Frag.wildcard], [.child [97], .index 0], [.descent, .child [98]], [.slice 0 none 1], [.index (-1)]],
      deviates t = true) ∧
    (∀ t ∈ [[Frag.wildcard], [.child [97], .index 0], [.descent, .child [98]], [.slice 0 none 1], [.index (-1)]],
      usesFilter t = false) ∧
    (∃ t ∈ [[Frag.wildcard], [.filter fun _ => true]], usesFilter t = true) := by decide

example : [[Frag.wildcard], [.index (-1)], [.slice 1 (some 2) 1]].map asStreamed
    = [[.wildcard], [.union []], [.slice 0 none 1]] := by simp [asStreamed, streamedFrag]

/-- `C17_streamed` at work: `$[-1]` and `$[1:2]` next to `$[0]` on `[5,6,7]`: the slice reports every
element, `$[-1]` nothing, `$[0]` is undisturbed -/
example : (matchRun Dev.cur [[.index (-1)], [.index 0]] (events (.arr [.int 5, .int 6, .int 7]))).map (·.1)
      = [[.idx 0]] ∧
    (matchRun Dev.cur [[.slice 1 (some 2) 1], [.index 0]] (events (.arr [.int 5, .int 6, .int 7]))).map (·.1)
      = [[.idx 0], [.idx 1], [.idx 2]] := by decide

/-- the hypothesis `NoDupKeys` of the theorems above is decided by evaluation, here on the nested document
`{"a":[{"b":[0,1,2]},3],"c":null}` -/
example : NoDupKeys (.obj [([97], .arr [.obj [([98], .arr [.int 0, .int 1, .int 2])], .int 3]), ([99], .null)]) = true := by
  decide

/-- with the slice fix: `$.a[1:5:2]` (and `$.a..`) -/
example : ∀ t ∈ [[Frag.child [97], .slice 1 (some 5) 2], [.child [97], .descent]], okTarget Dev.fixed t = true := by
  decide

/-- the theorem is not vacuous: nested targets `$.*` and `$.a[0]` on `{"a":[1],"b":2}` give the two
outermost locations `$.a` and `$.b` in document order -/
example : (expected [[.wildcard], [.child [97], .index 0]] (.obj [([97], .arr [.int 1]), ([98], .int 2)])).map (·.1)
    = [[.key [97]], [.key [98]]] := by decide

theorem ne_of_paths {a b : List (NPath × JV)} (h : a.map (·.1) ≠ b.map (·.1)) : a ≠ b :=
  fun e => h (by rw [e])

/-- C17-from-end-index: `$[-1]` on `[1,2]` — no callback, expected `$[1]` -/
theorem dev_fromEnd_index :
    (matchRun Dev.cur [[.index (-1)]] (events (.arr [.int 1, .int 2]))).map (·.1) = [] ∧
    (expected [[.index (-1)]] (.arr [.int 1, .int 2])).map (·.1) = [[.idx 1]] := by decide +kernel

/-- C17-from-end-index: `$[0,-1]` on `[1,2]` — only `$[0]` -/
theorem dev_fromEnd_union :
    (matchRun Dev.cur [[.union [.index 0, .index (-1)]]] (events (.arr [.int 1, .int 2]))).map (·.1) = [[.idx 0]] ∧
    (expected [[.union [.index 0, .index (-1)]]] (.arr [.int 1, .int 2])).map (·.1) = [[.idx 0], [.idx 1]] := by decide +kernel

/-- C17-slice-bounds: `$[1:2]` on `[0,1,2]` — every element is reported -/
theorem dev_slice :
    (matchRun Dev.cur [[.slice 1 (some 2) 1]] (events (.arr [.int 0, .int 1, .int 2]))).map (·.1)
      = [[.idx 0], [.idx 1], [.idx 2]] ∧
    (expected [[.slice 1 (some 2) 1]] (.arr [.int 0, .int 1, .int 2])).map (·.1) = [[.idx 1]] := by decide +kernel

/-- C17-trailing-descent (FIXED in /repo, ba8abfd): before the fix (`descentNoSelf` on) `$..` on
`[1]` reported the element instead of the document; the current matcher reports the document -/
theorem dev_trailing_descent_before_fix :
    (matchRun ⟨true, true, true⟩ [[.descent]] (events (.arr [.int 1]))).map (·.1) = [[.idx 0]] ∧
    (matchRun Dev.cur [[.descent]] (events (.arr [.int 1]))).map (·.1) = [[]] ∧
    (expected [[.descent]] (.arr [.int 1])).map (·.1) = [[]] := by decide +kernel

/-- the recorded deviations in front of a descent: `$[-1]..` on `[1]` reports
nothing (expected `$[0]`), `$[1:]..` on `[1]` reports `$[0]` (expected nothing) -/
theorem dev_before_descent :
    (matchRun Dev.cur [[.index (-1), .descent]] (events (.arr [.int 1]))).map (·.1) = [] ∧
    (expected [[.index (-1), .descent]] (.arr [.int 1])).map (·.1) = [[.idx 0]] ∧
    (matchRun Dev.cur [[.slice 1 none 1, .descent]] (events (.arr [.int 1]))).map (·.1) = [[.idx 0]] ∧
    (expected [[.slice 1 none 1, .descent]] (.arr [.int 1])).map (·.1) = [] := by decide +kernel

/-- a filter target spoils the whole set: with `$..[?(@ == 2)]` and `$..` on `[2]` the document is
collected for the filter target and `$..` is not looked at (expected: the document) -/
theorem dev_filter_masks_other_target :
    (matchRun Dev.cur [[.descent, .filter fun v => match v with | .int 2 => true | _ => false], [.descent]]
        (events (.arr [.int 2]))).map (·.1) = [[.idx 0]] ∧
    (expected [[.descent, .filter fun v => match v with | .int 2 => true | _ => false], [.descent]]
        (.arr [.int 2])).map (·.1) = [[]] := by decide +kernel

/-- the filter `(@.x == 1)` on objects whose first member is `x` -/
def xIs1 : JV → Bool
  | .obj ((_, .int 1) :: _) => true
  | _ => false

/-- C17-filter-first-only: `$[?(@.x == 1)]` on `[{"x":1,"y":1},{"x":1,"y":2}]` — one callback, the
path of the last match with the value of the first -/
theorem dev_filter :
    (matchRun Dev.cur [[.filter xIs1]]
        (events (.arr [.obj [([120], .int 1), ([121], .int 1)], .obj [([120], .int 1), ([121], .int 2)]]))).map
        (fun c => (c.1, c.2.render))
      = [([.idx 1], "{K(78)I(1),K(79)I(1)}")] ∧
    (expected [[.filter xIs1]]
        (.arr [.obj [([120], .int 1), ([121], .int 1)], .obj [([120], .int 1), ([121], .int 2)]])).map (·.1)
      = [[.idx 0], [.idx 1]] := by
  constructor
  · rfl
  · decide

theorem C17_full_false : ¬ C17_full := by
  intro h
  have := h [[.index (-1)]] (.arr [.int 1, .int 2]) (by decide)
  exact ne_of_paths (by rw [dev_fromEnd_index.1, dev_fromEnd_index.2]; decide) this

end OjgVerif.C17
