import OjgVerif.Common.BytesLemmas
import OjgVerif.Props.C10
import OjgVerif.Props.C10Num
import OjgVerif.Sen.Layout
import OjgVerif.Sen.LemmasUtf8
/-! # C10 — the parser machine over one value of the writer's text, in any context

What the layout theorem (Props/C10Layout.lean: `C10_anylayout_partial`, by induction over the tree with the claims
`LV`, `LE`, `LM` stated there) is assembled from. The byte machine is run over the writer's output in an arbitrary context. `St.pushed` is the state
after a value has been completed in its context (array, member value, top of an empty parser); states are compared up to
scratch fields (`CoreEq`). A bare token or a number is still pending when the value's text ends, so a value is "done"
(`Done`) when it is complete or pending, in every value position (`ValPos`). Two things complete what is pending: inside a
container (`DoneV`: `Done` there) the byte that follows — a delimiter or white space, `done_ender`
(`step_tokenEnd`: the token-end fast path adds the token and reads the byte again in the new mode; `step_numEnder` in the
number modes `digit`, `zero`, `frac`, `exp`), which makes the two cases indistinguishable; at the top of the document the
end of the input (`done_finish`).

`VClaim`, `EClaim`, `MClaim` are the claims of Props/C10Layout.lean spelt out for the tight text; they are the statement
of `tight_claims` and `claims_all` (Props/C10Tree.lean), which follow from the layout claims, and are not what the induction goes over. -/
namespace OjgVerif.Sen
open OjgVerif.Writer (sanitize)

theorem undelivered_eq (st : St) (hd : st.starts ≠ [] ∨ st.stack = []) : st.undelivered = st := by
  unfold St.undelivered
  rcases hd with h | h
  · have : st.starts.isEmpty = false := by cases hs : st.starts <;> simp_all
    simp [this]
  · simp [h]

theorem step_openArr (st : St) (f : Fast) (l : Bool) (hm : st.mode = .value) (hf : f.nlSkipping = false)
    (hd : st.starts ≠ [] ∨ st.stack = []) :
    step refTables {} st f 91 l =
      .ok ({ st with mode := .value, starts := some st.stack.length :: st.starts, stack := .arrMark :: st.stack },
           fS f, false) := by
  have hu := undelivered_eq st hd
  simp [step, stepCore, stepAct, stepActP, nextFast, refTables, expected, expectedFin, isSep, isBlank, isDigit19,
    St.flushP, hu, startP, hm, hf, fS, Bind.bind, Except.bind, Pure.pure, Except.pure]

theorem step_openObj (st : St) (f : Fast) (l : Bool) (hm : st.mode = .value) (hf : f.nlSkipping = false)
    (hd : st.starts ≠ [] ∨ st.stack = []) :
    step refTables {} st f 123 l =
      .ok ({ st with mode := .value, starts := none :: st.starts, stack := .obj [] :: st.stack }, fS f, false) := by
  have hu := undelivered_eq st hd
  simp [step, stepCore, stepAct, stepActP, nextFast, refTables, expected, expectedFin, isSep, isBlank, isDigit19,
    St.flushP, hu, hm, hf, fS, Bind.bind, Except.bind, Pure.pure, Except.pure]

/-- the state after the value `x` has been completed in the context of `s` -/
def St.pushed (s : St) (x : JV) : St :=
  match s.starts with
  | [] => { s with mode := .space, stack := [], docs := x :: s.docs }
  | none :: _ =>
    match s.stack with
    | .key k :: .obj kvs :: r => { s with mode := .value, stack := .obj (kvInsert k x kvs) :: r, lastKey := k }
    | _ => s
  | some _ :: _ => { s with mode := .value, stack := .val x :: s.stack }

/-- a value is expected here: the top of an empty parser, inside an array, or after a member name -/
def ValPos (s : St) : Prop :=
  (s.starts = [] ∧ s.stack = []) ∨ (∃ j o, s.starts = some j :: o) ∨
  (∃ o k kvs r, s.starts = none :: o ∧ s.stack = .key k :: .obj kvs :: r)

/-- inside a container -/
def Inner (s : St) : Prop :=
  (∃ j o, s.starts = some j :: o) ∨ (∃ o k kvs r, s.starts = none :: o ∧ s.stack = .key k :: .obj kvs :: r)

theorem Inner.valPos {s : St} (h : Inner s) : ValPos s := Or.inr h

theorem ValPos.congr {a b : St} (h : ValPos a) (h2 : a.starts = b.starts) (h3 : a.stack = b.stack) : ValPos b := by
  unfold ValPos at h ⊢
  rw [← h2, ← h3]; exact h

theorem ValPos.starts_or_stack {s : St} (h : ValPos s) : s.starts ≠ [] ∨ s.stack = [] := by
  rcases h with ⟨_, h⟩ | ⟨_, _, h⟩ | ⟨_, _, _, _, h, _⟩
  · exact .inr h
  all_goals exact .inl (by simp [h])

theorem addTokenP_pushed (s : St) (t : Bytes) (h : Inner s) : s.addTokenP t = .ok (s.pushed (tokenValue t)) := by
  rcases h with ⟨j, o, h1⟩ | ⟨o, k, kvs, r, h1, h2⟩
  · simp [St.addTokenP, St.pushed, h1]
  · simp [St.addTokenP, St.setMember, St.pushed, h1, h2, topIsKey]

theorem addStringP_pushed (s : St) (t : Bytes) (h : Inner s) (hp : s.plus = false) :
    s.addStringP t = .ok (s.pushed (.str t)) := by
  rcases h with ⟨j, o, h1⟩ | ⟨o, k, kvs, r, h1, h2⟩
  · simp [St.addStringP, St.pushed, h1, hp]
  · simp [St.addStringP, St.setMember, St.pushed, h1, h2, hp, topIsKey]

theorem add_pushed (s : St) (x : JV) (h : Inner s) : s.add x = .ok (s.pushed x) := by
  rcases h with ⟨j, o, h1⟩ | ⟨o, k, kvs, r, h1, h2⟩
  · simp [St.add, St.pushed, h1]
  · simp [St.add, St.setMember, St.pushed, h1, h2, topIsKey]

theorem pushed_mode (s : St) (x : JV) (h : Inner s) : (s.pushed x).mode = .value := by
  rcases h with ⟨j, o, h1⟩ | ⟨o, k, kvs, r, h1, h2⟩
  · simp [St.pushed, h1]
  · simp [St.pushed, h1, h2]

theorem pushed_starts (s : St) (x : JV) : (s.pushed x).starts = s.starts := by
  unfold St.pushed
  split
  · rfl
  · split <;> rfl
  · rfl

theorem Inner.pushed_ne {s : St} (h : Inner s) (x : JV) : (s.pushed x).starts ≠ [] := by
  rw [pushed_starts]
  rcases h with ⟨_, _, h⟩ | ⟨_, _, _, _, h, _⟩ <;> rw [h] <;> exact List.cons_ne_nil _ _

theorem pushed_arr (st : St) (x : JV) (i : Nat) (outer : List (Option Nat)) (hs : st.starts = some i :: outer) :
    (st.pushed x).mode = .value ∧ (st.pushed x).starts = some i :: outer ∧ (st.pushed x).stack = .val x :: st.stack ∧
    (st.pushed x).docs = st.docs ∧ (st.pushed x).plus = st.plus := by
  simp [St.pushed, hs]

theorem pushed_objVal (st : St) (x : JV) (outer : List (Option Nat)) (k : Bytes) (kvs : List (Bytes × JV)) (r : List Item)
    (hs : st.starts = none :: outer) (hk : st.stack = .key k :: .obj kvs :: r) :
    (st.pushed x).mode = .value ∧ (st.pushed x).starts = none :: outer ∧
    (st.pushed x).stack = .obj (kvInsert k x kvs) :: r ∧ (st.pushed x).docs = st.docs ∧ (st.pushed x).plus = st.plus := by
  simp [St.pushed, hs, hk]

theorem deliver_pushed (s : St) (x : JV) (h : Inner s) : deliver refTables {} (s.pushed x) = .ok (s.pushed x) := by
  have hs := h.pushed_ne x
  unfold deliver
  have : (s.pushed x).starts.isEmpty = false := by cases hh : (s.pushed x).starts <;> simp_all
  simp [this]

/-- `p.add` in a value position and the end-of-document test after it complete the value (the closing cases of the
switch set the mode once more) -/
theorem add_deliver (s : St) (x : JV) (hv : ValPos s) :
    ∃ s1, s.add x = .ok s1 ∧ deliver refTables {} s1 = .ok (s.pushed x) ∧
      deliver refTables {} { s1 with mode := .value } = .ok (s.pushed x) := by
  rcases hv with ⟨h1, h2⟩ | hin
  · refine ⟨{ s with mode := .value, stack := .val x :: s.stack }, ?_, ?_, ?_⟩ <;>
      simp [St.add, deliver, deliverP, refTables, expectedFin, St.pushed, h1, h2, Item.toJV]
  · -- inside a container `add` gives the completed state, whose mode is `value` already
    have hd := deliver_pushed s x hin
    exact ⟨_, add_pushed s x hin, hd, by rw [← pushed_mode s x hin]; exact hd⟩

theorem step_closeArr (st : St) (f : Fast) (l : Bool) (hm : st.mode = .value) (hf : f.nlSkipping = false)
    (i : Nat) (outer : List (Option Nat)) (hs : st.starts = some i :: outer)
    (elems : List JV) (mk : Item) (below : List Item) (hsp : splitStack st.stack i = some (elems, mk, below))
    (hv : ValPos ({ st with starts := outer, stack := below } : St)) :
    step refTables {} st f 93 l =
      .ok ((({ st with starts := outer, stack := below } : St).pushed (.arr elems)), fS f, false) := by
  obtain ⟨s1, ha, _, hd⟩ := add_deliver _ (.arr elems) hv
  simp only [hm] at ha hd
  simp [step, stepCore, stepAct, stepActP, nextFast, show refTables.act = expected from rfl,
    show refTables.fin = expectedFin from rfl, show expected .value 93 = .closeArray from rfl, expectedFin,
    St.flushCloseP, hsp, ha, hd, hm, hs, hf, fS, Bind.bind, Except.bind, Pure.pure, Except.pure]

theorem step_closeObj (st : St) (f : Fast) (l : Bool) (hm : st.mode = .value) (hf : f.nlSkipping = false)
    (outer : List (Option Nat)) (hs : st.starts = none :: outer)
    (kvs : List (Bytes × JV)) (below : List Item) (hk : st.stack = .obj kvs :: below)
    (hv : ValPos ({ st with starts := outer, stack := below } : St)) :
    step refTables {} st f 125 l =
      .ok ((({ st with starts := outer, stack := below } : St).pushed (.obj kvs)), fS f, false) := by
  obtain ⟨s1, ha, hd, _⟩ := add_deliver _ (.obj kvs) hv
  simp only [hm] at ha hd
  simp [step, stepCore, stepAct, stepActP, nextFast, show refTables.act = expected from rfl,
    show refTables.fin = expectedFin from rfl, show expected .value 125 = .closeObject from rfl, expectedFin,
    St.flushP, hk, topIsKey, Item.toJV, ha, hd, hm, hs, hf, fS, Bind.bind, Except.bind, Pure.pure, Except.pure]

set_option linter.unusedVariables false in
/-- the fast-path record after the token-end fast path: all flags off, whatever the record was (it ignores its
argument and is written `fT f` beside `fS f` in the statements) -/
def fT (f : Fast) : Fast := { inFast := false, tokFast := false, nlSkipping := false }

/-- `d ≠ 40`: after a token `(` does not end it, `tokenEndFast` takes it as the opening of a token function -/
theorem step_tokenEnd (st : St) (f : Fast) (d : UInt8) (l : Bool) (hm : st.mode = .token) (hf : f.nlSkipping = false)
    (hi : f.inFast = false) (ht : f.tokFast = true) (hin : Inner st) (hd : expected .token d ≠ .tokenOk) (h40 : d ≠ 40) :
    step refTables {} st f d l = step refTables {} (st.pushed (tokenValue st.tmp.reverse)) (fT f) d l := by
  have ha := addTokenP_pushed st st.tmp.reverse hin
  have hdl := deliver_pushed st (tokenValue st.tmp.reverse) hin
  have hm2 := pushed_mode st (tokenValue st.tmp.reverse) hin
  have hact : refTables.act .token d ≠ .tokenOk := hd
  unfold step
  simp only [hf, Bool.false_and, Bool.false_eq_true, ↓reduceIte, hm, hm2, hact, ht, fT, ne_eq, not_false_eq_true,
    decide_true, Bool.true_or, Bool.and_true, decide_false, reduceCtorEq]
  unfold tokenEndFast
  simp only [h40, decide_false, Bool.false_and, Bool.false_eq_true, ↓reduceIte, ha, hdl, hi]

/-- the fields that matter between values: the rest (`tmp`, `ri`, `rn`, `num`, `quoteDelim`, `lastKey`, …) is
scratch that the next value overwrites before it reads it -/
def CoreEq (a b : St) : Prop :=
  a.mode = b.mode ∧ a.starts = b.starts ∧ a.stack = b.stack ∧ a.docs = b.docs ∧ a.plus = b.plus

theorem CoreEq.mode {a b : St} (h : CoreEq a b) : a.mode = b.mode := h.1
theorem CoreEq.starts {a b : St} (h : CoreEq a b) : a.starts = b.starts := h.2.1
theorem CoreEq.stack {a b : St} (h : CoreEq a b) : a.stack = b.stack := h.2.2.1
theorem CoreEq.docs {a b : St} (h : CoreEq a b) : a.docs = b.docs := h.2.2.2.1
theorem CoreEq.plus {a b : St} (h : CoreEq a b) : a.plus = b.plus := h.2.2.2.2

theorem CoreEq.rfl' (a : St) : CoreEq a a := ⟨rfl, rfl, rfl, rfl, rfl⟩

theorem CoreEq.trans' {a b c : St} (h1 : CoreEq a b) (h2 : CoreEq b c) : CoreEq a c :=
  ⟨h1.mode.trans h2.mode, h1.starts.trans h2.starts, h1.stack.trans h2.stack, h1.docs.trans h2.docs, h1.plus.trans h2.plus⟩

/-- `pushed` reads only the context (`starts`, `stack`, `docs`, `plus`) — and the mode only outside a value position,
where it leaves the state as it is -/
theorem pushed_congr (a b : St) (x : JV) (hm : a.mode = b.mode ∨ ValPos a) (h2 : a.starts = b.starts)
    (h3 : a.stack = b.stack) (h4 : a.docs = b.docs) (h5 : a.plus = b.plus) : CoreEq (a.pushed x) (b.pushed x) := by
  -- the fifteen fields of `Sen.St` (Sen/Machine.lean) by position: a field added or moved there shows up here
  obtain ⟨m1, st1, sk1, d1, e1, x1, t1, ri1, rn1, n1, q1, p1, lk1, ls1, ft1⟩ := a
  obtain ⟨m2, st2, sk2, d2, e2, x2, t2, ri2, rn2, n2, q2, p2, lk2, ls2, ft2⟩ := b
  simp only at h2 h3 h4 h5
  subst h2 h3 h4 h5
  rcases hm with hm | ⟨h1, h1'⟩ | ⟨j, o, h1⟩ | ⟨o, k, kvs, r, h1, h1'⟩
  · simp only at hm
    subst hm
    unfold St.pushed CoreEq
    simp only
    split
    · simp
    · split <;> simp
    · simp
  · simp only at h1 h1'; subst h1 h1'
    simp [St.pushed, CoreEq]
  · simp only at h1; subst h1
    simp [St.pushed, CoreEq]
  · simp only at h1 h1'; subst h1 h1'
    simp [St.pushed, CoreEq]

theorem CoreEq.pushed {a b : St} (h : CoreEq a b) (x : JV) : CoreEq (a.pushed x) (b.pushed x) :=
  pushed_congr a b x (.inl h.mode) h.starts h.stack h.docs h.plus

theorem pushed_coreV (a b : St) (x : JV) (hv : ValPos a) (h2 : a.starts = b.starts) (h3 : a.stack = b.stack)
    (h4 : a.docs = b.docs) (h5 : a.plus = b.plus) : CoreEq (a.pushed x) (b.pushed x) :=
  pushed_congr a b x (.inr hv) h2 h3 h4 h5

theorem CoreEq.inner {a b : St} (h : CoreEq a b) (hi : Inner a) : Inner b := by
  obtain ⟨_, h2, h3, _, _⟩ := h
  unfold Inner at hi ⊢
  rw [← h2, ← h3]; exact hi

/-- the fast-path record in front of a value and after a complete one: no newline run is being skipped, the integer
fast loop is not on. `tokFast` is left free: it matters only while a token is pending (`Done`) -/
def FOK (f : Fast) : Prop := f.nlSkipping = false ∧ f.inFast = false

theorem FOK_fT (f : Fast) : FOK (fT f) := ⟨rfl, rfl⟩
theorem FOK_fS' (f : Fast) : FOK (fS f) := ⟨rfl, rfl⟩

/-- the delimiters the tight writer puts after a scalar -/
def isDelim (d : UInt8) : Prop := d = 32 ∨ d = 93 ∨ d = 125

/-- the bytes that can follow a value inside a container: white space (what `valueMap` skips) and the closing brackets -/
def isEnder (d : UInt8) : Prop := isWsB d = true ∨ d = 93 ∨ d = 125

theorem isDelim.ender {d : UInt8} (h : isDelim d) : isEnder d := h.imp (fun e => by rw [e]; rfl) id

theorem isWsB_cases (b : UInt8) (h : isWsB b = true) : b = 32 ∨ b = 9 ∨ b = 13 ∨ b = 44 ∨ b = 10 := by
  simpa [isWsB, or_assoc] using h

theorem step_ws (st : St) (f : Fast) (b : UInt8) (l : Bool) (hm : st.mode = .value) (hf : f.nlSkipping = false)
    (hb : isWsB b = true) : step refTables {} st f b l = .ok (st, fS f, decide (b = 10)) := by
  have hact : refTables.act .value b = if b = 10 then .skipNewline else .skipChar := by
    rcases isWsB_cases b hb with rfl | rfl | rfl | rfl | rfl <;> rfl
  by_cases h10 : b = 10 <;> simp only [h10, ↓reduceIte] at hact <;>
    simp [step, stepCore, stepAct, stepActP, nextFast, hm, hf, hact, h10, fS]

theorem step_space (st : St) (f : Fast) (l : Bool) (hm : st.mode = .value) (hf : f.nlSkipping = false) :
    step refTables {} st f 32 l = .ok (st, fS f, false) :=
  step_ws st f 32 l hm hf rfl

theorem numEnd_act (m : Mode) (hm : NumMode m) (b : UInt8) (hb : isWsB b = true) :
    expected m b = if b = 10 then .numNewline else .numSpc := by
  rcases hm with rfl | rfl | rfl | rfl <;> rcases isWsB_cases b hb with rfl | rfl | rfl | rfl | rfl <;> rfl

theorem step_numWs (st : St) (f : Fast) (b : UInt8) (l : Bool) (hm : NumMode st.mode) (hin : Inner st)
    (hb : isWsB b = true) (hf : f.nlSkipping = false) :
    step refTables {} st f b l = .ok (st.pushed st.num.asNum.toJV, fS f, decide (b = 10)) := by
  have hnt := hm.ne_token
  have hact : refTables.act st.mode b = if b = 10 then .numNewline else .numSpc := numEnd_act _ hm b hb
  have hd := deliver_pushed st st.num.asNum.toJV hin
  have hpm := pushed_mode st st.num.asNum.toJV hin
  have hself : ({ st.pushed st.num.asNum.toJV with mode := .value } : St) = st.pushed st.num.asNum.toJV := by
    rw [← hpm]
  by_cases h10 : b = 10 <;> simp only [h10, ↓reduceIte] at hact <;>
    simp [step, stepCore, stepAct, stepActP, nextFast, hf, hnt, hact, add_pushed _ _ hin, hself, hd, h10, fS,
      Bind.bind, Except.bind, Pure.pure, Except.pure]

theorem step_numEnder (st : St) (f : Fast) (d : UInt8) (l : Bool) (hm : NumMode st.mode)
    (hin : Inner st) (hd : isEnder d) (hf : f.nlSkipping = false) :
    step refTables {} st f d l = step refTables {} (st.pushed st.num.asNum.toJV) f d l := by
  rcases hd with hw | hd
  · -- white space adds the number and is passed; in the completed state it is skipped
    rw [step_numWs st f d l hm hin hw hf, step_ws _ f d l (pushed_mode st _ hin) hf hw]
  -- a closing bracket first flushes the number, which gives the completed state; there it finds nothing to flush
  have hadd := add_pushed st st.num.asNum.toJV hin
  have hm2 := pushed_mode st st.num.asNum.toJV hin
  have hs2 := pushed_starts st st.num.asNum.toJV
  have hfin := hm.fin
  have hfv : expectedFin .value = .v := rfl
  have hra : refTables.act = expected := rfl
  have hrf : refTables.fin = expectedFin := rfl
  have hmt := hm.ne_token
  generalize st.pushed st.num.asNum.toJV = s2 at *
  rcases hd with rfl | rfl
  · have ha : expected st.mode 93 = .closeArray := by rcases hm with h | h | h | h <;> rw [h] <;> rfl
    simp [step, stepCore, stepAct, stepActP, hra, hrf, ha, show expected .value 93 = .closeArray from rfl, hf, hmt, hm2, hs2,
      St.flushCloseP, St.addIgnore, hfin, hfv, hadd, nextFast, Bind.bind, Except.bind, Pure.pure, Except.pure]
  · have ha : expected st.mode 125 = .closeObject := by rcases hm with h | h | h | h <;> rw [h] <;> rfl
    simp [step, stepCore, stepAct, stepActP, hra, hrf, ha, show expected .value 125 = .closeObject from rfl, hf, hmt, hm2, hs2,
      St.flushP, hfin, hfv, hadd, nextFast, Bind.bind, Except.bind, Pure.pure, Except.pure]

theorem step_numEnd (st : St) (f : Fast) (d : UInt8) (l : Bool) (hm : NumMode st.mode)
    (hin : Inner st) (hd : isDelim d) (hf : f.nlSkipping = false) :
    step refTables {} st f d l = step refTables {} (st.pushed st.num.asNum.toJV) f d l :=
  step_numEnder st f d l hm hin hd.ender hf

/-- the value is complete (`tgt` up to scratch), or it is a bare token or a number that is still pending in its value
position and that, once completed, gives `tgt` (a number: any of the modes `digit`, `zero`, `frac`, `exp`).
Of the fast-path record: `nlSkipping = false` throughout, every step lemma of the chain asks for it; while a token is
pending `tokFast = true`, so that `step` takes the token-end fast path on the byte that ends it (`step_tokenEnd`);
while a number is pending `inFast` is free, since after `valDigit` the machine may be in the integer fast loop -/
def Done (st : St) (f : Fast) (tgt : St) : Prop :=
  f.nlSkipping = false ∧ ((CoreEq st tgt ∧ f.inFast = false) ∨
    (st.mode = .token ∧ f.tokFast = true ∧ f.inFast = false ∧ ValPos st ∧
      CoreEq (st.pushed (tokenValue st.tmp.reverse)) tgt) ∨
    (NumMode st.mode ∧ ValPos st ∧ CoreEq (st.pushed st.num.asNum.toJV) tgt))

/-- `Done` inside a container, where the next delimiter completes what is pending -/
def DoneV (st : St) (f : Fast) (tgt : St) : Prop :=
  f.nlSkipping = false ∧ ((CoreEq st tgt ∧ f.inFast = false) ∨
    (st.mode = .token ∧ f.tokFast = true ∧ f.inFast = false ∧ Inner st ∧
      CoreEq (st.pushed (tokenValue st.tmp.reverse)) tgt) ∨
    (NumMode st.mode ∧ Inner st ∧ CoreEq (st.pushed st.num.asNum.toJV) tgt))

theorem Done.complete {st tgt : St} {f : Fast} (h : CoreEq st tgt) (hf : FOK f) : Done st f tgt := ⟨hf.1, .inl ⟨h, hf.2⟩⟩

theorem DoneV.complete {st tgt : St} {f : Fast} (h : CoreEq st tgt) (hf : FOK f) : DoneV st f tgt := ⟨hf.1, .inl ⟨h, hf.2⟩⟩

/-- completing a value leaves it in its container: what is pending for a target inside a container is inside it -/
theorem Done.toV {st : St} {f : Fast} {tgt : St} (h : Done st f tgt) (hs : tgt.starts ≠ []) : DoneV st f tgt := by
  have inner : ∀ x, ValPos st → CoreEq (st.pushed x) tgt → Inner st := fun x hv hc =>
    hv.resolve_left fun h0 => hs (by rw [← hc.starts, pushed_starts, h0.1])
  exact ⟨h.1, h.2.imp id (Or.imp (fun ⟨a, b, c, d, e⟩ => ⟨a, b, c, inner _ d e, e⟩) fun ⟨a, b, c⟩ => ⟨a, inner _ b c, c⟩)⟩

theorem ender_facts (d : UInt8) (h : isEnder d) : expected .token d ≠ .tokenOk ∧ d ≠ 40 := by
  rcases h with hw | rfl | rfl
  · rcases isWsB_cases d hw with rfl | rfl | rfl | rfl | rfl <;> exact ⟨by decide, by decide⟩
  all_goals exact ⟨by decide, by decide⟩

theorem done_ender (st : St) (f : Fast) (tgt : St) (h : DoneV st f tgt) (d : UInt8) (hd : isEnder d) :
    ∃ s2 f2, CoreEq s2 tgt ∧ f2.nlSkipping = false ∧ ∀ l, step refTables {} st f d l = step refTables {} s2 f2 d l := by
  obtain ⟨hf, ⟨h, _⟩ | ⟨hm, ht, hi, hin, hc⟩ | ⟨hm, hin, hc⟩⟩ := h
  · exact ⟨st, f, h, hf, fun _ => rfl⟩
  · obtain ⟨e1, e2⟩ := ender_facts d hd
    exact ⟨_, fT f, hc, rfl, fun l => step_tokenEnd st f d l hm hf hi ht hin e1 e2⟩
  · exact ⟨_, f, hc, hf, fun l => step_numEnder st f d l hm hin hd hf⟩

theorem done_step (st : St) (f : Fast) (tgt : St) (h : DoneV st f tgt) (d : UInt8) (hd : isDelim d) :
    ∃ s2 f2, CoreEq s2 tgt ∧ f2.nlSkipping = false ∧ ∀ l, step refTables {} st f d l = step refTables {} s2 f2 d l :=
  done_ender st f tgt h d hd.ender

theorem ValPos.top {s : St} (h : ValPos s) (hs : s.starts = []) : s.stack = [] := by
  rcases h with ⟨_, h⟩ | ⟨_, _, h⟩ | ⟨_, _, _, _, h, _⟩
  · exact h
  all_goals rw [hs] at h; cases h

/-- at the top of the document the end of the input completes what is pending: `Parse` adds the token or the number
(`finish`), and the value that is done is the document -/
theorem done_finish (st : St) (f : Fast) (tgt : St) (p : Pos) (h : Done st f tgt) (hs : tgt.starts = [])
    (hm : tgt.mode = .space) : ∃ out, finish refTables {} st p = .ok out ∧ out.docs = tgt.docs.reverse := by
  obtain ⟨_, ⟨⟨c1, c2, _, c4, _⟩, _⟩ | ⟨hmt, _, _, hv, ⟨_, c2, _, c4, _⟩⟩ | ⟨hmn, hv, ⟨_, c2, _, c4, _⟩⟩⟩ := h
  · exact ⟨_, C10.finish_space st p (c1.trans hm) (c2.trans hs), by rw [c4]⟩
  · have h0 : st.starts = [] := by rw [← pushed_starts st, c2, hs]
    have hk := hv.top h0
    refine ⟨_, by simp [finish, hmt, h0, hk, refTables, expectedFin, St.addTokenP, Item.toJV]; rfl, ?_⟩
    simp [← c4, St.pushed, h0]
  · have h0 : st.starts = [] := by rw [← pushed_starts st, c2, hs]
    have hk := hv.top h0
    have hfin := hmn.fin
    refine ⟨_, by simp [finish, hfin, h0, hk, refTables, St.addIgnore, St.add, Item.toJV]; rfl, ?_⟩
    simp [← c4, St.pushed, h0]

theorem parsesTo_of_done (doc : Bytes) (v : JV) (hbom : Json.bomRule doc = .keep) (st : St) (f : Fast) (p : Pos)
    (hrun : runBytes refTables {} {} {} {} doc = .ok (st, f, p)) (h : Done st f (({} : St).pushed v)) :
    C10.parsesTo doc v := by
  obtain ⟨out, ho, hd⟩ := done_finish st f _ p h rfl rfl
  exact C10.parsesTo_of_fin doc v hbom ⟨st, f, p, out, hrun, ho, hd⟩

theorem runBytes_step {st st' : St} {f f' : Fast} {p : Pos} {b : UInt8} {r : Bytes} {nl : Bool} (s2 : St) (f2 : Fast)
    (he : ∀ l, step refTables {} st f b l = step refTables {} s2 f2 b l)
    (h : ∀ l, step refTables {} s2 f2 b l = .ok (st', f', nl)) :
    runBytes refTables {} st f p (b :: r) = runBytes refTables {} st' f' (p.next nl) r :=
  runBytes_cons_ok {} (fun l => by rw [he l, h l])

section scalars
variable (html : Bool)

theorem addStringP_deliver (s : St) (t : Bytes) (hv : ValPos s) (hp : s.plus = false) :
    ∃ s1, s.addStringP t = .ok s1 ∧ deliver refTables {} s1 = .ok (s.pushed (.str t)) := by
  rcases hv with ⟨h1, h2⟩ | hin
  · exact ⟨{ s with mode := .value, stack := .val (.str t) :: s.stack }, by simp [St.addStringP, h1, hp],
      by simp [deliver, deliverP, refTables, expectedFin, St.pushed, h1, h2, Item.toJV]⟩
  · exact ⟨_, addStringP_pushed s t hin hp, deliver_pushed s _ hin⟩

theorem str_done (s : Bytes) (st : St) (f : Fast) (p : Pos) (rest : Bytes) (hm : st.mode = .value)
    (hp : st.plus = false) (hv : ValPos st) (h1 : ¬ C10.reservedWord s) (h2 : ¬ C10.leadingSign s html) :
    ∃ st' f' p', runBytes refTables {} st f p (senString s html ++ rest) = runBytes refTables {} st' f' p' rest ∧
      Done st' f' (st.pushed (.str (sanitize s))) := by
  rcases C10.quoted_or_bare s html with hq | ⟨hne, hqf⟩
  · -- quoted: the closing quote completes the value
    obtain ⟨ri, rn, p', h⟩ := C10.quoted_run s html st f p (34 :: rest) hm
    let sq : St := { st with quoteDelim := 34, mode := .string, ri := ri, rn := rn, tmp := (sanitize s).reverse }
    have hvq : ValPos sq := hv.congr rfl rfl
    obtain ⟨s1, ha, hd⟩ := addStringP_deliver sq (sanitize s) hvq hp
    have hstep : ∀ l, step refTables {} sq (fS f) 34 l = .ok (sq.pushed (.str (sanitize s)), fS (fS f), false) := by
      intro l
      rw [step_quoteEnd {} rfl rfl sq (fS f) l rfl rfl rfl, show sq.tmp.reverse = sanitize s from List.reverse_reverse _, ha]
      simp only [hd]
    refine ⟨sq.pushed (.str (sanitize s)), fS (fS f), p'.next false, ?_,
      .complete (pushed_coreV sq st _ hvq rfl rfl rfl rfl) (FOK_fS' _)⟩
    rw [hq, List.cons_append, List.append_assoc, List.singleton_append, h]
    exact runBytes_cons_ok {} hstep
  · -- bare: the token is pending
    obtain ⟨p', h⟩ := C10.bare_run s html st f p rest hm hne hqf h2
    have hv' : ValPos ({ st with mode := .token, tmp := s.reverse } : St) := hv.congr rfl rfl
    refine ⟨{ st with mode := .token, tmp := s.reverse }, { inFast := false, tokFast := true, nlSkipping := false }, p', h,
      rfl, .inr (.inl ⟨rfl, rfl, rfl, hv', ?_⟩)⟩
    rw [show St.tmp _ = s.reverse from rfl, List.reverse_reverse, C10.tokenValue_str s h1, (C10.bare_facts s html hne hqf).2.1]
    exact pushed_coreV _ st _ hv' rfl rfl rfl rfl

theorem word_done (b : UInt8) (t : Bytes) (st : St) (f : Fast) (p : Pos) (rest : Bytes) (hm : st.mode = .value)
    (hv : ValPos st) (hb : expected .value b = .tokenStart) (ht : expected .token b = .tokenOk)
    (hs : expected .space b ≠ .skipChar) (hr : ∀ x ∈ t, expected .token x = .tokenOk) :
    ∃ st' f' p', runBytes refTables {} st f p ((b :: t) ++ rest) = runBytes refTables {} st' f' p' rest ∧
      Done st' f' (st.pushed (tokenValue (b :: t))) := by
  rw [List.cons_append, runBytes_cons_ok {} (fun l => step_tokenStart {} rfl st f b l hm hb ht hs)]
  obtain ⟨p', h⟩ := token_run {} rfl t { st with tmp := [b], mode := .token }
    { inFast := false, tokFast := true, nlSkipping := false } (p.next false) rest rfl rfl rfl hr
  have hv' : ValPos ({ st with tmp := t.reverse ++ [b], mode := .token } : St) := hv.congr rfl rfl
  refine ⟨_, _, p', h, rfl, .inr (.inl ⟨rfl, rfl, rfl, hv', ?_⟩)⟩
  show CoreEq (St.pushed _ (tokenValue (t.reverse ++ [b]).reverse)) _
  rw [show (t.reverse ++ [b]).reverse = b :: t by simp]
  exact pushed_coreV _ st _ hv' rfl rfl rfl rfl

theorem Done.of_num {st st' : St} {f' : Fast} {x : JV} (hv : ValPos st) (hm : NumMode st'.mode)
    (hn : st'.num.asNum.toJV = x) (h2 : st'.starts = st.starts) (h3 : st'.stack = st.stack) (h4 : st'.docs = st.docs)
    (h5 : st'.plus = st.plus) (hf : f'.nlSkipping = false) : Done st' f' (st.pushed x) :=
  have hv' : ValPos st' := hv.congr h2.symm h3.symm
  ⟨hf, .inr (.inr ⟨hm, hv', hn ▸ pushed_coreV st' st _ hv' h2 h3 h4 h5⟩)⟩

theorem int_done (i : Int) (hi : -9223372036854775808 ≤ i ∧ i ≤ 18446744073709551615) (st : St) (f : Fast) (p : Pos)
    (rest : Bytes) (hm : st.mode = .value) (hv : ValPos st) (hf : FOK f) :
    ∃ st' f' p', runBytes refTables {} st f p (fmtInt i ++ rest) = runBytes refTables {} st' f' p' rest ∧
      Done st' f' (st.pushed (nvInt i)) := by
  obtain ⟨st', f', p', hrun, m3, n3, a3, b3, c3, d3, e3⟩ := int_run_all i hi st f p rest hm hf.1
  exact ⟨st', f', p', hrun, .of_num hv m3 n3 a3 b3 c3 d3 e3⟩

theorem flt_done (t : Bytes) (hadm : NumAdm t) (st : St) (f : Fast) (p : Pos)
    (rest : Bytes) (hm : st.mode = .value) (hv : ValPos st) (hf : FOK f) :
    ∃ st' f' p', runBytes refTables {} st f p (t ++ rest) = runBytes refTables {} st' f' p' rest ∧
      Done st' f' (st.pushed (Json.numConv t)) := by
  obtain ⟨q, hw, hl, hb, rfl⟩ := hadm
  obtain ⟨m, f', p', hrun, hm', hf'⟩ := num_run q hw hl hb st f p rest hm hf.1
  exact ⟨_, f', p', hrun, .of_num hv hm' (numDoc_eq_numConv q hw hl) rfl rfl rfl rfl hf'⟩

theorem value_int_all (i : Int) (hi : -9223372036854775808 ≤ i ∧ i ≤ 18446744073709551615) (st : St) (f : Fast) (p : Pos)
    (rest : Bytes) (hm : st.mode = .value) (hin : Inner st) (hf : FOK f) :
    ∃ st' f' p', runBytes refTables {} st f p (fmtInt i ++ rest) = runBytes refTables {} st' f' p' rest ∧
      DoneV st' f' (st.pushed (nvInt i)) := by
  obtain ⟨st', f', p', hrun, hd⟩ := int_done i hi st f p rest hm hin.valPos hf
  exact ⟨st', f', p', hrun, hd.toV (hin.pushed_ne _)⟩

theorem value_int (i : Int) (hi : -9223372036854775800 < i ∧ i < 9223372036854775800) (st : St) (f : Fast) (p : Pos)
    (rest : Bytes) (hm : st.mode = .value) (hin : Inner st) (hf : FOK f) :
    ∃ st' f' p', runBytes refTables {} st f p (fmtInt i ++ rest) = runBytes refTables {} st' f' p' rest ∧
      DoneV st' f' (st.pushed (.int i)) := by
  have h := value_int_all i ⟨by omega, by omega⟩ st f p rest hm hin hf
  rwa [show nvInt i = .int i from if_pos ⟨by omega, hi.2⟩] at h

theorem value_flt (t : Bytes) (hadm : NumAdm t) (st : St) (f : Fast) (p : Pos)
    (rest : Bytes) (hm : st.mode = .value) (hin : Inner st) (hf : FOK f) :
    ∃ st' f' p', runBytes refTables {} st f p (t ++ rest) = runBytes refTables {} st' f' p' rest ∧
      DoneV st' f' (st.pushed (Json.numConv t)) := by
  obtain ⟨st', f', p', hrun, hd⟩ := flt_done t hadm st f p rest hm hin.valPos hf
  exact ⟨st', f', p', hrun, hd.toV (hin.pushed_ne _)⟩

theorem quoteEnd_key (st : St) (f : Fast) (l : Bool) (hm : st.mode = .string) (hq : st.quoteDelim = 34)
    (o : List (Option Nat)) (hs : st.starts = none :: o) (kvs : List (Bytes × JV)) (r : List Item)
    (hk : st.stack = .obj kvs :: r) (hp : st.plus = false) (hf : f.nlSkipping = false) :
    step refTables {} st f 34 l =
      .ok ({ st with mode := .colon, stack := .key st.tmp.reverse :: .obj kvs :: r }, fS f, false) := by
  rw [step_quoteEnd {} rfl rfl st f l hm hq hf]
  simp [St.addStringP, topIsKey, deliver, hs, hk, hp]

theorem colon_token (st : St) (f : Fast) (l : Bool) (hm : st.mode = .token) (o : List (Option Nat))
    (hs : st.starts = none :: o) (kvs : List (Bytes × JV)) (r : List Item) (hk : st.stack = .obj kvs :: r)
    (hf : f.nlSkipping = false) (ht : f.tokFast = true) :
    step refTables {} st f 58 l =
      .ok ({ st with mode := .value, stack := .key st.tmp.reverse :: .obj kvs :: r },
           { inFast := false, tokFast := false, nlSkipping := false }, false) := by
  simp [step, tokenEndFast, stepCore, stepAct, stepActP, nextFast, refTables, expected, expectedFin, isSep, isBlank,
    St.addTokenP, topIsKey, deliver, hm, hs, hk, hf, ht]

theorem key_run (k : Bytes) (st : St) (f : Fast) (p : Pos) (rest : Bytes) (hm : st.mode = .value)
    (hp : st.plus = false) (o : List (Option Nat)) (hs : st.starts = none :: o) (kvs : List (Bytes × JV))
    (r : List Item) (hk : st.stack = .obj kvs :: r) (h2 : ¬ C10.leadingSign k html) :
    ∃ st' f' p', runBytes refTables {} st f p (senString k html ++ 58 :: rest) = runBytes refTables {} st' f' p' rest ∧
      st'.mode = .value ∧ st'.starts = none :: o ∧ st'.stack = .key (sanitize k) :: .obj kvs :: r ∧
      st'.docs = st.docs ∧ st'.plus = false ∧ FOK f' := by
  rcases C10.quoted_or_bare k html with hq | ⟨hne, hqf⟩
  · -- quoted: the closing quote puts the key on the map, the colon asks for the value
    obtain ⟨ri, rn, p', h⟩ := C10.quoted_run k html st f p (34 :: 58 :: rest) hm
    let sq : St := { st with quoteDelim := 34, mode := .string, ri := ri, rn := rn, tmp := (sanitize k).reverse }
    let sc : St := { sq with mode := .colon, stack := .key sq.tmp.reverse :: .obj kvs :: r }
    refine ⟨{ sc with mode := .value }, fS (fS (fS f)), (p'.next false).next false, ?_, rfl, hs, ?_, rfl, hp, ⟨rfl, rfl⟩⟩
    · rw [hq, List.cons_append, List.append_assoc, List.singleton_append, h,
        runBytes_cons_ok {} fun l => quoteEnd_key sq (fS f) l rfl rfl o hs kvs r hk hp rfl,
        runBytes_cons_ok {} fun l => C10.step_colon sc _ l rfl rfl]
    · simp [sc, sq]
  · -- bare: the colon ends the token, which becomes the key
    obtain ⟨p', h⟩ := C10.bare_run k html st f p (58 :: rest) hm hne hqf h2
    let sb : St := { st with mode := .token, tmp := k.reverse }
    refine ⟨{ sb with mode := .value, stack := .key sb.tmp.reverse :: .obj kvs :: r },
      { inFast := false, tokFast := false, nlSkipping := false }, p'.next false, ?_, rfl, hs, ?_, rfl, hp, ⟨rfl, rfl⟩⟩
    · rw [h, runBytes_cons_ok {} fun l => colon_token sb _ l rfl o hs kvs r hk rfl rfl]
    · simp [sb, (C10.bare_facts k html hne hqf).2.1]

end scalars

mutual
  /-- what comes back: strings and member names sanitised (invalid UTF-8 replaced by U+FFFD), a float as the number
  `Json.numConv` of its text (an int64 when the text has neither fraction nor exponent, else the float64 /
  json.Number of a text that denotes the same decimal number: `numDoc_exact`), the members
  `tightObject` passes over dropped, a repeated member name keeps its first position and its last value (the Go
  map) -/
  def nvVal (o : WOpts) : JV → JV
    | .str s => .str (sanitize s)
    | .arr xs => .arr (nvElems o xs)
    | .obj kvs => .obj (nvMembers o kvs [])
    | .int i => nvInt i             -- the int64 itself below the limit of the integer fast loop, else json.Number
    | .flt t => Json.numConv t      -- what `gen.Number` makes of the float text (also what `oj.Parse` reads from it)
    | v => v
  def nvElems (o : WOpts) : List JV → List JV
    | [] => []
    | x :: r => nvVal o x :: nvElems o r
  def nvMembers (o : WOpts) : List (Bytes × JV) → List (Bytes × JV) → List (Bytes × JV)
    | [], acc => acc
    | (k, v) :: r, acc =>
      if omitted o v then nvMembers o r acc else nvMembers o r (kvInsert (sanitize k) (nvVal o v) acc)
end

mutual
  /-- the trees of the theorem: `null`, booleans, integers, strings, arrays, objects; no string (in value position)
  is one of the reserved words, no string or member name is written bare with a leading sign (the two known
  findings); the integers are ALL int64 and uint64 (from 9223372036854775800 on the parser's integer fast loop answers
  json.Number — known finding C03sen-int19 — with the same digits: `nvInt`); a float is given by its text, any literal of
  the RFC 8259 number grammar (what strconv writes with format 'g' is one) whose integer part is below the same limit
  (`NumAdm`); json.Number leaves are not covered -/
  def admVal (o : WOpts) : JV → Prop
    | .null => True
    | .bool _ => True
    | .str s => ¬ C10.reservedWord s ∧ ¬ C10.leadingSign s o.html
    | .int i => -9223372036854775808 ≤ i ∧ i ≤ 18446744073709551615      -- int64 and uint64
    | .flt t => NumAdm t
    | .arr xs => admElems o xs
    | .obj kvs => admMembers o kvs
    | _ => False
  def admElems (o : WOpts) : List JV → Prop
    | [] => True
    | x :: r => admVal o x ∧ admElems o r
  def admMembers (o : WOpts) : List (Bytes × JV) → Prop
    | [] => True
    | (k, v) :: r => (omitted o v = true ∨ (¬ C10.leadingSign k o.html ∧ admVal o v)) ∧ admMembers o r
end

mutual
  /-- a size of the tree (one for every node and for every list cell): the bound `n` in the statements of `claims_all`,
  `claimsL_all` and `claimsI_all` -/
  def jsz : JV → Nat
    | .arr xs => 1 + jszE xs
    | .obj kvs => 1 + jszM kvs
    | _ => 1
  def jszE : List JV → Nat
    | [] => 0
    | x :: r => 1 + jsz x + jszE r
  def jszM : List (Bytes × JV) → Nat
    | [] => 0
    | (_, v) :: r => 1 + jsz v + jszM r
end

theorem jsz_pos (v : JV) : 1 ≤ jsz v := by
  cases v <;> simp [jsz] <;> omega

/-- three claims about all values, element lists and member lists of a class, in the shape of `claims_all`, `claimsL_all`
and `claimsI_all`: under a bound on the size that plays no part (each of the three is proved for all trees, by
induction on their structure, and brought into this shape here) -/
theorem claims_bounded {A PV : JV → Prop} {AE PE : List JV → Prop} {AM PM : List (Bytes × JV) → Prop}
    (h : (∀ v, A v → PV v) ∧ (∀ xs, AE xs → PE xs) ∧ (∀ kvs, AM kvs → PM kvs)) (n : Nat) :
    (∀ v, jsz v ≤ n → A v → PV v) ∧ (∀ xs, jszE xs ≤ n → AE xs → PE xs) ∧ (∀ kvs, jszM kvs ≤ n → AM kvs → PM kvs) :=
  ⟨fun v _ => h.1 v, fun xs _ => h.2.1 xs, fun kvs _ => h.2.2 kvs⟩

theorem splitStack_arr (acc : List JV) (below : List Item) :
    splitStack ((acc.reverse.map Item.val) ++ Item.arrMark :: below) below.length = some (acc, .arrMark, below) := by
  unfold splitStack
  have hl : ((acc.reverse.map Item.val) ++ Item.arrMark :: below).length = acc.length + (below.length + 1) := by simp
  have hsub : acc.length + (below.length + 1) - (below.length + 1) = acc.length := by omega
  have hlen : (List.map Item.val acc.reverse).length = acc.length := by simp
  simp only [hl, hsub]
  have h1 : ¬ acc.length + (below.length + 1) < below.length + 1 := by omega
  simp only [h1, ↓reduceIte]
  rw [List.drop_left' hlen, List.take_left' hlen]
  simp [Item.toJV, Function.comp_def]

def VClaim (o : WOpts) (v : JV) : Prop :=
  ∀ (st : St) (f : Fast) (p : Pos) (rest : Bytes), st.mode = .value → st.plus = false → Inner st → FOK f →
    ∃ st' f' p', runBytes refTables {} st f p (tightVal o v ++ rest) = runBytes refTables {} st' f' p' rest ∧
      DoneV st' f' (st.pushed (nvVal o v)) ∧ (needSep v = false → CoreEq st' (st.pushed (nvVal o v)) ∧ FOK f')

def EClaim (o : WOpts) (xs : List JV) : Prop :=
  ∀ (st : St) (f : Fast) (p : Pos) (rest : Bytes) (acc : List JV) (i : Nat) (outer : List (Option Nat)) (below : List Item),
    st.mode = .value → st.plus = false → st.starts = some i :: outer →
    st.stack = (acc.reverse.map Item.val) ++ Item.arrMark :: below → i = below.length →
    ValPos ({ st with starts := outer, stack := below } : St) → FOK f →
    ∃ st' f' p', runBytes refTables {} st f p (tightElems o xs ++ rest) = runBytes refTables {} st' f' p' rest ∧
      CoreEq st' (({ st with starts := outer, stack := below } : St).pushed (.arr (acc ++ nvElems o xs))) ∧ FOK f'

def MClaim (o : WOpts) (kvs : List (Bytes × JV)) : Prop :=
  ∀ (first : Bool) (st : St) (f : Fast) (p : Pos) (rest : Bytes) (acc : List (Bytes × JV)) (outer : List (Option Nat))
    (below : List Item) (tgt : St),
    DoneV st f tgt → (first = true → CoreEq st tgt ∧ FOK f) → tgt.mode = .value → tgt.plus = false →
    tgt.starts = none :: outer → tgt.stack = .obj acc :: below →
    ValPos ({ tgt with starts := outer, stack := below } : St) →
    ∃ st' f' p', runBytes refTables {} st f p (tightMembers o kvs first ++ rest) = runBytes refTables {} st' f' p' rest ∧
      CoreEq st' (({ tgt with starts := outer, stack := below } : St).pushed (.obj (nvMembers o kvs acc))) ∧ FOK f'

section
variable (o : WOpts)

/-- **a scalar of the class in any value position** — inside a container or as the whole document: after its text the
value is done -/
theorem scalar_done (v : JV) (hadm : admVal o v) (hs : needSep v = true) (st : St) (f : Fast) (p : Pos) (rest : Bytes)
    (hm : st.mode = .value) (hp : st.plus = false) (hv : ValPos st) (hf : FOK f) :
    ∃ st' f' p', runBytes refTables {} st f p (tightVal o v ++ rest) = runBytes refTables {} st' f' p' rest ∧
      Done st' f' (st.pushed (nvVal o v)) := by
  cases v with
  | null => exact word_done 110 [117, 108, 108] st f p rest hm hv (by decide) (by decide) (by decide) (by decide)
  | bool b =>
    cases b with
    | true => exact word_done 116 [114, 117, 101] st f p rest hm hv (by decide) (by decide) (by decide) (by decide)
    | false => exact word_done 102 [97, 108, 115, 101] st f p rest hm hv (by decide) (by decide) (by decide) (by decide)
  | str s => exact str_done o.html s st f p rest hm hp hv hadm.1 hadm.2
  | int i => exact int_done i hadm st f p rest hm hv hf
  | flt t => exact flt_done t hadm st f p rest hm hv hf
  | arr xs => cases hs
  | obj kvs => cases hs
  | big t => exact absurd hadm (by simp [admVal])
  | num t => exact absurd hadm (by simp [admVal])

/-- inside a container; a scalar is followed by a separator, so nothing is claimed about a state without one -/
theorem V_scalar (v : JV) (hadm : admVal o v) (hs : needSep v = true) : VClaim o v := by
  intro st f p rest hm hp hin hf
  obtain ⟨st', f', p', h, hd⟩ := scalar_done o v hadm hs st f p rest hm hp hin.valPos hf
  exact ⟨st', f', p', h, hd.toV (hin.pushed_ne _), fun h => by rw [hs] at h; cases h⟩

end

mutual
  /-- trees that come back as THEMSELVES: strings and member names are well-formed UTF-8, the writer passes over no
  member, member names are pairwise different -/
  def plainVal (o : WOpts) : JV → Prop
    | .str s => WellFormedUtf8 s
    | .arr xs => plainElems o xs
    | .obj kvs => plainMembers o kvs ∧ (kvs.map Prod.fst).Nodup
    | .int i => -9223372036854775808 < i ∧ i < 9223372036854775800   -- the others come back as json.Number
    | .flt t => Json.numConv t = .flt t      -- `1.5` is; `3` comes back as the int64 3, `1e+06` as the float of `1e6`
    | _ => True
  def plainElems (o : WOpts) : List JV → Prop
    | [] => True
    | x :: r => plainVal o x ∧ plainElems o r
  def plainMembers (o : WOpts) : List (Bytes × JV) → Prop
    | [] => True
    | (k, v) :: r => (WellFormedUtf8 k ∧ omitted o v = false ∧ plainVal o v) ∧ plainMembers o r
end

mutual
  theorem nvVal_plain (o : WOpts) : ∀ (v : JV), plainVal o v → nvVal o v = v
    | .str s, h => by simp only [nvVal]; rw [sanitize_valid s h]
    | .arr xs, h => by simp only [nvVal]; rw [nvElems_plain o xs h]
    | .obj kvs, h => by
      simp only [nvVal]
      rw [nvMembers_plain o kvs [] h.1 h.2 (by simp)]
      rfl
    | .int i, h => by simp only [nvVal, nvInt]; exact if_pos h
    | .flt t, h => h
    | .null, _ | .bool _, _ | .big _, _ | .num _, _ => rfl
  theorem nvElems_plain (o : WOpts) : ∀ (xs : List JV), plainElems o xs → nvElems o xs = xs
    | [], _ => rfl
    | x :: r, h => by simp only [nvElems]; rw [nvVal_plain o x h.1, nvElems_plain o r h.2]
  theorem nvMembers_plain (o : WOpts) : ∀ (kvs acc : List (Bytes × JV)), plainMembers o kvs → (kvs.map Prod.fst).Nodup →
      (∀ k ∈ kvs.map Prod.fst, k ∉ acc.map Prod.fst) → nvMembers o kvs acc = acc ++ kvs
    | [], acc, _, _, _ => by simp [nvMembers]
    | (k, v) :: r, acc, ⟨⟨h1, h2, h3⟩, h4⟩, hnd, hdis => by
      simp only [List.map_cons, List.nodup_cons] at hnd
      simp only [nvMembers, h2, Bool.false_eq_true, ↓reduceIte]
      rw [sanitize_valid k h1, nvVal_plain o v h3, kvInsert_notin k v acc (hdis k (by simp)),
        nvMembers_plain o r (acc ++ [(k, v)]) h4 hnd.2 ?_]
      · simp
      · intro k' hk'
        simp only [List.map_append, List.map_cons, List.map_nil, List.mem_append, List.mem_singleton, not_or]
        exact ⟨hdis k' (by simp [hk']), fun e => hnd.1 (e ▸ hk')⟩
end

end OjgVerif.Sen
