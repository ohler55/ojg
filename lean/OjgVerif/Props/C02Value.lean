import OjgVerif.Json.NumValueScan
import OjgVerif.Json.NumValueTree
import OjgVerif.Props.C02Tree
/-! # C02 — numeric clause as a theorem: no digit, sign or exponent is lost or invented

`numConv lit` is what the machine puts at a number leaf (`C02.oj_structure`, `exec_number_conv`). For
every RFC 8259 number literal `lit` — every shape: sign, integer part of any length, fraction of any
length with leading and trailing zeros, exponent with `e`/`E`, sign and leading zeros, on either side of
every threshold at which the accumulator of `gen/number.go` switches to text form — the result is

* an int64 `v` with `lit` denoting exactly `v` (then `lit` has no fraction and exponent value 0), or
* a float64 or `json.Number`/`gen.Big` given by a decimal text `t` (handed to `strconv.ParseFloat`,
  resp. kept as is) that is a well-formed decimal text and denotes exactly the number `lit` denotes.

The denotation `decVal` (Json/NumValue.lean) is repo-independent and executable: text ↦ (mantissa built
from the sign and ALL digits of integer and fraction part, power of ten). `numConv_exact` is the strong
form: mantissa and power of ten are both preserved literally (trailing zeros of the fraction included);
`numConv_value` is the statement with `SameNumber` (equality of `m · 10^e`). Nothing is excluded.

Trusted beyond this file: `strconv.ParseFloat` on the text of a `.flt` result (e.g. `1E400` is the text
`1e400`, for which Go returns +Inf and an error the code discards) and `strconv.FormatUint` = `fmtNat`. -/
namespace OjgVerif.C02
open OjgVerif.Json

/-- **Numeric clause, strong form.** `lit` is the literal the specification reads at the head of `bs`
(for a stand-alone literal take `bs = lit`, `rest = []`). The literal is a decimal text denoting
`m · 10^e`; an int64 result is `m` with `e = 0` and lies within int64; the text of a float or big result
denotes the same mantissa and the same power of ten. -/
theorem numConv_exact_at (bs lit rest : Bytes) (h : Spec.pNumber bs = some (lit, rest)) :
    ∃ m e, decVal lit = some (m, e) ∧
      match numConv lit with
      | .int v => v = m ∧ e = 0 ∧ -9223372036854775807 ≤ v ∧ v ≤ 9223372036854775807
      | .flt t => decVal t = some (m, e)
      | .big t => decVal t = some (m, e)
      | _ => False := by
  obtain ⟨p, hw, hl, rfl⟩ := pNumber_parts bs lit rest h
  refine ⟨(pval p).1, (pval p).2, decVal_render p hw, ?_⟩
  have ht := tracks_asNum (acc p) p (tracks_acc p hw) hw
  unfold numConv
  rw [numScan_render p hw hl]
  cases hres : (acc p).asNum with
  | int v =>
    rw [hres] at ht
    simp only [NumRes.toJV]
    exact ⟨by rw [ht.1], by rw [ht.1], ht.2.1, ht.2.2⟩
  | flt t => rw [hres] at ht; exact ht
  | big t => rw [hres] at ht; exact ht

theorem numConv_exact (lit : Bytes) (h : Spec.pNumber lit = some (lit, [])) :
    ∃ m e, decVal lit = some (m, e) ∧
      match numConv lit with
      | .int v => v = m ∧ e = 0 ∧ -9223372036854775807 ≤ v ∧ v ≤ 9223372036854775807
      | .flt t => decVal t = some (m, e)
      | .big t => decVal t = some (m, e)
      | _ => False :=
  numConv_exact_at lit lit [] h

/-- **Numeric clause (C02)** at a number leaf: `lit` is the literal the specification reads at the head
of `bs`. It comes back as an int64 equal to it, or as a float64 / `json.Number` / `gen.Big` whose decimal
text denotes the same number. -/
theorem numConv_value_at (bs lit rest : Bytes) (h : Spec.pNumber bs = some (lit, rest)) :
    match numConv lit with
    | .int v => SameNumberO (decVal lit) (some (v, 0))
    | .flt t | .big t => SameNumberO (decVal lit) (decVal t)
    | _ => False := by
  obtain ⟨m, e, hd, hr⟩ := numConv_exact_at bs lit rest h
  -- `numConv lit` is no other kind of value: on those `hr` is `False`
  cases hc : numConv lit <;> rw [hc] at hr <;> try exact hr
  · obtain ⟨rfl, rfl, _, _⟩ := hr
    exact SameNumberO.of_eq hd rfl
  · exact SameNumberO.of_eq hd hr
  · exact SameNumberO.of_eq hd hr

/-- **Numeric clause (C02).** Every complete RFC 8259 number literal comes back as an int64 equal to it,
or as a float64 / `json.Number` / `gen.Big` whose decimal text denotes the same number. -/
theorem numConv_value (lit : Bytes) (h : Spec.pNumber lit = some (lit, [])) :
    match numConv lit with
    | .int v => SameNumberO (decVal lit) (some (v, 0))
    | .flt t | .big t => SameNumberO (decVal lit) (decVal t)
    | _ => False :=
  numConv_value_at lit lit [] h

/-- the conclusion of `numConv_value` as a predicate on literals, for `JV.NumsAll` -/
def NumClause (lit : Bytes) : Prop :=
  match numConv lit with
  | .int v => SameNumberO (decVal lit) (some (v, 0))
  | .flt t | .big t => SameNumberO (decVal lit) (decVal t)
  | _ => False

/-- every number literal of the specification tree of a document satisfies the numeric clause -/
theorem document_numbers (bs : Bytes) (v : JV) (h : parseTextS (Spec.stripBOM bs) = .one v) :
    JV.NumsAll NumClause v :=
  parseTextS_numsAll NumClause numConv_value_at _ v h

/-- **C02, structure and numeric clause together** (regenerated oj tables, one document, configuration
`cfg1` without the parsers' integer fast loop, for which see Props/C02Fast.lean): when the text
is a JSON document with specification tree `v` (numbers kept as literals), the machine returns `v` with
each literal replaced by `numConv` of it, and at every one of these literals the replacement is an
int64 equal to the literal or a float64 / `json.Number` text denoting the same number. -/
theorem oj_numbers (bs : Bytes) (v : JV) (h : parseTextS (Spec.stripBOM bs) = .one v) :
    toOpt (run ojTables cfg1 [bs]) = some [JV.mapNum numConv v] ∧ JV.NumsAll NumClause v := by
  refine ⟨?_, document_numbers bs v h⟩
  rw [oj_structure, h]; rfl

/-- the same for the gen tables (`gen.Int` / `gen.Float` / `gen.Big`) -/
theorem gen_numbers (bs : Bytes) (v : JV) (h : parseTextS (Spec.stripBOM bs) = .one v) :
    toOpt (run genTables cfg1 [bs]) = some [JV.mapNum numConv v] ∧ JV.NumsAll NumClause v := by
  refine ⟨?_, document_numbers bs v h⟩
  rw [gen_structure, h]; rfl

/-! The hypothesis is met by literals of every shape, on both sides of every threshold: -/

private abbrev asc (s : String) : Bytes := s.toUTF8.toList

private def complete (s : String) : Bool := Spec.pNumber (asc s) == some (asc s, [])

private def isFlt (s t : String) : Bool := match numConv (asc s) with | .flt x => x == asc t | _ => false
private def isBig (s t : String) : Bool := match numConv (asc s) with | .big x => x == asc t | _ => false
private def isInt (s : String) (v : Int) : Bool := match numConv (asc s) with | .int x => x == v | _ => false

/-- fraction with leading and trailing zero, `e+07` with sign and leading zero: float64 from the text
`-12.0340e7`, which denotes −120340 · 10^3 as the literal does -/
example : complete "-12.0340e+07" = true ∧ isFlt "-12.0340e+07" "-12.0340e7" = true ∧
    decVal (asc "-12.0340e+07") = some (-120340, 3) ∧ decVal (asc "-12.0340e7") = some (-120340, 3) := by
  decide +kernel

example : complete "0.5" = true ∧ isFlt "0.5" "0.5" = true := by decide +kernel

/-- upper-case `E`, exponent beyond float64 but below the text threshold 1022: the text `1e400` -/
example : complete "1E400" = true ∧ isFlt "1E400" "1e400" = true ∧
    SameNumberO (decVal (asc "1E400")) (decVal (asc "1e400")) := by decide +kernel

/-- integer part beyond int64: switched to text in the middle of the digits, all 30 digits kept -/
example : complete "123456789012345678901234567890" = true ∧
    isBig "123456789012345678901234567890" "123456789012345678901234567890" = true := by decide +kernel

/-- 21 fraction digits, 20 leading zeros: switched to text after 18 fraction digits, every zero kept -/
example : complete "0.000000000000000000001" = true ∧
    isBig "0.000000000000000000001" "0.000000000000000000001" = true ∧
    decVal (asc "0.000000000000000000001") = some (1, -21) := by decide +kernel

/-- exponent thresholds: 1022 is still a float text, 1023 switches to text form; leading zeros of the
exponent are dropped, its value is not -/
example : isFlt "1e1022" "1e1022" = true ∧ isBig "1e1023" "1e1023" = true ∧ isBig "1e00001023" "1e1023" = true ∧
    isBig "2E-10234" "2e-10234" = true := by decide +kernel

/-- integer results: only without fraction and with exponent value 0; the int64 bounds -/
example : isInt "1e0" 1 = true ∧ isInt "-0" 0 = true ∧ isInt "12E-000" 12 = true ∧
    isInt "9223372036854775807" 9223372036854775807 = true ∧ isInt "-9223372036854775807" (-9223372036854775807) = true ∧
    isBig "9223372036854775808" "9223372036854775808" = true ∧ isBig "-9223372036854775808" "-9223372036854775808" = true ∧
    isFlt "1.0" "1.0" = true ∧ isFlt "-0.0e-0" "-0.0" = true := by decide +kernel

/-- switch to text in the integer part, then fraction, `E`, `+` and exponent passed through verbatim;
switch in the fraction part with an exponent following -/
example : isBig "12345678901234567890.5E+3" "12345678901234567890.5E+3" = true ∧
    isBig "0.0000000000000000001e5" "0.0000000000000000001e5" = true ∧
    isFlt "1.000000000000000000" "1.000000000000000000" = true ∧
    isBig "1.0000000000000000001" "1.0000000000000000001" = true := by decide +kernel

private def isOne : Spec.Doc → Bool
  | .one _ => true
  | _ => false

/-- a document with numbers at several depths meets the hypothesis of `oj_numbers` (`isOne d = true` is
`∃ v, d = .one v`) -/
example : isOne (parseTextS (Spec.stripBOM (asc "[1.50, {\"a\": -2E+3, \"b\": [0, 1e999999]}] "))) = true := by
  decide +kernel

/-- `decVal` rejects what is not a decimal text, so `decVal t = some _` in the theorems says the result
text is well formed -/
example : decVal (asc "1.") = none ∧ decVal (asc "1e") = none ∧ decVal (asc "-") = none ∧ decVal (asc "") = none ∧
    decVal (asc "1.5x") = none ∧ decVal (asc ".5") = none ∧ decVal (asc "1e+") = none ∧ decVal (asc "1 ") = none := by
  decide +kernel

/-- `SameNumber` separates numbers -/
example : ¬ SameNumber (15, -1) (15, 0) ∧ ¬ SameNumber (15, -1) (-15, -1) ∧ ¬ SameNumber (1, 400) (1, 401) ∧
    SameNumber (15, -1) (1500, -3) := by decide

end OjgVerif.C02
