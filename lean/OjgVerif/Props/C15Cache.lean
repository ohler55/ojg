import OjgVerif.Reflect.EncCache
/-! # C15 — the plan caches: history independence (model `Reflect/EncCache.lean`)

The protocols (which map a lookup consults, with which flag a miss builds, where the result is stored) are
read from traces regenerated from `oj/sinfo.go`, `sen/sinfo.go`, `alt/sinfo.go` by
`tools/extract/reflect_enc.go` (`cache_wiring`) and are well keyed (`cache_cfg_current`). For EVERY well-keyed
protocol, type graph, fuel and history of encoder lookups, the plan tree a lookup `(type, OmitEmpty = om)`
returns has the flag `om` at every node (`cache_history_independent`), and on an acyclic type graph it is, up
to the `embedded` flags, the tree the same lookup returns as the first of the process
(`cache_history_independent_full`). Both come from one invariant of the caches, `PlanInv`, instantiated
twice. The hypothesis is needed: the protocol of seeded change C15-m7 (a hit in `structMap` is returned
before `structEmptyMap` is consulted) is history dependent (`cache_plain_first_history_dependent`).

What is NOT proved here: that the tree an encoder writes depends on the plan tree only through these
flags (the plan entries themselves are a function of the type and the flag: `planOf` of
`Reflect/Model.lean`; the walker of that model takes the nested plan by this flag), and that the Go
maps behave like association lists keyed by type identity. The cache-order stream of the harness
(`harness/cmd/reflect/c15_cache.go`) checks the statement on the implementation. -/
namespace OjgVerif.C15
open OjgVerif.Reflect.EncCache

/-- the cache selection lines of the three packages, as regenerated from the source -/
theorem cache_wiring :
    Gen.ReflectEnc.ojGetTypeStructOff = ["lookup:structMap", "build:embedded:omitEmpty"] ∧
    Gen.ReflectEnc.ojGetTypeStructOn = ["lookup:structEmptyMap", "build:embedded:omitEmpty"] ∧
    Gen.ReflectEnc.ojGetSinfoOff = ["lookup:structMap", "build:false:omitEmpty"] ∧
    Gen.ReflectEnc.ojGetSinfoOn = ["lookup:structEmptyMap", "build:false:omitEmpty"] ∧
    Gen.ReflectEnc.ojBuildStructOff = ["store:structMap", "return"] ∧
    Gen.ReflectEnc.ojBuildStructOn = ["store:structEmptyMap", "return"] ∧
    Gen.ReflectEnc.senGetTypeStructOff = Gen.ReflectEnc.ojGetTypeStructOff ∧
    Gen.ReflectEnc.senGetTypeStructOn = Gen.ReflectEnc.ojGetTypeStructOn ∧
    Gen.ReflectEnc.senGetSinfoOff = Gen.ReflectEnc.ojGetSinfoOff ∧
    Gen.ReflectEnc.senGetSinfoOn = Gen.ReflectEnc.ojGetSinfoOn ∧
    Gen.ReflectEnc.senBuildStructOff = Gen.ReflectEnc.ojBuildStructOff ∧
    Gen.ReflectEnc.senBuildStructOn = Gen.ReflectEnc.ojBuildStructOn ∧
    Gen.ReflectEnc.altGetSinfoOff = ["lookup:structMap", "build:-:omitEmpty"] ∧
    Gen.ReflectEnc.altGetSinfoOn = ["lookup:structEmptyMap", "build:-:omitEmpty"] ∧
    Gen.ReflectEnc.altBuildStructOff = ["store:structMap", "return"] ∧
    Gen.ReflectEnc.altBuildStructOn = ["store:structEmptyMap", "return"] := by
  decide +kernel

/-- the protocols of oj, sen and alt as they are in the source are well keyed; the protocol of the
seeded change is not -/
theorem cache_cfg_current :
    Cfg.oj.wellKeyed = true ∧ Cfg.sen.wellKeyed = true ∧ Cfg.alt.wellKeyed = true ∧ Cfg.plainFirst.wellKeyed = false := by
  decide +kernel

/-- the plans built for a list of carried types satisfy `R`, pairwise -/
inductive Kids {K : Type} (R : K → Plan K → Prop) : List (Plan K) → List (K × Bool) → Prop where
  | nil : Kids R [] []
  | cons {p : Plan K} {ke : K × Bool} {ps : List (Plan K)} {ks : List (K × Bool)} :
    R ke.1 p → Kids R ps ks → Kids R (p :: ps) (ke :: ks)

theorem Kids.of_mem {K : Type} {R : K → Plan K → Prop} {ps : List (Plan K)} {ks : List (K × Bool)} (h : Kids R ps ks) :
    ∀ p, p ∈ ps → ∃ k, R k p := by
  induction h with
  | nil => exact nofun
  | cons h1 _ ih =>
    intro p hp
    rcases List.mem_cons.1 hp with rfl | hp
    · exact ⟨_, h1⟩
    · exact ih p hp

/-- What makes `P flag key plan` an invariant of the plan caches: a node has the property when its
children have it for the carried types; `D fuel k` says that `fuel` suffices to build the plan of `k`
(out of fuel a plan without children is returned). -/
structure PlanInv {K : Type} (env : Env K) (P : Bool → K → Plan K → Prop) (D : Nat → K → Prop) : Prop where
  down : ∀ f k ke, D (f + 1) k → ke ∈ env.kids k → D f ke.1
  leaf : ∀ om k emb, D 0 k → P om k (.mk k om emb [])
  node : ∀ om k emb ps, Kids (P om) ps (env.kids k) → P om k (.mk k om emb ps)

/-- every node of a plan carries the flag of the map it is filed in -/
theorem allOm_inv {K : Type} (env : Env K) : PlanInv env (fun m _ p => AllOm m p) (fun _ _ => True) where
  down := fun _ _ _ _ _ => trivial
  leaf := fun _ k emb _ => .mk k emb [] nofun
  node := fun _ k emb ps hps => .mk k emb ps fun p hp => (hps.of_mem p hp).elim fun _ h => h

section
variable {K : Type} [DecidableEq K]

/-- every plan filed in map `m` under key `k` satisfies `P m k` -/
def CacheInv (P : Bool → K → Plan K → Prop) (c : Cache K) : Prop := ∀ m k p, c.get m k = some p → P m k p

theorem cacheInv_none (P : Bool → K → Plan K → Prop) : CacheInv P (Cache.none : Cache K) := by
  intro m k p h
  cases m <;> simp [Cache.get, Cache.none, assoc] at h

theorem assoc_cons (k k' : K) (p : Plan K) (l : List (K × Plan K)) :
    assoc k ((k', p) :: l) = if k' = k then some p else assoc k l := rfl

theorem cacheInv_put {P : Bool → K → Plan K → Prop} {c : Cache K} (hc : CacheInv P c) (m : Bool) (k : K) (p : Plan K)
    (hp : P m k p) : CacheInv P (c.put m k p) := by
  intro m' k' p' h
  cases m <;> cases m' <;> simp [Cache.put, Cache.get, assoc_cons] at h
  · by_cases hk : k = k'
    · simp [hk] at h; subst h; subst hk; exact hp
    · simp [hk] at h; exact hc false k' p' (by simpa [Cache.get] using h)
  · exact hc true k' p' (by simpa [Cache.get] using h)
  · exact hc false k' p' (by simpa [Cache.get] using h)
  · by_cases hk : k = k'
    · simp [hk] at h; subst h; subst hk; exact hp
    · simp [hk] at h; exact hc true k' p' (by simpa [Cache.get] using h)

theorem firstHit_inv {P : Bool → K → Plan K → Prop} {c : Cache K} (hc : CacheInv P c) (k : K) (om : Bool) :
    ∀ (lk : List Bool), (∀ m, m ∈ lk → m = om) → ∀ p, firstHit c k lk = some p → P om k p
  | [], _, p, h => by simp [firstHit] at h
  | m :: ms, hl, p, h => by
    unfold firstHit at h
    cases hg : c.get m k with
    | some q =>
      rw [hg] at h
      simp at h
      subst h
      have : m = om := hl m (by simp)
      subst this
      exact hc m k q hg
    | none =>
      rw [hg] at h
      exact firstHit_inv hc k om ms (fun m' hm' => hl m' (by simp [hm'])) p h

/-- a lookup function that, on the keys of `D`, returns plans with the property and keeps the invariant -/
def GoodGet (P : Bool → K → Plan K → Prop) (om : Bool) (D : K → Prop) (get : Cache K → K → Bool → Plan K × Cache K) : Prop :=
  ∀ c k emb, D k → CacheInv P c → P om k (get c k emb).1 ∧ CacheInv P (get c k emb).2

theorem buildKids_good {P : Bool → K → Plan K → Prop} {om : Bool} {D : K → Prop}
    {get : Cache K → K → Bool → Plan K × Cache K} (hg : GoodGet P om D get) :
    ∀ (ks : List (K × Bool)) (c : Cache K), (∀ ke, ke ∈ ks → D ke.1) → CacheInv P c →
      Kids (P om) (buildKids get c ks).1 ks ∧ CacheInv P (buildKids get c ks).2
  | [], _, _, hc => ⟨.nil, hc⟩
  | ke :: r, c, hk, hc =>
    have h1 := hg c ke.1 ke.2 (hk ke List.mem_cons_self) hc
    have h2 := buildKids_good hg r (get c ke.1 ke.2).2 (fun x hx => hk x (List.mem_cons_of_mem _ hx)) h1.2
    ⟨.cons h1.1 h2.1, h2.2⟩

theorem wellKeyed_spec {cfg : Cfg} (h : cfg.wellKeyed = true) (om : Bool) :
    (∀ m, m ∈ cfg.nestLookups om → m = om) ∧ (∀ m, m ∈ cfg.topLookups om → m = om) ∧ cfg.store om = om := by
  unfold Cfg.wellKeyed at h
  simp only [List.all_cons, List.all_nil, Bool.and_true, Bool.and_eq_true, List.all_eq_true, beq_iff_eq] at h
  cases om
  · exact ⟨h.1.1.1, h.1.1.2, h.1.2⟩
  · exact ⟨h.2.1.1, h.2.1.2, h.2.2⟩

variable {cfg : Cfg} (h : cfg.wellKeyed = true) {env : Env K} {P : Bool → K → Plan K → Prop} {D : Nat → K → Prop}
  (hI : PlanInv env P D)
include h hI

/-- `buildStruct` on a miss: the plan built from the nested lookups, and the maps once it is stored -/
theorem build_good (om : Bool) (f : Nat) {get : Cache K → K → Bool → Plan K × Cache K} (hg : GoodGet P om (D f) get)
    (c : Cache K) (k : K) (emb : Bool) (hk : ∀ ke, ke ∈ env.kids k → D f ke.1) (hc : CacheInv P c) :
    P om k (.mk k om emb (buildKids get c (env.kids k)).1) ∧
      CacheInv P ((buildKids get c (env.kids k)).2.put (cfg.store om) k (.mk k om emb (buildKids get c (env.kids k)).1)) := by
  have hk := buildKids_good hg (env.kids k) c hk hc
  have hp := hI.node om k emb _ hk.1
  rw [(wellKeyed_spec h om).2.2]
  exact ⟨hp, cacheInv_put hk.2 om k _ hp⟩

theorem getNested_good (om : Bool) : ∀ fuel, GoodGet P om (D fuel) (getNested cfg env fuel om)
  | 0 => fun c k emb hk hc => ⟨hI.leaf om k emb hk, hc⟩
  | f + 1 => by
    intro c k emb hk hc
    unfold getNested
    cases hf : firstHit c k (cfg.nestLookups om) with
    | some p => exact ⟨firstHit_inv hc k om _ (wellKeyed_spec h om).1 p hf, hc⟩
    | none => exact build_good h hI om f (getNested_good om f) c k emb (fun ke hke => hI.down f k ke hk hke) hc

theorem getTop_good (fuel : Nat) (c : Cache K) (hc : CacheInv P c) (k : K) (hk : ∀ ke, ke ∈ env.kids k → D fuel ke.1)
    (om : Bool) : P om k (getTop cfg env fuel c k om).1 ∧ CacheInv P (getTop cfg env fuel c k om).2 := by
  unfold getTop
  cases hf : firstHit c k (cfg.topLookups om) with
  | some p => exact ⟨firstHit_inv hc k om _ (wellKeyed_spec h om).2.1 p hf, hc⟩
  | none => exact build_good h hI om fuel (getNested_good h hI om fuel) c k false hk hc

theorem run_inv (fuel : Nat) (hk : ∀ k ke, ke ∈ env.kids k → D fuel ke.1) :
    ∀ (hist : List (K × Bool)) (c : Cache K), CacheInv P c → CacheInv P (run cfg env fuel hist c)
  | [], _, hc => hc
  | ko :: r, c, hc => run_inv fuel hk r _ (getTop_good h hI fuel c hc ko.1 (hk ko.1) ko.2).2

omit h hI

/-- HISTORY INDEPENDENCE of the omit selection. For every well-keyed cache protocol, every type graph,
fuel, and every history of encoder lookups `(type, OmitEmpty)` made before in the process, the plan
tree the lookup `(k, om)` returns carries the flag `om` at every node: the value of `k` and every
struct value nested in it is written under the caller's `OmitEmpty`. -/
theorem cache_history_independent {cfg : Cfg} (h : cfg.wellKeyed = true) (env : Env K) (fuel : Nat)
    (hist : List (K × Bool)) (k : K) (om : Bool) :
    AllOm om (getTop cfg env fuel (run cfg env fuel hist Cache.none) k om).1 :=
  (getTop_good h (allOm_inv env) fuel _ (run_inv h (allOm_inv env) fuel (fun _ _ _ => trivial) hist _ (cacheInv_none _)) k
    (fun _ _ => trivial) om).1

/-- the protocols read from the source of oj, sen and alt are well keyed (`cache_cfg_current`) -/
theorem cache_history_independent_current (env : Env K) (fuel : Nat) (hist : List (K × Bool)) (k : K) (om : Bool) :
    AllOm om (getTop Cfg.oj env fuel (run Cfg.oj env fuel hist Cache.none) k om).1 ∧
    AllOm om (getTop Cfg.sen env fuel (run Cfg.sen env fuel hist Cache.none) k om).1 ∧
    AllOm om (getTop Cfg.alt env fuel (run Cfg.alt env fuel hist Cache.none) k om).1 :=
  ⟨cache_history_independent cache_cfg_current.1 env fuel hist k om,
   cache_history_independent cache_cfg_current.2.1 env fuel hist k om,
   cache_history_independent cache_cfg_current.2.2.1 env fuel hist k om⟩

end

/-- two struct types: 1 (`Mid`) has a field of struct type 0 (`In`) -/
def twoTypes : Env Nat := ⟨fun k => if k = 1 then [(0, true)] else []⟩

/-- the hypothesis of `cache_history_independent` is satisfiable and not vacuous: a well-keyed
protocol, a history, and the plan it returns -/
example : Cfg.oj.wellKeyed = true ∧
    allOmB true 3 (getTop Cfg.oj twoTypes 3 (run Cfg.oj twoTypes 3 [(0, false), (1, false)] Cache.none) 1 true).1 = true := by
  decide +kernel

/-- The seeded protocol is history dependent: after `In` was encoded without `OmitEmpty`, the plan
of `Mid` under `OmitEmpty` holds the plain plan of `In` (flag `false`); as a first call it is all-`true`. -/
theorem cache_plain_first_history_dependent :
    allOmB true 3 (getTop Cfg.plainFirst twoTypes 3 (run Cfg.plainFirst twoTypes 3 [(0, false)] Cache.none) 1 true).1 = false ∧
    allOmB true 3 (getTop Cfg.plainFirst twoTypes 3 Cache.none 1 true).1 = true := by
  decide +kernel

mutual
  /-- forget the `embedded` flags (they select offset- or index-based access to the same field) -/
  def eraseEmb {K : Type} : Plan K → Plan K
    | .mk k om _ ps => .mk k om false (eraseEmbList ps)
  def eraseEmbList {K : Type} : List (Plan K) → List (Plan K)
    | [] => []
    | p :: r => eraseEmb p :: eraseEmbList r
end

section
variable {K : Type}

/-- the plan tree of `k` under flag `om` as a function of the type graph alone -/
def ideal (env : Env K) : Nat → Bool → K → Plan K
  | 0, om, k => .mk k om false []
  | f + 1, om, k => .mk k om false ((env.kids k).map fun ke => ideal env f om ke.1)

/-- the type graph is acyclic: a carried struct type has a smaller rank -/
def Ranked (env : Env K) (rank : K → Nat) : Prop := ∀ k ke, ke ∈ env.kids k → rank ke.1 < rank k

theorem ideal_stable {env : Env K} {rank : K → Nat} (hr : Ranked env rank) (om : Bool) :
    ∀ (f f' : Nat) (k : K), rank k < f → rank k < f' → ideal env f om k = ideal env f' om k := by
  intro f
  induction f with
  | zero => intro f' k h; exact absurd h (Nat.not_lt_zero _)
  | succ n ih =>
    intro f' k h h'
    cases f' with
    | zero => exact absurd h' (Nat.not_lt_zero _)
    | succ m =>
      simp only [ideal]
      congr 1
      apply List.map_congr_left
      intro ke hke
      have := hr k ke hke
      exact ih m ke.1 (by omega) (by omega)

/-- `ideal` without the fuel: on a ranked graph any fuel above `rank k` gives the same tree (`ideal_stable`) -/
def idealR (env : Env K) (rank : K → Nat) (om : Bool) (k : K) : Plan K := ideal env (rank k + 1) om k

theorem idealR_unfold {env : Env K} {rank : K → Nat} (hr : Ranked env rank) (om : Bool) (k : K) :
    idealR env rank om k = .mk k om false ((env.kids k).map fun ke => idealR env rank om ke.1) := by
  show Plan.mk k om false ((env.kids k).map fun ke => ideal env (rank k) om ke.1) = _
  congr 1
  apply List.map_congr_left
  intro ke hke
  have := hr k ke hke
  exact ideal_stable hr om (rank k) (rank ke.1 + 1) ke.1 (by omega) (by omega)

/-- every plan filed under `(k, m)` is, up to the embedded flags, THE plan of `(k, m)`; fuel above the
rank of a type suffices to build it -/
theorem ideal_inv {env : Env K} {rank : K → Nat} (hr : Ranked env rank) :
    PlanInv env (fun m k p => eraseEmb p = idealR env rank m k) (fun f k => rank k < f) where
  down := fun f k ke hk hke => by have := hr k ke hke; omega
  leaf := fun _ _ _ hk => absurd hk (Nat.not_lt_zero _)
  node := fun om k emb ps hps => by
    rw [idealR_unfold hr om k, eraseEmb]
    congr 1
    generalize env.kids k = ks at hps
    induction hps with
    | nil => rfl
    | cons h1 _ ih => simp only [eraseEmbList, List.map_cons, h1, ih]

variable [DecidableEq K]

/-- HISTORY INDEPENDENCE, whole plan: for every well-keyed protocol and every acyclic type graph
(ranks bounded by the fuel), the plan tree the lookup `(k, om)` returns after ANY history of earlier
lookups is — up to the embedded flags — the plan tree it returns as the very first lookup of the
process: a function of the type and the flag alone. -/
theorem cache_history_independent_full {cfg : Cfg} (h : cfg.wellKeyed = true) {env : Env K} {rank : K → Nat}
    (hr : Ranked env rank) (fuel : Nat) (hb : ∀ k, rank k ≤ fuel) (hist : List (K × Bool)) (k : K) (om : Bool) :
    eraseEmb (getTop cfg env fuel (run cfg env fuel hist Cache.none) k om).1 =
      eraseEmb (getTop cfg env fuel Cache.none k om).1 := by
  have hk : ∀ k ke, ke ∈ env.kids k → rank ke.1 < fuel := fun k ke hke => Nat.lt_of_lt_of_le (hr k ke hke) (hb k)
  rw [(getTop_good h (ideal_inv hr) fuel _ (run_inv h (ideal_inv hr) fuel hk hist _ (cacheInv_none _)) k (hk k) om).1,
    (getTop_good h (ideal_inv hr) fuel _ (cacheInv_none _) k (hk k) om).1]

end

/-- `cache_history_independent_full` at the three protocols read from the source (`cache_cfg_current`) -/
theorem cache_history_independent_full_current {K : Type} [DecidableEq K] {env : Env K} {rank : K → Nat}
    (hr : Ranked env rank) (fuel : Nat) (hb : ∀ k, rank k ≤ fuel) (hist : List (K × Bool)) (k : K) (om : Bool) :
    (eraseEmb (getTop Cfg.oj env fuel (run Cfg.oj env fuel hist Cache.none) k om).1 =
      eraseEmb (getTop Cfg.oj env fuel Cache.none k om).1) ∧
    (eraseEmb (getTop Cfg.sen env fuel (run Cfg.sen env fuel hist Cache.none) k om).1 =
      eraseEmb (getTop Cfg.sen env fuel Cache.none k om).1) ∧
    (eraseEmb (getTop Cfg.alt env fuel (run Cfg.alt env fuel hist Cache.none) k om).1 =
      eraseEmb (getTop Cfg.alt env fuel Cache.none k om).1) :=
  ⟨cache_history_independent_full cache_cfg_current.1 hr fuel hb hist k om,
   cache_history_independent_full cache_cfg_current.2.1 hr fuel hb hist k om,
   cache_history_independent_full cache_cfg_current.2.2.1 hr fuel hb hist k om⟩

/-- the hypotheses are satisfiable: the two-type graph is ranked, with ranks bounded by 1 -/
example : Ranked twoTypes (fun k => if k = 1 then 1 else 0) ∧ ∀ k : Nat, (fun k => if k = 1 then 1 else 0) k ≤ 1 := by
  constructor
  · intro k ke hke
    by_cases h : k = 1
    · subst h
      simp [twoTypes] at hke
      subst hke
      simp
    · simp [twoTypes, h] at hke
  · intro k
    by_cases h : k = 1 <;> simp [h]

end OjgVerif.C15
