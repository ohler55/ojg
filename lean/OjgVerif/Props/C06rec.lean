import OjgVerif.Props.C16
import OjgVerif.Reflect.UnwrapWalk
/-! # C06rec — Unmarshal and Recompose into user types: no fault escapes (sub-check of C06)

What is DECIDED BY THE RUN (`harness/cmd/reflect/run06.go`): that the Go entry points — `oj.Unmarshal`,
`oj.Parser.Unmarshal`, `sen.Unmarshal`, `alt.Recompose`, `alt.Recomposer.Recompose`/`MustRecompose`,
`alt.NewRecomposer` — return on arbitrary data for arbitrary target types, that no panic leaves a
non-Must entry point, and which failures are recovered runtime faults handed out as the error.
Termination and fault freedom of the Go code are NOT proved.

The level of this sub-check is EXPLORATION. The theorems below are about the MODEL's registry (Go types
as finite trees, no user composer functions) — they say that the model has no panic case left in
registration, not that the Go code terminates or is free of faults:

`registration_never_faults`: `registerT` reports no panic. In the model that holds from EVERY registry, whatever its
history: `registerCore` reports a panic only when `indexType` answers `none`, which it does for no struct type (its
branch `⟨r, none, true⟩` is dead), or when the field walk, a `registerT` with less fuel, reported one
(`Reflect.registerT_quiet`); the theorem is its instance at a registry with a history.
`failure_is_history_independent` is C16's history clause read for failures. The `…_in_source` theorems state
regenerated facts about the guards /repo 25154ae, fd0bfc5 and 041b92d
put in (each fails on the source before its commit); the types those guards are for — a struct that embeds
itself through a pointer, `type Tree map[string]Tree` — are not values of `GoType`, so for the last of them
`Reflect/UnwrapWalk.lean` models the loop over a type GRAPH (`unwrap_walk_terminates`,
`unwrap_walk_unguarded_spins`); that the Go loop is that walk is tied by the source fact and the run (a
stream of such types under the watchdog).

The model is total by construction (Lean functions, fuel-bounded): every model run ends in a value, a
`panic` (a Go panic, recovered by `Recompose` into its error) or `outside`; it does not tell an error
of the library's own from a recovered reflect fault — that distinction is the run's. -/
namespace OjgVerif.C06rec
open OjgVerif.Reflect

/-- in the model of the code as it is, registering ANY type on a recomposer with ANY history does not panic
(since /repo b19f06c `indexType` has a case for every embedded field) — for Go types that are finite trees: a
type that EMBEDS ITSELF through a pointer is not a value of `GoType`; there the Go code recursed for ever
until /repo 25154ae (finding `C06rec-self-embedding`, `self_embedding_guarded_in_source`) -/
theorem registration_never_faults (ck : Bytes) (h : List Event) (f : Nat) (t : GoType) :
    (registerT true f (regAfter false ck h) t).panicked = false :=
  registerT_quiet true f _ t

theorem index_total (n p : Bytes) (fs : List (FieldHdr × GoType)) :
    ∃ im, indexType fuelI (.struct n p fs) = some im :=
  ⟨_, rfl⟩

/-- the outcome of a recomposition — in particular whether it fails — does not depend on the history,
for types without interface slots -/
theorem failure_is_history_independent (ck : Bytes) (h₁ h₂ : List Event) (t : GoType) (hn : noIface t = true) (j : JV) :
    recompose false ck (regAfter false ck h₁) t j = recompose false ck (regAfter false ck h₂) t j :=
  C16.C16_history_partial ck h₁ h₂ t hn j

/-- the entry points that promise an error result carry the deferred recover -/
theorem entry_points_recover :
    Gen.Reflect.altRecomposeRecovers = true ∧ Gen.Reflect.altNewRecomposerRecovers = true := by
  decide +kernel

/-- the source as it is (since /repo 25154ae): the field index builder remembers the embedded types it
is inside of and does not enter one again — a type that embeds (a pointer to) itself no longer makes
it recurse for ever (`C06rec-self-embedding`, fixed). On the source before 25154ae the regenerated
fact is `false` and this theorem fails (there `indexType` called itself for every embedded type). -/
theorem self_embedding_guarded_in_source : Gen.Reflect.altIndexTypeGuardsCycles = true := by
  decide +kernel

/-- the source as it is (since /repo fd0bfc5): `registerAnyComposer` builds a new composer unless the one
filed under the name was made for this very type, like `registerComposer` since 6d5fecb
(`C06rec-any-composer-unguarded`, fixed). On the source before fd0bfc5 the regenerated condition is
`"c == nil"` and this theorem fails. -/
theorem any_composer_guarded_in_source :
    Gen.Reflect.altRegisterAnyNewCond = "c == nil || c.rtype != rt" ∧
    Gen.Reflect.altRegisterAnyNewCond = Gen.Reflect.altRegisterNewCond := by
  decide +kernel

/-- the source as it is (since /repo 041b92d): inside the labelled unwrap loop of `registerComposer`, before
`ft = ft.Elem()`, an `if ft.Name() != ""` ranges over the list of named container types met so far,
leaves the loop on a hit and appends the type otherwise (`C06-recompose-selfcontaining-container`,
fixed). On the source before 041b92d the regenerated fact is `false` and this theorem fails (there the
loop followed `Elem()` of `type Tree map[string]Tree` for ever). -/
theorem selfcontaining_container_guarded_in_source :
    Gen.Reflect.altRegisterWalkSeenGuard = true ∧ Gen.Reflect.altRegisterWalkUnwrapsAll = true := by
  decide +kernel

/-- the unwrap loop with the seen-list (the code since 041b92d) terminates on EVERY table of named types
and every start type, self-containing container types included -/
theorem unwrap_walk_terminates (tbl : Walk.Table) (ft : Walk.WT) :
    (Walk.walk true tbl ((tbl.length + 1) * (Walk.maxBody tbl + 2) + Walk.size ft + 1) ft []).isSome = true :=
  Walk.walk_terminates tbl ft

/-- the loop without it (the code before 041b92d) runs out of ANY fuel on `type Tree map[string]Tree` -/
theorem unwrap_walk_unguarded_spins (f : Nat) : Walk.walk false Walk.treeTbl f (.named 0) [] = none :=
  Walk.walk_unguarded_spins f []

end OjgVerif.C06rec
