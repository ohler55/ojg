import OjgVerif.JPath.LemmasRfc
/-! # C05 — Expr.Get returns exactly the elements the path denotes

* `getM` is a hand-written model of `Expr.Get` (jp/get.go): a work-list machine with separate last-fragment and
  inner branches, reverse pushes, the truncated-division slice arithmetic, `maxEnd` from the regenerated `Gen.Jp`
  (the flags of a frame are Booleans; the flag masks of `Gen.Jp` are only checked for their shape, `masks_ok`). It is
  tied to the Go code by the correspondence run, not by a proof.
* **Filters are an abstract predicate** `p : JV → Bool` inside `Frag.filter p`: the theorems hold for every
  predicate and say nothing about what a script means. What a script means is `JPath/FilterSpec.lean` (the
  documented script semantics, evaluated in Lean: exact int/float comparison, a bare path is an existence
  test, `$` is the query argument wherever it stands); that Get keeps exactly the elements on which the script
  is true in that sense is decided by the run (harness + driver), not by a theorem here. (Before 22c4424 there
  was one place where it did not: a `$` inside a filter nested in a script's own path, repaired finding
  C05-nested-filter-root; the old and the documented reading are the last example of FilterSpec.lean.)
* Two denotations: `evalRfc` — the **documented** semantics (slices per RFC 9535 §2.3.4.2, transcribed in
  `Spec.lean` from the RFC) — and `eval`, the reading the code implements, which differs from it only for
  slices with a negative step outside `sliceIdx_eq_rfc_neg` (absent start or end, start outside `-n ≤ · < n`). -/
namespace OjgVerif.C05
open OjgVerif.JPath

/-- the flag bits sit above the fragment-index mask and are distinct; `maxEnd` is positive -/
theorem masks_ok :
    Gen.Jp.descentFlag_int = Gen.Jp.fragIndexMask_int + 1 ∧
    Gen.Jp.descentChildFlag_int = 2 * Gen.Jp.descentFlag_int ∧
    0 < Gen.Jp.maxEnd_int := by decide

/-- the Get machine computes the shared skeleton over Get's selection functions (values): every path, every tree,
every configuration; `Get.cost` bounds the rounds (`run_eq_denV`), so the fuel `getM` runs with is enough -/
theorem machine_eq_skeleton (cfg : Cfg) (rep : Rep)
    (hcut : (cfg.typedMapWild && decide (rep.ok = OKind.rmap)) = false) (x : List Frag) (d : JV) :
    getM cfg rep x d = (getS cfg rep x d).map (·.2) := by
  cases x with
  | nil => simp [getM, getS, evalSel]
  | cons f r =>
    simp only [getM, getS]
    rw [run_eq_denV _ _ _ f r d _ (Nat.le_succ _)]
    exact denV_eq_evalSel _ (Get.sel cfg rep) _ _ (Or.inr rfl) (fun v => by simp [Get.sel, Get.push, hcut])
      (fun _ _ _ => rfl) (fun f v _ => by simp [Get.pushV, Get.sel]) (f :: r) d
      (Or.inr fun u => by simp [Get.sel, Get.last, lastDesc, lastBelowV])

/-- **C05**, parametric in the deviation flags -/
theorem C05_general (cfg : Cfg) (x : List Frag) (d : JV)
    (hs : cfg.descentSiblings = false ∨ noDescAfter x = true)
    (he : cfg.innerEmptySlice = false ∨ x.dropLast.all narrow = true)
    (ht : endsInDescent x = false) (hz : (jsize d : Int) ≤ maxEnd) :
    getM cfg Rep.simple x d = evalV x d := by
  rw [machine_eq_skeleton cfg Rep.simple (simple_not_cut cfg), getS, getS_eq_eval cfg x d hs he ht hz, evalV]

/-- the locations too: the skeleton over Get's selection functions is the denotation -/
theorem C05_located (cfg : Cfg) (x : List Frag) (d : JV)
    (hs : cfg.descentSiblings = false ∨ noDescAfter x = true)
    (he : cfg.innerEmptySlice = false ∨ x.dropLast.all narrow = true)
    (ht : endsInDescent x = false) (hz : (jsize d : Int) ≤ maxEnd) :
    getS cfg Rep.simple x d = eval x d :=
  getS_eq_eval cfg x d hs he ht hz

/-- **C05 for the code as it is now**: Get returns exactly the elements the path denotes, in the same order,
for every path that does not end in a bare descent and every tree of at most `maxEnd` nodes -/
theorem C05_current (x : List Frag) (d : JV) (ht : endsInDescent x = false) (hz : (jsize d : Int) ≤ maxEnd) :
    getM Cfg.pinned Rep.simple x d = evalV x d :=
  C05_general Cfg.pinned x d (Or.inl rfl) (Or.inl rfl) ht hz

/-- with locations: `getS` is Get through the traversal skeleton (the machine returns its values,
`machine_eq_skeleton`; Go's Get reports no locations), and it gives every element the location the denotation gives -/
theorem C05_current_located (x : List Frag) (d : JV) (ht : endsInDescent x = false)
    (hz : (jsize d : Int) ≤ maxEnd) : getS Cfg.pinned Rep.simple x d = eval x d :=
  C05_located Cfg.pinned x d (Or.inl rfl) (Or.inl rfl) ht hz

/-- **C05 for the code as it is now, against the documented semantics** (RFC 9535 slices): every path
without a negative-step slice that does not end in a bare descent, every tree of at most `maxEnd` nodes -/
theorem C05_current_rfc (x : List Frag) (d : JV) (hp : x.all posStep = true)
    (ht : endsInDescent x = false) (hz : (jsize d : Int) ≤ maxEnd) :
    getM Cfg.pinned Rep.simple x d = evalVRfc x d := by
  rw [C05_current x d ht hz, evalV, evalVRfc, evalRfc_eq_eval x d hp]

/-- non-trivial instance of the hypotheses: `$..a[1:-1:2][?]` (a filter, a descent, a stepped slice) -/
example : [Frag.descent, .child [97], .slice (some 1) (some (-1)) (some 2), .filter (fun _ => true)].all posStep = true ∧
    endsInDescent [Frag.descent, .child [97], .slice (some 1) (some (-1)) (some 2), .filter (fun _ => true)] = false := by
  decide

/-- the slice indexes of the code's reading are the RFC's: for every positive step; for a negative step when
start and end are written and `-n ≤ start < n` -/
theorem C05_slice_step (n : Nat) (s e t : Option Int) :
    (0 < t.getD 1 → sliceIdx n s e t = rfcSliceIdx n s e t) ∧
    (∀ s0 e0, s = some s0 → e = some e0 → t.getD 1 < 0 → -(n : Int) ≤ s0 → s0 < n →
      sliceIdx n s e t = rfcSliceIdx n s e t) :=
  ⟨sliceIdx_eq_rfc_pos n s e t, fun s0 e0 hs he ht hlo hhi => by subst hs he; exact sliceIdx_eq_rfc_neg n s0 e0 t ht hlo hhi⟩

/-- `$[::-1]` on `[1,2,3]`: the documented semantics reverses the array, Get returns nothing; `$[5:0:-1]`:
documented `[3,2]`, Get nothing (known finding C05-slice-negative-step) -/
theorem witness_negative_step :
    (getM Cfg.pinned Rep.simple [.slice none none (some (-1))] (.arr [.int 1, .int 2, .int 3])).length = 0 ∧
    (evalVRfc [.slice none none (some (-1))] (.arr [.int 1, .int 2, .int 3])).length = 3 ∧
    (getM Cfg.pinned Rep.simple [.slice (some 5) (some 0) (some (-1))] (.arr [.int 1, .int 2, .int 3])).length = 0 ∧
    (evalVRfc [.slice (some 5) (some 0) (some (-1))] (.arr [.int 1, .int 2, .int 3])).length = 2 := by decide

/-- the target once every recorded deviation is repaired (`Cfg.fixed`); for Get on plain data the statement is that
of `C05_current`: the flags still on in `Cfg.pinned` belong to Locate and to FirstFound/Has on typed data -/
theorem C05_fixed (x : List Frag) (d : JV) (ht : endsInDescent x = false) (hz : (jsize d : Int) ≤ maxEnd) :
    getM Cfg.fixed Rep.simple x d = evalV x d :=
  C05_general Cfg.fixed x d (Or.inl rfl) (Or.inl rfl) ht hz

/-- the code before baff053 and 0e0caaf, outside the two deviation classes -/
theorem C05_original_partial (x : List Frag) (d : JV)
    (hs : noDescAfter x = true) (he : x.dropLast.all narrow = true)
    (ht : endsInDescent x = false) (hz : (jsize d : Int) ≤ maxEnd) :
    getM Cfg.original Rep.simple x d = evalV x d :=
  C05_general Cfg.original x d (Or.inr hs) (Or.inr he) ht hz

/-- the statement at full strength (trees of at most `maxEnd` nodes, every path) -/
def C05_full : Prop :=
  ∀ (x : List Frag) (d : JV), (jsize d : Int) ≤ maxEnd → getM Cfg.pinned Rep.simple x d = evalV x d

/-- `$[3:2:5].x` on `[0,1,2,{"x":1},4]` -/
def w1path : List Frag := [.slice (some 3) (some 2) (some 5), .child [120]]
def w1data : JV := .arr [.int 0, .int 1, .int 2, .obj [([120], .int 1)], .int 4]
/-- `$[*]..a` on `[[1],[{"a":5}]]` -/
def w2path : List Frag := [.wild, .descent, .child [97]]
def w2data : JV := .arr [.arr [.int 1], .arr [.obj [([97], .int 5)]]]
/-- `$[0]..` on `[5]` -/
def w3path : List Frag := [.nth 0, .descent]
def w3data : JV := .arr [.int 5]

/-- before 0e0caaf: an empty slice range with |step| > 1 selected one element in an inner position;
now it selects none -/
theorem witness_inner_slice :
    (getM Cfg.original Rep.simple w1path w1data).length = 1 ∧ (evalV w1path w1data).length = 0 ∧
    (getM Cfg.pinned Rep.simple w1path w1data).length = 0 := by decide

/-- before baff053: a descent after a fragment that hands on several containers descended into the first
only; now into all -/
theorem witness_siblings :
    (getM Cfg.original Rep.simple w2path w2data).length = 0 ∧ (evalV w2path w2data).length = 1 ∧
    (getM Cfg.pinned Rep.simple w2path w2data).length = 1 := by decide

/-- still so: a non-container selected before a trailing bare descent is not reported -/
theorem witness_trailing_descent :
    (getM Cfg.pinned Rep.simple w3path w3data).length = 0 ∧ (evalV w3path w3data).length = 1 := by decide

/-- without the restriction on the last fragment the statement is false (known finding C05-trailing-descent-leaf) -/
theorem C05_full_false : ¬ C05_full := by
  intro h
  have h1 := h w3path w3data (by decide)
  have h2 := witness_trailing_descent
  rw [h1] at h2
  omega

/-- non-trivial instance of the hypotheses of `C05_original_partial` (and of `C05_current`): `$..a[1:3][-1]` -/
example : noDescAfter [.descent, .child [97], .slice (some 1) (some 3) none, .nth (-1)] = true ∧
    [Frag.descent, .child [97], .slice (some 1) (some 3) none, .nth (-1)].dropLast.all narrow = true ∧
    endsInDescent [.descent, .child [97], .slice (some 1) (some 3) none, .nth (-1)] = false := by decide

/-- **a fragment selects the same elements whether it is last or in the middle of the path**: what an
inner branch pushes, popped, is what the last branch appends — all of it for a filter, the containers
among it for every other fragment (nothing else can be continued) -/
theorem C05_position (cfg : Cfg) (f : Frag) (v : JV) (hf : isDescent f = false)
    (hok : cfg.innerEmptySlice = false ∨ narrow f = true)
    (hlen : ∀ xs, v = .arr xs → (xs.length : Int) ≤ maxEnd) :
    (Get.push cfg Rep.simple f v).reverse =
      if isFilter f then Get.last cfg Rep.simple f v else contOnly (Get.last cfg Rep.simple f v) := by
  rw [inner_eq cfg f v hf hok hlen, last_eq_sel cfg f v hf hlen]

/-- for the descent: the nodes an inner descent continues on are the containers among what the descent denotes
(`Spec.desc`), or the node alone when it is not a container. (What Get's last branch reports, `lastDesc`, is not
compared with `desc` anywhere: paths ending in a bare descent are outside C05.) -/
theorem C05_position_descent (v : JV) :
    nodesInner v = if isContainer v then contOnly (desc v) else desc v := nodesInner_eq v

/-- **no index fault**: every index the slice code of get.go visits in the last position is an index of
the array (`tv[i]` cannot panic). The inner position visits the same indexes where `innerIdx_rev` applies
(`innerEmptySlice` off, or a step of -1 or 1); for the deviation with a wider step nothing is proved here -/
theorem C05_no_index_fault (n : Nat) (s e t : Option Int) :
    ∀ i ∈ modelIdx true n s e t, 0 ≤ i ∧ i < (n : Int) :=
  modelIdx_range true n s e t

end OjgVerif.C05
