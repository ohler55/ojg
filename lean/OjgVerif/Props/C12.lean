import OjgVerif.Script.LemmasClean
import OjgVerif.Gen.Script
/-! # C12 — filter scripts are total and follow typed comparison semantics

Everything here is about the MODEL (`OjgVerif.Script.Model`, one Lean branch per Go `case` of
jp/script.go) and the SPECIFICATION (`OjgVerif.Script.Spec`); the model is tied to the Go code by the
correspondence run of harness/cmd/script and, for the operator table, by `opTable_ok` over the
regenerated `Gen.Script`.

`Dev.pinned` is the tree as first pinned. It violated the property in four operator-level ways and one
script-level way (C12-uncomparable-panic, repaired by 0a3fd2c; C12-neq-float, repaired by 21415f8;
C12-int-via-float64, repaired by 24fcf54; C12-iface-field-panic, repaired by 6d0c31a; C12-bare-path, repaired by
fe63c88 and 6b93c2a); for each the full-strength
statement is kept as a `def …_full : Prop`, refuted by a concrete witness ("before <commit>" where the
defect is repaired), and proved in `_partial` form outside a named predicate. Statements with a `Dev`
hypothesis (`d.uncmp = false` …) are about the code with the corresponding fix applied; the `…_current`
theorems state the strongest results for `Dev.current`, the code with every one of these repairs. -/
namespace OjgVerif.C12
open OjgVerif.Script

/-- an engine for witnesses: no pattern compiles -/
def rx0 : RxEngine := fun _ _ => none

def allOps : List Op :=
  [.eq, .neq, .lt, .gt, .lte, .gte, .or, .and, .not, .add, .sub, .mult, .divide,
   .in, .empty, .rx, .has, .exists, .length, .count, .match, .search, .group]

/-- name of the Go variable holding the operator -/
def goIdent : Op → String
  | .eq => "eq" | .neq => "neq" | .lt => "lt" | .gt => "gt" | .lte => "lte" | .gte => "gte"
  | .or => "or" | .and => "and" | .not => "not" | .add => "add" | .sub => "sub" | .mult => "mult"
  | .divide => "divide" | .in => "in" | .empty => "empty" | .rx => "rx" | .has => "has"
  | .exists => "exists" | .length => "length" | .count => "count" | .match => "match"
  | .search => "search" | .group => "group"

/-- the labels of the `case` of evalStack's `switch o.code` that the model's branch for `o` transcribes -/
def goClause : Op → List String
  | .has => ["has", "exists"]
  | .exists => ["has", "exists"]
  | o => [goIdent o]

def rowOf (ident : String) : Option Gen.Script.OpRow := Gen.Script.ops.find? (·.ident == ident)

/-- Go's `switch o.code`: the first clause one of whose labels has that code -/
def dispatch (code : Nat) : Option (List String) :=
  Gen.Script.evalCases.find? fun labels => labels.any fun l => (rowOf l).any (·.code == code)

/-- for every operator of the model: the Go variable exists, has the model's operand count and
`getLeft` flag, and `switch o.code` sends its code to the clause the model's branch was written from
(so no two operators share a code, except the two spellings of the regex operator) -/
def opRowsOK : Bool :=
  allOps.all fun o =>
    match rowOf (goIdent o) with
    | none => false
    | some r => r.cnt == o.cnt && r.getLeft == o.getLeft && !r.getRight && dispatch r.code == some (goClause o)

/-- script spellings and precedences (what the parser's `opMap` resolves, what the harness prints):
"lower precedence is evaluated first" -/
def expectedNames : List (String × String × Nat) :=
  [("eq", "==", 3), ("neq", "!=", 3), ("lt", "<", 3), ("gt", ">", 3), ("lte", "<=", 3), ("gte", ">=", 3),
   ("or", "||", 4), ("and", "&&", 4), ("not", "!", 0), ("add", "+", 2), ("sub", "-", 2), ("mult", "*", 1),
   ("divide", "/", 1), ("get", "get", 0), ("in", "in", 3), ("empty", "empty", 3), ("rx", "~=", 3), ("rxa", "=~", 3),
   ("has", "has", 3), ("exists", "exists", 3), ("length", "length", 0), ("count", "count", 0),
   ("match", "match", 0), ("search", "search", 0), ("group", "(", 0)]

def namesOK : Bool := Gen.Script.ops.map (fun r => (r.ident, r.name, r.prec)) == expectedNames

/-- `opMap` maps every spelling to its own operator, `=~` to the `~=` operator -/
def opMapOK : Bool :=
  (Gen.Script.opMap.all fun e => e.2 == (if e.1 == "rxa" then "rx" else e.1) && e.1 != "get" && e.1 != "group")
    && (expectedNames.all fun e => e.1 == "get" || e.1 == "group" || Gen.Script.opMap.any (·.1 == e.1))

/-- the exported builder functions install the operator the harness assumes -/
def buildersOK : Bool :=
  Gen.Script.builders ==
    [("Get", "get"), ("Eq", "eq"), ("Neq", "neq"), ("Lt", "lt"), ("Gt", "gt"), ("Lte", "lte"), ("Gte", "gte"),
     ("Or", "or"), ("And", "and"), ("Not", "not"), ("Add", "add"), ("Sub", "sub"), ("Multiply", "mult"),
     ("Divide", "divide"), ("In", "in"), ("Empty", "empty"), ("Has", "has"), ("Exists", "exists"),
     ("Regex", "rx"), ("Length", "length"), ("Count", "count"), ("Match", "match"), ("Search", "search")]

/-- `buildScript` lays out one operand exactly for the operators with `cnt = 1` (and drops `get`) -/
def buildOK : Bool :=
  Gen.Script.buildCases.length == 2 && Gen.Script.buildCases[0]! == ["get"] &&
    allOps.all fun o => (Gen.Script.buildCases[1]!).contains (goIdent o) == (o.cnt == 1)

theorem opTable_ok : opRowsOK = true ∧ namesOK = true ∧ opMapOK = true ∧ buildersOK = true ∧ buildOK = true := by
  refine ⟨?_, ?_, ?_, ?_, ?_⟩ <;> decide +kernel

/-- a non-empty program never faults on an element unless one of the stacks the element loop evaluates does -/
theorem matchElem_total_of (d : Dev) (rx : RxEngine) (prog : List Item) (hne : prog ≠ []) (elem root : Val)
    (h : ∀ x ∈ prod (resolve elem root false prog), ∃ vs, evalStack d rx x = .ok vs) :
    ∃ b, matchElem d rx prog elem root = .ok b := by
  unfold matchElem
  split
  · split <;> exact ⟨_, rfl⟩
  exact ⟨_, matchResolved_any_of_ok d rx _ (resolve_ne_nil elem root prog hne) h⟩

/-- with the comparison repaired, evaluating ANY non-empty program (well-formed or not, any operand
kinds, any number of multi-valued operands) on any element never faults -/
theorem total_fixed (d : Dev) (h : d.uncmp = false) (h' : d.ifaceTrap = false) (rx : RxEngine) (prog : List Item) (hne : prog ≠ [])
    (elem root : Val) : ∃ b, matchElem d rx prog elem root = .ok b :=
  matchElem_total_of d rx prog hne elem root fun x _ => evalStack_total d h h' rx x

/-- the property's first clause for the unchanged code -/
def total_full : Prop :=
  ∀ (rx : RxEngine) (prog : List Item), prog ≠ [] → ∀ elem root, ∃ b, matchElem Dev.pinned rx prog elem root = .ok b

/-- before 0a3fd2c: `[1] == [1]` panics -/
theorem total_full_false : ¬ total_full := fun h => by
  obtain ⟨b, hb⟩ := h rx0 [.op .eq, .val (.arr [.int 1]), .val (.arr [.int 1])] (by simp) .null .null
  cases hb

/-- some operator application of the stack meets two slices or two maps (or two typed values of one
uncomparable kind) under `==`, `!=` or `in` and the code variant lets the left one through to Go `==`
(`Dev.faultFlag`: every left operand before 0a3fd2c; since then only a value whose TYPE is comparable) -/
def hitsUncomparable (d : Dev) (rx : RxEngine) : List SItem → Bool
  | [] => false
  | .val _ :: rest => hitsUncomparable d rx rest
  | .op o :: rest =>
    hitsUncomparable d rx rest ||
      (match evalStack d rx rest with
       | .ok t => d.faultFlag (t.getD 0 .null) && uncomparablePair o (t.getD 0 .null) (t.getD 1 .null)
       | .error _ => false)

/-- `evalStack` — of EVERY code variant — faults exactly on the
stacks that meet an uncomparable pair the variant does not guard -/
theorem evalStack_fault_iff (d : Dev) (rx : RxEngine) (st : List SItem) :
    (∃ f, evalStack d rx st = .error f) ↔ hitsUncomparable d rx st = true := by
  induction st with
  | nil => simp [evalStack, hitsUncomparable]
  | cons it rest ih =>
    cases it with
    | val v => rw [evalStack_val, hitsUncomparable, ← ih, map_error_iff]
    | op o =>
      rw [evalStack_op, hitsUncomparable, Bool.or_eq_true, ← ih]
      cases evalStack d rx rest with
      | error f => simp [Except.bind]
      | ok t => simp [Except.bind, map_error_iff, evalOp_error_iff]

theorem evalStack_ok_of_noHit (d : Dev) (rx : RxEngine) (st : List SItem) (h : hitsUncomparable d rx st = false) :
    ∃ vs, evalStack d rx st = .ok vs :=
  ok_of_not_error (by rw [evalStack_fault_iff, h]; simp)

/-- the unchanged code never faults on a stack that meets no uncomparable pair -/
theorem total_partial (rx : RxEngine) (st : List SItem) (h : hitsUncomparable Dev.pinned rx st = false) :
    ∃ vs, evalStack Dev.pinned rx st = .ok vs :=
  evalStack_ok_of_noHit Dev.pinned rx st h

/-- a non-trivial instance: `[1] == 1 || "a" < "b"` with containers present but never paired -/
example : hitsUncomparable Dev.pinned rx0
    [.op .or, .op .eq, .val (.arr [.int 1]), .val (.int 1), .op .lt, .val (.str [97]), .val (.str [98])] = false := by
  decide +kernel

/-- the operator level of `evalStack_fault_iff`: the family's `evalOp_error_iff` -/
theorem evalOp_fault_iff (d : Dev) (rx : RxEngine) (o : Op) (l r : Val) :
    (∃ f, evalOp d rx o l r = .error f) ↔ (d.faultFlag l = true ∧ uncomparablePair o l r = true) :=
  evalOp_error_iff d rx o l r

/-- with the comparison and `!=` repaired, for ALL operand kinds on both sides (containers and mismatched kinds
included) `==` and `!=` return complementary booleans -/
theorem eq_neq_complement (d : Dev) (hu : d.uncmp = false) (ht : d.ifaceTrap = false) (hq : d.neqFlt = false) (rx : RxEngine) (l r : Val) :
    ∃ b, evalOp d rx .eq l r = .ok (.bool b) ∧ evalOp d rx .neq l r = .ok (.bool (!b)) := by
  obtain ⟨e, he⟩ := ifaceEq_ok d hu ht l r
  exact eq_neq_complement_of d rx l r e he (fun h => by rw [hq] at h; cases h)

def eq_neq_complement_full : Prop :=
  ∀ (rx : RxEngine) (l r : Val), ∃ b, evalOp Dev.pinned rx .eq l r = .ok (.bool b) ∧ evalOp Dev.pinned rx .neq l r = .ok (.bool (!b))

/-- before 21415f8: `1.5 == 2.5` and `1.5 != 2.5` are both false -/
theorem eq_neq_complement_full_false : ¬ eq_neq_complement_full := fun h => by
  obtain ⟨b, h1, h2⟩ := h rx0 (.flt (.fin 3 (-1))) (.flt (.fin 5 (-1)))
  cases h1
  cases h2

/-- the unchanged code: complement holds outside the uncomparable pairs and the float-on-the-left case -/
theorem eq_neq_complement_partial (rx : RxEngine) (l r : Val)
    (h1 : sameContainer l r = false) (h2 : neqFloatCase .neq l r = false) :
    ∃ b, evalOp Dev.pinned rx .eq l r = .ok (.bool b) ∧ evalOp Dev.pinned rx .neq l r = .ok (.bool (!b)) :=
  eq_neq_complement_of Dev.pinned rx l r _ (ifaceEq_spec _ l r fun _ => h1) fun _ => h2

example : sameContainer (.flt (.fin 3 (-1))) (.int 2) = false ∧ neqFloatCase .neq (.flt (.fin 3 (-1))) (.int 2) = false := by
  decide

/-- inside the float-on-the-left case (`neqFloatCase`) the unchanged code answers false to `!=` and to `==` -/
theorem neq_float_always_false (rx : RxEngine) (l r : Val) (h : neqFloatCase .neq l r = true) :
    evalOp Dev.pinned rx .neq l r = .ok (.bool false) ∧ evalOp Dev.pinned rx .eq l r = .ok (.bool false) := by
  rw [evalOp_neq_eq, evalOp_eq_eq]
  -- the left operand is a float, the right one not an int and not the same float
  cases l with
  | flt a => cases r <;> first | exact Bool.noConfusion h | simp_all [neqFloatCase, ifaceEq, crossEq, Except.map, Dev.pinned]
  | _ => exact Bool.noConfusion h

/-- the six comparison results on two exact numbers -/
def cmpNum (o : Op) (x y : Flt) : Bool :=
  match o with
  | .eq => Flt.eq x y
  | .neq => !Flt.eq x y
  | .lt => Flt.lt x y
  | .gt => Flt.lt y x
  | .lte => Flt.le x y
  | .gte => Flt.le y x
  | _ => false

theorem isContainer_num (l : Val) (x : Flt) (hl : Spec.num? l = some x) : isContainer l = false := by
  cases l <;> first | rfl | cases hl

theorem spec_cmp_num (rx : RxEngine) (o : Op) (ho : isCmp o = true) (l r : Val) (x y : Flt)
    (hl : Spec.num? l = some x) (hr : Spec.num? r = some y) : Spec.evalOp rx o l r = .bool (cmpNum o x y) := by
  cases o <;> first | exact Bool.noConfusion ho | simp [Spec.evalOp, Spec.eqv, Spec.ltv, Spec.lev, hl, hr, cmpNum]

/-- all 6 × 4 cells: with the repairs, a comparison of two numbers of either kind is the comparison of
their exact values -/
theorem num_matrix (d : Dev) (hq : d.neqFlt = false) (hv : d.viaF64 = false) (rx : RxEngine) (o : Op) (ho : isCmp o = true)
    (l r : Val) (x y : Flt) (hl : Spec.num? l = some x) (hr : Spec.num? r = some y) :
    evalOp d rx o l r = .ok (.bool (cmpNum o x y)) := by
  rw [evalOp_eq_spec_of d rx o l r (fun _ => uncomparablePair_noncontainer o l r (isContainer_num l x hl))
    (fun h => by rw [hq] at h; cases h) (fun h => by rw [hv] at h; cases h), spec_cmp_num rx o ho l r x y hl hr]

theorem cmpNum_int (a b : Int) :
    cmpNum .eq (.fin a 0) (.fin b 0) = decide (a = b) ∧ cmpNum .neq (.fin a 0) (.fin b 0) = !decide (a = b) ∧
    cmpNum .lt (.fin a 0) (.fin b 0) = decide (a < b) ∧ cmpNum .gt (.fin a 0) (.fin b 0) = decide (b < a) ∧
    cmpNum .lte (.fin a 0) (.fin b 0) = decide (a ≤ b) ∧ cmpNum .gte (.fin a 0) (.fin b 0) = decide (b ≤ a) := by
  simp [cmpNum]

def num_matrix_full : Prop :=
  ∀ (rx : RxEngine) (o : Op), isCmp o = true → ∀ (l r : Val) (x y : Flt), Spec.num? l = some x → Spec.num? r = some y →
    evalOp Dev.pinned rx o l r = .ok (.bool (cmpNum o x y))

/-- `9007199254740993 == 9007199254740992.0` is true in the pinned code (until 24fcf54: `num_matrix_before_24fcf54_false`) -/
theorem num_matrix_full_false : ¬ num_matrix_full := fun h => by
  cases h rx0 .eq rfl (.int 9007199254740993) (.flt (.fin 9007199254740992 0)) _ _ rfl rfl

/-- the unchanged code: exact-value comparison unless an int of magnitude ≥ 2^53 meets a float, or it is
`float != float` -/
theorem num_matrix_partial (rx : RxEngine) (o : Op) (ho : isCmp o = true)
    (l r : Val) (x y : Flt) (hl : Spec.num? l = some x) (hr : Spec.num? r = some y)
    (h1 : bigMixed o l r = false) (h2 : neqFloatCase o l r = false) :
    evalOp Dev.pinned rx o l r = .ok (.bool (cmpNum o x y)) := by
  rw [evalOp_eq_spec_of Dev.pinned rx o l r (fun _ => uncomparablePair_noncontainer o l r (isContainer_num l x hl))
    (fun _ => h2) (fun _ => h1), spec_cmp_num rx o ho l r x y hl hr]

example : bigMixed .lt (.int 9007199254740991) (.flt (.fin 1 60)) = false ∧
    neqFloatCase .lt (.int 9007199254740991) (.flt (.fin 1 60)) = false := by decide +kernel

inductive OrdKind where | number | string | other
  deriving DecidableEq

def ordKind : Val → OrdKind
  | .int _ => .number
  | .flt _ => .number
  | .str _ => .string
  | _ => .other

def isOrdering : Op → Bool
  | .lt | .gt | .lte | .gte => true
  | _ => false

theorem ordering_other (d : Dev) (fi : Int → Int → Bool) (ff : Flt → Flt → Bool) (fs : Bytes → Bytes → Bool) (l r : Val)
    (h : ordKind l ≠ ordKind r ∨ ordKind l = .other) : ordering d fi ff fs l r = .bool false := by
  cases l <;> first | rfl | cases r <;> first | rfl | simp [ordKind] at h

/-- any code variant: `<  >  <=  >=` between operands that are not two numbers or two strings give
false (never a fault, never true) -/
theorem ordering_cross_kind (d : Dev) (rx : RxEngine) (o : Op) (ho : isOrdering o = true) (l r : Val)
    (h : ordKind l ≠ ordKind r ∨ ordKind l = .other) : evalOp d rx o l r = .ok (.bool false) := by
  cases o <;> first | exact Bool.noConfusion ho | exact congrArg Except.ok (ordering_other d _ _ _ l r h)

example : ordKind (.int 1) ≠ ordKind (.str [49]) ∨ ordKind (.int 1) = .other := by decide

/-- strings compare byte-lexically -/
theorem ordering_strings (d : Dev) (rx : RxEngine) (a b : Bytes) :
    evalOp d rx .lt (.str a) (.str b) = .ok (.bool (bytesLt a b)) ∧
    evalOp d rx .gt (.str a) (.str b) = .ok (.bool (bytesLt b a)) ∧
    evalOp d rx .lte (.str a) (.str b) = .ok (.bool (!bytesLt b a)) ∧
    evalOp d rx .gte (.str a) (.str b) = .ok (.bool (!bytesLt a b)) :=
  ⟨rfl, rfl, rfl, rfl⟩

theorem logic (d : Dev) (rx : RxEngine) (a b : Bool) (r : Val) :
    evalOp d rx .and (.bool a) (.bool b) = .ok (.bool (a && b)) ∧
    evalOp d rx .or (.bool a) (.bool b) = .ok (.bool (a || b)) ∧
    evalOp d rx .not (.bool a) r = .ok (.bool (!a)) :=
  ⟨rfl, rfl, rfl⟩

/-- an operand that is not a boolean counts as false -/
theorem logic_non_bool (d : Dev) (rx : RxEngine) (l r : Val) :
    evalOp d rx .and l r = .ok (.bool (Spec.truth l && Spec.truth r)) ∧
    evalOp d rx .or l r = .ok (.bool (Spec.truth l || Spec.truth r)) ∧
    evalOp d rx .not l r = .ok (.bool (!Spec.truth l)) :=
  ⟨rfl, rfl, rfl⟩

/-- the prefix program `buildScript` lays out for a tree, run by `evalStack`, leaves in cell 0 the value
obtained by applying the operators along the tree: nesting (parentheses) is honoured exactly -/
theorem program_is_tree (d : Dev) (rx : RxEngine) (t : Tm) :
    (evalStack d rx (flattenS t)).map (·.headD .null) = evalTm d rx t :=
  evalStack_flattenS_head d rx t

theorem missing_is_nothing (elem root : Val) (p : Path) (h : Spec.sel p elem root = []) :
    resolveItem elem root false (.path p) = .val .nothing := by
  unfold resolveItem
  simp only [Bool.false_eq_true, ↓reduceIte, h]
  split <;> rfl

theorem exists_has (d : Dev) (rx : RxEngine) (b : Bool) (v : Val) :
    evalOp d rx .exists .nothing (.bool b) = .ok (.bool (!b)) ∧
    evalOp d rx .has .nothing (.bool b) = .ok (.bool (!b)) ∧
    (v ≠ .nothing → evalOp d rx .exists v (.bool b) = .ok (.bool b) ∧ evalOp d rx .has v (.bool b) = .ok (.bool b)) := by
  refine ⟨by cases b <;> rfl, by cases b <;> rfl, fun hv => ?_⟩
  cases v <;> first | exact absurd rfl hv | (cases b <;> exact ⟨rfl, rfl⟩)

example : Spec.sel ⟨false, [.child [122]]⟩ (.obj [([97], .int 1)]) .null = [] := rfl

/-- with the comparison repaired the per-element verdict is: some way of picking one value for each
multi-valued operand makes the program true -/
theorem multi_any (d : Dev) (h : d.uncmp = false) (h' : d.ifaceTrap = false) (rx : RxEngine) (st : List RItem) (hne : st ≠ []) :
    matchResolved d rx st = .ok ((prod st).any (stackTrue d rx)) :=
  matchResolved_any_of_ok d rx st hne fun x _ => evalStack_total d h h' rx x

/-- `expandStack`'s mixed-radix enumeration visits exactly the combinations -/
theorem expand_enumerates (st : List RItem) :
    (∀ mi, mi < combos st → expand st mi ∈ prod st) ∧ (∀ x ∈ prod st, ∃ mi, mi < combos st ∧ expand st mi = x) :=
  ⟨expand_mem_prod st, prod_mem_expand st⟩

theorem compile_true (t : Tm) : compile true t = flatten (Spec.normalise t) := by
  cases t <;> simp [compile, Spec.normalise, flatten, Op.cnt]

theorem wf_normalise (t : Tm) (h : t.wf = true) : (Spec.normalise t).wf = true := by
  cases t <;> simp_all [Spec.normalise, Tm.wf, Op.cnt]

theorem matchElem_general (d : Dev) (rx : RxEngine) (prog : List Item) (elem root : Val)
    (h : ∀ p, prog ≠ [.path p]) : matchElem d rx prog elem root = matchGeneral d rx prog elem root := by
  unfold matchElem
  split
  · exact absurd rfl (h _)
  · rfl

theorem isPath_cases (t : Tm) : isPath t = false ∨ ∃ p, t = .path p := by
  cases t <;> simp [isPath]

theorem flatten_not_bare (t : Tm) (h : isPath t = false) : ∀ p, flatten t ≠ [.path p] := by
  intro p
  cases t with
  | const v => simp [flatten]
  | path q => simp [isPath] at h
  | app1 o a => simp only [flatten]; split <;> simp
  | app2 o a b => simp only [flatten]; split <;> simp

theorem isPath_normalise (t : Tm) : isPath (Spec.normalise t) = false := by
  cases t <;> rfl

/-- every code variant gives the specified verdict on a script none of whose operator applications (for any
choice of the multi-valued operands) falls into a deviation class the variant carries -/
theorem script_spec_of_clean (d : Dev) (rx : RxEngine) (t : Tm) (hwf : t.wf = true) (elem root : Val)
    (hclean : ∀ c ∈ Spec.choices elem root (Spec.normalise t), Clean d rx c = true) :
    matchElem d rx (compile true t) elem root = .ok (Spec.matches rx t elem root) := by
  rw [compile_true, matchElem_general _ _ _ _ _ (flatten_not_bare _ (isPath_normalise t)),
    matchGeneral_flatten_clean d rx _ (wf_normalise t hwf) elem root hclean]
  rfl

/-- with every deviation repaired: for every well-formed script tree, every element and root, Script.Match
(the route that turns a bare path into an existence test) gives exactly the specified verdict -/
theorem script_spec (rx : RxEngine) (t : Tm) (hwf : t.wf = true) (elem root : Val) :
    matchElem Dev.fixed rx (compile true t) elem root = .ok (Spec.matches rx t elem root) :=
  script_spec_of_clean Dev.fixed rx t hwf elem root fun c _ => clean_fixed rx c

def script_spec_full : Prop :=
  ∀ (rx : RxEngine) (t : Tm), t.wf = true → ∀ elem root,
    matchElem Dev.pinned rx (compile true t) elem root = .ok (Spec.matches rx t elem root)

/-- before 21415f8: `1.5 != 2.5` -/
theorem script_spec_full_false : ¬ script_spec_full := fun h => by
  cases h rx0 (.app2 .neq (.const (.flt (.fin 3 (-1)))) (.const (.flt (.fin 5 (-1))))) rfl .null .null

/-- the unchanged code gives the specified verdict on every script none of whose operator applications
(for any choice of the multi-valued operands) falls into one of the three named classes -/
theorem script_spec_partial (rx : RxEngine) (t : Tm) (hwf : t.wf = true) (elem root : Val)
    (hclean : ∀ c ∈ Spec.choices elem root (Spec.normalise t), Clean Dev.pinned rx c = true) :
    matchElem Dev.pinned rx (compile true t) elem root = .ok (Spec.matches rx t elem root) :=
  script_spec_of_clean Dev.pinned rx t hwf elem root hclean

/-- a non-trivial instance: `@.a < 2.5 && @.m[*] == "x"` on `{"a": 1, "m": ["y", "x"]}` -/
example : ∀ c ∈ Spec.choices (.obj [([97], .int 1), ([109], .arr [.str [121], .str [120]])]) .null
    (Spec.normalise (.app2 .and (.app2 .lt (.path ⟨false, [.child [97]]⟩) (.const (.flt (.fin 5 (-1)))))
      (.app2 .eq (.path ⟨false, [.child [109], .wild]⟩) (.const (.str [120]))))),
    Clean Dev.pinned rx0 c = true := by decide +kernel

/-- `Equation.Filter()` lays out the same program as `Script()` unless the script is a bare path -/
theorem match_filter (t : Tm) (h : isPath t = false) : compile false t = compile true t := by
  cases t <;> simp_all [compile, isPath]

/-- before 6b93c2a every template took the general path of the loop (`matchGeneral`), also the one-cell
template `Filter()` lays out for a bare path -/
def match_filter_before_6b93c2a : Prop :=
  ∀ (rx : RxEngine) (t : Tm) (elem : Val),
    matchGeneral Dev.fixed rx (compile false t) elem elem = matchGeneral Dev.fixed rx (compile true t) elem elem

/-- before 6b93c2a: for the bare path `@.a` on `{"a": 1}` Match said true (existence) while the filter
route wanted the value to be `true` (former known finding C12-bare-path) -/
theorem match_filter_before_6b93c2a_false : ¬ match_filter_before_6b93c2a := fun h => by
  cases h rx0 (.path ⟨false, [.child [97]]⟩) (.obj [([97], .int 1)])

/-- the regenerated source has the `bare` branch that `matchElem` transcribes (false before 6b93c2a) -/
theorem bare_test_ok : Gen.Script.bareExistence = true := by decide

/-- the selected nodes do not hold the `Nothing` marker itself (true of all JSON-like data; a Go caller
could put `jp.Nothing` into the data) -/
def NoNothing (vs : List Val) : Prop := ∀ v ∈ vs, (match v with | .nothing => false | _ => true) = true

/-- normalisation never produces or removes the `Nothing` marker -/
theorem norm_present (v : Val) :
    (match v.norm with | .nothing => false | _ => true) = (match v with | .nothing => false | _ => true) := by
  cases v <;> try rfl
  case ext e =>
    simp only [Val.norm]
    cases e.core <;> rfl

/-- A filter that is only a path keeps an element exactly when the path selects at least one value on it —
whatever the values are (`false`, `null`, several values none of which is `true`, typed values …). The only
hypothesis: the data does not hold the `Nothing` marker itself. -/
theorem bare_verdict (d : Dev) (rx : RxEngine) (p : Path) (elem root : Val) (h : NoNothing (Spec.sel p elem root)) :
    matchElem d rx [.path p] elem root = .ok (!(Spec.sel p elem root).isEmpty) := by
  simp only [matchElem]
  rcases resolveItem_path elem root p with ⟨hs, hr⟩ | ⟨v, r, hs, hr | ⟨vs, hr⟩⟩ <;> rw [hr, hs]
  · rfl
  · have hv := (norm_present v).trans (h v (by simp [hs]))
    generalize v.norm = x at hv
    cases x <;> first | rfl | cases hv
  · rfl

/-- the specification of a bare path: some candidate is not `Nothing` -/
theorem matches_path (rx : RxEngine) (p : Path) (elem root : Val) (h : NoNothing (Spec.sel p elem root)) :
    Spec.matches rx (.path p) elem root = !(Spec.sel p elem root).isEmpty := by
  have present : ∀ c : Val, Spec.isTrue (Spec.eval rx (.app2 .exists (.const c) (.const (.bool true)))) =
      (match c with | .nothing => false | _ => true) := fun c => by cases c <;> rfl
  simp only [Spec.matches, Spec.normalise, Spec.choices, List.flatMap_map, List.map_cons, List.map_nil,
    List.any_flatMap, List.any_cons, List.any_nil, Bool.or_false, present, Spec.candidates]
  cases hs : Spec.sel p elem root with
  | nil => rfl
  | cons v r =>
    have hv := (norm_present v).trans (h v (by simp [hs]))
    cases Spec.Path.normal p <;> simp [hv]

/-- since 6b93c2a: the one-cell template of a bare path is the specified existence test, for every code
variant -/
theorem bare_path_spec (d : Dev) (rx : RxEngine) (p : Path) (elem root : Val) (h : NoNothing (Spec.sel p elem root)) :
    matchElem d rx (compile false (.path p)) elem root = .ok (Spec.matches rx (.path p) elem root) := by
  rw [matches_path rx p elem root h]
  exact bare_verdict d rx p elem root h

example : NoNothing (Spec.sel ⟨false, [.child [97], .wild]⟩ (.obj [([97], .arr [.int 1, .null])]) .null) := by
  unfold NoNothing
  decide

/-- with the operator repairs the filter route gives the specified verdict on everything but bare paths:
there it lays out the program of `Script()` (`match_filter`) -/
theorem filter_spec (rx : RxEngine) (t : Tm) (hwf : t.wf = true) (h : isPath t = false) (elem root : Val) :
    matchElem Dev.fixed rx (compile false t) elem root = .ok (Spec.matches rx t elem root) := by
  rw [match_filter t h]
  exact script_spec rx t hwf elem root

example : isPath (.app2 .eq (.path ⟨false, []⟩) (.const (.int 1))) = false := rfl

/-! The code as it is: `Dev.current`, after 0a3fd2c, 21415f8, fe63c88, cd355fe, 6b93c2a, 24fcf54, 6d0c31a — no
deviation left. -/

/-- the regenerated source compares an int64 with a float64 through `cmpIntFloat` at all twelve sites of
the six comparison clauses and nowhere through `float64(…)` (before 24fcf54: 0 and 2 per clause) -/
theorem int_float_exact_ok : Gen.Script.hasCmpIntFloat = true ∧
    Gen.Script.cmpSites = [("eq", 2, 0), ("neq", 2, 0), ("lt", 2, 0), ("gt", 2, 0), ("lte", 2, 0), ("gte", 2, 0)] := by
  decide

/-- regression tripwire over the lines patched by 0a3fd2c: `==`, `!=` and `in` compare through `sameValue`
(which answers false for an uncomparable left operand before using Go `==`) and nowhere with a raw `==`
between the operands (before: 0 and 1 per clause) — the `uncmp = false` of `Dev.current` -/
theorem iface_eq_fix_ok : Gen.Script.sameValueGuard = true ∧
    Gen.Script.ifaceEqSites = [("eq", 1, 0), ("neq", 1, 0), ("in", 1, 0)] := by
  decide

/-- regression tripwire over the lines patched by 21415f8: the `float64` branch of `!=` only acts when the
right operand is an int64 — the `neqFlt = false` of `Dev.current` -/
theorem neq_float_fix_ok : Gen.Script.neqFloatGuarded = true := by decide

/-- regression tripwire over the helper of 24fcf54 itself: its declaration, as go/printer writes it, is
the reviewed text (any edit of `cmpIntFloat` — a guard turned from `<` to `<=`, say — breaks this until the
new text has been reviewed against the exact comparison `Flt.lt`/`Flt.eq` of the model and re-pinned; the
run over the boundary pairs around 0, ±2^53, ±2^63 is what checks its behaviour) -/
theorem cmp_int_float_src_ok : Gen.Script.cmpIntFloatSrc =
    "func cmpIntFloat(i int64, f float64) int {\n\tswitch {\n\tcase f != f:\n\t\treturn 2\n\tcase 9223372036854775808.0 <= f:\n\t\treturn -1\n\tcase f < -9223372036854775808.0:\n\t\treturn 1\n\t}\n\tt := math.Trunc(f)\n\tswitch ti := int64(t); {\n\tcase i < ti:\n\t\treturn -1\n\tcase ti < i:\n\t\treturn 1\n\tcase t < f:\n\t\treturn -1\n\tcase f < t:\n\t\treturn 1\n\t}\n\treturn 0\n}" := rfl

/-- one value under two names: the family states its lemmas for `Dev.fixed`, this file its results for
`Dev.current`; the `…_current` theorems below apply the former as they stand, by this `rfl` -/
theorem current_vs_fixed : Dev.current = Dev.fixed := rfl
theorem current_eq_fixed : Dev.current = Dev.fixed := current_vs_fixed

/-- regression tripwire over 6d0c31a: `sameHolder` with its deferred recover exists, sameValue and sameHolder
hold one raw `left == right` each -/
theorem iface_field_fix_ok : Gen.Script.svHolderRecover = true ∧ Gen.Script.svRawEq = 2 := by decide

/-! `evalStack` reads a missing operand as nil (`getD … .null`), exactly as the Go loop does
(`if 1 < len(sstack)-i { left = sstack[i+1] }`), so `total_current` holds for ANY cell sequence. For
the templates `Equation.buildScript` lays out that default is never taken: -/

/-- at every operator cell the evaluated tail holds at least as many cells as the operator has operands -/
def noUnderflow (d : Dev) (rx : RxEngine) : List SItem → Bool
  | [] => true
  | .val _ :: rest => noUnderflow d rx rest
  | .op o :: rest =>
    noUnderflow d rx rest &&
      (match evalStack d rx rest with
       | .ok t => decide (o.cnt ≤ t.length)
       | .error _ => true)

theorem flattenS_length_pos (c : Tm) : 1 ≤ (flattenS c).length := by
  cases c <;> simp [flattenS] <;> split <;> simp

theorem noUnderflow_op (d : Dev) (rx : RxEngine) (o : Op) (X : List SItem)
    (h1 : noUnderflow d rx X = true) (h2 : o.cnt ≤ X.length) : noUnderflow d rx (.op o :: X) = true := by
  simp only [noUnderflow, h1, Bool.true_and]
  cases hs : evalStack d rx X with
  | error f => rfl
  | ok t =>
    have := evalStack_length d rx X t hs
    simp only [decide_eq_true_eq]
    omega

/-- cells that can be put in front of any cells that do not underflow; `noUnderflow_flattenS` says it of every
`flattenS c`, with this definition written out -/
def KeepsNoUnderflow (d : Dev) (rx : RxEngine) (X : List SItem) : Prop :=
  ∀ rest, noUnderflow d rx rest = true → noUnderflow d rx (X ++ rest) = true

theorem keepsNoUnderflow_app2 (d : Dev) (rx : RxEngine) (o : Op) (a b : Tm)
    (ha : KeepsNoUnderflow d rx (flattenS a)) (hb : KeepsNoUnderflow d rx (flattenS b)) :
    KeepsNoUnderflow d rx (flattenS (.app2 o a b)) := by
  intro rest h
  have hpa := flattenS_length_pos a
  have hpb := flattenS_length_pos b
  rcases Op.cnt_cases o with hc | hc
  · rw [flattenS_unary o a b hc, List.cons_append]
    exact noUnderflow_op d rx o _ (ha rest h) (by simp only [List.length_append]; omega)
  · rw [flattenS_binary o a b hc, List.cons_append, List.append_assoc]
    exact noUnderflow_op d rx o _ (ha _ (hb rest h)) (by simp only [List.length_append]; omega)

/-- the prefix program of ANY expression tree (operand padding as `buildScript` does it) in front of
cells that do not underflow does not underflow -/
theorem noUnderflow_flattenS (d : Dev) (rx : RxEngine) (c : Tm) :
    ∀ rest, noUnderflow d rx rest = true → noUnderflow d rx (flattenS c ++ rest) = true := by
  induction c with
  | const v => exact fun _ h => h
  | path p => exact fun _ h => h
  -- a one-argument application is laid out as the two-argument one with a nil right operand
  | app1 o a iha => exact keepsNoUnderflow_app2 d rx o a (.const .null) iha fun _ h => h
  | app2 o a b iha ihb => exact keepsNoUnderflow_app2 d rx o a b iha ihb

/-- for every well-formed script tree, on either route (`Script()` / `Filter()`), every stack the element
loop hands to `evalStack` — one per combination of the multi-valued operands — never underflows: the
`getD` default of the model (the nil of a missing operand in Go) is never taken -/
theorem no_underflow (d : Dev) (rx : RxEngine) (t : Tm) (hwf : t.wf = true) (wrap : Bool) (elem root : Val) :
    ∀ x ∈ prod (resolve elem root false (compile wrap t)), noUnderflow d rx x = true := by
  have main : ∀ x ∈ prod (resolve elem root false (compile true t)), noUnderflow d rx x = true := by
    intro x hx
    rw [compile_true, prod_resolve_flatten elem root _ (wf_normalise t hwf), List.mem_map] at hx
    obtain ⟨c, _, rfl⟩ := hx
    simpa using noUnderflow_flattenS d rx c [] rfl
  cases wrap
  · rcases isPath_cases t with hb | ⟨p, rfl⟩
    · rw [match_filter t hb]; exact main
    · intro x hx
      simp only [compile, Bool.false_eq_true, ↓reduceIte, resolve] at hx
      rw [prod_path, List.mem_map] at hx
      obtain ⟨v, _, rfl⟩ := hx
      rfl
  · exact main

/-- a malformed cell sequence does underflow (and still evaluates, the missing operand reading as nil) -/
example : noUnderflow Dev.current rx0 [.op .eq, .val (.int 1)] = false := by decide +kernel

/-- evaluation of any non-empty program on any element never faults — for ANY cell sequence, well-formed
or not: a missing operand reads as nil, as in the Go loop; `no_underflow` shows that this default is
never taken on the templates `compile` produces -/
theorem total_current (rx : RxEngine) (prog : List Item) (hne : prog ≠ []) (elem root : Val) :
    ∃ b, matchElem Dev.current rx prog elem root = .ok b :=
  total_fixed Dev.current rfl rfl rx prog hne elem root

/-- `==` and `!=` are complements for all operand kinds on both sides -/
theorem eq_neq_complement_current (rx : RxEngine) (l r : Val) :
    ∃ b, evalOp Dev.current rx .eq l r = .ok (.bool b) ∧ evalOp Dev.current rx .neq l r = .ok (.bool (!b)) :=
  eq_neq_complement Dev.current rfl rfl rfl rx l r

/-- EVERY operator application — all 23 operators, all operand kinds on both sides (typed Go values included) —
computes the specified value -/
theorem evalOp_current (rx : RxEngine) (o : Op) (l r : Val) :
    evalOp Dev.current rx o l r = .ok (Spec.evalOp rx o l r) :=
  evalOp_fixed_eq_spec rx o l r

/-- all 6 × 4 numeric cells compare exact values, without exception -/
theorem num_matrix_current (rx : RxEngine) (o : Op) (ho : isCmp o = true)
    (l r : Val) (x y : Flt) (hl : Spec.num? l = some x) (hr : Spec.num? r = some y) :
    evalOp Dev.current rx o l r = .ok (.bool (cmpNum o x y)) :=
  num_matrix Dev.current rfl rfl rx o ho l r x y hl hr

/-- on the witness of `num_matrix_full_false`: `9007199254740993 == 9007199254740992.0` is false, `>` true -/
example : evalOp Dev.current rx0 .eq (.int 9007199254740993) (.flt (.fin 9007199254740992 0)) = .ok (.bool false) ∧
    evalOp Dev.current rx0 .gt (.int 9007199254740993) (.flt (.fin 9007199254740992 0)) = .ok (.bool true) := ⟨rfl, rfl⟩

/-- Script.Match (every Script() route) gives the specified verdict on EVERY well-formed script, every
element and root -/
theorem script_spec_current (rx : RxEngine) (t : Tm) (hwf : t.wf = true) (elem root : Val) :
    matchElem Dev.current rx (compile true t) elem root = .ok (Spec.matches rx t elem root) :=
  script_spec rx t hwf elem root

/-- the filter route (`Equation.Filter()` inside `Expr.Get`/`First`) gives the specified verdict on EVERY
well-formed script; the only hypothesis concerns a bare path: the data it selects must not hold the
`jp.Nothing` marker itself (`bare_path_spec`) -/
theorem filter_spec_current (rx : RxEngine) (t : Tm) (hwf : t.wf = true) (elem root : Val)
    (hdata : ∀ p, t = .path p → NoNothing (Spec.sel p elem root)) :
    matchElem Dev.current rx (compile false t) elem root = .ok (Spec.matches rx t elem root) := by
  rcases isPath_cases t with hb | ⟨p, rfl⟩
  · rw [match_filter t hb]
    exact script_spec_current rx t hwf elem root
  · exact bare_path_spec Dev.current rx p elem root (hdata p rfl)

example : ∀ p, (Tm.app2 .eq (.path ⟨false, []⟩) (.const (.int 1))) = .path p → NoNothing (Spec.sel p .null .null) := by
  intro p h; cases h

/-- an `exists` application is in no deviation class, so the wrapped bare path is clean for every variant -/
theorem clean_bare (d : Dev) (rx : RxEngine) (p : Path) (elem root : Val) :
    ∀ c ∈ Spec.choices elem root (Spec.normalise (.path p)), Clean d rx c = true := by
  intro c hc
  simp only [Spec.normalise, Spec.choices, List.flatMap_map, List.map_cons, List.map_nil,
    List.mem_flatMap, List.mem_singleton] at hc
  obtain ⟨v, _, rfl⟩ := hc
  simp [Clean, Op.cnt, devHit, uncomparablePair, neqFloatCase, bigMixed, isCmp]

/-- WEAK form (per element, same root on both sides): on one element with one root the program `Script()` lays
out and the program `Filter()` lays out give the same verdict. This is NOT the property's clause: it does
not speak about `Get`'s result; `match_iff_in_filter` does. -/
theorem match_filter_current_weak (rx : RxEngine) (t : Tm) (hwf : t.wf = true) (elem : Val)
    (hdata : ∀ p, t = .path p → NoNothing (Spec.sel p elem elem)) :
    matchElem Dev.current rx (compile true t) elem elem = matchElem Dev.current rx (compile false t) elem elem := by
  rw [script_spec_current rx t hwf elem elem, filter_spec_current rx t hwf elem elem hdata]

/-! The clause "`Script.Match(v)` ⇔ `v` is in the result of the corresponding filter":
`Script.Match(v)` binds `$` to `v` itself, `Expr.Get` binds `$` inside a filter to the document it was given;
the clause is therefore about scripts without a `$` path (`rootFree`; the harness oracle has the same scope —
with a `$` path the two are different questions by design). -/

def rootFree : Tm → Bool
  | .const _ => true
  | .path p => !p.root
  | .app1 _ a => rootFree a
  | .app2 _ a b => rootFree a && rootFree b

theorem sel_root_irrel (p : Path) (h : p.root = false) (e r1 r2 : Val) : Spec.sel p e r1 = Spec.sel p e r2 := by
  simp [Spec.sel, h]

theorem choices_root_irrel (e r1 r2 : Val) (t : Tm) : rootFree t = true → Spec.choices e r1 t = Spec.choices e r2 t := by
  induction t with
  | const v => intro _; rfl
  | path p =>
    intro h
    have hp : p.root = false := by simpa [rootFree] using h
    simp only [Spec.choices, Spec.candidates, sel_root_irrel p hp e r1 r2]
  | app1 o a iha =>
    intro h
    simp only [Spec.choices, iha (by simpa [rootFree] using h)]
  | app2 o a b iha ihb =>
    intro h
    simp only [rootFree, Bool.and_eq_true] at h
    simp only [Spec.choices, iha h.1, ihb h.2]

theorem matches_root_irrel (rx : RxEngine) (t : Tm) (h : rootFree t = true) (e r1 r2 : Val) :
    Spec.matches rx t e r1 = Spec.matches rx t e r2 := by
  have hn : rootFree (Spec.normalise t) = true := by
    cases t <;> simp_all [Spec.normalise, rootFree]
  simp only [Spec.matches, choices_root_irrel e r1 r2 _ hn]

theorem filterList_eq_filter (d : Dev) (rx : RxEngine) (prog : List Item) (root : Val) (f : Val → Bool) (xs : List Val)
    (h : ∀ e ∈ xs, matchElem d rx prog e root = .ok (f e)) : filterList d rx prog root xs = .ok (xs.filter f) := by
  induction xs with
  | nil => rfl
  | cons e r ih =>
    simp only [filterList, ih fun w hw => h w (List.mem_cons_of_mem _ hw), h e (by simp), List.filter_cons]

/-- the model of the filter fragment selects, in order, exactly the elements the specification matches -/
theorem filterList_spec (rx : RxEngine) (t : Tm) (hwf : t.wf = true) (root : Val) (xs : List Val)
    (hdata : ∀ v ∈ xs, ∀ p, t = .path p → NoNothing (Spec.sel p v root)) :
    filterList Dev.current rx (compile false t) root xs = .ok (xs.filter fun v => Spec.matches rx t v root) :=
  filterList_eq_filter _ rx _ root _ xs fun v hv => filter_spec_current rx t hwf v root (hdata v hv)

def isOkTrue : Except Fault Bool → Bool
  | .ok true => true
  | _ => false

theorem isOkTrue_iff (x : Except Fault Bool) : isOkTrue x = true ↔ x = .ok true := by
  cases x with
  | error f => simp [isOkTrue]
  | ok b => cases b <;> simp [isOkTrue]

/-- THE CLAUSE: for every well-formed script without a `$` path and every list `xs`, `$[?script]` applied to
`xs` (model of the filter fragment in `Get`, `$` = `xs`) returns, in order and with multiplicity, exactly the
elements `v` of `xs` on which `Script.Match(v)` (`$` = `v`) is true; in particular `v` is in the result iff it
is in `xs` and `Match(v)`. Only hypothesis besides well-formedness: for a bare-path script the selected data
does not hold the `jp.Nothing` marker. -/
theorem match_iff_in_filter (rx : RxEngine) (t : Tm) (hwf : t.wf = true) (hrf : rootFree t = true) (xs : List Val)
    (hdata : ∀ v ∈ xs, ∀ p, t = .path p → NoNothing (Spec.sel p v v)) :
    filterGet Dev.current rx (compile false t) (.arr xs) =
        .ok (xs.filter fun v => isOkTrue (matchElem Dev.current rx (compile true t) v v)) ∧
    ∀ res, filterGet Dev.current rx (compile false t) (.arr xs) = .ok res →
      ∀ v, v ∈ res ↔ (v ∈ xs ∧ matchElem Dev.current rx (compile true t) v v = .ok true) := by
  have hd : ∀ v ∈ xs, ∀ p, t = .path p → NoNothing (Spec.sel p v (.arr xs)) := by
    intro v hv p hp
    have hpr : p.root = false := by subst hp; simpa [rootFree] using hrf
    rw [sel_root_irrel p hpr v (.arr xs) v]
    exact hdata v hv p hp
  have h1 : filterGet Dev.current rx (compile false t) (.arr xs) =
      .ok (xs.filter fun v => isOkTrue (matchElem Dev.current rx (compile true t) v v)) := by
    unfold filterGet
    rw [filterList_spec rx t hwf (.arr xs) xs hd]
    congr 1
    apply List.filter_congr
    intro v _
    rw [script_spec_current rx t hwf v v, matches_root_irrel rx t hrf v (.arr xs) v]
    cases Spec.matches rx t v v <;> rfl
  refine ⟨h1, ?_⟩
  intro res hres v
  rw [h1] at hres
  cases hres
  simp only [List.mem_filter, isOkTrue_iff]

/-- the property's wording on a one-element list: `Match(v)` ⇔ `v ∈ $[?script]([v])` -/
theorem match_iff_in_filter_singleton (rx : RxEngine) (t : Tm) (hwf : t.wf = true) (hrf : rootFree t = true) (v : Val)
    (hdata : ∀ p, t = .path p → NoNothing (Spec.sel p v v)) :
    matchElem Dev.current rx (compile true t) v v = .ok true ↔
      ∃ res, filterGet Dev.current rx (compile false t) (.arr [v]) = .ok res ∧ v ∈ res := by
  obtain ⟨h1, h2⟩ := match_iff_in_filter rx t hwf hrf [v] (fun w hw p hp => by
    have : w = v := by simpa using hw
    subst this; exact hdata p hp)
  constructor
  · intro hm
    exact ⟨_, h1, (h2 _ h1 v).2 ⟨by simp, hm⟩⟩
  · rintro ⟨res, hres, hv⟩
    exact ((h2 res hres v).1 hv).2

/-- a non-trivial instance: `@.a > 1 && @.m[*] == 2` is well-formed and has no `$` path -/
example : rootFree (Tm.app2 .and (.app2 .gt (.path ⟨false, [.child [97]]⟩) (.const (.int 1)))
    (.app2 .eq (.path ⟨false, [.child [109], .wild]⟩) (.const (.int 2)))) = true := rfl

/-- before 6d0c31a a left operand reached Go `==` unguarded exactly when its TYPE is reported comparable
(`passesGuard`); it then faulted iff `==` is unsafe on it -/
theorem before_6d0c31a_fault_flag (l : Val) : Dev.before6d0c31a.faultFlag l = passesGuard l := by
  simp [Dev.faultFlag, Dev.before6d0c31a]

/-- a value of a comparable struct type that holds a slice in an interface-typed field
(`struct{X any}{[]int{1}}`): the type is comparable, `==` on two such values is not safe. The type number 90
is arbitrary, as are 40 (a `[]int`) and 20 (a comparable scalar type) in the examples: model and specification
only test `ty` fields for equality, and the harness numbers the types of its table by position. -/
def trapVal : Val := .ext ⟨90, false, 0, .none, true⟩

def total_before_6d0c31a : Prop :=
  ∀ (rx : RxEngine) (prog : List Item), prog ≠ [] → ∀ elem root, ∃ b, matchElem Dev.before6d0c31a rx prog elem root = .ok b

/-- finding C12-iface-field-panic: before 6d0c31a `struct{X any}{[]int{1}} == struct{X any}{[]int{1}}`
panicked -/
theorem total_before_6d0c31a_false : ¬ total_before_6d0c31a := fun h => by
  obtain ⟨b, hb⟩ := h rx0 [.op .eq, .val trapVal, .val trapVal] (by simp) .null .null
  cases hb

/-- the code before 6d0c31a: evaluation of ANY non-empty program (well-formed or not) on any element never faults
unless, for some choice of the multi-valued operands, an operator application `==`, `!=`, `in` has on its left
a value whose type is comparable but whose `==` is unsafe, and on its right (or in the list) a value of the same
kind (`hitsUncomparable Dev.before6d0c31a`); without such typed data in play nothing is excluded -/
theorem total_before_6d0c31a_partial (rx : RxEngine) (prog : List Item) (hne : prog ≠ []) (elem root : Val)
    (h : ∀ x ∈ prod (resolve elem root false prog), hitsUncomparable Dev.before6d0c31a rx x = false) :
    ∃ b, matchElem Dev.before6d0c31a rx prog elem root = .ok b :=
  matchElem_total_of _ rx prog hne elem root fun x hx => evalStack_ok_of_noHit _ rx x (h x hx)

/-- non-trivial instance: `@.a == @.b` on an element holding two `[]int` (typed containers, which the reflect
guard catches) stays outside the excluded class -/
example : ∀ x ∈ prod (resolve (.obj [([97], .ext ⟨40, false, 0, .none, false⟩), ([98], .ext ⟨40, false, 1, .none, false⟩)]) .null false
      [.op .eq, .path ⟨false, [.child [97]]⟩, .path ⟨false, [.child [98]]⟩]),
    hitsUncomparable Dev.before6d0c31a rx0 x = false := by decide +kernel

def eq_neq_complement_before_6d0c31a : Prop :=
  ∀ (rx : RxEngine) (l r : Val), ∃ b, evalOp Dev.before6d0c31a rx .eq l r = .ok (.bool b) ∧ evalOp Dev.before6d0c31a rx .neq l r = .ok (.bool (!b))

theorem eq_neq_complement_before_6d0c31a_false : ¬ eq_neq_complement_before_6d0c31a := fun h => by
  obtain ⟨b, hb, _⟩ := h rx0 trapVal trapVal
  cases hb

/-- `==` and `!=` are complements for all operand kinds on both sides, except a left operand whose type is
comparable while `==` on it is unsafe, against a right operand of the same kind -/
theorem eq_neq_complement_before_6d0c31a_partial (rx : RxEngine) (l r : Val)
    (h : (passesGuard l && sameContainer l r) = false) :
    ∃ b, evalOp Dev.before6d0c31a rx .eq l r = .ok (.bool b) ∧ evalOp Dev.before6d0c31a rx .neq l r = .ok (.bool (!b)) :=
  eq_neq_complement_of _ rx l r _ (ifaceEq_spec _ l r (Bool.and_eq_false_imp.1 h)) (fun hq => by cases hq)

example : (passesGuard (.ext ⟨40, false, 0, .none, false⟩) && sameContainer (.ext ⟨40, false, 0, .none, false⟩) (.ext ⟨40, false, 0, .none, false⟩)) = false := rfl

def evalOp_before_6d0c31a : Prop :=
  ∀ (rx : RxEngine) (o : Op) (l r : Val), evalOp Dev.before6d0c31a rx o l r = .ok (Spec.evalOp rx o l r)

theorem evalOp_before_6d0c31a_false : ¬ evalOp_before_6d0c31a := fun h => by
  cases h rx0 .eq trapVal trapVal

/-- EVERY operator application — all 23 operators, all operand kinds on both sides — computes the
specified value, except `==`, `!=`, `in` with a left operand whose type is comparable while `==` on it is
unsafe, against a value of the same kind -/
theorem evalOp_before_6d0c31a_partial (rx : RxEngine) (o : Op) (l r : Val)
    (h : (passesGuard l && uncomparablePair o l r) = false) :
    evalOp Dev.before6d0c31a rx o l r = .ok (Spec.evalOp rx o l r) := by
  apply evalOp_eq_spec_of
  · intro hf
    rw [before_6d0c31a_fault_flag] at hf
    simpa [hf] using h
  · intro hq; cases hq
  · intro hv; cases hv

example : (passesGuard (.arr []) && uncomparablePair .eq (.arr []) (.arr [])) = false := rfl

/-- no operator application of the script, for any choice of its multi-valued operands, is `==`/`!=`/`in`
with a left operand whose type is comparable while `==` on it is unsafe against a value of the same kind — the
one class in which the code before 6d0c31a leaves the specification (true of every script on data without such
struct/array values). `total_before_6d0c31a_partial` asks the fault part of this of the expanded stacks of ANY
program (`hitsUncomparable`). For a well-formed `t` and `prog = compile true t` nothing has to be carried over:
`script_spec_before_6d0c31a_partial` gives a verdict, hence no fault. (The stacks are the `flattenS c` by
`prod_resolve_flatten`; a clean one evaluates, `stackTrue_flattenS_clean`, and so hits nothing, `evalStack_fault_iff`.) -/
def TrapFree (rx : RxEngine) (t : Tm) (elem root : Val) : Prop :=
  ∀ c ∈ Spec.choices elem root (Spec.normalise t), Clean Dev.before6d0c31a rx c = true

def script_spec_before_6d0c31a : Prop :=
  ∀ (rx : RxEngine) (t : Tm), t.wf = true → ∀ elem root,
    matchElem Dev.before6d0c31a rx (compile true t) elem root = .ok (Spec.matches rx t elem root)

theorem script_spec_before_6d0c31a_false : ¬ script_spec_before_6d0c31a := fun h => by
  cases h rx0 (.app2 .eq (.const trapVal) (.const trapVal)) rfl .null .null

/-- Script.Match (every Script() route) gives the specified verdict on every well-formed script, every
element and root, outside the class of finding C12-iface-field-panic (`TrapFree`) -/
theorem script_spec_before_6d0c31a_partial (rx : RxEngine) (t : Tm) (hwf : t.wf = true) (elem root : Val)
    (hclean : TrapFree rx t elem root) :
    matchElem Dev.before6d0c31a rx (compile true t) elem root = .ok (Spec.matches rx t elem root) :=
  script_spec_of_clean Dev.before6d0c31a rx t hwf elem root hclean

/-- non-trivial instance: `@.a == @.m[*]` where `a` is a typed container and `m` holds typed containers and
typed scalars -/
example : TrapFree rx0 (.app2 .eq (.path ⟨false, [.child [97]]⟩) (.path ⟨false, [.child [109], .wild]⟩))
    (.obj [([97], .ext ⟨40, false, 0, .none, false⟩), ([109], .arr [.ext ⟨40, false, 1, .none, false⟩, .ext ⟨20, true, 2, .none, true⟩])]) .null := by
  unfold TrapFree; decide +kernel

def num_matrix_before_24fcf54 : Prop :=
  ∀ (rx : RxEngine) (o : Op), isCmp o = true → ∀ (l r : Val) (x y : Flt), Spec.num? l = some x → Spec.num? r = some y →
    evalOp Dev.before24fcf54 rx o l r = .ok (.bool (cmpNum o x y))

/-- before 24fcf54: `9007199254740993 == 9007199254740992.0` was true -/
theorem num_matrix_before_24fcf54_false : ¬ num_matrix_before_24fcf54 := fun h => by
  cases h rx0 .eq rfl (.int 9007199254740993) (.flt (.fin 9007199254740992 0)) _ _ rfl rfl

def script_spec_before_24fcf54 : Prop :=
  ∀ (rx : RxEngine) (t : Tm), t.wf = true → ∀ elem root,
    matchElem Dev.before24fcf54 rx (compile true t) elem root = .ok (Spec.matches rx t elem root)

/-- before 24fcf54: the script `9007199254740993 == 9007199254740992.0` matched -/
theorem script_spec_before_24fcf54_false : ¬ script_spec_before_24fcf54 := fun h => by
  cases h rx0 (.app2 .eq (.const (.int 9007199254740993)) (.const (.flt (.fin 9007199254740992 0)))) rfl .null .null

end OjgVerif.C12
