import OjgVerif.Props.C02Tree
import OjgVerif.Json.RefinePair
/-! # C02 — the string clause against the RFC reading, with its exact exclusion

`C02.oj_structure` states the returned tree over the machine's own string reader (`pCharsM`). Here
the same tree is tied to the SPECIFICATION's reader (`Spec.pChars`, RFC 8259 §7 with surrogate
pairs combined): for every text in which no string holds a high-surrogate escape directly followed
by a low-surrogate escape — precisely: every text the pair-refusing grammar `parseTextX` accepts —
the specification denotes a tree `v` and the front-end returns exactly `v` with each number literal
converted. The texts left out are those of known finding C02-surrogate: `pCharsX` is written as
`Spec.pChars` with that one refusal added (no theorem states the converse, that a JSON text which
`parseTextX` refuses holds such a pair), and `pair_is_refused` is a witness that it does refuse. -/
namespace OjgVerif.C02
open OjgVerif.Json

theorem oj_tree_rfc (bs : Bytes) (v : JV) (h : parseTextX (Spec.stripBOM bs) = .one v) :
    Spec.parseDoc bs = .one v ∧
    toOpt (run ojTables cfg1 [bs]) = some [JV.mapNum numConv v] := by
  obtain ⟨h1, h2⟩ := pairfree_tree _ v h
  refine ⟨h1, ?_⟩
  rw [oj_structure, h2]; rfl

theorem gen_tree_rfc (bs : Bytes) (v : JV) (h : parseTextX (Spec.stripBOM bs) = .one v) :
    Spec.parseDoc bs = .one v ∧
    toOpt (run genTables cfg1 [bs]) = some [JV.mapNum numConv v] := by
  obtain ⟨h1, h2⟩ := pairfree_tree _ v h
  refine ⟨h1, ?_⟩
  rw [gen_structure, h2]; rfl

/-- non-vacuity: `["é\n", "\uD83D", "\uDE00\uD83D", {"A":"\\"}]` — escapes, a lone high
surrogate, a low followed by a high (not a pair) — is accepted by the refusing grammar -/
example : ∃ v, parseTextX [91, 34,92,117,48,48,101,57,92,110,34, 44, 34,92,117,68,56,51,68,34, 44,
    34,92,117,68,69,48,48,92,117,68,56,51,68,34, 44, 123,34,92,117,48,48,52,49,34,58,34,92,92,34,125, 93] = .one v :=
  ⟨_, rfl⟩

/-- the one kind of string the refusing grammar refuses beyond the specification: `"😀"`
is a JSON text (one string, U+1F600) and is refused -/
theorem pair_is_refused :
    parseTextX [34,92,117,68,56,51,68,92,117,68,69,48,48,34] = .bad ∧
    Spec.parseText [34,92,117,68,56,51,68,92,117,68,69,48,48,34] = .one (.str [0xF0, 0x9F, 0x98, 0x80]) := by
  constructor <;> rfl

end OjgVerif.C02
