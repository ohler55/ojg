import OjgVerif.Props.C10TreeBase
import OjgVerif.Sen.LemmasWriter
/-! # C10 for ANY white-space layout of the writer's tokens (pretty.SEN, and every other layout)

`C10_anylayout_partial`: whenever a text `t` is a layout of the array or object `v` in the sense of `Sen.isLayout`
(Sen/Layout.lean: the writer's tokens in order, any white space — blank, tab, newline, carriage return, comma — after
`[`, `{`, `:` and after every element or member, at least one between a scalar and what follows it), `sen.Parser.Parse`
of `t` is the one document `nvVal o v`, for every tree of the class `admVal` (Props/C10TreeBase.lean).

The tight and the indented `sen.Writer` are such layouts (`tight_isLayout` below; `indent_isLayout`,
`senWrite_isLayout` in Props/C10Indent.lean), and the theorems about the two writers (Props/C10Tree.lean,
Props/C10Indent.lean) are this one on those layouts;
`pretty.SEN` / `pretty.WriteSEN` choose white space by width, depth and alignment rules that are NOT modelled: the
correspondence run asks, for every text they wrote, whether it is a layout of the tree that was written (driver op
`laycheck` = `Sen.isLayout`), and this theorem turns each positive answer into "that text parses back to
`nvVal o v`". So for `pretty.SEN` a CHECKED relation per case stands where a model of the layout algorithm would. -/
namespace OjgVerif.Sen
open OjgVerif.Writer (sanitize)
open OjgVerif.Json (render)

theorem stripPrefix_some : ∀ (pre t r : Bytes), stripPrefix pre t = some r → t = pre ++ r := by
  intro pre
  induction pre with
  | nil => intro t r h; simp [stripPrefix] at h; simp [h]
  | cons a p ih =>
    intro t r h
    cases t with
    | nil => simp [stripPrefix] at h
    | cons b t' =>
      simp only [stripPrefix] at h
      split at h
      · rename_i hab; subst hab
        rw [ih t' r h]; rfl
      · cases h

theorem stripPrefix_append : ∀ (p r : Bytes), stripPrefix p (p ++ r) = some r := by
  intro p
  induction p with
  | nil => intro r; cases r <;> rfl
  | cons a p ih => intro r; simp [stripPrefix, ih]

theorem skipWs_of_not_head (t : Bytes) (h : headWs t = false) : skipWs t = t := by
  cases t with
  | nil => rfl
  | cons b r => simp only [headWs] at h; simp [skipWs, h]

theorem skipWs_ws_append (t T : Bytes) (h : ∀ x ∈ t, isWsB x = true) : skipWs (t ++ T) = skipWs T := by
  induction t with
  | nil => rfl
  | cons b r ih =>
    simp only [List.cons_append, skipWs, h b List.mem_cons_self, ↓reduceIte]
    exact ih (fun x hx => h x (List.mem_cons_of_mem _ hx))

theorem isLayout_iff (o : WOpts) (v : JV) (t : Bytes) : isLayout o v t = true ↔ layVal o v t = some [] := by
  unfold isLayout
  split
  · simp [*]
  · rename_i h; simpa using fun e => h (by rw [e])

theorem layVal_scalar (o : WOpts) (v : JV) (hs : needSep v = true) (t : Bytes) :
    layVal o v t = stripPrefix (tightVal o v) t := by
  cases v with
  | arr xs => cases hs
  | obj kvs => cases hs
  | bool b => cases b <;> rfl
  | _ => rfl

theorem layVal_arr (o : WOpts) {xs : List JV} {t r : Bytes} (h : layVal o (.arr xs) t = some r) :
    ∃ t', t = 91 :: t' ∧ layElems o xs (skipWs t') = some r := by
  cases t with
  | nil => simp [layVal] at h
  | cons b t' =>
    simp only [layVal] at h
    split at h
    · rename_i hb; exact ⟨t', by rw [hb], h⟩
    · cases h

theorem layVal_obj (o : WOpts) {kvs : List (Bytes × JV)} {t r : Bytes} (h : layVal o (.obj kvs) t = some r) :
    ∃ t', t = 123 :: t' ∧ layMembers o kvs (skipWs t') = some r := by
  cases t with
  | nil => simp [layVal] at h
  | cons b t' =>
    simp only [layVal] at h
    split at h
    · rename_i hb; exact ⟨t', by rw [hb], h⟩
    · cases h

theorem ite_none_some {α : Type} {c : Bool} {e : Option α} {r : α} (h : (if c = true then none else e) = some r) :
    c = false ∧ e = some r := by
  cases c <;> simp_all

theorem layElems_nil_some {o : WOpts} {t r : Bytes} (h : layElems o [] t = some r) : t = 93 :: r := by
  cases t with
  | nil => simp [layElems] at h
  | cons b t' =>
    simp only [layElems] at h
    split at h
    · rename_i hb; cases h; rw [hb]
    · cases h

/-- the condition is the one `lay_sep` takes: white space is missing only after a container or in front of `]` -/
theorem layElems_cons_some {o : WOpts} {x : JV} {xs : List JV} {t r : Bytes} (h : layElems o (x :: xs) t = some r) :
    ∃ r1, layVal o x t = some r1 ∧ (needSep x && !headWs r1 && !xs.isEmpty) = false ∧
      layElems o xs (skipWs r1) = some r := by
  simp only [layElems] at h
  cases hlv : layVal o x t with
  | none => rw [hlv] at h; cases h
  | some r1 => rw [hlv] at h; exact ⟨r1, rfl, ite_none_some h⟩

theorem layMembers_nil_some {o : WOpts} {t r : Bytes} (h : layMembers o [] t = some r) : t = 125 :: r := by
  cases t with
  | nil => simp [layMembers] at h
  | cons b t' =>
    simp only [layMembers] at h
    split at h
    · rename_i hb; cases h; rw [hb]
    · cases h

theorem layMembers_omit (o : WOpts) (k : Bytes) (v : JV) (kvs : List (Bytes × JV)) (t : Bytes) (hom : omitted o v = true) :
    layMembers o ((k, v) :: kvs) t = layMembers o kvs t := by
  simp only [layMembers, hom, ↓reduceIte]

theorem layMembers_cons_some {o : WOpts} {k : Bytes} {v : JV} {kvs : List (Bytes × JV)} {t r : Bytes}
    (hom : omitted o v = false) (h : layMembers o ((k, v) :: kvs) t = some r) :
    ∃ r2 r3, t = senString k o.html ++ 58 :: r2 ∧ layVal o v (skipWs r2) = some r3 ∧
      (needSep v && !headWs r3 && !allOmitted o kvs) = false ∧ layMembers o kvs (skipWs r3) = some r := by
  simp only [layMembers, hom, Bool.false_eq_true, ↓reduceIte] at h
  cases hsp : stripPrefix (senString k o.html) t with
  | none => rw [hsp] at h; cases h
  | some r1 =>
    rw [hsp] at h
    cases r1 with
    | nil => cases h
    | cons c r2 =>
      by_cases hc58 : c = 58
      · subst hc58
        simp only [↓reduceIte] at h
        cases hlv : layVal o v (skipWs r2) with
        | none => rw [hlv] at h; cases h
        | some r3 => rw [hlv] at h; exact ⟨r2, r3, stripPrefix_some _ _ _ hsp, hlv, ite_none_some h⟩
      · simp only [hc58, ↓reduceIte] at h
        cases h

theorem layElems_cons (o : WOpts) (x : JV) (xs : List JV) (t T : Bytes) (hV : layVal o x t = some T)
    (hsep : needSep x = true → xs ≠ [] → headWs T = true) :
    layElems o (x :: xs) t = layElems o xs (skipWs T) := by
  have : (needSep x && !headWs T && !xs.isEmpty) = false := by
    cases hn : needSep x <;> cases hw : headWs T <;> cases xs <;> simp_all
  simp only [layElems, hV, this, Bool.false_eq_true, ↓reduceIte]

theorem layMembers_cons (o : WOpts) (k : Bytes) (v : JV) (kvs : List (Bytes × JV)) (U T : Bytes)
    (hom : omitted o v = false) (hV : layVal o v (skipWs U) = some T)
    (hsep : needSep v = true → allOmitted o kvs = false → headWs T = true) :
    layMembers o ((k, v) :: kvs) (senString k o.html ++ 58 :: U) = layMembers o kvs (skipWs T) := by
  have : (needSep v && !headWs T && !allOmitted o kvs) = false := by
    cases hn : needSep v <;> cases hw : headWs T <;> cases ha : allOmitted o kvs <;> simp_all
  simp only [layMembers, hom, stripPrefix_append, hV, this, Bool.false_eq_true, ↓reduceIte]

theorem skipWs_run (t : Bytes) : ∀ (st : St) (f : Fast) (p : Pos), st.mode = .value → FOK f →
    ∃ f' p', runBytes refTables {} st f p t = runBytes refTables {} st f' p' (skipWs t) ∧ FOK f' := by
  induction t with
  | nil => intro st f p _ hf; exact ⟨f, p, rfl, hf⟩
  | cons b r ih =>
    intro st f p hm hf
    by_cases hb : isWsB b = true
    · obtain ⟨f', p', h, hf'⟩ := ih st (fS f) (p.next (decide (b = 10))) hm (FOK_fS' f)
      refine ⟨f', p', ?_, hf'⟩
      rw [runBytes_cons_ok {} (fun l => step_ws st f b l hm hf.1 hb)]
      simp only [skipWs, hb, ↓reduceIte]
      exact h
    · refine ⟨f, p, ?_, hf⟩
      simp [skipWs, hb]

theorem done_step_ws (st : St) (f : Fast) (tgt : St) (h : DoneV st f tgt) (hm : tgt.mode = .value) (b : UInt8)
    (hb : isWsB b = true) :
    ∃ s2 f2, CoreEq s2 tgt ∧ FOK f2 ∧ ∀ l, step refTables {} st f b l = .ok (s2, f2, decide (b = 10)) := by
  obtain ⟨s2, f2, hc, hf2, hstep⟩ := done_ender st f tgt h b (.inl hb)
  exact ⟨s2, fS f2, hc, FOK_fS' f2, fun l => by rw [hstep l]; exact step_ws s2 f2 b l (hc.mode.trans hm) hf2 hb⟩

theorem done_ws (st : St) (f : Fast) (tgt : St) (h : DoneV st f tgt) (hm : tgt.mode = .value) (b : UInt8) (r : Bytes)
    (hb : isWsB b = true) (p : Pos) :
    ∃ s2 f2 p2, runBytes refTables {} st f p (b :: r) = runBytes refTables {} s2 f2 p2 (skipWs (b :: r)) ∧
      CoreEq s2 tgt ∧ FOK f2 := by
  obtain ⟨s2, f2, hc2, hf2, hstep⟩ := done_step_ws st f tgt h hm b hb
  obtain ⟨f3, p3, hrun, hf3⟩ := skipWs_run r s2 f2 (p.next (decide (b = 10))) (hc2.mode.trans hm) hf2
  refine ⟨s2, f3, p3, ?_, hc2, hf3⟩
  rw [runBytes_cons_ok {} hstep]
  simp only [skipWs, hb, ↓reduceIte]
  exact hrun

/-- what follows a value in a layout: white space (the value is completed and the white space skipped), or none —
which the layout allows after a container (`sep = false`: the state is complete) and in front of the closing bracket
(`more = false`: the state may stay pending) -/
theorem lay_sep (st : St) (f : Fast) (tgt : St) (h : DoneV st f tgt) (hm : tgt.mode = .value) (r : Bytes) (p : Pos)
    (sep more : Bool) (hcnd : (sep && !headWs r && more) = false) (hcomp : sep = false → CoreEq st tgt ∧ FOK f) :
    ∃ s2 f2 p2, runBytes refTables {} st f p r = runBytes refTables {} s2 f2 p2 (skipWs r) ∧ DoneV s2 f2 tgt ∧
      (more = true → CoreEq s2 tgt ∧ FOK f2) := by
  cases hw : headWs r with
  | true =>
    cases r with
    | nil => cases hw
    | cons b r' =>
      obtain ⟨s2, f2, p2, hrun, hc, hf2⟩ := done_ws st f tgt h hm b r' hw p
      exact ⟨s2, f2, p2, hrun, .complete hc hf2, fun _ => ⟨hc, hf2⟩⟩
  | false =>
    rw [skipWs_of_not_head r hw]
    refine ⟨st, f, p, rfl, h, fun hmore => hcomp ?_⟩
    rw [hw, hmore] at hcnd
    simpa using hcnd

/-! The three claims of Props/C10TreeBase.lean for a text `t` with `lay… t = some r` in place of the tight text: a value
inside a container (`LV`), the elements up to and including `]` (`LE`), the members up to and including `}` (`LM`). `tgt` is the
state in which the previous element or member is complete. The machine may lag behind it by a pending token or number
(`DoneV st f tgt`) only in front of the closing bracket: in front of an element or a member name the layout has put
white space, or the last byte of a container, and the state is complete (the third hypothesis of `LE` and `LM`).
In `LE` and `LM` the container is open in `tgt`: `outer` is the `starts` of what encloses it and `below` the stack under
it. For an array the head of `starts` is `some i`, where `i = below.length` is the height at which `step_openArr` put the
mark (`splitStack` cuts there when `]` comes), and `acc`, the elements already complete, lie on the stack above the mark;
for an object the head is `none` (`step_openObj`) and `acc` are the members gathered so far in the `.obj` on top. -/

def LV (o : WOpts) (v : JV) : Prop :=
  ∀ (t r : Bytes) (st : St) (f : Fast) (p : Pos), layVal o v t = some r → st.mode = .value → st.plus = false → Inner st →
    FOK f →
    ∃ st' f' p', runBytes refTables {} st f p t = runBytes refTables {} st' f' p' r ∧
      DoneV st' f' (st.pushed (nvVal o v)) ∧ (needSep v = false → CoreEq st' (st.pushed (nvVal o v)) ∧ FOK f')

def LE (o : WOpts) (xs : List JV) : Prop :=
  ∀ (t r : Bytes) (st : St) (f : Fast) (p : Pos) (acc : List JV) (i : Nat) (outer : List (Option Nat))
    (below : List Item) (tgt : St),
    layElems o xs t = some r → DoneV st f tgt → (xs ≠ [] → CoreEq st tgt ∧ FOK f) →
    tgt.mode = .value → tgt.plus = false → tgt.starts = some i :: outer →
    tgt.stack = (acc.reverse.map Item.val) ++ Item.arrMark :: below → i = below.length →
    ValPos ({ tgt with starts := outer, stack := below } : St) →
    ∃ st' f' p', runBytes refTables {} st f p t = runBytes refTables {} st' f' p' r ∧
      CoreEq st' (({ tgt with starts := outer, stack := below } : St).pushed (.arr (acc ++ nvElems o xs))) ∧ FOK f'

def LM (o : WOpts) (kvs : List (Bytes × JV)) : Prop :=
  ∀ (t r : Bytes) (st : St) (f : Fast) (p : Pos) (acc : List (Bytes × JV)) (outer : List (Option Nat))
    (below : List Item) (tgt : St),
    layMembers o kvs t = some r → DoneV st f tgt → (allOmitted o kvs = false → CoreEq st tgt ∧ FOK f) →
    tgt.mode = .value → tgt.plus = false → tgt.starts = none :: outer → tgt.stack = .obj acc :: below →
    ValPos ({ tgt with starts := outer, stack := below } : St) →
    ∃ st' f' p', runBytes refTables {} st f p t = runBytes refTables {} st' f' p' r ∧
      CoreEq st' (({ tgt with starts := outer, stack := below } : St).pushed (.obj (nvMembers o kvs acc))) ∧ FOK f'

theorem adm_written {o : WOpts} {k : Bytes} {v : JV} (h : omitted o v = true ∨ (¬ C10.leadingSign k o.html ∧ admVal o v))
    (hom : omitted o v = false) : ¬ C10.leadingSign k o.html ∧ admVal o v :=
  h.resolve_left (by rw [hom]; exact Bool.false_ne_true)

section claims
variable (o : WOpts)

theorem LE_nil : LE o [] := by
  intro t r st f p acc i outer below tgt h hdone _ tm tp ts tk hi hv
  obtain rfl := layElems_nil_some h
  obtain ⟨s2, f2, ⟨c1, c2, c3, c4, c5⟩, hf2, hstep⟩ := done_ender st f _ hdone 93 (.inr (.inl rfl))
  subst hi
  have hsp : splitStack s2.stack below.length = some (acc, .arrMark, below) := by
    rw [c3, tk]; exact splitStack_arr acc below
  have hv2 : ValPos ({ s2 with starts := outer, stack := below } : St) := hv.congr rfl rfl
  have hh := fun l => step_closeArr s2 f2 l (c1.trans tm) hf2 below.length outer (c2.trans ts) acc .arrMark below hsp hv2
  refine ⟨_, fS f2, p.next false, runBytes_step s2 f2 hstep hh, ?_, FOK_fS' f2⟩
  simp only [nvElems, List.append_nil]
  exact pushed_coreV _ _ _ hv2 rfl rfl c4 c5

theorem LE_cons (x : JV) (xs : List JV) (hV : LV o x) (hE : LE o xs) : LE o (x :: xs) := by
  intro t r st f p acc i outer below tgt h hdone hcomp tm tp ts tk hi hv
  obtain ⟨⟨c1, c2, c3, c4, c5⟩, hf⟩ := hcomp (by simp)
  obtain ⟨r1, hlv, hcnd, hrest⟩ := layElems_cons_some h
  have hs2 : st.starts = some i :: outer := c2.trans ts
  obtain ⟨st1, f1, p1, hrun1, hdone1, hcomp1⟩ := hV t r1 st f p hlv (c1.trans tm) (c5.trans tp) (Or.inl ⟨i, outer, hs2⟩) hf
  obtain ⟨pm, pst, psk, pdc, ppl⟩ := pushed_arr st (nvVal o x) i outer hs2
  obtain ⟨s2, f2, p2, hrun2, hdone2, hcomp2⟩ := lay_sep st1 f1 _ hdone1 pm r1 p1 _ _ hcnd hcomp1
  have hv2 : ValPos ({ st.pushed (nvVal o x) with starts := outer, stack := below } : St) := hv.congr rfl rfl
  obtain ⟨st3, f3, p3, hrun3, hc3, hf3⟩ := hE (skipWs r1) r s2 f2 p2 (acc ++ [nvVal o x]) i outer below (st.pushed (nvVal o x))
    hrest hdone2 (fun hne => hcomp2 (by simpa using hne)) pm (by rw [ppl, c5, tp]) pst (by rw [psk, c3, tk]; simp) hi hv2
  refine ⟨st3, f3, p3, by rw [hrun1, hrun2, hrun3], hc3.trans' ?_, hf3⟩
  rw [show acc ++ [nvVal o x] ++ nvElems o xs = acc ++ nvElems o (x :: xs) by simp [nvElems]]
  exact pushed_coreV _ _ _ hv2 rfl rfl (pdc.trans c4) (ppl.trans c5)

theorem LM_nil : LM o [] := by
  intro t r st f p acc outer below tgt h hdone _ tm tp ts tk hv
  obtain rfl := layMembers_nil_some h
  obtain ⟨s2, f2, ⟨c1, c2, c3, c4, c5⟩, hf2, hstep⟩ := done_ender st f _ hdone 125 (.inr (.inr rfl))
  have hv2 : ValPos ({ s2 with starts := outer, stack := below } : St) := hv.congr rfl rfl
  have hh := fun l => step_closeObj s2 f2 l (c1.trans tm) hf2 outer (c2.trans ts) acc below (c3.trans tk) hv2
  refine ⟨_, fS f2, p.next false, runBytes_step s2 f2 hstep hh, ?_, FOK_fS' f2⟩
  simp only [nvMembers]
  exact pushed_coreV _ _ _ hv2 rfl rfl c4 c5

theorem LM_cons (k : Bytes) (v : JV) (kvs : List (Bytes × JV)) (hM : LM o kvs) (hV : admVal o v → LV o v)
    (hadm : omitted o v = true ∨ (¬ C10.leadingSign k o.html ∧ admVal o v)) : LM o ((k, v) :: kvs) := by
  intro t r st f p acc outer below tgt h hdone hcomp tm tp ts tk hv
  cases hom : omitted o v with
  | true =>
    rw [layMembers_omit o k v kvs t hom] at h
    simp only [allOmitted, hom, Bool.true_and] at hcomp
    simp only [nvMembers, hom, ↓reduceIte]
    exact hM t r st f p acc outer below tgt h hdone hcomp tm tp ts tk hv
  | false =>
    obtain ⟨hkey, ha⟩ := adm_written hadm hom
    obtain ⟨⟨a1, a2, a3, a4, a5⟩, _⟩ := hcomp (by simp [allOmitted, hom])
    simp only [nvMembers, hom, Bool.false_eq_true, ↓reduceIte]
    obtain ⟨r2, r3, rfl, hlv, hcnd, hrest⟩ := layMembers_cons_some hom h
    obtain ⟨sB, fB, pB, hrunB, bm, bs, bk, bd, bp, hfB⟩ := key_run o.html k st f p r2 (a1.trans tm) (a5.trans tp) outer
      (a2.trans ts) acc below (a3.trans tk) hkey
    obtain ⟨fB2, pB2, hrunB2, hfB2⟩ := skipWs_run r2 sB fB pB bm hfB
    obtain ⟨sC, fC, pC, hrunC, hdoneC, hcompC⟩ := hV ha (skipWs r2) r3 sB fB2 pB2 hlv bm bp
      (Or.inr ⟨outer, sanitize k, acc, below, bs, bk⟩) hfB2
    obtain ⟨qm, qs, qk, qd, qp⟩ := pushed_objVal sB (nvVal o v) outer (sanitize k) acc below bs bk
    obtain ⟨sD, fD, pD, hrunD, hdoneD, hcompD⟩ := lay_sep sC fC _ hdoneC qm r3 pC _ _ hcnd hcompC
    have hvB : ValPos ({ sB.pushed (nvVal o v) with starts := outer, stack := below } : St) := hv.congr rfl rfl
    obtain ⟨sE, fE, pE, hrunE, hcE, hfE⟩ := hM (skipWs r3) r sD fD pD (kvInsert (sanitize k) (nvVal o v) acc) outer below
      (sB.pushed (nvVal o v)) hrest hdoneD (fun hne => hcompD (by simp [hne])) qm (qp.trans bp) qs qk hvB
    exact ⟨sE, fE, pE, by rw [hrunB, hrunB2, hrunC, hrunD, hrunE],
      hcE.trans' (pushed_coreV _ _ _ hvB rfl rfl ((qd.trans bd).trans a4) ((qp.trans bp).trans tp.symm)), hfE⟩

theorem lay_arr (xs : List JV) (hE : LE o xs) (t r : Bytes) (st : St) (f : Fast) (p : Pos)
    (h : layVal o (.arr xs) t = some r) (hm : st.mode = .value) (hp : st.plus = false) (hv : ValPos st) (hf : FOK f) :
    ∃ st' f' p', runBytes refTables {} st f p t = runBytes refTables {} st' f' p' r ∧
      CoreEq st' (st.pushed (nvVal o (.arr xs))) ∧ FOK f' := by
  obtain ⟨t', rfl, h⟩ := layVal_arr o h
  let s1 : St := { st with mode := .value, starts := some st.stack.length :: st.starts, stack := .arrMark :: st.stack }
  have hv1 : ValPos ({ s1 with starts := st.starts, stack := st.stack } : St) := hv.congr rfl rfl
  obtain ⟨f2, p2, hrun2, hf2⟩ := skipWs_run t' s1 (fS f) (p.next false) rfl (FOK_fS' f)
  obtain ⟨st', f', p', hrun, hc, hf'⟩ := hE (skipWs t') r s1 f2 p2 [] st.stack.length st.starts st.stack s1 h
    (.complete (.rfl' s1) hf2) (fun _ => ⟨CoreEq.rfl' s1, hf2⟩) rfl hp rfl (by simp [s1]) rfl hv1
  refine ⟨st', f', p', ?_, hc.trans' (pushed_coreV _ _ _ hv1 rfl rfl rfl rfl), hf'⟩
  rw [runBytes_cons_ok {} (fun l => step_openArr st f l hm hf.1 hv.starts_or_stack), hrun2]
  exact hrun

theorem lay_obj (kvs : List (Bytes × JV)) (hM : LM o kvs) (t r : Bytes) (st : St) (f : Fast) (p : Pos)
    (h : layVal o (.obj kvs) t = some r) (hm : st.mode = .value) (hp : st.plus = false) (hv : ValPos st) (hf : FOK f) :
    ∃ st' f' p', runBytes refTables {} st f p t = runBytes refTables {} st' f' p' r ∧
      CoreEq st' (st.pushed (nvVal o (.obj kvs))) ∧ FOK f' := by
  obtain ⟨t', rfl, h⟩ := layVal_obj o h
  let s1 : St := { st with mode := .value, starts := none :: st.starts, stack := .obj [] :: st.stack }
  have hv1 : ValPos ({ s1 with starts := st.starts, stack := st.stack } : St) := hv.congr rfl rfl
  obtain ⟨f2, p2, hrun2, hf2⟩ := skipWs_run t' s1 (fS f) (p.next false) rfl (FOK_fS' f)
  obtain ⟨st', f', p', hrun, hc, hf'⟩ := hM (skipWs t') r s1 f2 p2 [] st.starts st.stack s1 h
    (.complete (.rfl' s1) hf2) (fun _ => ⟨CoreEq.rfl' s1, hf2⟩) rfl hp rfl rfl hv1
  refine ⟨st', f', p', ?_, hc.trans' (pushed_coreV _ _ _ hv1 rfl rfl rfl rfl), hf'⟩
  rw [runBytes_cons_ok {} (fun l => step_openObj st f l hm hf.1 hv.starts_or_stack), hrun2]
  exact hrun

theorem LV_arr (xs : List JV) (hE : LE o xs) : LV o (.arr xs) := by
  intro t r st f p h hm hp hin hf
  obtain ⟨st', f', p', hrun, hc, hf'⟩ := lay_arr o xs hE t r st f p h hm hp hin.valPos hf
  exact ⟨st', f', p', hrun, .complete hc hf', fun _ => ⟨hc, hf'⟩⟩

theorem LV_obj (kvs : List (Bytes × JV)) (hM : LM o kvs) : LV o (.obj kvs) := by
  intro t r st f p h hm hp hin hf
  obtain ⟨st', f', p', hrun, hc, hf'⟩ := lay_obj o kvs hM t r st f p h hm hp hin.valPos hf
  exact ⟨st', f', p', hrun, .complete hc hf', fun _ => ⟨hc, hf'⟩⟩

theorem LV_scalar (v : JV) (hadm : admVal o v) (hs : needSep v = true) : LV o v := by
  intro t r st f p h hm hp hin hf
  rw [layVal_scalar o v hs] at h
  rw [stripPrefix_some _ _ _ h]
  exact V_scalar o v hadm hs st f p r hm hp hin hf

theorem lay_claims : (∀ v, admVal o v → LV o v) ∧ (∀ xs, admElems o xs → LE o xs) ∧ (∀ kvs, admMembers o kvs → LM o kvs) :=
  tree_ind (fun v hs hadm => LV_scalar o v hadm hs) (fun xs ih hadm => LV_arr o xs (ih hadm))
    (fun kvs ih hadm => LV_obj o kvs (ih hadm)) (fun _ => LE_nil o)
    (fun x r ihV ihE hadm => LE_cons o x r (ihV hadm.1) (ihE hadm.2)) (fun _ => LM_nil o)
    (fun k v r ihV ihM hadm => LM_cons o k v r (ihM hadm.2) ihV hadm.1)

theorem claimsL_all : ∀ n : Nat,
    (∀ v, jsz v ≤ n → admVal o v → LV o v) ∧
    (∀ xs, jszE xs ≤ n → admElems o xs → LE o xs) ∧
    (∀ kvs, jszM kvs ≤ n → admMembers o kvs → LM o kvs) :=
  claims_bounded (lay_claims o)

end claims

/-- **C10 for every white-space layout**: a text that is a layout (`isLayout`) of an array or object `v` of the class
`admVal` is read back by `sen.Parser.Parse` as the one document `nvVal o v` — whatever rule chose the white space -/
theorem C10_anylayout_partial (o : WOpts) (v : JV) (t : Bytes) (hc : (∃ xs, v = .arr xs) ∨ (∃ kvs, v = .obj kvs))
    (hadm : admVal o v) (hl : isLayout o v t = true) : C10.parsesTo t (nvVal o v) := by
  have hlv := (isLayout_iff o v t).1 hl
  -- the run from the fresh parser: the container is a value at the top
  have hrun : ∃ st' f' p', runBytes refTables {} {} {} {} t = runBytes refTables {} st' f' p' [] ∧
      CoreEq st' (({} : St).pushed (nvVal o v)) ∧ FOK f' := by
    rcases hc with ⟨xs, rfl⟩ | ⟨kvs, rfl⟩
    · exact lay_arr o xs ((lay_claims o).2.1 xs hadm) t [] {} {} {} hlv rfl rfl (Or.inl ⟨rfl, rfl⟩) ⟨rfl, rfl⟩
    · exact lay_obj o kvs ((lay_claims o).2.2 kvs hadm) t [] {} {} {} hlv rfl rfl (Or.inl ⟨rfl, rfl⟩) ⟨rfl, rfl⟩
  obtain ⟨st', f', p', hrun, hc', hf'⟩ := hrun
  have hbom : Json.bomRule t = .keep := by
    rcases hc with ⟨xs, rfl⟩ | ⟨kvs, rfl⟩
    · obtain ⟨t', ht, _⟩ := layVal_arr o hlv
      exact ht ▸ C10.bomRule_keep_head 91 t' (by decide)
    · obtain ⟨t', ht, _⟩ := layVal_obj o hlv
      exact ht ▸ C10.bomRule_keep_head 123 t' (by decide)
  exact parsesTo_of_done t _ hbom st' f' p' hrun (.complete hc' hf')

/-- plain trees come back as themselves under every layout -/
theorem C10_anylayout_valid (o : WOpts) (v : JV) (t : Bytes) (hc : (∃ xs, v = .arr xs) ∨ (∃ kvs, v = .obj kvs))
    (hadm : admVal o v) (hplain : plainVal o v) (hl : isLayout o v t = true) : C10.parsesTo t v := by
  have h := C10_anylayout_partial o v t hc hadm hl
  rwa [nvVal_plain o v hplain] at h

/-- non-vacuity: three layouts `pretty.SEN` produces for `[1 {k: true n: [x y]} []]` (flat; one member per line
with aligned values; mixed), and the tight and the indented text of `sen.Writer` are layouts too -/
example : let v : JV := .arr [.int 1, .obj [([107], .bool true), ([110, 110], .arr [.str [120], .str [121]])], .arr []]
    isLayout {} v "[1 {k: true nn: [x y]} []]".toUTF8.toList = true ∧
    isLayout {} v "[\n  1\n  {\n    k:  true\n    nn: [x y]\n  }\n  []\n]".toUTF8.toList = true ∧
    isLayout {} v "[1 {k: true, nn: [\n x\r\n\ty]}[]]".toUTF8.toList = true ∧
    isLayout {} v (tightVal {} v) = true ∧ isLayout {} v (indentVal {} { indent := 3 } 0 v) = true ∧
    -- not layouts: a scalar glued to the next element, a missing member, another order
    isLayout {} v "[1{k: true nn: [x y]} []]".toUTF8.toList = false ∧
    isLayout {} v "[1 {k: true} []]".toUTF8.toList = false := by
  decide +kernel

example : C10.parsesTo "[1 {k: true, nn: [\n x\r\n\ty]}[]]".toUTF8.toList
    (nvVal {} (.arr [.int 1, .obj [([107], .bool true), ([110, 110], .arr [.str [120], .str [121]])], .arr []])) := by
  apply C10_anylayout_partial {} _ _ (Or.inl ⟨_, rfl⟩)
  · simp only [admVal, admElems, admMembers, omitted, C10.reservedWord, C10.leadingSign]
    decide +kernel
  · decide +kernel

/-- `t` begins with a byte that is not white space -/
def HeadNW (t : Bytes) : Prop := ∃ b r, t = b :: r ∧ isWsB b = false

theorem HeadNW.append {t : Bytes} (h : HeadNW t) (r : Bytes) : HeadNW (t ++ r) := by
  obtain ⟨b, r', rfl, hb⟩ := h
  exact ⟨b, r' ++ r, rfl, hb⟩

theorem skipWs_headNW {t : Bytes} (h : HeadNW t) : skipWs t = t ∧ headWs t = false := by
  obtain ⟨b, r, rfl, hb⟩ := h
  simp [skipWs, headWs, hb]

theorem skipWs_blank {t : Bytes} (h : HeadNW t) (w : Bytes) (hw : w = [] ∨ w = [32]) : skipWs (w ++ t) = t := by
  rcases hw with rfl | rfl
  · exact (skipWs_headNW h).1
  · simpa [skipWs, isWsB] using (skipWs_headNW h).1

theorem ws_class (b : UInt8) (h : isWsB b = true) : senClass b ≠ cO ∧ senClass b ≠ c8 ∧ senClass b ≠ cH := by
  rcases isWsB_cases b h with rfl | rfl | rfl | rfl | rfl <;> decide +kernel

theorem senString_head (s : Bytes) (html : Bool) : HeadNW (senString s html) := by
  rcases C10.quoted_or_bare s html with hq | ⟨hne, hqf⟩
  · exact ⟨34, _, hq, by decide⟩
  · obtain ⟨hss, _, _, b, t, hbt, hc⟩ := C10.bare_facts s html hne hqf
    refine ⟨b, t, hss.trans hbt, ?_⟩
    cases hw : isWsB b with
    | false => rfl
    | true =>
      obtain ⟨h1, h2, h3⟩ := ws_class b hw
      exact (hc.elim h1 (·.elim h2 h3)).elim

def NumHead (t : Bytes) : Prop := ∃ b r, t = b :: r ∧ (b = 45 ∨ Json.Spec.isDigit b = true)

theorem NumHead.nw {t : Bytes} (h : NumHead t) : HeadNW t := by
  obtain ⟨b, r, rfl, hb⟩ := h
  refine ⟨b, r, rfl, ?_⟩
  cases hw : isWsB b with
  | false => rfl
  | true => rcases isWsB_cases b hw with rfl | rfl | rfl | rfl | rfl <;> revert hb <;> decide

theorem fmtInt_numHead (i : Int) : NumHead (fmtInt i) := by
  obtain ⟨d, ds, he, hds, h0, h19⟩ := Writer.fmtNat_shape i.natAbs
  rw [fmtNat_eq] at he
  by_cases hneg : i < 0
  · exact ⟨45, d :: ds, by simp [fmtInt, hneg, he], Or.inl rfl⟩
  · refine ⟨d, ds, by simp [fmtInt, hneg, he], Or.inr ?_⟩
    by_cases hz : i.natAbs = 0
    · rw [(h0 hz).1]; rfl
    · exact isDigit19_isDigit' d (h19 (by omega))

theorem numAdm_numHead (t : Bytes) (h : NumAdm t) : NumHead t := by
  obtain ⟨⟨s, ip, fo, eo⟩, hw, hl, hb, rfl⟩ := h
  simp only at hl
  cases s with
  | true => exact ⟨45, ip ++ (Json.fracTxt fo ++ Json.expTxt eo), by simp [render, Json.sgnTxt], Or.inl rfl⟩
  | false =>
    rcases hl with rfl | ⟨d, ds, rfl, hd⟩
    · exact ⟨48, Json.fracTxt fo ++ Json.expTxt eo, by simp [render, Json.sgnTxt], Or.inr rfl⟩
    · exact ⟨d, ds ++ (Json.fracTxt fo ++ Json.expTxt eo), by simp [render, Json.sgnTxt], Or.inr (isDigit19_isDigit' d hd)⟩

theorem tightVal_head (o : WOpts) (v : JV) (hadm : admVal o v) : HeadNW (tightVal o v) := by
  cases v with
  | null => exact ⟨110, _, rfl, by decide⟩
  | bool b => cases b <;> exact ⟨_, _, rfl, by decide⟩
  | int i => exact (fmtInt_numHead i).nw
  | flt t => exact (numAdm_numHead t hadm).nw
  | big t => exact absurd hadm (by simp [admVal])
  | num t => exact absurd hadm (by simp [admVal])
  | str s => exact senString_head s o.html
  | arr xs => exact ⟨91, tightElems o xs, by simp [tightVal], by decide⟩
  | obj kvs => exact ⟨123, tightMembers o kvs true, by simp [tightVal], by decide⟩

theorem tightElems_head (o : WOpts) (xs : List JV) (hadm : admElems o xs) : HeadNW (tightElems o xs) := by
  cases xs with
  | nil => exact ⟨93, [], rfl, by decide⟩
  | cons x r => rw [tightElems_cons]; exact (tightVal_head o x hadm.1).append _

theorem tightMembers_follow (o : WOpts) : ∀ (kvs : List (Bytes × JV)), allOmitted o kvs = false →
    ∃ T, tightMembers o kvs false = 32 :: T := by
  intro kvs
  induction kvs with
  | nil => intro h; simp [allOmitted] at h
  | cons kv r ih =>
    obtain ⟨k, v⟩ := kv
    intro h
    cases hom : omitted o v with
    | true =>
      simp only [allOmitted, hom, Bool.true_and] at h
      obtain ⟨T, hT⟩ := ih h
      exact ⟨T, by simp [tightMembers, hom, hT]⟩
    | false => exact ⟨senString k o.html ++ 58 :: (tightVal o v ++ tightMembers o r false), by simp [tightMembers, hom]⟩

theorem tightMembers_allOmitted (o : WOpts) : ∀ (kvs : List (Bytes × JV)) (first : Bool), allOmitted o kvs = true →
    tightMembers o kvs first = [125] := by
  intro kvs
  induction kvs with
  | nil => intro first _; simp [tightMembers]
  | cons kv r ih =>
    obtain ⟨k, v⟩ := kv
    intro first h
    simp only [allOmitted, Bool.and_eq_true] at h
    simp [tightMembers, h.1, ih first h.2]

/-- the tight text, followed by anything, is a layout that leaves what follows. The members stand behind `skipWs` (and for
both values of `first`): in front of a member that is not the first the writer has put a blank, which `layVal` has passed
behind `{` or behind the value in front of it -/
def TV (o : WOpts) (v : JV) : Prop := ∀ rest, layVal o v (tightVal o v ++ rest) = some rest
def TE (o : WOpts) (xs : List JV) : Prop := ∀ rest, layElems o xs (tightElems o xs ++ rest) = some rest
def TM (o : WOpts) (kvs : List (Bytes × JV)) : Prop :=
  ∀ first rest, layMembers o kvs (skipWs (tightMembers o kvs first ++ rest)) = some rest

section tight
variable (o : WOpts)

theorem TV_scalar (v : JV) (hs : needSep v = true) : TV o v := by
  intro rest
  rw [layVal_scalar o v hs, stripPrefix_append]

theorem TE_nil : TE o [] := by
  intro rest
  simp [tightElems, layElems]

theorem TE_cons (x : JV) (r : List JV) (hr : admElems o r) (hV : TV o x) (hE : TE o r) : TE o (x :: r) := by
  intro rest
  rw [tightElems_cons, List.append_assoc, List.append_assoc,
    layElems_cons o x r _ _ (hV _) (fun hn hne => by cases r with | nil => exact absurd rfl hne | cons _ _ => rw [hn]; rfl),
    skipWs_blank ((tightElems_head o r hr).append rest) _ (by cases needSep x <;> cases r <;> simp)]
  exact hE rest

theorem TM_nil : TM o [] := by
  intro first rest
  simp [tightMembers, layMembers, skipWs, isWsB]

theorem TM_cons (k : Bytes) (v : JV) (r : List (Bytes × JV)) (hV : admVal o v → TV o v)
    (hadm : omitted o v = true ∨ (¬ C10.leadingSign k o.html ∧ admVal o v)) (hM : TM o r) : TM o ((k, v) :: r) := by
  intro first rest
  cases hom : omitted o v with
  | true =>
    rw [layMembers_omit o k v r _ hom, show tightMembers o ((k, v) :: r) first = tightMembers o r first by simp [tightMembers, hom]]
    exact hM first rest
  | false =>
    have ha := (adm_written hadm hom).2
    have e : tightMembers o ((k, v) :: r) first ++ rest =
        (if first then [] else [32]) ++ (senString k o.html ++ 58 :: (tightVal o v ++ (tightMembers o r false ++ rest))) := by
      simp [tightMembers, hom, List.append_assoc]
    rw [e, skipWs_blank ((senString_head k o.html).append _) _ (by cases first <;> simp),
      layMembers_cons o k v r _ _ hom
        (by rw [(skipWs_headNW ((tightVal_head o v ha).append _)).1]; exact hV ha _)
        (fun _ hall => by obtain ⟨T, hT⟩ := tightMembers_follow o r hall; rw [hT]; rfl)]
    exact hM false rest

theorem TV_arr (xs : List JV) (hadm : admElems o xs) (hE : TE o xs) : TV o (.arr xs) := by
  intro rest
  have hh := (tightElems_head o xs hadm).append rest
  have e : tightVal o (.arr xs) ++ rest = 91 :: (tightElems o xs ++ rest) := by simp [tightVal]
  rw [e]
  simp only [layVal, ↓reduceIte, (skipWs_headNW hh).1]
  exact hE rest

theorem TV_obj (kvs : List (Bytes × JV)) (hM : TM o kvs) : TV o (.obj kvs) := by
  intro rest
  have e : tightVal o (.obj kvs) ++ rest = 123 :: (tightMembers o kvs true ++ rest) := by simp [tightVal]
  rw [e]
  simp only [layVal, ↓reduceIte]
  exact hM true rest

theorem tight_lay : (∀ v, admVal o v → TV o v) ∧ (∀ xs, admElems o xs → TE o xs) ∧ (∀ kvs, admMembers o kvs → TM o kvs) :=
  tree_ind (fun v hs _ => TV_scalar o v hs) (fun xs ih hadm => TV_arr o xs hadm (ih hadm))
    (fun kvs ih hadm => TV_obj o kvs (ih hadm)) (fun _ => TE_nil o)
    (fun x r ihV ihE hadm => TE_cons o x r hadm.2 (ihV hadm.1) (ihE hadm.2)) (fun _ => TM_nil o)
    (fun k v r ihV ihM hadm => TM_cons o k v r ihV hadm.1 (ihM hadm.2))

end tight

theorem tight_isLayout (o : WOpts) (v : JV) (hadm : admVal o v) : isLayout o v (tightVal o v) = true := by
  rw [isLayout_iff, ← (tight_lay o).1 v hadm [], List.append_nil]

end OjgVerif.Sen
