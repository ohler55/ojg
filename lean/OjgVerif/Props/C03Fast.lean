import OjgVerif.Json.FastChunks
import OjgVerif.Props.C03
/-! # C03 for the parsers (oj.ParseReader, gen.Parser.ParseReader: integer fast loop on)

`C03.chunks_irrelevant` is chunk independence for the front-ends without the integer fast loop, and
`C03.chunks_irrelevant_full_false` shows the statement false for the parsers (known finding
C03-int19). Between the two: for the PARSERS the outcome — documents with
their values, or the error with its position — is independent of the chunking on every input and
chunking on which no digit reaches the fast loop while the accumulator equals `BigLimit` exactly,
i.e. everywhere except where the known finding shows. The hypothesis is executable (`noHitCallB`). -/
namespace OjgVerif.C03
open OjgVerif.Json

theorem oj_parser_is_bytewise (rd : Bool) (chunks : List Bytes) (h : NoHitCall rd chunks) :
    run ojTables (cfgParser rd) chunks = run ojTables (cfgBytewise rd) chunks := by
  rw [C01.oj_is_reference, C01.oj_is_reference]; exact run_fast_eq_slow rd chunks h

theorem gen_parser_is_bytewise (rd : Bool) (chunks : List Bytes) (h : NoHitCall rd chunks) :
    run genTables (cfgParser rd) chunks = run genTables (cfgBytewise rd) chunks := by
  rw [C01.gen_is_reference, C01.gen_is_reference]; exact run_fast_eq_slow rd chunks h

/-- **Chunk independence for the parsers**, with the exact exclusion of known finding C03-int19. -/
theorem oj_parser_chunks_irrelevant (chunks : List Bytes)
    (h1 : NoHitCall true chunks) (h2 : NoHitCall true [chunks.flatten]) :
    run ojTables (cfgParser true) chunks = run ojTables (cfgParser true) [chunks.flatten] := by
  rw [oj_parser_is_bytewise true chunks h1, oj_parser_is_bytewise true [chunks.flatten] h2]
  exact chunks_irrelevant ojTables (cfgBytewise true) rfl rfl chunks

theorem gen_parser_chunks_irrelevant (chunks : List Bytes)
    (h1 : NoHitCall true chunks) (h2 : NoHitCall true [chunks.flatten]) :
    run genTables (cfgParser true) chunks = run genTables (cfgParser true) [chunks.flatten] := by
  rw [gen_parser_is_bytewise true chunks h1, gen_parser_is_bytewise true [chunks.flatten] h2]
  exact chunks_irrelevant genTables (cfgBytewise true) rfl rfl chunks

/-- non-vacuity: a document with 19- and 22-digit numbers cut inside tokens and inside the BOM meets
both hypotheses -/
example : NoHitCall true [[0xEF], [0xBB, 0xBF, 91, 49], "23,-4.5e".toUTF8.toList,
      "3,92233720368547757".toUTF8.toList, "99,1234567890123456789012]".toUTF8.toList] ∧
    NoHitCall true [([[0xEF], [0xBB, 0xBF, 91, 49], "23,-4.5e".toUTF8.toList,
      "3,92233720368547757".toUTF8.toList, "99,1234567890123456789012]".toUTF8.toList] : List Bytes).flatten] :=
  ⟨noHitCall_of_B _ _ (by decide +kernel), noHitCall_of_B _ _ (by decide +kernel)⟩

/-- … and the known finding's witness does not: `9223372036854775807` in one piece is a hit -/
example : noHitCallB true [lit19] = false := by decide +kernel

/-- … while cut after the first digit it is not (the loop ends at the buffer boundary), which is why
the two chunkings differ (`chunks_irrelevant_full_false`) -/
example : noHitCallB true [[57], lit19.tail] = true := by decide +kernel

end OjgVerif.C03
