import OjgVerif.Json.Lemmas
import OjgVerif.Json.Driver
import OjgVerif.Props.C01
/-! # C03 — all parsing front-ends agree, however the input is chunked (model level)

`run T cfg chunks` is the model of one entry-point call whose reader delivers `chunks`.
* `chunks_irrelevant`: for a front-end without the parsers' integer fast loop (oj.Tokenizer,
  oj.Validator) the outcome depends only on the concatenation of the chunks — including the BOM
  top-up rule of the reader entry points.
* `frontends_agree`: the oj and gen table sets give the same outcome.
* `chunks_irrelevant_full_false`: with the parsers' integer fast loop the statement is FALSE
  (known findings C02-int19 / C03-int19); the witness is replayed against the Go code by the check. -/
namespace OjgVerif.C03
open OjgVerif.Json

variable (T : Tables) (cfg : Cfg)

theorem runBytes_append (s : St) (a b : Bytes) :
    runBytes T cfg s (a ++ b) =
      match runBytes T cfg s a with
      | .error e => .error e
      | .ok s' => runBytes T cfg s' b := by
  induction a generalizing s with
  | nil => rfl
  | cons x r ih =>
    simp only [List.cons_append, runBytes]
    split
    · rfl
    · exact ih _

theorem runBytes_inFast (h : cfg.fastInt = false) (bs : Bytes) (s s' : St) (hs : s.inFast = false)
    (hst : runBytes T cfg s bs = .ok s') : s'.inFast = false :=
  (runBytes_preserves (P := fun s => s.inFast = false) (Q := fun _ => True)
    (fun s b hs => ⟨fun _ _ => trivial, fun s' hst => step_inFast_false cfg s s' b hst (fun _ => hs) fun _ => h⟩) bs s hs).2 s' hst

theorem runChunks_eq_join (h : cfg.fastInt = false) (cs : List Bytes) (s : St) (hs : s.inFast = false) :
    runChunks T cfg s cs = runBytes T cfg s cs.flatten := by
  induction cs generalizing s with
  | nil => rfl
  | cons c r ih =>
    simp only [runChunks, List.flatten_cons, runBytes_append]
    cases h1 : runBytes T cfg s c with
    | error e => rfl
    | ok s1 =>
      simp only
      have h2 := runBytes_inFast T cfg h c s s1 hs h1
      have : ({ s1 with inFast := false } : St) = s1 := by rw [← h2]
      rw [this]
      exact ih s1 h2

theorem topUpAux_flatten (acc : Bytes) (cs : List Bytes) : (topUpAux acc cs).flatten = acc ++ cs.flatten := by
  induction cs generalizing acc with
  | nil => simp [topUpAux]
  | cons d r ih =>
    simp only [topUpAux]
    split
    · rw [ih]; simp
    · simp

/-- the first buffer after the top-up is the whole input, or is long enough for the BOM test, or does
not start with 0xEF -/
theorem topUpAux_head (acc : Bytes) (hacc : acc ≠ []) (cs : List Bytes) :
    ∃ c rest, topUpAux acc cs = c :: rest ∧ c ≠ [] ∧ (rest = [] ∨ 4 ≤ c.length ∨ c.head? ≠ some 0xEF) := by
  induction cs generalizing acc with
  | nil => exact ⟨acc, [], rfl, hacc, Or.inl rfl⟩
  | cons d r ih =>
    simp only [topUpAux]
    split
    · exact ih _ (by simp [hacc])
    · rename_i hc
      refine ⟨acc, d :: r, rfl, hacc, Or.inr ?_⟩
      simp only [Bool.and_eq_true, decide_eq_true_eq, not_and] at hc
      by_cases hl : acc.length < 4
      · exact Or.inr (hc hl)
      · exact Or.inl (by omega)

theorem bomRuleReader_keep {c : Bytes} (h : ¬ ∃ r, c = 0xEF :: 0xBB :: 0xBF :: r) : bomRuleReader c = .keep := by
  unfold bomRuleReader
  split
  · exact absurd ⟨_, rfl⟩ h
  · rfl

/-- the reader BOM rule only looks at the first four bytes -/
theorem bomRuleReader_append (c d : Bytes) (hne : c ≠ []) (h : 4 ≤ c.length ∨ c.head? ≠ some 0xEF) :
    (match bomRuleReader c with
      | .strip r => BomRes.strip (r ++ d)
      | .keep => BomRes.keep
      | .bad => BomRes.bad) = bomRuleReader (c ++ d) := by
  by_cases hb : ∃ r, c = 0xEF :: 0xBB :: 0xBF :: r
  · -- a BOM in front: by hypothesis a fourth byte follows it
    obtain ⟨r, rfl⟩ := hb
    cases r with
    | nil => simp at h
    | cons b3 r => simp [bomRuleReader]
  · rw [bomRuleReader_keep hb, bomRuleReader_keep]
    rintro ⟨r, hr⟩
    -- a BOM in front of `c ++ d` whose first byte is in `c`: with four bytes of `c` it is in front of `c`
    rcases h with h | h
    · match c, h with
      | b0 :: b1 :: b2 :: b3 :: t, _ =>
        simp only [List.cons_append, List.cons.injEq] at hr
        exact hb ⟨b3 :: t, by rw [hr.1, hr.2.1, hr.2.2.1]⟩
    · cases c with
      | nil => exact hne rfl
      | cons b0 t =>
        simp only [List.cons_append, List.cons.injEq] at hr
        exact h (by rw [hr.1]; rfl)

theorem flatten_filter_nonempty (cs : List Bytes) : (cs.filter (!·.isEmpty)).flatten = cs.flatten := by
  induction cs with
  | nil => rfl
  | cons c r ih =>
    cases c with
    | nil => simpa using ih
    | cons b t => simp [ih]

theorem filter_nonempty_mem (cs : List Bytes) : ∀ c ∈ cs.filter (!·.isEmpty), c ≠ [] := by
  intro c hc
  have := (List.mem_filter.mp hc).2
  intro h; subst h; simp at this

theorem afterBom_eq (h : cfg.fastInt = false) (cs : List Bytes) :
    afterBom T cfg cs = afterBom T cfg [cs.flatten] := by
  unfold afterBom
  rw [runChunks_eq_join T cfg h cs {} rfl, runChunks_eq_join T cfg h [cs.flatten] {} rfl]
  simp

/-- The preparation of the reader entry points (empty reads dropped, the first read topped up, the BOM
decided) does not depend on the chunking, for ANY continuation `F` that only depends on the concatenation
of the buffers handed to it: stated once for every observation of the run. -/
theorem reader_prep {α : Type} (F : List Bytes → α) (hF : ∀ cs, F cs = F [cs.flatten])
    (e0 bad : α) (chunks : List Bytes) :
    (match topUp (chunks.filter (!·.isEmpty)) with
      | [] => e0
      | c :: rest =>
        match bomRuleReader c with
        | .bad => bad
        | .strip r => F (r :: rest)
        | .keep => F (c :: rest)) =
    (match topUp ([chunks.flatten].filter (!·.isEmpty)) with
      | [] => e0
      | c :: rest =>
        match bomRuleReader c with
        | .bad => bad
        | .strip r => F (r :: rest)
        | .keep => F (c :: rest)) := by
  cases hf : chunks.filter (!·.isEmpty) with
  | nil =>
    have : chunks.flatten = [] := by rw [← flatten_filter_nonempty, hf]; rfl
    simp [this, topUp]
  | cons c0 cs0 =>
    have hc0 : c0 ≠ [] := filter_nonempty_mem chunks c0 (by rw [hf]; exact List.mem_cons_self)
    have hfl : chunks.flatten = c0 ++ cs0.flatten := by rw [← flatten_filter_nonempty, hf]; rfl
    obtain ⟨c, rest, htop, hcne, hprop⟩ := topUpAux_head c0 hc0 cs0
    have hjoin : c ++ rest.flatten = chunks.flatten := by
      have := topUpAux_flatten c0 cs0
      rw [htop] at this
      simpa [hfl] using this
    have hne : chunks.flatten ≠ [] := by rw [← hjoin]; simp [hcne]
    have hsingle : [chunks.flatten].filter (!·.isEmpty) = [chunks.flatten] := by
      cases hx : chunks.flatten with
      | nil => exact absurd hx hne
      | cons _ _ => rfl
    simp only [hsingle, topUp, topUpAux, htop]
    rcases hprop with hrest | hprop
    · subst hrest
      simp only [List.flatten_nil, List.append_nil] at hjoin
      rw [hjoin]
    · have hb := bomRuleReader_append c rest.flatten hcne hprop
      rw [hjoin] at hb
      rw [← hb]
      cases hbr : bomRuleReader c with
      | bad => rfl
      | keep =>
        simp only
        rw [hF (c :: rest), hF [chunks.flatten]]
        simp [hjoin]
      | strip r =>
        simp only
        rw [hF (r :: rest), hF [r ++ rest.flatten]]
        simp

/-- **Chunk independence** (reader entry points, front-ends without the parsers' integer fast loop):
the outcome — documents, values, error line/column/kind — depends only on the bytes delivered, not
on how the reader splits them (1-byte reads, splits inside tokens, a BOM spread over several reads). -/
theorem chunks_irrelevant (h : cfg.fastInt = false) (hr : cfg.reader = true) (chunks : List Bytes) :
    run T cfg chunks = run T cfg [chunks.flatten] := by
  rw [run_afterBom, run_afterBom]
  simp only [hr, ↓reduceIte]
  exact reader_prep (afterBom T cfg) (afterBom_eq T cfg h) _ _ chunks

/-- the oj and gen machines give the same outcome on every input and chunking -/
theorem frontends_agree (cfg : Cfg) (chunks : List Bytes) :
    run ojTables cfg chunks = run genTables cfg chunks := C01.oj_eq_gen cfg chunks

/-- chunk independence for every configuration, including the parsers' integer fast loop -/
def chunks_irrelevant_full : Prop :=
  ∀ (cfg : Cfg) (chunks : List Bytes), cfg.reader = true →
    renderRun (run refTables cfg chunks) = renderRun (run refTables cfg [chunks.flatten])

/-- `9223372036854775807` -/
def lit19 : Bytes := [57, 50, 50, 51, 51, 55, 50, 48, 51, 54, 56, 53, 52, 55, 55, 53, 56, 48, 55]

/-- Witness: read in one piece the parser model returns the big-number text, read as `9` followed by
the other 18 digits it returns the int64. The check replays this input against oj.ParseReader. -/
theorem chunks_irrelevant_full_false : ¬ chunks_irrelevant_full := by
  intro h
  have := h { fastInt := true, reader := true } [[57], lit19.tail] rfl
  revert this
  decide +kernel

/-- non-vacuity of `chunks_irrelevant`: a configuration that meets its hypotheses (oj.Tokenizer.Load) -/
example : ({ reader := true } : Cfg).fastInt = false ∧ ({ reader := true } : Cfg).reader = true := ⟨rfl, rfl⟩

end OjgVerif.C03
