import OjgVerif.Reflect.RoundTrip
import OjgVerif.Props.C15
import OjgVerif.Props.C16
/-! # C16, title clause — Recompose inverts Decompose on values (PARTIAL: on the model, for the
fragment `rtOK`)

`Recompose(Decompose(v, o), new(T))` gives back a value deeply equal to `v`, nil and empty slices or
maps not distinguished (`norm`), for every struct type `T`, value `v` and option set `o` that satisfy
the executable side condition `rtOK o vf T v`:

* every struct type met satisfies `structOK o`: for each field, the key the encoder writes it under
  (tag name / exact name / lower-case style, under `o`) is one of the four names `recomp` tries for
  its index entry (index key, field name, first letter lowered, all lowered); no OTHER field's key
  and not the create key is among the names the decoder ACTUALLY tries for it (`triedKeys`: in the
  order of the source — the index key first —, only up to the field's own key when the field is always
  written, and, since /repo 1029e85, without the fallback spellings that are the index key of another
  field); no two fields are filed under one index key;
* integers are inside the width of their slot; arrays have their length; a pointer points to a
  scalar, container or struct (not to a pointer or interface);
* a field dropped by `omitempty` is dropped only when it is empty (that is what the encoder does) —
  the theorem shows that such a value is the zero value up to `norm`; a field that is never written
  or never read back (unexported, `json:"-"`) holds a zero value;
* NOT covered (`rtOK` is `false`; the round trip of these is only run by the harness):
  `interface{}` slots, embedded fields, the `,string` tag option in force on a FLOAT field (on bool and
  integer fields it is covered: `atoi_intText`, `asStr_tagHasString`), a `[]byte` unless `BytesAsArray`,
  `OmitNil` / `OmitEmpty` (`encode` does not read them), `NestEmbed` (finding `C16-nest-embed`).

The theorems are about the MODELS of both halves (`Reflect/Model.lean`: `encode .alt Dev.current` =
`alt.Decompose`; `Reflect/Registry.lean`: `recompose` = `alt.Recompose`), each tied to the Go code by
the correspondence run separately. -/
namespace OjgVerif.C16
open OjgVerif.Reflect

/-- the round trip through the reference tree with the ideal registry; `strict` (`oj.Marshal`) is allowed
unless the top-level type is `[]any` (whose nil value Marshal writes as null). The bound 256 on `vf`, here and
below, is the fuel `recomposePure` and `recompose` run `recompG` with; `0 < tf` because with type fuel 0 the
reference writes a struct without members (`refMembers o enc 0 = []`). -/
theorem recompose_inverts_reference (o : Opts) (tf vf : Nat) (htf : 0 < tf) (hvf : vf ≤ 256)
    (t : GoType) (v : GoVal) (hs : (o.strict && isSliceIface t) = false) (hok : rtOK o vf t v = true) :
    ∃ v', recomposePure o.createKey t (refEncode o tf vf t v) = .ok v' ∧ norm v' = norm v := by
  obtain ⟨tf', rfl⟩ : ∃ tf', tf = tf' + 1 := ⟨tf - 1, by omega⟩
  obtain ⟨v', hn, hrec⟩ := rt_core_vf o tf' vf 256 hvf true t v (by simpa using hs) hok
  refine ⟨v', ?_, hn⟩
  unfold recomposePure refEncode
  have := hrec [] none 1 (Or.inl rfl)
  show (recompG pureCF o.createKey 256 [] 1 _ t none).slot = _
  rw [this]

/-- **C16, first sentence, Decompose/Recompose, PARTIAL** — for the code as it is
(`Dev.current`): recomposing (ideal registry: every struct decoded with its own field index) the tree
`alt.Decompose(v, o)` describes gives a value equal to `v` up to nil ~ empty, on every
(type, value, options) inside `rtOK` on which the run of the encoder meets none of the live C15
exclusions (`untriggered`: for `alt` that is `UseTags` without `KeyExact`). -/
theorem recompose_inverts_decompose_partial (o : Opts) (hn : o.omitNil = false) (ho : o.omitEmpty = false)
    (hstrict : o.strict = false) (tf vf : Nat) (htf : 0 < tf) (hvf : vf ≤ 256) (t : GoType) (v : GoVal)
    (hU : untriggered .alt Dev.current o tf (planFixed o tf) vf true false t v = true)
    (hok : rtOK o vf t v = true) :
    ∃ v', recomposePure o.createKey t (encode .alt Dev.current o tf vf t v) = .ok v' ∧ norm v' = norm v := by
  rw [C15.untriggered_current_eq_reference .alt o hn ho tf vf t v hU]
  exact recompose_inverts_reference o tf vf htf hvf t v (by simp [hstrict]) hok

/-- the same on a REAL recomposer (the model of `alt.Recomposer` as it is) after ANY history of
registrations and earlier recompositions, for target types without `interface{}` slot -/
theorem recompose_inverts_decompose_any_history (o : Opts) (hn : o.omitNil = false) (ho : o.omitEmpty = false)
    (hstrict : o.strict = false) (tf vf : Nat) (htf : 0 < tf) (hvf : vf ≤ 256) (t : GoType) (v : GoVal)
    (hU : untriggered .alt Dev.current o tf (planFixed o tf) vf true false t v = true)
    (hok : rtOK o vf t v = true) (hni : noIface t = true) (h : List Event) :
    ∃ v', recompose false o.createKey (regAfter false o.createKey h) t (encode .alt Dev.current o tf vf t v) = .ok v' ∧
      norm v' = norm v := by
  rw [recompose_current_eq_pure o.createKey h t hni]
  exact recompose_inverts_decompose_partial o hn ho hstrict tf vf htf hvf t v hU hok

/-- **C16, first sentence, Decompose/Recompose, for ALL option sets of the model** (`OmitNil`,
`OmitEmpty` off): the side condition is read under `effOpts o` — the options as the code reads them:
with `UseTags` a field without a tag name is written under its exact name whatever `KeyExact` says
(finding `C15-usetags-keyexact`) — and then NO run of `alt.Decompose` as it is meets a deviation
(`untriggered_alt_eff`), so the only hypothesis left is `rtOK (effOpts o)`. -/
theorem recompose_inverts_decompose (o : Opts) (hn : o.omitNil = false) (ho : o.omitEmpty = false)
    (hstrict : o.strict = false) (tf vf : Nat) (htf : 0 < tf) (hvf : vf ≤ 256) (t : GoType) (v : GoVal)
    (hok : rtOK (effOpts o) vf t v = true) :
    ∃ v', recomposePure o.createKey t (encode .alt Dev.current o tf vf t v) = .ok v' ∧ norm v' = norm v := by
  have e1 : (effOpts o).omitNil = false := by unfold effOpts; split <;> simpa using hn
  have e2 : (effOpts o).omitEmpty = false := by unfold effOpts; split <;> simpa using ho
  have e3 : (effOpts o).strict = false := by unfold effOpts; split <;> simpa using hstrict
  have e4 : (effOpts o).createKey = o.createKey := by unfold effOpts; split <;> rfl
  rw [← encode_alt_eff, ← e4]
  exact recompose_inverts_decompose_partial (effOpts o) e1 e2 e3 tf vf htf hvf t v
    (untriggered_alt_eff o tf _ vf true false t v) hok

/-- the same on the model of the real recomposer after any history (types without `interface{}` slot) -/
theorem recompose_inverts_decompose_history (o : Opts) (hn : o.omitNil = false) (ho : o.omitEmpty = false)
    (hstrict : o.strict = false) (tf vf : Nat) (htf : 0 < tf) (hvf : vf ≤ 256) (t : GoType) (v : GoVal)
    (hok : rtOK (effOpts o) vf t v = true) (hni : noIface t = true) (h : List Event) :
    ∃ v', recompose false o.createKey (regAfter false o.createKey h) t (encode .alt Dev.current o tf vf t v) = .ok v' ∧
      norm v' = norm v := by
  rw [recompose_current_eq_pure o.createKey h t hni]
  exact recompose_inverts_decompose o hn ho hstrict tf vf htf hvf t v hok

/-! The Marshal / Unmarshal route. `oj.Unmarshal` is `Parser.Parse` followed by `Recompose` (oj/oj.go). What is proved here is the TREE
level: the tree `oj.Marshal(v, o)` describes (`encode .oj Dev.current`, `strict` on) recomposes to `v`.
The text layer is a hypothesis of `unmarshal_inverts_marshal_of_text_layer` (`parse (write tree) = tree`:
the content of C04_oj — `parseDoc (written text) = norm tree` — and C02 — the parser returns the tree of
the text — which are about other tree types and are NOT connected formally here). One more gap, said
plainly: `oj.Unmarshal` parses with `ForceFloat` (every number arrives as a float64) and the model of
`recomp` has no case for a float datum in an integer slot (`scalarSlot` answers `outside`): the theorem
speaks about the tree of the PLAIN parser (integers stay integers), as the correspondence run does;
the `ForceFloat` conversion of integer slots is only run (route `oj` of the harness). -/

/-- the tree `oj.Marshal(v, o)` / `oj.JSON(v, o)` describes recomposes to `v`, on runs of the writer that
meet none of the live C15 exclusions (`untriggered .oj`: `UseTags` without `KeyExact`, a `[]byte`
outside the type switch) -/
theorem recompose_inverts_marshal_tree (o : Opts) (hn : o.omitNil = false) (ho : o.omitEmpty = false)
    (tf vf : Nat) (htf : 0 < tf) (hvf : vf ≤ 256) (t : GoType) (v : GoVal)
    (hs : (o.strict && isSliceIface t) = false)
    (hU : untriggered .oj Dev.current o tf (planFixed o tf) vf true false t v = true)
    (hok : rtOK o vf t v = true) :
    ∃ v', recomposePure o.createKey t (encode .oj Dev.current o tf vf t v) = .ok v' ∧ norm v' = norm v := by
  rw [C15.untriggered_current_eq_reference .oj o hn ho tf vf t v hU]
  exact recompose_inverts_reference o tf vf htf hvf t v hs hok

/-- `oj.Unmarshal` as the composition the source has: parse, then recompose (ideal registry) -/
def unmarshalVia (parse : Bytes → Option JV) (ck : Bytes) (t : GoType) (text : Bytes) : Option Slot :=
  (parse text).map (recomposePure ck t)

/-- **Unmarshal ∘ Marshal, with the text layer as a hypothesis**: for any writer/parser pair that
reads back the tree it wrote (for THIS tree), unmarshalling the marshalled text gives `v` back up to
nil ~ empty. -/
theorem unmarshal_inverts_marshal_of_text_layer (parse : Bytes → Option JV) (write : JV → Bytes)
    (o : Opts) (hn : o.omitNil = false) (ho : o.omitEmpty = false)
    (tf vf : Nat) (htf : 0 < tf) (hvf : vf ≤ 256) (t : GoType) (v : GoVal)
    (hs : (o.strict && isSliceIface t) = false)
    (hU : untriggered .oj Dev.current o tf (planFixed o tf) vf true false t v = true)
    (hok : rtOK o vf t v = true)
    (htext : parse (write (encode .oj Dev.current o tf vf t v)) = some (encode .oj Dev.current o tf vf t v)) :
    ∃ v', unmarshalVia parse o.createKey t (write (encode .oj Dev.current o tf vf t v)) = some (.ok v') ∧
      norm v' = norm v := by
  obtain ⟨v', h1, h2⟩ := recompose_inverts_marshal_tree o hn ho tf vf htf hvf t v hs hU hok
  exact ⟨v', by simp [unmarshalVia, htext, h1], h2⟩

/-! The hypotheses are satisfiable: a struct with tags, omitempty, a pointer to a struct, slices, a map, an
array, an unexported field. -/

def rtLeaf : GoType := .struct "Leaf".toUTF8.toList "pa".toUTF8.toList [(C15.fld "Flag", .bool), (C15.fld "ID" "id,omitempty", .int 3)]

/-- `type Rt struct { Alpha string; Count int8 `json:"count,omitempty"`; Tags []string; P *Leaf;
M map[string]float64; Arr [2]uint16; L []*Leaf; hidden int; Skip int `json:"-"` }` -/
def rtT : GoType := .struct "Rt".toUTF8.toList "pa".toUTF8.toList
  [(C15.fld "Alpha", .str), (C15.fld "Count" "count,omitempty", .int 1), (C15.fld "Tags", .slice .str),
   (C15.fld "P", .ptr rtLeaf), (C15.fld "M", .map (.float false)), (C15.fld "Arr", .array 2 (.int 7)),
   (C15.fld "L", .slice (.ptr rtLeaf)), (C15.fld "hidden", .int 0), (C15.fld "Skip" "-", .int 0)]

def rtV : GoVal := .struct [.str [120], .int 0, .nilSlice, .ptr (.struct [.bool true, .int 0]),
  .map [([107], .flt [49, 46, 53])], .arr [.int 65535, .int 0], .slice [.nilPtr, .ptr (.struct [.bool false, .int 7])],
  .int 0, .int 0]

/-- tags with exact keys (the Go-compatible naming), create key "^" -/
def rtOpts : Opts := ⟨true, true, false, false, false, false, false, false, 0, [94]⟩
/-- lower-case keys, no tags -/
def rtOptsLow : Opts := ⟨false, false, false, false, false, false, false, false, 0, []⟩

example : rtOK rtOpts 8 rtT rtV = true ∧ rtOK rtOptsLow 8 rtT rtV = true ∧ noIface rtT = true ∧
    untriggered .alt Dev.current rtOpts 4 (planFixed rtOpts 4) 8 true false rtT rtV = true ∧
    untriggered .alt Dev.current rtOptsLow 4 (planFixed rtOptsLow 4) 8 true false rtT rtV = true := by
  decide +kernel

/-- `oj.Marshal` under the Go-compatible naming: strict on -/
def rtOptsMarshal : Opts := ⟨true, true, false, false, false, false, false, true, 0, []⟩

example : rtOK rtOptsMarshal 8 rtT rtV = true ∧ (rtOptsMarshal.strict && isSliceIface rtT) = false ∧
    untriggered .oj Dev.current rtOptsMarshal 4 (planFixed rtOptsMarshal 4) 8 true false rtT rtV = true := by
  decide +kernel

/-- the text-layer hypothesis is satisfiable (trivially, by an injective writer with its inverse) -/
example : ∃ (parse : Bytes → Option JV) (write : JV → Bytes),
    parse (write (encode .oj Dev.current rtOptsMarshal 4 8 rtT rtV)) = some (encode .oj Dev.current rtOptsMarshal 4 8 rtT rtV) :=
  ⟨fun _ => some (encode .oj Dev.current rtOptsMarshal 4 8 rtT rtV), fun _ => [], rfl⟩

/-- `UseTags` without `KeyExact` (outside `recompose_inverts_decompose_partial`, inside
`recompose_inverts_decompose`) -/
def rtOptsTags : Opts := ⟨true, false, false, false, false, false, false, false, 0, [94]⟩

example : rtOK (effOpts rtOptsTags) 8 rtT rtV = true ∧
    untriggered .alt Dev.current rtOptsTags 4 (planFixed rtOptsTags 4) 8 true false rtT rtV = false := by
  decide +kernel

/-- a `[]byte` field comes back under `BytesAsArray` only (finding `C16-bytes-text`) -/
example :
    rtOK ⟨false, false, false, false, false, false, false, false, Gen.Root.BytesAsArray_int.toNat, []⟩ 4
      (.struct [] [] [(C15.fld "Raw", .bytes), (C15.fld "P", .ptr .bytes)]) (.struct [.bytes [1, 2, 255], .nilPtr]) = true ∧
    rtOK rtOptsLow 4 (.struct [] [] [(C15.fld "Raw", .bytes)]) (.struct [.bytes [1]]) = false := by
  decide +kernel

/-! The order of the decoder's lookups is part of the statement: `fieldDatum` (the model of recomp's struct case) tries the index key — the json tag name — FIRST and the
spellings of the Go field name only when the tree has no member under it; `structOK` is stated over the
names the decoder tries (`triedKeys`), in that order. -/

/-- the source has the lookups of the model, in the model's order, and the guard of the fallback closure
(regenerated by `tools/extract/reflect.go`: every `vm[…]` / `im[…]`, the condition that mentions
`claimed`, and the calls of `other`, in source order): the index key first; then, through `other` —
which refuses a name that is the key of another index entry (`claimed && name != k`, /repo 1029e85) —
the Go name, its first letter lowered, all lowered. On a source that tries the Go-name spellings first
or moves the lookups into a helper (seeded C16-m8), or without the guard (before 1029e85), the
regenerated list differs and this theorem fails. -/
theorem lookup_order_in_source :
    Gen.Reflect.altRecompMemberLookups =
      ["im[k]", "vm[k]", "if:claimed && name != k", "im[name]", "vm[name]", "other(sf.Name)", "name[0] |= 0x20",
       "other(string(name))", "other(strings.ToLower(string(name)))"] := by
  decide +kernel

/-- `struct { Kind string `json:"type"`; Type int `json:"kind"` }`: each field's tag name spells the
OTHER field's Go name -/
def swapT : GoType := .struct [] [] [(C15.fld "Kind" "type", .str), (C15.fld "Type" "kind", .int 0)]
def swapV : GoVal := .struct [.str [120], .int 7]

/-- with tags in use the type is INSIDE the theorem — because the tag name is tried first; the model
gives the fields back unswapped; had `fieldDatum` tried the Go-name spellings first the first lookup
for `Kind` ("Kind", "kind") would hit the member of `Type` -/
example : rtOK (effOpts rtOpts) 4 swapT swapV = true ∧
    slotIs (recomposePure rtOpts.createKey swapT (encode .alt Dev.current rtOpts 4 4 swapT swapV)) swapV = true ∧
    (fieldDatum [] [("kind".toUTF8.toList, .int 7), ("type".toUTF8.toList, .str [120])] "type".toUTF8.toList
        ⟨"Kind".toUTF8.toList, [0], "type".toUTF8.toList⟩).map JV.render = some "S(78)" ∧
    (jvLookup [("kind".toUTF8.toList, JV.int 7), ("type".toUTF8.toList, .str [120])]
        (lowerFirst "Kind".toUTF8.toList)).map JV.render = some "I(7)" := by
  decide +kernel

/-- the same names with `omitempty` on `Kind` are INSIDE since /repo 1029e85 (an empty `Kind` is not
written; the fallback spelling "kind" is the index key of `Type` and is not offered (`claimedName`) — `triedKeys`
filters it out); without tags (the lower-case style) the type stays outside — the encoder writes `Kind`
under "kind", the decoder files it under "type" -/
example :
    structOK (effOpts rtOpts) [(C15.fld "Kind" "type,omitempty", .str), (C15.fld "Type" "kind", .int 0)] = true ∧
    rtOK rtOptsLow 4 swapT swapV = false := by
  decide +kernel

/-! Full strength. The title clause of C16 as the property states it, on the models: for EVERY value of every type and
every option set (of the encoder model). It is FALSE for the code as it is (one live witness: `[]byte` as
text, C16-bytes-text; a second, C16-omitted-member-sibling-spelling, was repaired by /repo 1029e85); `rtOK`
is the named fragment the partial theorems above are about. -/

def C16_inverse_full : Prop :=
  ∀ (o : Opts) (tf vf : Nat) (t : GoType) (v : GoVal), o.omitNil = false → o.omitEmpty = false → o.strict = false →
    0 < tf → vf ≤ 256 → hasType vf t v = true →
    ∃ v', recomposePure o.createKey t (encode .alt Dev.current o tf vf t v) = .ok v' ∧ norm v' = norm v

def slotOk : Slot → Bool
  | .ok _ => true
  | _ => false

/-- `type A struct { Kind bool `json:"type,omitempty"`; Type int `json:"kind"` }`, `A{false, 7}` -/
def fallT : GoType := .struct [] [] [(C15.fld "Kind" "type,omitempty", .bool), (C15.fld "Type" "kind", .int 0)]
def fallV : GoVal := .struct [.bool false, .int 7]

/-- finding `C16-omitted-member-sibling-spelling` (FIXED by /repo 1029e85) on the model of the lookups
BEFORE the fix (`fieldDatumBefore`): `Kind` is empty and dropped by `omitempty`, the decomposition is
`{"kind":7}`, and recomp, finding no member "type", fell through to the spellings of the Go name and
gave `Kind` the member of `Type` — an int into a bool: the error result of Recompose / Unmarshal. -/
theorem omitted_member_sibling_spelling_witness_before_1029e85 :
    hasType 4 fallT fallV = true ∧
    (encode .alt Dev.current rtOpts 4 4 fallT fallV).render = "{K(5e)S(-),K(6b696e64)I(7)}" ∧
    (fieldDatumBefore [([94], .str []), ("kind".toUTF8.toList, .int 7)] "type".toUTF8.toList
        ⟨"Kind".toUTF8.toList, [0], "type,omitempty".toUTF8.toList⟩).map JV.render = some "I(7)" ∧
    slotOk (scalarSlot .bool (.int 7) (some ⟨"Kind".toUTF8.toList, [0], "type,omitempty".toUTF8.toList⟩)) = false := by
  decide +kernel

/-- the code as it is (since 1029e85): "kind" is the key of another index entry and is not offered, the
lookup for `Kind` finds nothing, and the value comes back; the struct is inside `structOK` -/
theorem omitted_member_sibling_spelling_repaired :
    (fieldDatum (indexFields [(C15.fld "Kind" "type,omitempty", .bool), (C15.fld "Type" "kind", .int 0)] 0)
        [([94], .str []), ("kind".toUTF8.toList, .int 7)] "type".toUTF8.toList
        ⟨"Kind".toUTF8.toList, [0], "type,omitempty".toUTF8.toList⟩).map JV.render = none ∧
    slotIs (recomposePure rtOpts.createKey fallT (encode .alt Dev.current rtOpts 4 4 fallT fallV)) fallV = true ∧
    rtOK (effOpts rtOpts) 4 fallT fallV = true := by
  decide +kernel

/-- finding `C16-bytes-text`: a `[]byte` under `BytesAsString` is written as a string, which recomp
refuses -/
theorem bytes_text_witness :
    hasType 4 (.struct [] [] [(C15.fld "Raw", .bytes)]) (.struct [.bytes [97]]) = true ∧
    slotOk (recomposePure rtOptsLow.createKey (.struct [] [] [(C15.fld "Raw", .bytes)])
      (encode .alt Dev.current rtOptsLow 4 4 (.struct [] [] [(C15.fld "Raw", .bytes)]) (.struct [.bytes [97]]))) = false := by
  decide +kernel

theorem C16_inverse_full_false : ¬ C16_inverse_full := by
  intro h
  obtain ⟨v', hv, _⟩ := h rtOptsLow 4 4 (.struct [] [] [(C15.fld "Raw", .bytes)]) (.struct [.bytes [97]]) rfl rfl rfl
    (by decide) (by decide) bytes_text_witness.1
  have := bytes_text_witness.2
  rw [hv] at this
  cases this

/-- the `,string` option in force on an integer and a bool field: `{"n":"-42","b":"true"}` comes back;
on a float field it is outside -/
example :
    rtOK (effOpts rtOpts) 4 (.struct [] [] [(C15.fld "N" "n,string", .int 3), (C15.fld "B" "b,string", .bool)])
      (.struct [.int (-42), .bool true]) = true ∧
    slotIs (recomposePure rtOpts.createKey (.struct [] [] [(C15.fld "N" "n,string", .int 3), (C15.fld "B" "b,string", .bool)])
      (encode .alt Dev.current rtOpts 4 4 (.struct [] [] [(C15.fld "N" "n,string", .int 3), (C15.fld "B" "b,string", .bool)])
        (.struct [.int (-42), .bool true]))) (.struct [.int (-42), .bool true]) = true ∧
    rtOK (effOpts rtOpts) 4 (.struct [] [] [(C15.fld "F" "f,string", .float false)]) (.struct [.flt [49]]) = false := by
  decide +kernel

/-- the side condition does exclude something: two fields that the lower-case style maps to one key -/
example : structOK rtOptsLow [(C15.fld "AB", .int 0), (C15.fld "Ab", .int 0)] = false := by decide +kernel

end OjgVerif.C16
