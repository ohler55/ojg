import OjgVerif.Props.C18
import OjgVerif.Props.C01
/-! Property C18, parser clause: `gen.Parser` output equals `Generify` of `oj.Parser` output; and, on the
documents `ofJV` defined for it, the writers clause (`writers_clause_doc`, `write_generify_doc`, at the end).

Two halves at model level. (1) The byte-level machines of the two packages deliver the same documents
(`OjgVerif.C01.oj_eq_gen`, over the regenerated tables); a document `v : JV` is what `oj.Parser`
builds in the simple form (`ofJV .simple v`) and what `gen.Parser` builds in the generic form
(`ofJV .gen v`). (2) `Generify` turns any heap representation of `ofJV .simple v` into a
representation of `ofJV .gen v`, provided the document holds no number kept as text. Such numbers
are outside the domain of the conversion theorems (`T.pure` excludes them: `Big.Simplify` gives a plain
string, so they do not round-trip); where the source has a `json.Number` clause (`generifyBigCase = true`
in `Gen/Conv.lean`) the model's `scalar` maps them to `big gen`, and the parser clause of the run covers them. The tie of both halves to the Go parsers is the
correspondence run of the `json` family and the parser clause of the `conv` harness. -/
namespace OjgVerif.C18
open OjgVerif.Conv OjgVerif.Json

mutual
  /-- a parsed document written in form `f` (payloads as hex text) -/
  def ofJV (f : Form) : JV → T
    | .null => .null
    | .bool b => .bool f b
    | .int i => .int f i
    | .flt t => .flt f (toHex t)
    | .big t => .big f (toHex t)
    | .num t => .big f (toHex t)
    | .str s => .str f (toHex s)
    | .arr xs => .arr f (ofJVList f xs)
    | .obj kvs => .obj f (ofJVKvs f kvs)
  def ofJVList (f : Form) : List JV → List T
    | [] => []
    | x :: xs => ofJV f x :: ofJVList f xs
  def ofJVKvs (f : Form) : List (Bytes × JV) → List (String × T)
    | [] => []
    | (k, x) :: xs => (toHex k, ofJV f x) :: ofJVKvs f xs
end

mutual
  /-- no number kept as text -/
  def noBig : JV → Bool
    | .big _ => false
    | .num _ => false
    | .arr xs => noBigList xs
    | .obj kvs => noBigKvs kvs
    | _ => true
  def noBigList : List JV → Bool
    | [] => true
    | x :: xs => noBig x && noBigList xs
  def noBigKvs : List (Bytes × JV) → Bool
    | [] => true
    | (_, x) :: xs => noBig x && noBigKvs xs
end

mutual
  theorem ofJV_pure (f : Form) : ∀ v : JV, noBig v = true → (ofJV f v).pure f = true
    | .null, _ => rfl
    | .bool _, _ | .int _, _ | .flt _, _ | .str _, _ => decide_eq_true rfl
    | .big _, h | .num _, h => by cases h
    | .arr xs, h => by simp [noBig] at h; simp [ofJV, T.pure, ofJVList_pure f xs h]
    | .obj kvs, h => by simp [noBig] at h; simp [ofJV, T.pure, ofJVKvs_pure f kvs h]
  theorem ofJVList_pure (f : Form) : ∀ xs : List JV, noBigList xs = true → T.pureList f (ofJVList f xs) = true
    | [], _ => rfl
    | x :: xs, h => by
      simp [noBigList] at h
      simp [ofJVList, T.pureList, ofJV_pure f x h.1, ofJVList_pure f xs h.2]
  theorem ofJVKvs_pure (f : Form) :
      ∀ xs : List (Bytes × JV), noBigKvs xs = true → T.pureKvs f (ofJVKvs f xs) = true
    | [], _ => rfl
    | (k, x) :: xs, h => by
      simp [noBigKvs] at h
      simp [ofJVKvs, T.pureKvs, ofJV_pure f x h.1, ofJVKvs_pure f xs h.2]
end

mutual
  theorem toForm_ofJV (f g : Form) (b : Bool) : ∀ v : JV, (ofJV f v).toForm g b = ofJV g v
    | .null | .bool _ | .int _ | .flt _ | .str _ | .big _ | .num _ => rfl
    | .arr xs => by simp [ofJV, T.toForm, toFormList_ofJV f g b xs]
    | .obj kvs => by simp [ofJV, T.toForm, toFormKvs_ofJV f g b kvs]
  theorem toFormList_ofJV (f g : Form) (b : Bool) :
      ∀ xs : List JV, T.toFormList g b (ofJVList f xs) = ofJVList g xs
    | [] => rfl
    | x :: xs => by simp [ofJVList, T.toFormList, toForm_ofJV f g b x, toFormList_ofJV f g b xs]
  theorem toFormKvs_ofJV (f g : Form) (b : Bool) :
      ∀ xs : List (Bytes × JV), T.toFormKvs g b (ofJVKvs f xs) = ofJVKvs g xs
    | [] => rfl
    | (k, x) :: xs => by simp [ofJVKvs, T.toFormKvs, toForm_ofJV f g b x, toFormKvs_ofJV f g b xs]
end

mutual
  theorem ofJV_noNil (f : Form) : ∀ v : JV, (ofJV f v).noNil = true
    | .null | .bool _ | .int _ | .flt _ | .str _ | .big _ | .num _ => rfl
    | .arr xs => by simp [ofJV, T.noNil, ofJVList_noNil f xs]
    | .obj kvs => by simp [ofJV, T.noNil, ofJVKvs_noNil f kvs]
  theorem ofJVList_noNil (f : Form) : ∀ xs : List JV, T.noNilList (ofJVList f xs) = true
    | [] => rfl
    | x :: xs => by simp [ofJVList, T.noNilList, ofJV_noNil f x, ofJVList_noNil f xs]
  theorem ofJVKvs_noNil (f : Form) : ∀ xs : List (Bytes × JV), T.noNilKvs (ofJVKvs f xs) = true
    | [] => rfl
    | (k, x) :: xs => by simp [ofJVKvs, T.noNilKvs, ofJV_noNil f x, ofJVKvs_noNil f xs]
end

/-- what `oj.Parser` delivers (numbers held as text aside) is JSON-like simple data: the round-trip
theorems of C18 apply to it -/
theorem ofJV_jsonLike (v : JV) (hv : noBig v = true) : (ofJV .simple v).JsonLike :=
  ⟨ofJV_pure .simple v hv, ofJV_noNil .simple v⟩

/-- (1) the two parsers' machines deliver the same documents (or the same error) on every input,
configuration and chunking -/
theorem parser_machines_agree (cfg : Cfg) (chunks : List Bytes) :
    run genTables cfg chunks = run ojTables cfg chunks :=
  (OjgVerif.C01.oj_eq_gen cfg chunks).symm

/-- (2) `Generify` of the simple form of a document is its generic form -/
theorem generify_ofJV (v : JV) (hv : noBig v = true) (n : Nat) (opt : Opt) (H : Heap) (r : Ref)
    (ho : KeepsNulls opt) (hd : denote n H r = some (ofJV .simple v)) :
    ∃ H' r', conv .generify n opt H r = some (H', r') ∧ denote n H' r' = some (ofJV .gen v) := by
  obtain ⟨H1, r1, hc1, hd1⟩ := generify_value n opt H r _ ho hd (ofJV_pure .simple v hv)
  exact ⟨H1, r1, hc1, hd1.trans (congrArg some (toForm_ofJV .simple .gen true v))⟩

/-- the parser clause for one input: whatever document the `oj` machine delivers, the `gen` machine
delivers the same one, and `Generify` maps its simple form to its generic form -/
theorem parser_clause (cfg : Cfg) (chunks : List Bytes) (docs : List JV)
    (hoj : run ojTables cfg chunks = .ok docs) :
    run genTables cfg chunks = .ok docs ∧
    ∀ v, v ∈ docs → noBig v = true → ∀ (n : Nat) (opt : Opt) (H : Heap) (r : Ref), KeepsNulls opt →
      denote n H r = some (ofJV .simple v) →
      ∃ H' r', conv .generify n opt H r = some (H', r') ∧ denote n H' r' = some (ofJV .gen v) :=
  ⟨by rw [parser_machines_agree, hoj], fun v _ hv n opt H r ho hd => generify_ofJV v hv n opt H r ho hd⟩

/-! The writers clause on documents.
`wr : JV → α` stands for a writer model on documents (e.g. `Writer.ojWrite o ord` of Writer/OjModel.lean,
which is defined on form-free documents `JV` and has no clause for generic nodes), `w : T → α` for what
the Go writer does with a simple tree. If `w` writes the simple tree of document `v` as `wr v`, then the
writer applied to ANY generic representation of `v` — reached through its `case alt.Simplifier` clause,
`WriterPkg.viaSimplify`, read from oj/writer.go and sen/writer.go — gives `wr v` as well, and so does the
writer applied to `Generify` of any simple representation of `v`. -/

theorem writers_clause_doc {α : Type} (p : WriterPkg) (wr : JV → α) (w : T → α) (v : JV)
    (hv : noBig v = true) (hw : w (ofJV .simple v) = wr v) (n : Nat) (Hg : Heap) (rg : Ref)
    (hg : denote n Hg rg = some (ofJV .gen v)) :
    writeRoot p w n Hg rg = some (wr v) := by
  have hp := ofJV_pure .gen v hv
  obtain ⟨H', r', _, hd'⟩ := simplify_value n ⟨false, false⟩ Hg rg _ rfl hg hp
  obtain ⟨h1, h2⟩ := writers_clause p w n Hg rg H' r' _ hg hp hd'
  rw [h1, h2, toForm_ofJV, hw]

/-- `write (Generify v) = write v` -/
theorem write_generify_doc {α : Type} (p : WriterPkg) (wr : JV → α) (w : T → α) (v : JV)
    (hv : noBig v = true) (hw : w (ofJV .simple v) = wr v) (n : Nat) (opt : Opt) (H : Heap) (r : Ref)
    (ho : KeepsNulls opt) (hd : denote n H r = some (ofJV .simple v)) :
    ∃ H' r', conv .generify n opt H r = some (H', r') ∧
      writeRoot p w n H' r' = writeRoot p w n H r ∧ writeRoot p w n H r = some (wr v) := by
  obtain ⟨H', r', hc, hd'⟩ := generify_ofJV v hv n opt H r ho hd
  refine ⟨H', r', hc, ?_⟩
  have hs : writeRoot p w n H r = some (wr v) := by
    simp [writeRoot, hd, ofJV_pure .simple v hv, hw]
  rw [hs, writers_clause_doc p wr w v hv hw n H' r' hd']
  exact ⟨rfl, rfl⟩

-- the hypothesis on `w` is satisfiable for every `wr` and `v`
example {α : Type} (wr : JV → α) (v : JV) : ∃ w : T → α, w (ofJV .simple v) = wr v := ⟨fun _ => wr v, rfl⟩

/-! the hypotheses are satisfiable: `[1,{"a":null}]` as delivered by the machine, and a heap for it -/
example : (match run ojTables {} [[91, 49, 44, 123, 34, 97, 34, 58, 110, 117, 108, 108, 125, 93]] with
    | .ok [.arr [.int 1, .obj [(k, .null)]]] => k == [97]
    | _ => false) = true := by decide +kernel
example : noBig (.arr [.int 1, .obj [([97], .null)]]) = true := rfl
example : denote 2 [.obj [("61", .null)], .arr [.int .simple 1, .obj .simple 0]] (.arr .simple 1)
    = some (ofJV .simple (.arr [.int 1, .obj [([97], .null)]])) := by rfl

end OjgVerif.C18
