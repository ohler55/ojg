import OjgVerif.Conv.LemmasConv
/-! Property C18, the value clause under every setting of the omit options (OmitNil, OmitEmpty), with what
the whole property needs first: `KeepsNulls`, `roundTrip`, the option flow read from the source (`keepInv_*`).
Props/C18.lean reads the clauses of the property as it is worded (nulls kept) off the theorems here.

`T.prune k opt t` (Conv/LemmasPrune.lean) is the input `t` written in the target form of `k` less
exactly the object members the options name: for `alt.Generify` a member whose value is nil when
OmitNil is set (OmitEmpty is not looked at); for `alt.Decompose` = `alt.Dup` what `condMapSet` leaves
out — nil with OmitNil or OmitEmpty; with OmitEmpty also `""`, `false`, `int64(0)`, nil/empty slices and
maps (not `float64(0)`), tested on the converted member and therefore hereditarily (an object that
loses all members is empty and goes too). Elements of slices are never left out. The `_omit`,
`_anyOpt` and `_prune` theorems have NO hypothesis on the options; the `_omitEmpty` and `_keepsNil`
ones ask for OmitNil off and nothing of OmitEmpty, `prune_decompose_keepsNulls` for both off. -/
namespace OjgVerif.C18
open OjgVerif.Conv OjgVerif.Gen.Conv

/-- options that keep nulls (and everything else) -/
def KeepsNulls (opt : Opt) : Prop := opt.omitNil = false ∧ opt.omitEmpty = false

/-- the value denoted by the result of `k1` followed by `k2` -/
def roundTrip (k1 k2 : Kind) (n : Nat) (opt : Opt) (H : Heap) (r : Ref) : Option T :=
  match pipeline n [(k1, opt), (k2, opt)] H r with
  | some (H2, r2) => denote n H2 r2
  | none => none

theorem keepInv_generify : KeepInv .generify (fun o => o.omitNil = false) :=
  ⟨fun o h => by simpa [Kind.dropsNil] using h,
   fun o h => by simpa [Kind.arrOpt, generifyArrPassesOpt] using h,
   fun o h => by simpa [Kind.mapOpt, generifyMapPassesOpt] using h⟩

/-- the option flow of `GenAlter` keeps null-keeping options null-keeping. A tripwire over the slice
clause (`GenAlter(m, opt)`): with `GenAlter(m)` there the package default, which omits nulls, applies
below a slice and this stops checking -/
theorem keepInv_genAlter : KeepInv .genAlter (fun o => o.omitNil = false) :=
  ⟨fun o h => by simpa [Kind.dropsNil] using h,
   fun o h => by simpa [Kind.arrOpt, genAlterArrPassesOpt] using h,
   fun o h => by simpa [Kind.mapOpt, genAlterMapPassesOpt] using h⟩

theorem keepInv_simplify : KeepInv .simplify (fun _ => True) :=
  ⟨fun _ _ => rfl, fun _ _ => trivial, fun _ _ => trivial⟩

theorem keepInv_nodeAlter : KeepInv .nodeAlter (fun _ => True) :=
  ⟨fun _ _ => rfl, fun _ _ => trivial, fun _ _ => trivial⟩

theorem keepInv_genDup : KeepInv .genDup (fun _ => True) :=
  ⟨fun _ _ => rfl, fun _ _ => trivial, fun _ _ => trivial⟩

theorem keepInv_altAlter : KeepInv .altAlter KeepsNulls :=
  ⟨fun o h => by simp [Kind.dropsNil, h.1, h.2], fun _ h => h, fun _ h => h⟩

theorem keepInv_decompose : KeepInv .decompose KeepsNulls :=
  ⟨fun o h => by simp [Kind.dropsNil, h.1, h.2], fun _ h => h, fun _ h => h⟩

theorem roundTrip_of_conv {k1 k2 : Kind} {n : Nat} {opt : Opt} {H H1 H2 : Heap} {r r1 r2 : Ref}
    (hc1 : conv k1 n opt H r = some (H1, r1)) (hc2 : conv k2 n opt H1 r1 = some (H2, r2)) :
    roundTrip k1 k2 n opt H r = denote n H2 r2 := by
  simp only [roundTrip, pipeline, hc1, hc2]

/-- any two conversions in a row, the second reading the form the first writes: pruned twice -/
theorem roundTrip_prune (k1 k2 : Kind) (n : Nat) (opt : Opt) (H : Heap) (r : Ref) (t : T)
    (hd : denote n H r = some t) (hp : t.pure k1.src = true)
    (hs : k1.inPlace = true → ∃ S, owns n H r = some S ∧ S.Nodup)
    (hp2 : (t.prune k1 opt).pure k2.src = true) :
    roundTrip k1 k2 n opt H r = some ((t.prune k1 opt).prune k2 opt) := by
  obtain ⟨H1, r1, hc1, hd1, S1, hS1, hn1⟩ := conv_value k1 n opt H r t hd hp hs
  obtain ⟨H2, r2, hc2, hd2, _⟩ := conv_value k2 n opt H1 r1 _ hd1 hp2 fun _ => ⟨S1, hS1, hn1⟩
  exact (roundTrip_of_conv hc1 hc2).trans hd2

/-- `{"a":[1,null,[]],"b":<the same slice again>,"c":{"d":"x","e":null}}`: nested containers, a null
member, an empty slice and a shared cell -/
def exHeap : Heap :=
  [.arr [], .arr [.int .simple 1, .null, .arr .simple 0],
   .obj [("64", .str .simple "78"), ("65", .null)],
   .obj [("61", .arr .simple 1), ("62", .arr .simple 1), ("63", .obj .simple 2)]]
def exRoot : Ref := .obj .simple 3
def exTree : T :=
  .obj .simple
    [("61", .arr .simple [.int .simple 1, .null, .arr .simple []]),
     ("62", .arr .simple [.int .simple 1, .null, .arr .simple []]),
     ("63", .obj .simple [("64", .str .simple "78"), ("65", .null)])]

/-- The switch of `alt.condMapSet` (used by decompose = Dup) and the switch in the map clause of
`alt.alter` have, clause for clause, the types and conditions of the model's `condOmit`
(= `T.isEmptyFor` on values, `condOmit_eq`), and the map clauses of `Generify` / `GenAlter` store the
converted member under `x != nil || !opt.OmitNil` (the model's `omits`: left out iff nil and OmitNil).
Read from alt/decompose.go and alt/generifier.go by tools/extract/conv.go; a clause added (say for
`float64`), removed or with another condition makes this stop checking. A comparison of tables, not a
semantics of Go expressions. -/
theorem omit_tables_match_source :
    omitRowsOf "condMapSet" = condOmitRows ∧ omitRowsOf "alter" = condOmitRows ∧
    omitRowsOf "Generify" = [("keep", "x != nil || !opt.OmitNil")] ∧
    omitRowsOf "GenAlter" = [("keep", "x != nil || !opt.OmitNil")] := ⟨rfl, rfl, rfl, rfl⟩

mutual
  theorem prune_of_inv {k : Kind} {P : Opt → Prop} (hom : ∀ o y, P o → T.omitted k o y = false)
      (harr : ∀ o, P o → P (k.arrOpt o)) (hmap : ∀ o, P o → P (k.mapOpt o)) :
      ∀ (t : T) (o : Opt), P o → t.prune k o = t.toForm k.dst k.fillsNil
    | .null, _, _ | .bool _ _, _, _ | .int _ _, _, _ | .flt _ _, _, _ | .str _ _, _, _ | .big _ _, _, _
    | .nilArr _, _, _ | .nilObj _, _, _ => rfl
    | .arr _ xs, o, h => by simp [T.prune, T.toForm, pruneList_of_inv hom harr hmap xs _ (harr o h)]
    | .obj _ kvs, o, h => by simp [T.prune, T.toForm, pruneKvs_of_inv hom harr hmap kvs o h]
  theorem pruneList_of_inv {k : Kind} {P : Opt → Prop} (hom : ∀ o y, P o → T.omitted k o y = false)
      (harr : ∀ o, P o → P (k.arrOpt o)) (hmap : ∀ o, P o → P (k.mapOpt o)) :
      ∀ (xs : List T) (o : Opt), P o → T.pruneList k o xs = T.toFormList k.dst k.fillsNil xs
    | [], _, _ => rfl
    | x :: xs, o, h => by
      simp [T.pruneList, T.toFormList, prune_of_inv hom harr hmap x o h, pruneList_of_inv hom harr hmap xs o h]
  theorem pruneKvs_of_inv {k : Kind} {P : Opt → Prop} (hom : ∀ o y, P o → T.omitted k o y = false)
      (harr : ∀ o, P o → P (k.arrOpt o)) (hmap : ∀ o, P o → P (k.mapOpt o)) :
      ∀ (xs : List (String × T)) (o : Opt), P o → T.pruneKvs k o xs = T.toFormKvs k.dst k.fillsNil xs
    | [], _, _ => rfl
    | (key, x) :: xs, o, h => by
      simp [T.pruneKvs, T.toFormKvs, hom o _ h, prune_of_inv hom harr hmap x _ (hmap o h),
        pruneKvs_of_inv hom harr hmap xs o h]
end

/-- under an invariant of the options that rules out dropping and survives the recursive calls nothing is pruned,
whatever OmitEmpty: the invariant speaks of the options, where `T.keeps` (`keeps_of_inv`, `prune_of_keeps`) judges a
tree by the nullness of its members -/
theorem prune_of_keepInv {k : Kind} {P : Opt → Prop} (inv : KeepInv k P) (t : T) (o : Opt) (h : P o) :
    t.prune k o = t.toForm k.dst k.fillsNil :=
  prune_of_inv (fun o y h => omitted_of_dropsNil (inv.drop o h) y) inv.arr inv.map t o h

theorem pruneList_noOmit {k : Kind} (hk : ∀ o y, T.omitted k o y = false) (opt : Opt) :
      ∀ xs : List T, T.pruneList k opt xs = T.toFormList k.dst k.fillsNil xs := fun xs =>
  pruneList_of_inv (P := fun _ => True) (fun o y _ => hk o y) (fun _ _ => trivial) (fun _ _ => trivial) xs opt trivial

theorem pruneKvs_noOmit {k : Kind} (hk : ∀ o y, T.omitted k o y = false) (opt : Opt) :
      ∀ xs : List (String × T), T.pruneKvs k opt xs = T.toFormKvs k.dst k.fillsNil xs := fun xs =>
  pruneKvs_of_inv (P := fun _ => True) (fun o y _ => hk o y) (fun _ _ => trivial) (fun _ _ => trivial) xs opt trivial

mutual
  theorem pure_prune (k : Kind) (opt : Opt) : ∀ t : T, t.pure k.src = true → (t.prune k opt).pure k.dst = true
    | .null, _ => rfl
    | .bool _ _, _ | .int _ _, _ | .flt _ _, _ | .str _ _, _ => decide_eq_true rfl
    | .big _ _, h => by cases h
    | .nilArr _, _ | .nilObj _, _ => by
      cases hf : k.fillsNil <;> simp [T.prune, T.pure, T.pureList, T.pureKvs, hf]
    | .arr _ xs, h => by
      simp [T.pure] at h
      simp [T.prune, T.pure, pureList_prune k (k.arrOpt opt) xs h.2]
    | .obj _ kvs, h => by
      simp [T.pure] at h
      simp [T.prune, T.pure, pureKvs_prune k opt kvs h.2]
  theorem pureList_prune (k : Kind) (opt : Opt) :
      ∀ xs : List T, T.pureList k.src xs = true → T.pureList k.dst (T.pruneList k opt xs) = true
    | [], _ => rfl
    | x :: xs, h => by
      simp [T.pureList] at h
      simp [T.pruneList, T.pureList, pure_prune k opt x h.1, pureList_prune k opt xs h.2]
  theorem pureKvs_prune (k : Kind) (opt : Opt) :
      ∀ xs : List (String × T), T.pureKvs k.src xs = true → T.pureKvs k.dst (T.pruneKvs k opt xs) = true
    | [], _ => rfl
    | (key, x) :: xs, h => by
      simp [T.pureKvs] at h
      simp only [T.pruneKvs]
      split
      · exact pureKvs_prune k opt xs h.2
      · simp [T.pureKvs, pure_prune k (k.mapOpt opt) x h.1, pureKvs_prune k opt xs h.2]
end

/-- two conversions in a row, the second of a kind that leaves nothing out (`Simplify`, `Node.Alter`): pruned once,
then read in the second target form -/
theorem roundTrip_noOmit (k1 k2 : Kind) (hk : k1.dst = k2.src) (inv : KeepInv k2 fun _ => True) {n : Nat}
    {opt : Opt} {H : Heap} {r : Ref} {t : T} (hd : denote n H r = some t) (hp : t.pure k1.src = true)
    (hs : k1.inPlace = true → ∃ S, owns n H r = some S ∧ S.Nodup) :
    roundTrip k1 k2 n opt H r = some ((t.prune k1 opt).toForm k2.dst k2.fillsNil) := by
  rw [roundTrip_prune k1 k2 n opt H r t hd hp hs (hk ▸ pure_prune k1 opt t hp), prune_of_keepInv inv _ opt trivial]

/-- `alt.Generify(v, opt)` is `v` in the generic form less the nil members if OmitNil -/
theorem generify_value_omit (n : Nat) (opt : Opt) (H : Heap) (r : Ref) (t : T)
    (hd : denote n H r = some t) (hs : t.Simple) :
    ∃ H' r', conv .generify n opt H r = some (H', r') ∧ denote n H' r' = some (t.prune .generify opt) := by
  obtain ⟨H1, r1, hc1, _, hd1⟩ := prune_spec .generify rfl n opt H r t hd hs
  exact ⟨H1, r1, hc1, hd1⟩

/-- `alt.Decompose(v, opt)` = `alt.Dup(v, opt)` is `v` less what `condMapSet` leaves out -/
theorem decompose_value_omit (n : Nat) (opt : Opt) (H : Heap) (r : Ref) (t : T)
    (hd : denote n H r = some t) (hs : t.Simple) :
    ∃ H' r', conv .decompose n opt H r = some (H', r') ∧ denote n H' r' = some (t.prune .decompose opt) := by
  obtain ⟨H1, r1, hc1, _, hd1⟩ := prune_spec .decompose rfl n opt H r t hd hs
  exact ⟨H1, r1, hc1, hd1⟩

/-- `n.Simplify()` has no options: the value in the simple form, whatever `opt` (this is
`simplify_value` without its hypothesis on the options) -/
theorem simplify_value_anyOpt (n : Nat) (opt : Opt) (H : Heap) (r : Ref) (t : T)
    (hd : denote n H r = some t) (hs : t.pure .gen = true) :
    ∃ H' r', conv .simplify n opt H r = some (H', r') ∧ denote n H' r' = some (t.toForm .simple false) := by
  obtain ⟨H1, r1, hc1, _, hd1⟩ := prune_spec .simplify rfl n opt H r t hd hs
  rw [prune_of_keepInv keepInv_simplify t opt trivial] at hd1
  exact ⟨H1, r1, hc1, hd1⟩

/-- `n.Dup()` has no options: the same value, whatever `opt` -/
theorem genDup_value_anyOpt (n : Nat) (opt : Opt) (H : Heap) (r : Ref) (t : T)
    (hd : denote n H r = some t) (hs : t.pure .gen = true) :
    ∃ H' r', conv .genDup n opt H r = some (H', r') ∧ denote n H' r' = some t := by
  obtain ⟨H1, r1, hc1, _, hd1⟩ := prune_spec .genDup rfl n opt H r t hd hs
  rw [prune_of_keepInv keepInv_genDup t opt trivial] at hd1
  exact ⟨H1, r1, hc1, hd1.trans (congrArg some (toForm_of_pure .gen _ t hs (Or.inl rfl)))⟩

/-- `Simplify(Generify(v, opt))` is the pruned value read back in the simple form: the round trip
under the omit options gives `prune`, not `v` -/
theorem generify_simplify_omit (n : Nat) (opt : Opt) (H : Heap) (r : Ref) (t : T)
    (hd : denote n H r = some t) (hs : t.Simple) :
    roundTrip .generify .simplify n opt H r = some ((t.prune .generify opt).toForm .simple false) :=
  roundTrip_noOmit .generify .simplify rfl keepInv_simplify hd hs nofun

/-- with OmitNil off nothing is pruned by Generify, whatever OmitEmpty (Generify never looks at it;
the option flow is the one read from the source) -/
theorem prune_generify_keepsNil (t : T) (opt : Opt) (ho : opt.omitNil = false) :
    t.prune .generify opt = t.toForm .gen true :=
  prune_of_keepInv keepInv_generify t opt ho

/-- with both options off nothing is pruned by Decompose / Dup -/
theorem prune_decompose_keepsNulls (t : T) (opt : Opt) (ho : KeepsNulls opt) :
    t.prune .decompose opt = t.toForm .simple true :=
  prune_of_keepInv keepInv_decompose t opt ho

/-- `generify_value` for OmitEmpty = true as well: only OmitNil matters to Generify -/
theorem generify_value_omitEmpty (n : Nat) (opt : Opt) (H : Heap) (r : Ref) (t : T)
    (ho : opt.omitNil = false) (hd : denote n H r = some t) (hs : t.Simple) :
    ∃ H' r', conv .generify n opt H r = some (H', r') ∧ denote n H' r' = some (t.toForm .gen true) := by
  obtain ⟨H1, r1, hc1, hd1⟩ := generify_value_omit n opt H r t hd hs
  rw [prune_generify_keepsNil t opt ho] at hd1
  exact ⟨H1, r1, hc1, hd1⟩

/-- `Simplify(Generify(v, opt)) = v` whenever OmitNil is off, OmitEmpty on or off -/
theorem generify_simplify_omitEmpty (n : Nat) (opt : Opt) (H : Heap) (r : Ref) (t : T)
    (ho : opt.omitNil = false) (hd : denote n H r = some t) (hs : t.JsonLike) :
    roundTrip .generify .simplify n opt H r = some t := by
  rw [generify_simplify_omit n opt H r t hd hs.1, prune_generify_keepsNil t opt ho,
    toForm_back .gen hs.1 (Or.inr hs.2)]

/-! The in-place conversions: `owns n H r = some S ∧ S.Nodup` (no shared cell) as for every in-place statement. -/

/-- `alt.GenAlter(v, opt)`: the pruned value in the generic form, in the cell it was given; the
result owns a subset of the cells of the input, still unshared -/
theorem genAlter_value_omit (n : Nat) (opt : Opt) (H : Heap) (r : Ref) (t : T) (S : List Addr)
    (hd : denote n H r = some t) (hS : owns n H r = some S) (hnd : S.Nodup) (hs : t.Simple) :
    ∃ H' r', conv .genAlter n opt H r = some (H', r') ∧ denote n H' r' = some (t.prune .genAlter opt) ∧
      r'.addr? = r.addr? ∧ H'.length = H.length ∧
      ∃ S', owns n H' r' = some S' ∧ S'.Nodup ∧ ∀ a, a ∈ S' → a ∈ S := by
  obtain ⟨H1, r1, hc, hl, _, hd1, had, hS'⟩ := alterPrune_spec .genAlter rfl n opt H r t S hd hS hnd hs
  exact ⟨H1, r1, hc, hd1, had, hl, hS'⟩

/-- `alt.Alter(v, opt)`: `v` less what the `condMapSet`-like switch of `alter` leaves out, in the
same cells -/
theorem altAlter_value_omit (n : Nat) (opt : Opt) (H : Heap) (r : Ref) (t : T) (S : List Addr)
    (hd : denote n H r = some t) (hS : owns n H r = some S) (hnd : S.Nodup) (hs : t.Simple) :
    ∃ H' r', conv .altAlter n opt H r = some (H', r') ∧ denote n H' r' = some (t.prune .altAlter opt) ∧
      r'.addr? = r.addr? ∧ H'.length = H.length := by
  obtain ⟨H1, r1, hc, hl, _, hd1, had, _⟩ := alterPrune_spec .altAlter rfl n opt H r t S hd hS hnd hs
  exact ⟨H1, r1, hc, hd1, had, hl⟩

/-- `n.Alter()` has no options: the value in the simple form, whatever `opt` -/
theorem nodeAlter_value_anyOpt (n : Nat) (opt : Opt) (H : Heap) (r : Ref) (t : T) (S : List Addr)
    (hd : denote n H r = some t) (hS : owns n H r = some S) (hnd : S.Nodup) (hs : t.pure .gen = true) :
    ∃ H' r', conv .nodeAlter n opt H r = some (H', r') ∧ denote n H' r' = some (t.toForm .simple false) ∧
      r'.addr? = r.addr? := by
  obtain ⟨H1, r1, hc, _, _, hd1, had, _⟩ := alterPrune_spec .nodeAlter rfl n opt H r t S hd hS hnd hs
  rw [prune_of_keepInv keepInv_nodeAlter t opt trivial] at hd1
  exact ⟨H1, r1, hc, hd1, had⟩

/-- `GenAlter(v, opt).Alter()` is the pruned value read back in the simple form -/
theorem genAlter_nodeAlter_omit (n : Nat) (opt : Opt) (H : Heap) (r : Ref) (t : T) (S : List Addr)
    (hd : denote n H r = some t) (hS : owns n H r = some S) (hnd : S.Nodup) (hs : t.Simple) :
    roundTrip .genAlter .nodeAlter n opt H r = some ((t.prune .genAlter opt).toForm .simple false) :=
  roundTrip_noOmit .genAlter .nodeAlter rfl keepInv_nodeAlter hd hs fun _ => ⟨S, hS, hnd⟩

/-- `Simplify(GenAlter(v, opt))` is the pruned value read back in the simple form -/
theorem genAlter_simplify_omit (n : Nat) (opt : Opt) (H : Heap) (r : Ref) (t : T) (S : List Addr)
    (hd : denote n H r = some t) (hS : owns n H r = some S) (hnd : S.Nodup) (hs : t.Simple) :
    roundTrip .genAlter .simplify n opt H r = some ((t.prune .genAlter opt).toForm .simple false) :=
  roundTrip_noOmit .genAlter .simplify rfl keepInv_simplify hd hs fun _ => ⟨S, hS, hnd⟩

/-- `Generify(v, opt).Alter()` is the pruned value read back in the simple form -/
theorem generify_nodeAlter_omit (n : Nat) (opt : Opt) (H : Heap) (r : Ref) (t : T)
    (hd : denote n H r = some t) (hs : t.Simple) :
    roundTrip .generify .nodeAlter n opt H r = some ((t.prune .generify opt).toForm .simple false) :=
  roundTrip_noOmit .generify .nodeAlter rfl keepInv_nodeAlter hd hs nofun

/-- with OmitNil off nothing is pruned by GenAlter, whatever OmitEmpty -/
theorem prune_genAlter_keepsNil (t : T) (opt : Opt) (ho : opt.omitNil = false) :
    t.prune .genAlter opt = t.toForm .gen false :=
  prune_of_keepInv keepInv_genAlter t opt ho

/-- `GenAlter(v, opt).Alter() = v` whenever OmitNil is off, OmitEmpty on or off (`genAlter_full`
without its hypothesis on OmitEmpty) -/
theorem genAlter_nodeAlter_omitEmpty (n : Nat) (opt : Opt) (H : Heap) (r : Ref) (t : T) (S : List Addr)
    (ho : opt.omitNil = false) (hd : denote n H r = some t) (hS : owns n H r = some S) (hnd : S.Nodup)
    (hs : t.Simple) : roundTrip .genAlter .nodeAlter n opt H r = some t := by
  rw [genAlter_nodeAlter_omit n opt H r t S hd hS hnd hs, prune_genAlter_keepsNil t opt ho,
    toForm_back .gen hs (Or.inl rfl)]

/-! The round trips as a pruning of `v` itself: `T.prune .decompose ⟨b, false⟩ v` is `v` in the simple form (nil
containers filled) less, if `b`, the members whose value is nil — nothing else, at every depth below objects and
slices alike. -/

theorem omitted_decompose_nilOnly (n : Bool) (y : T) :
    T.omitted .decompose ⟨n, false⟩ y = (y.isNull && n) := by
  cases y with
  | null => cases n <;> rfl
  | flt _ _ | big _ _ => rfl
  | _ f => cases f <;> rfl

theorem generify_arrOpt (o : Opt) : Kind.generify.arrOpt o = o := by
  simp [Kind.arrOpt, generifyArrPassesOpt]
theorem generify_mapOpt (o : Opt) : Kind.generify.mapOpt o = o := by
  simp [Kind.mapOpt, generifyMapPassesOpt]

mutual
  theorem prune_generify_simple (o : Opt) :
      ∀ t : T, (t.prune .generify o).toForm .simple false = t.prune .decompose ⟨o.omitNil, false⟩
    | .null | .bool _ _ | .int _ _ | .flt _ _ | .str _ _ | .big _ _ | .nilArr _ | .nilObj _ => rfl
    | .arr _ xs => by
      simp only [T.prune, T.toForm, Kind.dst]
      rw [generify_arrOpt, pruneList_generify_simple o xs]
      rfl
    | .obj _ kvs => by
      simp only [T.prune, T.toForm, Kind.dst]
      rw [pruneKvs_generify_simple o kvs]
  theorem pruneList_generify_simple (o : Opt) :
      ∀ xs : List T, T.toFormList .simple false (T.pruneList .generify o xs) =
        T.pruneList .decompose ⟨o.omitNil, false⟩ xs
    | [] => rfl
    | x :: xs => by
      simp only [T.pruneList, T.toFormList]
      rw [prune_generify_simple o x, pruneList_generify_simple o xs]
  theorem pruneKvs_generify_simple (o : Opt) :
      ∀ xs : List (String × T), T.toFormKvs .simple false (T.pruneKvs .generify o xs) =
        T.pruneKvs .decompose ⟨o.omitNil, false⟩ xs
    | [] => rfl
    | (key, x) :: xs => by
      have hx := prune_generify_simple o x
      have hxs := pruneKvs_generify_simple o xs
      have hm : Kind.decompose.mapOpt ⟨o.omitNil, false⟩ = ⟨o.omitNil, false⟩ := rfl
      have hom : T.omitted .decompose ⟨o.omitNil, false⟩ (T.prune .decompose ⟨o.omitNil, false⟩ x) =
          T.omitted .generify o (T.prune .generify o x) := by
        rw [← hx, omitted_decompose_nilOnly, toForm_isNull]; rfl
      simp only [T.pruneKvs]
      rw [generify_mapOpt, hm, hom]
      cases T.omitted .generify o (T.prune .generify o x) with
      | true => simpa using hxs
      | false => simp [T.toFormKvs, hx, hxs]
end

/-- `Simplify(Generify(v, opt))` = `v` less its nil members if OmitNil (OmitEmpty is immaterial) -/
theorem generify_simplify_prune (n : Nat) (opt : Opt) (H : Heap) (r : Ref) (t : T)
    (hd : denote n H r = some t) (hs : t.Simple) :
    roundTrip .generify .simplify n opt H r = some (t.prune .decompose ⟨opt.omitNil, false⟩) := by
  rw [generify_simplify_omit n opt H r t hd hs, prune_generify_simple]

/-- `Generify(v, opt).Alter()` = `v` less its nil members if OmitNil -/
theorem generify_nodeAlter_prune (n : Nat) (opt : Opt) (H : Heap) (r : Ref) (t : T)
    (hd : denote n H r = some t) (hs : t.Simple) :
    roundTrip .generify .nodeAlter n opt H r = some (t.prune .decompose ⟨opt.omitNil, false⟩) := by
  rw [generify_nodeAlter_omit n opt H r t hd hs, prune_generify_simple]

example : (roundTrip .generify .simplify 3 ⟨true, true⟩ exHeap exRoot).map T.render =
    some "{61:[i1,n,[]],62:[i1,n,[]],63:{64:s78}}" := by decide +kernel

/-! The hypotheses are satisfiable, and pruning is not the identity.
`exTree` = `{"a":[1,null,[]],"b":<same>,"c":{"d":"x","e":null}}`. -/

example : exTree.Simple := by decide +kernel
-- Generify, OmitNil: the nil member "e" goes, the nil ELEMENT of the slice stays
example : exTree.prune .generify ⟨true, false⟩ =
    .obj .gen
      [("61", .arr .gen [.int .gen 1, .null, .arr .gen []]),
       ("62", .arr .gen [.int .gen 1, .null, .arr .gen []]),
       ("63", .obj .gen [("64", .str .gen "78")])] := by
  simp [exTree, T.prune, T.pruneList, T.pruneKvs, T.omitted, T.isNull, Kind.mapOpt,
    generifyMapPassesOpt, Kind.dst]
-- the model computes the same thing on the heap
example : (conv .generify 3 ⟨true, false⟩ exHeap exRoot).bind (fun p => (denote 3 p.1 p.2).map T.render) =
    some ((exTree.prune .generify ⟨true, false⟩).render) := by decide +kernel
-- Decompose, OmitEmpty: hereditary — {"a":{"b":null,"c":""},"d":0,"e":0.0,"f":[[]]} becomes {"e":0.0,"f":[[]]}
def omitTree : T :=
  .obj .simple
    [("61", .obj .simple [("62", .null), ("63", .str .simple "")]),
     ("64", .int .simple 0), ("65", .flt .simple "30"), ("66", .arr .simple [.arr .simple []])]
example : omitTree.JsonLike := ⟨rfl, rfl⟩
example : (omitTree.prune .decompose ⟨false, true⟩).render = "{65:d30,66:[[]]}" := by decide +kernel
example : (omitTree.prune .decompose ⟨false, false⟩).render = omitTree.render := by decide +kernel
example : (omitTree.prune .decompose ⟨true, false⟩).render = "{61:{63:s},64:i0,65:d30,66:[[]]}" := by decide +kernel

-- in place: alt.Alter under OmitEmpty on the heap of `omitTree` rewrites the root cell (address 3) and
-- leaves the cells of the dropped member behind, unreferenced
def omitHeap : Heap :=
  [.obj [("62", .null), ("63", .str .simple "")], .arr [], .arr [.arr .simple 1],
   .obj [("61", .obj .simple 0), ("64", .int .simple 0), ("65", .flt .simple "30"), ("66", .arr .simple 2)]]
example : (denote 3 omitHeap (.obj .simple 3)).map T.render = some omitTree.render := by decide +kernel
example : owns 3 omitHeap (.obj .simple 3) = some [3, 0, 2, 1] := by decide +kernel
example : (conv .altAlter 3 ⟨false, true⟩ omitHeap (.obj .simple 3)).map (·.2) = some (.obj .simple 3) := by decide +kernel
example : (conv .altAlter 3 ⟨false, true⟩ omitHeap (.obj .simple 3)).bind
    (fun p => (denote 3 p.1 p.2).map T.render) = some "{65:d30,66:[[]]}" := by decide +kernel
example : (conv .altAlter 3 ⟨false, true⟩ omitHeap (.obj .simple 3)).bind (fun p => owns 3 p.1 p.2) =
    some [3, 2, 1] := by decide +kernel

end OjgVerif.C18
