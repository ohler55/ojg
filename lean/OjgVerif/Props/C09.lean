import OjgVerif.Json.Lemmas
import OjgVerif.Props.C01
import OjgVerif.Props.C03
/-! # C09 — parse errors point at the first offending byte (model level, against the reference automaton)

The reference automaton `refTables` stops at the first byte for which it has no transition; that
this is the first byte behind which no completion exists is Props/C09Viable.lean.
What is proved here, for every table set that passes `TablesOK` (the regenerated oj and gen tables do):
the reported line and column are exactly those of the byte the automaton stops at — line = 1 + number
of '\n' before it, column = offset − offset of the last '\n' (1-based) — or of the position just past
the last byte when the input is only incomplete; the same for both table sets and for every chunking. -/
namespace OjgVerif.C09
open OjgVerif.Json

/-- line and column (1-based; lines end at '\n'; columns count bytes) of the byte that follows `pre`;
`(1, 0, -1)` is `({} : St).at`: line 1, offset 0, last newline at −1 so that columns start at 1 -/
def lineColOf (pre : Bytes) : Nat × Int :=
  ((track (1, 0, -1) pre).1, ((track (1, 0, -1) pre).2.1 : Int) - (track (1, 0, -1) pre).2.2)

/-- `track` really counts: the line is one more than the number of newlines, the offset is the length -/
theorem track_line_pos (t : Nat × Nat × Int) (bs : Bytes) :
    (track t bs).1 = t.1 + bs.count 10 ∧ (track t bs).2.1 = t.2.1 + bs.length := by
  induction bs generalizing t with
  | nil => simp [track]
  | cons b r ih =>
    obtain ⟨l, p, n⟩ := t
    simp only [track]
    split
    · rename_i hb
      have := ih (l + 1, p + 1, (p : Int))
      subst hb
      simp only [List.count_cons_self, List.length_cons] at this ⊢
      omega
    · rename_i hb
      have := ih (l, p + 1, n)
      have hc : List.count 10 (b :: r) = List.count 10 r := by
        rw [List.count_cons_of_ne]; exact hb
      simp only [hc, List.length_cons] at this ⊢
      omega

example : lineColOf [91, 10, 32, 32] = (2, 3) := by decide

variable {T : Tables} (hT : TablesOK T) (cfg : Cfg)
include hT

/-- a rejected input: the machine accepted every byte before `b`, fails on `b`, and reports the line
and column of `b` -/
theorem error_position (bs : Bytes) (e : Err) (h : runBytes T cfg {} bs = .error e) :
    ∃ pre b post, bs = pre ++ b :: post ∧ (∃ s1, runBytes T cfg {} pre = .ok s1 ∧ step T cfg s1 b = .error e) ∧
      (e.line, e.col) = lineColOf pre := by
  rw [runBytes_eq_ref hT] at h
  obtain ⟨pre, b, post, s1, hbs, hrun, hstep, hl, hc⟩ := runBytes_err_at cfg bs {} e h
  refine ⟨pre, b, post, hbs, ⟨s1, ?_, ?_⟩, ?_⟩
  · rw [runBytes_eq_ref hT]; exact hrun
  · rw [step_eq_ref hT]; exact hstep
  · simp only [lineColOf, Prod.mk.injEq]
    exact ⟨hl, hc⟩

/-- an input that is only incomplete: the error carries the position just past the last byte -/
theorem incomplete_position (bs : Bytes) (s : St) (e : Err) (h : runBytes T cfg {} bs = .ok s)
    (hf : finish T s = .error e) : (e.line, e.col) = lineColOf bs := by
  rw [runBytes_eq_ref hT] at h
  have hat := runBytes_ok_at cfg bs {} s h
  obtain ⟨k, rfl⟩ := finish_eq_error T s e hf
  simp only [St.at] at hat
  simp only [lineColOf, ← hat, St.err]

omit hT in
/-- both packages report the same error (line, column and kind) on every input and chunking -/
theorem same_for_oj_and_gen (cfg : Cfg) (chunks : List Bytes) :
    run ojTables cfg chunks = run genTables cfg chunks := C01.oj_eq_gen cfg chunks

omit hT in
/-- the error, like every other outcome, does not depend on the chunking of a streamed input
(front-ends without the parsers' integer fast loop; see C03 for the parsers) -/
theorem same_for_every_chunking (T : Tables) (cfg : Cfg) (h : cfg.fastInt = false) (hr : cfg.reader = true)
    (chunks : List Bytes) : run T cfg chunks = run T cfg [chunks.flatten] :=
  C03.chunks_irrelevant T cfg h hr chunks

end OjgVerif.C09
