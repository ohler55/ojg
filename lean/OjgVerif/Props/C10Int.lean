import OjgVerif.Sen.LemmasStr
import OjgVerif.Common.ByteTables
import OjgVerif.Writer.LemmasNum
import OjgVerif.Json.NumLemmas
/-! # C10 — the integer loop of `sen.Parser`: single steps, the accumulator invariant `NumOK`, and the run over the
digits of an integer below the limit of the fast loop -/
namespace OjgVerif.Sen
open OjgVerif.Json (Num BigLimit isDigitB dval)

/-- the accumulator holds the integer `v` exactly (sign apart), not in text form -/
def NumOK (n : Num) (neg : Bool) (v : Nat) : Prop :=
  n.big = [] ∧ n.i.toNat = v ∧ n.div = 1 ∧ n.exp = 0 ∧ n.neg = neg

theorem NumOK.big {n : Num} {neg : Bool} {v : Nat} (h : NumOK n neg v) : n.big = [] := h.1
theorem NumOK.i {n : Num} {neg : Bool} {v : Nat} (h : NumOK n neg v) : n.i.toNat = v := h.2.1

/-- `922337203685477580` is `BigLimit` (`MaxInt64 / 10`): below it `AddDigit` neither overflows nor goes over to the text
form, and the parser's own test `BigLimit ≤ i` does not fire -/
theorem NumOK_digit (n : Num) (neg : Bool) (v : Nat) (d : UInt8) (h : NumOK n neg v) (hv : v < 922337203685477580)
    (hd : isDigitB d) :
    NumOK ({ n with i := n.i * 10 + (d - 48).toUInt64 } : Num) neg (v * 10 + dval d) ∧
    n.addDigit d = ({ n with i := n.i * 10 + (d - 48).toUInt64 } : Num) ∧ ¬ BigLimit ≤ n.i := by
  obtain ⟨h1, h2, h3, h4, h5⟩ := h
  have hdv := Json.dval_le_9 d hd
  have hBL : BigLimit.toNat = 922337203685477580 := rfl
  have hval : (n.i * 10 + (d - 48).toUInt64).toNat = v * 10 + dval d := by
    simp only [UInt64.toNat_add, UInt64.toNat_mul, Json.digit_toUInt64 d hd, h2]
    have : (10 : UInt64).toNat = 10 := rfl
    rw [this]; omega
  have hnle : ¬ BigLimit ≤ n.i := by rw [UInt64.le_iff_toNat_le, hBL, h2]; omega
  have hle : n.i ≤ BigLimit := by rw [UInt64.le_iff_toNat_le, hBL, h2]; omega
  refine ⟨⟨h1, hval, h3, h4, h5⟩, ?_, hnle⟩
  unfold Num.addDigit
  have hmax : ¬ Json.MaxInt64 < n.i * 10 + (d - 48).toUInt64 := by
    rw [UInt64.lt_iff_toNat_lt, hval]
    have hm : Json.MaxInt64.toNat = 9223372036854775807 := rfl
    omega
  simp only [h1, List.length_nil, Nat.lt_irrefl, ↓reduceIte, hle, hmax]

theorem digit_numDigit (d : UInt8) (h : isDigitB d) : expected .digit d = .numDigit :=
  of_decide_eq_true (all_bytes (fun b => decide (48 ≤ b.toNat ∧ b.toNat ≤ 57 → expected .digit b = .numDigit))
    (by decide +kernel) d) h

theorem step_numDigitF (st : St) (f : Fast) (d : UInt8) (l : Bool) (neg : Bool) (v : Nat) (hm : st.mode = .digit)
    (hf : f.nlSkipping = false) (hd : isDigitB d) (hn : NumOK st.num neg v) (hv : v < 922337203685477580) :
    step refTables {} st f d l = .ok ({ st with num := st.num.addDigit d },
      { inFast := f.inFast, tokFast := f.tokFast, nlSkipping := false }, false) := by
  obtain ⟨hok, hadd, hnle⟩ := NumOK_digit st.num neg v d hn hv hd
  have hact := digit_numDigit d hd
  rw [hadd]
  simp [step, stepCore, stepAct, stepActP, nextFast, deliver, refTables, expectedFin, hm, hf, hact, hadd, hnle]

theorem d19_digit (d : UInt8) (h : Json.Spec.isDigit19 d = true) : isDigitB d ∧ 1 ≤ dval d := by
  simp only [Json.Spec.isDigit19, Bool.and_eq_true, decide_eq_true_eq, UInt8.le_iff_toNat_le] at h
  have h1 : (49 : UInt8).toNat = 49 := rfl
  have h2 : (57 : UInt8).toNat = 57 := rfl
  rw [h1, h2] at h
  exact ⟨⟨by omega, by omega⟩, by unfold dval; omega⟩

theorem value_d19 (d : UInt8) (h : Json.Spec.isDigit19 d = true) :
    expected .value d = .valDigit ∧ expected .neg d = .negDigit :=
  of_decide_eq_true (all_bytes (fun b => decide (Json.Spec.isDigit19 b = true →
    expected .value b = .valDigit ∧ expected .neg b = .negDigit)) (by decide +kernel) d) h

theorem step_valDigit (st : St) (f : Fast) (d : UInt8) (l : Bool) (hm : st.mode = .value) (hf : f.nlSkipping = false)
    (hd : Json.Spec.isDigit19 d = true) :
    step refTables {} st f d l =
      .ok ({ st with mode := .digit, num := { st.num.reset with i := (d - 48).toUInt64 } },
           { inFast := true, tokFast := f.tokFast, nlSkipping := false }, false) := by
  have ha := (value_d19 d hd).1
  simp [step, stepCore, stepAct, stepActP, nextFast, deliver, refTables, expectedFin, hm, hf, ha]

theorem step_val0 (st : St) (f : Fast) (l : Bool) (hm : st.mode = .value) (hf : f.nlSkipping = false) :
    step refTables {} st f 48 l = .ok ({ st with mode := .zero, num := st.num.reset }, fS f, false) := by
  simp [step, stepCore, stepAct, stepActP, nextFast, deliver, refTables, expected, expectedFin, isSep, isBlank, hm, hf,
    fS]

theorem step_valNeg (st : St) (f : Fast) (l : Bool) (hm : st.mode = .value) (hf : f.nlSkipping = false) :
    step refTables {} st f 45 l = .ok ({ st with mode := .neg, num := { st.num.reset with neg := true } }, fS f, false) := by
  simp [step, stepCore, stepAct, stepActP, nextFast, refTables, expected, isSep, isBlank, hm, hf, fS]

theorem step_negDigit (st : St) (f : Fast) (d : UInt8) (l : Bool) (hm : st.mode = .neg) (hf : f.nlSkipping = false)
    (hd : Json.Spec.isDigit19 d = true) :
    step refTables {} st f d l = .ok ({ st with num := st.num.addDigit d, mode := .digit }, fS f, false) := by
  have ha := (value_d19 d hd).2
  simp [step, stepCore, stepAct, stepActP, nextFast, deliver, refTables, expectedFin, hm, hf, ha, fS]

theorem foldl_ge (ds : Bytes) (a : Nat) : a ≤ ds.foldl (fun a b => a * 10 + dval b) a := by
  induction ds generalizing a with
  | nil => exact Nat.le_refl _
  | cons d r ih =>
    simp only [List.foldl_cons]
    have := ih (a * 10 + dval d)
    omega

/-- the digits of the integer loop below the limit `9223372036854775800 = 10 * BigLimit`: the value before every digit is
then below `BigLimit` (`foldl_ge`) -/
theorem digits_run (ds : Bytes) : ∀ (st : St) (f : Fast) (p : Pos) (rest : Bytes) (neg : Bool) (v : Nat),
    st.mode = .digit → f.nlSkipping = false → (∀ d ∈ ds, isDigitB d) → NumOK st.num neg v →
    ds.foldl (fun a b => a * 10 + dval b) v < 9223372036854775800 →
    ∃ f' p', runBytes refTables {} st f p (ds ++ rest) =
        runBytes refTables {} { st with num := ds.foldl Num.addDigit st.num } f' p' rest ∧
      f'.nlSkipping = false ∧ NumOK (ds.foldl Num.addDigit st.num) neg (ds.foldl (fun a b => a * 10 + dval b) v) ∧
      f'.inFast = f.inFast ∧ f'.tokFast = f.tokFast := by
  induction ds with
  | nil => intro st f p rest neg v hm hf _ hn _; exact ⟨f, p, rfl, hf, hn, rfl, rfl⟩
  | cons d r ih =>
    intro st f p rest neg v hm hf hds hn hv
    have hd := hds d List.mem_cons_self
    simp only [List.foldl_cons] at hv ⊢
    have hge := foldl_ge r (v * 10 + dval d)
    have hvs : v < 922337203685477580 := by omega
    obtain ⟨hok, hadd, _⟩ := NumOK_digit st.num neg v d hn hvs hd
    obtain ⟨f', p', hrun, hf', hn', hi', ht'⟩ := ih { st with num := st.num.addDigit d }
      { inFast := f.inFast, tokFast := f.tokFast, nlSkipping := false } (p.next false) rest neg (v * 10 + dval d) hm rfl
      (fun x hx => hds x (List.mem_cons_of_mem _ hx)) (hadd ▸ hok) hv
    refine ⟨f', p', ?_, hf', hn', hi', ht'⟩
    rw [List.cons_append, runBytes_cons_ok {} fun l => step_numDigitF st f d l neg v hm hf hd hn hvs]
    exact hrun

theorem fmtNat_eq (n : Nat) : Writer.fmtNat n = Json.fmtNat n := Writer.fmtNat_eq n

end OjgVerif.Sen
