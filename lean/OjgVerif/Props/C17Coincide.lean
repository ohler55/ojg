import OjgVerif.Props.C17
/-! # C17 — when the streamed reading of from-the-end indexes and slices IS the specification

`C17_streamed` says what the current matcher reports for a filter-free target set: `expected` of
the targets in their streamed reading (`asStreamed`: a from-the-end index or union member selects
nothing, a slice selects every index). This module turns the excluded class of `C17_partial` from a
predicate on the TARGET alone (`deviates`) into a predicate on (targets, document): the callbacks are
the specification's IF AND ONLY IF both readings keep the same locations of the document
(`streamedCoincides`, executable: `C17_cur_iff_coincides`); worked out for a lone `$[i]` with `i < 0`
and a lone slice on an array (`fromEnd_alone_iff`, `slice_alone_iff`). -/
namespace OjgVerif.C17
open OjgVerif.Match

/-- the filter of `expected`, `outermost (selectedBy targets doc)`, written out (`keeps_eq_outermost`) -/
def keeps (targets : List Target) (doc : JV) (pv : NPath × JV) : Bool :=
  selectedBy targets doc pv.1 && !(properPrefixes pv.1).any (selectedBy targets doc)

theorem keeps_eq_outermost (targets : List Target) (doc : JV) :
    keeps targets doc = outermost (selectedBy targets doc) := rfl

theorem expected_eq_filter (targets : List Target) (doc : JV) :
    expected targets doc = (locs [] doc).filter (keeps targets doc) :=
  keeps_eq_outermost targets doc ▸ expected_eq_outermost targets doc

/-- the streamed reading and the specification keep the same locations of this document -/
def streamedCoincides (targets : List Target) (doc : JV) : Bool :=
  (locs [] doc).all fun pv => keeps (targets.map asStreamed) doc pv == keeps targets doc pv

theorem filter_eq_filter_iff {α : Type} (l : List α) (p q : α → Bool) :
    l.filter p = l.filter q ↔ ∀ x ∈ l, p x = q x := by
  constructor
  · intro h x hx
    have h1 : x ∈ l.filter p ↔ x ∈ l.filter q := by rw [h]
    simp only [List.mem_filter, hx, true_and] at h1
    cases hp : p x <;> cases hq : q x <;> simp [hp, hq] at h1 <;> rfl
  · intro h
    exact List.filter_congr h

theorem streamedCoincides_iff (targets : List Target) (doc : JV) :
    streamedCoincides targets doc = true ↔ expected (targets.map asStreamed) doc = expected targets doc := by
  rw [expected_eq_filter, expected_eq_filter, filter_eq_filter_iff]
  simp [streamedCoincides, List.all_eq_true]

/-- **The excluded class as a predicate on (targets, document).** For the code as it is, every
document and every target set without filters: the callbacks are the specification's exactly when
the streamed reading of the targets keeps the same locations of THIS document as the targets
themselves (`streamedCoincides`, executable). -/
theorem C17_cur_iff_coincides (targets : List Target) (doc : JV) (hdoc : NoDupKeys doc = true)
    (hnf : ∀ t ∈ targets, usesFilter t = false) :
    matchRun Dev.cur targets (events doc) = expected targets doc ↔ streamedCoincides targets doc = true := by
  rw [C17_streamed targets doc hdoc hnf, streamedCoincides_iff]

/-- the elements of an array document a one-fragment target selects -/
def elemSel (f : Frag) (xs : List JV) : NPath → Bool
  | [.idx j] => (match xs[j]? with | some c => fragSel f (.arr xs) (.idx j) c | none => false)
  | _ => false

theorem selectedBy_single_arr (f : Frag) (hd : isDescent f = false) (xs : List JV) (q : NPath) :
    selectedBy [[f]] (.arr xs) q = elemSel f xs q := by
  simp only [selectedBy, List.any_cons, List.any_nil, Bool.or_false]
  match q with
  | [] => exact selects_cons_nil f hd _ _
  | .key k :: r =>
    rw [selects_cons_none f hd _ _ _ _ rfl]
    cases r <;> rfl
  | .idx j :: r =>
    cases hj : xs[j]? with
    | none =>
      rw [selects_cons_none f hd _ _ _ _ (by simpa [child?] using hj)]
      cases r <;> simp [elemSel, hj]
    | some c =>
      rw [selects_cons_some f hd _ _ _ _ c (by simpa [child?] using hj)]
      cases r <;> simp [elemSel, hj, selects]

theorem keeps_single_arr (f : Frag) (hd : isDescent f = false) (xs : List JV) (pv : NPath × JV) :
    keeps [[f]] (.arr xs) pv = elemSel f xs pv.1 := by
  have hfun : selectedBy [[f]] (.arr xs) = elemSel f xs := funext (selectedBy_single_arr f hd xs)
  simp only [keeps, hfun]
  match pv.1 with
  | [] => simp [elemSel]
  | [.key k] => simp [elemSel]
  | [.idx j] => simp [properPrefixes, List.range_succ, elemSel]
  | a :: b :: r => simp [elemSel]

theorem locs_arr_elem (xs : List JV) (j : Nat) (c : JV) (h : xs[j]? = some c) :
    ([Seg.idx j], c) ∈ locs [] (.arr xs) := by
  have := locs_complete [.idx j] (.arr xs) [] c (by simp [nav, child?, h])
  simpa using this

theorem coincide_single_arr (f g : Frag) (hf : isDescent f = false) (hg : isDescent g = false) (xs : List JV) :
    expected [[g]] (.arr xs) = expected [[f]] (.arr xs) ↔
      ∀ j c, xs[j]? = some c → fragSel g (.arr xs) (.idx j) c = fragSel f (.arr xs) (.idx j) c := by
  rw [expected_eq_filter, expected_eq_filter, filter_eq_filter_iff]
  constructor
  · intro h j c hj
    have := h ([.idx j], c) (locs_arr_elem xs j c hj)
    rw [keeps_single_arr g hg xs, keeps_single_arr f hf xs] at this
    simpa [elemSel, hj] using this
  · intro h pv _
    rw [keeps_single_arr g hg xs pv, keeps_single_arr f hf xs pv]
    match pv.1 with
    | [] => rfl
    | [.key k] => rfl
    | [.idx j] =>
      simp only [elemSel]
      cases hj : xs[j]? with
      | none => rfl
      | some c => exact h j c hj
    | a :: b :: r => simp [elemSel]

/-- **A lone from-the-end index is right only when it is out of range.** `$[i]` with `i < 0` on an
array of `n` elements: the matcher reports nothing, the specification the element `n + i` — so the
callbacks are the specification's iff `n < -i`; for `$[-1]`: iff the array is empty. -/
theorem fromEnd_alone_iff (i : Int) (hi : i < 0) (xs : List JV) (hdoc : NoDupKeys (.arr xs) = true) :
    matchRun Dev.cur [[.index i]] (events (.arr xs)) = expected [[.index i]] (.arr xs) ↔
      (xs.length : Int) + i < 0 := by
  rw [C17_streamed _ _ hdoc (by simp [usesFilter, isFilterFrag])]
  have hs : [[Frag.index i]].map asStreamed = [[.union []]] := by simp [asStreamed, streamedFrag, hi]
  rw [hs, coincide_single_arr (.index i) (.union []) rfl rfl]
  constructor
  · intro h
    by_cases hlt : (xs.length : Int) + i < 0
    · exact hlt
    · exfalso
      have hj : (xs.length : Int) + i = ((xs.length + i).toNat : Nat) := by omega
      have hlen : (xs.length + i).toNat < xs.length := by omega
      have := h (xs.length + i).toNat xs[(xs.length + i).toNat] (by simp [hlen])
      simp only [fragSel, List.any_nil, indexSel, hi, ↓reduceIte] at this
      have h2 : decide ((((xs.length : Int) + i).toNat : Int) = (xs.length : Int) + i) = true := by
        simp; omega
      rw [h2] at this
      cases this
  · intro hlt j c hj
    have hjl : j < xs.length := (List.getElem?_eq_some_iff.mp hj).1
    simp only [fragSel, List.any_nil, indexSel, hi, ↓reduceIte]
    have : ¬ ((j : Int) = (xs.length : Int) + i) := by omega
    simp [this]

/-- `$[-1]` is right on no non-empty array -/
theorem fromEnd_last_never (x : JV) (xs : List JV) (hdoc : NoDupKeys (.arr (x :: xs)) = true) :
    matchRun Dev.cur [[.index (-1)]] (events (.arr (x :: xs))) ≠ expected [[.index (-1)]] (.arr (x :: xs)) := by
  intro h
  have := (fromEnd_alone_iff (-1) (by decide) (x :: xs) hdoc).mp h
  simp only [List.length_cons] at this
  omega

/-- **A lone slice is right only when it selects everything.** `$[a:b:st]` on an array: the matcher
reports every element, so the callbacks are the specification's iff the slice selects every index
of THIS array. -/
theorem slice_alone_iff (a : Int) (b : Option Int) (st : Int) (xs : List JV) (hdoc : NoDupKeys (.arr xs) = true) :
    matchRun Dev.cur [[.slice a b st]] (events (.arr xs)) = expected [[.slice a b st]] (.arr xs) ↔
      ∀ j, j < xs.length → sliceSel a b st xs.length j = true := by
  rw [C17_streamed _ _ hdoc (by simp [usesFilter, isFilterFrag])]
  have hs : [[Frag.slice a b st]].map asStreamed = [[.slice 0 none 1]] := by simp [asStreamed, streamedFrag]
  rw [hs, coincide_single_arr (.slice a b st) (.slice 0 none 1) rfl rfl]
  constructor
  · intro h j hj
    have := h j xs[j] (by simp [hj])
    simp only [fragSel] at this
    rw [sliceSel_full _ _ hj] at this
    exact this.symm
  · intro h j c hj
    have hjl : j < xs.length := (List.getElem?_eq_some_iff.mp hj).1
    simp only [fragSel]
    rw [sliceSel_full _ _ hjl, h j hjl]

/-- the hypotheses are satisfiable either way: `$[-2]` is right on `[7]` and wrong on `[7,8]`;
`$[0:5]` is right on `[7,8]`, `$[1:]` wrong -/
example : ((([JV.int 7].length : Nat) : Int) + (-2) < 0) ∧ ¬ ((([JV.int 7, .int 8].length : Nat) : Int) + (-2) < 0) := by
  decide
example : (∀ j, j < [JV.int 7, .int 8].length → sliceSel 0 (some 5) 1 [JV.int 7, .int 8].length j = true) ∧
    ¬ (∀ j, j < [JV.int 7, .int 8].length → sliceSel 1 none 1 [JV.int 7, .int 8].length j = true) := by
  constructor
  · intro j hj
    have : j = 0 ∨ j = 1 := by simp at hj; omega
    rcases this with rfl | rfl <;> decide
  · intro h
    have := h 0 (by decide)
    revert this
    decide

end OjgVerif.C17
