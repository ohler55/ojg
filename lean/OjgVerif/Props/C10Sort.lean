import OjgVerif.Props.C10Indent
import OjgVerif.Sen.WriterSort
/-! # C10 with `Sort`: the writer sorts the members first (`sort.Strings`), the theorems apply to the sorted tree

`sortVal_adm`: sorting the members (at every level) keeps a tree in the class `admVal`; hence
`C10_sorted_partial`: for every option combination with `Sort`, `sen.Parser.Parse` of what `sen.String` writes for a map
given in ANY member order is `nvVal o (sortVal v)`. What `sortVal` does to the members is its definition
(Sen/WriterSort.lean: insertion into an ascending list under `ltBytes`, the text of `Writer.insertKv` over `bytesLt`); that
it only reorders them and that the result is ascending is not proved here. The run gives the model the members in
DESCENDING order and compares the bytes with the Go writer under `Sort: true`. -/
namespace OjgVerif.Sen

theorem adm_insertKV (o : WOpts) (k : Bytes) (v : JV) (h : omitted o v = true ∨ (¬ C10.leadingSign k o.html ∧ admVal o v)) :
    ∀ l : List (Bytes × JV), admMembers o l → admMembers o (insertKV (k, v) l) := by
  intro l
  induction l with
  | nil => intro _; exact ⟨h, trivial⟩
  | cons p t ih =>
    obtain ⟨k', v'⟩ := p
    intro hl
    obtain ⟨h1, h2⟩ : (omitted o v' = true ∨ (¬ C10.leadingSign k' o.html ∧ admVal o v')) ∧ admMembers o t := hl
    simp only [insertKV]
    split
    · exact ⟨h, h1, h2⟩
    · exact ⟨h1, ih h2⟩

theorem insertKV_cons (kv : Bytes × JV) (l : List (Bytes × JV)) : ∃ h t, insertKV kv l = h :: t := by
  cases l with
  | nil => exact ⟨_, _, rfl⟩
  | cons p t => unfold insertKV; split <;> exact ⟨_, _, rfl⟩

theorem omitted_sortVal (o : WOpts) (v : JV) : omitted o (sortVal v) = omitted o v := by
  cases v with
  | arr xs => cases xs <;> rfl
  | obj kvs =>
    cases kvs with
    | nil => rfl
    | cons p r =>
      obtain ⟨h, t, e⟩ := insertKV_cons (p.1, sortVal p.2) (sortMembers r)
      simp only [sortVal, sortMembers, e]
      rfl
  | _ => rfl

theorem sortVal_adm_all (o : WOpts) : (∀ v, admVal o v → admVal o (sortVal v)) ∧
    (∀ xs, admElems o xs → admElems o (sortElems xs)) ∧ (∀ kvs, admMembers o kvs → admMembers o (sortMembers kvs)) :=
  tree_ind
    (fun v hs h => by
      cases v with
      | arr xs => cases hs
      | obj kvs => cases hs
      | _ => exact h)
    (fun xs ih h => ih h) (fun kvs ih h => ih h) (fun h => h) (fun x r ihV ihE h => ⟨ihV h.1, ihE h.2⟩) (fun h => h)
    (fun k v r ihV ihM h => adm_insertKV o k (sortVal v) (h.1.imp (omitted_sortVal o v).trans (And.imp_right ihV)) _ (ihM h.2))

theorem sortVal_adm (o : WOpts) (v : JV) (h : admVal o v) : admVal o (sortVal v) :=
  (sortVal_adm_all o).1 v h

/-- **C10 with `Sort`**: whatever order the members are given in, the text written with `Sort` parses back to `nvVal` of
the tree `sortVal` makes of it (the model of `sort.Strings` on the member names, at every level) -/
theorem C10_sorted_partial (o : WOpts) (io : IOpts) (v : JV) (hc : (∃ xs, v = .arr xs) ∨ (∃ kvs, v = .obj kvs))
    (hadm : admVal o v) : C10.parsesTo (senWriteSorted o io v) (nvVal o (sortVal v)) := by
  apply C10_layout_partial o io (sortVal v) _ (sortVal_adm o v hadm)
  rcases hc with ⟨xs, rfl⟩ | ⟨kvs, rfl⟩
  · exact Or.inl ⟨sortElems xs, by simp [sortVal]⟩
  · exact Or.inr ⟨sortMembers kvs, by simp [sortVal]⟩

/-- … and when the sorted tree is plain (valid UTF-8, different names, nothing passed over), to the sorted tree itself -/
theorem C10_sorted_valid (o : WOpts) (io : IOpts) (v : JV) (hc : (∃ xs, v = .arr xs) ∨ (∃ kvs, v = .obj kvs))
    (hadm : admVal o v) (hplain : plainVal o (sortVal v)) : C10.parsesTo (senWriteSorted o io v) (sortVal v) := by
  have h := C10_sorted_partial o io v hc hadm
  rwa [nvVal_plain o (sortVal v) hplain] at h

/-- `{zz:1 b:{d:2 c:3} a:[{y:1 x:2}]}` is written as `{a:[{x:2 y:1}] b:{c:3 d:2} zz:1}` -/
example : senWriteSorted {} {} (.obj [([122, 122], .int 1), ([98], .obj [([100], .int 2), ([99], .int 3)]),
      ([97], .arr [.obj [([121], .int 1), ([120], .int 2)]])]) =
    "{a:[{x:2 y:1}] b:{c:3 d:2} zz:1}".toUTF8.toList := by decide +kernel

end OjgVerif.Sen
