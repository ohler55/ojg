import OjgVerif.JPText.PrecSmall
import OjgVerif.JPText.PrecFilterExpr
import OjgVerif.JPText.BracketBox
import OjgVerif.JPText.PrecNested2
/-! # C14 — JSONPath and script text forms round-trip

Model: `JPText/Print.lean` (the printers), `JPText/Parse.lean` (jp/parse.go), over the regenerated
`Gen.Jp.tokenMap/jMap/eqMap/hex/maxEnd` and `Gen.JpOps` (the operator table of jp/script.go).
Statement of the property on the model: `JPText/Spec.lean` (`roundTrips*`, the normal form, `Dev`).

The tree under verification violated C14 in thirteen ways; eleven are repaired in /repo (commits e6c1ad4 d27ad83
9a26786 cd355fe 32b7b46 fe63c88 c107b3b bc70af1 4af356a b3b14ce) and the model follows them. Two
classes of constructible objects have no text form in the grammar and no repair (`Dev.noTextForm`,
`Dev.regexText`): the property at full strength is still false (`C14_full_false`), what is proved
excludes exactly those.

General theorems by induction over trees of any size — `prec_correct_general`, `eqn_roundtrip_partial`,
`script_roundtrip_partial`, `eqn_roundtrip_spec`, `expr_filter_roundtrip_partial`, `C14_shallow_holds` (C14 for all
deviation-free objects whose filters are nested one level), the `Bracket` flag fragment (`bracket_flags_general`,
`bracket_box_exact`; two more known findings). The parenthesisation/precedence rules tied to the source stand in
`JPText/GenTie.lean`, which this file does not import. Expressions whose filters are nested to ANY depth are read back too (`parseExpr_deep`,
JPText/LemmasFilterExpr.lean: the general theorem behind `expr_filter_roundtrip_partial` and `nested_two_levels_box`); it
is not stated in the predicates of Spec.lean, so `C14_shallow_holds` stops at one level. Finite boxes stand beside the
general theorems and follow from them: the kernel evaluates at most that a box lies inside the class of its theorem. -/
namespace OjgVerif.C14
open OjgVerif.JPText

/-- names, codes, precedence numbers and arities of jp/script.go, as regenerated -/
theorem ops_pinned :
    Gen.JpOps.all.map (fun p => (p.1, p.2.name, p.2.code, p.2.prec, p.2.cnt)) =
      [("eq", [61, 61], 61, 3, 2), ("neq", [33, 61], 110, 3, 2), ("lt", [60], 60, 3, 2), ("gt", [62], 62, 3, 2),
       ("lte", [60, 61], 108, 3, 2), ("gte", [62, 61], 103, 3, 2), ("or", [124, 124], 124, 4, 2),
       ("and", [38, 38], 38, 4, 2), ("not", [33], 33, 0, 1), ("add", [43], 43, 2, 2), ("sub", [45], 45, 2, 2),
       ("mult", [42], 42, 1, 2), ("divide", [47], 47, 1, 2), ("get", [103, 101, 116], 71, 0, 1),
       ("in", [105, 110], 105, 3, 2), ("empty", [101, 109, 112, 116, 121], 101, 3, 2), ("rx", [126, 61], 126, 3, 2),
       ("rxa", [61, 126], 126, 3, 2), ("has", [104, 97, 115], 104, 3, 2),
       ("exists", [101, 120, 105, 115, 116, 115], 120, 3, 2), ("length", [108, 101, 110, 103, 116, 104], 76, 0, 1),
       ("count", [99, 111, 117, 110, 116], 67, 0, 1), ("match", [109, 97, 116, 99, 104], 77, 0, 2),
       ("search", [115, 101, 97, 114, 99, 104], 83, 0, 2), ("group", [40], 40, 0, 1)] := by
  rfl

/-- every name the parser can look up maps to the operator that prints that name, except the alias
`=~`, which maps to `~=` -/
theorem opMap_names :
    (Gen.JpOps.opMap.all fun kv => kv.1 == kv.2.name || (kv.1 == [61, 126] && kv.2 == Gen.JpOps.op_rx)) = true := by
  decide

/-- C14 on the model: every constructible expression round-trips in both text forms, every
constructible equation in its three text forms -/
def C14_full : Prop :=
  (∀ (br : Bool) (x : Expr), Frag.okL x = true → roundTripsExpr br x = true) ∧
  (∀ e : Eqn, e.ok = true → roundTripsEqn e = true ∧ roundTripsScript e = true ∧ roundTripsFilter e = true)

/-- `2 * (3 + 4)` built with `Multiply(ConstInt(2), Add(ConstInt(3), ConstInt(4)))` -/
def witnessTimesPlus : Eqn :=
  .bin Gen.JpOps.op_mult (.val (.int 2)) (.bin Gen.JpOps.op_add (.val (.int 3)) (.val (.int 4)))

/-- `2 - (3 - 4)` -/
def witnessMinusMinus : Eqn :=
  .bin Gen.JpOps.op_sub (.val (.int 2)) (.bin Gen.JpOps.op_sub (.val (.int 3)) (.val (.int 4)))

/-- `Equation.String` writes `(2 * (3 + 4))`. Before e6c1ad4 it wrote `(2 * 3 + 4)`, read back as
`(2 * 3) + 4` (finding C14-equation-parens, fixed). -/
theorem witness_equation_text :
    eqnString witnessTimesPlus = some [40, 50, 32, 42, 32, 40, 51, 32, 43, 32, 52, 41, 41] ∧
      roundTripsEqn witnessTimesPlus = true := by
  decide +kernel

/-- `Script.String` writes `(2 - (3 - 4))`. Before d27ad83 it wrote `(2 - 3 - 4)`, read back as
`(2 - 3) - 4` (finding C14-equal-prec, fixed). -/
theorem witness_script_text :
    scriptPrint witnessMinusMinus.script = [40, 50, 32, 45, 32, 40, 51, 32, 45, 32, 52, 41, 41] ∧
      roundTripsScript witnessMinusMinus = true := by
  decide +kernel

/-- `R().Descent().Nth(1)` is written `$..[1]` and read back. Before bc70af1 it was written `$.[1]` and
rejected (finding C14-descent, fixed). -/
theorem descent_bracket_accepted :
    exprPrint false [.root, .descent, .nth 1] = [36, 46, 46, 91, 49, 93] ∧
      roundTripsExpr false [.root, .descent, .nth 1] = true ∧ roundTripsExpr true [.root, .descent, .nth 1] = true := by
  decide +kernel

/-- the property at full strength is still false: `R().Root()` is constructible, prints `$$`, and that
is read as `$` (known finding C14-no-text-form: the grammar has no text for a Root after the first
fragment) -/
theorem C14_full_false : ¬ C14_full := by
  intro h
  have h1 := h.1 false [.root, .root] (by decide)
  have h2 : roundTripsExpr false [.root, .root] = false := by decide +kernel
  rw [h2] at h1
  cases h1

/-- For every byte string `s` — valid UTF-8 or not — and whatever text follows:
`AppendString(s, '\'')` starts with the quote, and `readStr`, having consumed it, returns `s` and exactly
the text that follows. Reads `Gen.Jp.jMap` and `Gen.Jp.hex` (256 cells checked by kernel evaluation inside
the proof). Before c107b3b an undecodable byte came back as U+FFFD (finding C14-utf8, fixed). -/
theorem quoted_roundtrip (s rest : Bytes) :
    ∃ t, appendString s 39 ++ rest = 39 :: t ∧ readStr 39 t = some (s, rest) :=
  readStr_appendString s rest

/-- `"\xff"` is written `'\xff'` -/
example : appendString [0xFF] 39 = [39, 92, 120, 102, 102, 39] := by decide +kernel

/-- `readInt` (Go wrap-around arithmetic) reads `strconv.FormatInt(i, 10)` back as `i`, for every
int64 `i` and every non-digit follower `c`, which it consumes and returns -/
theorem int_roundtrip (i : Int) (hi : inInt64 i = true) (c : UInt8) (rest : Bytes) (hc : isDigit c = false) :
    ∃ d ds, fmtInt i = d :: ds ∧ (d = 45 ∨ isDigit d = true) ∧ readInt d (ds ++ c :: rest) = some (i, c, rest) :=
  readInt_fmtInt i hi c rest hc

/-- `Nth.Append` is `FormatInt` between brackets, for every index; before 4af356a `Nth(MinInt64)` printed
`[-'..--).0-*(+,))+(0(]` (finding C14-nth-minint, fixed) -/
theorem nth_text (i : Int) : nthPrint i = 91 :: (fmtInt i ++ [93]) := rfl

/-- **C14, expressions.** For every constructible expression `x` (`Frag.okL`) that has no filter fragment
and for which `Spec.lean` names no deviation (`devsExpr br x = []`: no Root/At after the first position,
no union of fewer than two members — the objects without a text form), in BOTH text forms: the printed text
is accepted, the re-parsed expression prints identically, and it equals `x` up to the normal form
(evaluates identically). Root, At, children with ANY key bytes (dot or quoted form chosen by the
regenerated `tokenMap`), every int64 index, wildcards, descents anywhere (`..` / `[..]`), unions with any
member bytes, slices of every shape. -/
theorem expr_roundtrip_partial (br : Bool) (x : Expr) (hok : Frag.okL x = true) (hnf : noFilter x = true)
    (hdev : devsExpr br x = []) :
    ∃ y, parseExpr (exprPrint br x) = some y ∧ exprPrint br y = exprPrint br x ∧ sameExpr y x = true := by
  have hc := cleanExpr_of_spec br x hok hnf hdev
  refine ⟨imgL br x, parseExpr_print br x hc, exprPrint_imgL br x hc, ?_⟩
  simp [sameExpr, imgL_normL]

theorem expr_roundtrip_bool (br : Bool) (x : Expr) (hok : Frag.okL x = true) (hnf : noFilter x = true)
    (hdev : devsExpr br x = []) : roundTripsExpr br x = true :=
  roundTripsExpr_clean br x (cleanExpr_of_spec br x hok hnf hdev)

/-- the hypotheses hold for `$.a['b c']['\xff'][3]..[-9223372036854775808]..*[1:5:2]['it\'s',-1]..` -/
example : Frag.okL [.root, .child [97], .child [98, 32, 99], .child [0xFF], .nth 3, .descent, .nth minInt, .descent,
      .wild false, .slice [1, 5, 2], .union [.key [105, 116, 39, 115], .idx (-1)], .descent] = true ∧
    noFilter [.root, .child [97], .child [98, 32, 99], .child [0xFF], .nth 3, .descent, .nth minInt, .descent,
      .wild false, .slice [1, 5, 2], .union [.key [105, 116, 39, 115], .idx (-1)], .descent] = true ∧
    devsExpr true [.root, .child [97], .child [98, 32, 99], .child [0xFF], .nth 3, .descent, .nth minInt, .descent,
      .wild false, .slice [1, 5, 2], .union [.key [105, 116, 39, 115], .idx (-1)], .descent] = [] := by decide +kernel

/-! Evaluation order, small trees. For every equation tree with one or two operator nodes over `Not` and
all 19 binary constructors
(`Eq … Regex`, `Match`, `Search`), and every tree with three operator nodes over `Not` and one binary
constructor per precedence level (plus `-` and `match`), each of `Equation.String`, `Script.String`,
`Filter.String` is read back to the same template and printed identically — with NO exception (the deviations
such trees showed are repaired in /repo: e6c1ad4, d27ad83, 9a26786, cd355fe). Every tree of these spaces lies in
the class of the general theorems below; the kernel evaluates that membership (`Eqn.okC`, JPText/PrecSmall.lean)
and the round trips follow from `roundTrips*_okC`. -/

def allThree (e : Eqn) : Bool := roundTripsEqn e && roundTripsScript e && roundTripsFilter e

theorem devsExact_allThree (e : Eqn) (h : devsExact e = true) (hE : devsEqn e = []) (hS : devsScript e = [])
    (hF : devsFilter e = []) : allThree e = true := by
  simp only [devsExact, hE, hS, hF, List.isEmpty_nil, Bool.and_eq_true, beq_iff_eq] at h
  simp [allThree, ← h.1.1, ← h.1.2, ← h.2]

theorem prec_pairs_exact :
    ((pairsATrees ++ pairsBTrees).all fun s => devsExact s.eqn) = true :=
  all_devsExact (by rw [List.all_append, pairsA_okC, pairsB_okC]; rfl)

theorem prec_triples_exact :
    ((triplesATrees ++ triplesBTrees ++ triplesCTrees).all fun s => devsExact s.eqn) = true :=
  all_devsExact (by rw [List.all_append, List.all_append, triplesA_okC, triplesB_okC, triplesC_okC]; rfl)

/-- **all three text forms of every small tree round-trip** (unconditionally: every tree lies in `Eqn.okC`,
`pairsA_okC` … `triplesC_okC`) -/
theorem prec_small_all :
    ((pairsATrees ++ pairsBTrees ++ (triplesATrees ++ triplesBTrees ++ triplesCTrees)).all fun s =>
      allThree s.eqn) = true := by
  simp only [allThree]
  rw [List.all_append, List.all_append, List.all_append, List.all_append, pairsA_all, pairsB_all, triplesA_all,
    triplesB_all, triplesC_all]; rfl

/-- expressions that CARRY a filter: `$.list[?(e)].x` for every equation tree `e` with one or two operator
nodes over `Not` and all 19 binary constructors, leaves alternating between a path `@.a` and an integer:
`String()` and `BracketString()` are read back (nested `readExpr` inside `readEq` inside `readExpr`) to the same
expression and printed identically -/
theorem filter_expr_pairs_all :
    (filterExprTrees.all fun s => roundTripsExpr false s.filterExpr && roundTripsExpr true s.filterExpr) = true :=
  filterExpr_all

/-- **`precedentCorrect`, all trees.** `readEq` reads `a0 o1 a1 o2 a2 …` into one right-nested chain
whatever the operators are (`chainify`: that flattening, at every depth — inside parentheses, `!`, call
arguments). For EVERY properly parenthesised tree `g` of any size and any operators (`Eqn.pd`: each infix
node binds at least as loosely as its left operand and strictly more loosely than its right operand, a
parenthesis being a `group` node; calls and `!` have precedence number 0 as in the regenerated table),
`precedentCorrect`, run with the fuel the entry points use, returns exactly `g`: the grouping the
printers' parentheses express is the grouping the parser reconstructs. By induction (rotation lemma,
chain lemma, uniqueness of the properly parenthesised tree of a token sequence); no enumeration. -/
theorem prec_correct_general (g : Eqn) (hp : g.pd = true) :
    precCorrect (precFuel (chainify g)) (chainify g) = some g :=
  precCorrect_chainify g hp

/-- `(1 + 2 * 3 - (4 - 5)) && !(6 || 7)` is properly parenthesised; its flattening is one chain -/
example : Eqn.pd (.bin Gen.JpOps.op_and
      (.bin Gen.JpOps.op_sub
        (.bin Gen.JpOps.op_add (.val (.int 1)) (.bin Gen.JpOps.op_mult (.val (.int 2)) (.val (.int 3))))
        (.un Gen.JpOps.op_group (.bin Gen.JpOps.op_sub (.val (.int 4)) (.val (.int 5)))))
      (.un Gen.JpOps.op_not (.un Gen.JpOps.op_group (.bin Gen.JpOps.op_or (.val (.int 6)) (.val (.int 7)))))) = true := by
  decide

/-- **C14, `Equation.String`, all sizes.** For EVERY equation `e` built from `Not`, the 19 binary
constructors (`Eq … Regex`, `Match`, `Search`) and `Get`/`Length`/`Count` of a filter-free path that starts
with Root or At (any children, indexes, wildcards, descents, unions, slices), any nesting, any size, over
int64, boolean, null, Nothing, string (any bytes), finite float constants, regex constants whose source
`AppendString` leaves alone, and flat list constants (`Eqn.okC`): `Equation.String` succeeds,
`MustParseEquation` accepts the text and returns `(Eqn.leafy e).paren` — `e` in the reader's form (`Get(p)` is
the bare path, `2` is `2.0`, slices padded) with a `group` node exactly where the printer wrote a parenthesis,
the outermost excepted —, which prints identically and has the same script template up to `group` operators
and the normal form of the constants (evaluates identically). Proved by induction through `readEq`
(`readEq_raw`), `precedentCorrect` (`prec_correct_general`) and `reduceGroups`; no enumeration, no exception
in this class.

`…_partial`: excluded (covered by the correspondence run only; for expressions with nested filters see
`nested_two_levels_box`) are equations
whose paths contain FILTER fragments (nested filters), nested list constants, and the objects with a named
deviation (NaN/±Inf, regex sources that `AppendString` rewrites, paths not starting with Root/At, …); the full
statement is the second half of `C14_full`. -/
theorem eqn_roundtrip_partial (e : Eqn) (h : e.okC = true) :
    ∃ s, eqnString e = some s ∧ parseEquation s = some e.leafy.paren ∧ eqnString e.leafy.paren = some s ∧
      sameTemplate e.leafy.paren.build e.build = true := by
  have hs := okS_leafy e h
  obtain ⟨s, h1, h2⟩ := parseEquation_print e.leafy hs
  refine ⟨s, ?_, h2, by rw [← h1]; exact print_paren_self e.leafy hs true, ?_⟩
  · rw [← h1]; exact (print_leafy e h true).symm
  · have := sameTemplate_of_normL (normL_build_paren e.leafy hs)
    rw [(build_leafy e h).1, sameTemplate_imgI] at this
    exact this

theorem eqn_roundtrip_bool (e : Eqn) (h : e.okC = true) : roundTripsEqn e = true := roundTripsEqn_okC e h

/-- **C14, `Script.String` and `Filter.String`, all sizes.** For every equation `e` of the same class:
`e.Script().String()` is accepted by `NewScript` and `e.Filter().String()` by `NewFilter`; the template read
prints identically and equals the original template up to `group` operators and the normal form of the
constants. (What is read is the template of `Eqn.parenS`: a `group` operator exactly where `Script.Append` wrote
a parenthesis — as `Equation.Append` does, plus around an infix argument of `match`/`search`; LemmasScript.) By
induction through the stack machine of `Script.Append` (`run_build`), `readEq`, `precedentCorrect`,
`reduceGroups`. -/
theorem script_roundtrip_partial (e : Eqn) (h : e.okC = true) :
    (∃ t, parseScript (scriptPrint e.script) = some t ∧ scriptPrint t = scriptPrint e.script ∧
      sameTemplate t e.script = true) ∧
    (∃ t, parseFilter (filterPrint e.build) = some t ∧ filterPrint t = filterPrint e.build ∧
      sameTemplate t e.build = true) := by
  have h1 := roundTripsScript_okC e h
  have h2 := roundTripsFilter_okC e h
  unfold roundTripsScript at h1
  unfold roundTripsFilter at h2
  constructor
  · cases hp : parseScript (scriptPrint e.script) with
    | none => simp [hp] at h1
    | some t => simp only [hp, Bool.and_eq_true, beq_iff_eq] at h1; exact ⟨t, rfl, h1.1, h1.2⟩
  · cases hp : parseFilter (filterPrint e.build) with
    | none => simp [hp] at h2
    | some t => simp only [hp, Bool.and_eq_true, beq_iff_eq] at h2; exact ⟨t, rfl, h2.1, h2.2⟩

/-- **C14 for equations, in the words of Spec.lean.** Every constructible equation (`Eqn.ok`) for which
Spec.lean names no deviation (`devsEqn e = []`) and which is SHALLOW (no filter fragment inside a path operand,
no list constant inside a list constant) round-trips in all three text forms — whatever its size. This is the
second half of `C14_full` with exactly two restrictions: the named deviations (known findings) and shallowness
(the part that is still covered by the correspondence run only). -/
theorem eqn_roundtrip_spec (e : Eqn) (hok : e.ok = true) (hdev : devsEqn e = []) (hsh : e.shallow = true) :
    roundTripsEqn e = true ∧ roundTripsScript e = true ∧ roundTripsFilter e = true :=
  have h := okC_of_spec e hok hdev hsh
  ⟨roundTripsEqn_okC e h, roundTripsScript_okC e h, roundTripsFilter_okC e h⟩

/-- the hypotheses hold for `(@.a[1:] - 2.5) * 3 == count($..b) || 'x' in ['x', 1, null]` -/
example : Eqn.ok (.bin Gen.JpOps.op_or
      (.bin Gen.JpOps.op_eq
        (.bin Gen.JpOps.op_mult (.bin Gen.JpOps.op_sub (.un Gen.JpOps.op_get (.val (.expr [.at, .child [97], .slice [1]]))) (.val (.flt [50, 46, 53]))) (.val (.int 3)))
        (.un Gen.JpOps.op_count (.val (.expr [.root, .descent, .child [98]]))))
      (.bin Gen.JpOps.op_in (.val (.str [120])) (.val (.list [.str [120], .int 1, .null])))) = true ∧
    devsEqn (.bin Gen.JpOps.op_or
      (.bin Gen.JpOps.op_eq
        (.bin Gen.JpOps.op_mult (.bin Gen.JpOps.op_sub (.un Gen.JpOps.op_get (.val (.expr [.at, .child [97], .slice [1]]))) (.val (.flt [50, 46, 53]))) (.val (.int 3)))
        (.un Gen.JpOps.op_count (.val (.expr [.root, .descent, .child [98]]))))
      (.bin Gen.JpOps.op_in (.val (.str [120])) (.val (.list [.str [120], .int 1, .null])))) = [] ∧
    Eqn.shallow (.bin Gen.JpOps.op_or
      (.bin Gen.JpOps.op_eq
        (.bin Gen.JpOps.op_mult (.bin Gen.JpOps.op_sub (.un Gen.JpOps.op_get (.val (.expr [.at, .child [97], .slice [1]]))) (.val (.flt [50, 46, 53]))) (.val (.int 3)))
        (.un Gen.JpOps.op_count (.val (.expr [.root, .descent, .child [98]]))))
      (.bin Gen.JpOps.op_in (.val (.str [120])) (.val (.list [.str [120], .int 1, .null])))) = true := by
  decide +kernel

/-- **all three text forms of every equation of the class round-trip** (the general counterpart of
`prec_small_all`) -/
theorem eqn_all_three (e : Eqn) (h : e.okC = true) : allThree e = true :=
  Eqn.okC_roundTrips h

/-- the class is inside the constructible equations -/
theorem okC_ok : ∀ e : Eqn, e.okC = true → e.ok = true := by
  refine okC_induction ?_ (fun l _ ih => by simp [Eqn.ok, ih])
    (fun x hx => by simp [Eqn.ok, okL_of_cleanPath hx]; decide)
    (fun o x ho hx => by rcases ho with rfl | rfl <;> simp [Eqn.ok, okL_of_cleanPath hx] <;> decide)
    (fun o l r ho _ _ ihl ihr => by simp only [Eqn.ok, ho, ihl, ihr, Bool.and_self])
  intro v h
  cases v with
  | list vs => simp [Eqn.ok, Val.ok, okL_of_scalarC vs h]
  | expr x => cases h
  | flt t =>
    have : floatTextOk t = true ∧ floatNoForm t = false := by simpa [Val.okC, Val.scalarC] using h
    simp [Eqn.ok, Val.ok, this.1]
  | int i => simp [Eqn.ok, Val.ok, show inInt64 i = true from h]
  | _ => rfl

/-- the hypothesis holds for
`!(1 - (2.5 - 'a\xff')) && match(@.a[1:], true || length($..b) > 3) ~= /x.y/ || @.c in [1,'z',null]` -/
example : Eqn.okC (.bin Gen.JpOps.op_or (.bin Gen.JpOps.op_and
    (.un Gen.JpOps.op_not (.bin Gen.JpOps.op_sub (.val (.int 1)) (.bin Gen.JpOps.op_sub (.val (.flt [50, 46, 53])) (.val (.str [97, 0xFF])))))
    (.bin Gen.JpOps.op_rx (.bin Gen.JpOps.op_match (.un Gen.JpOps.op_get (.val (.expr [.at, .child [97], .slice [1]])))
        (.bin Gen.JpOps.op_or (.val (.bool true))
          (.bin Gen.JpOps.op_gt (.un Gen.JpOps.op_length (.val (.expr [.root, .descent, .child [98]]))) (.val (.int 3)))))
      (.val (.regex [120, 46, 121]))))
    (.bin Gen.JpOps.op_in (.un Gen.JpOps.op_get (.val (.expr [.at, .child [99]])))
      (.val (.list [.int 1, .str [122], .null])))) = true := by decide +kernel

/-- **C14, expressions with filter fragments.** For EVERY expression `x` whose fragments (after an optional
leading Root/At) are clean fragments (children with any key, indexes, wildcards, descents, unions, slices — as
in `expr_roundtrip_partial`) or FILTER fragments `Filter(e)` with `e` any equation of the class of
`eqn_roundtrip_partial` (`Eqn.okC`: any size, all operators, all constant kinds, path operands filter-free), in
BOTH text forms: the printed text is accepted, the re-parsed expression prints identically and equals `x` up to
the normal form (wildcard flag, slice padding, `group` operators, float text). Nested `readExpr` inside `readEq`
inside `readExpr`, by induction (`readExprLoop_gen`, `readFilter_raw`); the general counterpart of
`filter_expr_pairs_all`, and the case of one level of `parseExpr_deep`.

`…_partial`: excluded here are filters whose equations have path operands that carry filters THEMSELVES (for those
see `parseExpr_deep`, whose class `ExprD` is not in the words of Spec.lean), and the named deviations. -/
theorem expr_filter_roundtrip_partial (br : Bool) (x : Expr) (h : ExprOKF x) :
    ∃ y, parseExpr (exprPrint br x) = some y ∧ exprPrint br y = exprPrint br x ∧ sameExpr y x = true :=
  parseExpr_filter br x h

/-- `$.list[?(@.a > 1 && !(@.b in [1,2]))].x[?(length(@..c) == 2.5)]` satisfies the hypothesis -/
example : ExprOKF [.root, .child [108, 105, 115, 116],
    .filter (Eqn.bin Gen.JpOps.op_and
      (.bin Gen.JpOps.op_gt (.un Gen.JpOps.op_get (.val (.expr [.at, .child [97]]))) (.val (.int 1)))
      (.un Gen.JpOps.op_not (.bin Gen.JpOps.op_in (.un Gen.JpOps.op_get (.val (.expr [.at, .child [98]])))
        (.val (.list [.int 1, .int 2]))))).build,
    .child [120],
    .filter (Eqn.bin Gen.JpOps.op_eq (.un Gen.JpOps.op_length (.val (.expr [.at, .descent, .child [99]])))
      (.val (.flt [50, 46, 53]))).build] := by
  refine ⟨Or.inl rfl, ?_⟩
  intro g hg
  simp only [List.mem_cons, List.not_mem_nil, or_false] at hg
  rcases hg with hg | hg | hg | hg
  · subst hg; exact Or.inl rfl
  · subst hg; exact Or.inr ⟨_, by decide +kernel, rfl⟩
  · subst hg; exact Or.inl rfl
  · subst hg; exact Or.inr ⟨_, by decide +kernel, rfl⟩

/-- `C14_full` with exactly two restrictions: no deviation named by Spec.lean (`devsExpr`/`devsEqn` empty: the
known findings), and SHALLOW: the equation of every filter fragment is constructible, deviation-free and has
no filter inside a path operand and no list inside a list (filters nested one level). -/
def C14_shallow : Prop :=
  (∀ (br : Bool) (x : Expr), Frag.okL x = true → devsExpr br x = [] →
    (∀ t, Frag.filter t ∈ x → ∃ e : Eqn, e.ok = true ∧ devsEqn e = [] ∧ e.shallow = true ∧ t = e.build) →
    roundTripsExpr br x = true) ∧
  (∀ e : Eqn, e.ok = true → devsEqn e = [] → e.shallow = true →
    roundTripsEqn e = true ∧ roundTripsScript e = true ∧ roundTripsFilter e = true)

/-- **C14 holds for all shallow objects of any size** (while `C14_full_false`: at full strength it is false
because of the named deviations). Filter-free expressions are the case where the third hypothesis is vacuous. -/
theorem C14_shallow_holds : C14_shallow :=
  ⟨fun br x hok hdev hf => roundTripsExpr_filter_spec br x hok hdev hf,
   fun e hok hdev hsh => eqn_roundtrip_spec e hok hdev hsh⟩

/-- filters nested TWO levels are outside `C14_shallow`; a concrete one that the model round-trips:
`$.a[?(@.b[?(@.c == 1 || !(@.e < 2.5))].d > 2)]`, both text forms (kernel evaluation of this one expression; it is of
the class of `parseExpr_deep`) -/
theorem nested_two_levels_witness :
    roundTripsExpr false [.root, .child [97], (Eqn.bin Gen.JpOps.op_gt
        (.un Gen.JpOps.op_get (.val (.expr [.at, .child [98], (Eqn.bin Gen.JpOps.op_or
            (.bin Gen.JpOps.op_eq (.un Gen.JpOps.op_get (.val (.expr [.at, .child [99]]))) (.val (.int 1)))
            (.un Gen.JpOps.op_not (.bin Gen.JpOps.op_lt (.un Gen.JpOps.op_get (.val (.expr [.at, .child [101]])))
              (.val (.flt [50, 46, 53]))))).filter, .child [100]])))
        (.val (.int 2))).filter] = true ∧
    roundTripsExpr true [.root, .child [97], (Eqn.bin Gen.JpOps.op_gt
        (.un Gen.JpOps.op_get (.val (.expr [.at, .child [98], (Eqn.bin Gen.JpOps.op_or
            (.bin Gen.JpOps.op_eq (.un Gen.JpOps.op_get (.val (.expr [.at, .child [99]]))) (.val (.int 1)))
            (.un Gen.JpOps.op_not (.bin Gen.JpOps.op_lt (.un Gen.JpOps.op_get (.val (.expr [.at, .child [101]])))
              (.val (.flt [50, 46, 53]))))).filter, .child [100]])))
        (.val (.int 2))).filter] = true := by
  decide +kernel

/-- … and the box: `$.a[?(@.b[?(@.c o2 1)].d o1 2)]` for EVERY ordered pair (o1, o2) of the 19 binary constructors,
and with `!` around the inner and/or the outer equation for one operator per precedence level: both text forms
round-trip and no deviation is named (instances of `roundTripsExpr_deep` at depth 2: `nested2_roundTrips`, symbolic in
the operators) -/
theorem nested_two_levels_box :
    ((nested2A ++ nested2B).all fun x => roundTripsExpr false x && roundTripsExpr true x &&
      (devsExpr false x).isEmpty && (devsExpr true x).isEmpty) = true := by
  rw [List.all_append, nested2A_all, nested2B_all]; rfl

/-- `BracketString()` does not see the flags: for EVERY expression with flags anywhere, the text is the
text of the expression without them; so C14 for `BracketString()` holds for every filter-free constructible
expression whatever flags it carries (with `expr_roundtrip_partial`). -/
theorem bracket_string_flags (x : BExpr) (hok : Frag.okL (stripB x) = true) (hnf : noFilter (stripB x) = true)
    (hdev : devsExpr true (stripB x) = []) :
    bexprPrint true x = exprPrint true (stripB x) ∧ roundTripsBExpr true x = true ∧ bracketReprint true x = false :=
  ⟨bexprPrint_true x, by rw [roundTripsBExpr_true]; exact expr_roundtrip_bool true _ hok hnf hdev,
    bracketReprint_true x⟩

/-- `R().B().C("a").D().B().N(3).B()` satisfies the hypotheses -/
example : Frag.okL (stripB [some .root, none, some (.child [97]), some .descent, none, some (.nth 3), none]) = true ∧
    noFilter (stripB [some .root, none, some (.child [97]), some .descent, none, some (.nth 3), none]) = true ∧
    devsExpr true (stripB [some .root, none, some (.child [97]), some .descent, none, some (.nth 3), none]) = [] := by
  decide +kernel

/-- `String()` with flags, the small box: for every sequence of at most four fragments over Root, At, a
token-like child, a quoted child, an index, a wildcard, a descent, a union, a slice and the flag (every
sequence of length ≤ 3; every sequence of length 4 that has a flag — the flag first, in the middle, directly
after a descent, last, repeated) the round trip holds EXACTLY when no deviation is named: `devsExpr` of the
flag-free expression (Root/At not first) and `bracketReprint` (known finding C14-bracket-flag: the flag has no
text, the re-parsed expression prints in dot notation). An instance of `bexact_of_raTail` (every flagged expression
of clean fragments and Root/At, any length): a Root/At after the first position is consumed by the parser and ends the
expression (`roundTripsBExpr_rootAt`), everything else is `roundTripsBExpr_false_iff`. -/
theorem bracket_box_exact :
    ((boxSeqs 1 ++ boxSeqs 2 ++ boxSeqs 3).all bexact && boxSeqs4.all bexact) = true := by
  rw [bracketBox_exact3, bracketBox_exact4]; rfl

/-- **`String()` with flags, ANY length.** For every filter-free constructible expression without a named
deviation (`Frag.okL`, `noFilter`, `devsExpr … = []` of the flag-free expression) carrying `Bracket` flags at any
positions (before Root, in the middle, directly after a descent, last, repeated), in both text forms: the text is
accepted and read as the flag-free expression (up to the normal form), and it re-prints identically EXACTLY when
`bracketReprint` is false; for `String()` that predicate is structural (`flagMatters`): the round trip fails iff a
token-like child or a descent stands somewhere after a flag (known finding C14-bracket-flag) — wildcards, quoted
children, indexes, unions, slices after a flag are harmless. The general counterpart of `bracket_box_exact`
(mixed-mode fragment loop `readExprLoop_cut`, by induction). -/
theorem bracket_flags_general (br : Bool) (x : BExpr) (hok : Frag.okL (stripB x) = true)
    (hnf : noFilter (stripB x) = true) (hdev : devsExpr br (stripB x) = []) :
    parseExpr (bexprPrint br x) = some (imgB br x) ∧ sameExpr (imgB br x) (stripB x) = true ∧
    roundTripsBExpr br x = !bracketReprint br x ∧ bracketReprint false x = flagMatters false x := by
  have hc := cleanExpr_of_spec br (stripB x) hok hnf hdev
  exact ⟨parseExpr_bprint br x hc, sameExpr_imgB br x, roundTripsBExpr_iff br x hc, bracketReprint_false_eq x⟩

/-- the flag has no text form: `R().B().C("a")` prints `$['a']`, which is read as `$.a` and printed so (known
finding C14-bracket-flag); so C14 at full strength over API-built expressions WITH flags is false too -/
theorem bracket_flag_witness :
    bexprPrint false [some .root, none, some (.child [97])] = [36, 91, 39, 97, 39, 93] ∧
    (parseExpr [36, 91, 39, 97, 39, 93]).map (exprPrint false) = some [36, 46, 97] ∧
    roundTripsBExpr false [some .root, none, some (.child [97])] = false ∧
    bracketReprint false [some .root, none, some (.child [97])] = true := by
  decide +kernel

/-- the expression of the seeded change C14-m7, `R().D().B().C("a b")`: `$..['a b']`, read back -/
theorem bracket_after_descent :
    bexprPrint false [some .root, some .descent, none, some (.child [97, 32, 98])] =
      [36, 46, 46, 91, 39, 97, 32, 98, 39, 93] ∧
    roundTripsBExpr false [some .root, some .descent, none, some (.child [97, 32, 98])] = true := by
  decide +kernel

end OjgVerif.C14
