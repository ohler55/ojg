import OjgVerif.Sen.LemmasReset
import OjgVerif.Sen.LemmasKey
import OjgVerif.Sen.LemmasTokReuse
import OjgVerif.Gen.SenFacts
/-! # C07 (SEN clause) — a reused sen.Parser behaves like a fresh one (model level)

`call T cfg prev chunks` is the model of one entry-point call on an instance the previous call left in
state `prev`; `run` is the same call on a fresh instance. `St.entry` is the field-by-field reset the Go
entry points perform; the fields it resets (or takes as arguments of the call) are all in the REGENERATED lists
of fields that `(*Parser).Parse`, `(*Parser).ParseReader`, `(*Tokenizer).Parse`, `(*Tokenizer).Load` assign on
every path before the first buffer is parsed (`resets_cover`: a reset line that disappears from the Go source
breaks it, so does undoing ece2934, which added `plus` and `lastStrKey`). What `St.entry` keeps is `ri`, `rn`,
`num`, `quoteDelim`, `lastKey` (and `exkey` under `keepExkey` only: the code before f540857). The first four
(and `exkey`, which only the tokenizer reads) are dead on entry — every branch of the machine writes them
before it reads them (`scratch_is_dead`) —, and a stale `lastKey` is harmless (`Sen.call_lastKey_ref`: it is
dead while every open map on the build stack is empty, and storing a member overwrites it). So a call on a
reused sen.Parser ANSWERS what a call on a fresh one answers (`reused_like_fresh`: documents, error kind, line,
column); what differs is only the `lastKey` / `lastStrKey` the instance is left with. The same for the
sen.Tokenizer profile (`tokenizer_reused_like_fresh`; `Sen.call_tokenizer_ref`). For the parser before ece2934
(`keepPlus := true`) and the tokenizer before f540857 (`keepExkey := true`) the statement is false.

Where a theorem over a table set `T` with `TablesOK T` has an instance at the regenerated tables (`senTables`, through
`senTables_ok`), the instance follows it under the name `…_sen`.

NOT a theorem: the Reuse map recycling, and that the Go code behaves like the model. These are decided by the
correspondence run: random call histories on one sen.Parser / one sen.Tokenizer, each call compared with a fresh
instance and with the model. -/
namespace OjgVerif.C07sen
open OjgVerif.Sen

/-- the fields of sen.Parser the model treats as reset at entry (`stack`, `tmp`, `starts`, `result`,
`noff`, `line`, `mode`, `mi`, `plus`, `lastStrKey`) or as arguments of the call (`cb`, `resultChan`, `OnlyOne`, `num.Conv`) -/
def parserResetsModelled : List String :=
  ["OnlyOne", "cb", "lastStrKey", "line", "mi", "mode", "noff", "num.Conv", "plus", "result", "resultChan", "stack",
   "starts", "tmp"]

/-- the same for sen.Tokenizer -/
def tokenizerResetsModelled : List String := ["exkey", "handler", "line", "mi", "mode", "noff", "starts", "tmp"]

/-- every field the model resets is assigned by the Go entry point on every path (regenerated facts) -/
theorem resets_cover :
    (parserResetsModelled.all fun f => Gen.SenFacts.parseResets.contains f) = true ∧
    (parserResetsModelled.all fun f => Gen.SenFacts.parseReaderResets.contains f) = true ∧
    (tokenizerResetsModelled.all fun f => Gen.SenFacts.tokParseResets.contains f) = true ∧
    (tokenizerResetsModelled.all fun f => Gen.SenFacts.tokLoadResets.contains f) = true := by
  decide +kernel

/-- `lastKey`, `quoteDelim`, `ri`, `rn`, which `St.entry` keeps, are in none of the regenerated lists (`exkey` is
reset by `Tokenizer.Parse`/`Load` since f540857: `resets_cover`) -/
theorem not_reset :
    (["lastKey", "quoteDelim", "ri", "rn"].all fun f =>
      !Gen.SenFacts.parseResets.contains f && !Gen.SenFacts.parseReaderResets.contains f &&
      !Gen.SenFacts.tokParseResets.contains f && !Gen.SenFacts.tokLoadResets.contains f) = true := by
  decide +kernel

/-- a call sees the previous state only through what `entry` keeps. This and `entry_eq` say what `St.entry` does;
`scratch_is_dead` does not go through them (its entry step is `Sen.entry_norm`) -/
theorem call_entry (T : Tables) (cfg : Cfg) (prev prev' : St) (h : prev.entry cfg = prev'.entry cfg) (chunks : List Bytes) :
    call T cfg prev chunks = call T cfg prev' chunks := by
  unfold call callWith
  rw [h]

/-- what `entry` keeps once `plus` and `lastStrKey` are reset (`keepPlus` off); `exkey` is kept under `keepExkey` only,
so `h7` matters for that code alone -/
theorem entry_eq (cfg : Cfg) (hk : cfg.keepPlus = false) (prev prev' : St) (h1 : prev.ri = prev'.ri) (h2 : prev.rn = prev'.rn)
    (h3 : prev.num = prev'.num) (h4 : prev.quoteDelim = prev'.quoteDelim) (h5 : prev.lastKey = prev'.lastKey)
    (h7 : prev.exkey = prev'.exkey) : prev.entry cfg = prev'.entry cfg := by
  cases prev; cases prev'
  simp_all [St.entry]

/-- the code as it is: `plus` and `lastStrKey` are reset at entry (ece2934), `addString` checks (285bbf9),
`}` after a member name is an error (546d576) -/
def Current (cfg : Cfg) : Prop := cfg.keepPlus = false ∧ cfg.plusFault = false ∧ cfg.missingValue = false

theorem Current.keepPlus {cfg : Cfg} (h : Current cfg) : cfg.keepPlus = false := h.1
theorem Current.plusFault {cfg : Cfg} (h : Current cfg) : cfg.plusFault = false := h.2.1
theorem Current.missingValue {cfg : Cfg} (h : Current cfg) : cfg.missingValue = false := h.2.2

/-- what is asked of the code that keeps `plus` holds of the code as it is -/
theorem Current.noKeep {cfg : Cfg} (h : Current cfg) {P : Prop} (hk : cfg.keepPlus = true) : P := by
  rw [h.keepPlus] at hk; cases hk

/-- whatever state the previous call left, a call on a reused instance gives the documents (rendered) the same call
on a fresh one gives, and fails if that fails; errors are not told apart (`reused_like_fresh` does) -/
def reused_like_fresh_full (cfg : Cfg) : Prop :=
  ∀ (prev : St) (chunks : List Bytes),
    (match call refTables cfg prev chunks with | .ok o => o.docs.map JV.render | .error _ => ["error"]) =
    (match run refTables cfg chunks with | .ok o => o.docs.map JV.render | .error _ => ["error"])

/-- BEFORE ece2934: `[x "a"]` on an instance that a failed call left with `+` pending gave `["xa"]` (finding
C07sen-plus-not-reset) -/
theorem reused_like_fresh_before_false : ¬ reused_like_fresh_full { keepPlus := true } := by
  intro h
  have := h { plus := true } [[91, 120, 32, 34, 97, 34, 93]]
  revert this
  decide +kernel

/-- BEFORE ece2934 the state the failed call `["a" +` left behind had `plus` set (so the witness above
was a reachable history: `Parse(["a" +)` then `Parse([x "a"])`) -/
theorem plus_survived_before :
    (match run refTables { keepPlus := true } [[91, 34, 97, 34, 32, 43]] with | .ok _ => false | .error e => e.plus) = true := by
  decide +kernel

/-- the same history on the code as it is: the second call gives `["x" "a"]`, like a fresh parser -/
example : (match call refTables {} { plus := true } [[91, 120, 32, 34, 97, 34, 93]] with
    | .ok o => o.docs.map JV.render | .error _ => ["error"]) =
    (match run refTables {} [[91, 120, 32, 34, 97, 34, 93]] with | .ok o => o.docs.map JV.render | .error _ => ["error"]) := by
  decide +kernel

/-- **Non-interference** (sen.Parser profile, the code as it is): two instances that agree on `lastKey`
give the same outcome for the same call — whatever `plus`, `lastStrKey`, `ri`, `rn`, the number
accumulator, `quoteDelim` and `exkey` the previous calls left — for every configuration, input and
chunking, over every table set that passes `TablesOK`. -/
theorem scratch_is_dead {T : Tables} (hT : TablesOK T) (cfg : Cfg) (hc : cfg.tokenizer = false) (hcur : Current cfg)
    (prev prev' : St) (h2 : prev.lastKey = prev'.lastKey) (chunks : List Bytes) :
    call T cfg prev chunks = call T cfg prev' chunks := by
  rw [call_eq_ref hT, call_eq_ref hT]
  exact call_congr_ref cfg hc hcur.plusFault hcur.missingValue prev prev' hcur.noKeep h2 hcur.noKeep chunks

theorem scratch_is_dead_sen (cfg : Cfg) (hc : cfg.tokenizer = false) (hcur : Current cfg) (prev prev' : St)
    (h2 : prev.lastKey = prev'.lastKey) (chunks : List Bytes) :
    call senTables cfg prev chunks = call senTables cfg prev' chunks :=
  scratch_is_dead senTables_ok cfg hc hcur prev prev' h2 chunks

/-- a reused sen.Parser whose `lastKey` is empty behaves like a fresh one also in what it leaves behind: the whole
outcome is equal, `lastKey` / `lastStrKey` included, where `reused_like_fresh` compares what the calls answer -/
theorem reused_like_fresh_partial (cfg : Cfg) (hc : cfg.tokenizer = false) (hcur : Current cfg) (prev : St)
    (hk : prev.lastKey = []) (chunks : List Bytes) :
    call senTables cfg prev chunks = run senTables cfg chunks :=
  scratch_is_dead_sen cfg hc hcur prev {} hk chunks

/-- non-vacuity: an instance left with `+` pending, in the middle of a `\u` escape inside a single-quoted
string, expecting a key, with a half-read number, meets the hypotheses -/
example : ∃ prev : St, prev.ri = 3 ∧ prev.rn = 55357 ∧ prev.quoteDelim = 39 ∧ prev.exkey = true ∧ prev.num.neg = true ∧
    prev.plus = true ∧ prev.lastStrKey = [97] ∧ prev.lastKey = [] :=
  ⟨{ ri := 3, rn := 55357, quoteDelim := 39, exkey := true, num := { neg := true }, mode := .u, plus := true,
     lastStrKey := [97] }, rfl, rfl, rfl, rfl, rfl, rfl, rfl, rfl⟩

example : Current {} := ⟨rfl, rfl, rfl⟩

theorem answer_docs (r : Except Err Out) :
    (match answer r with | .ok o => o.docs.map JV.render | .error _ => ["error"]) =
    (match r with | .ok o => o.docs.map JV.render | .error _ => ["error"]) := by
  cases r <;> rfl

/-- **C07 (SEN parser), full form for the code as it is**: a call on a reused sen.Parser answers exactly what
the same call on a fresh one answers — same documents, same error kind, line and column — whatever state
(`plus`, `lastStrKey`, `lastKey`, `ri`, `rn`, number accumulator, `quoteDelim`) the previous calls left,
for every configuration, input and chunking, over every table set that passes `TablesOK` -/
theorem reused_like_fresh {T : Tables} (hT : TablesOK T) (cfg : Cfg) (hc : cfg.tokenizer = false) (hcur : Current cfg)
    (prev : St) (chunks : List Bytes) : answer (call T cfg prev chunks) = answer (run T cfg chunks) := by
  unfold run
  rw [call_eq_ref hT, call_eq_ref hT]
  rw [call_lastKey_ref cfg hc hcur.plusFault hcur.missingValue hcur.keepPlus prev [] chunks]
  rw [call_congr_ref cfg hc hcur.plusFault hcur.missingValue { prev with lastKey := [] } {} hcur.noKeep rfl hcur.noKeep chunks]

theorem reused_like_fresh_sen (cfg : Cfg) (hc : cfg.tokenizer = false) (hcur : Current cfg) (prev : St)
    (chunks : List Bytes) : answer (call senTables cfg prev chunks) = answer (run senTables cfg chunks) :=
  reused_like_fresh senTables_ok cfg hc hcur prev chunks

/-- the full statement holds for the code as it is -/
theorem reused_like_fresh_full_current : reused_like_fresh_full {} := by
  intro prev chunks
  rw [← answer_docs (call refTables {} prev chunks), ← answer_docs (run refTables {} chunks),
    reused_like_fresh .ref {} rfl ⟨rfl, rfl, rfl⟩]

/-- a reused sen.Tokenizer accepts what a fresh one accepts (the weakest reading of C07 for it) -/
def tokenizer_reused_like_fresh_full (cfg : Cfg) : Prop :=
  ∀ (prev : St) (chunks : List Bytes),
    (match call refTables cfg prev chunks with | .ok _ => true | .error _ => false) =
    (match run refTables cfg chunks with | .ok _ => true | .error _ => false)

/-- BEFORE f540857 (`keepExkey := true`) it was **false** (finding C07sen-tokenizer-exkey-not-reset):
`Tokenizer.Parse`/`Load` did not reset `exkey`, so on an instance that a failed call (`{`) left expecting a
member name `[a b]` was "expected a key" -/
theorem tokenizer_reused_like_fresh_before_false :
    ¬ tokenizer_reused_like_fresh_full { tokenizer := true, keepExkey := true } := by
  intro h
  have := h { exkey := true } [[91, 97, 32, 98, 93]]
  revert this
  decide +kernel

/-- the reused outcome of that witness was the `expectedKey` error, and the token `a` was reported as a KEY -/
example : (match call refTables { tokenizer := true, keepExkey := true } { exkey := true } [[91, 97, 32, 98, 93]] with
    | .error e => e.kind == .expectedKey | .ok _ => false) = true := by decide +kernel

example : (match call refTables { tokenizer := true, keepExkey := true } { exkey := true } [[97]] with
    | .ok o => (match o.evs with | [.key k] => k == [97] | _ => false) | .error _ => false) = true := by decide +kernel

/-- the code as it is (`exkey` reset at entry): the witness behaves like on a fresh tokenizer -/
theorem tokenizer_exkey_witness_current :
    (match call refTables { tokenizer := true } { exkey := true } [[91, 97, 32, 98, 93]] with
      | .ok _ => true | .error _ => false) =
    (match run refTables { tokenizer := true } [[91, 97, 32, 98, 93]] with | .ok _ => true | .error _ => false) := by
  decide +kernel

/-- the tokenizer as it is: `exkey` reset at entry (f540857), the switch of f233b47, `}` after a member name an
error (546d576); and `keepPlus` off: `St.entry` keeps the `plus` of the previous state under it whatever the profile,
and what a call answers (`Sen.answer`) carries `plus` -/
def CurrentT (cfg : Cfg) : Prop :=
  cfg.tokenizer = true ∧ cfg.tkOld = false ∧ cfg.missingValue = false ∧ cfg.keepExkey = false ∧ cfg.keepPlus = false

/-- **C07 (SEN tokenizer), full form for the code as it is**: a call on a reused sen.Tokenizer answers exactly what
the same call on a fresh one answers — same callbacks, same error kind, line and column — whatever state (`ri`, `rn`,
number accumulator, `quoteDelim`, and `exkey`, which the entry point resets) the previous calls left, for every
configuration, input and chunking, over every table set that passes `TablesOK` -/
theorem tokenizer_reused_like_fresh {T : Tables} (hT : TablesOK T) (cfg : Cfg) (hcur : CurrentT cfg) (prev : St)
    (chunks : List Bytes) : answer (call T cfg prev chunks) = answer (run T cfg chunks) := by
  unfold run
  rw [call_eq_ref hT, call_eq_ref hT]
  obtain ⟨ht, htk, hmv, hke, hkp⟩ := hcur
  exact call_tokenizer_ref cfg ht htk hmv hke hkp prev chunks

theorem tokenizer_reused_like_fresh_sen (cfg : Cfg) (hcur : CurrentT cfg) (prev : St) (chunks : List Bytes) :
    answer (call senTables cfg prev chunks) = answer (run senTables cfg chunks) :=
  tokenizer_reused_like_fresh senTables_ok cfg hcur prev chunks

/-- the full statement holds for the tokenizer as it is -/
theorem tokenizer_reused_like_fresh_full_current : tokenizer_reused_like_fresh_full { tokenizer := true } := by
  intro prev chunks
  have e : ∀ r : Except Err Out, (match answer r with | .ok _ => true | .error _ => false) =
      (match r with | .ok _ => true | .error _ => false) := by intro r; cases r <;> rfl
  rw [← e (call refTables _ prev chunks), ← e (run refTables _ chunks),
    tokenizer_reused_like_fresh .ref _ ⟨rfl, rfl, rfl, rfl, rfl⟩]

end OjgVerif.C07sen
