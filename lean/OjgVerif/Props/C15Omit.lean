import OjgVerif.Props.C15
import OjgVerif.Reflect.EncOmitAlt
import OjgVerif.Gen.ReflectEnc
/-! # C15 — OmitNil / OmitEmpty in the writers of oj and sen (model `Reflect/EncOmit.lean`)

The statements of `Props/C15.lean` have `OmitNil = OmitEmpty = false` as hypotheses. Here the two
options are READ by the model (`encodeO`), for the four plan-interpreting writers (oj tight and
indented, sen tight and indented; `oj.Marshal` and `oj.Write` are the tight/indented oj writer):

Every omit test of the models is the test regenerated from the source (`omit_tests_match_source`,
`omit_tests_alt_pretty_match_source`; `tools/extract/reflect_enc.go`), and with both options off the models
are `encode` (`encodeO_off_eq_encode`, `encodeA_off_eq_encode`), so `Props/C15.lean` speaks about them too.
Proved about the code as it is (`Dev.current`): oj and sen describe the same tree under every option
combination (`writers_oj_sen_agree_omit`); so do the tight and the indented writer since /repo d7a5508
(`tight_indent_agree_omit_current`; `encodeOWith true` is the tight string test before that commit, finding
`C15-omitnil-tight-empty-string`, with its witness); under `OmitNil` without `OmitEmpty` alt.Decompose (model
`Reflect/EncOmitAlt.lean`) and pretty.JSON describe the tree without the option less every object member
whose value is null, hereditarily (`alt_omitNil_is_dropNulls`, `pretty_alt_agree_omitNil`), and so do oj and
sen on the runs that are `omitNilAligned` (`oj_omitNil_is_dropNulls_partial`,
`encoders_agree_current_omitNil_partial`).

Under `OmitEmpty`, and under `OmitNil` inside maps, the encoders differ (known finding
`C15-omit-options`: `omit_oj_alt_differ_witness`, `omit_pretty_alt_differ_witness`) and no agreement is
proved; the run compares `encodeO` with the six oj/sen entry points under all four combinations of the two
options (`harness/cmd/reflect/c15_omit.go`). -/
namespace OjgVerif.Reflect

theorem fieldMemberO_off (q : Quirks) (o : Opts) (hn : o.omitNil = false) (enc : Bool → GoType → GoVal → JV)
    (sv : GoVal) (fi : Finfo) : fieldMemberO q o enc sv fi = fieldMember q enc sv fi := by
  unfold fieldMemberO fieldMember fieldNilDropped
  simp only [hn, Bool.false_and, Bool.false_eq_true, ↓reduceIte]
  rfl

theorem mapValDropped_off (o : Opts) (hn : o.omitNil = false) (he : o.omitEmpty = false) (v : GoVal) :
    mapValDropped o false v = false := by
  cases v <;> simp [mapValDropped, mapKindDropped, hn, he]

theorem objMemberDropped_off (o : Opts) (hn : o.omitNil = false) (he : o.omitEmpty = false) (v : GoVal) :
    objMemberDropped o v = false := by
  unfold objMemberDropped
  split <;> simp [hn, he]

theorem encValO_other {t : GoType} {v : GoVal} (h : shaped t v = false) (q : Quirks) (o : Opts) (sd : Bool)
    (plan : Bool → List (FieldHdr × GoType) → List Finfo) (n : Nat) (vi ie oe : Bool) :
    encValO q o sd plan (n + 1) vi ie oe t v = panicMark := by
  unfold encValO
  split <;> first | rfl | cases h

/-- with both omit options off the walker of the omit model is the plain walker -/
theorem encValO_off (q : Quirks) (o : Opts) (hn : o.omitNil = false) (he : o.omitEmpty = false)
    (plan : Bool → List (FieldHdr × GoType) → List Finfo) :
    ∀ (vf : Nat) (vi ie oe : Bool) (t : GoType) (v : GoVal),
      encValO q o false plan vf vi ie oe t v = encVal q o plan vf vi ie oe t v := by
  intro vf
  induction vf with
  | zero => intro vi ie oe t v; rfl
  | succ n ih =>
    intro vi ie oe t v
    have ihf : ∀ (a b c : Bool) (e : GoType), encValO q o false plan n a b c e = encVal q o plan n a b c e :=
      fun a b c e => funext (ih a b c e)
    have hcond : ∀ (e : GoType) (x : GoVal),
        (if isAnyMap vi e = true then objMemberDropped o x else mapValDropped o false x) = false := by
      intro e x
      split
      · exact objMemberDropped_off o hn he x
      · exact mapValDropped_off o hn he x
    cases t, v using shape_cases
    case other h => rw [encValO_other h, encVal_other h]
    all_goals simp only [encValO, encVal, ih, ihf, hcond, fieldMemberO_off q o hn, Bool.false_eq_true, ↓reduceIte,
      List.filterMap_eq_map', createMember]
    rfl

end OjgVerif.Reflect

namespace OjgVerif.C15
open OjgVerif.Reflect

/-- What `tools/extract/reflect_enc.go` reads in oj and sen from the kind switch and the pointer test of `appendMap` /
`tightMap`, the type switch of `appendObject` / `tightObject` (and their sorted twins) and the nil tests of
`appendStruct` / `tightStruct`: the tests that `mapKindDropped`, `mapValDropped`, `objMemberDropped` and
`fieldNilDropped` model. -/
theorem omit_tests_match_source :
    Gen.ReflectEnc.ojAppendMapKinds =
      [("reflect.Struct", "-"), ("reflect.Slice, reflect.Array", "(wr.OmitNil || wr.OmitEmpty) && rm.Len() == 0"),
       ("reflect.Map", "(wr.OmitNil || wr.OmitEmpty) && rm.Len() == 0"), ("reflect.String", "(wr.OmitEmpty) && rm.Len() == 0"),
       ("default", "-")] ∧
    Gen.ReflectEnc.ojTightMapKinds =
      [("reflect.Struct", "-"), ("reflect.Slice, reflect.Array", "(wr.OmitNil || wr.OmitEmpty) && rm.Len() == 0"),
       ("reflect.Map", "(wr.OmitNil || wr.OmitEmpty) && rm.Len() == 0"),
       ("reflect.String", if omitTightNilCurrent then "(wr.OmitNil || wr.OmitEmpty) && rm.Len() == 0" else "wr.OmitEmpty && rm.Len() == 0"),
       ("default", "-")] ∧
    Gen.ReflectEnc.ojAppendMapPtr = ["rm.IsNil() | else { rm = rm.Elem() }", "wr.OmitNil -> continue"] ∧
    Gen.ReflectEnc.ojTightMapPtr = Gen.ReflectEnc.ojAppendMapPtr ∧
    Gen.ReflectEnc.ojAppendObjectCases =
      [("nil", "wr.OmitNil"), ("string", "wr.OmitEmpty && len(tm) == 0"), ("map[string]any", "wr.OmitEmpty && len(tm) == 0"),
       ("[]any", "wr.OmitEmpty && len(tm) == 0")] ∧
    Gen.ReflectEnc.ojAppendSortObjectCases = Gen.ReflectEnc.ojAppendObjectCases ∧
    Gen.ReflectEnc.ojTightObjectCases = Gen.ReflectEnc.ojAppendObjectCases ∧
    Gen.ReflectEnc.ojTightSortObjectCases = Gen.ReflectEnc.ojAppendObjectCases ∧
    Gen.ReflectEnc.ojAppendStructKinds =
      [("reflect.Ptr", "wr.OmitNil"), ("reflect.Interface", "wr.OmitNil && (*[2]uintptr)(unsafe.Pointer(&v))[1] == 0"),
       ("reflect.Struct", "-"), ("reflect.Slice, reflect.Array", "-"), ("reflect.Map", "-"), ("default", "-")] ∧
    Gen.ReflectEnc.ojTightStructKinds = Gen.ReflectEnc.ojAppendStructKinds ∧
    Gen.ReflectEnc.senAppendMapKinds = Gen.ReflectEnc.ojAppendMapKinds ∧
    Gen.ReflectEnc.senTightMapKinds = Gen.ReflectEnc.ojTightMapKinds ∧
    Gen.ReflectEnc.senAppendMapPtr = Gen.ReflectEnc.ojAppendMapPtr ∧
    Gen.ReflectEnc.senTightMapPtr = Gen.ReflectEnc.ojAppendMapPtr ∧
    Gen.ReflectEnc.senAppendObjectCases = Gen.ReflectEnc.ojAppendObjectCases ∧
    Gen.ReflectEnc.senAppendSortObjectCases = Gen.ReflectEnc.ojAppendObjectCases ∧
    Gen.ReflectEnc.senTightObjectCases = Gen.ReflectEnc.ojAppendObjectCases ∧
    Gen.ReflectEnc.senTightSortObjectCases = Gen.ReflectEnc.ojAppendObjectCases ∧
    Gen.ReflectEnc.senAppendStructKinds = Gen.ReflectEnc.ojAppendStructKinds ∧
    Gen.ReflectEnc.senTightStructKinds = Gen.ReflectEnc.ojAppendStructKinds := by
  decide +kernel

theorem encodeO_off_eq_encode (e : Enc) (d : Dev) (o : Opts) (hn : o.omitNil = false) (he : o.omitEmpty = false)
    (tf vf : Nat) (t : GoType) (v : GoVal) : encodeO e d o tf vf t v = encode e d o tf vf t v := by
  have hs : strDropOf omitTightNilCurrent o = false := by simp [strDropOf, hn, he]
  unfold encodeO encodeOWith encode
  rw [hs]
  exact encValO_off _ o hn he _ vf true false false t v

/-- the code as it is: under every option combination — `OmitNil` and `OmitEmpty` included — the
writers of oj and sen (same indentation) describe the same tree -/
theorem writers_oj_sen_agree_omit (o : Opts) (tf vf : Nat) (t : GoType) (v : GoVal) :
    encodeO .oj Dev.current o tf vf t v = encodeO .sen Dev.current o tf vf t v := by
  have hp : planOf .oj Dev.current o tf = planOf .sen Dev.current o tf := by funext om0 fs; rfl
  have hq : quirksOf .oj Dev.current o = quirksOf .sen Dev.current o := by simp [quirksOf, Dev.current]
  unfold encodeO encodeOWith
  rw [hp, hq]

/-- Code as it is (no quirk hands an `omitempty` flag down: `nestedOmit = false`): the walker only
ever executes `plan false …`, the plan of a struct type built with the CALLER's `OmitEmpty` (`planOf`
adds `o.omitEmpty`), at every depth. This is the walker's side of `cache_history_independent`
(`Props/C15Cache.lean`): there, every node of the plan tree a lookup returns carries the caller's
flag; here, the tree written depends on the plan function only through that flag. -/
theorem walker_uses_callers_flag (q : Quirks) (hq : q.nestedOmit = false) (o : Opts) (sd : Bool)
    (plan plan' : Bool → List (FieldHdr × GoType) → List Finfo) (hp : ∀ fs, plan false fs = plan' false fs) :
    ∀ (vf : Nat) (vi ie : Bool) (t : GoType) (v : GoVal),
      encValO q o sd plan vf vi ie false t v = encValO q o sd plan' vf vi ie false t v := by
  intro vf
  induction vf with
  | zero => intro vi ie t v; rfl
  | succ n ih =>
    intro vi ie t v
    have ihf : ∀ (a b : Bool) (e : GoType), encValO q o sd plan n a b false e = encValO q o sd plan' n a b false e :=
      fun a b e => funext (ih a b e)
    have hc : ∀ fi, childOE q fi = false := by intro fi; simp [childOE, hq]
    cases t, v using shape_cases
    case other h => rw [encValO_other h, encValO_other h]
    all_goals simp only [encValO, ih, ihf, hc, hp, Bool.false_and]

/-- the walker does not read `indent`: the option only selects the writer -/
theorem encValO_indent (q : Quirks) (o : Opts) (b : Bool) (sd : Bool)
    (plan : Bool → List (FieldHdr × GoType) → List Finfo) :
    ∀ (vf : Nat) (vi ie oe : Bool) (t : GoType) (v : GoVal),
      encValO q { o with indent := b } sd plan vf vi ie oe t v = encValO q o sd plan vf vi ie oe t v := by
  intro vf
  induction vf with
  | zero => intro vi ie oe t v; rfl
  | succ n ih =>
    intro vi ie oe t v
    have ihf : ∀ (a b' c : Bool) (e : GoType),
        encValO q { o with indent := b } sd plan n a b' c e = encValO q o sd plan n a b' c e :=
      fun a b' c e => funext (ih a b' c e)
    cases t, v using shape_cases
    case other h => rw [encValO_other h, encValO_other h]
    all_goals simp only [encValO, ih, ihf]
    all_goals rfl

theorem planOf_indent (e : Enc) (d : Dev) (o : Opts) (b : Bool) (tf : Nat) :
    planOf e d { o with indent := b } tf = planOf e d o tf := by
  funext om0 fs
  cases e
  case alt => rfl
  all_goals exact (ojFindex_cases { o with indent := b } d _ tf fs).trans (ojFindex_cases o d _ tf fs).symm

theorem encodeOWith_indent (tn : Bool) (e : Enc) (o : Opts) (b : Bool) (tf vf : Nat) (t : GoType) (v : GoVal) :
    encodeOWith tn e Dev.current { o with indent := b } tf vf t v =
      encValO (quirksOf e Dev.current o) o (strDropOf tn { o with indent := b }) (planOf e Dev.current o tf) vf true false false t v := by
  unfold encodeOWith
  rw [planOf_indent, encValO_indent]
  cases e <;> rfl

/-- the tight and the indented writer differ in the string test of the map walker only, and there only
when the tight one also tests `OmitNil` (`tn`) under `OmitNil` without `OmitEmpty` -/
theorem tight_indent_agree_of (tn : Bool) (e : Enc) (o : Opts) (h : tn = true → o.omitNil = true → o.omitEmpty = true)
    (tf vf : Nat) (t : GoType) (v : GoVal) :
    encodeOWith tn e Dev.current { o with indent := false } tf vf t v =
      encodeOWith tn e Dev.current { o with indent := true } tf vf t v := by
  have hs : strDropOf tn { o with indent := false } = strDropOf tn { o with indent := true } := by
    cases tn <;> cases hn : o.omitNil <;> cases he : o.omitEmpty <;> simp_all [strDropOf]
  rw [encodeOWith_indent, encodeOWith_indent, hs]

/-- FULL statement: the tight and the indented writer of a package describe the same tree under the
same options -/
def omit_tight_indent_full : Prop :=
  ∀ (e : Enc) (o : Opts) (tf vf : Nat) (t : GoType) (v : GoVal),
    encodeO e Dev.current { o with indent := false } tf vf t v = encodeO e Dev.current { o with indent := true } tf vf t v

/-- PARTIAL statement about `encodeO` (excluded: `OmitNil` without `OmitEmpty`, finding
`C15-omitnil-tight-empty-string`). The exclusion is what the tree before /repo d7a5508 needs
(`tight_indent_agree_omit_partial_before_d7a5508`); for `encodeO` the hypothesis is not used
(`tight_indent_agree_omit_current`) -/
theorem tight_indent_agree_omit_partial (e : Enc) (o : Opts) (h : o.omitNil = true → o.omitEmpty = true)
    (tf vf : Nat) (t : GoType) (v : GoVal) :
    encodeO e Dev.current { o with indent := false } tf vf t v = encodeO e Dev.current { o with indent := true } tf vf t v :=
  tight_indent_agree_of false e o (fun _ => h) tf vf t v

/-- the hypothesis is satisfiable (three of the four combinations of the two options) -/
example : ∃ o : Opts, o.omitNil = true ∧ (o.omitNil = true → o.omitEmpty = true) :=
  ⟨⟨false, false, false, true, true, false, false, false, 0, []⟩, rfl, fun _ => rfl⟩

/-- with the string test of `tightMap` repaired (`wr.OmitEmpty`) the two writers agree always -/
theorem tight_indent_agree_omit_repaired (e : Enc) (o : Opts) (tf vf : Nat) (t : GoType) (v : GoVal) :
    encodeOWith false e Dev.current { o with indent := false } tf vf t v =
      encodeOWith false e Dev.current { o with indent := true } tf vf t v :=
  tight_indent_agree_of false e o nofun tf vf t v

def omitNilOnly : Opts := ⟨false, false, false, true, false, false, false, false, 0, []⟩
def mapStrStr : GoType := .map .str
def mapEmptyStr : GoVal := .map [("a".toUTF8.toList, .str [])]

/-- PARTIAL, the code before /repo d7a5508 (`encodeOWith true`): excluded is exactly `OmitNil` without
`OmitEmpty` (finding `C15-omitnil-tight-empty-string`, fixed by d7a5508) -/
theorem tight_indent_agree_omit_partial_before_d7a5508 (e : Enc) (o : Opts) (h : o.omitNil = true → o.omitEmpty = true)
    (tf vf : Nat) (t : GoType) (v : GoVal) :
    encodeOWith true e Dev.current { o with indent := false } tf vf t v =
      encodeOWith true e Dev.current { o with indent := true } tf vf t v :=
  tight_indent_agree_of true e o (fun _ => h) tf vf t v

/-- the code as it is (/repo d7a5508): the FULL statement holds — the tight and the indented writer of
a package describe the same tree under every option combination -/
theorem tight_indent_agree_omit_current : omit_tight_indent_full :=
  tight_indent_agree_omit_repaired

/-- the full statement about the code before /repo d7a5508 -/
def omit_tight_indent_full_before_d7a5508 : Prop :=
  ∀ (e : Enc) (o : Opts) (tf vf : Nat) (t : GoType) (v : GoVal),
    encodeOWith true e Dev.current { o with indent := false } tf vf t v =
      encodeOWith true e Dev.current { o with indent := true } tf vf t v

/-- before /repo d7a5508: `oj.JSON(map[string]string{"a": ""}, &ojg.Options{OmitNil: true})` was `{}`; with
`Indent: 2` it was `{"a":""}` (an empty string is not nil: the indented writer was right) -/
theorem tight_indent_differ_witness_before_d7a5508 :
    jvBeq (encodeOWith true .oj Dev.current { omitNilOnly with indent := false } 4 4 mapStrStr mapEmptyStr) (.obj []) = true ∧
    jvBeq (encodeOWith true .oj Dev.current { omitNilOnly with indent := true } 4 4 mapStrStr mapEmptyStr) (.obj []) = false ∧
    jvBeq (encodeOWith true .oj Dev.current { omitNilOnly with indent := true } 4 4 mapStrStr mapEmptyStr)
      (.obj [("a".toUTF8.toList, .str [])]) = true := by
  decide +kernel

theorem omit_tight_indent_full_before_d7a5508_false : ¬ omit_tight_indent_full_before_d7a5508 := fun h =>
  ne_of_jvBeq tight_indent_differ_witness_before_d7a5508.2.1 tight_indent_differ_witness_before_d7a5508.1
    (h .oj omitNilOnly 4 4 mapStrStr mapEmptyStr).symm

/-- since /repo d7a5508 the tight writer keeps the empty string: both writers give `{"a":""}` -/
theorem tight_omitnil_repaired :
    jvBeq (encodeO .oj Dev.current { omitNilOnly with indent := false } 4 4 mapStrStr mapEmptyStr)
      (.obj [("a".toUTF8.toList, .str [])]) = true := by
  decide +kernel

theorem altMemberDropped_off (o : Opts) (hn : o.omitNil = false) (he : o.omitEmpty = false) (b : Bool) (j : JV) :
    altMemberDropped o b j = false := by
  cases j <;> simp [altMemberDropped, hn, he]

theorem fieldMemberA_off (q : Quirks) (o : Opts) (hn : o.omitNil = false) (he : o.omitEmpty = false)
    (enc : Bool → GoType → GoVal → JV) (sv : GoVal) (fi : Finfo) : fieldMemberA q o enc sv fi = fieldMember q enc sv fi := by
  unfold fieldMemberA
  cases h : fieldMember q enc sv fi with
  | none => rfl
  | some m =>
    cases fieldByIndex sv fi.index with
    | none => rfl
    | some x => simp [keepA, altMemberDropped_off o hn he]

theorem encValA_other {t : GoType} {v : GoVal} (h : shaped t v = false) (q : Quirks) (o : Opts)
    (plan : Bool → List (FieldHdr × GoType) → List Finfo) (n : Nat) (vi ie oe : Bool) :
    encValA q o plan (n + 1) vi ie oe t v = panicMark := by
  unfold encValA
  split <;> first | rfl | cases h

theorem encValA_off (q : Quirks) (o : Opts) (hn : o.omitNil = false) (he : o.omitEmpty = false)
    (plan : Bool → List (FieldHdr × GoType) → List Finfo) :
    ∀ (vf : Nat) (vi ie oe : Bool) (t : GoType) (v : GoVal),
      encValA q o plan vf vi ie oe t v = encVal q o plan vf vi ie oe t v := by
  intro vf
  induction vf with
  | zero => intro vi ie oe t v; rfl
  | succ n ih =>
    intro vi ie oe t v
    have ihf : ∀ (a b c : Bool) (e : GoType), encValA q o plan n a b c e = encVal q o plan n a b c e :=
      fun a b c e => funext (ih a b c e)
    cases t, v using shape_cases
    case other h => rw [encValA_other h, encVal_other h]
    all_goals simp only [encValA, encVal, ih, ihf, keepA, altMemberDropped_off o hn he, fieldMemberA_off q o hn he,
      Bool.false_eq_true, ↓reduceIte, List.filterMap_eq_map']
    rfl

theorem encodeA_off_eq_encode (d : Dev) (o : Opts) (hn : o.omitNil = false) (he : o.omitEmpty = false)
    (tf vf : Nat) (t : GoType) (v : GoVal) : encodeA d o tf vf t v = encode .alt d o tf vf t v := by
  unfold encodeA encode
  exact encValA_off _ o hn he _ vf true false false t v

def omitEmptyOnly : Opts := ⟨false, false, false, false, true, false, false, false, 0, []⟩
def mapStrInt : GoType := .map (.int 0)
def mapZeroInt : GoVal := .map [("k".toUTF8.toList, .int 0)]

/-- A current, machine-checked instance of known finding `C15-omit-options`:
`map[string]int{"k": 0}` under `OmitEmpty` is `{"k":0}` for oj and sen (the reflective map walker keeps
zero numbers) and `{}` for alt.Decompose (`condMapSet` drops an `int64` 0). -/
theorem omit_oj_alt_differ_witness :
    jvBeq (encodeO .oj Dev.current omitEmptyOnly 4 4 mapStrInt mapZeroInt) (.obj [("k".toUTF8.toList, .int 0)]) = true ∧
    jvBeq (encodeO .sen Dev.current omitEmptyOnly 4 4 mapStrInt mapZeroInt) (.obj [("k".toUTF8.toList, .int 0)]) = true ∧
    jvBeq (encodeA Dev.current omitEmptyOnly 4 4 mapStrInt mapZeroInt) (.obj []) = true := by
  decide +kernel

/-- the omit tests of alt.Decompose (`condMapSet`) and of pretty's node builder, as regenerated from
the source: exactly the cases of `altMemberDropped` and `prettySkip` -/
theorem omit_tests_alt_pretty_match_source :
    Gen.ReflectEnc.altCondMapSetCases =
      [("nil", "opt.OmitNil || opt.OmitEmpty"), ("string", "opt.OmitEmpty && len(tv) == 0"),
       ("[]any", "opt.OmitEmpty && len(tv) == 0"), ("map[string]any", "opt.OmitEmpty && len(tv) == 0"),
       ("bool", "opt.OmitEmpty && !tv"), ("int64", "opt.OmitEmpty && tv == 0")] ∧
    Gen.ReflectEnc.prettySkips =
      [("buildNull", "w.OmitNil"), ("buildStringNode", "w.OmitEmpty && len(v) == 0"),
       ("buildArrayNode", "w.OmitEmpty && len(v) == 0"), ("buildGenArrayNode", "w.OmitEmpty && len(v) == 0"),
       ("buildMapNode", "w.OmitEmpty && len(v) == 0"), ("buildGenMapNode", "w.OmitEmpty && len(v) == 0")] := by
  decide +kernel

def mapStrAny : GoType := .map .iface
def mapFalse : GoVal := .map [("f".toUTF8.toList, .iface .bool (.bool false))]

/-- pretty.JSON and alt.Decompose differ under `OmitEmpty` although pretty decomposes with the same
options: `map[string]any{"f": false}` is walked as it is by pretty's builder (false is kept: `{"f":false}`)
and filtered by `condMapSet` in alt.Decompose (`{}`) -/
theorem omit_pretty_alt_differ_witness :
    jvBeq (encodeP Dev.current omitEmptyOnly 4 4 mapStrAny mapFalse) (.obj [("f".toUTF8.toList, .bool false)]) = true ∧
    jvBeq (encodeA Dev.current omitEmptyOnly 4 4 mapStrAny mapFalse) (.obj []) = true := by
  decide +kernel

def isNullJ : JV → Bool
  | .null => true
  | _ => false

mutual
  /-- remove every object member whose value is null, hereditarily: what the documentation of
  `OmitNil` prescribes for a tree -/
  def dropNulls : JV → JV
    | .arr xs => .arr (dropNullsL xs)
    | .obj kvs => .obj (dropNullsK kvs)
    | j => j
  def dropNullsL : List JV → List JV
    | [] => []
    | x :: r => dropNulls x :: dropNullsL r
  def dropNullsK : List (Bytes × JV) → List (Bytes × JV)
    | [] => []
    | (k, x) :: r => if isNullJ x then dropNullsK r else (k, dropNulls x) :: dropNullsK r
end

theorem dropNullsL_eq_map : ∀ xs : List JV, dropNullsL xs = xs.map dropNulls
  | [] => rfl
  | x :: r => by simp [dropNullsL, dropNullsL_eq_map r]

def keepN (m : Bytes × JV) : Option (Bytes × JV) := if isNullJ m.2 then none else some (m.1, dropNulls m.2)

theorem dropNullsK_eq_filterMap : ∀ kvs : List (Bytes × JV), dropNullsK kvs = kvs.filterMap keepN
  | [] => rfl
  | (k, x) :: r => by
    cases h : isNullJ x <;> simp [dropNullsK, keepN, h, dropNullsK_eq_filterMap r]

theorem isNullJ_dropNulls (j : JV) : isNullJ (dropNulls j) = isNullJ j := by
  cases j <;> simp [dropNulls, isNullJ]

theorem altMemberDropped_nilOnly (o : Opts) (hn : o.omitNil = true) (he : o.omitEmpty = false) (b : Bool) (j : JV) :
    altMemberDropped o b j = isNullJ j := by
  cases j <;> simp [altMemberDropped, isNullJ, hn, he]

theorem dropNulls_panicMark : dropNulls panicMark = panicMark := rfl

theorem dropNulls_bytesAsNumbers (b : Bytes) : dropNulls (bytesAsNumbers b) = bytesAsNumbers b := by
  simp only [bytesAsNumbers, dropNulls, dropNullsL_eq_map, List.map_map]
  congr 1

theorem dropNulls_bytesAsJV (n : Nat) (b : Bytes) : dropNulls (bytesAsJV n b) = bytesAsJV n b := by
  unfold bytesAsJV
  split
  · rfl
  · split
    · exact dropNulls_bytesAsNumbers b
    · rfl

theorem fieldMember_dropNulls (q : Quirks) (enc : Bool → GoType → GoVal → JV) (sv : GoVal) (fi : Finfo) :
    fieldMember q (fun a b c => dropNulls (enc a b c)) sv fi =
      (fieldMember q enc sv fi).map (fun m => (m.1, dropNulls m.2)) := by
  unfold fieldMember
  cases fieldByIndex sv fi.index with
  | none => by_cases h : q.embNilPanic = true <;> simp [h, dropNulls_panicMark]
  | some x =>
    by_cases h1 : (fi.omitE && isEmptyVal x) = true
    · simp [h1]
    · simp only [h1]
      cases h2 : (if fi.asStr = true then scalarText x else none) with
      | some t => simp [dropNulls]
      | none => cases fi.ty <;> simp

theorem structObj_dropNulls (o : Opts) (name pkg : Bytes) (l : List Finfo) (f g : Finfo → Option (Bytes × JV))
    (h : ∀ fi ∈ l, f fi = (g fi).bind keepN) :
    createMember o name pkg ++ l.filterMap f = dropNullsK (createMember o name pkg ++ l.filterMap g) := by
  rw [dropNullsK_eq_filterMap, List.filterMap_append, List.filterMap_filterMap, ← filterMap_congr_mem _ _ _ h]
  congr 1
  unfold createMember
  split <;> simp [keepN, isNullJ, dropNulls]

theorem fieldMemberA_nilOnly (q : Quirks) (o : Opts) (hn : o.omitNil = true) (he : o.omitEmpty = false)
    (enc : Bool → GoType → GoVal → JV) (sv : GoVal) (fi : Finfo) :
    fieldMemberA q o (fun a b c => dropNulls (enc a b c)) sv fi = (fieldMember q enc sv fi).bind keepN := by
  unfold fieldMemberA
  rw [fieldMember_dropNulls]
  cases hx : fieldByIndex sv fi.index with
  | none =>
    -- only the panic marker can come from a failed lookup
    rw [show fieldMember q enc sv fi = if q.embNilPanic then some (fi.key, panicMark) else none by simp [fieldMember, hx]]
    cases q.embNilPanic <;> rfl
  | some x =>
    cases fieldMember q enc sv fi with
    | none => rfl
    | some m => simp only [Option.map_some, Option.bind_some, keepA, keepN, altMemberDropped_nilOnly o hn he, isNullJ_dropNulls]

theorem encValA_nilOnly (q : Quirks) (o : Opts) (hn : o.omitNil = true) (he : o.omitEmpty = false)
    (plan : Bool → List (FieldHdr × GoType) → List Finfo) :
    ∀ (vf : Nat) (vi ie oe : Bool) (t : GoType) (v : GoVal),
      encValA q o plan vf vi ie oe t v = dropNulls (encVal q o plan vf vi ie oe t v) := by
  intro vf
  induction vf with
  | zero => intro vi ie oe t v; rfl
  | succ n ih =>
    intro vi ie oe t v
    have ihf : ∀ (a b c : Bool) (e : GoType),
        encValA q o plan n a b c e = fun x => dropNulls (encVal q o plan n a b c e x) :=
      fun a b c e => funext (ih a b c e)
    cases t, v using shape_cases
    case other h => rw [encValA_other h, encVal_other h]; rfl
    all_goals simp only [encValA, encVal, ih, ihf, dropNulls, dropNulls_panicMark, dropNulls_bytesAsNumbers,
      dropNulls_bytesAsJV, apply_ite dropNulls, dropNullsK]
    case nilSlice e => cases e <;> simp [dropNulls, dropNullsL, apply_ite dropNulls]
    case slice | arr => simp only [dropNullsL_eq_map, List.map_map]; rfl
    case map e kvs =>
      simp only [dropNullsK_eq_filterMap, List.filterMap_map]
      congr 1
      apply filterMap_congr_mem
      intro kv _
      simp only [Function.comp, keepA, keepN, altMemberDropped_nilOnly o hn he]
      by_cases h : (q.mapNilNull && isNilContainer kv.2) = true
      · simp [h, isNullJ]
      · simp [h, isNullJ_dropNulls]
    case struct name pkg fs vs =>
      exact congrArg JV.obj (structObj_dropNulls o name pkg _ _ _ fun fi _ => fieldMemberA_nilOnly q o hn he _ (.struct vs) fi)

/-- alt.Decompose under `OmitNil` (without `OmitEmpty`) describes the tree it describes without the
option, less every object member whose value is null, hereditarily -/
theorem alt_omitNil_is_dropNulls (d : Dev) (o : Opts) (hn : o.omitNil = true) (he : o.omitEmpty = false)
    (tf vf : Nat) (t : GoType) (v : GoVal) : encodeA d o tf vf t v = dropNulls (encode .alt d o tf vf t v) := by
  unfold encodeA encode
  exact encValA_nilOnly _ o hn he _ vf true false false t v

theorem encode_omitNil_irrelevant (e : Enc) (d : Dev) (o : Opts) (b : Bool) (tf vf : Nat) (t : GoType) (v : GoVal) :
    encode e d { o with omitNil := b } tf vf t v = encode e d o tf vf t v := by
  unfold encode
  have hq : quirksOf e d { o with omitNil := b } = quirksOf e d o := by cases e <;> rfl
  have hp : planOf e d { o with omitNil := b } tf = planOf e d o tf := by funext om0 fs; cases e <;> rfl
  rw [hq, hp]
  exact encVal_opts_congr _ o { o with omitNil := b } _ rfl rfl rfl rfl vf true false false t v

/-- **alt.Decompose under `OmitNil` is the documented tree less its null members.** Code as it is,
every type, value and option combination with `OmitEmpty` off on which the run without `OmitNil`
meets none of the live exclusions (`untriggered`): with `OmitNil` set, alt.Decompose describes the
reference tree (`refEncode`, the option documentation) from which every object member whose value is
null has been removed, hereditarily — "OmitNil skips the writing of nil values in an object". -/
theorem alt_omitNil_eq_pruned_reference (o : Opts) (hn : o.omitNil = false) (ho : o.omitEmpty = false) (tf vf : Nat)
    (t : GoType) (v : GoVal)
    (hU : untriggered .alt Dev.current o tf (planFixed o tf) vf true false t v = true) :
    encodeA Dev.current { o with omitNil := true } tf vf t v = dropNulls (refEncode o tf vf t v) := by
  rw [alt_omitNil_is_dropNulls Dev.current { o with omitNil := true } rfl ho,
    encode_omitNil_irrelevant, untriggered_current_eq_reference .alt o hn ho tf vf t v hU]

def plainOpts : Opts := ⟨false, false, false, false, false, false, false, false, 0, []⟩
def TPN : GoType := .struct [] [] [(fld "P", .ptr (.int 0)), (fld "N", .int 0)]
def VPN : GoVal := .struct [.nilPtr, .int 1]

/-- the hypotheses of `alt_omitNil_eq_pruned_reference` are satisfiable, and the statement is not
vacuous: `struct{P *int; N int}{nil, 1}` is `{"n":1}` under `OmitNil` -/
example : untriggered .alt Dev.current plainOpts 4 (planFixed plainOpts 4) 4 true false TPN VPN = true ∧
    jvBeq (encodeA Dev.current { plainOpts with omitNil := true } 4 4 TPN VPN) (.obj [("n".toUTF8.toList, .int 1)]) = true ∧
    jvBeq (refEncode plainOpts 4 4 TPN VPN) (.obj [("n".toUTF8.toList, .int 1), ("p".toUTF8.toList, .null)]) = true := by
  decide +kernel

theorem prettySkip_nilOnly (o : Opts) (hn : o.omitNil = true) (he : o.omitEmpty = false) (j : JV) :
    prettySkip o j = isNullJ j := by
  cases j <;> simp [prettySkip, isNullJ, hn, he]

mutual
  theorem prettyJ_nilOnly (o : Opts) (hn : o.omitNil = true) (he : o.omitEmpty = false) : ∀ j : JV, prettyJ o j = dropNulls j
    | .arr xs => by simp only [prettyJ, dropNulls, prettyJList_nilOnly o hn he xs]
    | .obj kvs => by simp only [prettyJ, dropNulls, prettyJKvs_nilOnly o hn he kvs]
    | .null | .bool _ | .int _ | .flt _ | .big _ | .num _ | .str _ => rfl
  theorem prettyJList_nilOnly (o : Opts) (hn : o.omitNil = true) (he : o.omitEmpty = false) :
      ∀ xs : List JV, prettyJList o xs = dropNullsL xs
    | [] => rfl
    | x :: r => by simp only [prettyJList, dropNullsL, prettyJ_nilOnly o hn he x, prettyJList_nilOnly o hn he r]
  theorem prettyJKvs_nilOnly (o : Opts) (hn : o.omitNil = true) (he : o.omitEmpty = false) :
      ∀ kvs : List (Bytes × JV), prettyJKvs o kvs = dropNullsK kvs
    | [] => rfl
    | (k, x) :: r => by
      simp only [prettyJKvs, dropNullsK, prettySkip_nilOnly o hn he, prettyJ_nilOnly o hn he x, prettyJKvs_nilOnly o hn he r]
end

mutual
  theorem dropNulls_idem : ∀ j : JV, dropNulls (dropNulls j) = dropNulls j
    | .arr xs => by simp only [dropNulls, dropNullsL_idem xs]
    | .obj kvs => by simp only [dropNulls, dropNullsK_idem kvs]
    | .null | .bool _ | .int _ | .flt _ | .big _ | .num _ | .str _ => rfl
  theorem dropNullsL_idem : ∀ xs : List JV, dropNullsL (dropNullsL xs) = dropNullsL xs
    | [] => rfl
    | x :: r => by simp only [dropNullsL, dropNulls_idem x, dropNullsL_idem r]
  theorem dropNullsK_idem : ∀ kvs : List (Bytes × JV), dropNullsK (dropNullsK kvs) = dropNullsK kvs
    | [] => rfl
    | (k, x) :: r => by
      cases h : isNullJ x
      · simp only [dropNullsK, h, Bool.false_eq_true, ↓reduceIte, isNullJ_dropNulls, dropNulls_idem x, dropNullsK_idem r]
      · simp only [dropNullsK, h, ↓reduceIte, dropNullsK_idem r]
end

theorem encVal_iface_flags (q : Quirks) (o : Opts) (plan : Bool → List (FieldHdr × GoType) → List Finfo) (n : Nat)
    (a b c : Bool) (x : GoVal) :
    encVal q o plan n a b c .iface x = encVal q o plan n true false false .iface x := by
  cases n with
  | zero => rfl
  | succ m => cases x <;> simp only [encVal]

theorem keepN_congr {k : Bytes} {x y : JV} (h : dropNulls x = dropNulls y) : keepN (k, x) = keepN (k, y) := by
  have hn : isNullJ x = isNullJ y := by rw [← isNullJ_dropNulls x, ← isNullJ_dropNulls y, h]
  simp only [keepN, hn, h]

theorem encValP_nilOnly (q : Quirks) (hq : q.mapNilNull = false) (o : Opts) (hn : o.omitNil = true) (he : o.omitEmpty = false)
    (hs : o.strict = false) (plan : Bool → List (FieldHdr × GoType) → List Finfo) :
    ∀ (vf : Nat) (t : GoType) (v : GoVal),
      dropNulls (encValP q o plan vf t v) = dropNulls (encVal q o plan vf true false false t v) := by
  intro vf
  induction vf with
  | zero => intro t v; rfl
  | succ n ih =>
    intro t v
    unfold encValP
    split
    · simp only [encVal]
    · simp only [encVal]; exact ih _ _
    · simp only [encVal]
    · rename_i kvs
      simp only [encVal, hq, Bool.false_and, Bool.false_eq_true, ↓reduceIte, dropNulls, dropNullsK_eq_filterMap, List.filterMap_map]
      congr 1
      apply filterMap_congr_mem
      intro kv _
      simp only [Function.comp]
      apply keepN_congr
      rw [ih, encVal_iface_flags q o plan n false true false kv.2]
    · simp only [encVal, hs, Bool.and_false, Bool.false_eq_true, ↓reduceIte]
    · rename_i xs
      simp only [encVal, dropNulls, dropNullsL_eq_map, List.map_map]
      congr 1
      apply List.map_congr_left
      intro x _
      simp only [Function.comp, isPtrT, Bool.and_true, Bool.not_false, Bool.or_true]
      rw [ih, encVal_iface_flags q o plan n false true _ x]
    · rw [encValA_nilOnly q o hn he, dropNulls_idem]

/-- pretty.JSON and alt.Decompose agree under `OmitNil` without `OmitEmpty` (code as it is; models
`encodeP`, `encodeA`): both describe the tree of `encode .alt` less its null members -/
theorem pretty_alt_agree_omitNil (o : Opts) (hn : o.omitNil = true) (he : o.omitEmpty = false) (hs : o.strict = false)
    (tf vf : Nat) (t : GoType) (v : GoVal) :
    encodeP Dev.current o tf vf t v = encodeA Dev.current o tf vf t v := by
  rw [alt_omitNil_is_dropNulls Dev.current o hn he]
  unfold encodeP encode
  rw [prettyJ_nilOnly o hn he]
  exact encValP_nilOnly _ (by simp [quirksOf, Dev.current]) o hn he hs _ vf t v

/-- the hypotheses are satisfiable (and the two sides are not trivially equal to a failure):
`map[string]any{"n": nil, "f": false}` under `OmitNil` is `{"f":false}` for both -/
example : jvBeq (encodeP Dev.current { plainOpts with omitNil := true } 4 4 mapStrAny
      (.map [("n".toUTF8.toList, .nilIface), ("f".toUTF8.toList, .iface .bool (.bool false))]))
      (.obj [("f".toUTF8.toList, .bool false)]) = true := by
  decide +kernel

/-- the value is written as null: a nil pointer or a nil interface -/
def directNil : GoType → GoVal → Bool
  | .ptr _, .nilPtr => true
  | .iface, .nilIface => true
  | _, _ => false

/-- The run of the oj/sen walker on `(t, v)` stays where `OmitNil` means "drop the nil members":
it meets no map (the reflective map walker and the object writers have rules of their own: they
also drop empty containers, and keep a nil interface in a typed map), and no pointer or interface
whose CONTENT is written as null (outside the fragment of the run anyway). Follows the plan like
`untriggered`. A struct needs fuel left for its fields (`0 < n`): with none a nil pointer field is `panicMark`
for `encVal` where `encValO` has already dropped it. -/
def omitNilAligned (q : Quirks) (plan : Bool → List (FieldHdr × GoType) → List Finfo) : Nat → Bool → GoType → GoVal → Bool
  | 0, _, _, _ => true
  | n + 1, oe, t, v =>
    match t, v with
    | .map _, .map _ => false
    | .iface, .iface dt dv => !directNil dt dv && omitNilAligned q plan n false dt dv
    | .ptr e, .ptr x => !directNil e x && omitNilAligned q plan n oe e x
    | .slice e, .slice xs => xs.all (omitNilAligned q plan n (oe && (q.slicePtrPlan || !isPtrT e)) e)
    | .array _ e, .arr xs => xs.all (omitNilAligned q plan n (oe && (q.slicePtrPlan || !isPtrT e)) e)
    | .struct _ _ fs, .struct vs =>
      decide (0 < n) && (plan oe fs).all fun fi =>
        match fieldByIndex (.struct vs) fi.index with
        | none => true
        | some x => omitNilAligned q plan n (childOE q fi) fi.ty x
    | _, _ => true

theorem bytesAsJV_notNull (n : Nat) (b : Bytes) : isNullJ (bytesAsJV n b) = false := by
  unfold bytesAsJV
  split
  · rfl
  · split <;> rfl

theorem bytesAsNumbers_notNull (b : Bytes) : isNullJ (bytesAsNumbers b) = false := rfl

theorem null_only_directNil (q : Quirks) (o : Opts) (hs : o.strict = false)
    (plan : Bool → List (FieldHdr × GoType) → List Finfo) :
    ∀ (n : Nat) (vi ie oe : Bool) (t : GoType) (v : GoVal), omitNilAligned q plan n oe t v = true →
      isNullJ (encVal q o plan n vi ie oe t v) = true → directNil t v = true := by
  intro n
  induction n with
  | zero => intro vi ie oe t v _ h; cases h
  | succ m ih =>
    intro vi ie oe t v ha h
    cases t, v using shape_cases
    case other hsh => rw [encVal_other hsh] at h; cases h
    case nilIface | nilPtr => rfl
    case iface dt dv | ptr e x =>
      simp only [omitNilAligned, Bool.and_eq_true, Bool.not_eq_true'] at ha
      have := ih _ _ _ _ _ ha.2 h
      rw [ha.1] at this; cases this
    case nilSlice e => cases e <;> simp [encVal, hs, isNullJ] at h
    all_goals
      simp only [encVal, apply_ite isNullJ, bytesAsJV_notNull, bytesAsNumbers_notNull, ite_self] at h
      try cases h

theorem fieldNilDropped_eq (o : Opts) (hn : o.omitNil = true) (fi : Finfo) (x : GoVal) :
    fieldNilDropped o fi x = directNil fi.ty x := by
  unfold fieldNilDropped directNil
  simp only [hn, Bool.true_and]
  split <;> simp_all

/-- the struct writers under `OmitNil`: when the nil test coincides with "the value is written as null",
the members are those of the walker without the option, less the null ones -/
theorem fieldMemberO_aligned (q : Quirks) (o : Opts) (hn : o.omitNil = true)
    (encO enc : Bool → GoType → GoVal → JV) (sv : GoVal) (fi : Finfo)
    (hx : ∀ x vi, fieldByIndex sv fi.index = some x →
      isNullJ (enc vi fi.ty x) = directNil fi.ty x ∧
      (directNil fi.ty x = false → encO vi fi.ty x = dropNulls (enc vi fi.ty x))) :
    fieldMemberO q o encO sv fi = (fieldMember q enc sv fi).bind keepN := by
  unfold fieldMemberO fieldMember
  cases hl : fieldByIndex sv fi.index with
  | none => by_cases h : q.embNilPanic = true <;> simp [h, keepN, isNullJ, panicMark, dropNulls]
  | some x =>
    by_cases h1 : (fi.omitE && isEmptyVal x) = true
    · simp [h1]
    · simp only [h1, Bool.false_eq_true, ↓reduceIte]
      cases h2 : (if fi.asStr = true then scalarText x else none) with
      | some t => simp [keepN, isNullJ, dropNulls]
      | none =>
        simp only [fieldNilDropped_eq o hn]
        cases hd : directNil fi.ty x <;> cases hty : fi.ty <;>
          simp [keepN, hty ▸ (hx x _ hl).1, hty ▸ (hx x _ hl).2, hty ▸ hd]

theorem encVal_directNil (q : Quirks) (o : Opts) (plan : Bool → List (FieldHdr × GoType) → List Finfo) (m : Nat)
    (vi oe : Bool) (t : GoType) (x : GoVal) (hd : directNil t x = true) :
    encVal q o plan (m + 1) vi false oe t x = .null := by
  unfold directNil at hd
  split at hd <;> first | rfl | cases hd

theorem isNullJ_encVal_aligned (q : Quirks) (o : Opts) (hs : o.strict = false)
    (plan : Bool → List (FieldHdr × GoType) → List Finfo) (m : Nat) (vi oe : Bool) (t : GoType) (x : GoVal)
    (ha : omitNilAligned q plan (m + 1) oe t x = true) :
    isNullJ (encVal q o plan (m + 1) vi false oe t x) = directNil t x := by
  cases hd : directNil t x with
  | true => rw [encVal_directNil q o plan m vi oe t x hd]; rfl
  | false =>
    cases hnull : isNullJ (encVal q o plan (m + 1) vi false oe t x) with
    | false => rfl
    | true => exact (null_only_directNil q o hs plan (m + 1) vi false oe t x ha hnull).symm.trans hd

theorem encValO_nilOnly_aligned (q : Quirks) (o : Opts) (hn : o.omitNil = true) (hs : o.strict = false) (sd : Bool)
    (plan : Bool → List (FieldHdr × GoType) → List Finfo) :
    ∀ (vf : Nat) (vi ie oe : Bool) (t : GoType) (v : GoVal), omitNilAligned q plan vf oe t v = true →
      encValO q o sd plan vf vi ie oe t v = dropNulls (encVal q o plan vf vi ie oe t v) := by
  intro vf
  induction vf with
  | zero => intro vi ie oe t v _; rfl
  | succ n ih =>
    intro vi ie oe t v ha
    cases t, v using shape_cases
    case other h => rw [encValO_other h, encVal_other h]; rfl
    case map => cases ha
    all_goals
      simp only [encValO, encVal, dropNulls, dropNulls_panicMark, dropNulls_bytesAsNumbers, dropNulls_bytesAsJV,
        apply_ite dropNulls, dropNullsK]
      try simp only [omitNilAligned, Bool.and_eq_true, Bool.not_eq_true', List.all_eq_true, decide_eq_true_eq] at ha
    case iface dt dv | ptr e x => exact ih _ _ _ _ _ ha.2
    case nilSlice e => cases e <;> simp [dropNulls, dropNullsL, apply_ite dropNulls]
    case slice e xs | arr k e xs =>
      simp only [dropNullsL_eq_map, List.map_map]
      congr 1
      apply List.map_congr_left
      intro x hx
      exact ih false true _ e x (ha x hx)
    case struct name pkg fs vs =>
      obtain ⟨hpos, hall⟩ := ha
      obtain ⟨m, rfl⟩ : ∃ m, n = m + 1 := ⟨n - 1, by omega⟩
      refine congrArg JV.obj (structObj_dropNulls o name pkg _ _ _ fun fi hfi => ?_)
      · refine fieldMemberO_aligned q o hn _ _ _ fi fun x vi' hl => ?_
        have hal := hall fi hfi
        rw [hl] at hal
        exact ⟨isNullJ_encVal_aligned q o hs plan m vi' _ fi.ty x hal, fun _ => ih vi' false _ fi.ty x hal⟩

/-- **oj and sen under `OmitNil` alone, away from maps**: code as it is (any quirks), `OmitNil` on (whatever
`OmitEmpty` says: the plan-level omission is in `encode` already), not `oj.Marshal`: on every run that is `omitNilAligned` (no map is met, no pointer or
interface whose content is written as null) the oj/sen writers describe the tree they describe without
the option, less every object member whose value is null, hereditarily — tight and indented alike. -/
theorem oj_omitNil_is_dropNulls_partial (e : Enc) (d : Dev) (o : Opts) (hn : o.omitNil = true)
    (hs : o.strict = false) (tf vf : Nat) (t : GoType) (v : GoVal)
    (ha : omitNilAligned (quirksOf e d o) (planOf e d o tf) vf false t v = true) :
    encodeO e d o tf vf t v = dropNulls (encode e d o tf vf t v) := by
  unfold encodeO encodeOWith encode
  exact encValO_nilOnly_aligned _ o hn hs _ _ vf true false false t v ha

/-- **All encoders agree under `OmitNil`** (code as it is; `OmitEmpty` off, not strict) on every run
that meets none of the live exclusions of `encoders_agree_current` (`untriggered`, for the writer and
for alt) and on which the oj/sen walker meets no map and no pointer or interface whose content is
written as null (`omitNilAligned`, the named exclusion: in maps the oj/sen writers also drop empty
containers and keep nil interfaces — part of known finding `C15-omit-options`): oj / sen (tight and
indented), alt.Decompose and pretty.JSON all describe the documented reference tree less its null
members. -/
theorem encoders_agree_current_omitNil_partial (e : Enc) (o : Opts) (hn : o.omitNil = false) (ho : o.omitEmpty = false)
    (hs : o.strict = false) (tf vf : Nat) (t : GoType) (v : GoVal)
    (hU : untriggered e Dev.current o tf (planFixed o tf) vf true false t v = true)
    (hA : untriggered .alt Dev.current o tf (planFixed o tf) vf true false t v = true)
    (ha : omitNilAligned (quirksOf e Dev.current { o with omitNil := true }) (planOf e Dev.current { o with omitNil := true } tf)
      vf false t v = true) :
    encodeO e Dev.current { o with omitNil := true } tf vf t v = dropNulls (refEncode o tf vf t v) ∧
    encodeA Dev.current { o with omitNil := true } tf vf t v = dropNulls (refEncode o tf vf t v) ∧
    encodeP Dev.current { o with omitNil := true } tf vf t v = dropNulls (refEncode o tf vf t v) := by
  have h2 := alt_omitNil_eq_pruned_reference o hn ho tf vf t v hA
  refine ⟨?_, h2, ?_⟩
  · rw [oj_omitNil_is_dropNulls_partial e Dev.current { o with omitNil := true } rfl hs tf vf t v ha,
      encode_omitNil_irrelevant, untriggered_current_eq_reference e o hn ho tf vf t v hU]
  · rw [pretty_alt_agree_omitNil { o with omitNil := true } rfl ho hs, h2]

/-- the hypotheses are satisfiable: `struct{P *int; N int}{nil, 1}` — every encoder gives `{"n":1}` -/
example : untriggered .oj Dev.current plainOpts 4 (planFixed plainOpts 4) 4 true false TPN VPN = true ∧
    untriggered .alt Dev.current plainOpts 4 (planFixed plainOpts 4) 4 true false TPN VPN = true ∧
    omitNilAligned (quirksOf .oj Dev.current { plainOpts with omitNil := true })
      (planOf .oj Dev.current { plainOpts with omitNil := true } 4) 4 false TPN VPN = true ∧
    jvBeq (encodeO .oj Dev.current { plainOpts with omitNil := true } 4 4 TPN VPN) (.obj [("n".toUTF8.toList, .int 1)]) = true := by
  decide +kernel

end OjgVerif.C15
