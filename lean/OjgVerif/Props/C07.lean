import OjgVerif.Reuse.Model
import OjgVerif.Reuse.Lemmas
import OjgVerif.Props.C01
import OjgVerif.Gen.ReuseFacts
import OjgVerif.Reuse.MapPool
import OjgVerif.Gen.MapPool
/-! # C07 — reused and pooled parsers and writers behave like fresh ones (model level)

Parsers (oj.Parser, gen.Parser, oj.Tokenizer, oj.Validator — the strict-JSON machine of
`Json/Machine.lean`): started from ANY state — whatever a previous call, finished, failed or aborted
half way, left in the instance — with the fields of `liveAtEntry` reset, the machine gives the
outcome of a fresh instance (`Json.run`); every other field (`nextMode ri rn num tmp`, the fast-loop
flag) is written before it is read. That every Go entry point has assigned the fields that hold a
live model field, and the fields that carry an argument of the call, before it calls
`parseBuffer`/`tokenizeBuffer`/`validateBuffer`, and assigned them the values `entryReset` assumes,
is evaluated by the kernel over the regenerated `Gen.ReuseFacts`: deleting a reset line from the Go
source shrinks the generated list and breaks `entries_cover`.

The writers, the struct-info cache and the `Reuse` map pool follow. A sync.Pool hands out some
instance that earlier calls have used or a new one: "any state" covers both, so pooling adds nothing
to the statement (ownership is C08). -/
namespace OjgVerif.C07
open OjgVerif.Json OjgVerif.Reuse

/-- the fields that are read before they are written, counted from the entry of a call -/
def liveAtEntry : List Field := [.mode, .starts, .stack, .docs, .line, .noff]

def covers (fs : List Field) : Bool := liveAtEntry.all fs.contains

theorem entryReset_fresh (fs : List Field) : entryReset fs {} = {} := by
  unfold entryReset
  simp only [ite_self]

theorem entry_sim (fs : List Field) (h : covers fs = true) (s : St) :
    Sim (enter (entryReset fs s)) ({} : St) := by
  simp only [covers, liveAtEntry, List.all_cons, List.all_nil, Bool.and_true, Bool.and_eq_true] at h
  obtain ⟨h1, h2, h3, h4, h5, h6⟩ := h
  unfold enter entryReset
  simp only [h1, h2, h3, h4, h5, h6, if_true]
  refine ⟨⟨rfl, rfl, rfl, rfl, rfl, rfl, rfl, ?_, ?_, ?_, ?_⟩, ?_⟩ <;> intro h <;> cases h

/-- What `runFrom` does after the chunks are prepared, from two states with equal live parts. Over the reference
tables (`runChunks_eq_ref`) the two runs fail alike or end in states with equal live parts (`runChunks_sim`), and
`finish` reads the live part only (`finish_live`). `finish_eq_ref` asks for the comma clause of `CtlInv` at the
state reached: `runChunks_ctl` gives it from `hc` on the `t` side, and it carries over to the `s` side because
`mode` and `starts` are live — which is why `CtlInv` is asked of `t` alone. -/
theorem tail_eq {T : Tables} (hT : TablesOK T) (cfg : Cfg) (cs : List Bytes) {s t : St} (h : Sim s t)
    (hc : CtlInv t) :
    (match runChunks T cfg s cs with
      | .error e => (.error e : Except Err (List JV))
      | .ok s' => finish T s') =
    (match runChunks T cfg t cs with
      | .error e => (.error e : Except Err (List JV))
      | .ok s' => finish T s') := by
  rw [runChunks_eq_ref hT, runChunks_eq_ref hT]
  have hs := runChunks_sim cfg cs h
  cases h1 : runChunks refTables cfg s cs <;> cases h2 : runChunks refTables cfg t cs <;>
    rw [h1, h2] at hs <;> simp only [liveR, reduceCtorEq, Except.error.injEq, Except.ok.injEq] at hs
  · rw [hs]
  · rename_i s1 t1
    have hctl := runChunks_ctl cfg cs t t1 hc h2
    simp only
    rw [finish_eq_ref hT t1 hctl.comma, finish_live t1, ← hs, ← finish_live]
    apply finish_eq_ref hT
    intro hm
    have hst : (live s1).starts = (live t1).starts := congrArg St.starts hs
    have hmo : (live s1).mode = (live t1).mode := congrArg St.mode hs
    rw [show s1.starts = t1.starts from hst]
    exact hctl.comma (hmo ▸ hm)

/-- the outcome of a call depends on the live part of the state it starts from, and on nothing else -/
theorem runFrom_sim {T : Tables} (hT : TablesOK T) (cfg : Cfg) {s t : St} (h : Sim (enter s) (enter t))
    (hc : CtlInv (enter t)) (chunks : List Bytes) : runFrom T cfg s chunks = runFrom T cfg t chunks := by
  unfold runFrom
  simp only
  generalize (if cfg.reader = true then topUp (List.filter (fun x => !List.isEmpty x) chunks) else chunks) = cs
  cases cs with
  | nil => exact tail_eq hT cfg [] h hc
  | cons c rest =>
    simp only
    cases (if cfg.reader = true then bomRuleReader c else bomRule c) with
    | bad => rfl
    | strip r => exact tail_eq hT cfg _ h hc
    | keep => exact tail_eq hT cfg _ h hc

/-- **Non-interference.** Whatever state `s` earlier calls left in the instance, resetting a list of
fields that covers `liveAtEntry` makes the call behave as on a fresh instance: same documents, same
values, same error position and kind, for every configuration and every chunking. -/
theorem noninterference {T : Tables} (hT : TablesOK T) (cfg : Cfg) (fs : List Field)
    (hfs : covers fs = true) (s : St) (chunks : List Bytes) :
    runFrom T cfg (entryReset fs s) chunks = run T cfg chunks :=
  -- `run` is `runFrom` on the fresh state `{}`, by computation
  runFrom_sim (t := {}) hT cfg (entry_sim fs hfs s) CtlInv.init chunks

example : covers [.mode, .starts, .stack, .docs, .tmp, .line, .noff] = true := by decide
example : covers [.mode, .starts, .stack, .docs, .tmp, .noff] = false := by decide

open OjgVerif.Gen.ReuseFacts in
/-- the entry points of the machines modelled by `Json/Machine.lean` -/
def parserEntries : List Entry :=
  entries.filter fun e => ["oj.Parser", "gen.Parser", "oj.Tokenizer", "oj.Validator"].contains e.recv

/-- Go fields read before they are written, from the entry of a call: those that hold a live model
field and those that carry an argument of the call -/
def readBeforeWrite (recv : String) : List String :=
  liveAtEntry.flatMap (implementedBy recv) ++ argFields recv

open OjgVerif.Gen.ReuseFacts in
/-- every entry point we claim is there (so that the statements below are not vacuous) -/
theorem entries_present :
    ["oj.Parser.Parse", "oj.Parser.ParseReader", "oj.Parser.Unmarshal", "oj.Validator.Validate",
     "oj.Validator.ValidateReader", "oj.Tokenizer.Parse", "oj.Tokenizer.Load", "gen.Parser.Parse",
     "gen.Parser.ParseReader"].all (parserEntries.map (·.name)).contains = true := by decide

open OjgVerif.Gen.ReuseFacts in
/-- at every call site of the buffer function: `readBeforeWrite ⊆ resets` (configuration fields are
disjoint from it), hence the model fields reset there cover `liveAtEntry` -/
theorem entries_cover :
    parserEntries.all (fun e => e.sites.all fun st =>
      (readBeforeWrite e.recv).all st.assigned.contains &&
      covers (resetFields e.recv st.assigned)) = true := by decide

open OjgVerif.Gen.ReuseFacts in
/-- the fields read before written and the configuration fields do not overlap, and every field of
the Go structs is accounted for by the classification in `Reuse/Model.lean` (a new field has to be
classified before this checks again) -/
theorem fields_classified :
    (structFields.all fun p => p.2.all (knownFields p.1).contains) &&
    (parserEntries.all fun e => (readBeforeWrite e.recv).all fun f => !(configFields e.recv).contains f) = true := by
  decide

/-- the values assigned to Go field `g` before this site -/
def valuesOf (st : Gen.ReuseFacts.Site) (g : String) : List String :=
  (st.values.filter fun p => p.1 == g).map (·.2)

/-- the values agree with `entryReset`: a field that only the reset assigns (`mode line noff stack
starts result`) is assigned nothing but the value `entryReset` gives it; a field that the
arguments of the call may overwrite (`cb resultChan`) is first set to that value; the token
handler is the call's argument itself -/
def valuesOK (recv : String) (st : Gen.ReuseFacts.Site) : Bool :=
  liveAtEntry.all fun f =>
    match resetToken f with
    | none => true
    | some tok =>
      (implementedBy recv f).all fun g =>
        if g = "handler" then valuesOf st g == ["ident:handler"]
        else if (argFields recv).contains g then (valuesOf st g).contains tok
        else valuesOf st g == [tok]

open OjgVerif.Gen.ReuseFacts in
/-- **the resets assign what `entryReset` assumes** (kernel-evaluated over the regenerated right-hand
sides): `p.line = 0` instead of `1`, `p.mode = afterMap`, `p.noff = 0`, a reslice that is not
`[:0]` … break this proof, not only the run -/
theorem entries_values :
    parserEntries.all (fun e => e.sites.all fun st => valuesOK e.recv st) = true := by decide

def tablesOf (recv : String) : Tables := if recv = "gen.Parser" then genTables else ojTables

theorem tablesOf_ok (recv : String) : TablesOK (tablesOf recv) := by
  unfold tablesOf; split
  · exact C01.genTables_ok
  · exact C01.ojTables_ok

open OjgVerif.Gen.ReuseFacts in
theorem site_covers {e : Entry} (he : e ∈ parserEntries) {st : Site} (hst : st ∈ e.sites) :
    covers (resetFields e.recv st.assigned) = true := by
  have h := entries_cover
  simp only [List.all_eq_true, Bool.and_eq_true] at h
  exact (h e he st hst).2

open OjgVerif.Gen.ReuseFacts in
/-- **C07 for the parsers, validator and tokenizer**: at every generated call site of the buffer
function in every entry point, the call started from an arbitrary instance state gives the outcome
of a fresh instance. -/
theorem C07_parsers (e : Entry) (he : e ∈ parserEntries) (st : Site) (hst : st ∈ e.sites)
    (cfg : Cfg) (s : St) (chunks : List Bytes) :
    runFrom (tablesOf e.recv) cfg (entryReset (resetFields e.recv st.assigned) s) chunks =
      run (tablesOf e.recv) cfg chunks :=
  noninterference (tablesOf_ok e.recv) cfg _ (site_covers he hst) s chunks

/-! Each of the six resets is needed: leave one live field as the previous call left it and some call
gives another outcome. The witnesses (state left behind, input of the next call) are concrete and
evaluated by the kernel. -/

def allBut (f : Field) : List Field := Field.all.filter (· != f)

def differs (f : Field) (s : St) (input : Bytes) : Bool :=
  observe (runFrom refTables {} (entryReset (allBut f) s) [input]) != observe (run refTables {} [input])

/-- left inside a string by an aborted call: the next call reads `1` as string content -/
theorem reset_needed_mode : differs .mode { mode := .string } [49] = true := by decide
/-- an array left open -/
theorem reset_needed_starts : differs .starts { starts := [true] } [49] = true := by decide
/-- a key left on the value stack -/
theorem reset_needed_stack : differs .stack { stack := [.key [97], .val .null] } [49] = true := by decide
/-- a document of the previous call (`result`, or the previous call's callback / channel) -/
theorem reset_needed_docs : differs .docs { docs := [.null] } [49] = true := by decide
theorem reset_needed_line : differs .line { line := 7 } [120] = true := by decide
theorem reset_needed_noff : differs .noff { nl := 5 } [120] = true := by decide

/-- the fields that are not reset (`nextMode ri rn num tmp`, the fast-loop flag) may hold anything: an instance
of `noninterference` -/
example (cfg : Cfg) (chunks : List Bytes) :
    runFrom ojTables cfg (entryReset [.mode, .starts, .stack, .docs, .line, .noff]
      { nextMode := .digit, ri := 3, rn := 77, tmp := [1, 2], num := { i := 5, neg := true, big := [49] }, inFast := true })
      chunks = run ojTables cfg chunks :=
  noninterference C01.ojTables_ok cfg _ (by decide) _ chunks

/-! The writers. What follows is weak by design and should be read that way: `wcall_indep` holds
essentially by the TYPE of `Enc` (the encoder is given nothing but options, `strict`, `findex`, the installed append
functions and the data, so it cannot depend on anything else); the content is in the generated facts
(`writer_entries_reset`: the four fields are assigned before every encoder call) and in the harness.
The `strict` / pretty / struct-cache statements further down are one-Boolean models closed by `rfl`
or `decide` plus a fact over the source text: REGRESSION TRIPWIRES over the patched lines (they fail
if a fix is reverted), not proofs about the encoders.

`wcall` is `MustJSON`/`MustWrite` (oj) resp. `MustSEN`/`MustWrite` (sen) with the encoder as an
arbitrary function of what it can read. With `w`, `buf`, `findex` and the append functions reset
(generated), a call's output is a function of the options, the `strict` flag and the data alone. -/

theorem wcall_indep {D : Type} (enc : Enc D) (sink : Option Nat) (s1 s2 : WSt) (d : D)
    (ho : s1.opts = s2.opts) (hs : s1.strict = s2.strict) :
    (wcall enc ⟨true, true, true, true⟩ sink s1 d).2 = (wcall enc ⟨true, true, true, true⟩ sink s2 d).2 := by
  rcases s1 with ⟨o1, b1, k1, f1, st1, sel1⟩
  rcases s2 with ⟨o2, b2, k2, f2, st2, sel2⟩
  simp only at ho hs
  subst ho hs
  cases hc : o1.color <;> simp [wcall, hc]

/-- each of the four resets matters: a writer that keeps the field can be told from a fresh one -/
theorem wcall_buf_needed :
    (wcall (D := Unit) (fun _ _ _ _ _ => [1]) ⟨true, false, true, true⟩ none { buf := [9] } ()).2.1 ≠
    (wcall (D := Unit) (fun _ _ _ _ _ => [1]) ⟨true, false, true, true⟩ none {} ()).2.1 := by decide
theorem wcall_sink_needed :
    (wcall (D := Unit) (fun _ _ _ _ _ => [1]) ⟨false, true, true, true⟩ none { sink := some 3 } ()).2.2 ≠
    (wcall (D := Unit) (fun _ _ _ _ _ => [1]) ⟨false, true, true, true⟩ none {} ()).2.2 := by decide
theorem wcall_findex_needed :
    (wcall (D := Unit) (fun _ _ fi _ _ => [UInt8.ofNat fi]) ⟨true, true, false, true⟩ none { findex := 8 } ()).2.1 ≠
    (wcall (D := Unit) (fun _ _ fi _ _ => [UInt8.ofNat fi]) ⟨true, true, false, true⟩ none {} ()).2.1 := by decide
theorem wcall_sel_needed :
    (wcall (D := Unit) (fun _ _ _ sel _ => if sel = .indent then [1] else [0]) ⟨true, true, true, false⟩ none { sel := .indent } ()).2.1 ≠
    (wcall (D := Unit) (fun _ _ _ sel _ => if sel = .indent then [1] else [0]) ⟨true, true, true, false⟩ none {} ()).2.1 := by decide

open OjgVerif.Gen.ReuseFacts in
def writerEntries : List Entry :=
  entries.filter fun e => ["oj.Writer", "sen.Writer"].contains e.recv

/-- what the generated sites say: `w`, `buf`, `findex` assigned before every encoder call, the four
append functions before every call of the plain (non-colour) encoder -/
def wresetsOf (e : Gen.ReuseFacts.Entry) : WResets where
  sink := e.sites.all fun st => st.assigned.contains "w"
  buf := e.sites.all fun st => st.assigned.contains "buf"
  findex := e.sites.all fun st => st.assigned.contains "findex"
  sel := e.sites.all fun st => st.callee = "colorJSON" || st.callee = "colorSEN" ||
    ["appendArray", "appendObject", "appendDefault", "appendString"].all st.assigned.contains

theorem writer_entries_present :
    ["oj.Writer.JSON", "oj.Writer.MustJSON", "oj.Writer.Write", "oj.Writer.MustWrite",
     "sen.Writer.SEN", "sen.Writer.MustSEN", "sen.Writer.Write", "sen.Writer.MustWrite"].all
      (writerEntries.map (·.name)).contains = true := by decide

theorem writer_entries_reset : writerEntries.all (fun e => wresetsOf e == ⟨true, true, true, true⟩) = true := by
  decide

/-- **C07 for oj.Writer / sen.Writer calls**: with the generated resets, what a call returns and
where it writes depend on the writer's options, its `strict` flag and the data only. -/
theorem C07_writers {D : Type} (e : Gen.ReuseFacts.Entry) (he : e ∈ writerEntries) (enc : Enc D)
    (sink : Option Nat) (s1 s2 : WSt) (d : D) (ho : s1.opts = s2.opts) (hs : s1.strict = s2.strict) :
    (wcall enc (wresetsOf e) sink s1 d).2 = (wcall enc (wresetsOf e) sink s2 d).2 := by
  have h := writer_entries_reset
  simp only [List.all_eq_true, beq_iff_eq] at h
  rw [h e he]
  exact wcall_indep enc sink s1 s2 d ho hs

/-! `strict` is no option: the caller cannot set it, `JSON`/`Write` never assign it, `oj.Marshal` on a
caller's Writer sets it. Whether it is put back afterwards is read from the source (it is, since
9e87089). -/

/-- the source restores `strict` in `Marshal`: some assignment there has a right-hand side other than `true` -/
def strictRestored : Bool :=
  Gen.ReuseFacts.strictAssigns.any fun p => p.1 = "Marshal" && p.2 != "true"

/-- a `JSON` call after `oj.Marshal(_, wr)` on the same Writer returns what it returns on a Writer
that has not been through `Marshal` -/
def MarshalLeavesWriterAlone (restores : Bool) : Prop :=
  ∀ (D : Type) (enc : Enc D) (s : WSt) (d d' : D),
    (wcall enc ⟨true, true, true, true⟩ none (marshalOn enc ⟨true, true, true, true⟩ restores s d).1 d').2 =
    (wcall enc ⟨true, true, true, true⟩ none s d').2

theorem marshal_restoring : MarshalLeavesWriterAlone true := by
  intro D enc s d d'
  apply wcall_indep
  · unfold marshalOn wcall
    simp only [if_true]
    cases s.opts.color <;> rfl
  · unfold marshalOn
    simp only [if_true]

/-- without the restore the full statement is false: the witness is the encoder's treatment of a
nil `[]any` (`null` when strict, `[]` otherwise; oj/writer.go, `case []any`) -/
theorem marshal_not_restoring : ¬ MarshalLeavesWriterAlone false := by
  intro h
  have := h Unit (fun _ strict _ _ _ => if strict then [110, 117, 108, 108] else [91, 93]) {} () ()
  revert this
  decide

/-- the source as it is (fix 9e87089) puts the caller's `strict` back; the fact is re-evaluated over
the regenerated `strictAssigns` on every run: on the source before the fix (the only assignment is
`wr.strict = true`) this proof fails -/
theorem strict_restored : strictRestored = true := by decide

/-- **`oj.Marshal(data, wr)` leaves the caller's Writer as it found it** (repaired code) -/
theorem C07_marshal_strict : MarshalLeavesWriterAlone strictRestored :=
  strict_restored ▸ marshal_restoring

/-- the code before 9e87089 (known finding C07-marshal-strict, fixed by that commit): false, same witness -/
theorem C07_marshal_strict_before : ¬ MarshalLeavesWriterAlone false := marshal_not_restoring

/-! pretty.Writer, `Encode`/`Marshal` after `Write`:
`Write` stores the io.Writer in `w`; whether `Encode` and `Marshal` clear it before they encode is
read from the source (they do, since f01b3fb). -/

/-- `Encode` and `Marshal` clear `w` before encoding (generated) -/
def prettyClearsSink : Bool :=
  (Gen.ReuseFacts.entries.filter fun e => e.name = "pretty.Writer.Encode" || e.name = "pretty.Writer.Marshal").all
    fun e => e.sites.all fun st => st.assigned.contains "w"

theorem pretty_entries_present :
    (Gen.ReuseFacts.entries.filter fun e => e.name = "pretty.Writer.Encode" || e.name = "pretty.Writer.Marshal").length = 2 := by
  decide

/-- `Encode` on a used pretty.Writer returns what it returns on a fresh one -/
def PrettyEncodeLikeFresh (clears : Bool) : Prop :=
  ∀ (s : PSt) (text : Bytes), (pEncode clears text s).2 = (pEncode clears text {}).2

theorem pretty_clearing : PrettyEncodeLikeFresh true := by
  intro s text; rfl

/-- without it: after `Write(w, _)` the next `Encode` hands its bytes to `w` and returns nothing -/
theorem pretty_not_clearing : ¬ PrettyEncodeLikeFresh false := by
  intro h
  have := h (pWrite 1 [49] {}).1 [50]
  revert this
  decide

/-- the source as it is (fix f01b3fb): `w` is assigned before `build`/`fill` at every site of
`Encode` and `Marshal`; fails on the source before the fix -/
theorem pretty_clears_sink : prettyClearsSink = true := by decide

/-- **`Encode`/`Marshal` on a used pretty.Writer answer like a fresh one** (repaired code) -/
theorem C07_pretty_sink : PrettyEncodeLikeFresh prettyClearsSink :=
  pretty_clears_sink ▸ pretty_clearing

/-- the code before f01b3fb (known finding C07-pretty-sink, fixed by that commit) -/
theorem C07_pretty_sink_before : ¬ PrettyEncodeLikeFresh false := pretty_not_clearing

/-! The struct-info cache: the plan used for a nested struct field is independent of earlier calls iff
`getTypeStruct` selects the map by the `omitEmpty` flag — which it does since 8169704. -/

theorem _root_.OjgVerif.Reuse.Cache.lookup_mem {m : List (Nat × Bool)} {t : Nat} {p : Bool} (hl : Cache.lookup m t = some p) :
    ∃ e ∈ m, e.2 = p := by
  obtain ⟨e, hf, he⟩ := Option.map_eq_some_iff.1 hl
  exact ⟨e, List.mem_of_find?_eq_some hf, he⟩

/-- selecting by flag: the plan is the one for the flag of THIS call, whatever is cached -/
theorem typeStruct_by_flag (c : Cache) (h : c.wf) (t : Nat) (om : Bool) :
    (getTypeStruct true c t om).1 = om := by
  unfold getTypeStruct
  cases om <;> simp only [Bool.and_false, Bool.and_self, Bool.false_eq_true, if_false, if_true] <;> split
  · obtain ⟨e, he, rfl⟩ := Cache.lookup_mem ‹_›; exact h.1 e he
  · rfl
  · obtain ⟨e, he, rfl⟩ := Cache.lookup_mem ‹_›; exact h.2 e he
  · rfl

/-- looking in `structMap` only: two well-formed caches (type 7 written before without the flag, or
not) give different plans for the same call -/
theorem typeStruct_plain_only :
    ∃ c1 c2 : Cache, c1.wf ∧ c2.wf ∧ (getTypeStruct false c1 7 true).1 ≠ (getTypeStruct false c2 7 true).1 :=
  ⟨{}, (getSinfo {} 7 false).2, by unfold Cache.wf; decide, by unfold Cache.wf; decide, by decide⟩

/-- `getTypeStruct` of oj and sen consults `structEmptyMap` (generated) -/
def cacheSelectsByFlag : Bool :=
  (Gen.ReuseFacts.caches.filter fun c => c.pkg = "oj" || c.pkg = "sen").all fun c => c.typeStructEmpty == "yes"

def NestedPlanIndependent (sel : Bool) : Prop :=
  ∀ c1 c2 : Cache, c1.wf → c2.wf → ∀ t om, (getTypeStruct sel c1 t om).1 = (getTypeStruct sel c2 t om).1

/-- the source as it is (fix 8169704): `getTypeStruct` of oj and of sen mentions `structEmptyMap`
(generated `typeStructEmpty = "yes"`); on the source before the fix the fact is `"no"` and this
proof fails -/
theorem cache_selects_by_flag : cacheSelectsByFlag = true := by decide

/-- **The plan used for a nested struct field does not depend on what earlier calls cached**
(repaired code): with goroutines, it does not depend on who was first either — the part of C08's
"what it returns when run alone" that the caches touch. -/
theorem C07_struct_cache : NestedPlanIndependent cacheSelectsByFlag := by
  rw [cache_selects_by_flag]
  intro c1 c2 h1 h2 t om
  rw [typeStruct_by_flag c1 h1, typeStruct_by_flag c2 h2]

/-- the code before 8169704 (known finding C07-struct-cache-omitempty, fixed by that commit): looking in
`structMap` only, the plan depends on the cache -/
theorem C07_struct_cache_before : ¬ NestedPlanIndependent false := by
  intro hn
  obtain ⟨c1, c2, h1, h2, hne⟩ := typeStruct_plain_only
  exact hne (hn c1 c2 h1 h2 7 true)

/-! The `Reuse` map pool of oj.Parser / gen.Parser / sen.Parser (`p.maps`, `p.mi`).
Model and unbounded proofs: `Reuse/MapPool.lean` (maps as identities, a heap for their contents, the
pool, the index; documents and calls of any length from any state any history has left). Here: the
fact over the regenerated source shape (`Gen/MapPool.lean`, tools/extract/reuse_mappool.go) that the
code is the model's `openObj` and not the mutant `openObjBad`, and the property-level statements
over the step function THE SOURCE SELECTS (`poolStep mapPoolAsModelled`): when `p.mi++` is moved
into the `else` branch (seeded change C18-m8) the generated `miIncDirect` becomes `false`,
`mappool_index_unconditional` fails, and with it every theorem below. -/

section MapPoolSection
open OjgVerif.Reuse.MapPool

/-- the shape `Reuse/MapPool.lean` assumes, for each of the three parsers: in `parseBuffer`'s
`switch p.mode[b]` the `case openObject:` clause has one `if p.Reuse {` whose body holds `p.mi++` as
a DIRECT statement (the only write of `p.mi` in the clause); the inner `if p.mi < len(p.maps)` takes
`p.maps[p.mi]` and clears it and writes neither index nor pool; its else makes a map and appends it;
without Reuse a map is made; the writes of `p.mi` in `parseBuffer` are that `p.mi++` and `p.mi = 0`
in the document-delivered block; `Parse` and `ParseReader` set `p.mi = 0` unconditionally; and the
pool is otherwise only ever replaced by an empty one -/
def mapPoolAsModelled : Bool :=
  Gen.MapPool.pools.map (·.file) == ["oj/parser.go", "gen/parser.go", "sen/parser.go"] &&
  Gen.MapPool.pools.all fun p =>
    p.found && p.reuseIf && p.miIncDirect && p.miWritesInClause == 1 &&
    p.innerCond == "p.mi < len(p.maps)" && p.thenTakes && p.thenClears && !p.thenWritesIndexOrPool &&
    p.elseMakes && p.elseAppends && p.offMakes &&
    p.miWrites == [("openObject", "p.mi++"), ("doc-end", "p.mi = 0")] &&
    p.fileWrites.contains ("Parse", "p.mi = 0", "direct") &&
    p.fileWrites.contains ("ParseReader", "p.mi = 0", "direct") &&
    (p.fileWrites.filter fun w => w.1 == "parseBuffer").map (·.2.1)
      == ["p.maps = append(p.maps, m)", "p.mi++", "p.mi = 0"] &&
    (p.fileWrites.filter fun w => w.1 != "parseBuffer").all fun w =>
      w.2.1 == "p.mi = 0" || w.2.1 == "p.maps = make([]map[string]any, 0, 16)" ||
      w.2.1 == "p.maps = make([]Object, 0, 16)"

/-- the source as it is. With `p.mi++` inside the `else` branch `miIncDirect` is `false` and this
proof fails. -/
theorem mappool_index_unconditional : mapPoolAsModelled = true := by decide

/-- the `case openObject:` step the source selects: the model's, or the mutant's -/
def poolStep {α : Type} (unconditional : Bool) (reuse : Bool) : α → St α → Nat × St α :=
  if unconditional then openObj reuse else openObjBad reuse

/-- **Within every document of a call each object gets its own map** — Reuse on or off, documents
and calls of any length, from any state earlier calls have left -/
theorem C07_mappool_distinct {α : Type} (reuse : Bool) (docs : List (List α)) (s : St α) (w : WF s) :
    ∀ r ∈ (runCallW (poolStep mapPoolAsModelled reuse) docs s).1, r.ids.Nodup := by
  rw [mappool_index_unconditional]
  exact call_distinct reuse docs s w

/-- **A call on a used parser (Reuse on or off) delivers the values a new parser delivers**: each
document's objects hold exactly that document's contents when it is delivered -/
theorem C07_mappool_values_fresh {α : Type} (reuse : Bool) (docs : List (List α)) (s : St α) (w : WF s) :
    values (runCallW (poolStep mapPoolAsModelled reuse) docs s).1 = docs.map (List.map some) ∧
    values (runCallW (poolStep mapPoolAsModelled reuse) docs s).1
      = values (runCallW (poolStep mapPoolAsModelled reuse) docs (St.init : St α)).1 := by
  rw [mappool_index_unconditional]
  exact ⟨call_values reuse docs s w, reuse_values_eq_fresh reuse docs s w⟩

/-- **Read after the call has returned**, the maps a call with Reuse handed out hold the same on a
used parser as on a new one (later documents of the same call overwrite earlier ones in both alike),
and the last document — what `Parse` returns — is intact -/
theorem C07_mappool_values_after_fresh {α : Type} (docs : List (List α)) (s : St α) (w : WF s) :
    valuesAfter (runCallW (poolStep mapPoolAsModelled true) docs s).1
        (runCallW (poolStep mapPoolAsModelled true) docs s).2
      = valuesAfter (runCallW (poolStep mapPoolAsModelled true) docs (St.init : St α)).1
        (runCallW (poolStep mapPoolAsModelled true) docs (St.init : St α)).2 ∧
    ∀ ds d, docs = ds ++ [d] →
      (valuesAfter (runCallW (poolStep mapPoolAsModelled true) docs s).1
        (runCallW (poolStep mapPoolAsModelled true) docs s).2).getLast? = some (d.map some) := by
  rw [mappool_index_unconditional]
  refine ⟨reuse_values_after_eq_fresh docs s w, ?_⟩
  intro ds d h
  subst h
  exact last_doc_after ds d s w

/-- **Earlier results are overwritten only with Reuse, and then exactly the pooled maps below the
object count of one of the call's documents** (the documented price of Reuse); every other map —
and, with Reuse off, every map that existed before the call — keeps its content; an overwritten map
holds the content of one of this call's objects -/
theorem C07_mappool_clobber_only_with_reuse {α : Type} (reuse : Bool) (docs : List (List α)) (s : St α)
    (w : WF s) (x : Nat) (hx : x < s.fresh) :
    (x ∈ touched (runCallW (poolStep mapPoolAsModelled reuse) docs s).1
      ↔ reuse = true ∧ ∃ d ∈ docs, x ∈ s.pool.take d.length) ∧
    (x ∉ touched (runCallW (poolStep mapPoolAsModelled reuse) docs s).1 →
      (runCallW (poolStep mapPoolAsModelled reuse) docs s).2.heap x = s.heap x) ∧
    (x ∈ touched (runCallW (poolStep mapPoolAsModelled reuse) docs s).1 →
      ∃ d ∈ docs, ∃ a ∈ d, (runCallW (poolStep mapPoolAsModelled reuse) docs s).2.heap x = some a) ∧
    (reuse = false → (runCallW (poolStep mapPoolAsModelled reuse) docs s).2.heap x = s.heap x) := by
  rw [mappool_index_unconditional]
  refine ⟨earlier_results_clobbered_iff_reuse reuse docs s w x hx, untouched_kept reuse docs s x,
    clobbered_content reuse docs s x, ?_⟩
  intro hr
  subst hr
  exact reuse_off_untouched docs s w x hx

/-- hypotheses satisfiable: the state one earlier call with three objects leaves, an earlier map in
the pool below 2 -/
example : WF used ∧ (1 : Nat) < used.fresh ∧ 1 ∈ used.pool.take ([20, 21] : List Nat).length :=
  ⟨WF_runCall true _ WF_init, by decide, by decide⟩

/-- the documented clobbering, concretely (witness): map 1, returned by a first call holding 11,
holds 21 after a second call with Reuse and two objects, and still 11 if the second call has Reuse
off -/
theorem C07_mappool_clobber_witness :
    1 ∈ touched (runCall true [[10, 11, 12]] (St.init : St Nat)).1 ∧ used.heap 1 = some 11 ∧
    (runCallW (poolStep mapPoolAsModelled true) [[20, 21]] used).2.heap 1 = some 21 ∧
    (runCallW (poolStep mapPoolAsModelled false) [[20, 21]] used).2.heap 1 = some 11 := by
  rw [mappool_index_unconditional]
  exact clobber_witness

/-- the states every history reaches are well-formed (so the theorems above apply after any
sequence of complete or aborted calls) -/
theorem C07_mappool_history_wf {α : Type} (h : List (Op α)) :
    WF (h.foldl (fun s o => runOp o s) (St.init : St α)) := WF_history h

/-- **The unconditional `p.mi++` is needed** (the seeded change C18-m8 in the model): with the index
advanced only when the pool grows, on any parser whose pool holds a map both objects of a two-object
document are the same map, and the first object shows the second one's members -/
theorem C07_mappool_index_needed {α : Type} (s : St α) (hm : s.mi = 0) (hp : 0 < s.pool.length) (a b : α) :
    ¬ (runDocW (poolStep false true) [a, b] s).1.ids.Nodup ∧
    (runDocW (poolStep false true) [a, b] s).1.val = [some b, some b] :=
  ⟨bad_not_nodup s hm hp a b, bad_value s hm hp a b⟩

example : used.mi = 0 ∧ 0 < used.pool.length := by decide

end MapPoolSection

end OjgVerif.C07
