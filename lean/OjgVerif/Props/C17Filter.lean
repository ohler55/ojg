import OjgVerif.Match.LemmasFilterOne
import OjgVerif.Props.C17Chunks
/-! # C17 — target sets WITH filter targets

For target sets whose targets are supported up to their FIRST filter (`deviates (stripFilter t) = false`;
nothing is asked of what stands behind it, see the remark below) the callbacks of the current matcher are, in
document order, the reports `reportAt` of the OUTERMOST locations that the targets WITHOUT their filters select
(`C17_filter_sets`): the documented behaviour of the handler, stated on the specification's terms (`selects`,
`expected`). The specification splits along the same skeleton (`expected_split`, with pieces `specAt`), so the
callbacks ARE the specification's IF AND ONLY IF at every such location the handler's report equals the
specification's piece (`C17_filter_iff`): the excluded class is a predicate on (targets, document), local to
the collected containers. For ONE target `pre[?p]` with a descent-free, non-deviating `pre` this is exactly "the
filter accepts at most one element of every location `pre` selects" (`C17_filter_single`; `atMostOne`,
executable) — the complement is where known finding C17-filter-first-only shows.

None of the hypotheses asks the filter to be the LAST fragment of its target. The handler model drops what stands
behind a filter (`splitTarget`), jp.NewMatchHandler keeps it in `Rest` and evaluates it: for such targets
`C17_filter_sets`, `C17_filter_iff` and `C17_filter_sets_chunked` are statements about the model only (on
`$.a[?(@.x == 1)].y` and `{"a":[{"x":1,"y":7}]}` the library reports `$.a[0].y`, the model `$.a[0]`). -/
namespace OjgVerif.C17
open OjgVerif.Match

/-- the documented behaviour, any setting of the deviations -/
theorem C17_filter_sets_general (dv : Dev) (targets : List Target) (doc : JV) (hdoc : NoDupKeys doc = true)
    (hok : ∀ t ∈ targets, okTarget dv (stripFilter t) = true) :
    matchRun dv targets (events doc) =
      (expected (targets.map stripFilter) doc).flatMap (reportAt dv targets doc) := by
  rw [run_events dv targets doc hdoc]
  exact found_reportAt dv targets doc hok hdoc

/-- **Target sets with filters, code as it is**: the callbacks are the handler's reports at the
outermost locations that the parts of the targets in front of their first filters select, in document
order. The hypothesis does not ask the filter to be the LAST fragment. For a target with fragments behind
its filter the statement holds of the handler MODEL, which drops them (`splitTarget`), not of
jp.NewMatchHandler, which keeps them in `Rest` (Match/Model.lean: not modelled; the driver refuses such
targets). -/
theorem C17_filter_sets (targets : List Target) (doc : JV) (hdoc : NoDupKeys doc = true)
    (hdev : ∀ t ∈ targets, deviates (stripFilter t) = false) :
    matchRun Dev.cur targets (events doc) =
      (expected (targets.map stripFilter) doc).flatMap (reportAt Dev.cur targets doc) :=
  C17_filter_sets_general Dev.cur targets doc hdoc (fun t ht => by simp [okTarget_cur, hdev t ht])

/-- the specification's piece at an outermost location of the stripped targets: `locs` below it under the
filter of `expected`, written out (`specAt_eq_outermost`) -/
def specAt (targets : List Target) (doc : JV) (qu : NPath × JV) : List (NPath × JV) :=
  (locs qu.1 qu.2).filter fun pv =>
    selectedBy targets doc pv.1 && !(properPrefixes pv.1).any (selectedBy targets doc)

theorem specAt_eq_outermost (targets : List Target) (doc : JV) (qu : NPath × JV) :
    specAt targets doc qu = (locs qu.1 qu.2).filter (outermost (selectedBy targets doc)) := rfl

theorem expected_split (targets : List Target) (doc : JV) :
    expected targets doc = (expected (targets.map stripFilter) doc).flatMap (specAt targets doc) :=
  expected_decompose targets doc

/-- the handler's report at `qu` is the specification's piece there -/
def agreesAt (dv : Dev) (targets : List Target) (doc : JV) (qu : NPath × JV) : Prop :=
  reportAt dv targets doc qu = specAt targets doc qu

/-- **Local criterion**: the callbacks are the specification's if at every outermost location the
stripped targets select the handler's report is the specification's piece. -/
theorem C17_filter_local (targets : List Target) (doc : JV) (hdoc : NoDupKeys doc = true)
    (hdev : ∀ t ∈ targets, deviates (stripFilter t) = false)
    (hag : ∀ qu ∈ expected (targets.map stripFilter) doc, agreesAt Dev.cur targets doc qu) :
    matchRun Dev.cur targets (events doc) = expected targets doc := by
  rw [C17_filter_sets targets doc hdoc hdev, expected_split targets doc]
  exact flatMap_congr_mem _ _ _ hag

theorem filterAll_prefix (p : JV → Bool) (q : NPath) (u : JV) : ∀ x ∈ filterAll p q u, q <+: x.1 := by
  intro x hx
  rw [filterAll_eq] at hx
  obtain ⟨sc, _, rfl⟩ := List.mem_map.mp hx
  exact List.prefix_append _ _

theorem reportAt_prefix (dv : Dev) (targets : List Target) (doc : JV) (qu : NPath × JV) :
    ∀ x ∈ reportAt dv targets doc qu, qu.1 <+: x.1 := by
  intro x hx
  -- every branch of `reportAt` is `[]`, `[qu]`, one location a step below `qu.1`, or `filterAll … qu.1 qu.2`
  unfold reportAt at hx
  split at hx
  · split at hx
    · simp only [List.mem_singleton] at hx; subst hx; exact List.prefix_refl _
    · simp at hx
  · split at hx
    · simp only [List.mem_singleton] at hx; subst hx; exact List.prefix_refl _
    · split at hx
      · simp only [List.mem_singleton] at hx; subst hx; exact List.prefix_refl _
      · split at hx
        · split at hx
          · simp at hx
          · simp only [List.mem_singleton] at hx; subst hx; exact List.prefix_append _ _
        · exact filterAll_prefix _ _ _ x hx

theorem specAt_prefix (targets : List Target) (doc : JV) (qu : NPath × JV) :
    ∀ x ∈ specAt targets doc qu, qu.1 <+: x.1 := by
  intro x hx
  obtain ⟨r, hr⟩ := locs_prefix qu.2 qu.1 x (List.mem_filter.mp hx).1
  rw [hr]; exact List.prefix_append _ _

/-- **The excluded class of filter targets as a predicate on (targets, document)**: for target sets
supported up to their first filters, the callbacks of the current matcher are the specification's IF AND
ONLY IF the handler's report equals the specification's piece at EVERY outermost location the
stripped targets select. As in `C17_filter_sets`, for a target with fragments behind its filter this is
a statement about the model only. -/
theorem C17_filter_iff (targets : List Target) (doc : JV) (hdoc : NoDupKeys doc = true)
    (hdev : ∀ t ∈ targets, deviates (stripFilter t) = false) :
    matchRun Dev.cur targets (events doc) = expected targets doc ↔
      ∀ qu ∈ expected (targets.map stripFilter) doc, agreesAt Dev.cur targets doc qu := by
  constructor
  · intro h a ha
    rw [C17_filter_sets targets doc hdoc hdev, expected_split targets doc] at h
    have hnd := expected_nodup (targets.map stripFilter) doc hdoc
    have hinc : ∀ c ∈ expected (targets.map stripFilter) doc, c.1 ≠ a.1 → ¬ (c.1 <+: a.1 ∨ a.1 <+: c.1) :=
      fun c hc hne => expected_incomparable _ doc hdoc a c ha hc hne
    have h1 := filter_pieces a (reportAt Dev.cur targets doc) _ hnd ha
      (fun c _ => reportAt_prefix Dev.cur targets doc c) hinc
    have h2 := filter_pieces a (specAt targets doc) _ hnd ha
      (fun c _ => specAt_prefix targets doc c) hinc
    unfold agreesAt
    rw [← h1, ← h2, h]
  · exact C17_filter_local targets doc hdoc hdev

/-- **Filter target sets under any chunking**: `C17_filter_sets` behind `oj.Tokenizer.Load` — for every
text the tokenizer accepts as one document `doc` without a repeated member name, every chunking and
every target set non-deviating up to its first filters (as in `C17_filter_sets`: about the model only
where fragments stand behind a filter), the callbacks
are the handler's reports at the outermost locations the stripped targets select on `doc`. -/
theorem C17_filter_sets_chunked (text : Bytes) (doc : JV)
    (hacc : Json.run Json.ojTables (tokCfg true) [text] = .ok [doc])
    (hnr : NoRepeatedNames (tokCfg true) [text]) (targets : List Target)
    (hdev : ∀ t ∈ targets, deviates (stripFilter t) = false)
    (chunks : List Bytes) (hch : chunks.flatten = text) :
    matchRun Dev.cur targets (tokEvents Json.ojTables (tokCfg true) chunks) =
      (expected (targets.map stripFilter) doc).flatMap (reportAt Dev.cur targets doc) := by
  obtain ⟨hev, hnd⟩ := tokEvents_of_text text doc hacc hnr chunks hch
  rw [hev]
  exact C17_filter_sets targets doc hnd hdev

/-- the filter accepts at most one element (member) of the container -/
def atMostOne (p : JV → Bool) (u : JV) : Bool := decide ((accepted p u).length ≤ 1)

/-- **One filter target `pre[?p]`, `pre` without a descent and without a deviating construct**:
the callbacks of the current matcher are the specification's IF AND ONLY IF the filter accepts at
most one element of every location `pre` selects. The complement — some selected container holds two
accepted elements — is exactly where known finding C17-filter-first-only shows for such a target. -/
theorem C17_filter_single (pre : Target) (p : JV → Bool) (doc : JV) (hdoc : NoDupKeys doc = true)
    (hn : noDescent pre = true) (hdev : deviates pre = false) :
    matchRun Dev.cur [pre ++ [.filter p]] (events doc) = expected [pre ++ [.filter p]] doc ↔
      ∀ qu ∈ expected [pre] doc, atMostOne p qu.2 = true := by
  have hnf : pre.any isFilterFrag = false := usesFilter_of_deviates hdev
  have hsplit := splitTarget_snoc_filter p pre hnf
  have hrest : (splitTarget (pre ++ [Frag.filter p])).rest = some p := by rw [hsplit]
  have hstrip : stripFilter (pre ++ [Frag.filter p]) = pre := by rw [stripFilter, hsplit]
  have hmap : [pre ++ [Frag.filter p]].map stripFilter = [pre] := by simp [hstrip]
  -- by `C17_filter_iff`, location by location: the specification's piece there is `filterAll` (`spec_single`), the
  -- report the last accepted path with the first accepted value (`firstOnly_eq_all_iff`)
  refine Iff.trans (C17_filter_iff [pre ++ [Frag.filter p]] doc hdoc (by
    intro t ht
    simp only [List.mem_singleton] at ht
    subst ht
    rw [hstrip]; exact hdev)) ?_
  rw [hmap]
  apply forall_congr'
  intro qu
  apply imp_congr_right
  intro hqu
  obtain ⟨q, u⟩ := qu
  have hmem := (mem_expected_iff [pre] doc hdoc q u).mp hqu
  have hsel : selects pre doc q = true := by simpa [selectedBy] using hmem.2.1
  have hu := nodup_nav q doc u hdoc hmem.1
  have hspec : specAt [pre ++ [Frag.filter p]] doc (q, u) = filterAll p q u :=
    (specAt_eq_outermost _ doc (q, u)).trans (spec_single p pre doc q u hn hsel hmem.1 hu)
  have hrep : reportAt Dev.cur [pre ++ [Frag.filter p]] doc (q, u) =
      if isLeafJV u then [] else
        match filterLocs p u with
        | [] => []
        | s :: _ => [(q ++ [s], (filterFirst p u).getD .null)] := by
    unfold reportAt
    have hplain : plainTargets [pre ++ [Frag.filter p]] = [] := by
      simp [plainTargets, hasRest, hrest]
    simp only [hplain, selectedBy, List.any_nil, Bool.false_eq_true, if_false, List.find?_cons, hstrip, hsel, hrest]
    rfl
  unfold agreesAt atMostOne
  rw [hspec, hrep, decide_eq_true_eq]
  cases hl : isLeafJV u
  · simp only [Bool.false_eq_true, if_false]
    exact firstOnly_eq_all_iff p q u
  · have : accepted p u = [] := by cases u <;> simp [isLeafJV] at hl <;> rfl
    simp [filterAll_eq, this]

/-- the two sides of `C17_filter_single` on concrete documents: `$[?(@ == 2)]` is right on `[1,2,3]`
(one accepted element) and wrong on `[2,1,2]` (two) -/
example : (∀ qu ∈ expected [[]] (.arr [.int 1, .int 2, .int 3]),
      atMostOne (fun v => match v with | .int 2 => true | _ => false) qu.2 = true) ∧
    ¬ (∀ qu ∈ expected [[]] (.arr [.int 2, .int 1, .int 2]),
      atMostOne (fun v => match v with | .int 2 => true | _ => false) qu.2 = true) := by
  constructor
  · intro qu hqu
    have : qu = ([], .arr [.int 1, .int 2, .int 3]) := by simpa [expected, locs, locsList, selectedBy, selects, properPrefixes] using hqu
    subst this; decide
  · intro h
    have := h ([], .arr [.int 2, .int 1, .int 2]) (by simp [expected, locs, locsList, selectedBy, selects, properPrefixes])
    revert this; decide

/-- non-vacuity: `$[?(@ == 2)]` and `$[0]`: supported up to the filter -/
example : ∀ t ∈ [[Frag.filter fun v => match v with | .int 2 => true | _ => false], [.index 0]],
    deviates (stripFilter t) = false := by decide

/-- `C17_filter_sets` at work on the witness of known finding C17-filter-first-only: one callback,
path of the last match with the value of the first -/
example : ((expected ([[Frag.filter xIs1]].map stripFilter)
      (.arr [.obj [([120], .int 1), ([121], .int 1)], .obj [([120], .int 1), ([121], .int 2)]])).flatMap
      (reportAt Dev.cur [[Frag.filter xIs1]]
        (.arr [.obj [([120], .int 1), ([121], .int 1)], .obj [([120], .int 1), ([121], .int 2)]]))).map
      (fun c => (c.1, c.2.render)) = [([.idx 1], "{K(78)I(1),K(79)I(1)}")] := by
  rfl

end OjgVerif.C17
