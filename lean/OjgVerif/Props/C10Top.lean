import OjgVerif.Props.C10Layout
/-! # C10 — a scalar as the whole document (the end-of-input path of `sen.Parser.Parse`)

`C10_tree_partial` / `C10_indent_partial` are about arrays and objects: there the closing bracket completes the
last value. A scalar as the whole document ends with the input: `null`, `true`, `false`, a bare string and a number
are still PENDING when `parseBuffer` returns, and `Parse` completes them from the end marker of the mode table
(`finish`: `mode[256]` is `t` for a token, `n` for a number); a quoted string is delivered by its closing quote.
The top of an empty parser is a value position like any other: after the scalar's text the value is done
(`scalar_done`, Props/C10TreeBase.lean), and the end of the input completes what is done there (`done_finish`). What
is left for this file is the byte order mark rule of the entry point.

`C10_top_partial`: for every scalar of the class `admVal` — `null`, booleans, all int64 and uint64 integers (`nvInt` from
the limit on), floats (`NumAdm`), strings that are not a reserved word and are not written bare with a leading sign — under every writer
option, `sen.Parser.Parse(sen.String(v))` is the one document `nvVal o v`, EXCLUDING exactly known finding
C10-top-level-ef by the predicate `topLevelEF`: a string written bare whose first byte is 0xEF and that is at
least four bytes long (the `[]byte` entry point takes 0xEF as the start of a byte order mark: `Json.bomRule`).
`C10_top_full_false`: without the exclusion the statement is false on this tree (witness `"ﬁle"`, evaluated
by the kernel over the regenerated tables). -/
namespace OjgVerif.Sen
open OjgVerif.Writer (sanitize)

/-- known finding C10-top-level-ef as a predicate on the string: written bare, first byte 0xEF, four bytes or more -/
def topLevelEF (s : Bytes) (html : Bool) : Prop :=
  senQuoted s html = false ∧ s.head? = some 0xEF ∧ 4 ≤ s.length

theorem bomRule_keep_short (doc : Bytes) (h : doc.length < 4) : Json.bomRule doc = .keep := by
  unfold Json.bomRule
  split
  · rename_i b1 b2 r
    cases r with
    | nil => rfl
    | cons x y => simp at h; omega
  · rfl

theorem NumHead.noBom {t : Bytes} (h : NumHead t) : Json.bomRule t = .keep := by
  obtain ⟨b, r, rfl, hb⟩ := h
  exact C10.bomRule_keep_head b r (by rintro rfl; revert hb; decide)

theorem senString_noBom (s : Bytes) (html : Bool) (h3 : ¬ topLevelEF s html) : Json.bomRule (senString s html) = .keep := by
  rcases C10.quoted_or_bare s html with hq | ⟨hne, hqf⟩
  · exact hq ▸ C10.bomRule_keep_head 34 _ (by decide)
  · obtain ⟨hss, _, _, b, t, hbt, _⟩ := C10.bare_facts s html hne hqf
    rw [hss]
    by_cases hef : b = 0xEF
    · apply bomRule_keep_short
      have : ¬ 4 ≤ s.length := fun h4 => h3 ⟨hqf, by rw [hbt, hef]; rfl, h4⟩
      omega
    · exact hbt ▸ C10.bomRule_keep_head b t hef

theorem scalar_noBom (o : WOpts) (v : JV) (hs : needSep v = true) (hadm : admVal o v)
    (hef : ∀ s, v = .str s → ¬ topLevelEF s o.html) : Json.bomRule (tightVal o v) = .keep := by
  cases v with
  | arr xs => cases hs
  | obj kvs => cases hs
  | null => exact C10.bomRule_keep_head 110 _ (by decide)
  | bool b => cases b <;> exact C10.bomRule_keep_head _ _ (by decide)
  | str s => exact senString_noBom s o.html (hef s rfl)
  | int i => exact (fmtInt_numHead i).noBom
  | flt t => exact (numAdm_numHead t hadm).noBom
  | big t => exact False.elim hadm
  | num t => exact False.elim hadm

/-- **C10, a scalar as the whole document**: every scalar of the class `admVal`, every writer option, excluding
exactly known finding C10-top-level-ef (`topLevelEF`) -/
theorem C10_top_partial (o : WOpts) (io : IOpts) (v : JV) (hs : needSep v = true) (hadm : admVal o v)
    (hef : ∀ s, v = .str s → ¬ topLevelEF s o.html) : C10.parsesTo (senWrite o io v) (nvVal o v) := by
  rw [senWrite_scalar o io v hs]
  obtain ⟨st', f', p', hrun, hd⟩ := scalar_done o v hadm hs {} {} {} [] rfl rfl (.inl ⟨rfl, rfl⟩) ⟨rfl, rfl⟩
  rw [List.append_nil] at hrun
  exact parsesTo_of_done _ _ (scalar_noBom o v hs hadm hef) st' f' p' hrun hd

/-- every int64 and uint64 as the whole document: `nvInt` (at the limit a `json.Number` with the same digits) -/
theorem top_int_all (i : Int) (hi : -9223372036854775808 ≤ i ∧ i ≤ 18446744073709551615) :
    C10.parsesTo (fmtInt i) (nvInt i) :=
  C10_top_partial {} {} (.int i) rfl hi nofun

/-- and for plain scalars (valid UTF-8 strings, floats whose text is canonical) the document is the scalar itself -/
theorem C10_top_valid (o : WOpts) (io : IOpts) (v : JV) (hs : needSep v = true) (hadm : admVal o v)
    (hef : ∀ s, v = .str s → ¬ topLevelEF s o.html) (hplain : plainVal o v) : C10.parsesTo (senWrite o io v) v := by
  have h := C10_top_partial o io v hs hadm hef
  rwa [nvVal_plain o v hplain] at h

/-- non-vacuity: `-17`, and a bare three byte string that begins with 0xEF (U+FB01): too short for the exclusion -/
example : C10.parsesTo (senWrite {} {} (.int (-17))) (nvVal {} (.int (-17))) :=
  C10_top_partial {} {} _ rfl (by simp only [admVal]; decide) (fun s h => by cases h)
example : C10.parsesTo (senWrite {} { indent := 2 } (.str [0xEF, 0xAC, 0x81])) (.str (sanitize [0xEF, 0xAC, 0x81])) :=
  C10_top_partial {} _ _ rfl
    (by simp only [admVal, C10.reservedWord, C10.leadingSign]; decide +kernel)
    (fun s h => by cases h; intro h; exact absurd h.2.2 (by decide))

/-- the statement without the exclusion -/
def C10_top_full : Prop :=
  ∀ (o : WOpts) (io : IOpts) (v : JV), needSep v = true → admVal o v → C10.parsesTo (senWrite o io v) (nvVal o v)

/-- **it is false on this tree** (known finding C10-top-level-ef): `"ﬁle"` is written bare, and
`sen.Parser.Parse` answers `expected BOM` -/
theorem C10_top_full_false : ¬ C10_top_full := by
  intro h
  have hadm : admVal {} (.str [0xEF, 0xAC, 0x81, 108, 101]) := by
    simp only [admVal, C10.reservedWord, C10.leadingSign]; decide +kernel
  obtain ⟨out, ho, _⟩ := h {} {} (.str [0xEF, 0xAC, 0x81, 108, 101]) rfl hadm
  have hc : C10.checkDocs (run senTables {} [senWrite {} {} (.str [0xEF, 0xAC, 0x81, 108, 101])]) (fun _ => true) = false := by
    decide +kernel
  rw [ho] at hc
  cases hc

/-- a layout of a scalar is the scalar's text itself: with `C10_top_partial` the any-layout theorem also covers a scalar
as the whole document (pretty.SEN of a scalar) -/
theorem C10_anylayout_top (o : WOpts) (v : JV) (t : Bytes) (hs : needSep v = true) (hadm : admVal o v)
    (hef : ∀ s, v = .str s → ¬ topLevelEF s o.html) (hl : isLayout o v t = true) : C10.parsesTo t (nvVal o v) := by
  have hlv := (isLayout_iff o v t).1 hl
  rw [layVal_scalar o v hs] at hlv
  rw [stripPrefix_some _ _ _ hlv, List.append_nil, ← senWrite_scalar o {} v hs]
  exact C10_top_partial o {} v hs hadm hef

end OjgVerif.Sen
