import OjgVerif.Json.Wf
import OjgVerif.Props.C01
/-! # C06 — no input makes a parser panic or fail to terminate (strict-JSON machines)

Every Go operation of `parseBuffer` / `validateBuffer` / `tokenizeBuffer` that can fault at run time
is an explicit `fault` outcome of the model (`Json/Machine.lean`: nil-map write in `add`, empty-stack
index in close-object, slice bounds in close-array; `"true"[ri]` and `p.stack[0]` at delivery are read
with a default by the model and shown to be in range in `Json/Totalised.lean`). Termination is by
construction: `run` is a structurally recursive total function that consumes one byte per step. The SEN
machine, the JSONPath/script parser and the recover-wrapped entry points are separate checks (C06sen, …). -/
namespace OjgVerif.C06
open OjgVerif.Json

theorem no_fault_of_tablesOK {T : Tables} (hT : TablesOK T) (cfg : Cfg) (chunks : List Bytes) (e : Err)
    (h : run T cfg chunks = .error e) : e.kind.isFault = false := by
  rw [run_eq_ref hT] at h
  exact run_no_fault cfg chunks e h

/-- oj.Parser / oj.Tokenizer / oj.Validator model: for every configuration, input and chunking an
error outcome is an ordinary parse error, never a runtime fault -/
theorem oj_no_fault (cfg : Cfg) (chunks : List Bytes) (e : Err)
    (h : run ojTables cfg chunks = .error e) : e.kind.isFault = false :=
  no_fault_of_tablesOK C01.ojTables_ok cfg chunks e h

/-- gen.Parser model: the same statement over the regenerated `gen` tables -/
theorem gen_no_fault (cfg : Cfg) (chunks : List Bytes) (e : Err)
    (h : run genTables cfg chunks = .error e) : e.kind.isFault = false :=
  no_fault_of_tablesOK C01.genTables_ok cfg chunks e h

/-- non-vacuity: an input on which the machine does return an error (`[}` at 1:2) -/
example : ∃ e, run refTables {} [[91, 125]] = .error e ∧ e.kind.isFault = false :=
  ⟨{ line := 1, col := 2, kind := .objClose }, by rfl, rfl⟩

end OjgVerif.C06
