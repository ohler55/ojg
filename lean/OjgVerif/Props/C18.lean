import OjgVerif.Props.C18Omit
/-! Property C18 — generic and simple forms convert losslessly and copy deeply.

All statements are about the heap model `Conv.conv` (Conv/Model.lean), which is tied to the Go code
by the correspondence run of `harness/cmd/conv`. `denote n H r = some t` is the explicit
finite-depth/acyclicity hypothesis: the root `r` of heap `H` unfolds, within `n` levels, to the value
tree `t` (sharing allowed). `owns n H r = some S ∧ S.Nodup` says in addition that no cell below `r` is
shared (needed for the in-place variants only: on shared cells the Go casts reinterpret memory that
was already rewritten). `generify_simplify`, `generify_nodeAlter`, `decompose_value`, `generify_value`,
`altAlter_value` and the `GenAlter` round trips are read off the theorems for every option setting of
Props/C18Omit.lean, where `T.prune` is `T.toForm`: under an invariant of the options (`prune_of_keepInv`, with
`prune_generify_keepsNil` and `prune_decompose_keepsNulls` its instances) or, for the `GenAlter` round trips, on a tree
that `T.keeps` (`prune_of_keeps`). `genDup_value`, `simplify_value` and `genAlter_same_cell` go through the statements
for options that leave nothing out (`copy_spec`, `alter_spec`), whence `omitEmpty = false` among their hypotheses; the
first two also hold without it (`genDup_value_anyOpt`, `simplify_value_anyOpt`), the third is part of
`genAlter_value_omit`. -/
namespace OjgVerif.C18
open OjgVerif.Conv OjgVerif.Gen.Conv

/-- For every conversion and both of its container arms, the syntactic classification extracted
from the Go source (does the arm call `make` / use a composite literal, does it cast through
unsafe.Pointer or assign `v[i] = …` into its argument) equals the model's `Kind.inPlace`. A tripwire,
not a semantics: an arm that builds a container and still leaks its argument is for the
mutate-after-copy experiments and the aliasing correspondence of the run to find. -/
theorem inPlace_matches_source : ∀ k : Kind, k.sourceArms.all k.armAgrees = true := by
  intro k; cases k <;> decide +kernel

/-- For the four copying methods of gen.Array / gen.Object (`Simplify`, `Dup`) the member loop of the
source stores, for EVERY member kind alike, the result of the dynamically dispatched recursive call
(`m.Dup()`, `m.Simplify()`; nil for nil) — the model's discipline `forEach (conv k n _)`, under which
`fresh_spec` gives every container of the result a cell of its own. A loop that duplicates some
member kinds and stores the others as they are (e.g. `case Object: a[i] = tm.Dup(); default: a[i] = m`,
which shares an Array that is a member of an Array) makes this stop checking. A tripwire over the
shape of the loop, not a semantics of `m.Dup()`: that the dispatch lands in the modelled methods is
for the aliasing correspondence of the run to show. -/
theorem copy_elements_match_source : ∀ k : Kind, k.elemFns.all elemDisciplineAgrees = true := by
  intro k; cases k <;> decide +kernel

/-- `Simplify(Generify(v)) = v` -/
theorem generify_simplify (n : Nat) (opt : Opt) (H : Heap) (r : Ref) (t : T) (ho : KeepsNulls opt)
    (hd : denote n H r = some t) (hs : t.JsonLike) :
    roundTrip .generify .simplify n opt H r = some t :=
  generify_simplify_omitEmpty n opt H r t ho.1 hd hs

/-- `Generify(v).Alter() = v` (the fresh generic tree is converted back in place) -/
theorem generify_nodeAlter (n : Nat) (opt : Opt) (H : Heap) (r : Ref) (t : T) (ho : KeepsNulls opt)
    (hd : denote n H r = some t) (hs : t.JsonLike) :
    roundTrip .generify .nodeAlter n opt H r = some t := by
  rw [generify_nodeAlter_omit n opt H r t hd hs.1, prune_generify_keepsNil t opt ho.1,
    toForm_back .gen hs.1 (Or.inr hs.2)]

/-- `alt.Dup(v) = alt.Decompose(v) = v` -/
theorem decompose_value (n : Nat) (opt : Opt) (H : Heap) (r : Ref) (t : T) (ho : KeepsNulls opt)
    (hd : denote n H r = some t) (hs : t.JsonLike) :
    ∃ H' r', conv .decompose n opt H r = some (H', r') ∧ denote n H' r' = some t := by
  obtain ⟨H1, r1, hc1, hd1⟩ := decompose_value_omit n opt H r t hd hs.1
  exact ⟨H1, r1, hc1, by rw [hd1, prune_decompose_keepsNulls t opt ho, toForm_of_pure .simple _ t hs.1 (Or.inr hs.2)]⟩

/-- `Node.Dup` on a generic tree -/
theorem genDup_value (n : Nat) (opt : Opt) (H : Heap) (r : Ref) (t : T) (hoe : opt.omitEmpty = false)
    (hd : denote n H r = some t) (hs : t.pure .gen = true) :
    ∃ H' r', conv .genDup n opt H r = some (H', r') ∧ denote n H' r' = some t := by
  obtain ⟨H1, r1, hc1, _, hd1, _⟩ := copy_spec .genDup rfl n opt H r t hoe hd hs
    (keeps_of_inv keepInv_genDup t opt trivial)
  exact ⟨H1, r1, hc1, hd1.trans (congrArg some (toForm_of_pure .gen _ t hs (Or.inl rfl)))⟩

/-- `alt.Alter(v) = v` on simple data, in place: same cells, same value -/
theorem altAlter_value (n : Nat) (opt : Opt) (H : Heap) (r : Ref) (t : T) (S : List Addr)
    (ho : KeepsNulls opt) (hd : denote n H r = some t) (hS : owns n H r = some S) (hnd : S.Nodup)
    (hs : t.Simple) :
    ∃ H' r', conv .altAlter n opt H r = some (H', r') ∧ denote n H' r' = some t ∧ r'.addr? = r.addr? := by
  obtain ⟨H1, r1, hc1, hd1, had, _⟩ := altAlter_value_omit n opt H r t S hd hS hnd hs
  exact ⟨H1, r1, hc1, hd1.trans (congrArg some ((prune_of_keepInv keepInv_altAlter t opt ho).trans
    (toForm_of_pure .simple _ t hs (Or.inl rfl)))), had⟩

/-! `GenAlter` hands its options to the recursive calls as the source says (`Kind.arrOpt`,
`Kind.mapOpt`); `T.keeps .genAlter opt t` follows that flow and says that no member of `t` is left
out. The partial theorems hold for whatever the flow is; the full ones (`genAlter_full`,
`genAlter_simplify`) rest on `keepInv_genAlter`. -/

/-- a member of `t` is lost by `GenAlter` under `opt`. Where the slice clause calls `GenAlter(m)` without
its options (`genAlterArrPassesOpt = false`: below a slice the package default applies, which omits nulls)
that is a null member of an object below a slice. With `GenAlter(m, opt)` (`genAlterArrPassesOpt = true`,
what `Gen/Conv.lean` reads from the source) it never holds for null-keeping options: `not_genAlterLoses`. -/
def GenAlterLoses (opt : Opt) (t : T) : Prop := t.keeps .genAlter opt = false

/-- `GenAlter(v).Alter() = v` unless `GenAlterLoses` -/
theorem genAlter_nodeAlter_partial (n : Nat) (opt : Opt) (H : Heap) (r : Ref) (t : T) (S : List Addr)
    (ho : KeepsNulls opt) (hd : denote n H r = some t) (hS : owns n H r = some S) (hnd : S.Nodup)
    (hs : t.Simple) (hl : ¬ GenAlterLoses opt t) :
    roundTrip .genAlter .nodeAlter n opt H r = some t := by
  rw [genAlter_nodeAlter_omit n opt H r t S hd hS hnd hs, prune_of_keeps t opt ho.2 ((Bool.not_eq_false _).mp hl)]
  exact congrArg some (toForm_back .gen hs (Or.inl rfl))

/-- `Simplify(GenAlter(v)) = v` unless `GenAlterLoses` -/
theorem genAlter_simplify_partial (n : Nat) (opt : Opt) (H : Heap) (r : Ref) (t : T) (S : List Addr)
    (ho : KeepsNulls opt) (hd : denote n H r = some t) (hS : owns n H r = some S) (hnd : S.Nodup)
    (hs : t.Simple) (hl : ¬ GenAlterLoses opt t) :
    roundTrip .genAlter .simplify n opt H r = some t := by
  rw [genAlter_simplify_omit n opt H r t S hd hS hnd hs, prune_of_keeps t opt ho.2 ((Bool.not_eq_false _).mp hl)]
  exact congrArg some (toForm_back .gen hs (Or.inl rfl))

/-- the full statement for `GenAlter` -/
def C18_genAlter_full : Prop :=
  ∀ (n : Nat) (opt : Opt) (H : Heap) (r : Ref) (t : T) (S : List Addr), KeepsNulls opt →
    denote n H r = some t → owns n H r = some S → S.Nodup → t.Simple →
    roundTrip .genAlter .nodeAlter n opt H r = some t

/-- `[{"b":null},{}]` in unshared cells: the input on which `C18_genAlter_full` fails if the slice clause calls
`GenAlter(m)` without its options (it comes back as `[{},{}]`); it stands in the first disjunct of
`genAlter_full_status`. With `GenAlter(m, opt)`, what `Gen/Conv.lean` reads from the source, `not_genAlterLoses`
holds of it as of every tree. -/
def witnessHeap : Heap := [.obj [("62", .null)], .obj [], .arr [.obj .simple 0, .obj .simple 1]]
def witnessRoot : Ref := .arr .simple 2
def witnessTree : T := .arr .simple [.obj .simple [("62", .null)], .obj .simple []]

example : denote 3 witnessHeap witnessRoot = some witnessTree := rfl
example : owns 3 witnessHeap witnessRoot = some [2, 0, 1] := rfl

theorem not_genAlterLoses {opt : Opt} (ho : KeepsNulls opt) (t : T) : ¬ GenAlterLoses opt t :=
  (Bool.not_eq_false _).mpr (keeps_of_inv keepInv_genAlter t opt ho.1)

/-- `GenAlter(v).Alter() = v`: the full statement; rests on `keepInv_genAlter` -/
theorem genAlter_full : C18_genAlter_full := fun n opt H r t S ho hd hS hnd hs =>
  genAlter_nodeAlter_partial n opt H r t S ho hd hS hnd hs
    (not_genAlterLoses ho t)

/-- The full statement holds iff nulls survive the option flow of the slice clause: with `GenAlter(m)` there
the first disjunct would hold (`witnessTree` comes back as `[{},{}]`), with `GenAlter(m, opt)`
(`genAlterArrPassesOpt = true`) the second does. Only the second is proved: on a source with `GenAlter(m)`,
`keepInv_genAlter` stops checking and with it this file; nothing switches to the first. -/
theorem genAlter_full_status :
    (GenAlterLoses ⟨false, false⟩ witnessTree ∧ ¬ C18_genAlter_full) ∨
    (KeepInv .genAlter (fun o => o.omitNil = false) ∧ C18_genAlter_full) :=
  Or.inr ⟨keepInv_genAlter, genAlter_full⟩

/-- `Simplify(GenAlter(v)) = v`: the full statement; rests on `keepInv_genAlter` -/
theorem genAlter_simplify (n : Nat) (opt : Opt) (H : Heap) (r : Ref) (t : T) (S : List Addr)
    (ho : KeepsNulls opt) (hd : denote n H r = some t) (hS : owns n H r = some S) (hnd : S.Nodup)
    (hs : t.Simple) : roundTrip .genAlter .simplify n opt H r = some t :=
  genAlter_simplify_partial n opt H r t S ho hd hS hnd hs
    (not_genAlterLoses ho t)

/-- `GenAlter`, where it leaves no member out, returns the cell it was given and allocates nothing (it aliases
by design). The same for every in-place kind under every option setting is part of `alterPrune_spec`; for
`GenAlter` without the two hypotheses on the options, `genAlter_value_omit` -/
theorem genAlter_same_cell (n : Nat) (opt : Opt) (H : Heap) (r : Ref) (t : T) (S : List Addr)
    (hoe : opt.omitEmpty = false) (hd : denote n H r = some t) (hS : owns n H r = some S) (hnd : S.Nodup)
    (hs : t.Simple) (hk : t.keeps .genAlter opt = true) :
    ∃ H' r', conv .genAlter n opt H r = some (H', r') ∧ r'.addr? = r.addr? ∧ H'.length = H.length := by
  obtain ⟨H1, r1, hc1, hl, _, _, _, had⟩ := alter_spec .genAlter rfl n opt H r t S hoe hd hS hnd hs hk
  exact ⟨H1, r1, hc1, had, hl⟩

/-- `Generify(v)` is `v` written in the generic form -/
theorem generify_value (n : Nat) (opt : Opt) (H : Heap) (r : Ref) (t : T) (ho : KeepsNulls opt)
    (hd : denote n H r = some t) (hs : t.Simple) :
    ∃ H' r', conv .generify n opt H r = some (H', r') ∧ denote n H' r' = some (t.toForm .gen true) :=
  generify_value_omitEmpty n opt H r t ho.1 hd hs

/-- `n.Simplify()` is `n` written in the simple form -/
theorem simplify_value (n : Nat) (opt : Opt) (H : Heap) (r : Ref) (t : T) (hoe : opt.omitEmpty = false)
    (hd : denote n H r = some t) (hs : t.pure .gen = true) :
    ∃ H' r', conv .simplify n opt H r = some (H', r') ∧ denote n H' r' = some (t.toForm .simple false) := by
  obtain ⟨H1, r1, hc1, _, hd1, _⟩ := copy_spec .simplify rfl n opt H r t hoe hd hs
    (keeps_of_inv keepInv_simplify t opt trivial)
  exact ⟨H1, r1, hc1, hd1⟩

/-- Writers clause for `oj` and `sen`: whatever the writer does with simple data (`w`), a generic tree
and its simple equivalent are written identically — because the writers' only clause that matches a
generic node writes its `Simplify()` result (`WriterPkg.viaSimplify`, read from the source). -/
theorem writers_clause {α : Type} (p : WriterPkg) (w : T → α) (n : Nat) (Hg : Heap) (rg : Ref)
    (Hs : Heap) (rs : Ref) (t : T) (hg : denote n Hg rg = some t) (hp : t.pure .gen = true)
    (hs : denote n Hs rs = some (t.toForm .simple false)) :
    writeRoot p w n Hg rg = writeRoot p w n Hs rs ∧ writeRoot p w n Hs rs = some (w (t.toForm .simple false)) := by
  have hps : (t.toForm .simple false).pure .simple = true := pure_toForm .simple .gen false t hp
  have hR : writeRoot p w n Hs rs = some (w (t.toForm .simple false)) := by simp [writeRoot, hs, hps]
  refine ⟨?_, hR⟩
  rw [hR]
  by_cases hsimp : t.pure .simple = true
  · simp [writeRoot, hg, hsimp, toForm_of_pure .simple false t hsimp (Or.inl rfl)]
  · obtain ⟨H', r', hc, hd'⟩ := simplify_value n ⟨false, false⟩ Hg rg t rfl hg hp
    have hv : p.viaSimplify = true := by cases p <;> rfl
    simp [writeRoot, hg, hsimp, hv, hc, hd']

/-! The clause "no shared mutable state", for the copying variants. These hold for EVERY option setting (whatever is
left out of the copy): the hypotheses are only that the input has finite depth and is written in the form the
conversion is for. -/

theorem old_not_fresh {H : Heap} {n : Nat} {r : Ref} {S0 S' : List Addr} (h0 : owns n H r = some S0)
    (hge : ∀ a, a ∈ S' → H.length ≤ a) {a : Addr} (ha : a ∈ S0) : a ∉ S' :=
  fun h => Nat.lt_irrefl _ (Nat.lt_of_lt_of_le (owns_lt n H r S0 h0 a ha) (hge a h))

/-- For a copying conversion `k` applied to root `r` of heap `H`: the result heap
`H'` agrees with `H` on every old cell, no cell is reachable both from the result and from the input
(in `H` or in `H'`), and the result is a tree (no cell of it is shared) even if the input was not. -/
theorem copy_noalias (k : Kind) (hk : k.inPlace = false) (n : Nat) (opt : Opt) (H : Heap) (r : Ref) (t : T)
    (hd : denote n H r = some t) (hp : t.pure k.src = true) :
    ∃ H' r', conv k n opt H r = some (H', r') ∧
      (∀ a, Reach H' r' a → ¬ Reach H r a ∧ ¬ Reach H' r a) ∧
      (∀ a, Reach H r a → H'[a]? = H[a]?) ∧
      (∀ a, a < H.length → H'[a]? = H[a]?) ∧
      ∃ S', owns n H' r' = some S' ∧ S'.Nodup := by
  obtain ⟨H', r', hc, e, S', hS', hnd, hge⟩ := fresh_spec k hk n opt H r t hd hp
  obtain ⟨S0, hS0⟩ := denote_owns n H r t hd
  refine ⟨H', r', hc, fun a ha => ?_, fun a ha => e.old (owns_lt n H r S0 hS0 a (reach_mem_owns ha n S0 hS0)),
    fun a ha => e.old ha, S', hS', hnd⟩
  have h' := reach_mem_owns ha n S' hS'
  exact ⟨fun hr => old_not_fresh hS0 hge (reach_mem_owns hr n S0 hS0) h',
    fun hr => old_not_fresh hS0 hge (reach_mem_owns hr n S0 (owns_ext e n r S0 hS0)) h'⟩

/-- mutating any cell of the copy (any new content) never changes the value of the original -/
theorem mutate_copy_keeps_original (k : Kind) (hk : k.inPlace = false) (n : Nat) (opt : Opt) (H : Heap)
    (r : Ref) (t : T) (hd : denote n H r = some t) (hp : t.pure k.src = true) :
    ∃ H' r', conv k n opt H r = some (H', r') ∧
      ∀ (a : Addr) (c : Cell), Reach H' r' a → denote n (H'.set a c) r = some t := by
  obtain ⟨H', r', hc, e, S', hS', _, hge⟩ := fresh_spec k hk n opt H r t hd hp
  obtain ⟨S0, hS0⟩ := denote_owns n H r t hd
  refine ⟨H', r', hc, fun a c ha => ?_⟩
  rw [frame_set (owns_ext e n r S0 hS0) (fun h => old_not_fresh hS0 hge h (reach_mem_owns ha n S' hS')) c]
  exact denote_ext e n r t hd

/-- mutating any cell of the original (any new content) never changes the value of the copy -/
theorem mutate_original_keeps_copy (k : Kind) (hk : k.inPlace = false) (n : Nat) (opt : Opt) (H : Heap)
    (r : Ref) (t : T) (hd : denote n H r = some t) (hp : t.pure k.src = true) :
    ∃ H' r', conv k n opt H r = some (H', r') ∧
      ∀ (a : Addr) (c : Cell), Reach H r a → denote n (H'.set a c) r' = denote n H' r' := by
  obtain ⟨H', r', hc, _, S', hS', _, hge⟩ := fresh_spec k hk n opt H r t hd hp
  obtain ⟨S0, hS0⟩ := denote_owns n H r t hd
  exact ⟨H', r', hc, fun a c ha => frame_set hS' (old_not_fresh hS0 hge (reach_mem_owns ha n S0 hS0)) c⟩

/-- `alt.Generify` on simple data -/
theorem generify_noalias (n : Nat) (opt : Opt) (H : Heap) (r : Ref) (t : T)
    (hd : denote n H r = some t) (hs : t.Simple) :
    ∃ H' r', conv .generify n opt H r = some (H', r') ∧
      (∀ a, Reach H' r' a → ¬ Reach H r a ∧ ¬ Reach H' r a) ∧ (∀ a, Reach H r a → H'[a]? = H[a]?) := by
  obtain ⟨H', r', hc, h1, h2, _⟩ := copy_noalias .generify rfl n opt H r t hd hs
  exact ⟨H', r', hc, h1, h2⟩

/-- `Node.Simplify` on generic data -/
theorem simplify_noalias (n : Nat) (opt : Opt) (H : Heap) (r : Ref) (t : T)
    (hd : denote n H r = some t) (hs : t.pure .gen = true) :
    ∃ H' r', conv .simplify n opt H r = some (H', r') ∧
      (∀ a, Reach H' r' a → ¬ Reach H r a ∧ ¬ Reach H' r a) ∧ (∀ a, Reach H r a → H'[a]? = H[a]?) := by
  obtain ⟨H', r', hc, h1, h2, _⟩ := copy_noalias .simplify rfl n opt H r t hd hs
  exact ⟨H', r', hc, h1, h2⟩

/-- `alt.Dup` = `alt.Decompose` on simple data -/
theorem decompose_noalias (n : Nat) (opt : Opt) (H : Heap) (r : Ref) (t : T)
    (hd : denote n H r = some t) (hs : t.Simple) :
    ∃ H' r', conv .decompose n opt H r = some (H', r') ∧
      (∀ a, Reach H' r' a → ¬ Reach H r a ∧ ¬ Reach H' r a) ∧ (∀ a, Reach H r a → H'[a]? = H[a]?) := by
  obtain ⟨H', r', hc, h1, h2, _⟩ := copy_noalias .decompose rfl n opt H r t hd hs
  exact ⟨H', r', hc, h1, h2⟩

/-- `Node.Dup` on generic data -/
theorem genDup_noalias (n : Nat) (opt : Opt) (H : Heap) (r : Ref) (t : T)
    (hd : denote n H r = some t) (hs : t.pure .gen = true) :
    ∃ H' r', conv .genDup n opt H r = some (H', r') ∧
      (∀ a, Reach H' r' a → ¬ Reach H r a ∧ ¬ Reach H' r a) ∧ (∀ a, Reach H r a → H'[a]? = H[a]?) := by
  obtain ⟨H', r', hc, h1, h2, _⟩ := copy_noalias .genDup rfl n opt H r t hd hs
  exact ⟨H', r', hc, h1, h2⟩

/-! The hypotheses are satisfiable by non-trivial data:
`{"a":[1,null,[]],"b":<the same slice again>,"c":{"d":"x","e":null}}` has nested containers, a null
member, an empty slice and a shared cell (the input of a copying conversion may be a DAG). -/

example : denote 3 exHeap exRoot = some exTree := rfl
example : exTree.Simple := rfl
example : exTree.JsonLike := ⟨rfl, rfl⟩
-- a nil slice and an empty slice are different values; the allocating conversions turn the first into
-- the second (so `JsonLike`, not `Simple`, is the hypothesis of their round trips), the others keep it
example : denote 1 [] (.nilArr .simple) = some (.nilArr .simple) := rfl
example : denote 1 [.arr []] (.arr .simple 0) = some (.arr .simple []) := rfl
example : conv .generify 1 ⟨false, false⟩ [] (.nilArr .simple) = some ([.arr []], .arr .gen 0) := rfl
example : conv .decompose 1 ⟨false, false⟩ [] (.nilArr .simple) = some ([.arr []], .arr .simple 0) := rfl
example : conv .simplify 1 ⟨false, false⟩ [] (.nilArr .gen) = some ([], .nilArr .simple) := rfl
example : conv .simplify 1 ⟨false, false⟩ [.arr []] (.arr .gen 0) = some ([.arr [], .arr []], .arr .simple 1) := rfl
example : owns 3 exHeap exRoot = some [3, 1, 0, 1, 0, 2] := rfl          -- shared: not a tree
example : roundTrip .generify .simplify 3 ⟨false, false⟩ exHeap exRoot = some exTree := rfl
example : ∃ S, owns 3 witnessHeap witnessRoot = some S ∧ S.Nodup := ⟨[2, 0, 1], rfl, by decide⟩
example : ¬ GenAlterLoses ⟨false, false⟩ exTree := by unfold GenAlterLoses; decide
example : Reach exHeap exRoot 0 :=
  .step (r := exRoot) (r' := .arr .simple 1) (a := 3) rfl rfl (by simp [Cell.refs])
    (.step (r := .arr .simple 1) (r' := .arr .simple 0) (a := 1) rfl rfl (by simp [Cell.refs]) (.here rfl))

end OjgVerif.C18
