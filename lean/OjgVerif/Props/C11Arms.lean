import OjgVerif.JPath.Arms
/-! # C05/C11 — the arms of the model are arms of the source (generated structural facts)

`Gen.JpathArms` (tools/extract/jpath_arms.go) lists every switch of the evaluators of jp/ with its arms in source
order; `JPath/Arms.lean` says which arm each (fragment kind × container kind) of the model needs. Like
`pinned_is_source` these are **tripwires on the shape of the source** (`decide` over the generated table), not
proofs about what the arms do: dropping a container type from a `prev`/`data` switch, a kind from the list of
kinds that are handed on to the next fragment, a reflect kind from a helper, or a fragment case breaks them. -/
namespace OjgVerif.C11
open OjgVerif.JPath OjgVerif.JPath.Arms

/-- every check of `JPath/Arms.lean`, over every array kind and every object kind, in one evaluation (evaluated
one by one, each statement below would go through the generated table again); the statements below are its parts -/
theorem arms_table :
    ((AK.all.all fun a => OKind.all.all fun o => machineArms a o && recursiveArms a o && reflectArms a o) &&
      (machines ++ genMachines).all fragCases && machines.all pushKinds && genMachines.all genArms &&
      locateContinueKinds) = true := by decide +kernel

theorem arms_pair (a : AK) (o : OKind) :
    machineArms a o = true ∧ recursiveArms a o = true ∧ reflectArms a o = true := by
  have h := arms_table
  simp only [Bool.and_eq_true, List.all_eq_true] at h
  have ha : a ∈ AK.all := by cases a <;> decide
  have ho : o ∈ OKind.all := by cases o <;> decide
  exact ⟨(h.1.1.1.1 a ha o ho).1.1, (h.1.1.1.1 a ha o ho).1.2, (h.1.1.1.1 a ha o ho).2⟩

/-- the fragment switch of each of the five stack machines has a case for every fragment kind of the model -/
theorem arms_fragment_cases :
    (machines ++ genMachines).all fragCases = true := by
  have h := arms_table
  simp only [Bool.and_eq_true] at h
  exact h.1.1.1.2

/-- **Get, FirstFound, Has: every (fragment kind × array kind × object kind) arm of the model is in the source**
(`[]any`, `gen.Array`, `Indexed`, `map[string]any`, `gen.Object`, `Keyed` by name, typed data by the `default:`
arm) -/
theorem arms_machines (a : AK) (o : OKind) : machineArms a o = true := (arms_pair a o).1

/-- Get, FirstFound, Has hand on every container kind: every `switch v.(type)` in a fragment case lists
`gen.Object, gen.Array`, those with a `default:` arm list `map[string]any, []any, gen.Object, gen.Array, Keyed,
Indexed`, and every reflect fallback lists `reflect.Ptr, reflect.Slice, reflect.Struct, reflect.Array,
reflect.Map` (a dropped kind — seeded C11-m3: no Child into a fixed-size array — breaks this) -/
theorem arms_push_kinds : machines.all pushKinds = true := by
  have h := arms_table
  simp only [Bool.and_eq_true] at h
  exact h.1.1.2

/-- GetNodes, FirstNode: every fragment case, `gen.Object`/`gen.Array` under wildcard and descent and in every
hand-on test -/
theorem arms_gen_machines : genMachines.all genArms = true := by
  have h := arms_table
  simp only [Bool.and_eq_true] at h
  exact h.1.2

/-- **the locate and Walk methods: every (fragment kind × container kind) arm of the model is in the source**,
and `locateNthChildHas`/`locateContinueFrag` continue into every container kind -/
theorem arms_recursive (a : AK) (o : OKind) : recursiveArms a o = true ∧ locateContinueKinds = true := by
  have h := arms_table
  simp only [Bool.and_eq_true] at h
  exact ⟨(arms_pair a o).2.1, h.2⟩

/-- **typed representations: the reflect kind is an arm of every helper it is reached through**
(reflectGetChild/Nth/Wild/WildOne/Slice, evalWithRoot, the reflect branches of the locate methods, wildWalk,
Filter.Walk) -/
theorem arms_reflect (a : AK) (o : OKind) : reflectArms a o = true := (arms_pair a o).2.2

end OjgVerif.C11
