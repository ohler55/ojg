import OjgVerif.Props.C13b
import OjgVerif.JPMut.LemmasDescentOneSet
import OjgVerif.JPMut.LemmasDescentRem
import OjgVerif.JPMut.LemmasDescentDel
/-! # C13, continued: the mutators through a recursive descent

The exactness theorems of Props/C13.lean / C13b.lean exclude every path with a descent. Here: paths with ONE
descent, `pre ++ [..] ++ rest`, `rest` non-empty and free of filters and further descents.

* `modify_descent` — Modify (all matches, simple data; any deviation set with `descentSiblings` off; any reading `σ` of slices
  the code agrees with; a modifier that returns well-formed values on well-formed values): the returned tree is
  `updAll m.eff (locsG σ x d) d` — the modifier applied at exactly the locations the path selects, where the selection is the
  shared denotation `JPath.eval` INCLUDING its descent clause (`desc`: every node, members first). The model's descent
  work-list (`descGo`: the rest of the path on the members' subtrees first, then on the node as it is after those edits) is
  thereby proved equal to the denotation's simultaneous, inner-first edit. `modify_descent_frame`: the frame;
  `modify_descent_hit`: the hit at the outermost selected locations.
* `modify_descent_current` — the instance for the code as it is (inclusive slices) for a path without unions: no hypothesis
  on the data beyond `WF` (`goodPre_noUnion`: `GoodPre inclIdx Dev.current` holds for EVERY data tree when the path has no union).
* `remove_descent`, `remove_descent_spec` — Remove (all matches): the last fragment's remover at the parents the path without it
  selects, and that tree is `removeSpecG`. (`Remove $..a` is refused: "last fragment is a Descent" after the last fragment is
  split off.) `del_descent` — Del with the descent at the head of the path, `$..rest`.
* `one_modify_descent`, `one_remove_descent`, `one_set_descent` — the One forms; a filter after the descent is allowed there.
* What is excluded, exactly, and why: a FILTER after the descent in the all-matches forms — `witness_descent_filter`: the
  bottom-up traversal re-evaluates the filter on the edited node (known finding C13-descent-filter-reevaluated); a second
  descent or a repeated union member (C13-repeated-location). Not covered: Set (all matches) through a descent (creation below
  a descent adds members in traversal order: equal to the specification only up to member order), Del with fragments before
  the descent.
-/
namespace OjgVerif.C13
open OjgVerif.JPath OjgVerif.JPMut

variable {σ : SliceFn} [NodupSlice σ]

/-- Modify through one descent is the specification (`JPMut.modifyM_descent_eq` with `modifySpecG` for the edited tree) -/
theorem modify_descent (dev : Dev) (hsib : dev.descentSiblings = false) (m : Modifier) (hm : ∀ c, WF c → WF (m.eff c))
    (pre rest : List Frag) (hp : NoDescent pre) (hne : rest ≠ []) (hnd : NoDescent rest) (hnf : NoFilter rest) (d : JV) (hw : WF d)
    (hg : GoodPre σ dev rest pre d) :
    modifyM false dev false m (pre ++ .descent :: rest) d = .ok (modifySpecG σ (pre ++ .descent :: rest) m d) :=
  modifyM_descent_eq dev hsib m hm pre rest hp hne hnd hnf d hw hg

/-- frame: every location that is not at, above or below a selected location holds what it held -/
theorem modify_descent_frame (m : Modifier) (x : List Frag) (d : JV) : Frame (locsG σ x d) d (modifySpecG σ x m d) :=
  fun q hq => updAll_frame m.eff q (locsG σ x d) d hq

/-- hit, for the nested selections a descent produces: every OUTERMOST selected location (no selected location above it) that exists
holds the modifier's result on its subtree as edited inside; for a modifier that returns a constant `v`: it holds `v`
("Get at each selected location returns the new value" is demanded of the outermost ones, Spec.lean) -/
theorem modify_descent_hit (m : Modifier) (x : List Frag) (d c : JV) (p : Path) (hp : p ∈ locsG σ x d)
    (hout : ∀ p' ∈ locsG σ x d, p'.isPrefixOf p = true → p' = p) (hv : valAt p d = some c) :
    ∃ c', valAt p (modifySpecG σ x m d) = some (m.eff c') :=
  updAll_hit_outer m.eff p (locsG σ x d) d c hp hout hv

theorem modify_descent_hit_const (m : Modifier) (v : JV) (hm : ∀ c, m c = (v, true)) (x : List Frag) (d c : JV) (p : Path)
    (hp : p ∈ locsG σ x d) (hout : ∀ p' ∈ locsG σ x d, p'.isPrefixOf p = true → p' = p) (hv : valAt p d = some c) :
    valAt p (modifySpecG σ x m d) = some v := by
  obtain ⟨c', h⟩ := modify_descent_hit (σ := σ) m x d c p hp hout hv
  rw [h]
  simp [Modifier.eff, hm]

/-- `Modify $..a` with the constant 0 on `{"a":{"a":1}}`: both `$.a.a` and `$.a` are selected; the outermost one holds 0 -/
example : modifyM false Dev.current false (fun _ => (.int 0, true)) [.descent, .child kA] (.obj [(kA, .obj [(kA, .int 1)])]) =
    .ok (.obj [(kA, .int 0)]) := by rfl

/-- the descent work-list alone: `descGo` with the rest of the path = the simultaneous edit at everything `..rest` selects -/
theorem descent_worklist (dev : Dev) (m : Modifier) (hm : ∀ c, WF c → WF (m.eff c)) (rest : List Frag) (hne : rest ≠ [])
    (hnd : NoDescent rest) (hnf : NoFilter rest) (d : JV) (hw : WF d) (hg : GoodD σ dev rest d) :
    descGo (modF false dev false m rest false) d = ⟨updAll m.eff (locsG σ (.descent :: rest) d) d, .go⟩ :=
  descGo_upd dev m hm rest hne hnd hnf d hw hg

def NoUnion (x : List Frag) : Prop := ∀ f ∈ x, ∀ ms, f ≠ .union ms

theorem goodPath_noUnion : ∀ (x : List Frag), NoDescent x → NoUnion x → ∀ (d : JV), GoodPath inclIdx Dev.current x d
  | [], _, _, _ => trivial
  | f :: r, hnd, hnu, d =>
    ⟨goodAt_incl f d (hnd f (by simp)) (fun ms h => absurd h (hnu f (by simp) ms)),
     fun m _ => goodPath_noUnion r (fun g hg => hnd g (List.mem_cons_of_mem _ hg)) (fun g hg => hnu g (List.mem_cons_of_mem _ hg)) m.2⟩

theorem goodD_noUnion (rest : List Frag) (hnd : NoDescent rest) (hnu : NoUnion rest) (d : JV) : GoodD inclIdx Dev.current rest d := by
  induction d using kidsInd with
  | h d ih => exact (goodD_iff Dev.current rest d).2 ⟨fun _ => goodPath_noUnion rest hnd hnu d, ih⟩

theorem goodDL_noUnion (rest : List Frag) (hnd : NoDescent rest) (hnu : NoUnion rest) : ∀ (xs : List JV), GoodDL inclIdx Dev.current rest xs :=
  fun xs => (goodDL_iff Dev.current rest xs).2 fun x _ => goodD_noUnion rest hnd hnu x

theorem goodDK_noUnion (rest : List Frag) (hnd : NoDescent rest) (hnu : NoUnion rest) : ∀ (kvs : List (Bytes × JV)),
    GoodDK inclIdx Dev.current rest kvs :=
  fun kvs => (goodDK_iff Dev.current rest kvs).2 fun kv _ => goodD_noUnion rest hnd hnu kv.2

/-- a path without a union is good on every data tree (the code as it is, inclusive slices) -/
theorem goodPre_noUnion (rest : List Frag) (hnd : NoDescent rest) (hnu : NoUnion rest) : ∀ (pre : List Frag), NoDescent pre → NoUnion pre →
    ∀ (d : JV), GoodPre inclIdx Dev.current rest pre d
  | [], _, _, d => goodD_noUnion rest hnd hnu d
  | f :: p, hp, hu, d =>
    ⟨goodAt_incl f d (hp f (by simp)) (fun ms h => absurd h (hu f (by simp) ms)),
     fun m _ => goodPre_noUnion rest hnd hnu p (fun g hg => hp g (List.mem_cons_of_mem _ hg)) (fun g hg => hu g (List.mem_cons_of_mem _ hg)) m.2⟩

/-- Modify through one descent, the code as it is, every slice, a path without unions: NO hypothesis about the data beyond
unique member names — the returned tree is the input edited at exactly the (inclusively) selected locations; no error -/
theorem modify_descent_current (m : Modifier) (hm : ∀ c, WF c → WF (m.eff c)) (pre rest : List Frag) (hp : NoDescent pre)
    (hne : rest ≠ []) (hnd : NoDescent rest) (hnf : NoFilter rest) (hu1 : NoUnion pre) (hu2 : NoUnion rest) (d : JV) (hw : WF d) :
    modifyM false Dev.current false m (pre ++ .descent :: rest) d = .ok (modifySpecG inclIdx (pre ++ .descent :: rest) m d) :=
  modify_descent Dev.current rfl m hm pre rest hp hne hnd hnf d hw (goodPre_noUnion rest hnd hu2 pre hp hu1 d)

/-- Remove through one descent, `pre ++ [..] ++ rest ++ [f]` (`JPMut.removeM_descent_eq`, which says what is assumed and
returned). That the returned tree is `removeSpecG`: `remove_descent_spec`. (`Remove $..a`, the descent directly before the
last fragment, is refused: "last fragment is a Descent".) -/
theorem remove_descent (dev : Dev) (hsib : dev.descentSiblings = false) (pre rest : List Frag) (f : Frag) (m : Modifier)
    (hm : removeAllOf dev f = some m) (hf : isDescentF f = false) (hrg : ∀ c, RemGood σ dev f c)
    (hp : NoDescent pre) (hne : rest ≠ []) (hnd : NoDescent rest) (hnf : NoFilter rest) (d : JV) (hw : WF d)
    (hg : GoodPre σ dev rest pre d) :
    removeM false dev false (pre ++ .descent :: rest ++ [f]) d = .ok (updAll m.eff (locsG σ (pre ++ .descent :: rest) d) d) :=
  removeM_descent_eq dev hsib pre rest f m hm hrg hp hne hnd hnf d hw hg

/-- the code as it is, a path without unions before the last fragment: no hypothesis on the data beyond unique member names -/
theorem remove_descent_current (pre rest : List Frag) (f : Frag) (m : Modifier) (hm : removeAllOf Dev.current f = some m)
    (hf : isDescentF f = false) (hp : NoDescent pre) (hne : rest ≠ []) (hnd : NoDescent rest) (hnf : NoFilter rest)
    (hu1 : NoUnion pre) (hu2 : NoUnion rest) (d : JV) (hw : WF d) :
    removeM false Dev.current false (pre ++ .descent :: rest ++ [f]) d =
      .ok (updAll m.eff (locsG inclIdx (pre ++ .descent :: rest) d) d) :=
  remove_descent Dev.current rfl pre rest f m hm hf (fun c => remGood_incl f c hf) hp hne hnd hnf d hw
    (goodPre_noUnion rest hnd hu2 pre hp hu1 d)

/-- Remove through one descent is the specification (`JPMut.removeM_descent_spec`): with, in addition, a last fragment that
is not a filter and `GoodPre` for `rest ++ [f]` too, the tree `remove_descent` describes IS `removeSpecG σ x d` = `remAll` at
exactly the locations the full path selects (removals below a node lie too deep to change what `rest ++ [f]` selects from
it: `remAll_shape`; deeper removals followed by shallower ones compose: `remAll_seq`; `upd_rem_desc` by induction over the
tree) -/
theorem remove_descent_spec (dev : Dev) (hsib : dev.descentSiblings = false) (pre rest : List Frag) (f : Frag) (m : Modifier)
    (hm : removeAllOf dev f = some m) (hf : isDescentF f = false) (hff : isFilterF f = false) (hrg : ∀ c, RemGood σ dev f c)
    (hp : NoDescent pre) (hne : rest ≠ []) (hnd : NoDescent rest) (hnf : NoFilter rest) (d : JV) (hw : WF d)
    (hg : GoodPre σ dev rest pre d) (hg' : GoodPre σ dev (rest ++ [f]) pre d) :
    removeM false dev false (pre ++ .descent :: rest ++ [f]) d = .ok (removeSpecG σ (pre ++ .descent :: rest ++ [f]) d) :=
  removeM_descent_spec dev hsib pre rest f m hm hf hff hrg hp hne hnd hnf d hw hg hg'

/-- the code as it is, no union in the path: Remove through one descent leaves exactly `removeSpecG inclIdx x d`, for EVERY
data tree with unique member names; no error -/
theorem remove_descent_spec_current (pre rest : List Frag) (f : Frag) (hf : isDescentF f = false) (hff : isFilterF f = false)
    (hp : NoDescent pre) (hne : rest ≠ []) (hnd : NoDescent rest) (hnf : NoFilter rest)
    (hu1 : NoUnion pre) (hu2 : NoUnion (rest ++ [f])) (d : JV) (hw : WF d) :
    removeM false Dev.current false (pre ++ .descent :: rest ++ [f]) d =
      .ok (removeSpecG inclIdx (pre ++ .descent :: rest ++ [f]) d) := by
  obtain ⟨m, hm⟩ : ∃ m, removeAllOf Dev.current f = some m := by
    cases f <;> first | exact ⟨_, rfl⟩ | cases hf
  have hu2' : NoUnion rest := fun g hg => hu2 g (List.mem_append_left _ hg)
  exact remove_descent_spec Dev.current rfl pre rest f m hm hf hff (fun c => remGood_incl f c hf) hp hne hnd hnf d hw
    (goodPre_noUnion rest hnd hu2' pre hp hu1 d)
    (goodPre_noUnion (rest ++ [f]) (noDescent_snoc rest f hnd hf) hu2 pre hp hu1 d)

/-- `Remove $..b.a` on `{"b":{"a":1,"b":{"a":2,"c":3}}}`: both `a` below a `b` go -/
example : removeM false Dev.current false [.descent, .child kB, .child kA]
      (.obj [(kB, .obj [(kA, .int 1), (kB, .obj [(kA, .int 2), ([99], .int 3)])])]) =
    .ok (.obj [(kB, .obj [(kB, .obj [([99], .int 3)])])]) := by rfl

/-- the hypotheses of `remove_descent_spec_current` are satisfiable: `$..b.a` = `[] ++ [..] ++ [b] ++ [a]` -/
example : isDescentF (Frag.child kA) = false ∧ isFilterF (Frag.child kA) = false ∧ NoDescent ([] : List Frag) ∧ ([Frag.child kB] ≠ []) ∧
    NoDescent [Frag.child kB] ∧ NoFilter [Frag.child kB] ∧ NoUnion ([] : List Frag) ∧ NoUnion ([Frag.child kB] ++ [Frag.child kA]) := by
  refine ⟨rfl, rfl, (fun _ h => nomatch h), (by simp), ?_, ?_, (fun _ h => nomatch h), ?_⟩
  · intro f hf; simp at hf; subst hf; rfl
  · intro f hf; simp at hf; subst hf; rfl
  · intro f hf ms h; simp at hf; rcases hf with rfl | rfl <;> cases h

/-- and that is the specification's tree -/
example : removeSpecG inclIdx [.descent, .child kB, .child kA] (.obj [(kB, .obj [(kA, .int 1), (kB, .obj [(kA, .int 2), ([99], .int 3)])])]) =
    .obj [(kB, .obj [(kB, .obj [([99], .int 3)])])] := by rfl

/-- ModifyOne through one descent (`JPMut.modifyOne_descent`; filters ARE allowed after the descent: a One form has edited
nothing before its single edit), and hence the property's demand on a One form (`OneOKG`). Which selected location that
wanted a change is edited is not stated: the work-list takes members' subtrees before the node, as the example with
`ModifyOne $..a` below shows on one input -/
theorem one_modify_descent (dev : Dev) (hsib : dev.descentSiblings = false) (m : Modifier) (hfm : dev.filterMapNil = false)
    (pre rest : List Frag) (hp : NoDescent pre) (hne : rest ≠ []) (hnd : NoDescent rest) (d : JV) (hw : WF d)
    (hg : GoodPre σ dev rest pre d) :
    ∃ d', modifyM false dev true m (pre ++ .descent :: rest) d = .ok d' ∧ ModOneOut σ m (pre ++ .descent :: rest) d d' ∧
      OneOKG σ (pre ++ .descent :: rest) d d' (.mod m) := by
  obtain ⟨d', h1, h2⟩ := modifyOne_descent (σ := σ) dev hsib m hfm pre rest hp hne hnd d hw hg
  exact ⟨d', h1, h2, h2.oneOKG hw⟩

/-- the code as it is, a path without unions -/
theorem one_modify_descent_current (m : Modifier) (pre rest : List Frag) (hp : NoDescent pre) (hne : rest ≠ []) (hnd : NoDescent rest)
    (hu1 : NoUnion pre) (hu2 : NoUnion rest) (d : JV) (hw : WF d) :
    ∃ d', modifyM false Dev.current true m (pre ++ .descent :: rest) d = .ok d' ∧
      OneOKG inclIdx (pre ++ .descent :: rest) d d' (.mod m) := by
  obtain ⟨d', h1, _, h3⟩ := one_modify_descent (σ := inclIdx) Dev.current rfl m rfl pre rest hp hne hnd d hw
    (goodPre_noUnion rest hnd hu2 pre hp hu1 d)
  exact ⟨d', h1, h3⟩

/-- RemoveOne through one descent (`JPMut.removeOne_descent`; any last fragment but a descent, filters included): no error;
the returned tree is `remAll [q] d` for ONE location `q` the full path selects, or the input itself when it selects
nothing -/
theorem one_remove_descent (dev : Dev) (hsib : dev.descentSiblings = false) (hfm : dev.filterMapNil = false) (pre rest : List Frag)
    (f : Frag) (hf : isDescentF f = false) (hrg : ∀ c, RemGood σ dev f c) (hp : NoDescent pre) (hne : rest ≠ [])
    (hnd : NoDescent rest) (d : JV) (hw : WF d) (hg : GoodPre σ dev rest pre d) :
    ∃ d', removeM false dev true (pre ++ .descent :: rest ++ [f]) d = .ok d' ∧
      OneOKG σ (pre ++ .descent :: rest ++ [f]) d d' .rem :=
  removeOne_descent dev hsib hfm pre rest f hf hrg hp hne hnd d hw hg

/-- the code as it is, no union before the last fragment -/
theorem one_remove_descent_current (pre rest : List Frag) (f : Frag) (hf : isDescentF f = false) (hp : NoDescent pre) (hne : rest ≠ [])
    (hnd : NoDescent rest) (hu1 : NoUnion pre) (hu2 : NoUnion rest) (d : JV) (hw : WF d) :
    ∃ d', removeM false Dev.current true (pre ++ .descent :: rest ++ [f]) d = .ok d' ∧
      OneOKG inclIdx (pre ++ .descent :: rest ++ [f]) d d' .rem :=
  one_remove_descent Dev.current rfl rfl pre rest f hf (fun c => remGood_incl f c hf) hp hne hnd d hw
    (goodPre_noUnion rest hnd hu2 pre hp hu1 d)

/-- SetOne / DelOne through one descent (`JPMut.setOne_descent`, which says what is assumed and returned) -/
theorem one_set_descent (dev : Dev) (hsib : dev.descentSiblings = false) (hda : dev.delOneAbsent = false) (a : SetArg)
    (pre rest : List Frag) (hp : NoDescent pre) (hne : rest ≠ []) (hnd : NoDescent rest) (d d' : JV) (hw : WF d)
    (hg : GoodPreS σ dev rest pre d) (h : setM false dev true a (pre ++ .descent :: rest) d = .ok d') :
    OneOKG σ (pre ++ .descent :: rest) d d' a.op :=
  setOne_descent dev hsib hda a pre rest hp hne hnd d d' hw hg h

theorem goodPathS_noUnion : ∀ (x : List Frag), NoDescent x → NoUnion x → ∀ (d : JV), GoodPathS inclIdx Dev.current x d
  | [], _, _, _ => trivial
  | f :: r, hnd, hnu, d =>
    ⟨goodAtS_incl f d (hnd f (by simp)) (fun ms h => absurd h (hnu f (by simp) ms)),
     fun m _ => goodPathS_noUnion r (fun g hg => hnd g (List.mem_cons_of_mem _ hg)) (fun g hg => hnu g (List.mem_cons_of_mem _ hg)) m.2⟩

theorem goodDS_noUnion (rest : List Frag) (hnd : NoDescent rest) (hnu : NoUnion rest) (d : JV) : GoodDS inclIdx Dev.current rest d := by
  induction d using kidsInd with
  | h d ih => exact (goodDS_iff Dev.current rest d).2 ⟨fun _ => goodPathS_noUnion rest hnd hnu d, ih⟩

theorem goodDSL_noUnion (rest : List Frag) (hnd : NoDescent rest) (hnu : NoUnion rest) : ∀ (xs : List JV), GoodDSL inclIdx Dev.current rest xs :=
  fun xs => (goodDSL_iff Dev.current rest xs).2 fun x _ => goodDS_noUnion rest hnd hnu x

theorem goodDSK_noUnion (rest : List Frag) (hnd : NoDescent rest) (hnu : NoUnion rest) : ∀ (kvs : List (Bytes × JV)),
    GoodDSK inclIdx Dev.current rest kvs :=
  fun kvs => (goodDSK_iff Dev.current rest kvs).2 fun kv _ => goodDS_noUnion rest hnd hnu kv.2

theorem goodPreS_noUnion (rest : List Frag) (hnd : NoDescent rest) (hnu : NoUnion rest) : ∀ (pre : List Frag), NoDescent pre → NoUnion pre →
    ∀ (d : JV), GoodPreS inclIdx Dev.current rest pre d
  | [], _, _, d => goodDS_noUnion rest hnd hnu d
  | f :: p, hp, hu, d =>
    ⟨goodAtS_incl f d (hp f (by simp)) (fun ms h => absurd h (hu f (by simp) ms)),
     fun m _ => goodPreS_noUnion rest hnd hnu p (fun g hg => hp g (List.mem_cons_of_mem _ hg)) (fun g hg => hu g (List.mem_cons_of_mem _ hg)) m.2⟩

/-- the code as it is, a path without unions -/
theorem one_set_descent_current (a : SetArg) (pre rest : List Frag) (hp : NoDescent pre) (hne : rest ≠ []) (hnd : NoDescent rest)
    (hu1 : NoUnion pre) (hu2 : NoUnion rest) (d d' : JV) (hw : WF d)
    (h : setM false Dev.current true a (pre ++ .descent :: rest) d = .ok d') :
    OneOKG inclIdx (pre ++ .descent :: rest) d d' a.op :=
  one_set_descent Dev.current rfl rfl a pre rest hp hne hnd d d' hw (goodPreS_noUnion rest hnd hu2 pre hp hu1 d) h

/-- Del through a descent at the head of the path, `$..rest` (`JPMut.delM_descent`, with `delSpecG` for the edited tree).
(`Expr.set` runs on the path as it is, so the descent at the head is the whole `pre = []` case; Del creates nothing, so exact
equality holds — for Set it would hold only up to member order.) -/
theorem del_descent (dev : Dev) (rest : List Frag) (hne : rest ≠ []) (hnd : NoDescent rest) (hnf : NoFilter rest)
    (hgm : ∀ c, GoodPath σ dev rest c) (hgs : ∀ c, GoodPathS σ dev rest c) (d d' : JV) (hw : WF d)
    (h : setM false dev false .del (.descent :: rest) d = .ok d') : d' = delSpecG σ (.descent :: rest) d :=
  delM_descent dev rest hne hnd hnf hgm hgs d d' hw h

/-- the code as it is, a rest without unions: every data tree with unique member names -/
theorem del_descent_current (rest : List Frag) (hne : rest ≠ []) (hnd : NoDescent rest) (hnf : NoFilter rest) (hu : NoUnion rest)
    (d d' : JV) (hw : WF d) (h : setM false Dev.current false .del (.descent :: rest) d = .ok d') :
    d' = delSpecG inclIdx (.descent :: rest) d :=
  del_descent Dev.current rest hne hnd hnf (fun c => goodPath_noUnion rest hnd hu c) (fun c => goodPathS_noUnion rest hnd hu c) d d' hw h

/-- `Del $..a` on `{"a":1,"b":{"a":2,"c":[{"a":3}]}}` -/
example : setM false Dev.current false .del [.descent, .child kA]
      (.obj [(kA, .int 1), (kB, .obj [(kA, .int 2), ([99], .arr [.obj [(kA, .int 3)]])])]) =
    .ok (.obj [(kB, .obj [([99], .arr [.obj []])])]) := by rfl

/-- `SetOne $..a` with 9 on `{"b":{"a":2},"a":1}`: the member's subtree first — `$.b.a` is written -/
example : setM false Dev.current true (.val (.int 9)) [.descent, .child kA] (.obj [(kB, .obj [(kA, .int 2)]), (kA, .int 1)]) =
    .ok (.obj [(kB, .obj [(kA, .int 9)]), (kA, .int 1)]) := by rfl

/-- `ModifyOne $..a` with `inc` on `{"a":1,"b":{"a":2}}`: the member's subtree first — `$.b.a` is the one edited -/
example : modifyM false Dev.current true inc [.descent, .child kA] (.obj [(kA, .int 1), (kB, .obj [(kA, .int 2)])]) =
    .ok (.obj [(kA, .int 1), (kB, .obj [(kA, .int 3)])]) := by rfl

/-- the hypothesis `hm` of `modify_descent` / `modify_descent_current` for the modifier `inc` of the examples -/
theorem inc_wf : ∀ c, WF c → WF (inc.eff c) := by
  intro c hc
  cases c <;> simp_all [Modifier.eff, inc, WF]

/-- `Modify $..a` with `inc` on `{"a":1,"b":{"a":2}}` -/
example : modifyM false Dev.current false inc [.descent, .child kA] (.obj [(kA, .int 1), (kB, .obj [(kA, .int 2)])]) =
    .ok (.obj [(kA, .int 2), (kB, .obj [(kA, .int 3)])]) ∧
    locsG inclIdx [.descent, .child kA] (.obj [(kA, .int 1), (kB, .obj [(kA, .int 2)])]) = [[.key kB, .key kA], [.key kA]] :=
  ⟨by rfl, by rfl⟩

/-- the hypotheses of `modify_descent_current` are satisfiable: `$.b..a` -/
example : NoDescent [Frag.child kB] ∧ ([Frag.child kA] ≠ []) ∧ NoDescent [Frag.child kA] ∧ NoFilter [Frag.child kA] ∧
    NoUnion [Frag.child kB] ∧ NoUnion [Frag.child kA] := by
  refine ⟨?_, by simp, ?_, ?_, ?_, ?_⟩ <;> intro f hf <;> simp at hf <;> subst hf <;> first | rfl | (intro ms h; cases h)

/-- a filter for the witness below: an integer 1, or an object whose only member is 1 -/
def oneish : JV → Bool
  | .int i => i == 1
  | .obj [(_, .int i)] => i == 1
  | _ => false

/-- why a FILTER after the descent is excluded (known finding C13-descent-filter-reevaluated): `Modify $..[?oneish]` with
the constant 0 on `{"x":{"a":1}}`. Get selects `$.x.a` and `$.x` (both as the tree was); the mutator edits `$.x.a`, then
evaluates the filter on `$.x` as it is NOW (`{"a":0}`: no longer selected) and leaves it -/
theorem witness_descent_filter :
    modifyM false Dev.current false (fun _ => (.int 0, true)) [.descent, .filter oneish] (.obj [([120], .obj [(kA, .int 1)])]) =
      .ok (.obj [([120], .obj [(kA, .int 0)])]) ∧
    modifySpec [.descent, .filter oneish] (fun _ => (.int 0, true)) (.obj [([120], .obj [(kA, .int 1)])]) = .obj [([120], .int 0)] ∧
    locs [.descent, .filter oneish] (.obj [([120], .obj [(kA, .int 1)])]) = [[.key [120], .key kA], [.key [120]]] :=
  ⟨by rfl, by rfl, by rfl⟩

end OjgVerif.C13
