import OjgVerif.Props.C01
import OjgVerif.Props.C03
import OjgVerif.Json.RefineSpec
import OjgVerif.Json.Erase
/-! # C01 — the language theorem

`Props/C01.lean` shows that the regenerated tables are the reference transition function and that the
machine over them is the reference automaton. This file adds the other half: the reference automaton
accepts exactly the language of the RFC 8259 specification (`Json/Spec.lean`) and returns the value
the grammar denotes (refinement proof in `Json/Refine*.lean`), so that the property holds of the
regenerated oj and gen tables for EVERY byte string. -/
namespace OjgVerif.C01
open OjgVerif.Json

/-- **C01 for oj** (`[]byte` entry, one document, no integer fast loop — oj.Validator, oj.Tokenizer):
a byte string is accepted iff it is blank or exactly one RFC 8259 JSON text behind an optional BOM. -/
theorem oj_accepts_spec (bs : Bytes) : (toOpt (run ojTables cfg1 [bs])).isSome = Spec.accepts bs := by
  rw [oj_is_reference]; exact run_accepts bs

/-- **C01 for gen** (same entry over the regenerated `gen` tables) -/
theorem gen_accepts_spec (bs : Bytes) : (toOpt (run genTables cfg1 [bs])).isSome = Spec.accepts bs := by
  rw [gen_is_reference]; exact run_accepts bs

/-- the value returned is the one the grammar denotes, with the machine's reading of the leaves
(escapes without surrogate pairing — known finding C02-surrogate —, numbers through the accumulator) -/
theorem oj_result_grammar (bs : Bytes) :
    toOpt (run ojTables cfg1 [bs]) = (parseTextM (Spec.stripBOM bs)).result := by
  rw [oj_is_reference]; exact run_eq_grammar bs

theorem gen_result_grammar (bs : Bytes) :
    toOpt (run genTables cfg1 [bs]) = (parseTextM (Spec.stripBOM bs)).result := by
  rw [gen_is_reference]; exact run_eq_grammar bs

/-- reader configuration without the integer fast loop -/
def cfgR : Cfg := { reader := true }

theorem bom_reader_cases (bs : Bytes) :
    (bomRuleReader bs = .keep ∧ Spec.stripBOM bs = bs) ∨
    (∃ r, bomRuleReader bs = .strip r ∧ Spec.stripBOM bs = r) := by
  unfold bomRuleReader Spec.stripBOM
  split
  · rename_i r
    cases r with
    | nil => left; refine ⟨rfl, ?_⟩; split <;> simp_all
    | cons d r => right; exact ⟨d :: r, rfl, rfl⟩
  · rename_i hne
    left
    refine ⟨rfl, ?_⟩
    split
    · exact absurd rfl (hne _)
    · rfl

/-- `run_eq_grammar` for the reader entry point on a single read -/
theorem run_reader_single (bs : Bytes) :
    toOpt (run refTables cfgR [bs]) = (parseTextM (Spec.stripBOM bs)).result := by
  cases bs with
  | nil => rfl
  | cons b t =>
    have hcs : topUp ([b :: t].filter (!·.isEmpty)) = [b :: t] := by
      simp [topUp, topUpAux]
    unfold run
    simp only [cfgR, ↓reduceIte, hcs]
    rcases bom_reader_cases (b :: t) with ⟨h1, h2⟩ | ⟨r, h1, h2⟩
    · rw [h1, h2]; simp only; rw [← exec_text]; exact chunk_exec cfgR rfl rfl (b :: t)
    · rw [h1, h2]; simp only; rw [← exec_text]; exact chunk_exec cfgR rfl rfl r

/-- **C01 for the reader entry points** (oj.Validator/Tokenizer reading an io.Reader, any chunking):
the stream is accepted iff the bytes delivered are blank or one JSON text behind an optional BOM. -/
theorem oj_reader_accepts_spec (chunks : List Bytes) :
    (toOpt (run ojTables cfgR chunks)).isSome = Spec.accepts chunks.flatten := by
  rw [oj_is_reference, C03.chunks_irrelevant refTables cfgR rfl rfl chunks, run_reader_single, result_isSome]

theorem gen_reader_accepts_spec (chunks : List Bytes) :
    (toOpt (run genTables cfgR chunks)).isSome = Spec.accepts chunks.flatten := by
  rw [gen_is_reference, ← oj_is_reference]; exact oj_reader_accepts_spec chunks

theorem isSome_outcome (r : Except Err (List JV)) : (toOpt r).isSome = (toOpt (outcome r)).isSome := by
  cases r <;> rfl

/-- configuration of oj.Parser / gen.Parser on a `[]byte`: the integer fast loop is on -/
def cfgP : Cfg := { fastInt := true }
/-- the same reading an io.Reader -/
def cfgPR : Cfg := { fastInt := true, reader := true }

/-- **C01 for the parsers** (`oj.Parse`, `gen.Parser.Parse`): the integer fast loop changes how
some integers are represented (known finding C02-int19), never which texts are accepted. -/
theorem oj_parser_accepts_spec (bs : Bytes) : (toOpt (run ojTables cfgP [bs])).isSome = Spec.accepts bs := by
  rw [oj_is_reference, isSome_outcome, run_outcome_fastInt cfgP cfg1 rfl rfl, ← isSome_outcome]
  exact run_accepts bs

theorem gen_parser_accepts_spec (bs : Bytes) : (toOpt (run genTables cfgP [bs])).isSome = Spec.accepts bs := by
  rw [gen_is_reference, ← oj_is_reference]; exact oj_parser_accepts_spec bs

/-- the parsers reading an io.Reader, any chunking -/
theorem oj_parser_reader_accepts_spec (chunks : List Bytes) :
    (toOpt (run ojTables cfgPR chunks)).isSome = Spec.accepts chunks.flatten := by
  rw [oj_is_reference, isSome_outcome, run_outcome_fastInt cfgPR cfgR rfl rfl, ← isSome_outcome, ← oj_is_reference]
  exact oj_reader_accepts_spec chunks

theorem gen_parser_reader_accepts_spec (chunks : List Bytes) :
    (toOpt (run genTables cfgPR chunks)).isSome = Spec.accepts chunks.flatten := by
  rw [gen_is_reference, ← oj_is_reference]; exact oj_parser_reader_accepts_spec chunks

/-- front-ends with and without the integer loop report the same outcome but for the values:
same acceptance, same number of documents (also in multi-document mode), same error kind, line and
column — for every configuration pair that differs only in the loop, every input and chunking -/
theorem outcome_independent_of_fastInt (cfg : Cfg) (chunks : List Bytes) :
    outcome (run ojTables cfg chunks) = outcome (run ojTables { cfg with fastInt := !cfg.fastInt } chunks) := by
  rw [oj_is_reference, oj_is_reference]
  exact run_outcome_fastInt cfg { cfg with fastInt := !cfg.fastInt } rfl rfl chunks

/-- `Spec.accepts`, the right-hand side of the theorems above, is neither constantly true nor constantly
false: a text with every construct is accepted, a near miss is not -/
example : Spec.accepts [123, 34, 97, 34, 58, 91, 49, 44, 45, 50, 46, 53, 101, 51, 44, 116, 114, 117, 101, 44, 110, 117, 108, 108, 44, 34, 120, 92, 117, 48, 48, 101, 57, 34, 93, 125, 32] = true := by decide +kernel   -- {"a":[1,-2.5e3,true,null,"x\u00e9"]} and a blank
example : Spec.accepts [123, 34, 97, 34, 58, 91, 49, 44, 93, 125] = false := by decide +kernel  -- {"a":[1,]}

end OjgVerif.C01
