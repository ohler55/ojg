import OjgVerif.Gen.SenWriterFacts
import OjgVerif.Sen.WriterIndent
/-! # C10 — the source text the writer model was written against (checked tie to sen/writer.go)

`tools/extract/sen.go` prints, from the CURRENT sen/writer.go, the statement that selects the append functions in
`MustSEN` / `MustWrite`, the bodies of the three indented and the three tight append functions (sen/tight.go) and the scalar cases of `appendSEN`
(`Gen.SenWriterFacts`, regenerated on every run). The theorems below compare them, line by line, with the text the
model (`Sen.tightVal`, `Sen.tightElems`, `Sen.tightMembers`, Sen/Writer.lean; `Sen.indentSep`, `Sen.indentVal`, `Sen.indentElems`, `Sen.indentMembers`, `Sen.senWrite`, Sen/WriterIndent.lean)
was written against: any edit of these functions — a changed clamp, separator, bracket, depth, member filter,
dispatch condition — breaks one of them, whether or not the correspondence run finds an input for it. The constants
`spaces` / `tabs` themselves are `Gen.Sen.spaces` / `Gen.Sen.tabs` (`Sen.spaces_shape`, `Sen.tabs_shape`, Props/C10Indent.lean).
(A harmless reformulation of the Go text breaks them too: then the model has to be re-read against the new text;
`python3 /verif/harness/cmd/sen/regen_c10facts.py` takes the regenerated text over as the expected one.) -/
namespace OjgVerif.Sen

/-- **which append functions the options select** (`sen.String`, `sen.Bytes`: `MustSEN`): Color off; the indented
functions iff `wr.Tab || 0 < wr.Indent` (model: `Sen.usesIndented`, `Sen.senWrite`), `appendSortObject` /
`tightSortObject` iff `wr.Sort` (model: the members are written in the order given), then `wr.appendSEN(data, 0)`
(model: depth 0) -/
theorem mustSEN_dispatch_src : Gen.SenWriterFacts.mustSENDispatch =
    [
    "if wr.Color {", "wr.colorSEN(data, 0)", "} else {", "wr.appendString = ojg.AppendSENString",
    "if wr.Tab || 0 < wr.Indent {", "wr.appendArray = appendArray", "if wr.Sort {",
    "wr.appendObject = appendSortObject", "} else {", "wr.appendObject = appendObject", "}",
    "wr.appendDefault = appendDefault", "} else {", "wr.appendArray = tightArray", "if wr.Sort {",
    "wr.appendObject = tightSortObject", "} else {", "wr.appendObject = tightObject", "}",
    "wr.appendDefault = tightDefault", "}", "wr.appendSEN(data, 0)", "}"] := rfl

/-- the same statement in `MustWrite` (`sen.Write`) -/
theorem mustWrite_dispatch_src : Gen.SenWriterFacts.mustWriteDispatch =
    [
    "if wr.Color {", "wr.colorSEN(data, 0)", "} else {", "wr.appendString = ojg.AppendSENString",
    "if wr.Tab || 0 < wr.Indent {", "wr.appendArray = appendArray", "if wr.Sort {",
    "wr.appendObject = appendSortObject", "} else {", "wr.appendObject = appendObject", "}",
    "wr.appendDefault = appendDefault", "} else {", "wr.appendArray = tightArray", "if wr.Sort {",
    "wr.appendObject = tightSortObject", "} else {", "wr.appendObject = tightObject", "}",
    "wr.appendDefault = tightDefault", "}", "wr.appendSEN(data, 0)", "}"] := rfl

/-- **`appendArray`**: `is` / `cs` are `tabs[0:min(len(tabs), depth+1)]` / `tabs[0:min(len(tabs), depth+2)]` with Tab, else
`spaces[0:min(len(spaces), depth*Indent+1)]` / `spaces[0:min(len(spaces), (depth+1)*Indent+1)]` (model: `Sen.indentSep`);
a non-empty array is `[`, then `cs` and the element (at depth+1) for every element, then `is`, `]`; the empty one is
`[]` (model: `Sen.indentVal` / `Sen.indentElems`) -/
theorem appendArray_src : Gen.SenWriterFacts.appendArraySrc =
    [
    "{", "var is string", "var cs string", "d2 := depth + 1", "if wr.Tab {", "x := depth + 1", "if len(tabs) < x {",
    "x = len(tabs)", "}", "is = tabs[0:x]", "x = d2 + 1", "if len(tabs) < x {", "x = len(tabs)", "}",
    "cs = tabs[0:x]", "} else {", "x := depth*wr.Indent + 1", "if len(spaces) < x {", "x = len(spaces)", "}",
    "is = spaces[0:x]", "x = d2*wr.Indent + 1", "if len(spaces) < x {", "x = len(spaces)", "}", "cs = spaces[0:x]",
    "}", "if 0 < len(n) {", "wr.buf = append(wr.buf, '[')", "for _, m := range n {",
    "wr.buf = append(wr.buf, cs...)", "wr.appendSEN(m, d2)", "}", "wr.buf = append(wr.buf, is...)",
    "wr.buf = append(wr.buf, ']')", "} else {", "wr.buf = append(wr.buf, \"[]\"...)", "}", "}"] := rfl

/-- **`appendObject`**: the same `is` / `cs`; `{`, then for every member that is not passed over (nil with OmitNil; an empty
string, map or slice with OmitEmpty — model: `Sen.omitted`) `cs`, the member name, `": "`, the value (at depth+1), then
`is`, `}` — also when no member was written (model: `Sen.indentMembers`) -/
theorem appendObject_src : Gen.SenWriterFacts.appendObjectSrc =
    [
    "{", "d2 := depth + 1", "var is string", "var cs string", "if wr.Tab {", "x := depth + 1", "if len(tabs) < x {",
    "x = len(tabs)", "}", "is = tabs[0:x]", "x = d2 + 1", "if len(tabs) < x {", "x = len(tabs)", "}",
    "cs = tabs[0:x]", "} else {", "x := depth*wr.Indent + 1", "if len(spaces) < x {", "x = len(spaces)", "}",
    "is = spaces[0:x]", "x = d2*wr.Indent + 1", "if len(spaces) < x {", "x = len(spaces)", "}", "cs = spaces[0:x]",
    "}", "wr.buf = append(wr.buf, '{')", "for k, m := range n {", "switch tm := m.(type) {", "case nil:",
    "if wr.OmitNil {", "continue", "}", "case string:", "if wr.OmitEmpty && len(tm) == 0 {", "continue", "}",
    "case map[string]any:", "if wr.OmitEmpty && len(tm) == 0 {", "continue", "}", "case []any:",
    "if wr.OmitEmpty && len(tm) == 0 {", "continue", "}", "}", "wr.buf = append(wr.buf, cs...)",
    "wr.buf = wr.appendString(wr.buf, k, !wr.HTMLUnsafe)", "wr.buf = append(wr.buf, \": \"...)",
    "wr.appendSEN(m, d2)", "}", "wr.buf = append(wr.buf, is...)", "wr.buf = append(wr.buf, '}')", "}"] := rfl

/-- **`appendSortObject`**: `appendObject` over the sorted keys -/
theorem appendSortObject_src : Gen.SenWriterFacts.appendSortObjectSrc =
    [
    "{", "d2 := depth + 1", "var is string", "var cs string", "if wr.Tab {", "x := depth + 1", "if len(tabs) < x {",
    "x = len(tabs)", "}", "is = tabs[0:x]", "x = d2 + 1", "if len(tabs) < x {", "x = len(tabs)", "}",
    "cs = tabs[0:x]", "} else {", "x := depth*wr.Indent + 1", "if len(spaces) < x {", "x = len(spaces)", "}",
    "is = spaces[0:x]", "x = d2*wr.Indent + 1", "if len(spaces) < x {", "x = len(spaces)", "}", "cs = spaces[0:x]",
    "}", "keys := make([]string, 0, len(n))", "for k := range n {", "keys = append(keys, k)", "}",
    "sort.Strings(keys)", "wr.buf = append(wr.buf, '{')", "for _, k := range keys {", "m := n[k]",
    "switch tm := m.(type) {", "case nil:", "if wr.OmitNil {", "continue", "}", "case string:",
    "if wr.OmitEmpty && len(tm) == 0 {", "continue", "}", "case map[string]any:",
    "if wr.OmitEmpty && len(tm) == 0 {", "continue", "}", "case []any:", "if wr.OmitEmpty && len(tm) == 0 {",
    "continue", "}", "}", "wr.buf = append(wr.buf, cs...)", "wr.buf = wr.appendString(wr.buf, k, !wr.HTMLUnsafe)",
    "wr.buf = append(wr.buf, \": \"...)", "wr.appendSEN(m, d2)", "}", "wr.buf = append(wr.buf, is...)",
    "wr.buf = append(wr.buf, '}')", "}"] := rfl

/-- **`tightArray`** (sen/tight.go): `[`, every element (depth 0) followed by one blank when it was a scalar (`wr.needSep`),
the last blank overwritten by `]` (else `]` appended); the empty array is `[]` (model: `Sen.tightVal` / `Sen.tightElems`) -/
theorem tightArray_src : Gen.SenWriterFacts.tightArraySrc =
    [
    "{", "if 0 < len(n) {", "space := false", "wr.buf = append(wr.buf, '[')", "for _, m := range n {",
    "wr.appendSEN(m, 0)", "if wr.needSep {", "wr.buf = append(wr.buf, ' ')", "space = true", "} else {",
    "space = false", "}", "}", "if space {", "wr.buf[len(wr.buf)-1] = ']'", "} else {",
    "wr.buf = append(wr.buf, ']')", "}", "} else {", "wr.buf = append(wr.buf, \"[]\"...)", "}", "}"] := rfl

/-- **`tightObject`**: `{`, for every member that is not passed over (the same filter as in `appendObject`: `Sen.omitted`)
the name, `:`, the value and one blank, the last blank overwritten by `}` (model: `Sen.tightMembers`) -/
theorem tightObject_src : Gen.SenWriterFacts.tightObjectSrc =
    [
    "{", "comma := false", "wr.buf = append(wr.buf, '{')", "for k, m := range n {", "switch tm := m.(type) {",
    "case nil:", "if wr.OmitNil {", "continue", "}", "case string:", "if wr.OmitEmpty && len(tm) == 0 {",
    "continue", "}", "case map[string]any:", "if wr.OmitEmpty && len(tm) == 0 {", "continue", "}", "case []any:",
    "if wr.OmitEmpty && len(tm) == 0 {", "continue", "}", "}",
    "wr.buf = ojg.AppendSENString(wr.buf, k, !wr.HTMLUnsafe)", "wr.buf = append(wr.buf, ':')", "wr.appendSEN(m, 0)",
    "wr.buf = append(wr.buf, ' ')", "comma = true", "}", "if comma {", "wr.buf[len(wr.buf)-1] = '}'", "} else {",
    "wr.buf = append(wr.buf, '}')", "}", "}"] := rfl

/-- **`tightSortObject`**: `tightObject` over the sorted keys -/
theorem tightSortObject_src : Gen.SenWriterFacts.tightSortObjectSrc =
    [
    "{", "comma := false", "wr.buf = append(wr.buf, '{')", "keys := make([]string, 0, len(n))",
    "for k := range n {", "keys = append(keys, k)", "}", "sort.Strings(keys)", "for _, k := range keys {",
    "m := n[k]", "switch tm := m.(type) {", "case nil:", "if wr.OmitNil {", "continue", "}", "case string:",
    "if wr.OmitEmpty && len(tm) == 0 {", "continue", "}", "case map[string]any:",
    "if wr.OmitEmpty && len(tm) == 0 {", "continue", "}", "case []any:", "if wr.OmitEmpty && len(tm) == 0 {",
    "continue", "}", "}", "wr.buf = ojg.AppendSENString(wr.buf, k, !wr.HTMLUnsafe)", "wr.buf = append(wr.buf, ':')",
    "wr.appendSEN(m, 0)", "wr.buf = append(wr.buf, ' ')", "comma = true", "}", "if comma {",
    "wr.buf[len(wr.buf)-1] = '}'", "} else {", "wr.buf = append(wr.buf, '}')", "}", "}"] := rfl

/-- **how `appendSEN` writes the scalars** (both layouts): `null`, `true` / `false`, `strconv.AppendInt(…, 10)`
(`Sen.fmtInt`), `strconv.AppendFloat(…, 'g', -1, 64)` unless FloatFormat is set (the float text is an input of the
model: `JV.flt`), `wr.appendString` = `ojg.AppendSENString` (`Sen.senString`); `[]any` and `map[string]any` go to
`wr.appendArray` / `wr.appendObject` with the SAME depth -/
theorem appendSEN_cases_src : Gen.SenWriterFacts.appendSENCases =
    [
    "nil => wr.buf = append(wr.buf, \"null\"...)",
    "bool => if td { wr.buf = append(wr.buf, \"true\"...) } else { wr.buf = append(wr.buf, \"false\"...) }",
    "int => wr.buf = strconv.AppendInt(wr.buf, int64(td), 10)",
    "int8 => wr.buf = strconv.AppendInt(wr.buf, int64(td), 10)",
    "int16 => wr.buf = strconv.AppendInt(wr.buf, int64(td), 10)",
    "int32 => wr.buf = strconv.AppendInt(wr.buf, int64(td), 10)",
    "int64 => wr.buf = strconv.AppendInt(wr.buf, td, 10)",
    "uint => wr.buf = strconv.AppendUint(wr.buf, uint64(td), 10)",
    "uint8 => wr.buf = strconv.AppendUint(wr.buf, uint64(td), 10)",
    "uint16 => wr.buf = strconv.AppendUint(wr.buf, uint64(td), 10)",
    "uint32 => wr.buf = strconv.AppendUint(wr.buf, uint64(td), 10)",
    "uint64 => wr.buf = strconv.AppendUint(wr.buf, td, 10)",
    "float32 => if 0 < len(wr.FloatFormat) { wr.buf = fmt.Appendf(wr.buf, wr.FloatFormat, float64(td)) } else { wr.buf = strconv.AppendFloat(wr.buf, float64(td), 'g', -1, 32) }",
    "float64 => if 0 < len(wr.FloatFormat) { wr.buf = fmt.Appendf(wr.buf, wr.FloatFormat, td) } else { wr.buf = strconv.AppendFloat(wr.buf, td, 'g', -1, 64) }",
    "string => wr.buf = wr.appendString(wr.buf, td, !wr.HTMLUnsafe)",
    "[]byte => switch wr.BytesAs { case ojg.BytesAsBase64: wr.buf = wr.appendString(wr.buf, base64.StdEncoding.EncodeToString(td), !wr.HTMLUnsafe) case ojg.BytesAsArray: a := make([]any, len(td)) for i, m := range td { a[i] = int64(m) } wr.appendArray(wr, a, depth) default: wr.buf = wr.appendString(wr.buf, string(td), !wr.HTMLUnsafe) }",
    "time.Time => wr.buf = wr.AppendTime(wr.buf, td, true)", "[]any => wr.appendArray(wr, td, depth)",
    "map[string]any => wr.appendObject(wr, td, depth)"] := rfl

theorem dispatch_same : Gen.SenWriterFacts.mustSENDispatch = Gen.SenWriterFacts.mustWriteDispatch := rfl

/-- the model's side of the line `if wr.Tab || 0 < wr.Indent {` of the two statements above -/
theorem usesIndented_iff (io : IOpts) : usesIndented io = true ↔ (io.tab = true ∨ 0 < io.indent) := by
  simp [usesIndented]

end OjgVerif.Sen
