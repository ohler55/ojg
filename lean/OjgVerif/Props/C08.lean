import OjgVerif.Reuse.Pool
import OjgVerif.Reuse.Registry
import OjgVerif.Props.C07
import OjgVerif.Gen.SharedState
import OjgVerif.Gen.ReadOnly
import OjgVerif.Reuse.Shared
import OjgVerif.Gen.SharedObj
/-! # C08 — concurrent use of the package-level APIs and of shared objects (PARTIAL: atomic-step models)

The theorems here are about hand-written ATOMIC-STEP models: each step of the transition system is
indivisible and writes only what its goroutine owns, so the models cannot race by construction.
Whether the COMPILED code has data races is decided by the `-race` stress run and the deterministic
oracles of the harness, not here. What is logic is modelled: the pools (`Reuse/Pool.lean`: any
number of goroutines running `get; reset; work…; finish; [copy]; put; return`, `sync.Pool` as a
multiset of idle instances that may also drop or create instances at any time, arbitrary
interleaving), the closure of the recomposer's registration under its field walk
(`Reuse/Registry.lean`), and objects that goroutines share read-only (`Reuse/Shared.lean`).

Tied to the source by regenerated facts (`Gen.ReuseFacts`, `Gen.SharedState`, `Gen.ReadOnly`,
`Gen.SharedObj`): which pooled API returns a copy, deferred `Put`, every access to the struct-info
caches under `structMut`, the package variables written at run time, the writes through shared jp,
alt and asm values. NOT covered: data races inside a step, `sync.Pool` internals, the Go memory
model: the `-race` stress run of the harness is the (supporting, not conclusive) evidence for those. -/
namespace OjgVerif.C08
open OjgVerif.Reuse OjgVerif.Reuse.Pool

section
variable {X S R : Type} (resetf : S → S) (stepf : S → X → S) (outf : S → R) (new : S) (copies : Bool)

/-- no instance is held by two goroutines in any reachable state; a held instance is not idle -/
theorem C08_owner {σ : State X S R} (h : Reachable resetf stepf outf new copies σ) :
    (∀ g1 g2 i, (σ.pcs g1).inst? = some i → (σ.pcs g2).inst? = some i → g1 = g2) ∧
    (∀ g i, (σ.pcs g).inst? = some i → i ∉ σ.pool) :=
  owner_exclusive resetf stepf outf new copies h

/-- copying out: a returned buffer is never written by any later step of any goroutine -/
theorem C08_return (hc : copies = true) {σ σ' : State X S R} {l : Loc}
    (hr : Reachable resetf stepf outf new copies σ) (hs : Step resetf stepf outf new copies σ (.write l) σ') :
    l ∉ σ.held :=
  no_write_after_return resetf stepf outf new copies hc hr hs

/-- per-goroutine results equal the sequential ones -/
theorem C08_results (hH : ∀ (s : S) (inp : List X), outf (inp.foldl stepf (resetf s)) = outf (inp.foldl stepf (resetf new)))
    {σ : State X S R} (h : Reachable resetf stepf outf new copies σ) (g : Nat) :
    σ.res g = (σ.calls g).map (seq resetf stepf outf new) :=
  results_sequential resetf stepf outf new copies hH h g

end

/-- **Not copying out: a schedule of two goroutines in which a buffer that was returned to one
caller is overwritten by the other's call.** Goroutine 0: get (new instance 0), finish, put,
return instance 0's buffer. Goroutine 1: get instance 0 from the pool, work — a write to the
buffer goroutine 0's caller holds. -/
theorem C08_alias_witness :
    ∃ (σ σ' : State Unit Unit Unit) (l : Loc),
      Reachable (fun s => s) (fun s _ => s) (fun s => s) () false σ ∧
      Step (fun s => s) (fun s _ => s) (fun s => s) () false σ (.write l) σ' ∧ l ∈ σ.held ∧
      (∀ g, 2 ≤ g → σ.pcs g = .idle ∧ σ.res g = []) := by
  have r0 : Reachable (X := Unit) (S := Unit) (R := Unit) (fun s => s) (fun s _ => s) (fun s => s) () false (init ()) := .init
  have r1 := Reachable.step r0 (Step.getNew _ 0 [] rfl)
  have r2 := Reachable.step r1 (Step.finish _ 0 0 [] rfl)
  have r3 := Reachable.step r2 (Step.putAlias _ 0 0 [] () rfl rfl)
  have r4 := Reachable.step r3 (Step.ret _ 0 (.inst 0) [] () rfl)
  have r5 := Reachable.step r4 (Step.getPool _ 1 0 [()] rfl (by simp))
  refine ⟨_, _, .inst 0, r5, Step.work _ 1 0 [] [] () rfl, by simp, ?_⟩
  intro g hg
  have h0 : g ≠ 0 := by omega
  have h1 : g ≠ 1 := by omega
  simp [upd, init, h0, h1]

/- The witness respects `C08_owner`: at the time of the write instance 0 is held by goroutine 1
alone — goroutine 0's caller holds the BUFFER, not the instance. -/

/-- the hypotheses of `C08_return` are met by real runs: with copying, goroutine 0 has returned its
private copy (so `held` is not empty) and goroutine 1, handed the same instance, writes its buffer -/
example :
    ∃ (σ σ' : State Unit Unit Unit) (l : Loc),
      Reachable (fun s => s) (fun s _ => s) (fun s => s) () true σ ∧
      Step (fun s => s) (fun s _ => s) (fun s => s) () true σ (.write l) σ' ∧ σ.held = [.priv 0] := by
  have r0 : Reachable (X := Unit) (S := Unit) (R := Unit) (fun s => s) (fun s _ => s) (fun s => s) () true (init ()) := .init
  have r1 := Reachable.step r0 (Step.getNew _ 0 [] rfl)
  have r2 := Reachable.step r1 (Step.finish _ 0 0 [] rfl)
  have r3 := Reachable.step r2 (Step.copy _ 0 0 [] () rfl rfl)
  have r4 := Reachable.step r3 (Step.putCopied _ 0 0 0 [] () rfl)
  have r5 := Reachable.step r4 (Step.ret _ 0 (.priv 0) [] () rfl)
  have r6 := Reachable.step r5 (Step.getPool _ 1 0 [()] rfl (by simp))
  exact ⟨_, _, .inst 0, r6, Step.work _ 1 0 [] [] () rfl, rfl⟩

/-! Results of the pooled parser functions: C07 discharges the hypothesis of `C08_results`.
A "work" step is one entry-point call (`entryReset` of the generated fields, then the machine over
the call's chunks); what the call leaves in the instance is an arbitrary function `left`. -/

section
open OjgVerif.Json

variable (T : Tables) (cfg : Cfg) (fs : List Field) (left : St → List Bytes → St)

/-- a pooled parser instance: the machine state and the result of the last call, read off it. Not `Reuse.PSt` (the
pretty.Writer state of `Reuse/Model.lean`), which this name hides inside the namespace. -/
abbrev PSt := St × Option (Except Err (List JV))

def pstep (s : PSt) (chunks : List Bytes) : PSt :=
  (left s.1 chunks, some (runFrom T cfg (entryReset fs s.1) chunks))

/-- what is read off the instance after a goroutine's calls: `run` of its last input -/
theorem pstep_last (hT : TablesOK T) (hfs : C07.covers fs = true) (s : St) (inp : List (List Bytes)) :
    (inp.foldl (pstep T cfg fs left) (s, none)).2 = inp.getLast?.map (run T cfg) := by
  rcases List.eq_nil_or_concat inp with rfl | ⟨init, x, rfl⟩
  · rfl
  · simp only [List.concat_eq_append, List.foldl_append, List.foldl_cons, List.foldl_nil, pstep,
      List.getLast?_append, List.getLast?_singleton, Option.some_or, Option.map_some,
      C07.noninterference hT cfg fs hfs]

/-- **Every result a goroutine receives from a pooled parser call is `Json.run` of its own input**
(the last call made while holding the instance), whatever the other goroutines do and whatever
earlier calls left in the instance — for any tables that pass `TablesOK` and any reset list that covers
`C07.liveAtEntry`. -/
theorem C08_results_parsers (hT : TablesOK T) (hfs : C07.covers fs = true) (copies : Bool)
    {σ : State (List Bytes) PSt (Option (Except Err (List JV)))}
    (h : Reachable (fun s => (s.1, none)) (pstep T cfg fs left) (·.2) (({} : St), none) copies σ) (g : Nat) :
    σ.res g = (σ.calls g).map fun inp => (inp.getLast?).map (run T cfg) := by
  rw [results_sequential _ _ _ _ copies (fun s inp => (pstep_last T cfg fs left hT hfs s.1 inp).trans
    (pstep_last T cfg fs left hT hfs {} inp).symm) h g]
  exact List.map_congr_left fun inp _ => pstep_last T cfg fs left hT hfs {} inp

/-- oj tables (oj.Parse, oj.Load, …: the pooled oj.Parser), any covering reset list -/
theorem C08_results_ojTables (cfg : Json.Cfg) (fs : List Field) (left : Json.St → List Bytes → Json.St)
    (hfs : C07.covers fs = true) (copies : Bool)
    {σ : State (List Bytes) PSt (Option (Except Json.Err (List JV)))}
    (h : Reachable (fun s => (s.1, none)) (pstep Json.ojTables cfg fs left) (·.2) (({} : Json.St), none) copies σ) (g : Nat) :
    σ.res g = (σ.calls g).map fun inp => (inp.getLast?).map (Json.run Json.ojTables cfg) :=
  C08_results_parsers Json.ojTables cfg fs left C01.ojTables_ok hfs copies h g

/-- gen tables (gen.Parser) -/
theorem C08_results_genTables (cfg : Json.Cfg) (fs : List Field) (left : Json.St → List Bytes → Json.St)
    (hfs : C07.covers fs = true) (copies : Bool)
    {σ : State (List Bytes) PSt (Option (Except Json.Err (List JV)))}
    (h : Reachable (fun s => (s.1, none)) (pstep Json.genTables cfg fs left) (·.2) (({} : Json.St), none) copies σ) (g : Nat) :
    σ.res g = (σ.calls g).map fun inp => (inp.getLast?).map (Json.run Json.genTables cfg) :=
  C08_results_parsers Json.genTables cfg fs left C01.genTables_ok hfs copies h g

/-- **no hypothesis left**: for every generated entry point of the strict-JSON front-ends and every
call site of its buffer function, with the tables of its package and the fields the source resets
there — every result a goroutine receives through the pool protocol is `Json.run` of its own input -/
theorem C08_results_entries (e : Gen.ReuseFacts.Entry) (he : e ∈ C07.parserEntries)
    (st : Gen.ReuseFacts.Site) (hst : st ∈ e.sites)
    (cfg : Json.Cfg) (left : Json.St → List Bytes → Json.St) (copies : Bool)
    {σ : State (List Bytes) PSt (Option (Except Json.Err (List JV)))}
    (h : Reachable (fun s => (s.1, none))
      (pstep (C07.tablesOf e.recv) cfg (resetFields e.recv st.assigned) left) (·.2) (({} : Json.St), none) copies σ)
    (g : Nat) :
    σ.res g = (σ.calls g).map fun inp => (inp.getLast?).map (Json.run (C07.tablesOf e.recv) cfg) :=
  C08_results_parsers _ cfg _ left (C07.tablesOf_ok e.recv) (C07.site_covers he hst) copies h g

end

open OjgVerif.Gen.ReuseFacts

/-- the API hands out a copy (or no buffer at all), not the pooled instance's own buffer -/
def copiesOut (p : Pooled) : Bool := p.result != "alias"

/-- the pooled functions we claim are all there, every one of them puts its instance back in a
deferred call (also when the call panics), and each result was classified -/
theorem pooled_present :
    (["oj.Parse", "oj.MustParse", "oj.ParseString", "oj.MustParseString", "oj.Load", "oj.MustLoad",
      "oj.JSON", "oj.Marshal", "oj.Write", "sen.Parse", "sen.MustParse", "sen.ParseReader",
      "sen.MustParseReader", "sen.String", "sen.Bytes", "sen.Write"].all (pooled.map (·.name)).contains &&
     pooled.all (·.deferredPut) &&
     pooled.all fun p => ["copy", "alias", "value"].contains p.result) = true := by decide

/-- the source as it is (fix 8ba4b2d: `sen.Bytes` copies on the pooled path): every pooled function
hands out a copy or no buffer at all. Re-evaluated over the regenerated list; on the source before
the fix `sen.Bytes` is classified "alias" and this proof fails. -/
theorem pooled_all_copy_out : pooled.all copiesOut = true := by decide

/-- **C08 per pooled API** (repaired code): whatever the interleaving, no step of any goroutine
writes a location that one of these functions returned to a caller. -/
theorem C08_pooled_apis (p : Pooled) (hp : p ∈ pooled)
    {X S R : Type} (resetf : S → S) (stepf : S → X → S) (outf : S → R) (new : S) {σ σ' : State X S R} {l : Loc}
    (hr : Reachable resetf stepf outf new (copiesOut p) σ)
    (hs : Step resetf stepf outf new (copiesOut p) σ (.write l) σ') : l ∉ σ.held := by
  have h := pooled_all_copy_out
  simp only [List.all_eq_true] at h
  exact no_write_after_return resetf stepf outf new _ (h p hp) hr hs

/-- the code before 8ba4b2d (known finding C08-sen-bytes-pooled, fixed by that commit): an API that returns the
pooled instance's own buffer — two goroutines overwrite it (`C08_alias_witness`) -/
theorem C08_pooled_apis_before :
    ∃ (σ σ' : State Unit Unit Unit) (l : Loc),
      Reachable (fun s => s) (fun s _ => s) (fun s => s) () false σ ∧
      Step (fun s => s) (fun s _ => s) (fun s => s) () false σ (.write l) σ' ∧ l ∈ σ.held := by
  obtain ⟨σ, σ', l, h1, h2, h3, _⟩ := C08_alias_witness
  exact ⟨σ, σ', l, h1, h2, h3⟩

/-- the string-returning pooled APIs (`oj.JSON`, `sen.String`) and `oj.Marshal` copy out -/
theorem string_apis_copy :
    (pooled.filter fun p => ["oj.JSON", "oj.Marshal", "sen.String"].contains p.name).all (fun p => p.result == "copy") = true := by
  decide

/-- **Struct-info caches** (oj, sen, alt): every function that touches `structMap`/`structEmptyMap`
is reachable only through a function that takes `structMut` first (`getTypeStruct`, the "non-locking
version", is only called while a plan is being built under `getSinfo`'s lock); what is touched
before the `Lock` call only copies the map variable; the map variables are never reassigned. -/
theorem caches_locked :
    (caches.map (·.pkg) == ["oj", "sen", "alt"] &&
     caches.all fun c => c.unlockedRoots.isEmpty && c.reassigned.isEmpty && c.beforeLockPlain &&
       c.lockers == ["getSinfo"]) = true := by decide

/-- **Struct-info caches and "what it returns when run alone"** (fix 8169704): the plan a write uses
for a nested struct field is the one for this call's OmitEmpty flag whatever the caches hold, i.e.
whichever goroutine cached what first (`C07.C07_struct_cache` over the regenerated
`typeStructEmpty`; before the fix: `C07.C07_struct_cache_before`). -/
theorem caches_order_free (c1 c2 : Reuse.Cache) (h1 : c1.wf) (h2 : c2.wf) (t : Nat) (om : Bool) :
    (Reuse.getTypeStruct C07.cacheSelectsByFlag c1 t om).1 = (Reuse.getTypeStruct C07.cacheSelectsByFlag c2 t om).1 :=
  C07.C07_struct_cache c1 c2 h1 h2 t om

/-- **every pooled function takes ONE instance and gives it back exactly ONCE on every path**: one
`Get`; one `defer pool.Put(inst)` after it, a statement of the same block (it runs on return, on an
error return and on a panic alike, once it has been reached: the fact does not say that nothing
stands between the two); no other `Put` anywhere in the function — and nobody else calls
`Get`/`Put` on a pool (cross-checked with the shared-state inventory). This is the assumption
`Reuse/Pool.lean` builds in (`put` moves the instance from the goroutine to the pool);
`C08_double_put_shares_instance` shows what a second `Put` does. -/
theorem pooled_put_once :
    (pooled.all (fun p => p.gets == 1 && p.putsDefer == 1 && p.putsOther == 0) &&
     Gen.SharedState.vars.all fun v =>
       v.shape != "pool" ||
       v.writers.all fun w => (pooled.map (·.name)).contains (v.pkg ++ "." ++ w.2.1)) = true := by decide

/-- an instance that is in the pool twice (a second `Put` on some path) is handed to two goroutines:
ownership is gone after two steps -/
theorem C08_double_put_shares_instance :
    ∃ (σ1 σ2 σ3 : State Unit Unit Unit),
      σ1.pool = [0, 0] ∧ (∀ g, σ1.pcs g = .idle) ∧
      Step (fun s => s) (fun s _ => s) (fun s => s) () true σ1 .none σ2 ∧
      Step (fun s => s) (fun s _ => s) (fun s => s) () true σ2 .none σ3 ∧
      (σ3.pcs 0).inst? = some 0 ∧ (σ3.pcs 1).inst? = some 0 := by
  let σ1 : State Unit Unit Unit := { (init () : State Unit Unit Unit) with pool := [0, 0], fresh := 1 }
  refine ⟨σ1, _, _, rfl, fun _ => rfl, Step.getPool σ1 0 0 [] rfl (by simp [σ1]), Step.getPool _ 1 0 [] rfl (by simp [σ1]), rfl, rfl⟩

/-- **a shared Expr / Script / Filter is read-only during evaluation**: in the methods of package jp
reached from the exported methods of Expr, Script, Filter and the fragment types (call graph by
name; the path/script parsers and the Match token handler are private to a call) there is NO
assignment through the receiver — no `s.f = …`, `s.f[i] = …`, `x[i] = …`, `copy(s.f, …)`,
`append(s.f, …)` (generated, syntactic: a write through a local ALIAS of a receiver field is not
seen; the stress run and `-race` look for those).
The conjunct `40 ≤ jpReached` — like the other lower bounds of this file on a `…Reached` count, on `optionsHolders`
and on `jpSharedParams` — is a floor against a vacuous scan: a call-graph walk that reached nothing reports no
write either. Each floor is a round number not above the generated count (`Gen/ReadOnly.lean`,
`Gen/SharedObj.lean`) and need not follow it. -/
theorem shared_expr_read_only :
    (Gen.ReadOnly.jpReceiverWrites.isEmpty && decide (40 ≤ Gen.ReadOnly.jpReached)) = true := by decide

/-- **options handed in by the caller are read-only**: no function of the root package, alt, oj, sen,
pretty, gen, jp, asm assigns through a `*Options` parameter, through the receiver of a method of
`ojg.Options`, through an element of a variadic `...*Options` or through a local alias of one of
those (or of `&DefaultOptions`); the writers copy the options (`Options: *ta`) before they set
`InitSize`/`WriteLimit` defaults (generated, syntactic) -/
theorem shared_options_read_only :
    (Gen.ReadOnly.optionsPointerWrites.isEmpty && decide (10 ≤ Gen.ReadOnly.optionsHolders)) = true := by decide

/-! `Gen.SharedState.vars` (generated) lists EVERY package-level `var` of oj, gen, sen, jp, alt, asm,
pretty and the root package with the functions that write it outside `init` (assignment through it, its address
taken, a method called on it). The table below says what each written variable is; a variable that
is written at run time and is not in the table — a new one, or a new writer of a listed one —
breaks `shared_state_classified`. Variables nobody writes after `init` are immutable as far as the
library goes; the exported ones among them (`DefaultOptions`, `gen.Sort`, `ojg.ErrorWithStack`,
`ojg.DefaultNumConvMethod` …) are configuration the CALLER may assign: doing so while other
goroutines run is outside the property. -/

inductive SharedClass where
  /-- a `sync.Pool`: only `Get`/`Put` are called on it -/
  | pool
  /-- a `sync.Mutex`: only `Lock`/`Unlock` -/
  | mutex
  /-- written only by the listed functions, all of which run under the named mutex (`caches_locked`) -/
  | guarded (mutex : String) (writers : List String)
  /-- its address is handed to functions that only read through it (hand-checked: no assignment
  through the options pointer in package alt; not a generated fact) -/
  | readOnlyAddr (fns : List String)
  /-- a registry written by registration functions, unguarded BY DESIGN: `documented` says whether the
  doc comment tells the caller to register before sharing. Not among the calls C08 quantifies over. -/
  | registration (writers : List String) (documented : Bool)
  deriving DecidableEq, Repr

/-- what every run-time-written package variable is -/
def sharedTable : List ((String × String) × SharedClass) := [
  (("oj", "parserPool"), .pool), (("oj", "writerPool"), .pool), (("oj", "marshalPool"), .pool),
  (("sen", "parserPool"), .pool), (("sen", "writerPool"), .pool),
  (("oj", "structMut"), .mutex), (("sen", "structMut"), .mutex), (("alt", "structMut"), .mutex),
  (("oj", "structMap"), .guarded "structMut" ["buildStruct"]), (("oj", "structEmptyMap"), .guarded "structMut" ["buildStruct"]),
  (("sen", "structMap"), .guarded "structMut" ["buildStruct"]), (("sen", "structEmptyMap"), .guarded "structMut" ["buildStruct"]),
  (("alt", "structMap"), .guarded "structMut" ["buildStruct"]), (("alt", "structEmptyMap"), .guarded "structMut" ["buildStruct"]),
  (("alt", "DefaultOptions"), .readOnlyAddr ["Alter", "Decompose", "GenAlter", "Generify"]),
  -- "Note that this should not be shared across go routines unless all types that will be used are
  -- registered first" (alt/recomposer.go): Recompose registers unknown types on the fly
  (("alt", "DefaultRecomposer"), .registration ["Recompose", "MustRecompose"] true),
  -- jp.RegisterUnaryFunction / RegisterBinaryFunction write the operator table the script parser reads;
  -- the doc comments do not say "register before use" (observation, reported; not a C08 call)
  (("jp", "opMap"), .registration ["RegisterUnaryFunction", "RegisterBinaryFunction"] false),
  -- asm.Define: same, package asm is not in C08's scope
  (("asm", "fnMap"), .registration ["Define"] false)
]

def classOK (v : Gen.SharedState.PkgVar) : SharedClass → Bool
  | .pool => v.shape == "pool" && v.writers.all fun w => w.1 == "call" && (w.2.2 == "Get" || w.2.2 == "Put")
  | .mutex => v.shape == "mutex" && v.writers.all fun w => w.1 == "call" && (w.2.2 == "Lock" || w.2.2 == "Unlock")
  | .guarded m ws =>
    v.writers.all (fun w => w.1 == "assign" && ws.contains w.2.1) &&
    Gen.SharedState.vars.any (fun u => u.pkg == v.pkg && u.name == m && u.shape == "mutex")
  | .readOnlyAddr fns => v.writers.all fun w => w.1 == "addr" && fns.contains w.2.1
  | .registration ws _ => v.writers.all fun w => ws.contains w.2.1

/-- **every package-level variable that is written at run time is accounted for**: a pool, a mutex,
a cache written only under its mutex, an options value only read through its address, or one of
the three registries that are unguarded by design (kernel-evaluated over the regenerated
inventory) -/
theorem shared_state_classified :
    (Gen.SharedState.vars.all fun v =>
      v.writers.isEmpty ||
      match sharedTable.lookup (v.pkg, v.name) with
      | some c => classOK v c
      | none => false) = true := by decide

/-- the inventory is not empty-handed: it holds variables of every scanned package but `pretty`
(which declares none, so nothing here shows that it was scanned), and the pools, caches and
registries named in the property are found by it with their writers -/
theorem shared_state_present :
    (["oj", "gen", "sen", "jp", "alt", "asm", "pretty", "ojg"].all (fun p => p == "pretty" || Gen.SharedState.vars.any (·.pkg == p)) &&
     sharedTable.all fun e => Gen.SharedState.vars.any fun v => (v.pkg, v.name) == e.1 && !v.writers.isEmpty) = true := by
  decide

/-! The recomposer, "a recomposer whose types were registered beforehand".
Registering a struct type registers the struct types its fields hold as well; `Recompose` on a
shared Recomposer then only reads the registry. The container kinds the field walk of
`registerComposer` follows (`recomposerWalkKinds`, the case labels of its `switch ft.Kind()`) and
whether the step is repeated for containers of containers (`recomposerWalkLoops`) are read from the
source. -/

/-- the walk follows this container kind (generated) -/
def walkFollows (k : Reuse.Reg.CKind) : Bool := recomposerWalkKinds.contains k.goName

/-- **every container kind — pointer, slice, map, ARRAY — is followed by the field walk**
(kernel-evaluated over the regenerated case labels; dropping a kind from the
`case reflect.Array, reflect.Slice, reflect.Map, reflect.Ptr:` line breaks this proof), the only
writers of the registry are the register functions, and the only place that registers on the fly
is `recomp` (which is why an unreached type means a write during `Recompose`) -/
theorem recomposer_walk_kinds :
    (Reuse.Reg.CKind.all.all walkFollows &&
     recomposerWriters.all (fun w => ["alt.Recomposer.RegisterUnmarshalerComposer", "alt.Recomposer.registerAnyComposer",
       "alt.Recomposer.registerComposer"].contains w) &&
     recomposerLazyCallers == ["alt.Recomposer.recomp"]) = true := by decide

theorem walkFollows_all (k : Reuse.Reg.CKind) : walkFollows k = true := by
  have h := recomposer_walk_kinds
  simp only [Bool.and_eq_true, List.all_eq_true] at h
  exact h.1.1 k (by cases k <;> decide)

/-- fields that hold struct types directly or behind ONE container: no registry write on `Recompose`,
for the single-step walk (the code before a720b7c) and for the repeated one alike -/
theorem C08_registry_closed (reg : List Nat) (t : Reuse.Reg.TyDecl) (ht : ∀ f ∈ t.fields, f.1.length ≤ 1) :
    Reuse.Reg.lazyWrites (Reuse.Reg.register walkFollows recomposerWalkLoops reg t) t = [] :=
  Reuse.Reg.closed_one_level walkFollows walkFollows_all _ reg t ht

/-- the walk repeats its step until the type is no container (generated; fix a720b7c). On the source
before the fix (a single `switch` step) the fact is `false` and this proof fails. -/
theorem walk_loops : recomposerWalkLoops = true := by decide

/-- the repeated walk: closed for every struct type -/
theorem C08_registry_closed_repaired (reg : List Nat) (t : Reuse.Reg.TyDecl) :
    Reuse.Reg.lazyWrites (Reuse.Reg.register walkFollows true reg t) t = [] :=
  Reuse.Reg.closed_loop walkFollows walkFollows_all reg t

/-- **The full statement of the model, for the code as it is**: after a struct type has been registered,
recomposing a value of it performs no registry write. Quantified over every `TyDecl` of
`Reuse/Registry.lean`, i.e. any number of fields, each holding a struct type behind ANY path of
container kinds (any depth, any mix of pointer / slice / map / array: `[][]T`, `map[string][]T`,
`*[2]T`, `***T` …). It is NOT a statement over Go types: the model has one application of the walk
(the struct types held by the fields have no struct fields of their own — the recursion of
`registerComposer` over nested structs is exercised by the harness only, types `RMid`/`RLeaf*`),
and map KEY types, embedded and unexported fields, interface-typed fields and anonymous struct types
are outside it. -/
theorem C08_registry_full (reg : List Nat) (t : Reuse.Reg.TyDecl) :
    Reuse.Reg.lazyWrites (Reuse.Reg.register walkFollows recomposerWalkLoops reg t) t = [] := by
  rw [walk_loops]
  exact C08_registry_closed_repaired reg t

/-- the code before a720b7c (known finding C08-registry-nested-containers, fixed by that commit): with a single
step the statement is false — a field `LL [][]T`: `T` was registered by the first `Recompose`
calls, a write to `r.composers` other goroutines read -/
theorem C08_registry_full_before :
    ¬ ∀ (reg : List Nat) (t : Reuse.Reg.TyDecl),
      Reuse.Reg.lazyWrites (Reuse.Reg.register walkFollows false reg t) t = [] := by
  intro h
  have := h [] ⟨0, [([.slice, .slice], 1)]⟩
  rw [Reuse.Reg.one_level_not_closed walkFollows walkFollows_all] at this
  cases this

/-- and each kind is needed: a walk that skips one leaves a type whose first `Recompose` calls
write the registry (for `array`: the seeded change C08-m2) -/
theorem C08_registry_needs_kind (follows : Reuse.Reg.CKind → Bool) (loops : Bool) (k : Reuse.Reg.CKind)
    (h : follows k = false) :
    Reuse.Reg.lazyWrites (Reuse.Reg.register follows loops [] ⟨0, [(Reuse.Reg.needs k, 1)]⟩)
      ⟨0, [(Reuse.Reg.needs k, 1)]⟩ = [1] :=
  Reuse.Reg.not_closed_of_skips follows loops k h

/-- instances of the hypothesis of `C08_registry_closed`: `{D T; P *T; S []T; M map[string]T; A [2]T}` -/
example : ∀ f ∈ (⟨0, [([], 1), ([.ptr], 2), ([.slice], 3), ([.map], 4), ([.array], 5)]⟩ : Reuse.Reg.TyDecl).fields,
    f.1.length ≤ 1 := by decide

/-- **Shared scripts**: no function of package jp assigns to `Script.template` or an element of it
after construction (evaluation copies the template into a per-call stack) -/
theorem script_template_immutable : scriptTemplateWriters = [] := by decide

/-! The clause "evaluate and mutate through shared jp.Expr, Filter and Script values on their own data, and
recompose with a recomposer whose types were registered beforehand … each call returns exactly what
it returns when run alone", as a property of the atomic-step model (`Reuse/Shared.lean`): an
evaluator step reads the shared object and writes only goroutine-local state. The tie to the source
is the GENERATED write inventory `Gen.SharedObj` (tools/extract/reuse_sharedobj.go): in every
function reached from the read-only entry points, every write through the receiver or through a
local that may alias memory reachable from it, with the conditions it stands under. That an entry
point whose inventory is empty IS a read-only `Entry` of the model is the trusted reading of that
inventory (syntactic, flow-insensitive, call graph by name; writes through a struct field that was
assigned an alias are not followed) — the harness' shared-object inventory stream (every ordered
pair of entry points on different data against the call on an unused object, fingerprints, all at
once under the race detector) is the run-time side of the same clause. -/

/-- **shared objects are unwritten, and every result is the result of the run alone**: for every
schedule (any interleaving of any goroutines' calls, any data) of read-only entry points of a shared
object — the object is afterwards what it was, and each goroutine's state (its results) is what its
own calls give on an object nobody else has used -/
theorem C08_shared_objects_unwritten {O D L : Type} (cs : List (Reuse.Shared.Call O D L))
    (h : ∀ c ∈ cs, c.e.ReadOnly) (σ : Reuse.Shared.St O L) :
    (Reuse.Shared.exec σ cs).obj = σ.obj ∧
    ∀ g, (Reuse.Shared.exec σ cs).loc g = (Reuse.Shared.exec σ (cs.filter fun c => c.g = g)).loc g :=
  ⟨Reuse.Shared.shared_unwritten cs h σ, fun g => Reuse.Shared.results_alone cs h σ g⟩

/-- the hypothesis is satisfiable by a non-trivial schedule: Locate by goroutine 0, Get by goroutine 1, Get by 0 -/
example : ∀ c ∈ ([⟨0, Reuse.Shared.locate, 1⟩, ⟨1, Reuse.Shared.get, 2⟩, ⟨0, Reuse.Shared.get, 3⟩] :
    List (Reuse.Shared.Call (Option Nat) Nat (Option Nat))), c.e.ReadOnly := by
  intro c hc
  simp only [List.mem_cons, List.mem_nil_iff, or_false] at hc
  rcases hc with rfl | rfl | rfl
  · exact Reuse.Shared.locate_readOnly
  · exact Reuse.Shared.get_readOnly
  · exact Reuse.Shared.get_readOnly

/-- an entry point that is NOT read-only breaks both conclusions: Locate that roots the filter of the
shared path in place (seeded change C08-m7) — goroutine 1's Get evaluates `$` against goroutine 0's
document (`some 1`), alone against its own (`some 2`) -/
theorem C08_shared_writer_witness :
    ¬ Reuse.Shared.locateInPlace.ReadOnly ∧
    (Reuse.Shared.exec ⟨none, fun _ => none⟩ [⟨0, Reuse.Shared.locateInPlace, 1⟩, ⟨1, Reuse.Shared.get, 2⟩]).loc 1 = some 1 ∧
    (Reuse.Shared.exec ⟨none, fun _ => none⟩
      ([⟨0, Reuse.Shared.locateInPlace, 1⟩, ⟨1, Reuse.Shared.get, 2⟩].filter fun c => c.g = 1)).loc 1 = some 2 :=
  ⟨Reuse.Shared.locateInPlace_not_readOnly, Reuse.Shared.rooting_writer_breaks⟩

/-- **why the rooted path must be a copy** (Go slice level, for every path, capacity and document): building the
rooted path with `rx := x[:i]` + `append` RETURNS exactly what `make` + `copy` returns — a caller looking
at its own result cannot tell — and leaves the caller-shared path itself rooted at this caller's
document; that is a change of the shared object whenever the path holds a filter not already bound to
that document -/
theorem C08_rooted_path_must_be_copied (d : Nat) (mem : List Reuse.Shared.Frag) (n : Nat) (h : n ≤ mem.length) :
    (Reuse.Shared.rootedInPlace d mem n).1 = Reuse.Shared.rootedCopy d (mem.take n) ∧
    (Reuse.Shared.rootedInPlace d mem n).2 = Reuse.Shared.rootedCopy d (mem.take n) ++ mem.drop n ∧
    (∀ r, r ≠ some d → Reuse.Shared.Frag.filter r ∈ mem.take n →
      ((Reuse.Shared.rootedInPlace d mem n).2).take n ≠ mem.take n) :=
  ⟨Reuse.Shared.rootedInPlace_result d mem n h, Reuse.Shared.rootedInPlace_mem d mem n,
   fun r hr hf => Reuse.Shared.rootedInPlace_writes_shared d mem n h r hr hf⟩

/-- the hypotheses are satisfiable: `$.items[?(@.v == $.want)].name` as parsed (length 4 = capacity), document 7 -/
example : (4 : Nat) ≤ ([.child 0, .child 1, .filter none, .child 2] : List Reuse.Shared.Frag).length ∧
    (none : Option Nat) ≠ some 7 ∧
    Reuse.Shared.Frag.filter none ∈ ([.child 0, .child 1, .filter none, .child 2] : List Reuse.Shared.Frag).take 4 := by decide

/-- the construction API of `jp.Expr` (`x.C("a").N(1)`: `return append(x, frag)`), which is not among the
read-only entry points -/
def jpBuildersExpected : List String :=
  ["A", "At", "B", "C", "Child", "D", "Descent", "F", "Filter", "N", "Nth", "R", "Root", "S", "Slice", "U", "Union", "W", "Wildcard"]

/-- **write inventory of the shared jp values** (generated): in the 100+ functions of package jp reached
from EVERY exported method of Expr, Filter, Script and the fragment types other than the path
builders (Get, First, Has, Locate, Walk, Set, Del, Remove, Modify, GetNodes, String, Match, Eval … are
among them) there is NO write through the receiver, through a parameter of a shared type (the
remaining fragments `rest Expr`, a `*Filter`, a `Frag` …; not the location paths `pp` / `path` / `cp`
a Locate / Walk call builds for its own caller) or through a local that may alias one of them —
`rx := x[:i]; rx = append(rx, f)` (C08-m7), `x[i] = …`, `f.root = …`, `copy(s.template, …)`.
`rootedFilters` builds its rooted copy with `make` + `copy` (a fresh slice) and `withRoot` returns a new
`Filter`: both are reached, and contribute nothing -/
theorem shared_jp_write_inventory :
    (Gen.SharedObj.jpSharedWrites.isEmpty && decide (100 ≤ Gen.SharedObj.jpReached) &&
     Gen.SharedObj.jpNamedEntries.all (·.2) && (Gen.SharedObj.jpBuilders == jpBuildersExpected) &&
     decide (20 ≤ Gen.SharedObj.jpSharedParams) && (Gen.SharedObj.jpPrivatePathParams == ["cp", "path", "pp"])) = true := by decide

/-- the entry points the harness' shared-object inventory runs (`harness/reuse/inventory.go`, table `invCovered`;
the harness compares that table with the method sets of the tree under test by reflection) -/
def inventoryRuns : List String :=
  ["Expr.Append", "Expr.BracketString", "Expr.Del", "Expr.DelOne", "Expr.First", "Expr.FirstFound", "Expr.FirstNode", "Expr.Get",
   "Expr.GetNodes", "Expr.Has", "Expr.Locate", "Expr.Modify", "Expr.ModifyOne", "Expr.MustDel", "Expr.MustDelOne", "Expr.MustModify",
   "Expr.MustModifyOne", "Expr.MustRemove", "Expr.MustRemoveOne", "Expr.MustSet", "Expr.MustSetOne", "Expr.Normal", "Expr.Remove",
   "Expr.RemoveOne", "Expr.Set", "Expr.SetOne", "Expr.String", "Expr.Walk", "Filter.Append", "Filter.String", "Filter.Walk",
   "Script.Append", "Script.Eval", "Script.Inspect", "Script.Match", "Script.String"]

/-- **the run-time inventory covers the entry points of the write inventory** (generated): the exported methods of
Expr, Script and Filter other than the path builders are exactly the ones the harness stream runs — a new
exported method is an entry point nobody runs until it is added to both -/
theorem shared_inventory_covers_entries : (Gen.SharedObj.jpSharedTypeEntries == inventoryRuns) = true := by decide

/-- the condition under which `registerComposer` takes its NOT-yet-registered branch -/
def freshRegistration : String := "c == nil || c.rtype != rt"

/-- a write of the recomposer inventory is accounted for: it stands in the not-yet-registered branch
(excluded by "types were registered beforehand": `C08_registry_full`), or under `if fun != nil` -/
def recomposerWriteOk (w : String × String × List String) : Bool :=
  w.1 == "alt.Recomposer.registerComposer" && (w.2.2.contains freshRegistration || w.2.2.contains "fun != nil")

/-- **write inventory of a shared Recomposer** (generated): in the methods reached from
`Recompose` / `MustRecompose` the only writes through the receiver or a registry entry
(`c := r.composers[full]`) are those of `registerComposer`; each stands in the not-yet-registered
branch or under `if fun != nil`; and every call of a register function from the reached functions
(`recomp`, the recursive field walk) passes `nil` as the function. Seeded change C08-m8 (`c.fun = fun`
unconditionally in the already-registered branch) leaves a write that is neither -/
theorem shared_recomposer_write_inventory :
    (Gen.SharedObj.recomposerSharedWrites.all recomposerWriteOk &&
     !Gen.SharedObj.recomposerSharedWrites.isEmpty &&
     Gen.SharedObj.recomposerRegisterCalls.all (fun c => c.2.1 == "registerComposer" && c.2.2.getLast? == some "nil") &&
     !Gen.SharedObj.recomposerRegisterCalls.isEmpty && decide (10 ≤ Gen.SharedObj.recomposerReached)) = true := by decide

/-- the already-registered branch of the source is the GUARDED one of the model: some write under
`fun != nil` exists outside the fresh-registration branch and none without it -/
def reRegisterGuarded : Bool :=
  (Gen.SharedObj.recomposerSharedWrites.filter fun w => !w.2.2.contains freshRegistration).all
    fun w => w.2.2.contains "fun != nil"

theorem reRegister_is_guarded : reRegisterGuarded = true := by decide

/-- **looking a registered type up does not write its entry**: what `recomp` does for a type found by
its full name (`registerComposer(rv.Type(), nil)`, the only shape the reached calls have) leaves the
entry — the registered RecomposeFunc included — as it was, so Recompose into such a value is a
read-only entry point of the model and `C08_shared_objects_unwritten` applies -/
theorem C08_registered_lookup_read_only {F : Type} (c : Reuse.Shared.Comp F) :
    Reuse.Shared.reRegister reRegisterGuarded none c = c ∧
    (Reuse.Shared.recompInto (F := F) reRegisterGuarded).ReadOnly := by
  rw [reRegister_is_guarded]
  exact ⟨rfl, Reuse.Shared.recompInto_readOnly⟩

/-- **filling a value of a type registered beforehand writes neither the registry map nor any entry**, for every
registry and whoever owns the type's short name (nobody, the type itself, a same-named type of another
package registered later): the look-up `recomp` makes, with the already-registered branch as the source
has it (`reRegisterGuarded`, generated) -/
theorem C08_registered_fill_no_write (r : Reuse.Shared.Regy) (t : Reuse.Shared.Ty) (h : r.Registered t) :
    (Reuse.Shared.lookup reRegisterGuarded r t).1 = r := by
  rw [reRegister_is_guarded]
  exact Reuse.Shared.lookup_registered r t h

/-- satisfiable, with the short name owned by the other twin -/
example : Reuse.Shared.twins.Registered ⟨0, "RTwin", "reuse/RTwin"⟩ := ⟨0, ⟨0, some 9⟩, by decide, by decide, rfl⟩

/-- **"registered beforehand" is needed** (for every registry): filling a value of a struct type the registry does not
hold — neither under its full name nor, as this type, under its short name — WRITES the registry (a new entry,
two keys), whichever form the already-registered branch has: the clause of the property is not decoration -/
theorem C08_unregistered_fill_writes (g : Bool) (r : Reuse.Shared.Regy) (t : Reuse.Shared.Ty) (h : r.Unregistered t)
    (hs : ∀ i c, r.find t.short = some i → r.ents[i]? = some c → c.rtype ≠ t.id) :
    (Reuse.Shared.lookup g r t).1.ents.length = r.ents.length + 1 ∧ (Reuse.Shared.lookup g r t).1 ≠ r :=
  Reuse.Shared.lookup_unregistered_writes g r t h hs

/-- satisfiable: a type the twins registry has never seen -/
example : Reuse.Shared.twins.Unregistered ⟨7, "Other", "pkg/Other"⟩ ∧
    (∀ i c, Reuse.Shared.twins.find "Other" = some i → Reuse.Shared.twins.ents[i]? = some c → c.rtype ≠ 7) := by
  constructor <;> (intro i c hf; simp [Reuse.Shared.Regy.find, Reuse.Shared.twins, List.lookup] at hf)

/-- seeded change C08-m8 at this level: the same look-up without the guard wipes the shadowed type's function -/
theorem C08_registered_fill_unguarded_witness :
    (Reuse.Shared.lookup false Reuse.Shared.twins ⟨0, "RTwin", "reuse/RTwin"⟩).1.ents = [⟨0, none⟩, ⟨1, none⟩] ∧
    (Reuse.Shared.lookup true Reuse.Shared.twins ⟨0, "RTwin", "reuse/RTwin"⟩).1 = Reuse.Shared.twins :=
  Reuse.Shared.lookup_unguarded_loses_fn

/-- without the guard (seeded change C08-m8) the registered function is lost: after goroutine 0's
Recompose into its own value goroutine 1's create-keyed map is no longer built by it -/
theorem C08_reregister_unguarded_witness :
    Reuse.Shared.reRegister false none (Reuse.Shared.Comp.mk (some ())) = Reuse.Shared.Comp.mk none ∧
    (Reuse.Shared.exec ⟨Reuse.Shared.Comp.mk (some ()), fun _ => none⟩
      [⟨0, Reuse.Shared.recompInto false, 1⟩, ⟨1, Reuse.Shared.recompCreate, 2⟩]).loc 1 = some (2, false) ∧
    (Reuse.Shared.exec ⟨Reuse.Shared.Comp.mk (some ()), fun _ => none⟩
      ([⟨0, Reuse.Shared.recompInto false, 1⟩, ⟨1, Reuse.Shared.recompCreate, 2⟩].filter fun c => c.g = 1)).loc 1 = some (2, true) :=
  ⟨rfl, Reuse.Shared.unguarded_reRegister_breaks⟩

/-- **write inventory of a shared Converter** (generated): `(*Converter).Convert` and what it reaches write nothing
through the receiver (the conversion functions are only ranged over; the caller's own data is converted in place) -/
theorem shared_converter_write_inventory :
    (Gen.SharedObj.converterSharedWrites.isEmpty && decide (2 ≤ Gen.SharedObj.converterReached)) = true := by decide

/-- finding C08-asm-plan-lazy-compile: `true` is the source up to 4f445c7, `false` the source since that commit
(notes/proposed_fixes/C08_asm_plan_lazy_compile.md) — the lists below must be empty -/
def planLazyCompile : Bool := false

/-- **a compiled asm.Plan** (generated; asm.Plan is not named in C08's statement; regression tripwire for fix 4f445c7,
written for both values of the flag `planLazyCompile`; with `false`: NO write into an executing plan).
Before the fix: `(*Fn).compile` is
called by the constructor `NewPlan`, by itself, and — DURING evaluation — by `evalValue`; the
functions other than `NewPlan` that give a Fn an argument list that is a SLICE of somebody else's list
instead of a copy are exactly `evalValue` (`af.Args = tv[1:]`) and `(*Fn).compile` (`af.Args = list[1:]`):
the compile that follows writes into the plan being executed (the finding). With the fix both lists are
copies and the list of aliases outside `NewPlan` is empty. The same finding from the general write inventory
(`asmSharedWrites`): in the 40+ functions reached from the `Eval` functions and `(*Plan).Execute` the ONLY write into
the plan — through the argument parameters `args` / `arg` / `value`, an alias of them, or a receiver-writing method
called on a local that holds such an alias in a field — is `af.compile()` in `evalValue` -/
theorem shared_plan_lazy_compile :
    ((Gen.SharedObj.asmCompileCallers == ["Fn.compile", "NewPlan", "evalValue"]) &&
     ((Gen.SharedObj.asmArgsAliases.filter fun a => a.1 != "NewPlan") ==
        (if planLazyCompile then [("Fn.compile", "af.Args", "list[1:]"), ("evalValue", "af.Args", "tv[1:]")] else [])) &&
     decide (40 ≤ Gen.SharedObj.asmEvalReached) &&
     (Gen.SharedObj.asmSharedWrites ==
        (if planLazyCompile then [("asm.evalValue", "af.compile() with af.Args an alias of the plan's list", [])] else []))) = true := by
  decide

end OjgVerif.C08
