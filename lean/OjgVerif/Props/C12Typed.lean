import OjgVerif.Props.C12
/-! # C12 — typed Go operands, the comparability test of `sameValue`, the bare/multi/normal decision

Operands may be typed Go values as the script code sees them (`Val.ext`, `Script/Num.lean`: a dynamic type,
whether that type is comparable, the value's `==` class, and what normalisation makes of it). Every theorem of
`Props/C12.lean` is stated for ALL `Val` and therefore covers typed containers (`[]int`, `map[string]int`, a
struct with a slice field, `gen.Array`, …), comparable typed scalars (named int/string types, arrays, pointers)
and the normalised kinds (int8 … uint64, float32, gen scalars). What is specific to them is here: the comparison
behind a guard on the left operand, with the fault of the raw `==` as an explicit outcome — `sameValue` (the comparison
between 0a3fd2c and 6d0c31a: reflect `Comparable()` on the left operand's type, then raw `==`) reaches the fault
exactly on the values of finding C12-iface-field-panic, `sameValueFix` (the code since 6d0c31a, `sameHolder`) is
total, and a guard is safe EXACTLY when it catches every uncomparable kind (`guard_total_iff`; a fixed type list
does not); `==`/`!=`/`in` on typed containers and typed scalars, and normalisation; the bare → multi → normal order
of `evalWithRoot`'s verdict with the existence rule for a filter that is only a path, and that testing multi first
(seeded change C12-m8) gives a different verdict. -/
namespace OjgVerif.C12
open OjgVerif.Script

/-- `evalWithRoot` decides the verdict by `if bare {existence} else if multi {expansion} else {evalStack}`, in
this order (regenerated from jp/script.go; an if-chain or a tagless switch is read alike) — the order
`matchElem` has -/
theorem verdict_order_ok :
    Gen.Script.verdictBranches = [("bare", "existence"), ("multi", "expand"), ("else", "eval")] := by decide

/-- `sameValue` tests `!lt.Comparable()` on `lt := reflect.TypeOf(left)` (→ `return false`), contains no type
switch or type assertion (no list of types), and a raw `left == right` after the guard — the guard that
`Script.sameValue` and `Script.sameValueFix` share -/
theorem same_value_shape_ok :
    Gen.Script.svReflectGuard = true ∧ Gen.Script.svTypeTests = 0 ∧ 1 ≤ Gen.Script.svRawEq := by decide

/-- which constructor of `Script.Core` a Go type of the normalisation switch corresponds to -/
def coreOfType : String × String → Option String
  | ("int", "int64") | ("int8", "int64") | ("int16", "int64") | ("int32", "int64") => some "sint"
  | ("uint", "int64") | ("uint8", "int64") | ("uint16", "int64") | ("uint32", "int64") | ("uint64", "int64") => some "uint"
  | ("float32", "float64") => some "f32"
  | ("gen.Bool", "bool") => some "gbool"
  | ("gen.String", "string") => some "gstr"
  | ("gen.Int", "int64") => some "gint"
  | ("gen.Float", "float64") => some "gflt"
  | _ => none

/-- the `Normalize:` switch of `evalWithRoot` and the function `normalize` convert the same fourteen types in
the same way, each is a constructor of `Core` with the conversion `Val.norm` has (`int64(x)` for every integer
width incl. the wrapping unsigned ones, `float64(x)`, `bool(x)`, `string(x)`), and every constructor occurs -/
theorem normalize_types_ok :
    Gen.Script.normSwitch = Gen.Script.normFn ∧
    (Gen.Script.normSwitch.map coreOfType).all Option.isSome = true ∧
    (Gen.Script.normSwitch.map coreOfType).eraseDups =
      [some "sint", some "uint", some "f32", some "gbool", some "gstr", some "gint", some "gflt"] ∧
    Gen.Script.normSwitch.length = 14 := by decide

/-- a typed value is well formed when "`==` is safe on it" implies "its type is comparable" (true of every Go
value) -/
def wfExt : Val → Bool
  | .ext e => !e.cmp || e.tcmp
  | _ => true

/-- raw Go `==` is the interface comparison of the code before 0a3fd2c -/
theorem goEq_pinned (l r : Val) : goEq l r = ifaceEq Dev.pinned l r := by
  cases l <;> cases r <;> rfl

theorem goEq_eq (l r : Val) :
    goEq l r = if sameContainer l r then .error .uncomparable else .ok (Spec.same l r) := by
  rw [goEq_pinned, ifaceEq_eq]
  simp [Dev.faultFlag, Dev.pinned]

theorem eqSafe_eq (v : Val) : eqSafe v = !isContainer v := by
  cases v <;> simp [eqSafe, isContainer, isArr, isObj, isUExt]

/-- the model's interface comparison IS raw `==` before 0a3fd2c, `sameValue` (reflect guard on the TYPE of the
left operand, then raw `==`) between 0a3fd2c and 6d0c31a, and `sameValueFix` (the repair of
C12-iface-field-panic) since 6d0c31a -/
theorem ifaceEq_eq_sameValue (d : Dev) (l r : Val) (hl : wfExt l = true) :
    ifaceEq d l r = if d.uncmp then goEq l r else if d.ifaceTrap then sameValue l r else sameValueFix l r := by
  rcases d with ⟨u, q, v, t⟩
  simp only [ifaceEq_eq, sameValue, sameValueFix, goEq_eq, eqSafe_eq, Dev.faultFlag]
  cases hc : isContainer l
  · -- a well-formed value on which `==` is safe has a comparable type, and is in no uncomparable pair
    have hcmp : comparable l = true := by cases l <;> simp_all [isContainer, isArr, isObj, isUExt, wfExt, comparable]
    simp [sameContainer_noncontainer l r hc, hcmp]
  · -- a container equals nothing; the reflect guard and `passesGuard` test the same thing on it
    have hg : passesGuard l = comparable l := by cases l <;> simp_all [isContainer, isArr, isObj, isUExt, passesGuard, comparable]
    simp only [same_of_container l r hc, hg]
    cases u <;> cases t <;> cases comparable l <;> cases sameContainer l r <;> rfl

/-- raw Go `==` faults exactly on two operands of the same uncomparable dynamic type — two `[]any`, two
`map[string]any`, two typed values of one kind on which `==` is unsafe -/
theorem goEq_fault_iff (l r : Val) : (∃ f, goEq l r = .error f) ↔ sameContainer l r = true := by
  rw [goEq_eq]
  cases sameContainer l r <;> simp

/-- a guarded comparison with an arbitrary guard -/
def sameValueBy (guard : Val → Bool) (l r : Val) : Except Fault Bool :=
  if guard l then .ok false else goEq l r

theorem sameValue_eq_by : sameValue = sameValueBy (fun v => !comparable v) := rfl
theorem sameValueFix_eq_by : sameValueFix = sameValueBy (fun v => !comparable v || !eqSafe v) := rfl

theorem sameValueBy_ok (guard : Val → Bool) (l r : Val) (h : isContainer l = true → guard l = true) :
    ∃ b, sameValueBy guard l r = .ok b := by
  unfold sameValueBy
  cases hg : guard l
  · have hl : isContainer l = false := Bool.eq_false_iff.2 fun hc => by rw [h hc] at hg; cases hg
    exact ⟨_, by rw [goEq_eq, sameContainer_noncontainer l r hl]; rfl⟩
  · exact ⟨false, rfl⟩

/-- A guard makes the comparison total EXACTLY when it catches every kind of left operand on which `==` is
unsafe. -/
theorem guard_total_iff (guard : Val → Bool) :
    (∀ l r, ∃ b, sameValueBy guard l r = .ok b) ↔ ∀ l, isContainer l = true → guard l = true := by
  refine ⟨fun h l hl => ?_, fun h l r => sameValueBy_ok guard l r (h l)⟩
  -- an unguarded container compared with itself reaches the raw `==`
  have hs : sameContainer l l = true := by
    cases l with
    | arr _ | obj _ => rfl
    | ext a => simpa [isContainer, isArr, isObj, isUExt, sameContainer, sameUExt] using hl
    | _ => cases hl
  obtain ⟨b, hb⟩ := h l l
  cases hg : guard l
  · simp [sameValueBy, hg, goEq_eq, hs] at hb
  · rfl

def sameValue_total_full : Prop := ∀ l r, ∃ b, sameValue l r = .ok b

/-- finding C12-iface-field-panic: the reflect guard looks at the TYPE; a value whose type is comparable
although `==` on it is unsafe (`struct{X any}{[]int{1}}`) reaches the raw `==` -/
theorem sameValue_total_full_false : ¬ sameValue_total_full := by
  intro h
  rw [sameValue_total_full, sameValue_eq_by, guard_total_iff] at h
  have := h trapVal rfl
  simp [comparable, trapVal] at this

/-- behind the reflect guard the fault of the raw `==` is unreachable for every left operand whose type
comparability tells the truth about `==` (everything but the values of that finding): JSON-like values, typed
containers, typed scalars, pointers, arrays and structs without interface-typed fields -/
theorem sameValue_total_partial (l r : Val) (hl : isContainer l = true → comparable l = false) :
    ∃ b, sameValue l r = .ok b :=
  sameValueBy_ok (fun v => !comparable v) l r fun hc => by rw [hl hc]; rfl

example : isContainer (.ext ⟨40, false, 0, .none, false⟩) = true → comparable (.ext ⟨40, false, 0, .none, false⟩) = false := fun _ => rfl

/-- as the code compares since 6d0c31a, the comparison is total for ALL operands -/
theorem sameValueFix_total (l r : Val) : ∃ b, sameValueFix l r = .ok b := by
  rw [sameValueFix_eq_by]
  exact sameValueBy_ok _ l r fun hl => by simp [eqSafe_eq, hl]

/-- `sameValueFix` computes the specified same-kind equality -/
theorem sameValueFix_spec (l r : Val) (hl : wfExt l = true) : sameValueFix l r = .ok (Spec.same l r) := by
  have := ifaceEq_eq_sameValue Dev.fixed l r hl
  rw [ifaceEq_fixed] at this
  simpa [Dev.fixed] using this.symm

/-- `sameValue`, the comparison before 6d0c31a, computes the specified same-kind equality outside the class of
finding C12-iface-field-panic -/
theorem sameValue_spec (l r : Val) (hl : wfExt l = true) (ht : isContainer l = true → comparable l = false) :
    sameValue l r = .ok (Spec.same l r) := by
  rw [← sameValueFix_spec l r hl]
  unfold sameValue sameValueFix
  cases hc : comparable l
  · rfl
  · have : isContainer l = false := Bool.eq_false_iff.2 fun hi => by rw [ht hi] at hc; cases hc
    simp [eqSafe_eq, this]

/-- the guard of the seeded change C12-m7: a fixed list of container types (`[]any`, `map[string]any`; the
`gen` containers are typed values here) -/
def typeListGuard (v : Val) : Bool := isArr v || isObj v

/-- the comparison behind `typeListGuard` is not total: two values of one uncomparable typed kind (two `[]int`)
reach the raw `==` -/
theorem type_list_guard_faults :
    ¬ ∀ l r, ∃ b, sameValueBy typeListGuard l r = .ok b := by
  rw [guard_total_iff]
  intro h
  have := h (.ext ⟨40, false, 0, .none, false⟩) rfl
  simp [typeListGuard, isArr, isObj] at this

/-- `==` on a container of any kind — in particular a typed container against itself — is `false`, `!=` is
`true`, for the current code (since 6d0c31a also for a struct/array holding a slice in an interface field);
never a fault -/
theorem eq_neq_container (rx : RxEngine) (l r : Val) (hl : isContainer l = true) :
    evalOp Dev.current rx .eq l r = .ok (.bool false) ∧ evalOp Dev.current rx .neq l r = .ok (.bool true) := by
  -- a container is the same value as nothing, and it is no number
  have hc : crossEq Dev.fixed l r = false := by cases l <;> first | rfl | exact Bool.noConfusion hl
  rw [current_vs_fixed, evalOp_eq_eq, evalOp_neq_eq, ifaceEq_fixed, same_of_container l r hl, hc]
  exact ⟨rfl, rfl⟩

example : isContainer (.ext ⟨40, false, 0, .none, false⟩) = true ∧ isContainer trapVal = true := ⟨rfl, rfl⟩

/-- two typed values are equal exactly when they are the same value of the same type on which `==` is safe -/
theorem eq_typed (rx : RxEngine) (a b : Ext) :
    evalOp Dev.current rx .eq (.ext a) (.ext b) = .ok (.bool (a.ty == b.ty && a.cmp && a.id == b.id)) := by
  rw [evalOp_current rx .eq (.ext a) (.ext b)]
  rfl

/-- a typed value never equals a JSON-like value (`myInt(1) == 1` is false), in either order -/
theorem eq_typed_plain (rx : RxEngine) (a : Ext) (r : Val) (hr : ∀ b, r ≠ .ext b) :
    evalOp Dev.current rx .eq (.ext a) r = .ok (.bool false) ∧ evalOp Dev.current rx .eq r (.ext a) = .ok (.bool false) := by
  rw [evalOp_current rx .eq _ _, evalOp_current rx .eq _ _]
  cases r <;> simp_all [Spec.evalOp, Spec.eqv, Spec.num?]

example : ∀ b, Val.int 1 ≠ .ext b := by intro b h; cases h

/-- ordering, size, truth of an un-normalised typed value: always the "other kind" answer -/
theorem typed_other_kind (rx : RxEngine) (a : Ext) (r : Val) :
    evalOp Dev.current rx .lt (.ext a) r = .ok (.bool false) ∧
    evalOp Dev.current rx .lte (.ext a) r = .ok (.bool false) ∧
    evalOp Dev.current rx .gt (.ext a) r = .ok (.bool false) ∧
    evalOp Dev.current rx .gte (.ext a) r = .ok (.bool false) ∧
    evalOp Dev.current rx .length (.ext a) r = .ok .nothing ∧
    evalOp Dev.current rx .not (.ext a) r = .ok (.bool true) ∧
    evalOp Dev.current rx .exists (.ext a) (.bool true) = .ok (.bool true) :=
  ⟨rfl, rfl, rfl, rfl, rfl, rfl, rfl⟩

/-- normalisation: what a path operand of a sized number type or a gen scalar is compared as -/
theorem norm_cases (ty id : Nat) (c : Bool) :
    (Val.ext ⟨ty, c, id, .sint 5, c⟩).norm = .int 5 ∧
    (Val.ext ⟨ty, c, id, .uint 9223372036854775808, c⟩).norm = .int (-9223372036854775808) ∧
    (Val.ext ⟨ty, c, id, .f32 (.fin 3 (-1)), c⟩).norm = .flt (.fin 3 (-1)) ∧
    (Val.ext ⟨ty, c, id, .gbool true, c⟩).norm = .bool true ∧
    (Val.ext ⟨ty, c, id, .gstr [97], c⟩).norm = .str [97] ∧
    (Val.ext ⟨ty, c, id, .none, c⟩).norm = .ext ⟨ty, c, id, .none, c⟩ := by
  refine ⟨rfl, ?_, rfl, rfl, rfl, rfl⟩
  simp [Val.norm, wrap64]

/-- normalisation is idempotent and leaves JSON-like values alone -/
theorem norm_idem (v : Val) : v.norm.norm = v.norm := by
  cases v <;> try rfl
  case ext e =>
    simp only [Val.norm]
    cases h : e.core <;> simp [h]

/-- `$[?(path)]` returns, in order, exactly the elements on which the path selects something (`bare_verdict` on
every element) -/
theorem bare_filter_keeps (d : Dev) (rx : RxEngine) (p : Path) (root : Val) (xs : List Val)
    (h : ∀ e ∈ xs, NoNothing (Spec.sel p e root)) :
    filterList d rx [.path p] root xs = .ok (xs.filter fun e => !(Spec.sel p e root).isEmpty) :=
  filterList_eq_filter d rx _ root _ xs fun e he => bare_verdict d rx p e root (h e he)

/-- non-trivial instance: `@.a[*]` on `{"a":[false,null]}` selects two values, neither of them `true` -/
example : NoNothing (Spec.sel ⟨false, [.child [97], .wild]⟩ (.obj [([97], .arr [.bool false, .null])]) .null) ∧
    matchElem Dev.current rx0 [.path ⟨false, [.child [97], .wild]⟩] (.obj [([97], .arr [.bool false, .null])]) .null = .ok true := by
  refine ⟨?_, rfl⟩
  unfold NoNothing
  decide

/-- the per-element verdict with the two tests in the OTHER order (seeded change C12-m8): multi-valued
operands first, the bare test second -/
def matchElemMultiFirst (d : Dev) (rx : RxEngine) (prog : List Item) (elem root : Val) : Except Fault Bool :=
  let st := resolve elem root false prog
  if hasMulti st then tryCombos d rx st (combos st) 0
  else matchElem d rx prog elem root

/-- the order matters: on `{"a":[1,2]}` the bare filter `@.a[*]` keeps the element, the multi-first variant
drops it (no combination evaluates to `true`) -/
theorem multi_first_differs :
    ∃ prog elem, matchElem Dev.current rx0 prog elem .null = .ok true ∧
      matchElemMultiFirst Dev.current rx0 prog elem .null = .ok false :=
  ⟨[.path ⟨false, [.child [97], .wild]⟩], .obj [([97], .arr [.int 1, .int 2])], rfl, rfl⟩

/-- the two orders agree whenever the template is not a bare path, or the bare path is not multi-valued on
the element -/
theorem multi_first_same (d : Dev) (rx : RxEngine) (prog : List Item) (elem root : Val)
    (h : hasMulti (resolve elem root false prog) = false) :
    matchElemMultiFirst d rx prog elem root = matchElem d rx prog elem root := by
  simp [matchElemMultiFirst, h]

/-- a value of the finding's class: its type is comparable, `==` on it is not safe -/
def isTrap (v : Val) : Bool := passesGuard v && isContainer v

theorem devHit_before_6d0c31a (o : Op) (l r : Val) (h : isTrap l = false) : devHit Dev.before6d0c31a o l r = false := by
  have hu : (passesGuard l && uncomparablePair o l r) = false := by
    cases hp : passesGuard l
    · rfl
    · exact uncomparablePair_noncontainer o l r (by simpa [isTrap, hp] using h)
  simp [devHit, Dev.faultFlag, Dev.before6d0c31a, hu]

theorem evalOp_not_trap (rx : RxEngine) (o : Op) (l r : Val) (h : isTrap l = false) :
    isTrap (Spec.evalOp rx o l r) = false := by
  -- every operator but `group` answers a boolean, a number, a string or `Nothing`
  cases o <;> simp only [Spec.evalOp, Spec.arith, Spec.arithInt, Spec.arithFlt] <;>
    first | exact h | rfl | ((repeat' split) <;> rfl)

def noTrapTm : Tm → Bool
  | .const v => !isTrap v
  | .path _ => true
  | .app1 _ a => noTrapTm a
  | .app2 _ a b => noTrapTm a && noTrapTm b

theorem noTrapTm_clean (rx : RxEngine) (t : Tm) :
    noTrapTm t = true → isTrap (Spec.eval rx t) = false ∧ Clean Dev.before6d0c31a rx t = true := by
  induction t with
  | const v => intro h; exact ⟨by simpa [noTrapTm, Spec.eval] using h, rfl⟩
  | path p => intro _; exact ⟨rfl, rfl⟩
  | app1 o a iha =>
    intro h
    obtain ⟨h1, h2⟩ := iha h
    exact ⟨evalOp_not_trap rx o _ _ h1, by simp [Clean, h2, devHit_before_6d0c31a o _ _ h1]⟩
  | app2 o a b iha ihb =>
    intro h
    simp only [noTrapTm, Bool.and_eq_true] at h
    obtain ⟨h1, h2⟩ := iha h.1
    exact ⟨evalOp_not_trap rx o _ _ h1, by simp [Clean, h2, (ihb h.2).2, devHit_before_6d0c31a o _ _ h1]⟩

theorem norm_not_trap (v : Val) (h : isTrap v = false) : isTrap v.norm = false := by
  cases v <;> try exact h
  case ext e =>
    simp only [Val.norm]
    cases hc : e.core <;> first | rfl | (simpa [hc] using h)

/-- the data in play: no constant of the script and no value one of its paths selects is of the finding's
class (a struct/array value of comparable type holding a slice or map in an interface-typed field) -/
def noTrapIn (elem root : Val) : Tm → Prop
  | .const v => isTrap v = false
  | .path p => ∀ v ∈ Spec.sel p elem root, isTrap v = false
  | .app1 _ a => noTrapIn elem root a
  | .app2 _ a b => noTrapIn elem root a ∧ noTrapIn elem root b

theorem mem_candidates (p : Path) (elem root v : Val) (h : v ∈ Spec.candidates p elem root) :
    v = .nothing ∨ ∃ w ∈ Spec.sel p elem root, v = w.norm := by
  unfold Spec.candidates at h
  cases hs : Spec.sel p elem root with
  | nil => exact .inl (by simpa [hs] using h)
  | cons w r =>
    simp only [hs] at h
    split at h
    · exact .inr ⟨w, by simp, by simpa using h⟩
    · obtain ⟨u, hu, rfl⟩ := List.mem_map.1 h
      exact .inr ⟨u, hu, rfl⟩

theorem choices_noTrap (elem root : Val) (t : Tm) :
    noTrapIn elem root t → ∀ c ∈ Spec.choices elem root t, noTrapTm c = true := by
  induction t with
  | const v =>
    intro h c hc
    simp only [Spec.choices, List.mem_singleton] at hc
    subst hc
    simpa [noTrapTm, noTrapIn] using h
  | path p =>
    intro h c hc
    simp only [Spec.choices, List.mem_map] at hc
    obtain ⟨v, hv, rfl⟩ := hc
    rcases mem_candidates p elem root v hv with rfl | ⟨w, hw, rfl⟩
    · rfl
    · simpa [noTrapTm] using norm_not_trap w (h w hw)
  | app1 o a iha =>
    intro h c hc
    simp only [Spec.choices] at hc
    by_cases hco : o = .count
    · subst hco
      simp only [↓reduceIte] at hc
      cases a <;> (simp only [List.mem_singleton] at hc; subst hc; rfl)
    · simp only [hco, ↓reduceIte, List.mem_map] at hc
      obtain ⟨c', hc', rfl⟩ := hc
      exact iha h c' hc'
  | app2 o a b iha ihb =>
    intro h c hc
    simp only [Spec.choices, List.mem_flatMap, List.mem_map] at hc
    obtain ⟨a', ha', b', hb', rfl⟩ := hc
    simp only [noTrapTm, Bool.and_eq_true]
    exact ⟨iha h.1 a' ha', ihb h.2 b' hb'⟩

theorem noTrapIn_normalise (elem root : Val) (t : Tm) (h : noTrapIn elem root t) :
    noTrapIn elem root (Spec.normalise t) := by
  cases t with
  | path p => exact ⟨h, rfl⟩
  | const v => exact h
  | app1 o a => exact h
  | app2 o a b => exact h

/-- sufficient condition on the DATA for the hypothesis `TrapFree`: no constant of the script and no value one
of its paths selects is of the finding's class -/
theorem trapFree_of_data (rx : RxEngine) (t : Tm) (elem root : Val) (h : noTrapIn elem root t) :
    TrapFree rx t elem root :=
  fun c hc => (noTrapTm_clean rx c (choices_noTrap elem root _ (noTrapIn_normalise elem root t h) c hc)).2

/-- on data without values of the finding's class (`noTrapIn`) Script.Match of every well-formed script gives the
specified verdict before 6d0c31a too -/
theorem script_spec_before_6d0c31a_of_data (rx : RxEngine) (t : Tm) (hwf : t.wf = true) (elem root : Val)
    (h : noTrapIn elem root t) :
    matchElem Dev.before6d0c31a rx (compile true t) elem root = .ok (Spec.matches rx t elem root) :=
  script_spec_before_6d0c31a_partial rx t hwf elem root (trapFree_of_data rx t elem root h)

/-- non-trivial instance: `@.a == @.b` where both members are `[]int` (typed containers are not of the class) -/
example : noTrapIn (.obj [([97], .ext ⟨40, false, 0, .none, false⟩), ([98], .ext ⟨40, false, 1, .none, false⟩)]) .null
    (.app2 .eq (.path ⟨false, [.child [97]]⟩) (.path ⟨false, [.child [98]]⟩)) := by
  refine ⟨?_, ?_⟩ <;> intro v hv <;> cases hv <;> first | rfl | contradiction

end OjgVerif.C12
