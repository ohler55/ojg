import OjgVerif.Sen.Lemmas
import OjgVerif.Props.C03
import OjgVerif.Gen.SenFacts
import OjgVerif.Sen.LemmasCur
/-! # C03 (SEN clause) — sen.Parse, sen.ParseReader and sen.Tokenize, however the input is chunked
(model level)

`call T cfg prev chunks` is the model of one entry-point call (parser or tokenizer profile) whose reader
delivers `chunks`. Chunk independence holds of the REPAIRED machine, the three fast-path deviations `fastInt`,
`tokSlow`, `nlSkip` switched off (`chunks_irrelevant`): the fast-path record then stays at rest, so a buffer run
over `a ++ b` is the run over `a` followed by the run over `b`; the preparation of the reader (empty reads
dropped, first read topped up, BOM) is `C03.reader_prep`. The error COLUMN is excluded: sen.ParseReader does not
rebase the newline offset between read buffers (the sen suite asserts it), which the model follows. No Go entry
point is `Repaired`. With `tokSlow` or `fastInt` on (the code as it is) the statement is false
(`chunks_irrelevant_full_false_token`, `_int19`: known findings C03sen-token-end-chunk, C03sen-int19; the
witnesses are in corpus/C03sen.txt and are replayed against the Go code on every run) and holds of the runs that
take neither deviation (`chunks_irrelevant_current`, off `Sen.deviates`). The deviations repaired in the source
(7b94de8, 546d576, f233b47) each have their witness twice, with the flag of the code before the repair and with
the default configuration; `repairs_in_source` ties the repairs to regenerated facts of the source.
`chunks_irrelevant` and `chunks_irrelevant_current` are each followed by their instance `…_sen` at the regenerated
tables and BOM length tests (`senTables`, through `senTables_ok`). -/
namespace OjgVerif.C03sen
open OjgVerif.Sen
open OjgVerif.Json (topUp bomRuleReader)

/-- the machine over the regenerated tables is the reference machine, for both front-ends, every
configuration, prior instance state and chunking -/
theorem sen_is_reference (cfg : Cfg) (prev : St) (chunks : List Bytes) :
    call senTables cfg prev chunks = call refTables cfg prev chunks :=
  call_eq_ref senTables_ok cfg prev chunks

variable (T : Tables) (cfg : Cfg)

theorem stepCore_rest (h : Repaired cfg) {s s' : St} {f' : Fast} {b : UInt8} {nl : Bool}
    (hs : stepCore T cfg s {} b = .ok (s', f', nl)) : f' = {} := by
  have hr := nextFast_rest h
  unfold stepCore at hs
  split at hs
  · cases hs
  · split at hs
    · simp only [Except.ok.injEq, Prod.mk.injEq] at hs
      rw [← hs.2.1]; exact hr _ _
    · split at hs
      · cases hs
      · simp only [Except.ok.injEq, Prod.mk.injEq] at hs
        rw [← hs.2.1]; exact hr _ _

theorem tokenEndFast_rest (h : Repaired cfg) {s s' : St} {f' : Fast} {b : UInt8} {nl : Bool}
    (hs : tokenEndFast T cfg s {} b = .ok (s', f', nl)) : f' = {} := by
  unfold tokenEndFast at hs
  split at hs
  · simp only [Except.ok.injEq, Prod.mk.injEq] at hs
    rw [← hs.2.1]
  · simp only at hs
    split at hs
    · cases hs
    · split at hs
      · cases hs
      · exact stepCore_rest T cfg h hs

theorem step_rest (h : Repaired cfg) {s s' : St} {f' : Fast} {b : UInt8} {l nl : Bool}
    (hs : step T cfg s {} b l = .ok (s', f', nl)) : f' = {} := by
  unfold step at hs
  split at hs
  · rename_i hc; simp at hc
  · split at hs
    · exact tokenEndFast_rest T cfg h hs
    · exact stepCore_rest T cfg h hs

/-- at rest the step does not look at "last byte of the buffer" -/
theorem step_last (s : St) (b : UInt8) (l l' : Bool) : step T cfg s {} b l = step T cfg s {} b l' := by
  unfold step
  simp

def noCol (e : Err) : Err := { e with col := 0 }

/-- a buffer run without the column of an error and without `off`/`noff` -/
def resB : Except Err (St × Fast × Pos) → Except Err (St × Fast × Nat)
  | .error e => .error (noCol e)
  | .ok (s, f, p) => .ok (s, f, p.line)

def resC : Except Err (St × Pos) → Except Err (St × Nat)
  | .error e => .error (noCol e)
  | .ok (s, p) => .ok (s, p.line)

/-- an entry-point outcome without the column of an error -/
def eraseCol : Except Err Out → Except Err Out
  | .error e => .error (noCol e)
  | .ok o => .ok o

theorem resB_elim {x y : Except Err (St × Fast × Pos)} {P : Prop} (h : resB x = resB y)
    (he : ∀ e e', x = .error e → y = .error e' → noCol e = noCol e' → P)
    (ho : ∀ s f p p', x = .ok (s, f, p) → y = .ok (s, f, p') → p.line = p'.line → P) : P := by
  rcases x with e | ⟨s, f, p⟩ <;> rcases y with e' | ⟨s', f', p'⟩ <;> simp only [resB, reduceCtorEq] at h
  · exact he e e' rfl rfl (Except.error.inj h)
  · obtain ⟨rfl, rfl, hl⟩ := Prod.mk.inj (Except.ok.inj h) |>.imp id Prod.mk.inj
    exact ho _ _ _ _ rfl rfl hl

theorem noCol_err {p p' : Pos} (hp : p.line = p'.line) (k : ErrKind) (feat : List Char) (plus : Bool)
    (lsk lk : Bytes) : noCol (p.err k feat plus lsk lk) = noCol (p'.err k feat plus lsk lk) := by
  simp [noCol, Pos.err, hp]

theorem runBytes_line (s : St) (f : Fast) (p p' : Pos) (hp : p.line = p'.line) (bs : Bytes) :
    resB (runBytes T cfg s f p bs) = resB (runBytes T cfg s f p' bs) := by
  induction bs generalizing s f p p' with
  | nil => simp [runBytes, resB, hp]
  | cons b r ih =>
    simp only [runBytes]
    split
    · exact congrArg Except.error (noCol_err hp ..)
    · apply ih
      unfold Pos.next
      split <;> simp [hp]

theorem runBytes_append (h : Repaired cfg) (s : St) (p : Pos) (a b : Bytes) :
    runBytes T cfg s {} p (a ++ b) =
      match runBytes T cfg s {} p a with
      | .error e => .error e
      | .ok (s', f', p') => runBytes T cfg s' f' p' b := by
  induction a generalizing s p with
  | nil => rfl
  | cons x r ih =>
    simp only [List.cons_append, runBytes]
    rw [step_last T cfg s x (r ++ b).isEmpty r.isEmpty]
    cases hst : step T cfg s {} x r.isEmpty with
    | error k => rfl
    | ok res =>
      obtain ⟨s1, f1, nl⟩ := res
      have hf : f1 = {} := step_rest T cfg h hst
      subst hf
      exact ih _ _

theorem runBytes_rest (h : Repaired cfg) (bs : Bytes) (s : St) (p : Pos) {s' : St} {f' : Fast} {p' : Pos}
    (hs : runBytes T cfg s {} p bs = .ok (s', f', p')) : f' = {} := by
  induction bs generalizing s p with
  | nil => simp only [runBytes, Except.ok.injEq, Prod.mk.injEq] at hs; exact hs.2.1.symm
  | cons b r ih =>
    simp only [runBytes] at hs
    split at hs
    · cases hs
    · rename_i s1 f1 nl hst
      have hf : f1 = {} := step_rest T cfg h hst
      subst hf
      exact ih _ _ hs

/-- reading buffer after buffer is reading the concatenation (up to `off`/`noff`) -/
theorem runChunks_eq_flatten (h : Repaired cfg) (cs : List Bytes) (s : St) (p : Pos) :
    resC (runChunks T cfg s p cs) =
      (match resB (runBytes T cfg s {} p cs.flatten) with
        | .error e => .error e
        | .ok (s', _, l) => .ok (s', l)) := by
  induction cs generalizing s p with
  | nil => simp [runChunks, runBytes, resB, resC]
  | cons c rest ih =>
    simp only [runChunks, List.flatten_cons, runBytes_append T cfg h]
    refine resB_elim (runBytes_line T cfg s {} { p with off := 0 } p rfl c) (fun e e' h1 h2 he => ?_)
      (fun s1 f1 p1 p2 h1 h2 hl => ?_)
    · simp [h1, h2, resC, resB, he]
    · obtain rfl : f1 = {} := runBytes_rest T cfg h c s _ h1
      rw [h1, h2]
      simp only
      rw [ih s1 p1, runBytes_line T cfg s1 {} p1 p2 hl]

/-- `finish` uses the position only to build errors -/
theorem finish_line (s : St) (p p' : Pos) (hp : p.line = p'.line) :
    eraseCol (finish T cfg s p) = eraseCol (finish T cfg s p') := by
  have E : ∀ k feat, eraseCol (.error (p.err k feat s.plus s.lastStrKey s.lastKey)) =
      eraseCol (.error (p'.err k feat s.plus s.lastStrKey s.lastKey)) :=
    fun k feat => congrArg Except.error (noCol_err hp ..)
  unfold finish
  repeat' split
  all_goals first | rfl | exact E _ _

theorem afterBom_eq (h : Repaired cfg) (s : St) (cs : List Bytes) :
    eraseCol (afterBom T cfg s cs) = eraseCol (afterBom T cfg s [cs.flatten]) := by
  have key : ∀ cs : List Bytes, eraseCol (afterBom T cfg s cs) =
      (match resB (runBytes T cfg s {} {} cs.flatten) with
        | .error e => .error e
        | .ok (s', _, l) => eraseCol (finish T cfg s' { line := l })) := by
    intro cs
    have hc := runChunks_eq_flatten T cfg h cs s {}
    unfold afterBom
    revert hc
    generalize runChunks T cfg s {} cs = x
    generalize resB (runBytes T cfg s {} {} cs.flatten) = y
    intro hc
    rcases x with e | ⟨s1, p1⟩ <;> rcases y with e' | ⟨s2, f2, l2⟩ <;>
      simp only [resC, reduceCtorEq, Except.error.injEq, Except.ok.injEq, Prod.mk.injEq] at hc
    · simp [eraseCol, hc]
    · obtain ⟨rfl, rfl⟩ := hc
      exact finish_line T cfg s1 p1 _ rfl
  rw [key cs, key [cs.flatten]]
  simp

/-- **Chunk independence of the repaired machine** (reader entry points of sen.Parser and
sen.Tokenizer): documents / callbacks, error kind and line depend only on the bytes delivered, not on
how the reader splits them — 1-byte reads, splits inside tokens, strings, numbers and comments, a BOM
spread over several reads. -/
theorem chunks_irrelevant (h : Repaired cfg) (hr : cfg.reader = true) (hbom : T.bom cfg = {}) (prev : St)
    (chunks : List Bytes) :
    eraseCol (call T cfg prev chunks) = eraseCol (call T cfg prev [chunks.flatten]) := by
  have hrun : ∀ cs, eraseCol (call T cfg prev cs) =
      match topUp (cs.filter (!·.isEmpty)) with
      | [] => eraseCol (finish T cfg (prev.entry cfg) {})
      | c :: rest =>
        match bomRuleReader c with
        | .bad => eraseCol (.error { line := 1, col := 3, kind := .bom })
        | .strip r => eraseCol (afterBom T cfg (prev.entry cfg) (r :: rest))
        | .keep => eraseCol (afterBom T cfg (prev.entry cfg) (c :: rest)) := by
    intro cs
    rw [call_of_bom hbom, callWith_eq]
    simp only [hr, ↓reduceIte]
    cases topUp (cs.filter (!·.isEmpty)) with
    | nil => rfl
    | cons c rest =>
      simp only
      cases bomRuleReader c <;> rfl
  rw [hrun, hrun]
  exact C03.reader_prep (fun cs => eraseCol (afterBom T cfg (prev.entry cfg) cs)) (afterBom_eq T cfg h _) _ _ chunks

/-- **the length tests of the BOM handling in sen/parser.go and sen/tokenizer.go are the reference ones**:
the loop "a BOM has to be seen whole" of `ParseReader` / `Load` runs while `cnt < 4`, the BOM tests are
`3 < len(buf)` (REGENERATED by tools/extract/sen.go; the model's BOM rule is instantiated with them) -/
theorem bom_bounds_in_source : senTables.bomP = {} ∧ senTables.bomT = {} :=
  ⟨senTables_ok.bomP, senTables_ok.bomT⟩

theorem chunks_irrelevant_sen (cfg : Cfg) (h : Repaired cfg) (hr : cfg.reader = true) (prev : St) (chunks : List Bytes) :
    eraseCol (call senTables cfg prev chunks) = eraseCol (call senTables cfg prev [chunks.flatten]) :=
  chunks_irrelevant senTables cfg h hr (senTables_ok.bom cfg) prev chunks

/-- with a read loop that stops at three bytes (`cnt < 3`, the detection still `3 < len(buf)`) a BOM that
arrives as a first buffer of exactly three bytes is not recognised: the statement needs the bounds -/
example : (match call { refTables with bomP := { readerLoop := 3 } } { reader := true } {} [[0xEF, 0xBB, 0xBF], [49]] with
      | .ok o => o.docs.map JV.render | .error _ => ["error"]) ≠
    (match call { refTables with bomP := { readerLoop := 3 } } { reader := true } {} [[0xEF, 0xBB, 0xBF, 49]] with
      | .ok o => o.docs.map JV.render | .error _ => ["error"]) := by decide +kernel

/-- non-vacuity: the repaired configuration of sen.ParseReader -/
example : Repaired { reader := true, fastInt := false, tokSlow := false } := ⟨rfl, rfl, rfl⟩

def accepts (r : Except Err Out) : Bool :=
  match r with
  | .ok _ => true
  | .error _ => false

/-- chunk independence (of acceptance alone) for EVERY configuration, the two fast paths of the code as it is included -/
def chunks_irrelevant_full : Prop :=
  ∀ (cfg : Cfg) (chunks : List Bytes), cfg.reader = true →
    accepts (run refTables cfg chunks) = accepts (run refTables cfg [chunks.flatten])

/-- `{a,:1}`: an error in one piece, `{a:1}` when the reader splits after `{a` (tokSlow) -/
theorem chunks_irrelevant_full_false_token : ¬ chunks_irrelevant_full := by
  intro h
  have := h { reader := true } [[123, 97], [44, 58, 49, 125]] rfl
  revert this
  decide +kernel

/-- `[9223372036854775800.E2]`: the integer fast loop goes over to text, after which `.E` is an
"invalid number"; read digit by digit it is a float (fastInt) -/
theorem chunks_irrelevant_full_false_int19 : ¬ chunks_irrelevant_full := by
  intro h
  have := h { reader := true }
    [[91, 57], [50, 50, 51, 51, 55, 50, 48, 51, 54, 56, 53, 52, 55, 55, 53, 56, 48, 48, 46, 69, 50, 93]] rfl
  revert this
  decide +kernel

/-- BEFORE 7b94de8 (`nlSkip` on, the skip loop after a newline tested `spaceMap` whatever the mode): `{a\n,:1}` is
accepted in one piece and an error when the reader splits after the newline; `chunks_irrelevant` needs the flag off -/
theorem chunk_dependence_newline_before :
    accepts (run refTables { reader := true, nlSkip := true } [[123, 97, 10], [44, 58, 49, 125]]) ≠
    accepts (run refTables { reader := true, nlSkip := true } [[123, 97, 10, 44, 58, 49, 125]]) := by
  decide +kernel

/-- with the default configuration (`nlSkip` off) the same input gives the same outcome, an error, however it is split -/
theorem chunk_dependence_newline_current :
    accepts (run refTables { reader := true } [[123, 97, 10], [44, 58, 49, 125]]) =
    accepts (run refTables { reader := true } [[123, 97, 10, 44, 58, 49, 125]]) := by
  decide +kernel

/-- BEFORE 546d576 `{a:}` was accepted by both front-ends (finding C03sen-missing-value) -/
theorem missing_value_before :
    accepts (run refTables { missingValue := true } [[123, 97, 58, 125]]) = true ∧
    accepts (run refTables { tokenizer := true, missingValue := true } [[123, 97, 58, 125]]) = true := by
  decide +kernel

/-- with the default configuration it is "expected a value" for both -/
theorem missing_value_current :
    (match run refTables {} [[123, 97, 58, 125]] with | .error e => e.kind == .expectedValue | .ok _ => false) = true ∧
    (match run refTables { tokenizer := true } [[123, 97, 58, 125]] with
      | .error e => e.kind == .expectedValue | .ok _ => false) = true := by
  decide +kernel

/-- BEFORE f233b47 `['a"b']` was a broken stream for the tokenizer (finding C03sen-tokenizer-quote) -/
theorem tokenizer_quote_before :
    accepts (run refTables { tokenizer := true, tkOld := true } [[91, 39, 97, 34, 98, 39, 93]]) = false := by
  decide +kernel

/-- with the default configuration the tokenizer reports the one string the parser builds -/
theorem tokenizer_quote_current :
    (match run refTables { tokenizer := true } [[91, 39, 97, 34, 98, 39, 93]] with
      | .ok o => (match o.evs with
        | [.arrStart, .val v, .arrEnd] => v.render == (JV.str [97, 34, 98]).render | _ => false)
      | .error _ => false) = true ∧
    (match run refTables {} [[91, 39, 97, 34, 98, 39, 93]] with
      | .ok o => o.docs.map JV.render == [(JV.arr [.str [97, 34, 98]]).render] | .error _ => false) = true := by
  decide +kernel

/-- BEFORE f233b47 `/* c */ 1` was an error for the tokenizer (finding C03sen-tokenizer-ccomment) -/
theorem tokenizer_ccomment_before :
    accepts (run refTables { tokenizer := true, tkOld := true } [[47, 42, 32, 99, 32, 42, 47, 32, 49]]) = false := by
  decide +kernel

theorem tokenizer_ccomment_current :
    (match run refTables { tokenizer := true } [[47, 42, 32, 99, 32, 42, 47, 32, 49]] with
      | .ok o => (match o.evs with | [.val v] => v.render == (JV.int 1).render | _ => false)
      | .error _ => false) = true := by
  decide +kernel

/-- BEFORE f233b47 `//c\n1` with OnlyOne was an error for the tokenizer (finding
C03sen-tokenizer-comment-onlyone) -/
theorem tokenizer_comment_onlyone_before :
    accepts (run refTables { tokenizer := true, onlyOne := true, tkOld := true } [[47, 47, 99, 10, 49]]) = false := by
  decide +kernel

theorem tokenizer_comment_onlyone_current :
    (match run refTables { tokenizer := true, onlyOne := true } [[47, 47, 99, 10, 49]] with
      | .ok o => (match o.evs with | [.val v] => v.render == (JV.int 1).render | _ => false)
      | .error _ => false) = true := by
  decide +kernel

/-- regenerated facts of sen/parser.go and sen/tokenizer.go that fail when 7b94de8, 546d576 or f233b47 is undone
(as does the correspondence run): no `spaceMap[…]` in the scan loops, the "expected a value" error in both
`closeObject` cases, the tokenizer's `strQuote` case reads `quoteDelim`, its `commentEnd` and C-comment cases
`continue` -/
theorem repairs_in_source :
    Gen.SenFacts.parserSpaceMapIndexed = 0 ∧ Gen.SenFacts.tokenizerSpaceMapIndexed = 0 ∧
    Gen.SenFacts.parserCloseObjectMsgs.contains "expected a value" = true ∧
    Gen.SenFacts.tokenizerCloseObjectMsgs.contains "expected a value" = true ∧
    Gen.SenFacts.tokenizerStrQuoteFields.contains "quoteDelim" = true ∧
    (["commentEnd", "cskipChar", "cskipNewline"].all fun c => Gen.SenFacts.tokenizerContinueCases.contains c) = true := by
  decide +kernel

/-- the code as it is: the newline skip is repaired (7b94de8); the integer fast loop and the token-end fast
path are whatever they are -/
def Current (cfg : Cfg) : Prop := cfg.nlSkip = false

/-- **C03 (SEN clause), partial form for the REAL configuration** (sen.ParseReader, sen.Tokenizer.Load as they
are, the integer fast loop and the token-end fast path on): the outcome of a reader entry point — documents or
callbacks, error kind and line — depends only on the bytes delivered, not on how the reader splits them, for
every input and chunking whose run and whose one-piece run take no fast-path deviation (`Sen.deviates`: no digit
read by the integer fast loop while the accumulator equals BigLimit — the 19th digit of an integer that begins
922337203685477580 —, no bare token that began in an earlier read buffer ended by a byte other than space, tab,
CR, LF) -/
theorem chunks_irrelevant_current (cfg : Cfg) (hcur : Current cfg) (hr : cfg.reader = true) (prev : St)
    (chunks : List Bytes) (h1 : deviates cfg prev chunks = false) (h2 : deviates cfg prev [chunks.flatten] = false) :
    eraseCol (call refTables cfg prev chunks) = eraseCol (call refTables cfg prev [chunks.flatten]) := by
  rw [call_eq_repaired cfg hcur prev chunks h1, call_eq_repaired cfg hcur prev _ h2]
  exact chunks_irrelevant refTables cfg.rep (.rep hcur) hr (TablesOK.ref.bom _) prev chunks

theorem chunks_irrelevant_current_sen (cfg : Cfg) (hcur : Current cfg) (hr : cfg.reader = true) (prev : St)
    (chunks : List Bytes) (h1 : deviates cfg prev chunks = false) (h2 : deviates cfg prev [chunks.flatten] = false) :
    eraseCol (call senTables cfg prev chunks) = eraseCol (call senTables cfg prev [chunks.flatten]) := by
  rw [sen_is_reference, sen_is_reference]
  exact chunks_irrelevant_current cfg hcur hr prev chunks h1 h2

/-- non-vacuity: `{"a":[1 true x]}` read in two pieces (the split falls inside the token `true`, which is
ended by a space) takes no deviation; the witnesses of the two known findings do -/
example : deviates { reader := true } {} [[123, 34, 97, 34, 58, 91, 49, 32, 116, 114], [117, 101, 32, 120, 93, 125]] = false := by
  decide +kernel
example : deviates { reader := true } {} [[123, 97], [44, 58, 49, 125]] = true := by decide +kernel
example : deviates { reader := true } {}
    [[91, 57, 50, 50, 51, 51, 55, 50, 48, 51, 54, 56, 53, 52, 55, 55, 53, 56, 48, 48, 46, 69, 50, 93]] = true := by
  decide +kernel

end OjgVerif.C03sen
