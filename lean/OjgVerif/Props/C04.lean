import OjgVerif.Writer.LemmasParse
import OjgVerif.Writer.LemmasPretty
import OjgVerif.Gen.WriterDispatch
import OjgVerif.Writer.StrLoop
/-! # C04 — JSON writers emit valid JSON that denotes the data written

Re-checked on every run against the regenerated constants. Evaluated in this file: `Gen.Root.jMap`
(`jMap_safe`), `Gen.Oj.spaces`, `Gen.Oj.tabs`, `Gen.Pretty.spaces`, `Gen.PrettyFill.flatCs` / `deepFlatCs`
(white space only), `Gen.WriterDispatch.*` (the dispatch and shape theorems). Evaluated in the family files:
`Gen.Root.hex` (`Writer/LemmasStr.lean`, `hexDigit_nib`), the length of `Gen.Pretty.spaces`, `nullStr` /
`trueStr` / `falseStr` (`Writer/LemmasAlign.lean`: `spaces_size`, `nullStr_eq` …) and the node-kind constants
(`Writer/LemmasAlign.lean`, `Writer/LemmasPretty.lean`). The judge is `OjgVerif.Json.Spec` (RFC 8259); the model is
`OjgVerif.Writer.OjModel` (tied to the Go code by the correspondence run, byte for byte and chunk
for chunk); what the text has to denote is `OjgVerif.Writer.norm` (`Writer/JsonSpec.lean`).

Proved here for the `oj` writers (tight and indented, Sort on and off, OmitNil/OmitEmpty,
HTML-safe on and off, with and without an `io.Writer`), and for `pretty` whenever Align is off
(`C04_pretty_noalign`) or every alignment table of the tree is a table of arrays without objects
inside or a table of flat objects with complete rows (`C04_pretty_align_table_partial`). The full
statement for `pretty` is false because of Align (`C04_pretty_full_false`: known finding
C04-pretty-align-comma); for the tables the partial theorem leaves out the model is tied by
correspondence and judged by the oracle only. -/
namespace OjgVerif.C04
open OjgVerif.Json OjgVerif.Writer OjgVerif.Writer.Pretty

/-- every cell of the regenerated `jMap` is one the string reader undoes: a byte marked "copy" is a
printable ASCII byte other than `"` and `\`, `\u00XX` is only used below 0x80, the decoder is only
asked about bytes ≥ 0x80, and a two-character escape `\c` is one RFC 8259 reads back as the byte -/
theorem jMap_safe : TableSafe Gen.Root.jMap :=
  tableSafe_of_check _ (by decide +kernel) (by decide +kernel)

/-- the indentation constants are a newline followed by blanks / tabs: white space only -/
theorem spaces_ws : (Gen.Oj.spaces.toList.all Spec.isWs) = true := by decide +kernel
theorem tabs_ws : (Gen.Oj.tabs.toList.all Spec.isWs) = true := by decide +kernel

theorem layout_wf (o : Opts) : (Layout.ofOpts o).WF := by
  unfold Layout.ofOpts
  split
  · exact indentL_wf o spaces_ws tabs_ws
  · exact tightL_wf

/-- the escaped text of ANY byte string, between quotes, is an RFC 8259 string that reads back as
the string with every byte that is not part of a well-formed UTF-8 sequence replaced by U+FFFD;
whatever follows the closing quote is left untouched -/
theorem C04_string_body (s rest : Bytes) (html : Bool) :
    Spec.pChars ((escLoop Gen.Root.jMap html 0 true s).length + 1)
      (escLoop Gen.Root.jMap html 0 true s ++ 34 :: rest) = some (sanitize s, rest) :=
  esc_parse _ jMap_safe html true s rest _ (Nat.lt_succ_self _)

/-- `AppendJSONString` writes, for every byte string and both settings of the HTML-safe flag, one
JSON text whose value is the sanitised string -/
theorem C04_string (s : Bytes) (html : Bool) :
    Spec.parseDoc (appendJSONString [] s html) = .one (.str (sanitize s)) :=
  JText.parseDoc ⟨⟨34, _, rfl, by decide⟩, fun g rest hg _ => by
    obtain ⟨g, rfl⟩ := Nat.exists_eq_add_one.mpr (Nat.zero_lt_of_lt hg)
    exact pValue_str jMap_safe g s rest html⟩

/-- the loop as written: the transcription of the Go loop of `AppendJSONString` with its `start` /
`skip` indices (`Writer/StrLoop.lean`: a buffer, runs copied by `append(buf, s[start:i]...)` before
every escape and `s[start:]` after the loop, `continue` while `i < skip`) gives, for every buffer,
byte string and HTML-safe setting, byte for byte the text of the per-byte model -/
theorem C04_string_loop (buf s : Bytes) (html : Bool) :
    appendJSONStringReal buf s html = appendJSONString buf s html :=
  appendJSONStringReal_eq buf s html

/-- the loop `Writer/StrLoop.lean` transcribes, statement by statement (`loopStep`: `head` and the
cases; `realLoop`: `range`; `appendJSONStringRealT` / `finishLoop`: `pre` and `post`) -/
def appendJSONStringLoopTranscribed : List (String × List String) := [
  ("pre", ["buf = append(buf, '\"')", "start := 0", "skip := 0"]),
  ("range", ["i, b := range []byte(s)"]),
  ("head", ["if i < skip", "continue", "end", "c := jMap[b]"]),
  ("switch", ["c"]),
  ("'o'", ["continue"]),
  ("'.'", ["if start < i", "buf = append(buf, s[start:i]...)", "end", "buf = append(buf, `\\u00`...)", "buf = append(buf, hex[(b>>4)&0x0f])", "buf = append(buf, hex[b&0x0f])", "start = i + 1"]),
  ("'h'", ["if htmlSafe", "if start < i", "buf = append(buf, s[start:i]...)", "end", "buf = append(buf, `\\u00`...)", "buf = append(buf, hex[(b>>4)&0x0f])", "buf = append(buf, hex[b&0x0f])", "start = i + 1", "end"]),
  ("'8'", ["r, cnt := utf8.DecodeRuneInString(s[i:])", "switch r"]),
  ("'8'/'\\u2028'", ["if start < i", "buf = append(buf, s[start:i]...)", "end", "buf = append(buf, `\\u2028`...)", "start = i + cnt", "skip = start"]),
  ("'8'/'\\u2029'", ["if start < i", "buf = append(buf, s[start:i]...)", "end", "buf = append(buf, `\\u2029`...)", "start = i + cnt", "skip = start"]),
  ("'8'/utf8.RuneError", ["if start < i", "buf = append(buf, s[start:i]...)", "end", "buf = append(buf, `\\ufffd`...)", "start = i + cnt", "skip = start"]),
  ("'8'/default", ["skip = i + cnt"]),
  ("default", ["if start < i", "buf = append(buf, s[start:i]...)", "end", "buf = append(buf, '\\\\')", "buf = append(buf, c)", "start = i + 1"]),
  ("post", ["if start < len(s)", "buf = append(buf, s[start:]...)", "end", "return append(buf, '\"')"])
]

/-- … and it is the loop of the CURRENT source: the statements of `ojg.AppendJSONString` read from
string.go on this run (Gen/WriterDispatch.lean) are, place by place, the ones transcribed — any edit of
the loop (an index expression, a `start` / `skip` assignment, a case added or dropped) breaks this
obligation by name until `StrLoop.lean` is transcribed again -/
theorem C04_string_loop_shape :
    Gen.WriterDispatch.appendJSONStringLoop = appendJSONStringLoopTranscribed := by decide +kernel

/-- … and so the loop as written emits one JSON text whose value is the sanitised string -/
theorem C04_string_real (s : Bytes) (html : Bool) :
    Spec.parseDoc (appendJSONStringReal [] s html) = .one (.str (sanitize s)) := by
  rw [C04_string_loop]; exact C04_string s html

/-- `"a\u2028\xffb<"`: an ordinary byte, a dropped 3-byte sequence, an ill-formed byte, a run, an HTML byte -/
example : appendJSONStringReal [1] [97, 0xE2, 0x80, 0xA8, 0xFF, 98, 60] true
    = [1, 34, 97, 92, 117, 50, 48, 50, 56, 92, 117, 102, 102, 102, 100, 98, 92, 117, 48, 48, 51, 99, 34] := by
  decide +kernel

/-- integer round trip: the literal printed for `i` is an RFC 8259 number whose value is `i` -/
theorem C04_int (i : Int) : isNumLit (fmtInt i) ∧ intVal (fmtInt i) = i :=
  ⟨isNumLit_fmtInt i, intVal_fmtInt i⟩

/-- unsigned round trip (uint8 … uint64, uint): the literal printed for an unsigned value `n`
(any `n`, in particular `2^63 ≤ n < 2^64`) is an RFC 8259 number WITHOUT a minus sign whose value
is `n` — the instance of `C04_int` at the non-negative integers, plus the sign -/
theorem C04_uint (n : Nat) :
    isNumLit (fmtInt (n : Int)) ∧ intVal (fmtInt (n : Int)) = (n : Int) ∧ (fmtInt (n : Int)).head? ≠ some 45 := by
  refine ⟨isNumLit_fmtInt _, intVal_fmtInt _, ?_⟩
  obtain ⟨d, ds, he, hd⟩ := fmtNat_head_ne_minus n
  have hf : fmtInt (n : Int) = Writer.fmtNat n := by
    unfold fmtInt
    rw [if_neg (by omega)]
    simp
  rw [hf, he]
  simpa using hd

example : (2:Nat)^63 < 2^64 ∧ fmtInt ((2^64 - 1 : Nat) : Int) = "18446744073709551615".toUTF8.toList := by decide +kernel

/-- for every tree, every option combination, every iteration order and EVERY WriteLimit, the
chunks handed to the `io.Writer` are, joined, byte for byte the text of the in-memory call: the
comma overwrite always hits a byte appended after the last flush -/
theorem C04_stream (o : Opts) (ord : Kvs → Kvs) (limit : Nat) (v : JV) :
    (ojWriteTo o ord limit v).flatten = ojWrite o ord v := by
  rw [ojWriteTo_flatten, ojWrite_eq_text]

/-- with Sort the text is the same whatever order the run-time iterates the maps in -/
theorem C04_sort (o : Opts) (h : o.sort = true) (ord₁ ord₂ : Kvs → Kvs) (h₁ : IsOrder ord₁) (h₂ : IsOrder ord₂)
    (v : JV) (hv : distinctKeys v) : ojWrite o ord₁ v = ojWrite o ord₂ v := by
  rw [ojWrite_eq_text, ojWrite_eq_text]
  exact text_sort_indep o h ord₁ ord₂ h₁ h₂ _ _ v 0 hv

/-- … and the members of every object are visited (hence written, `C04_oj`) in strictly ascending
byte-wise order of the input keys, each exactly once -/
theorem C04_sort_ascending (ord : Kvs → Kvs) (h : IsOrder ord) (kvs : Kvs)
    (hnd : (kvs.map fun kv => kv.1).Nodup) :
    Ascending (order true ord kvs) ∧ (order true ord kvs).Perm kvs := by
  refine ⟨?_, order_perm true ord h kvs⟩
  simp only [order, ↓reduceIte]
  exact sortKvs_ascending _ (((h kvs).map _).nodup_iff.mpr hnd)

/-- for every tree of nil, bool, int, float (given as a number literal), string, array and object
values whose objects keep distinct keys after sanitising, every option combination and every
iteration order: the text of `oj.JSON` / `oj.Marshal` is ONE valid JSON document, and its RFC 8259
reading is the input tree with strings and keys sanitised, numbers as their literals, members in
the order written, minus exactly the members OmitNil / OmitEmpty name -/
theorem C04_oj (o : Opts) (ord : Kvs → Kvs) (hord : IsOrder ord) (v : JV) (hv : okW v) :
    Spec.parseDoc (ojWrite o ord v) = .one (norm o ord v) := by
  rw [ojWrite_eq_text]
  exact (parse_text jMap_safe o ord hord _ (layout_wf o) (depth v + 1) v 0 hv (Nat.lt_succ_self _)).parseDoc

/-- the same for the text streamed through `oj.Write` with any WriteLimit -/
theorem C04_oj_stream (o : Opts) (ord : Kvs → Kvs) (hord : IsOrder ord) (limit : Nat) (v : JV) (hv : okW v) :
    Spec.parseDoc (ojWriteTo o ord limit v).flatten = .one (norm o ord v) := by
  rw [C04_stream]; exact C04_oj o ord hord v hv

theorem pretty_spaces_ws : (Gen.Pretty.spaces.toList.all Spec.isWs) = true := by decide +kernel

/-- the indentation constant of `pretty` and the separators `fill` uses for flat containers, read from
the source (the second is the fallback past the indentation limit), are white space only -/
theorem pretty_seps_ws : SepWs := ⟨pretty_spaces_ws, by decide +kernel, by decide +kernel⟩

/-- C04 for `pretty.JSON` as the property states it: for every configuration the text is one JSON
document denoting the tree minus exactly the members OmitNil / OmitEmpty name -/
def C04_pretty_full : Prop :=
  ∀ (p : POpts) (ord : Kvs → Kvs) (v : JV), IsOrder ord → okW v →
    Spec.parseDoc (prettyWrite p ord v) = .one (norm (ojOptsOf p) ord v)

/-- `[{"a":1,"b":2,"c":3},{"a":1}]`: the second row lacks the last column -/
def alignWitness : JV :=
  .arr [.obj [([97], .int 1), ([98], .int 2), ([99], .int 3)], .obj [([97], .int 1)]]

/-- with Align the model writes `[ {"a": 1, "b": 2, "c": 3}, {"a": 1,               }]` — not JSON -/
theorem align_witness_rejected :
    Spec.accepts (prettyWrite { width := 80, maxDepth := 3, align := true } id alignWitness) = false := by
  decide +kernel

/-- `pretty` does not have the property (known finding C04-pretty-align-comma) -/
theorem C04_pretty_full_false : ¬ C04_pretty_full := by
  intro h
  have hok : okW alignWitness := by
    simp only [alignWitness, okW, okKvs, okList, and_true]
    exact ⟨by decide, by decide⟩
  have := accepts_of_one _ _ (h { width := 80, maxDepth := 3, align := true } id alignWitness
    (fun _ => List.Perm.refl _) hok)
  rw [align_witness_rejected] at this
  cases this

/-- `[[{"a":1}],[[[5]]]]`: the first column holds a map in one row and an array in the other; such a
table is not used (repository fix 2c87bea, finding C04-pretty-align-mixed) and the text is valid JSON -/
example : Spec.accepts (prettyWrite { width := 80, maxDepth := 9, align := true } id
    (.arr [.arr [.obj [([97], .int 1)]], .arr [.arr [.arr [.int 5]]]])) = true := by decide +kernel

/-- the partial theorem for `pretty.JSON` WITH alignment tables (full statement: `C04_pretty_full`,
false). For every Width, MaxDepth, HTML-safe setting, OmitNil/OmitEmpty and iteration order the text
is ONE valid JSON document whose reading is the tree (members in ascending key order) minus exactly
the members OmitNil / OmitEmpty name, whenever Align is off or every alignment table of the tree
(`tablesAO`, a predicate on the tree: every array with two or more members, all arrays or all
objects) is
* a table of arrays that contain no object at any depth, or
* a table of flat objects (members are scalars) in which NO ROW LACKS ITS LAST COLUMN
  (`rowsComplete`: every row shows no key, or shows the greatest encoded key shown by any row) and the
  encoded keys of a row are ordered like its keys (`keysEncOrdered`; aligned rows follow the order of
  the ENCODED keys, so without it the reading would list the members in another order).
This covers `checkAlign`, `genTables`, `updateArrayTable`/`alignArray` and `updateMapTable`/`alignMap`
for such tables: columns matched by position resp. by key, sorted, exactly the keys of the rows,
every padding within the `spaces` constant because the table fits the width, one comma between any
two members of a row. The known finding C04-pretty-align-comma is exactly the complement of
`rowsComplete` (`align_witness_incomplete`: the witness of `C04_pretty_full_false` violates it; with
it the text is valid, so a `, }` can only come from a row that lacks its last column). Not covered:
tables whose object rows hold containers, and object cells inside tables of arrays. -/
theorem C04_pretty_align_table_partial (p : POpts) (ord : Kvs → Kvs) (hord : IsOrder ord) (v : JV) (hv : okW v)
    (hnt : p.align = true → tablesAO (dropOf p) (encOf p) v) :
    Spec.parseDoc (prettyWrite p ord v) = .one (norm (ojOptsOf p) ord v) := by
  rw [prettyWrite_eq_ptext p ord hord v hnt]
  exact (parse_ptext jMap_safe pretty_seps_ws (pwOf p ord v) ord hord (depth v + 1) v 0 false hv hnt
    (by rw [pwOf_fuel]; omega) (Nat.lt_succ_self _)).parseDoc

/-- the rows `{"a":1,"b":2,"c":3}`, `{"a":1}` of the witness of `C04_pretty_full_false` are not complete:
the second row lacks the last column `"c"` -/
theorem align_witness_incomplete :
    ¬ rowsComplete (dropOf { align := true }) (encOf { align := true })
      [.obj [([97], .int 1), ([98], .int 2), ([99], .int 3)], .obj [([97], .int 1)]] := by
  unfold rowsComplete
  decide +kernel

/-- in particular when every table of the tree is a table of arrays -/
theorem C04_pretty_align_arrays_partial (p : POpts) (ord : Kvs → Kvs) (hord : IsOrder ord) (v : JV) (hv : okW v)
    (hnt : p.align = true → tablesArr v) :
    Spec.parseDoc (prettyWrite p ord v) = .one (norm (ojOptsOf p) ord v) :=
  C04_pretty_align_table_partial p ord hord v hv
    (fun h => tablesAO_of_tablesArr _ _ v (hnt h))

/-- in particular when no array of the tree is a table at all (`noTable`; keys of maps are still padded) -/
theorem C04_pretty_align_partial (p : POpts) (ord : Kvs → Kvs) (hord : IsOrder ord) (v : JV) (hv : okW v)
    (hnt : p.align = true → noTable v) :
    Spec.parseDoc (prettyWrite p ord v) = .one (norm (ojOptsOf p) ord v) :=
  C04_pretty_align_arrays_partial p ord hord v hv
    (fun h => tablesArr_of_noTable v (hnt h))

/-- in particular, excluding exactly `Align`, `pretty.JSON` has the property for EVERY tree -/
theorem C04_pretty_noalign (p : POpts) (ha : p.align = false) (ord : Kvs → Kvs) (hord : IsOrder ord)
    (v : JV) (hv : okW v) :
    Spec.parseDoc (prettyWrite p ord v) = .one (norm (ojOptsOf p) ord v) :=
  C04_pretty_align_table_partial p ord hord v hv (by simp [ha])

/-- `{"t":[[1,"a",[2.5]],[100,"long"],[]],"k":{"x":null}}` is a tree whose only table is a table of arrays … -/
example : tablesArr (.obj [([116], .arr [.arr [.int 1, .str [97], .arr [.flt [50, 46, 53]]],
    .arr [.int 100, .str [108, 111, 110, 103]], .arr []]), ([107], .obj [([120], .null)])]) := by
  simp only [tablesArr, tablesArrK, tablesArrL, arrOnlyL, arrOnly, and_true]
  decide

/-- … and with Align its rows are written in columns:
```
{
  "k": {"x": null},
  "t": [
    [  1, "a"   , [2.5]],
    [100, "long"],
    []
  ]
}
``` -/
example : prettyWrite { align := true } id (.obj [([116], .arr [.arr [.int 1, .str [97], .arr [.flt [50, 46, 53]]],
    .arr [.int 100, .str [108, 111, 110, 103]], .arr []]), ([107], .obj [([120], .null)])]) =
    [123, 10, 32, 32, 34, 107, 34, 58, 32, 123, 34, 120, 34, 58, 32, 110, 117, 108, 108, 125, 44, 10, 32, 32, 34, 116, 34,
     58, 32, 91, 10, 32, 32, 32, 32, 91, 32, 32, 49, 44, 32, 34, 97, 34, 32, 32, 32, 44, 32, 91, 50, 46, 53, 93, 93, 44,
     10, 32, 32, 32, 32, 91, 49, 48, 48, 44, 32, 34, 108, 111, 110, 103, 34, 93, 44, 10, 32, 32, 32, 32, 91, 93, 10, 32,
     32, 93, 10, 125] := by decide +kernel

/-- `[{"x":1,"z":"p"},{"y":2.5,"z":null},{}]`: a table of flat objects in which no row lacks the last
column `"z"` (the third row shows no key) … -/
example : tablesAO (dropOf { align := true }) (encOf { align := true })
    (.arr [.obj [([120], .int 1), ([122], .str [112])], .obj [([121], .flt [50, 46, 53]), ([122], .null)], .obj []]) := by
  simp only [tablesAO, tablesAOL, tablesAOK, and_true]
  intro _
  refine ⟨fun h => absurd h (by decide), fun _ => ⟨?_, ?_⟩⟩
  · intro x hx
    simp only [List.mem_cons, List.not_mem_nil, or_false] at hx
    rcases hx with rfl | rfl | rfl <;> exact ⟨by decide, by unfold keysEncOrdered; decide +kernel⟩
  · unfold rowsComplete
    decide +kernel

/-- … and with Align it is written in columns, the empty row as blanks:
```
[ {"x": 1,           "z": "p" }, {        "y": 2.5, "z": null}, {                           }]
``` -/
example : prettyWrite { align := true } id
    (.arr [.obj [([120], .int 1), ([122], .str [112])], .obj [([121], .flt [50, 46, 53]), ([122], .null)], .obj []]) =
    [91, 32, 123, 34, 120, 34, 58, 32, 49, 44, 32, 32, 32, 32, 32, 32, 32, 32, 32, 32, 32, 34, 122, 34, 58, 32, 34, 112, 34,
     32, 125, 44, 32, 123, 32, 32, 32, 32, 32, 32, 32, 32, 34, 121, 34, 58, 32, 50, 46, 53, 44, 32, 34, 122, 34, 58, 32,
     110, 117, 108, 108, 125, 44, 32, 123, 32, 32, 32, 32, 32, 32, 32, 32, 32, 32, 32, 32, 32, 32, 32, 32, 32, 32, 32, 32,
     32, 32, 32, 32, 32, 32, 32, 125, 93] := by decide +kernel

/-- `{"longer key":1,"k":[1,"a",{"x":null}],"m":[[1,2]]}` is a tree without tables … -/
example : noTable (.obj [([108, 111, 110, 103, 101, 114, 32, 107, 101, 121], .int 1),
    ([107], .arr [.int 1, .str [97], .obj [([120], .null)]]), ([109], .arr [.arr [.int 1, .int 2]])]) := by
  simp only [noTable, noTableKvs, noTableList, and_true]
  decide

/-- … and with Align its keys are padded to a common column:
```
{
  "k":          [1, "a", {"x": null}],
  "longer key": 1
}
``` -/
example : prettyWrite { align := true } id (.obj [([108, 111, 110, 103, 101, 114, 32, 107, 101, 121], .int 1),
    ([107], .arr [.int 1, .str [97], .obj [([120], .null)]])]) =
    [123, 10, 32, 32, 34, 107, 34, 58, 32, 32, 32, 32, 32, 32, 32, 32, 32, 32, 91, 49, 44, 32, 34, 97, 34, 44, 32,
     123, 34, 120, 34, 58, 32, 110, 117, 108, 108, 125, 93, 44, 10, 32, 32, 34, 108, 111, 110, 103, 101, 114, 32,
     107, 101, 121, 34, 58, 32, 49, 10, 125] := by decide +kernel

/-- `{"a":[],"b":{"c":null},"d":null}` under OmitNil alone keeps `"a"` and `"b"`: empty containers go
only under OmitEmpty (repository fix aa799cb, finding C04-pretty-omit) -/
example : prettyWrite { omitNil := true } id
    (.obj [([97], .arr []), ([98], .obj [([99], .null)]), ([100], .null)]) =
    [123, 34, 97, 34, 58, 32, 91, 93, 44, 32, 34, 98, 34, 58, 32, 123, 125, 125] := by decide +kernel

/-- streaming: under the same condition the chunks `pretty.WriteJSON` hands over are, joined, the
in-memory text, for every WriteLimit -/
theorem C04_pretty_stream (p : POpts) (ord : Kvs → Kvs) (hord : IsOrder ord) (limit : Nat) (v : JV)
    (hnt : p.align = true → tablesAO (dropOf p) (encOf p) v) :
    (prettyWriteTo p ord limit v).flatten = prettyWrite p ord v := by
  rw [prettyWriteTo_flatten p ord hord limit v hnt, prettyWrite_eq_ptext p ord hord v hnt]

/-- the hypotheses are not vacuous: iterating a map front to back or back to front are legitimate orders -/
example : IsOrder id := fun _ => List.Perm.refl _
example : IsOrder List.reverse := fun l => List.reverse_perm l

/-- `{"b":[1.5e+21,-0,""],"a\xff":null,"a":{}}` is a tree the theorems speak about -/
example : okW (.obj [([98], .arr [.flt [49, 46, 53, 101, 43, 50, 49], .flt [45, 48], .str []]),
    ([97, 255], .null), ([97], .obj [])]) := by
  simp only [okW, okKvs, okList, and_true]
  exact ⟨by decide, by decide, by decide⟩

example : distinctKeys (.obj [([98], .int 1), ([97, 255], .null), ([97, 254], .obj [])]) := by
  simp only [distinctKeys, distinctKeysKvs, and_true]
  decide

/-- two keys that collide after sanitising are outside `okW` (the text would have a duplicate member) -/
example : ¬ okW (.obj [([255], .int 1), ([254], .int 2)]) := by
  simp only [okW, okKvs, and_true]
  decide

/-- the calls of the arm of Go type `ty` in a generated arm table -/
def armOf (tbl : List (String × List String)) (ty : String) : Option (List String) :=
  (tbl.find? fun e => e.1 == ty).map (·.2)

/-- the Go types the harness builds for a leaf / container kind of the model (simple and gen flavour) -/
def goTypesOf : JV → List String
  | .null => ["nil"]
  | .bool _ => ["bool", "gen.Bool"]
  | .int _ => ["int", "int8", "int16", "int32", "int64", "uint", "uint8", "uint16", "uint32", "uint64", "gen.Int"]
  | .flt _ => ["float64", "gen.Float"]
  | .str _ => ["string", "gen.String"]
  | .arr _ => ["[]any", "gen.Array"]
  | .obj _ => ["map[string]any", "gen.Object"]
  | .big _ => []
  | .num _ => []

/-- one tree of every kind that has Go types: `goTypesOf` looks at the kind only -/
def leafKinds : List JV := [.null, .bool false, .int 0, .flt [], .str [], .arr [], .obj []]

/-- a fact about the Go types of every kind is a fact about finitely many strings (checked in one
evaluation, so that a generated table it mentions is read once) -/
theorem forall_goTypes {P : String → Prop} (h : ∀ k ∈ leafKinds, ∀ ty ∈ goTypesOf k, P ty) (v : JV) :
    ∀ ty ∈ goTypesOf v, P ty := by
  cases v
  · exact h .null (by simp [leafKinds])
  · exact h (.bool false) (by simp [leafKinds])
  · exact h (.int 0) (by simp [leafKinds])
  · exact h (.flt []) (by simp [leafKinds])
  · exact fun _ hm => nomatch hm
  · exact fun _ hm => nomatch hm
  · exact h (.str []) (by simp [leafKinds])
  · exact h (.arr []) (by simp [leafKinds])
  · exact h (.obj []) (by simp [leafKinds])

/-- what the arm of (*pretty.Writer).build for a Go type has to call for the model
(`Writer/Pretty.lean`, `build`) to be a transcription of it: signed integers and unsigned ones of at
most 32 bits widen into `int64` (exact) and go through `buildInt` (= `fmtInt`), `uint` and `uint64`
go through `buildUint` unconverted, a `float64` / `gen.Float` through the 64-bit float builder -/
def prettyCallOf (ty : String) : List String :=
  if ty == "nil" then ["w.buildNull()"]
  else if ty == "bool" then ["w.buildBool(td)"]
  else if ty == "gen.Bool" then ["w.buildBool(bool(td))"]
  else if ty == "int64" then ["w.buildInt(td)"]
  else if ty == "uint64" then ["w.buildUint(td)"]
  else if ty == "uint" then ["w.buildUint(uint64(td))"]
  else if ty == "float64" then ["w.buildFloat64(td)"]
  else if ty == "gen.Float" then ["w.buildFloat64(float64(td))"]
  else if ty == "string" then ["w.buildStringNode(td)"]
  else if ty == "gen.String" then ["w.buildStringNode(string(td))"]
  else if ty == "[]any" then ["w.buildArrayNode(td)"]
  else if ty == "gen.Array" then ["w.buildGenArrayNode(td)"]
  else if ty == "map[string]any" then ["w.buildMapNode(td)"]
  else if ty == "gen.Object" then ["w.buildGenMapNode(td)"]
  else ["w.buildInt(int64(td))"]

/-- every leaf and container kind of the model has, for every Go type the harness builds for it, its
arm in the type switch of (*pretty.Writer).build of the CURRENT source calling exactly the expected
builder (a leaf kind routed through another builder — `gen.Float` through `buildFloat32`, `uint64`
through `buildInt(int64(…))` — breaks this obligation by name) -/
theorem C04_dispatch_pretty (v : JV) :
    ∀ ty ∈ goTypesOf v, armOf Gen.WriterDispatch.prettyBuild ty = some (prettyCallOf ty) :=
  forall_goTypes (by decide +kernel) v

/-- tripwire for fix cb0e5e8: neither the `uint` nor the `uint64` arm of build converts to `int64`
and calls `buildInt` (which wrote every value of 2^63 or more as a negative number) -/
theorem C04_pretty_uint_tripwire : Gen.WriterDispatch.prettyUintViaInt64 = false := by decide

def hasCall (tbl : List (String × List String)) (name call : String) : Bool :=
  match armOf tbl name with
  | some l => l.contains call
  | none => false

/-- the leaf builders format the way the model does: `buildInt` by `strconv.FormatInt(v, 10)` and
`buildUint` by `strconv.FormatUint(v, 10)` (`fmtInt`), `buildFloat64` by the shortest 64-bit 'g'
form (the `.flt` literal), `buildStringNode` by `ojg.AppendJSONString` with `!w.HTMLUnsafe`
(`jsonString`), `buildNull` / `buildBool` from the constants -/
theorem C04_pretty_builders :
    hasCall Gen.WriterDispatch.prettyBuilders "buildInt" "[]byte(strconv.FormatInt(v, 10))" = true ∧
    hasCall Gen.WriterDispatch.prettyBuilders "buildUint" "[]byte(strconv.FormatUint(v, 10))" = true ∧
    hasCall Gen.WriterDispatch.prettyBuilders "buildFloat64" "[]byte(strconv.FormatFloat(v, 'g', -1, 64))" = true ∧
    hasCall Gen.WriterDispatch.prettyBuilders "buildStringNode" "ojg.AppendJSONString(w.buf, v, !w.HTMLUnsafe)" = true ∧
    hasCall Gen.WriterDispatch.prettyBuilders "buildNull" "[]byte(nullStr)" = true ∧
    hasCall Gen.WriterDispatch.prettyBuilders "buildBool" "[]byte(trueStr)" = true ∧
    hasCall Gen.WriterDispatch.prettyBuilders "buildBool" "[]byte(falseStr)" = true := by
  decide +kernel

/-- the arm of (*oj.Writer).appendJSON a Go type reaches: the gen types have no arm of their own and
reach the writer through `alt.Simplifier` (Simplify gives the simple value of the same kind) -/
def ojArmTypeOf (ty : String) : String := if ty.startsWith "gen." then "alt.Simplifier" else ty

/-- what that arm has to call for the model (`Writer/OjModel.lean`) to be a transcription of it:
signed integers through `strconv.AppendInt` of the value widened to `int64`, unsigned ones through
`strconv.AppendUint` of the value widened to `uint64` (both exact: `fmtInt`), `float64` through the
shortest 64-bit 'g' form, strings through `appendString` with `!wr.HTMLUnsafe`, containers through
the configured `appendArray` / `appendObject` (tight, indented, sorted) -/
def ojCallOf (ty : String) : List String :=
  if ty.startsWith "gen." then ["wr.appendJSON(td.Simplify(), depth)"]
  else if ty == "nil" then ["append(wr.buf, \"null\"...)"]
  else if ty == "bool" then ["append(wr.buf, \"true\"...)", "append(wr.buf, \"false\"...)"]
  else if ty == "int64" then ["strconv.AppendInt(wr.buf, td, 10)"]
  else if ty == "uint64" then ["strconv.AppendUint(wr.buf, td, 10)"]
  else if ty.startsWith "uint" then ["strconv.AppendUint(wr.buf, uint64(td), 10)"]
  else if ty.startsWith "int" then ["strconv.AppendInt(wr.buf, int64(td), 10)"]
  else if ty == "float64" then
    ["len(wr.FloatFormat)", "fmt.Appendf(wr.buf, wr.FloatFormat, td)", "strconv.AppendFloat(wr.buf, td, 'g', -1, 64)"]
  else if ty == "string" then ["wr.appendString(wr.buf, td, !wr.HTMLUnsafe)"]
  else if ty == "[]any" then ["append(wr.buf, \"null\"...)", "wr.appendArray(wr, td, depth)"]
  else if ty == "map[string]any" then ["wr.appendObject(wr, td, depth)"]
  else []

/-- every leaf and container kind of the model has, for every Go type the harness builds for it, its
arm in the type switch of (*oj.Writer).appendJSON of the CURRENT source calling exactly the expected
functions; a gen type has no concrete arm (none shadows the `alt.Simplifier` arm) -/
theorem C04_dispatch_oj (v : JV) :
    ∀ ty ∈ goTypesOf v, armOf Gen.WriterDispatch.ojAppendJSON (ojArmTypeOf ty) = some (ojCallOf ty) ∧
      (ty.startsWith "gen." = true → armOf Gen.WriterDispatch.ojAppendJSON ty = none) :=
  forall_goTypes (by decide +kernel) v

/-- the member filter the model applies (`Writer/OjModel.lean`, `skipMember`: a nil member under
OmitNil; an empty string, object or array under OmitEmpty; nothing else) as the arms every object
writer of oj has to have -/
def omitArmsOf (fn : String) : List (String × List String) :=
  [(fn ++ "/nil", ["if wr.OmitNil", "continue", "end"]),
   (fn ++ "/string", ["if wr.OmitEmpty && len(tm) == 0", "continue", "end"]),
   (fn ++ "/map[string]any", ["if wr.OmitEmpty && len(tm) == 0", "continue", "end"]),
   (fn ++ "/[]any", ["if wr.OmitEmpty && len(tm) == 0", "continue", "end"])]

/-- the four object writers of oj (indented and tight, unsorted and sorted) filter members by the
SAME type switch in the current source, and it has exactly the arms of the model's filter — no arm
more (no other kind is ever dropped), none less, none with another condition -/
theorem C04_omit_dispatch :
    Gen.WriterDispatch.ojOmitSwitch =
      omitArmsOf "appendObject" ++ omitArmsOf "appendSortObject" ++ omitArmsOf "tightObject" ++ omitArmsOf "tightSortObject" := by
  decide +kernel

/-- the statements range over something: an integer leaf has eleven Go types, none missing -/
example : (goTypesOf (.int 5)).length = 11 ∧ goTypesOf (.flt []) = ["float64", "gen.Float"] := by decide

end OjgVerif.C04
