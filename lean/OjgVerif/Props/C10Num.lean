import OjgVerif.Props.C10Int
import OjgVerif.Json.NumValueScan
import OjgVerif.Json.RefineNum
/-! # C10 — number literals: floats (`strconv.AppendFloat(…, 'g', -1, 64)`) and what `sen.Parser` reads from them

The SEN writer writes a float as the text `strconv` produces (format `'g'`, shortest): an optional `-`, an integer
part without leading zero, an optional fraction, an optional exponent `e±dd`. That text is an INPUT of the writer
model (`JV.flt t`). This file proves what `sen.Parser` reads from ANY literal `Json.render p` of the grammar
`-`? int (`.` digits+)? ([eE] [+-]? digits+)? (`Json.Parts`, `p.WF`, no leading zero: `Json.Lead` — the RFC 8259
number grammar, a superset of what `'g'` writes), in any context:

* `num_run`: from value mode the byte machine passes the literal and stands in a number mode (`digit`, `zero`,
  `frac`, `exp`) with the accumulator `Json.acc p` — EXACTLY the accumulator operations of `gen/number.go`
  (`AddDigit` over the integer digits, `AddFrac` over the fraction digits, `AddExp` over the exponent digits, `.`,
  `e` and the sign passed through) that the JSON machine performs on the same literal (`Json.numScan_render`).
  No bound on the number of fraction or exponent digits (the switch of the accumulator to its text form is part of
  `Json.acc`); the one restriction is the integer part: `natOf p.ip < 9223372036854775800`, because from there
  on the integer fast loop of `sen.Parser` goes over to text one digit earlier than `AddDigit`
  (known finding C03sen-int19).
* Therefore the number that comes back is `Json.numConv (render p)` (`numDoc`, `numDoc_eq_numConv`) — what
  `oj.Parse` returns for the same literal — and the numeric clause proved for C02 carries over (`numDoc_exact`):
  an `int64` equal to the literal, or a float64 / `json.Number` given by a decimal text that denotes the same number
  as the literal under the repo-independent reader `Json.decVal` (sign, ALL digits as one integer, power of ten).
  The final conversion of that text to a float64 is the trusted `strconv.ParseFloat`, and that `ParseFloat` maps
  the shortest text `AppendFloat` wrote back to the same float64 is the trusted round trip of the standard library.

`NaN`, `+Inf`, `-Inf` (what `AppendFloat` writes for the non-finite values; the property is about finite floats)
are not literals of the grammar.

Integers at and beyond the limit of the integer fast loop (the 17 int64 values from ±9223372036854775800 on, and every
non-negative integer from 9223372036854775800 up to the uint64 range) come back as `nvInt` says: `int_run_all`. -/
namespace OjgVerif.Sen
open OjgVerif.Json (Num BigLimit isDigitB dval natOf fmtNat Parts ExpPart render sgnTxt fracTxt expTxt Dig Lead acc accInt
  accFrac accExp accSign passThru signStep)

def NumMode (m : Mode) : Prop := m = .digit ∨ m = .zero ∨ m = .frac ∨ m = .exp

theorem NumMode.ne_token {m : Mode} (h : NumMode m) : m ≠ .token := by
  rcases h with rfl | rfl | rfl | rfl <;> decide

theorem NumMode.fin {m : Mode} (h : NumMode m) : expectedFin m = .n := by
  rcases h with rfl | rfl | rfl | rfl <;> rfl

/-- the number-internal transitions of `sen.Parser` on the accumulator alone (all but the digits of the integer
loop, whose fast path is `step_numDigitF`) -/
def numStepS (m : Mode) (n : Num) (b : UInt8) : Option (Mode × Num) :=
  match expected m b with
  | .numZero => some (.zero, n)
  | .negDigit => some (.digit, n.addDigit b)
  | .numDot => if 0 < n.big.length then none else some (.frac, n)
  | .numFrac => some (.frac, n.addFrac b)
  | .fracE => some (.expSign, passThru n b)
  | .expSign => some (.expZero, signStep n b)
  | .expDigit => some (.exp, n.addExp b)
  | _ => none

theorem step_numS (st : St) (f : Fast) (b : UInt8) (l : Bool) (m' : Mode) (n' : Num) (hmt : st.mode ≠ .token)
    (hf : f.nlSkipping = false) (h : numStepS st.mode st.num b = some (m', n')) :
    step refTables {} st f b l = .ok ({ st with mode := m', num := n' }, fS f, false) := by
  have hra : refTables.act = expected := rfl
  have hrf : refTables.fin = expectedFin := rfl
  unfold numStepS at h
  split at h <;> rename_i hact
  -- `h_3`, `h_8`: the names `split` gives the third arm of `numStepS` (`numDot`) and its last one (`_`), by position.
  -- `numDot` only while the number is not text
  case h_3 =>
    split at h <;> cases h
    rename_i hb
    simp [step, stepCore, stepAct, stepActP, hra, hrf, hact, hf, hmt, hb, deliver, expectedFin, nextFast, fS]
  case h_8 => cases h
  all_goals
    cases h
    simp [step, stepCore, stepAct, stepActP, hra, hrf, hact, hf, hmt, deliver, expectedFin, nextFast, fS, passThru, signStep]

theorem digit_classes (d : UInt8) (h : isDigitB d) : expected .frac d = .numFrac ∧ expected .exp d = .expDigit ∧
    expected .expZero d = .expDigit ∧ expected .expSign d = .expDigit :=
  of_decide_eq_true (all_bytes (fun b => decide (48 ≤ b.toNat ∧ b.toNat ≤ 57 → expected .frac b = .numFrac ∧
    expected .exp b = .expDigit ∧ expected .expZero b = .expDigit ∧ expected .expSign b = .expDigit)) (by decide +kernel) d) h

/-- over the bytes `bs` the machine goes from the number mode `m` with accumulator `n` to `m'` with `n'`, whatever the
context and whatever follows, and changes nothing else -/
def NumRuns (m : Mode) (n : Num) (bs : Bytes) (m' : Mode) (n' : Num) : Prop :=
  ∀ (st : St) (f : Fast) (p : Pos) (rest : Bytes), f.nlSkipping = false →
    ∃ f' p', runBytes refTables {} { st with mode := m, num := n } f p (bs ++ rest) =
      runBytes refTables {} { st with mode := m', num := n' } f' p' rest ∧ f'.nlSkipping = false

theorem NumRuns.nil (m : Mode) (n : Num) : NumRuns m n [] m n := fun _ f p _ hf => ⟨f, p, rfl, hf⟩

theorem NumRuns.trans {m m1 m2 : Mode} {n n1 n2 : Num} {bs cs : Bytes} (h1 : NumRuns m n bs m1 n1)
    (h2 : NumRuns m1 n1 cs m2 n2) : NumRuns m n (bs ++ cs) m2 n2 := by
  intro st f p rest hf
  obtain ⟨f1, p1, e1, hf1⟩ := h1 st f p (cs ++ rest) hf
  obtain ⟨f2, p2, e2, hf2⟩ := h2 st f1 p1 rest hf1
  exact ⟨f2, p2, by rw [List.append_assoc, e1, e2], hf2⟩

theorem NumRuns.step {m m' : Mode} {n n' : Num} {b : UInt8} (hmt : m ≠ .token) (h : numStepS m n b = some (m', n')) :
    NumRuns m n [b] m' n' := fun st f p _ hf =>
  ⟨fS f, p.next false, runBytes_cons_ok {} fun l => step_numS { st with mode := m, num := n } f b l m' n' hmt hf h, rfl⟩

theorem NumRuns.fold (m : Mode) (hmt : m ≠ .token) (op : Num → UInt8 → Num)
    (hstep : ∀ n d, isDigitB d → numStepS m n d = some (m, op n d)) :
    ∀ (ds : Bytes) (n : Num), (∀ d ∈ ds, isDigitB d) → NumRuns m n ds m (ds.foldl op n)
  | [], n, _ => .nil m n
  | d :: r, n, hds => (NumRuns.step hmt (hstep n d (hds d List.mem_cons_self))).trans
      (NumRuns.fold m hmt op hstep r (op n d) fun x hx => hds x (List.mem_cons_of_mem _ hx))

theorem natOf_cons_foldl (d : UInt8) (ds : Bytes) :
    ds.foldl (fun a b => a * 10 + dval b) (dval d) = natOf (d :: ds) := by
  simp [natOf]

theorem d_digit (d : UInt8) (h : Json.Spec.isDigit d = true) : isDigitB d :=
  Json.isDigitB_of_isDigit d h

theorem isDigit19_isDigit' (d : UInt8) (h : Json.Spec.isDigit19 d = true) : Json.Spec.isDigit d = true :=
  Json.isDigit19_isDigit d h

/-- the sign and the integer part: the accumulator is `accInt` and holds the value exactly; the loop stands in `zero`
mode only after the literal `0`, and in its fast state exactly after an unsigned literal that begins with 1..9 (the
only way in is `valDigit`) -/
theorem ip_runF (neg : Bool) (ip : Bytes) (hip : Dig ip) (hl : Lead ip) (hb : natOf ip < 9223372036854775800)
    (st : St) (f : Fast) (p : Pos) (rest : Bytes) (hm : st.mode = .value) (hf : f.nlSkipping = false) :
    ∃ m f' p', runBytes refTables {} st f p (sgnTxt neg ++ (ip ++ rest)) =
        runBytes refTables {} { st with mode := m, num := accInt neg ip } f' p' rest ∧
      (m = .digit ∨ m = .zero) ∧ f'.nlSkipping = false ∧ NumOK (accInt neg ip) neg (natOf ip) ∧
      (m = .zero → ip = [48]) ∧ (f'.inFast = true ↔ neg = false ∧ m = .digit) := by
  have hz : ∀ s : Bool, accInt s [48] = { neg := s } := fun s => by cases s <;> rfl
  have ok0 : ∀ s : Bool, NumOK { neg := s } s (natOf [48]) := fun s => ⟨rfl, rfl, rfl, rfl, rfl⟩
  -- the digits after a first digit 1..9, from the state `s1` the first digit leaves
  have tail : ∀ (d : UInt8) (ds : Bytes) (s1 : St) (f1 : Fast) (p1 : Pos), Dig (d :: ds) → natOf (d :: ds) < 9223372036854775800 →
      s1.mode = .digit → f1.nlSkipping = false → NumOK s1.num neg (dval d) → s1.num = accInt neg [d] →
      ∃ f' p', runBytes refTables {} s1 f1 p1 (ds ++ rest) =
          runBytes refTables {} { s1 with num := accInt neg (d :: ds) } f' p' rest ∧
        f'.nlSkipping = false ∧ NumOK (accInt neg (d :: ds)) neg (natOf (d :: ds)) ∧ f'.inFast = f1.inFast := by
    intro d ds s1 f1 p1 hd hb hm1 hf1 hok e
    obtain ⟨f', p', hrun, hf', hn', hi', _⟩ := digits_run ds s1 f1 p1 rest neg (dval d) hm1 hf1
      (Json.isDigitB_of_dig fun x hx => hd x (List.mem_cons_of_mem _ hx)) hok (by rw [natOf_cons_foldl]; exact hb)
    have hacc : accInt neg (d :: ds) = ds.foldl Num.addDigit s1.num := by rw [e]; rfl
    exact ⟨f', p', hacc ▸ hrun, hf', by rw [hacc, ← natOf_cons_foldl]; exact hn', hi'⟩
  cases neg with
  | false =>
    simp only [sgnTxt, Bool.false_eq_true, ↓reduceIte, List.nil_append]
    rcases hl with rfl | ⟨d, ds, rfl, hd⟩
    · refine ⟨.zero, fS f, p.next false, ?_, .inr rfl, rfl, hz false ▸ ok0 false, fun _ => rfl, by simp [fS]⟩
      rw [List.singleton_append, runBytes_cons_ok {} fun l => step_val0 st f l hm hf, hz]; rfl
    · have hdd := (d19_digit d hd).1
      obtain ⟨f', p', hrun, hf', hn', hi'⟩ := tail d ds
        { st with mode := .digit, num := { st.num.reset with i := (d - 48).toUInt64 } }
        { inFast := true, tokFast := f.tokFast, nlSkipping := false } (p.next false) hip hb rfl rfl
        ⟨rfl, Json.digit_toUInt64 d hdd, rfl, rfl, rfl⟩
        (by simp only [accInt, List.foldl_cons, List.foldl_nil, Json.addDigit_fresh false d (isDigit19_isDigit' d hd)]; rfl)
      refine ⟨.digit, f', p', ?_, .inl rfl, hf', hn', nofun, by simp [hi']⟩
      rw [List.cons_append, runBytes_cons_ok {} fun l => step_valDigit st f d l hm hf hd, hrun]
  | true =>
    simp only [sgnTxt, ↓reduceIte, List.cons_append, List.nil_append]
    let s1 : St := { st with mode := .neg, num := { st.num.reset with neg := true } }
    rw [runBytes_cons_ok {} fun l => step_valNeg st f l hm hf]
    rcases hl with rfl | ⟨d, ds, rfl, hd⟩
    · refine ⟨.zero, fS (fS f), (p.next false).next false, ?_, .inr rfl, rfl, hz true ▸ ok0 true, fun _ => rfl, by simp [fS]⟩
      rw [List.singleton_append, runBytes_cons_ok {} fun l => step_numS s1 (fS f) 48 l .zero s1.num nofun rfl
        (by simp [numStepS, show expected .neg 48 = .numZero from rfl, s1]), hz]; rfl
    · have hdd := (d19_digit d hd).1
      obtain ⟨hok2, hadd, _⟩ := NumOK_digit s1.num true 0 d ⟨rfl, rfl, rfl, rfl, rfl⟩ (by omega) hdd
      obtain ⟨f', p', hrun, hf', hn', hi'⟩ := tail d ds { s1 with num := s1.num.addDigit d, mode := .digit } (fS (fS f))
        ((p.next false).next false) hip hb rfl rfl (by rw [hadd]; simpa using hok2) rfl
      refine ⟨.digit, f', p', ?_, .inl rfl, hf', hn', nofun, by simp [hi', fS]⟩
      rw [List.cons_append, runBytes_cons_ok {} fun l => step_negDigit s1 (fS f) d l rfl rfl hd, hrun]

theorem ip_run (neg : Bool) (ip : Bytes) (hip : Dig ip) (hl : Lead ip) (hb : natOf ip < 9223372036854775800)
    (st : St) (f : Fast) (p : Pos) (rest : Bytes) (hm : st.mode = .value) (hf : f.nlSkipping = false) :
    ∃ m f' p', runBytes refTables {} st f p (sgnTxt neg ++ (ip ++ rest)) =
        runBytes refTables {} { st with mode := m, num := accInt neg ip } f' p' rest ∧
      (m = .digit ∨ m = .zero) ∧ f'.nlSkipping = false ∧ NumOK (accInt neg ip) neg (natOf ip) := by
  obtain ⟨m, f', p', h1, h2, h3, h4, _⟩ := ip_runF neg ip hip hl hb st f p rest hm hf
  exact ⟨m, f', p', h1, h2, h3, h4⟩

theorem frac_run (fo : Option Bytes) (hwf : ∀ fs, fo = some fs → Dig fs ∧ fs ≠ []) (m : Mode)
    (hm : m = .digit ∨ m = .zero) (n : Num) (hb : n.big = []) :
    ∃ m', NumRuns m n (fracTxt fo) m' (accFrac n fo) ∧ (m' = .digit ∨ m' = .zero ∨ m' = .frac) := by
  cases fo with
  | none => exact ⟨m, .nil m n, hm.elim .inl (.inr ∘ .inl)⟩
  | some fs =>
    refine ⟨.frac, ?_, .inr (.inr rfl)⟩
    have hdot : numStepS m n 46 = some (.frac, passThru n 46) := by
      rcases hm with rfl | rfl <;>
        simp [numStepS, show expected .digit 46 = .numDot from rfl, show expected .zero 46 = .numDot from rfl, hb, passThru]
    exact (NumRuns.step (by rcases hm with rfl | rfl <;> decide) hdot).trans
      (.fold .frac (by decide) Num.addFrac (fun n d hd => by simp [numStepS, (digit_classes d hd).1]) fs _
        (Json.isDigitB_of_dig (hwf fs rfl).1))

theorem numStepS_exp (m : Mode) (hm : m = .expSign ∨ m = .expZero ∨ m = .exp) (n : Num) (d : UInt8) (hd : isDigitB d) :
    numStepS m n d = some (.exp, n.addExp d) := by
  obtain ⟨_, c2, c3, c4⟩ := digit_classes d hd
  rcases hm with rfl | rfl | rfl <;> simp [numStepS, c2, c3, c4]

theorem exp_run (eo : Option ExpPart) (hwe : ∀ x, eo = some x → x.WF) (m : Mode)
    (hm : m = .digit ∨ m = .zero ∨ m = .frac) (n : Num) :
    ∃ m', NumRuns m n (expTxt eo) m' (accExp n eo) ∧ NumMode m' := by
  cases eo with
  | none => exact ⟨m, .nil m n, hm.elim .inl fun h => h.elim (.inr ∘ .inl) (.inr ∘ .inr ∘ .inl)⟩
  | some x =>
    obtain ⟨e, sg, es⟩ := x
    obtain ⟨he, hsg, hes, hne⟩ := hwe _ rfl
    simp only at he hsg hes hne
    obtain ⟨d, ds, rfl⟩ := List.exists_cons_of_ne_nil hne
    have hesB := Json.isDigitB_of_dig hes
    have hd := hesB d List.mem_cons_self
    refine ⟨.exp, ?_, .inr (.inr (.inr rfl))⟩
    have hE : NumRuns m n [e] .expSign (passThru n e) := .step (by rcases hm with rfl | rfl | rfl <;> decide) (by
      rcases hm with rfl | rfl | rfl <;> rcases he with rfl | rfl <;> rfl)
    have hS : NumRuns .expSign (passThru n e) (sg ++ [d]) .exp ((accSign (passThru n e) sg).addExp d) := by
      rcases hsg with rfl | rfl | rfl
      · exact .step (by decide) (numStepS_exp _ (.inl rfl) _ d hd)
      all_goals exact (NumRuns.step (by decide) rfl).trans (.step (by decide) (numStepS_exp _ (.inr (.inl rfl)) _ d hd))
    have hD := NumRuns.fold .exp (by decide) Num.addExp (numStepS_exp _ (.inr (.inr rfl))) ds
      ((accSign (passThru n e) sg).addExp d) fun x hx => hesB x (List.mem_cons_of_mem _ hx)
    simpa [expTxt, accExp] using hE.trans (hS.trans hD)

/-- **`sen.Parser` over a number literal performs `Json.acc`** — the accumulator operations of `gen/number.go`
the JSON machine performs on the same literal (`Json.numScan_render`) — in any context, whatever follows -/
theorem num_run (q : Parts) (hw : q.WF) (hl : Lead q.ip) (hb : natOf q.ip < 9223372036854775800)
    (st : St) (f : Fast) (p : Pos) (rest : Bytes) (hm : st.mode = .value) (hf : f.nlSkipping = false) :
    ∃ m f' p', runBytes refTables {} st f p (render q ++ rest) =
        runBytes refTables {} { st with mode := m, num := acc q } f' p' rest ∧ NumMode m ∧ f'.nlSkipping = false := by
  obtain ⟨s, ip, fo, eo⟩ := q
  obtain ⟨hip, _, hwf, hwe⟩ := hw
  simp only at hip hwf hwe hl hb
  obtain ⟨m1, f1, p1, hrun1, hm1, hf1, hok⟩ := ip_run s ip hip hl hb st f p (fracTxt fo ++ (expTxt eo ++ rest)) hm hf
  obtain ⟨m2, hfrac, hm2⟩ := frac_run fo hwf m1 hm1 (accInt s ip) hok.big
  obtain ⟨m3, hexp, hm3⟩ := exp_run eo hwe m2 hm2 (accFrac (accInt s ip) fo)
  obtain ⟨f3, p3, hrun3, hf3⟩ := (hfrac.trans hexp) st f1 p1 rest hf1
  refine ⟨m3, f3, p3, ?_, hm3, hf3⟩
  simp only [render, acc, List.append_assoc] at hrun3 ⊢
  rw [hrun1, hrun3]

/-- the number `sen.Parser` delivers for the literal: `gen.Number.AsNum` of the accumulator -/
def numDoc (q : Parts) : JV := (acc q).asNum.toJV

/-- it is what the JSON machine (`oj.Parse`) delivers for the same literal -/
theorem numDoc_eq_numConv (q : Parts) (hw : q.WF) (hl : Lead q.ip) : numDoc q = Json.numConv (render q) := by
  unfold numDoc Json.numConv
  rw [Json.numScan_render q hw hl]

/-- **numbers keep their value**: the literal denotes `m · 10^e` under the repo-independent reader `Json.decVal`;
an `int64` result is `m` (and `e = 0`), the text of a float64 (handed to `strconv.ParseFloat`) or `json.Number`
result denotes the same mantissa and the same power of ten -/
theorem numDoc_exact (q : Parts) (hw : q.WF) :
    ∃ m e, Json.decVal (render q) = some (m, e) ∧
      match numDoc q with
      | .int v => v = m ∧ e = 0 ∧ -9223372036854775807 ≤ v ∧ v ≤ 9223372036854775807
      | .flt t => Json.decVal t = some (m, e)
      | .big t => Json.decVal t = some (m, e)
      | _ => False := by
  refine ⟨(Json.pval q).1, (Json.pval q).2, Json.decVal_render q hw, ?_⟩
  have ht := Json.tracks_asNum (acc q) q (Json.tracks_acc q hw) hw
  unfold numDoc
  cases hres : (acc q).asNum with
  | int v =>
    rw [hres] at ht
    simp only [Json.NumRes.toJV]
    exact ⟨by rw [ht.1], by rw [ht.1], ht.2.1, ht.2.2⟩
  | flt t => rw [hres] at ht; exact ht
  | big t => rw [hres] at ht; exact ht

/-- the literals of the theorem: RFC 8259 number grammar (a superset of what `strconv` writes with format `'g'`),
integer part below the limit of the integer fast loop -/
def NumAdm (t : Bytes) : Prop :=
  ∃ q : Parts, q.WF ∧ Lead q.ip ∧ natOf q.ip < 9223372036854775800 ∧ t = render q

/-- every complete literal `Spec.pNumber` reads whose integer part is below the limit is such a literal
(this is the test the correspondence run applies to every float text the Go writer produced) -/
theorem numAdm_of_pNumber (t : Bytes) (h : Json.Spec.pNumber t = some (t, []))
    (hb : ∀ q : Parts, t = render q → natOf q.ip < 9223372036854775800) : NumAdm t := by
  obtain ⟨q, hw, hl, he⟩ := Json.pNumber_parts t t [] h
  exact ⟨q, hw, hl, hb q he, he⟩

/-- executable form of `WF`, `Lead` and the limit (for the examples) -/
def numAdmB (q : Parts) : Bool :=
  q.ip.all Json.Spec.isDigit && !q.ip.isEmpty &&
  (match q.fo with | none => true | some fs => fs.all Json.Spec.isDigit && !fs.isEmpty) &&
  (match q.eo with
   | none => true
   | some x => (x.e == 101 || x.e == 69) && (x.sg == [] || x.sg == [43] || x.sg == [45]) && x.es.all Json.Spec.isDigit && !x.es.isEmpty) &&
  (q.ip == [48] || (match q.ip with | d :: _ => Json.Spec.isDigit19 d | [] => false)) &&
  decide (natOf q.ip < 9223372036854775800)

theorem numAdm_text (t : Bytes) (q : Parts) (h : numAdmB q = true) (ht : render q = t) : NumAdm t := by
  subst ht
  obtain ⟨s, ip, fo, eo⟩ := q
  simp only [numAdmB, Bool.and_eq_true, decide_eq_true_eq, Bool.not_eq_true', List.all_eq_true, Bool.or_eq_true,
    beq_iff_eq] at h
  obtain ⟨⟨⟨⟨⟨h1, h2⟩, h3⟩, h4⟩, h5⟩, h6⟩ := h
  refine ⟨⟨s, ip, fo, eo⟩, ⟨h1, ?_, ?_, ?_⟩, ?_, h6, rfl⟩
  · intro e; simp only at e; subst e; simp at h2
  · intro fs hfs
    simp only at hfs; subst hfs
    simp only [Bool.and_eq_true, List.all_eq_true, Bool.not_eq_true'] at h3
    exact ⟨h3.1, fun e => by subst e; simp at h3⟩
  · intro x hx
    simp only at hx; subst hx
    simp only [Bool.and_eq_true, List.all_eq_true, Bool.not_eq_true', Bool.or_eq_true, beq_iff_eq] at h4
    obtain ⟨⟨⟨ha, hb⟩, hc⟩, hd⟩ := h4
    refine ⟨ha, ?_, hc, fun e => by rw [e] at hd; simp at hd⟩
    rcases hb with (hb | hb) | hb
    · exact Or.inl hb
    · exact Or.inr (Or.inl hb)
    · exact Or.inr (Or.inr hb)
  · rcases h5 with h5 | h5
    · exact Or.inl h5
    · cases ip with
      | nil => simp at h5
      | cons d ds => exact Or.inr ⟨d, ds, rfl, h5⟩

/-- shapes `'g'` produces: `1.5`, `-0`, `1e+06`, `1.2345678901234567e-05`, `0.00012345678901234567` (20 fraction
digits: the accumulator goes over to its text form, the result is a `json.Number` with the same digits) -/
example : NumAdm "1.5".toUTF8.toList ∧ NumAdm "-0".toUTF8.toList ∧ NumAdm "1e+06".toUTF8.toList ∧
    NumAdm "1.2345678901234567e-05".toUTF8.toList ∧ NumAdm "0.00012345678901234567".toUTF8.toList :=
  ⟨numAdm_text _ ⟨false, [49], some [53], none⟩ (by decide +kernel) (by decide +kernel),
   numAdm_text _ ⟨true, [48], none, none⟩ (by decide +kernel) (by decide +kernel),
   numAdm_text _ ⟨false, [49], none, some ⟨101, [43], [48, 54]⟩⟩ (by decide +kernel) (by decide +kernel),
   numAdm_text _ ⟨false, [49], some "2345678901234567".toUTF8.toList, some ⟨101, [45], [48, 53]⟩⟩ (by decide +kernel) (by decide +kernel),
   numAdm_text _ ⟨false, [48], some "00012345678901234567".toUTF8.toList, none⟩ (by decide +kernel) (by decide +kernel)⟩

def isFltT (v : JV) (t : String) : Bool := match v with | .flt x => x == t.toUTF8.toList | _ => false
def isBigT (v : JV) (t : String) : Bool := match v with | .big x => x == t.toUTF8.toList | _ => false
def isIntV (v : JV) (i : Int) : Bool := match v with | .int x => x == i | _ => false

/-- what comes back for them: the float of the same text (exponent without `+` and leading zeros), an `int64` for a
literal without fraction and exponent, a `json.Number` when there are more than 18 fraction digits -/
example : isFltT (Json.numConv "1.5".toUTF8.toList) "1.5" ∧ isIntV (Json.numConv "-0".toUTF8.toList) 0 ∧
    isFltT (Json.numConv "1e+06".toUTF8.toList) "1e6" ∧ isIntV (Json.numConv "100000".toUTF8.toList) 100000 ∧
    isFltT (Json.numConv "1.2345678901234567e-05".toUTF8.toList) "1.2345678901234567e-5" ∧
    isBigT (Json.numConv "0.00012345678901234567".toUTF8.toList) "0.00012345678901234567" := by decide +kernel

/-- what comes back for an integer: the int64 itself below the limit of the integer fast loop; from
9223372036854775800 on (the fast loop goes over to text one digit early: known finding C03sen-int19) and for
-9223372036854775808 a `json.Number` with the same digits -/
def nvInt (i : Int) : JV :=
  if -9223372036854775808 < i ∧ i < 9223372036854775800 then .int i else .big (fmtInt i)

theorem fmtNat_lead (n : Nat) : Dig (fmtNat n) ∧ Lead (fmtNat n) := by
  obtain ⟨d, ds, he, _, h0, h19⟩ := Writer.fmtNat_shape n
  rw [fmtNat_eq] at he
  refine ⟨Json.fmtNat_dig n, ?_⟩
  rw [he]
  rcases Nat.eq_zero_or_pos n with hn | hn
  · obtain ⟨rfl, rfl⟩ := h0 hn; exact .inl rfl
  · exact .inr ⟨d, ds, rfl, h19 hn⟩

theorem fmtNat_snoc (n : Nat) (h : 10 ≤ n) : fmtNat n = fmtNat (n / 10) ++ [UInt8.ofNat (48 + n % 10)] :=
  Json.fmtNat_snoc n h

theorem fillBig_pos (n : Num) (v : Nat) (h : NumOK n false v) : n.fillBig = { n with big := fmtNat v } := by
  obtain ⟨h1, h2, h3, h4, h5⟩ := h
  have hd : ¬ ((1 : UInt64) < n.div) := by rw [h3]; decide
  have he : ¬ ((0 : UInt64) < n.exp) := by rw [h4]; decide
  unfold Num.fillBig
  simp only [h1, h2, h5, hd, he, ↓reduceIte, List.nil_append, Bool.false_eq_true]

theorem step_fastBig (st : St) (f : Fast) (d : UInt8) (hm : st.mode = .digit) (hf : f.nlSkipping = false)
    (hfast : f.inFast = true) (hd : isDigitB d) (v : Nat) (hn : NumOK st.num false v) (hv : 922337203685477580 ≤ v) :
    ∃ s', (∀ l, step refTables {} st f d l = .ok (s', { inFast := false, tokFast := f.tokFast, nlSkipping := false }, false)) ∧
      s'.mode = .digit ∧ s'.num = { st.num with big := fmtNat v ++ [d] } ∧ s'.starts = st.starts ∧ s'.stack = st.stack ∧
      s'.docs = st.docs ∧ s'.plus = st.plus := by
  have hact := digit_numDigit d hd
  have hle : BigLimit ≤ st.num.i := by
    rw [UInt64.le_iff_toNat_le, hn.i]
    have : BigLimit.toNat = 922337203685477580 := rfl
    omega
  have hfb := fillBig_pos st.num v hn
  have hne : 0 < (fmtNat v).length := List.length_pos_iff.mpr (Json.fmtNat_ne_nil v)
  have hadd : st.num.fillBig.addDigit d = { st.num with big := fmtNat v ++ [d] } := by
    rw [hfb]
    simp [Num.addDigit, hne]
  let ft : List Char := if st.num.i.toNat * 10 + (d - 48).toNat ≤ 9223372036854775807 then (st.addFeat 'i').feat else st.feat
  let s' : St := { st with num := st.num.fillBig.addDigit d, feat := ft }
  refine ⟨s', ?_, hm, hadd, rfl, rfl, rfl, rfl⟩
  intro l
  simp [step, stepCore, stepAct, stepActP, nextFast, deliver, refTables, expectedFin, hm, hf, hact, hle, hfast, s', ft]

theorem lastDigit (n : Nat) : isDigitB (UInt8.ofNat (48 + n % 10)) := by
  have := Writer.digit_toNat (n % 10) (by omega)
  unfold isDigitB; omega

/-- **non-negative integers from the limit of the fast loop up to (beyond) the uint64 range** come back as a
`json.Number` with the same digits. The upper bound is ten times the limit: exactly the `n` for which `n / 10`, all digits
but the last, is still below the limit and is read by `ip_runF`; 18446744073709551615 lies below it (`int_run_all`) -/
theorem edge_run_posN (n : Nat) (hn : 9223372036854775800 ≤ n ∧ n < 92233720368547758000) (st : St) (f : Fast) (p : Pos)
    (rest : Bytes) (hm : st.mode = .value) (hf : f.nlSkipping = false) :
    ∃ st' f' p', runBytes refTables {} st f p (fmtNat n ++ rest) = runBytes refTables {} st' f' p' rest ∧
      st'.mode = .digit ∧ st'.num.asNum.toJV = .big (fmtNat n) ∧ st'.starts = st.starts ∧
      st'.stack = st.stack ∧ st'.docs = st.docs ∧ st'.plus = st.plus ∧ f'.nlSkipping = false := by
  have hsn := fmtNat_snoc n (by omega)
  have hnat := Json.natOf_fmtNat (n / 10)
  -- all digits but the last stay below the limit: the loop is in its fast state and holds `n / 10`
  obtain ⟨m, f1, p1, hrun, hm1, hf1, hok, hz, hfast⟩ := ip_runF false (fmtNat (n / 10)) (fmtNat_lead _).1 (fmtNat_lead _).2
    (by omega) st f p (UInt8.ofNat (48 + n % 10) :: rest) hm hf
  obtain rfl : m = .digit := hm1.resolve_right fun h => by rw [hz h] at hnat; change 0 = _ at hnat; omega
  obtain ⟨s3, hstep3, m3, n3, a3, b3, c3, d3⟩ := step_fastBig { st with mode := .digit, num := accInt false (fmtNat (n / 10)) } f1
    _ rfl hf1 (hfast.mpr ⟨rfl, rfl⟩) (lastDigit n) (n / 10) (by rwa [hnat] at hok) (by omega)
  refine ⟨s3, { inFast := false, tokFast := f1.tokFast, nlSkipping := false }, p1.next false, ?_, m3, ?_, a3, b3, c3, d3, rfl⟩
  · rw [hsn, List.append_assoc, List.singleton_append]
    exact hrun.trans (runBytes_cons_ok {} hstep3)
  · rw [n3, hsn]
    simp [Num.asNum, Json.NumRes.toJV]

/-- `922337203685477580` = `math.MaxInt64 / 10`: the first 18 digits of every integer at the limit -/
def P18 : Bytes := [57, 50, 50, 51, 51, 55, 50, 48, 51, 54, 56, 53, 52, 55, 55, 53, 56, 48]

theorem fmtNat_edge : ∀ k : Fin 9, fmtNat (9223372036854775800 + k.val) = P18 ++ [UInt8.ofNat (48 + k.val)] := by
  decide +kernel

theorem edge_text (m : Nat) (hm : 9223372036854775800 ≤ m ∧ m ≤ 9223372036854775808) :
    ∃ k : Nat, k ≤ 8 ∧ m = 9223372036854775800 + k ∧ fmtNat m = P18 ++ [UInt8.ofNat (48 + k)] := by
  refine ⟨m - 9223372036854775800, by omega, by omega, ?_⟩
  have h := fmtNat_edge ⟨m - 9223372036854775800, by omega⟩
  rwa [show 9223372036854775800 + (m - 9223372036854775800) = m by omega] at h

/-- **the integers at the int64 limit**, positive: 9223372036854775800 … 9223372036854775808 (`k ≤ 8`) come back as a
`json.Number` with the same digits (the integer fast loop goes over to text when `BigLimit <= I`); `edge_run_posN` on
these nine, with the digits written out -/
theorem edge_run_pos (k : Nat) (hk : k ≤ 8) (st : St) (f : Fast) (p : Pos) (rest : Bytes) (hm : st.mode = .value)
    (hf : f.nlSkipping = false) :
    ∃ st' f' p', runBytes refTables {} st f p ((P18 ++ [UInt8.ofNat (48 + k)]) ++ rest) = runBytes refTables {} st' f' p' rest ∧
      st'.mode = .digit ∧ st'.num.asNum.toJV = .big (P18 ++ [UInt8.ofNat (48 + k)]) ∧ st'.starts = st.starts ∧
      st'.stack = st.stack ∧ st'.docs = st.docs ∧ st'.plus = st.plus ∧ f'.nlSkipping = false := by
  have h := edge_run_posN (9223372036854775800 + k) ⟨by omega, by omega⟩ st f p rest hm hf
  rwa [show fmtNat (9223372036854775800 + k) = _ from fmtNat_edge ⟨k, by omega⟩] at h

theorem step_slowDigit (st : St) (f : Fast) (d : UInt8) (l : Bool) (hm : st.mode = .digit) (hf : f.nlSkipping = false)
    (hfast : f.inFast = false) (hd : isDigitB d) :
    step refTables {} st f d l = .ok ({ st with num := st.num.addDigit d },
      { inFast := false, tokFast := f.tokFast, nlSkipping := false }, false) := by
  have hact := digit_numDigit d hd
  simp [step, stepCore, stepAct, stepActP, nextFast, deliver, refTables, expectedFin, hm, hf, hact, hfast]

/-- `AsNum` after the last digit of a negative integer at the limit: an int64 down to -9223372036854775807, the text
for -9223372036854775808 (`AddDigit` goes over to text when the value no longer fits) -/
theorem asNum_edge_neg (fr : UInt64) (ne : Bool) (k : Nat) (hk : k ≤ 8) :
    (({ i := 922337203685477580, frac := fr, div := 1, exp := 0, neg := true, negExp := ne, big := [] } : Num).addDigit
      (UInt8.ofNat (48 + k))).asNum.toJV = nvInt (-(9223372036854775800 + (k : Int))) := by
  have hle : ((922337203685477580 : UInt64) ≤ BigLimit) = True := by decide
  rcases (show k = 8 ∨ k = 0 ∨ k = 1 ∨ k = 2 ∨ k = 3 ∨ k = 4 ∨ k = 5 ∨ k = 6 ∨ k = 7 by omega) with
    rfl | rfl | rfl | rfl | rfl | rfl | rfl | rfl | rfl
  · -- -9223372036854775808: the value does not fit, `AddDigit` writes the text
    simp only [Num.addDigit, List.length_nil, Nat.lt_irrefl, ↓reduceIte, hle]
    rw [if_pos (by decide)]
    simp only [Num.asNum, Num.fillBig]
    rfl
  all_goals
    simp only [Num.addDigit, List.length_nil, Nat.lt_irrefl, ↓reduceIte, hle]
    rw [if_neg (by decide)]
    simp only [Num.asNum, List.length_nil, Nat.lt_irrefl, ↓reduceIte, Bool.and_self, Json.NumRes.toJV]
    rfl

theorem num_of_NumOK (n : Num) (neg : Bool) (h : NumOK n neg 922337203685477580) :
    n = { i := 922337203685477580, frac := n.frac, div := 1, exp := 0, neg := neg, negExp := n.negExp, big := [] } := by
  obtain ⟨h1, h2, h3, h4, h5⟩ := h
  have hi : n.i = 922337203685477580 := by
    apply UInt64.toNat_inj.mp
    rw [h2]; rfl
  cases n
  simp_all

/-- the seven conjuncts `edge_run_neg` concludes about the state after the digits, as one predicate; `edge_run_posN`
has `.big (fmtNat n)` in the second (the value of `nvInt` there), `int_run_all` has `NumMode` in the first. The theorems
spell the conjuncts out -/
def EdgeEnd (st st' : St) (f' : Fast) (i : Int) : Prop :=
  st'.mode = .digit ∧ st'.num.asNum.toJV = nvInt i ∧ st'.starts = st.starts ∧ st'.stack = st.stack ∧ st'.docs = st.docs ∧
  st'.plus = st.plus ∧ f'.nlSkipping = false

/-- negative: -9223372036854775800 … -9223372036854775807 come back as int64 (the fast loop is only entered from a
first digit without sign), -9223372036854775808 as a `json.Number` -/
theorem edge_run_neg (k : Nat) (hk : k ≤ 8) (st : St) (f : Fast) (p : Pos) (rest : Bytes) (hm : st.mode = .value)
    (hf : f.nlSkipping = false) :
    ∃ st' f' p', runBytes refTables {} st f p ((45 :: (P18 ++ [UInt8.ofNat (48 + k)])) ++ rest) = runBytes refTables {} st' f' p' rest ∧
      st'.mode = .digit ∧ st'.num.asNum.toJV = nvInt (-(9223372036854775800 + (k : Int))) ∧ st'.starts = st.starts ∧
      st'.stack = st.stack ∧ st'.docs = st.docs ∧ st'.plus = st.plus ∧ f'.nlSkipping = false := by
  -- the first 18 digits stay below the limit; the last one is an ordinary `AddDigit` (the loop is not in its fast state)
  obtain ⟨m, f1, p1, hrun, hm1, hf1, hok, hz, hfast⟩ := ip_runF true P18 (show ∀ d ∈ P18, _ by decide) (.inr ⟨_, _, rfl, rfl⟩) (by decide)
    st f p (UInt8.ofNat (48 + k) :: rest) hm hf
  obtain rfl : m = .digit := hm1.resolve_right fun h => absurd (hz h) (by decide)
  have hslow : f1.inFast = false := Bool.eq_false_iff.mpr fun h => nomatch (hfast.mp h).1
  have hdk : isDigitB (UInt8.ofNat (48 + k)) := by have := lastDigit k; rwa [Nat.mod_eq_of_lt (by omega)] at this
  rw [show natOf P18 = 922337203685477580 by decide +kernel] at hok
  refine ⟨{ st with mode := .digit, num := (accInt true P18).addDigit (UInt8.ofNat (48 + k)) },
    { inFast := false, tokFast := f1.tokFast, nlSkipping := false }, p1.next false, ?_, rfl, ?_, rfl, rfl, rfl, rfl, rfl⟩
  · simp only [sgnTxt, ↓reduceIte, List.cons_append, List.nil_append, List.append_assoc] at hrun ⊢
    exact hrun.trans (runBytes_cons_ok {} fun l => step_slowDigit _ f1 _ l rfl hf1 hslow hdk)
  · show ((accInt true P18).addDigit _).asNum.toJV = _
    rw [num_of_NumOK _ true hok]
    exact asNum_edge_neg _ _ k hk

theorem NumOK_asNum (n : Num) (neg : Bool) (v : Nat) (h : NumOK n neg v) (hv : v < 9223372036854775800) :
    n.asNum.toJV = .int (if neg then -(v : Int) else (v : Int)) := by
  obtain ⟨h1, h2, h3, h4, h5⟩ := h
  rw [Json.asNum_of_inv n v ⟨fun _ => ⟨h1, h2⟩, fun _ => by omega⟩ (by omega) h3 h4, h5]; rfl

/-- **every int64 and uint64 in any context**: after the text `strconv.AppendInt` writes the number is pending with the
value `nvInt i` — the int64 itself below the limit of the integer fast loop, a `json.Number` with the same digits from
9223372036854775800 on and for -9223372036854775808 -/
theorem int_run_all (i : Int) (hi : -9223372036854775808 ≤ i ∧ i ≤ 18446744073709551615) (st : St) (f : Fast) (p : Pos)
    (rest : Bytes) (hm : st.mode = .value) (hf : f.nlSkipping = false) :
    ∃ st' f' p', runBytes refTables {} st f p (fmtInt i ++ rest) = runBytes refTables {} st' f' p' rest ∧
      NumMode st'.mode ∧ st'.num.asNum.toJV = nvInt i ∧ st'.starts = st.starts ∧ st'.stack = st.stack ∧
      st'.docs = st.docs ∧ st'.plus = st.plus ∧ f'.nlSkipping = false := by
  have htxt : fmtInt i = sgnTxt (decide (i < 0)) ++ fmtNat i.natAbs := by
    unfold fmtInt sgnTxt; by_cases h : i < 0 <;> simp [h]
  by_cases hmid : -9223372036854775800 < i ∧ i < 9223372036854775800
  · have hnat := Json.natOf_fmtNat i.natAbs
    obtain ⟨m, f', p', hrun, hm', hf', hok⟩ := ip_run (decide (i < 0)) (fmtNat i.natAbs) (fmtNat_lead _).1 (fmtNat_lead _).2
      (by omega) st f p rest hm hf
    refine ⟨{ st with mode := m, num := accInt (decide (i < 0)) (fmtNat i.natAbs) }, f', p', ?_,
      hm'.elim .inl (.inr ∘ .inl), ?_, rfl, rfl, rfl, rfl, hf'⟩
    · rw [htxt, List.append_assoc, hrun]
    · show (accInt _ _).asNum.toJV = _
      rw [show nvInt i = .int i from if_pos ⟨by omega, hmid.2⟩, NumOK_asNum _ _ _ hok (by omega), hnat]
      by_cases h : i < 0 <;> simp [h] <;> omega
  · by_cases hpos : 0 ≤ i
    · have e : fmtInt i = fmtNat i.natAbs := by rw [htxt, decide_eq_false (by omega)]; rfl
      obtain ⟨st', f', p', hrun, m3, n3, h⟩ := edge_run_posN i.natAbs (by omega) st f p rest hm hf
      exact ⟨st', f', p', e ▸ hrun, .inl m3, by rw [n3, nvInt, if_neg (by omega), e], h⟩
    · obtain ⟨k, hk, hk1, hk2⟩ := edge_text i.natAbs (by omega)
      have e : fmtInt i = 45 :: (P18 ++ [UInt8.ofNat (48 + k)]) := by rw [htxt, decide_eq_true (by omega), hk2]; rfl
      obtain ⟨st', f', p', hrun, m3, n3, h⟩ := edge_run_neg k hk st f p rest hm hf
      exact ⟨st', f', p', e ▸ hrun, .inl m3, by rw [n3, show i = -(9223372036854775800 + (k : Int)) by omega], h⟩

end OjgVerif.Sen
