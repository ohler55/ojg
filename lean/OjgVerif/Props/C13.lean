import OjgVerif.JPMut.LemmasSet
import OjgVerif.JPMut.LemmasFrame
import OjgVerif.JPMut.LemmasOne
import OjgVerif.JPMut.LemmasCurrent
import OjgVerif.Gen.JpMutFacts
/-! # C13 — Path mutations touch exactly the selected locations

The statements are about the models of `Expr.set` / `Expr.modify` / the fragments' `remove` methods
(lean/OjgVerif/JPMut/Model.lean, tied to jp/set.go, modify.go, remove.go, slice.go, union.go, … by the
correspondence run of harness/cmd/jpmut) and the specification lean/OjgVerif/JPMut/Spec.lean, whose
selected locations are those of the shared path denotation `JPath.eval` (what Get returns).

* `C13_full dev` — the property at full strength for the model with deviation set `dev`: every mutator, every path,
  all/One, simple and gen data. `C13_full_false` — it is FALSE for the code as it is (`Dev.current`): the mutators read
  a slice end as inclusive (the suite expects it; `witness_sliceInclusive`), and a location selected twice is worked
  through twice (`witness_repeated`).
* What is proved IN THIS FILE about the code as it is, from the statement of what the code does (`C13_incl`) to the
  property (`C13_current`) to the general form both instantiate (`C13_partial`) — all of it
  for paths WITHOUT recursive descent, all matches, simple data with unique member names, and for calls that report no
  error (`… = .ok d'`); erroring calls and the One forms exactly are in Props/C13b.lean, paths with one recursive descent
  in Props/C13d.lean:
  - `C13_incl` — the full description of the current code, every slice: Set/Del/Modify/Remove leave exactly the tree
    edited at the locations the path selects when slices are read INCLUSIVELY (`expectedG inclIdx`; hit/frame:
    `modify_incl_hit`, `modify_incl_frame`; Modify and Remove cannot report an error: `modify_incl`, `remove_incl`).
    Only hypothesis besides the above: no union lists a member of a visited value twice (`UnionsClean`). Where the
    inclusive and the exclusive reading differ this is not what the property demands but what the code does.
  - `C13_current` — the PROPERTY (exclusive reading, Get's) for the current code on CLEAN paths: `CleanPath` = no repeated
    union member and, on every array a slice meets, both readings select the same indexes. A slice with an explicit end
    inside the array (`[0:2]` on three elements — the ordinary case) is NOT clean; see the checked examples.
  - `C13_partial` (= `set_eq`, `del_eq`, `modify_eq`, `remove_eq`, with the hit, frame and shifting theorems stated beside
    them) — the same statement for ANY deviation set `dev` and ANY reading `σ` of slices that selects no index twice, under the
    hypotheses `GoodPath σ dev` / `RemPath σ dev` (the code's slice arithmetic agrees with `σ` on the arrays met, no
    repeated union member, and the flag-guarded cases). `C13_incl` and `C13_current` are its instances.
* `witness_*_before` — one kernel-evaluated witness per REPAIRED deviation (model `Dev.before`), with the verdict of the
  model with that deviation off. `current_is_source` — regression tripwires over the patched lines: ten booleans (one per
  repaired flag, two for `descentSiblings`) that tools/extract/jpmut.go computes by matching the shape of the patched
  source lines, `decide`d against `Dev.current`; undoing a repair breaks the theorem; it is not a semantic tie (that is
  the correspondence run).
* `one_set`, `one_modify`, `one_remove` — the One forms, every path (descent and filters included), every deviation set,
  simple and gen data, whatever is reported: AT MOST ONE member of one container is written, added or deleted
  (`OneChange`; for Set/Del with `QAny := True`, i.e. nothing is said about the new content). They do NOT say that this
  member is a SELECTED location holding the new value: that is `one_modify_exact`, `one_set_exact`, `one_remove_exact`,
  `C13_clean` (Props/C13b.lean, paths without descent, simple data) and `one_modify_descent`, `one_remove_descent`,
  `one_set_descent` (Props/C13d.lean, one descent); beyond those it is checked by the oracle of the run only.
* `reported_*` — error-not-fault for every path: with `genUnionOOB` off (so for `Dev.current`: `reported_current`) no
  entry point ends in a run-time fault; Modify/Remove never do.
* `gen_*`, `gen_current` — with `genUnionOOB` / `genModifyNil` off the model on gen data is the model on simple data.
  Near-definitional (the model consults `gen` only in `gen && flag`); the behaviour of the real code on gen data is
  compared with simple data by the run.
-/
namespace OjgVerif.C13
open OjgVerif.JPath OjgVerif.JPMut

/-- what the property demands of the outcome of a mutation -/
def Holds (op : Op) (one : Bool) (x : List Frag) (d : JV) : Out → Prop
  | .ok d' => if one then OneOK x d d' op else d' = expected x d op
  | .err _ d' => Frame (frameSet x d op) d d'
  | .fault _ => False
  | .unmodelled => False

/-- C13 for the model with deviation set `dev`, on data whose objects have unique member names -/
def C13_full (dev : Dev) : Prop :=
  ∀ (gen one : Bool) (op : Op) (x : List Frag) (d : JV), WF d → Holds op one x d (runModel gen dev one x d op)

/-! Refutation witnesses, one per deviation.
`witness_sliceInclusive` and `witness_repeated` are about the code as it is. The `witness_*_before` theorems are the
record of the nine repaired deviations: they speak about `Dev.before`, the model of the code before /repo 18e5d18
a7f7cdd 076ef8c 0eb0265 f263838 99212c8 (two flags) 52aa03a 42fe1d2 (observed behaviour then, specification, model with
the flag off). -/

def ints (l : List Int) : JV := .arr (l.map JV.int)
def kA : Bytes := [97]
def kB : Bytes := [98]
def objA (i : Int) : JV := .obj [(kA, .int i)]
def inc : Modifier := fun v => match v with | .int i => (.int (i + 1), true) | _ => (v, false)

/-- sliceInclusive: `Remove $[1:3]` on `[0,1,2,3,4,5]` removes three elements (expected by remove_test.go) -/
theorem witness_sliceInclusive :
    removeM false Dev.current false [.slice (some 1) (some 3) none] (ints [0, 1, 2, 3, 4, 5]) = .ok (ints [0, 4, 5]) ∧
    removeSpec [.slice (some 1) (some 3) none] (ints [0, 1, 2, 3, 4, 5]) = ints [0, 3, 4, 5] ∧
    removeM false { Dev.current with sliceInclusive := false } false [.slice (some 1) (some 3) none] (ints [0, 1, 2, 3, 4, 5])
      = .ok (ints [0, 3, 4, 5]) := ⟨by rfl, by rfl, by rfl⟩

/-- removeStepEnd: `Remove $[4:1:-2]` removes 1 and 3 where Get (and Modify) select 4 and 2 -/
theorem witness_removeStepEnd_before :
    removeM false Dev.before false [.slice (some 4) (some 1) (some (-2))] (ints [0, 1, 2, 3, 4, 5]) = .ok (ints [0, 2, 4, 5]) ∧
    removeSpec [.slice (some 4) (some 1) (some (-2))] (ints [0, 1, 2, 3, 4, 5]) = ints [0, 1, 3, 5] ∧
    removeM false { Dev.before with removeStepEnd := false } false [.slice (some 4) (some 1) (some (-2))] (ints [0, 1, 2, 3, 4, 5])
      = .ok (ints [0, 1, 3, 5]) := ⟨by rfl, by rfl, by rfl⟩

/-- setEmptySlice: `Set $[3:1:5].a` visits element 3 although the range is empty -/
theorem witness_setEmptySlice_before :
    setM false Dev.before false (.val (.int 9)) [.slice (some 3) (some 1) (some 5), .child kA] (.arr [objA 0, objA 1, objA 2, objA 3])
      = .ok (.arr [objA 0, objA 1, objA 2, objA 9]) ∧
    setSpec [.slice (some 3) (some 1) (some 5), .child kA] (.int 9) (.arr [objA 0, objA 1, objA 2, objA 3])
      = .arr [objA 0, objA 1, objA 2, objA 3] ∧
    setM false { Dev.before with setEmptySlice := false } false (.val (.int 9)) [.slice (some 3) (some 1) (some 5), .child kA]
      (.arr [objA 0, objA 1, objA 2, objA 3]) = .ok (.arr [objA 0, objA 1, objA 2, objA 3]) := ⟨by rfl, by rfl, by rfl⟩

/-- descentSiblings: `Set $[*]..a` descends into the first element only -/
theorem witness_descentSiblings_before :
    setM false Dev.before false (.val (.int 9)) [.wild, .descent, .child kA] (.arr [.arr [objA 1], .arr [objA 1]])
      = .ok (.arr [.arr [objA 9], .arr [objA 1]]) ∧
    setSpec [.wild, .descent, .child kA] (.int 9) (.arr [.arr [objA 1], .arr [objA 1]]) = .arr [.arr [objA 9], .arr [objA 9]] ∧
    setM false { Dev.before with descentSiblings := false } false (.val (.int 9)) [.wild, .descent, .child kA]
      (.arr [.arr [objA 1], .arr [objA 1]]) = .ok (.arr [.arr [objA 9], .arr [objA 9]]) := ⟨by rfl, by rfl, by rfl⟩

/-- removeUnionNeg: `Remove $['c',-1]` on `[4,null,4,2]` removes nothing -/
theorem witness_removeUnionNeg_before :
    removeM false Dev.before false [.union [.key [99], .idx (-1)]] (.arr [.int 4, .null, .int 4, .int 2])
      = .ok (.arr [.int 4, .null, .int 4, .int 2]) ∧
    removeSpec [.union [.key [99], .idx (-1)]] (.arr [.int 4, .null, .int 4, .int 2]) = .arr [.int 4, .null, .int 4] ∧
    removeM false { Dev.before with removeUnionNeg := false } false [.union [.key [99], .idx (-1)]]
      (.arr [.int 4, .null, .int 4, .int 2]) = .ok (.arr [.int 4, .null, .int 4]) := ⟨by rfl, by rfl, by rfl⟩

/-- genUnionOOB: `Set $[5,6]` on the gen array `[1,2]` panics (index out of range); on simple data nothing happens -/
theorem witness_genUnionOOB_before :
    setM true Dev.before false (.val (.int 9)) [.union [.idx 5, .idx 6]] (ints [1, 2]) = .fault (ints [1, 2]) ∧
    setM false Dev.before false (.val (.int 9)) [.union [.idx 5, .idx 6]] (ints [1, 2]) = .ok (ints [1, 2]) ∧
    setM true { Dev.before with genUnionOOB := false } false (.val (.int 9)) [.union [.idx 5, .idx 6]] (ints [1, 2])
      = .ok (ints [1, 2]) := ⟨by rfl, by rfl, by rfl⟩

/-- genModifyNil: a modifier that returns null is an error on gen data, stores null on simple data -/
theorem witness_genModifyNil_before :
    modifyM true Dev.before false (fun _ => (.null, true)) [.nth 0] (ints [1, 2]) = .err .notNode (ints [1, 2]) ∧
    modifyM false Dev.before false (fun _ => (.null, true)) [.nth 0] (ints [1, 2]) = .ok (.arr [.null, .int 2]) ∧
    modifyM true { Dev.before with genModifyNil := false } false (fun _ => (.null, true)) [.nth 0] (ints [1, 2])
      = .ok (.arr [.null, .int 2]) := ⟨by rfl, by rfl, by rfl⟩

/-- filterMapNil: Modify with a filter in last position on a map deletes the member when the modifier returns null -/
theorem witness_filterMapNil_before :
    modifyM false Dev.before false (fun _ => (.null, true)) [.filter fun v => match v with | .int i => decide (1 < i) | _ => false]
      (.obj [(kA, .int 1), (kB, .int 2)]) = .ok (.obj [(kA, .int 1)]) ∧
    modifySpec [.filter fun v => match v with | .int i => decide (1 < i) | _ => false] (fun _ => (.null, true))
      (.obj [(kA, .int 1), (kB, .int 2)]) = .obj [(kA, .int 1), (kB, .null)] ∧
    modifyM false { Dev.before with filterMapNil := false } false (fun _ => (.null, true))
      [.filter fun v => match v with | .int i => decide (1 < i) | _ => false]
      (.obj [(kA, .int 1), (kB, .int 2)]) = .ok (.obj [(kA, .int 1), (kB, .null)]) := ⟨by rfl, by rfl, by rfl⟩

/-- rootScalar: `Modify $` on the root 5 does not call the modifier -/
theorem witness_rootScalar_before :
    modifyM false Dev.before false inc [] (.int 5) = .ok (.int 5) ∧
    modifySpec [] inc (.int 5) = .int 6 ∧
    modifyM false { Dev.before with rootScalar := false } false inc [] (.int 5) = .ok (.int 6) := ⟨by rfl, by rfl, by rfl⟩

/-- delOneAbsent (the code before 42fe1d2): `DelOne $[*].a` on `[{"b":3},{"a":1}]` returns after the first object, which has
no `a`, and deletes nothing although `$[1].a` is selected; with the flag off (the code as it is) the member goes, as
with RemoveOne -/
theorem witness_delOneAbsent_before :
    setM false Dev.before true .del [.wild, .child kA] (.arr [.obj [(kB, .int 3)], objA 1]) = .ok (.arr [.obj [(kB, .int 3)], objA 1]) ∧
    locs [.wild, .child kA] (.arr [.obj [(kB, .int 3)], objA 1]) = [[.idx 1, .key kA]] ∧
    setM false { Dev.before with delOneAbsent := false } true .del [.wild, .child kA] (.arr [.obj [(kB, .int 3)], objA 1])
      = .ok (.arr [.obj [(kB, .int 3)], .obj []]) ∧
    setM false Dev.current true .del [.wild, .child kA] (.arr [.obj [(kB, .int 3)], objA 1]) = .ok (.arr [.obj [(kB, .int 3)], .obj []]) ∧
    removeM false Dev.current true [.wild, .child kA] (.arr [.obj [(kB, .int 3)], objA 1]) = .ok (.arr [.obj [(kB, .int 3)], .obj []]) :=
  ⟨by rfl, by rfl, by rfl, by rfl, by rfl⟩

/-- a location that is selected twice (a union that lists it twice): the modifier is applied twice. This is
not behind a deviation flag (the traversal works once per occurrence, as Get lists the element twice); it is
the excluded predicate `unionLocs … Nodup` of the theorems below. -/
theorem witness_repeated :
    modifyM false Dev.fixed false inc [.union [.idx 0, .idx 0]] (ints [1, 2]) = .ok (ints [3, 2]) ∧
    modifySpec [.union [.idx 0, .idx 0]] inc (ints [1, 2]) = ints [2, 2] ∧
    locs [.union [.idx 0, .idx 0]] (ints [1, 2]) = [[.idx 0], [.idx 0]] := ⟨by rfl, by rfl, by rfl⟩

/-- the property at full strength is false for the code as it is -/
theorem C13_full_false : ¬ C13_full Dev.current := by
  intro h
  have := h false false .rem [.slice (some 1) (some 3) none] (ints [0, 1, 2, 3, 4, 5]) (by simp [ints, WF, WFL])
  have e : expected [.slice (some 1) (some 3) none] (ints [0, 1, 2, 3, 4, 5]) .rem = ints [0, 3, 4, 5] := witness_sliceInclusive.2.1
  simp only [runModel, witness_sliceInclusive.1, Holds, Bool.false_eq_true, if_false, e] at this
  simp [ints] at this

/-! The theorems up to `C13_partial` are stated for an arbitrary reading `σ` of slices (`selG σ`, `locsG σ`,
`setSpecG σ`, …: the path denotation of JPath/Spec.lean with `σ` in the place of `sliceIdx`) that selects no index twice
(`NodupSlice σ`). `σ := sliceIdx` is the property (`locs`, `setSpec`, … are these instances); `σ := inclIdx`, the inclusive
reading the suite expects, gives the full description of the code as it is (`C13_incl` below). -/

variable {σ : SliceFn} [NodupSlice σ]

/-- Modify, all matches, simple data, a path without recursive descent: the returned tree is the input
with the modifier applied at exactly the selected locations (`updAll m.eff (locsG σ x d) d`) — for every
deviation set, outside the predicates excluded by `GoodPath σ` and the `$`-on-a-scalar case -/
theorem modify_eq (dev : Dev) (m : Modifier) (x : List Frag) (d : JV) (hnd : NoDescent x) (hw : WF d)
    (hg : GoodPath σ dev x d) (hroot : ¬ (x = [] ∧ dev.rootScalar = true ∧ isContainer d = false)) :
    modifyM false dev false m x d = .ok (modifySpecG σ x m d) :=
  modifyM_eq dev m x d hnd hw hg hroot

theorem isPrefixOf_same_length : ∀ (p q : Path), p.isPrefixOf q = true → p.length = q.length → p = q
  | [], [], _, _ => rfl
  | [], _ :: _, _, h => by simp at h
  | _ :: _, [], h, _ => by simp [List.isPrefixOf] at h
  | a :: p, b :: q, h, hl => by
    simp only [List.isPrefixOf, Bool.and_eq_true, beq_iff_eq] at h
    rw [h.1, isPrefixOf_same_length p q h.2 (by simpa using hl)]

theorem locs_length : ∀ (x : List Frag), NoDescent x → ∀ (d : JV), WF d → ∀ p ∈ locsG σ x d, p.length = x.length :=
  locs_len

theorem alone_of_noDescent (x : List Frag) (hnd : NoDescent x) (d : JV) (hw : WF d) (p : Path) (hp : p ∈ locsG σ x d) :
    Alone (locsG σ x d) p := by
  intro p' hp' hc
  have h1 := locs_length x hnd d hw p hp
  have h2 := locs_length x hnd d hw p' hp'
  rcases hc with hc | hc
  · exact isPrefixOf_same_length p' p hc (by omega)
  · exact (isPrefixOf_same_length p p' hc (by omega)).symm

/-- hit: afterwards every selected location holds the modifier's result on what it held -/
theorem modify_hit (dev : Dev) (m : Modifier) (x : List Frag) (d d' : JV) (hnd : NoDescent x) (hw : WF d)
    (hg : GoodPath σ dev x d) (hroot : ¬ (x = [] ∧ dev.rootScalar = true ∧ isContainer d = false))
    (h : modifyM false dev false m x d = .ok d') : ∀ p ∈ locsG σ x d, valAt p d' = (valAt p d).map m.eff := by
  rw [modify_eq dev m x d hnd hw hg hroot] at h
  injection h with h
  subst h
  intro p hp
  exact updAll_hit m.eff p (locsG σ x d) d hp (alone_of_noDescent x hnd d hw p hp)

/-- frame: every location that is not at, above or below a selected location holds what it held -/
theorem modify_frame (dev : Dev) (m : Modifier) (x : List Frag) (d d' : JV) (hnd : NoDescent x) (hw : WF d)
    (hg : GoodPath σ dev x d) (hroot : ¬ (x = [] ∧ dev.rootScalar = true ∧ isContainer d = false))
    (h : modifyM false dev false m x d = .ok d') : Frame (locsG σ x d) d d' := by
  rw [modify_eq dev m x d hnd hw hg hroot] at h
  injection h with h
  subst h
  intro q hq
  exact updAll_frame m.eff q (locsG σ x d) d hq

/-- a non-trivial instance of the hypotheses: `$[*].a` on `[{"a":1},{"a":2}]`, the code as it is -/
example : NoDescent [.wild, .child kA] ∧ WF (.arr [objA 1, objA 2]) ∧ GoodPath σ Dev.current [.wild, .child kA] (.arr [objA 1, objA 2]) := by
  refine ⟨?_, ?_, ?_⟩
  · intro f hf; simp at hf; rcases hf with rfl | rfl <;> rfl
  · simp [WF, WFL, WFK, objA, keysOf]
  · refine ⟨trivial, ?_⟩
    intro m hm
    exact ⟨trivial, fun _ _ => trivial⟩

/-- and what the theorem then says there -/
example : modifyM false Dev.current false inc [.wild, .child kA] (.arr [objA 1, objA 2]) = .ok (.arr [objA 2, objA 3]) := by rfl

/-- for the code with every deviation repaired no slice is excluded -/
theorem goodAt_slice_fixed (s e t : Option Int) (c : JV) : GoodAt sliceIdx Dev.fixed (.slice s e t) c := by
  intro xs _
  simp [modIdx, Dev.fixed]

/-- Remove, all matches, simple data, a path without recursive descent: the returned tree is the input with
exactly the selected members removed (`remAll (locsG σ x d) d`) -/
theorem remove_eq (dev : Dev) (sx : List Frag) (f : Frag) (d : JV) (hnd : NoDescent (sx ++ [f])) (hw : WF d)
    (hg : GoodPath σ dev sx d) (hr : RemPath σ dev f sx d) :
    removeM false dev false (sx ++ [f]) d = .ok (removeSpecG σ (sx ++ [f]) d) :=
  removeM_eq dev sx f d hnd hw hg hr

/-- `remAll` on an object whose selected locations are one step long (the last level of Remove): a selected
member is gone -/
theorem remAll_gone_key (T : List Path) (hs : ∀ p ∈ T, ∃ l, p = [l]) (kvs : List (Bytes × JV)) (k : Bytes)
    (hk : [Loc.key k] ∈ T) : valAt [.key k] (remAll T (.obj kvs)) = none := by
  simp only [remAll, remObj_last T hs, valAt, child?]
  rw [lookup_filter_none]
  intro kv _ e
  simp [e, hk]

/-- the number of removed positions below `j`, counted from position `o` -/
def removedBefore (T : List Path) : Nat → Nat → Nat
  | _, 0 => 0
  | o, j + 1 => (if T.contains [Loc.idx o] then 1 else 0) + removedBefore T (o + 1) j

theorem removedBefore_le (T : List Path) : ∀ (j o : Nat), removedBefore T o j ≤ j
  | 0, _ => Nat.le_refl 0
  | j + 1, o => by
    simp only [removedBefore]
    have := removedBefore_le T j (o + 1)
    split <;> omega

/-- exact shifting: an element that is not removed ends up lower by exactly the number of removed elements
before it, holding what `remAll` makes of it -/
theorem remArr_shift (T : List Path) : ∀ (xs : List JV) (o j : Nat) (x : JV), xs[j]? = some x →
    T.contains [Loc.idx (o + j)] = false →
    (remArr T o xs)[j - removedBefore T o j]? = some (remAll (strip (.idx (o + j)) T) x)
  | [], _, _, _, h, _ => by simp at h
  | y :: r, o, 0, x, h, hn => by
    simp only [List.getElem?_cons_zero, Option.some.injEq] at h
    subst h
    simp only [Nat.add_zero] at hn
    simp only [remArr, hn, Bool.false_eq_true, if_false, removedBefore, Nat.sub_zero, List.getElem?_cons_zero, Nat.add_zero]
  | y :: r, o, j + 1, x, h, hn => by
    simp only [List.getElem?_cons_succ] at h
    have e : o + (j + 1) = o + 1 + j := by omega
    rw [e] at hn ⊢
    have ih := remArr_shift T r (o + 1) j x h hn
    have hle := removedBefore_le T j (o + 1)
    simp only [remArr, removedBefore]
    by_cases hc : T.contains [Loc.idx o] = true
    · simp only [hc, if_true]
      have : j + 1 - (1 + removedBefore T (o + 1) j) = j - removedBefore T (o + 1) j := by omega
      rw [this]; exact ih
    · simp only [hc, Bool.false_eq_true, if_false, Nat.zero_add]
      have : j + 1 - removedBefore T (o + 1) j = (j - removedBefore T (o + 1) j) + 1 := by omega
      rw [this, List.getElem?_cons_succ]; exact ih

/-- an element that is selected is not among the survivors: the result is shorter by the number removed -/
theorem remArr_length (T : List Path) : ∀ (xs : List JV) (o : Nat),
    (remArr T o xs).length = xs.length - removedBefore T o xs.length
  | [], _ => rfl
  | y :: r, o => by
    have ih := remArr_length T r (o + 1)
    have hle := removedBefore_le T r.length (o + 1)
    simp only [remArr, removedBefore, List.length_cons]
    by_cases hc : T.contains [Loc.idx o] = true
    · simp only [hc, if_true]; omega
    · simp only [hc, Bool.false_eq_true, if_false, List.length_cons]; omega

/-- a non-trivial instance of the hypotheses of `remove_eq`, the code as it is: `$[*][0]` on `[[1,2],[3]]` -/
example : NoDescent ([Frag.wild] ++ [.nth 0]) ∧ GoodPath σ Dev.current [.wild] (.arr [ints [1, 2], ints [3]]) ∧
    RemPath σ Dev.current (.nth 0) [.wild] (.arr [ints [1, 2], ints [3]]) := by
  refine ⟨?_, ⟨trivial, fun _ _ => trivial⟩, fun _ _ => trivial⟩
  intro f hf; simp at hf; rcases hf with rfl | rfl <;> rfl

example : removeM false Dev.current false [.wild, .nth 0] (.arr [ints [1, 2], ints [3]]) = .ok (.arr [ints [2], ints []]) := by rfl

/-- Del, all matches, simple data, a path without recursive descent: if no error is reported the data afterwards
is the input with the selected object members gone and the selected array elements null (`delAll (locsG σ x d) d`) -/
theorem del_eq (dev : Dev) (x : List Frag) (d d' : JV) (hnd : NoDescent x) (hw : WF d) (hg : GoodPathS σ dev x d)
    (h : setM false dev false .del x d = .ok d') : d' = delSpecG σ x d :=
  delM_eq dev x d d' hnd hw hg h

/-- frame of Del: every location that is not at, above or below a selected location holds what it held -/
theorem del_frame (dev : Dev) (x : List Frag) (d d' : JV) (hnd : NoDescent x) (hw : WF d) (hg : GoodPathS σ dev x d)
    (h : setM false dev false .del x d = .ok d') : Frame (locsG σ x d) d d' := by
  rw [del_eq dev x d d' hnd hw hg h]
  intro q hq
  exact delAll_frame q (locsG σ x d) d hq

/-- a selected object member is gone (one level; deeper levels by `delAll`'s recursion and `del_frame`) -/
theorem del_gone_key (T : List Path) (k : Bytes) (kvs : List (Bytes × JV)) (h : [Loc.key k] ∈ T) :
    child? (.key k) (delAll T (.obj kvs)) = none := by
  simp only [delAll, child?, delObj_lookup, List.contains_iff_mem.2 h, if_true]

/-- a selected array element is null: the array keeps its length -/
theorem del_null_idx (T : List Path) (i : Nat) (xs : List JV) (x : JV) (hx : xs[i]? = some x) (h : [Loc.idx i] ∈ T) :
    child? (.idx i) (delAll T (.arr xs)) = some .null := by
  simp only [delAll, child?, delArr_getElem?, hx, Nat.zero_add, List.contains_iff_mem.2 h, if_true, Option.map_some]

example : setM false Dev.current false .del [.wild, .child kA] (.arr [objA 1, .obj [(kB, .int 2)]]) =
    .ok (.arr [.obj [], .obj [(kB, .int 2)]]) := by rfl

/-- Set, all matches, simple data, a path without recursive descent: if no error is reported the data afterwards
is `setSpecG σ x v d`: the new value at every selected location, the members the path names but does not find
created along name/index chains (`createsG σ`), everything else as it was -/
theorem set_eq (dev : Dev) (v : JV) (x : List Frag) (d d' : JV) (hnd : NoDescent x) (hw : WF d) (hg : GoodPathS σ dev x d)
    (h : setM false dev false (.val v) x d = .ok d') : d' = setSpecG σ x v d :=
  setM_eq dev v x d d' hnd hw hg h

/-- hit: afterwards every selected location holds the new value -/
theorem set_hit (dev : Dev) (v : JV) (x : List Frag) (d d' : JV) (hnd : NoDescent x) (hw : WF d) (hg : GoodPathS σ dev x d)
    (h : setM false dev false (.val v) x d = .ok d') : ∀ p ∈ locsG σ x d, valAt p d' = some v := by
  rw [set_eq dev v x d d' hnd hw hg h]
  intro p hp
  exact setSpec_hit v x d hw p hp (alone_of_noDescent x hnd d hw p hp)

/-- frame: every location that exists and is not at, above or below a selected location or a created member holds
what it held -/
theorem set_frame (dev : Dev) (v : JV) (x : List Frag) (d d' : JV) (hnd : NoDescent x) (hw : WF d) (hg : GoodPathS σ dev x d)
    (h : setM false dev false (.val v) x d = .ok d') (q : Path) (c : JV) (hv : valAt q d = some c)
    (h1 : touched (locsG σ x d) q = false) (h2 : touched ((createsG σ v x d).map (·.1)) q = false) : valAt q d' = some c := by
  rw [set_eq dev v x d d' hnd hw hg h]
  exact setSpec_frame v x d c q hv h1 h2

/-- creation along a name/index chain, the code as it is: `Set $.a.b[2]` on `{}` -/
example : setM false Dev.current false (.val (.int 9)) [.child kA, .child kB, .nth 2] (.obj []) =
    .ok (.obj [(kA, .obj [(kB, .arr [.null, .null, .int 9])])]) := by rfl

example : setSpecG σ [.child kA, .child kB, .nth 2] (.int 9) (.obj []) = .obj [(kA, .obj [(kB, .arr [.null, .null, .int 9])])] := by rfl

/-- a non-trivial instance of the hypotheses of `set_eq`/`del_eq`, the code as it is: `$[*].a` on `[{"a":1},{"b":2}]` -/
example : NoDescent [.wild, .child kA] ∧ GoodPathS σ Dev.current [.wild, .child kA] (.arr [objA 1, .obj [(kB, .int 2)]]) := by
  refine ⟨?_, trivial, fun _ _ => ⟨trivial, fun _ _ => trivial⟩⟩
  intro f hf; simp at hf; rcases hf with rfl | rfl <;> rfl

/-- the predicates excluded for the mutation `op` on `(x, d)` -/
def Good (σ : SliceFn) (dev : Dev) (x : List Frag) (d : JV) : Op → Prop
  | .set _ => GoodPathS σ dev x d
  | .del => GoodPathS σ dev x d
  | .mod _ => GoodPath σ dev x d ∧ ¬ (x = [] ∧ dev.rootScalar = true ∧ isContainer d = false)
  | .rem => ∃ sx f, x = sx ++ [f] ∧ GoodPath σ dev sx d ∧ RemPath σ dev f sx d

/-- C13 (all matches, simple data, paths without recursive descent) for every deviation set, outside the excluded
predicates: a mutator that reports no error leaves exactly the tree the specification names -/
theorem C13_partial (dev : Dev) (op : Op) (x : List Frag) (d d' : JV) (hnd : NoDescent x) (hw : WF d) (hg : Good σ dev x d op)
    (h : runModel false dev false x d op = .ok d') : d' = expectedG σ x d op := by
  cases op with
  | set v => exact set_eq dev v x d d' hnd hw hg h
  | del => exact del_eq dev x d d' hnd hw hg h
  | mod m =>
    simp only [runModel, modify_eq dev m x d hnd hw hg.1 hg.2] at h
    injection h with h
    exact h.symm
  | rem =>
    obtain ⟨sx, f, rfl, h1, h2⟩ := hg
    simp only [runModel, remove_eq dev sx f d hnd hw h1 h2] at h
    injection h with h
    exact h.symm

/-- the nine repaired deviations are off in `Dev.current` exactly because the patched source lines are there: the
facts are regenerated from jp/slice.go, set.go, modify.go, union.go on every run (tools/extract/jpmut.go matches the
shape of the patched lines). These are regression tripwires over the patched lines, not a semantic tie: undoing a
repair flips a fact and breaks this theorem -/
theorem current_is_source :
    Dev.current =
      { sliceInclusive := true
        removeStepEnd := !Gen.JpMut.inStepFromStart
        setEmptySlice := !Gen.JpMut.setEmptySliceGuarded
        descentSiblings := !(Gen.JpMut.setDescentClears && Gen.JpMut.modifyDescentClears)
        removeUnionNeg := !Gen.JpMut.unionRemoveFromEnd
        genUnionOOB := !Gen.JpMut.genUnionGuarded
        genModifyNil := !Gen.JpMut.modifyNodeNullSafe
        filterMapNil := !Gen.JpMut.modifyReflectNullSafe
        rootScalar := !Gen.JpMut.modifyRootPushed
        delOneAbsent := !Gen.JpMut.delOneGuarded } := by decide

/-- the same kind of tripwire for the deviation that lives in the driver's reading of the path (`$` inside a final
filter of Modify/Remove): off because modify.go, filter.go `remove`/`removeOne` and remove.go evaluate against the
document (569235d) -/
theorem currentT_is_source : currentT = !Gen.JpMut.filterRootDocument := by decide

/-! What the code as it is does, for EVERY slice: the inclusive reading.
The mutators read a slice end as inclusive (the suite expects it), Get as exclusive. So for the code as it is the
property itself (`σ := sliceIdx`) can only hold where the two readings agree (`C13_current` below, `CleanPath`) — and a
slice with an explicit end inside the array is not such a case. The full statement about the current code is
therefore made with the reading it implements: `C13_incl` — Set, Del, Modify and Remove work on exactly the locations
the path selects when slices are read inclusively (`locsG inclIdx`: `JPath.eval` with `inclIdx` in the place of
`sliceIdx`), for every slice, with no slice-related hypothesis. -/

/-- no union of the path lists a member of a value it is applied to twice (values reached under the inclusive reading) -/
def UnionsClean : List Frag → JV → Prop
  | [], _ => True
  | f :: r, d => (∀ ms, f = .union ms → (unionLocs ms d).Nodup) ∧ ∀ m ∈ selG inclIdx f d, UnionsClean r m.2

theorem unionsClean_good : ∀ (x : List Frag) (d : JV), NoDescent x → UnionsClean x d → GoodPath inclIdx Dev.current x d
  | [], _, _, _ => trivial
  | f :: r, d, hnd, h =>
    ⟨goodAt_incl f d (hnd f (by simp)) h.1,
     fun m hm => unionsClean_good r m.2 (fun g hg => hnd g (List.mem_cons_of_mem _ hg)) (h.2 m hm)⟩

theorem unionsClean_goodS : ∀ (x : List Frag) (d : JV), NoDescent x → UnionsClean x d → GoodPathS inclIdx Dev.current x d
  | [], _, _, _ => trivial
  | f :: r, d, hnd, h =>
    ⟨goodAtS_incl f d (hnd f (by simp)) h.1,
     fun m hm => unionsClean_goodS r m.2 (fun g hg => hnd g (List.mem_cons_of_mem _ hg)) (h.2 m hm)⟩

theorem unionsClean_split (f : Frag) (hf : isDescentF f = false) : ∀ (sx : List Frag) (d : JV), UnionsClean (sx ++ [f]) d →
    UnionsClean sx d ∧ RemPath inclIdx Dev.current f sx d
  | [], d, _ => ⟨trivial, remGood_incl f d hf⟩
  | _ :: r, _, h =>
    ⟨⟨h.1, fun m hm => (unionsClean_split f hf r m.2 (h.2 m hm)).1⟩, fun m hm => (unionsClean_split f hf r m.2 (h.2 m hm)).2⟩

theorem good_rem {σ : SliceFn} {dev : Dev} {x : List Frag} {d d' : JV} (h : runModel false dev false x d .rem = .ok d')
    (hs : ∀ sx f, x = sx ++ [f] → GoodPath σ dev sx d ∧ RemPath σ dev f sx d) : Good σ dev x d .rem := by
  have hne : x ≠ [] := by
    intro e; subst e; cases h
  have hsplit : x = x.dropLast ++ [x.getLast hne] := (List.dropLast_concat_getLast hne).symm
  exact ⟨_, _, hsplit, hs _ _ hsplit⟩

/-- The code as it is, every slice: Set, Del, Modify, Remove (all matches, simple data with unique member names, a path
without recursive descent in which no union lists a member twice) that report no error leave exactly
`expectedG inclIdx x d op` — the tree edited at the locations the path selects when slices are read INCLUSIVELY (what
Set creates included). No hypothesis about slices. Where the inclusive and the exclusive reading differ this is NOT what
the property demands (known finding C13-slice-inclusive): it is what the code does. -/
theorem C13_incl (op : Op) (x : List Frag) (d d' : JV) (hnd : NoDescent x) (hw : WF d) (hu : UnionsClean x d)
    (h : runModel false Dev.current false x d op = .ok d') : d' = expectedG inclIdx x d op := by
  apply C13_partial Dev.current op x d d' hnd hw ?_ h
  cases op with
  | set v => exact unionsClean_goodS x d hnd hu
  | del => exact unionsClean_goodS x d hnd hu
  | mod m => exact ⟨unionsClean_good x d hnd hu, fun h => by simp [Dev.current] at h⟩
  | rem =>
    refine good_rem h (fun sx f hx => ?_)
    subst hx
    have hsp := unionsClean_split f (hnd f (by simp)) sx d hu
    exact ⟨unionsClean_good sx d (fun g hg => hnd g (List.mem_append_left _ hg)) hsp.1, hsp.2⟩

/-- Modify, the code as it is, every slice: no error is possible; hit and frame with respect to the inclusive selection -/
theorem modify_incl (m : Modifier) (x : List Frag) (d : JV) (hnd : NoDescent x) (hw : WF d) (hu : UnionsClean x d) :
    modifyM false Dev.current false m x d = .ok (modifySpecG inclIdx x m d) :=
  modify_eq Dev.current m x d hnd hw (unionsClean_good x d hnd hu) (fun h => by simp [Dev.current] at h)

theorem modify_incl_hit (m : Modifier) (x : List Frag) (d : JV) (hnd : NoDescent x) (hw : WF d) :
    ∀ p ∈ locsG inclIdx x d, valAt p (modifySpecG inclIdx x m d) = (valAt p d).map m.eff := by
  intro p hp
  exact updAll_hit m.eff p (locsG inclIdx x d) d hp (alone_of_noDescent x hnd d hw p hp)

theorem modify_incl_frame (m : Modifier) (x : List Frag) (d : JV) : Frame (locsG inclIdx x d) d (modifySpecG inclIdx x m d) :=
  fun q hq => updAll_frame m.eff q (locsG inclIdx x d) d hq

/-- Remove, the code as it is, every slice: no error is possible -/
theorem remove_incl (sx : List Frag) (f : Frag) (d : JV) (hnd : NoDescent (sx ++ [f])) (hw : WF d)
    (hu : UnionsClean (sx ++ [f]) d) :
    removeM false Dev.current false (sx ++ [f]) d = .ok (removeSpecG inclIdx (sx ++ [f]) d) :=
  have hf : isDescentF f = false := hnd f (by simp)
  remove_eq Dev.current sx f d hnd hw
    (unionsClean_good sx d (fun g hg => hnd g (List.mem_append_left _ hg)) (unionsClean_split f hf sx d hu).1)
    (unionsClean_split f hf sx d hu).2

/-- `Remove $[1:3]` on `[0,1,2,3,4,5]`: the inclusive selection is 1, 2, 3 and that is what is removed -/
example : locsG inclIdx [.slice (some 1) (some 3) none] (ints [0, 1, 2, 3, 4, 5]) = [[.idx 1], [.idx 2], [.idx 3]] ∧
    removeSpecG inclIdx [.slice (some 1) (some 3) none] (ints [0, 1, 2, 3, 4, 5]) = ints [0, 4, 5] ∧
    removeM false Dev.current false [.slice (some 1) (some 3) none] (ints [0, 1, 2, 3, 4, 5]) = .ok (ints [0, 4, 5]) :=
  ⟨by rfl, by rfl, by rfl⟩

/-- the hypotheses are satisfied by an ordinary slice path: `$[0:1].a` on `[{"a":1},{"a":2},{"a":3}]` -/
example : UnionsClean [.slice (some 0) (some 1) none, .child kA] (.arr [objA 1, objA 2, objA 3]) :=
  ⟨fun _ h => (by cases h), fun _ _ => ⟨fun _ h => (by cases h), fun _ _ => trivial⟩⟩

/-- the exclusions that are left when the code as it is is measured against the PROPERTY (Get's exclusive reading): a
union that lists a member of the value twice; a slice on which the inclusive reading selects other indexes than the
specification on the array at hand — in particular EVERY slice with an explicit end inside the array (`[0:2]` on three
elements); recursive descent -/
def CleanAt (f : Frag) (e : JV) : Prop :=
  match f with
  | .union ms => (unionLocs ms e).Nodup
  | .slice s e' t => ∀ xs, e = .arr xs → inclIdx xs.length s e' t = sliceIdx xs.length s e' t
  | .descent => False
  | _ => True

/-- every fragment of the path is clean on the values it is applied to -/
def CleanPath : List Frag → JV → Prop
  | [], _ => True
  | f :: r, d => CleanAt f d ∧ ∀ m ∈ sel f d, CleanPath r m.2

theorem cleanAt_good (f : Frag) (e : JV) (h : CleanAt f e) : GoodAt sliceIdx Dev.current f e := by
  cases f <;> first | exact h | exact Or.inl rfl

theorem cleanAt_goodS (f : Frag) (e : JV) (h : CleanAt f e) : GoodAtS sliceIdx Dev.current f e := by
  cases f with
  | slice s e' t => intro xs hx; rw [setIdx_current]; exact h xs hx
  | _ => exact h

theorem cleanAt_remGood (f : Frag) (c : JV) (h : CleanAt f c) : RemGood sliceIdx Dev.current f c := by
  cases f with
  | union ms => exact Or.inl rfl
  | slice s e t => intro xs hx i hi; rw [remSel_incl xs.length s e t i hi, h xs hx]
  | _ => exact h

theorem cleanPath_good : ∀ (x : List Frag) (d : JV), CleanPath x d → GoodPath sliceIdx Dev.current x d
  | [], _, _ => trivial
  | f :: r, d, h => ⟨cleanAt_good f d h.1, fun m hm => cleanPath_good r m.2 (h.2 m (selG_spec f d ▸ hm))⟩

theorem cleanPath_goodS : ∀ (x : List Frag) (d : JV), CleanPath x d → GoodPathS sliceIdx Dev.current x d
  | [], _, _ => trivial
  | f :: r, d, h => ⟨cleanAt_goodS f d h.1, fun m hm => cleanPath_goodS r m.2 (h.2 m (selG_spec f d ▸ hm))⟩

theorem cleanPath_split (f : Frag) : ∀ (sx : List Frag) (d : JV), CleanPath (sx ++ [f]) d →
    CleanPath sx d ∧ RemPath sliceIdx Dev.current f sx d
  | [], d, h => ⟨trivial, cleanAt_remGood f d h.1⟩
  | g :: r, d, h =>
    ⟨⟨h.1, fun m hm => (cleanPath_split f r m.2 (h.2 m hm)).1⟩,
     fun m hm => (cleanPath_split f r m.2 (h.2 m (selG_spec g d ▸ hm))).2⟩

/-- C13 — the property, exclusive reading — for the code as it is (all matches, simple data, paths without recursive
descent, no error reported), on CLEAN paths only: no union lists a member of the visited value twice, and on every
array a slice meets the inclusive and the exclusive reading select the same indexes. A slice with an explicit end inside
the array is not clean (see the examples): there the code contradicts the property (C13-slice-inclusive) and `C13_incl`
says what it does instead. The filter, root, from-the-end and step-alignment exclusions of `C13_partial` are discharged
by the repairs. -/
theorem C13_current (op : Op) (x : List Frag) (d d' : JV) (hnd : NoDescent x) (hw : WF d) (hc : CleanPath x d)
    (h : runModel false Dev.current false x d op = .ok d') : d' = expected x d op := by
  apply C13_partial (σ := sliceIdx) Dev.current op x d d' hnd hw ?_ h
  cases op with
  | set v => exact cleanPath_goodS x d hc
  | del => exact cleanPath_goodS x d hc
  | mod m => exact ⟨cleanPath_good x d hc, fun h => by simp [Dev.current] at h⟩
  | rem =>
    refine good_rem h (fun sx f hx => ?_)
    subst hx
    have hsp := cleanPath_split f sx d hc
    exact ⟨cleanPath_good sx d hsp.1, hsp.2⟩

/-! hit, frame and the exact results in terms of Get's reading (`locs`, `modifySpec`, `removeSpec`) on clean paths: the
theorems above at `σ := sliceIdx`, whose hypotheses `CleanPath` gives -/

theorem set_hit_current (v : JV) (x : List Frag) (d d' : JV) (hnd : NoDescent x) (hw : WF d) (hc : CleanPath x d)
    (h : setM false Dev.current false (.val v) x d = .ok d') : ∀ p ∈ locs x d, valAt p d' = some v :=
  set_hit (σ := sliceIdx) Dev.current v x d d' hnd hw (cleanPath_goodS x d hc) h

theorem del_frame_current (x : List Frag) (d d' : JV) (hnd : NoDescent x) (hw : WF d) (hc : CleanPath x d)
    (h : setM false Dev.current false .del x d = .ok d') : Frame (locs x d) d d' :=
  del_frame (σ := sliceIdx) Dev.current x d d' hnd hw (cleanPath_goodS x d hc) h

theorem modify_current (m : Modifier) (x : List Frag) (d : JV) (hnd : NoDescent x) (hw : WF d) (hc : CleanPath x d) :
    modifyM false Dev.current false m x d = .ok (modifySpec x m d) :=
  modify_eq (σ := sliceIdx) Dev.current m x d hnd hw (cleanPath_good x d hc) (fun h => by simp [Dev.current] at h)

theorem remove_current (sx : List Frag) (f : Frag) (d : JV) (hnd : NoDescent (sx ++ [f])) (hw : WF d)
    (hc : CleanPath (sx ++ [f]) d) :
    removeM false Dev.current false (sx ++ [f]) d = .ok (removeSpec (sx ++ [f]) d) :=
  remove_eq (σ := sliceIdx) Dev.current sx f d hnd hw (cleanPath_good sx d (cleanPath_split f sx d hc).1) (cleanPath_split f sx d hc).2

/-- which paths are clean. `$[*].a` on `[{"a":1},{"b":2}]` is. Of the slices only those on which the two readings select
the same indexes of the array at hand: an absent end (`[1:]`, `[::2]`: "to the last element" in both readings) or an end
at or beyond the length (`[0:5]` on three elements). A slice with an explicit end INSIDE the array — `[0:2]` or `[0:1]` on
`[1,2,3]`, the ordinary case — is NOT clean. -/
example : CleanPath [.wild, .child kA] (.arr [objA 1, .obj [(kB, .int 2)]]) := ⟨trivial, fun _ _ => ⟨trivial, fun _ _ => trivial⟩⟩

/-- clean: `[1:]`, `[::2]`, `[0:5]` on three elements -/
example : inclIdx 3 (some 1) none none = sliceIdx 3 (some 1) none none ∧
    inclIdx 3 none none (some 2) = sliceIdx 3 none none (some 2) ∧
    inclIdx 3 (some 0) (some 5) none = sliceIdx 3 (some 0) (some 5) none := ⟨by rfl, by rfl, by rfl⟩

example : CleanPath [.slice (some 1) none none] (ints [1, 2, 3]) := by
  refine ⟨?_, fun _ _ => trivial⟩
  intro xs hx
  simp only [ints] at hx
  injection hx with hx
  subst hx
  rfl

/-- not clean: `[0:2]` and `[0:1]` on three elements (inclusive: one element more) -/
example : inclIdx 3 (some 0) (some 2) none = [0, 1, 2] ∧ sliceIdx 3 (some 0) (some 2) none = [0, 1] ∧
    inclIdx 3 (some 0) (some 1) none = [0, 1] ∧ sliceIdx 3 (some 0) (some 1) none = [0] := ⟨by rfl, by rfl, by rfl, by rfl⟩

example : ¬ CleanPath [.slice (some 0) (some 2) none] (ints [1, 2, 3]) := by
  intro h
  have := h.1 _ rfl
  simp at this
  revert this
  decide

/-- gen data: with f263838 / 99212c8 the two flags that `gen` consults are off, so the model on gen data IS the model on
simple data (near-definitional: `setF_gen`, `modF_gen` are an induction over the path that rewrites `gen && false`); what
it adds to the correspondence run (which compares gen and simple results of the real code case by case) is only that the
MODEL has no other gen-specific branch -/
theorem gen_current (one : Bool) (op : Op) (x : List Frag) (d : JV) :
    runModel true Dev.current one x d op = runModel false Dev.current one x d op := by
  cases op with
  | set v => exact setM_gen Dev.current one _ rfl x d
  | del => exact setM_gen Dev.current one _ rfl x d
  | mod m => exact modifyM_gen Dev.current one m rfl x d
  | rem => exact removeM_gen Dev.current one rfl x d

/-- since f263838 no entry point ends in a run-time fault, on simple and on gen data, for every path -/
theorem reported_current (gen one : Bool) (op : Op) (x : List Frag) (d : JV) : (runModel gen Dev.current one x d op).Reported := by
  cases op with
  | set v => exact setM_reported gen Dev.current one _ x d (by simp [Dev.current])
  | del => exact setM_reported gen Dev.current one _ x d (by simp [Dev.current])
  | mod m => exact modifyM_reported gen Dev.current one m x d
  | rem => exact removeM_reported gen Dev.current one x d

/-- SetOne / DelOne: the data afterwards is the data before or differs from it by one member of one container
written, added or deleted -/
theorem one_set (gen : Bool) (dev : Dev) (a : SetArg) (x : List Frag) (d : JV) :
    AtMostOne QAny d ((setM gen dev true a x d).data d) := setOne_atMost gen dev a x d

/-- ModifyOne: the root as it was, the modifier's result on the root (path `$`), or the root with one member of one
container replaced by the modifier's result on it -/
theorem one_modify (gen : Bool) (dev : Dev) (m : Modifier) (x : List Frag) (d : JV) :
    RootOne (fun c v => v = (m c).1) d ((modifyM gen dev true m x d).data d) := modifyOne_atMost gen dev m x d

/-- RemoveOne: the root as it was, or one container (the root or one member of one container) has lost one member -/
theorem one_remove (gen : Bool) (dev : Dev) (x : List Frag) (d : JV) :
    RootOne Drop d ((removeM gen dev true x d).data d) := removeOne_atMost gen dev x d

/-- the all-matches form changes two locations where the One form changes one -/
example : setM false Dev.current true (.val (.int 9)) [.wild] (ints [1, 2]) = .ok (ints [9, 2]) ∧
    setM false Dev.current false (.val (.int 9)) [.wild] (ints [1, 2]) = .ok (ints [9, 9]) := ⟨by rfl, by rfl⟩

/-- Set/SetOne/Del/DelOne on simple data, and on gen data once the union branch of set.go tests its bounds:
every path, every value: a result or an error, never a run-time fault -/
theorem reported_set (gen : Bool) (dev : Dev) (one : Bool) (a : SetArg) (x : List Frag) (d : JV)
    (h : gen = false ∨ dev.genUnionOOB = false) : (setM gen dev one a x d).Reported :=
  setM_reported gen dev one a x d (by rcases h with h | h <;> simp [h])

/-- Modify/ModifyOne: never a fault, whatever the deviations -/
theorem reported_modify (gen : Bool) (dev : Dev) (one : Bool) (m : Modifier) (x : List Frag) (d : JV) :
    (modifyM gen dev one m x d).Reported := modifyM_reported gen dev one m x d

/-- Remove/RemoveOne: never a fault, whatever the deviations -/
theorem reported_remove (gen : Bool) (dev : Dev) (one : Bool) (x : List Frag) (d : JV) :
    (removeM gen dev one x d).Reported := removeM_reported gen dev one x d

/-! `gen_set`, `gen_modify`, `gen_remove` are MODEL AGAINST MODEL: the model run with `gen = true` equals the model run with
`gen = false` once the one flag it consults on gen data is off. They show that the model has no other gen-specific branch;
they say nothing about the gen.Array/gen.Object branches of set.go, modify.go, remove.go by themselves. The tie of those
code paths to the model is the correspondence run only (every case is made on gen data as well, compared with the
model's gen answer and with the result on simple data). -/

/-- model against model (see above): Set/Del on gen data = on simple data when `genUnionOOB` is off -/
theorem gen_set (dev : Dev) (one : Bool) (a : SetArg) (h : dev.genUnionOOB = false) (x : List Frag) (d : JV) :
    setM true dev one a x d = setM false dev one a x d := setM_gen dev one a h x d

/-- model against model: Modify on gen data = on simple data when `genModifyNil` is off -/
theorem gen_modify (dev : Dev) (one : Bool) (m : Modifier) (h : dev.genModifyNil = false) (x : List Frag) (d : JV) :
    modifyM true dev one m x d = modifyM false dev one m x d := modifyM_gen dev one m h x d

/-- model against model: Remove on gen data = on simple data when `genModifyNil` is off -/
theorem gen_remove (dev : Dev) (one : Bool) (h : dev.genModifyNil = false) (x : List Frag) (d : JV) :
    removeM true dev one x d = removeM false dev one x d := removeM_gen dev one h x d

end OjgVerif.C13
