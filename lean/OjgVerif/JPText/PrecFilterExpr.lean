import OjgVerif.JPText.Trees
import OjgVerif.JPText.LemmasFilterExpr
/-! C14: the model round trip of EXPRESSIONS that carry a filter, over every
equation tree with one or two operator nodes whose leaves alternate between a path (`@.a`, `@.c`, …) and
an integer constant: `$.list[?(…)].x` in both text forms. The kernel evaluates that the filter equations are in
`Eqn.okC`; the round trips are `parseExpr_filter`. -/
namespace OjgVerif.JPText

/-- leaves alternate between `Get(@.<letter>)` and an integer constant -/
def Shape.instP : Shape → Nat → Eqn × Nat
  | .leaf, n =>
    (if n % 2 = 0 then .un Gen.JpOps.op_get (.val (.expr [.at, .child [UInt8.ofNat (97 + n)]]))
     else .val (.int (n + 1)), n + 1)
  | .un o s, n => (.un o (s.instP n).1, (s.instP n).2)
  | .bin o l r, n => (.bin o (l.instP n).1 (r.instP (l.instP n).2).1, (r.instP (l.instP n).2).2)

/-- `R().Child("list").Filter(e).Child("x")` -/
def Shape.filterExpr (s : Shape) : Expr :=
  [.root, .child [108, 105, 115, 116], (s.instP 0).1.filter, .child [120]]

/-- both text forms of the expression round-trip (in the model) exactly when Spec.lean names no
deviation for that form -/
def devsExactExpr (x : Expr) : Bool :=
  (devsExpr false x).isEmpty == roundTripsExpr false x && (devsExpr true x).isEmpty == roundTripsExpr true x

def filterExprTrees : List Shape := sh1 unOps binOps ++ sh2 unOps binOps

theorem filterExpr_okF {s : Shape} (h : (s.instP 0).1.okC = true) : ExprOKF s.filterExpr :=
  ⟨Or.inl rfl, fun g hg => by
    simp only [List.mem_cons, List.not_mem_nil, or_false] at hg
    rcases hg with rfl | rfl | rfl
    · exact Or.inl rfl
    · exact Or.inr ⟨_, h, rfl⟩
    · exact Or.inl rfl⟩

theorem filterExpr_okC : (filterExprTrees.all fun s => (s.instP 0).1.okC) = true := by
  decide +kernel

theorem filterExpr_all :
    (filterExprTrees.all fun s => roundTripsExpr false s.filterExpr && roundTripsExpr true s.filterExpr) = true :=
  List.all_eq_true.2 fun s hs => by
    have h := List.all_eq_true.1 filterExpr_okC s hs
    simp [roundTripsExpr_okF _ _ (filterExpr_okF h)]

theorem filterExpr_exact : (filterExprTrees.all fun s => devsExactExpr s.filterExpr) = true :=
  List.all_eq_true.2 fun s hs => by
    have h := List.all_eq_true.1 filterExpr_okC s hs
    have hr := List.all_eq_true.1 filterExpr_all s hs
    simp only [Bool.and_eq_true] at hr
    have hd : ∀ br, devsExpr br s.filterExpr = [] := fun br => by
      simp [devsExpr, Shape.filterExpr, devRootAtL, Frag.isRootAt, Frag.devsL, Frag.devs, Eqn.filter, okC_devs _ h, addIf]
    simp [devsExactExpr, hd, hr.1, hr.2]

end OjgVerif.JPText
