import OjgVerif.JPText.LemmasPrec
import OjgVerif.JPText.LemmasReadEq
/-! # C14 lemmas: `Equation.String` is read back by `MustParseEquation`, for equations of any size

`Eqn.paren e` puts a `group` node wherever `Equation.Append` writes a parenthesis; `Script.Append` writes the
same parentheses and one more kind (around an infix argument of a call), so both are `Eqn.parenG`, and what
does not depend on the printer is proved once for it, by induction on the class `OkS A` (one case per node kind; `Eqn.okS`
is the case of simple operands, and nothing here looks at an operand): the tree is properly parenthesised, its flattening is covered by the reader lemma, `reduceGroups`
keeps every parenthesis, the template is the same up to `group` operators. `Equation.Append` writes `Eqn.text`
of `e.paren`; with `readEq_raw` (LemmasReadEq) and `precCorrect_chainify` (LemmasPrec) that text is parsed to
`e.paren` less its outermost parentheses. -/
namespace OjgVerif.JPText

/-- the `group` nodes `Equation.Append` writes as parentheses -/
def Eqn.paren : Eqn → Eqn
  | .val v => .val v
  | .un o l => .un o (grp l.isInfix l.paren)
  | .bin o l r =>
    if isCall o then .bin o l.paren r.paren
    else .bin o (grp (leftParens o l) l.paren) (grp (rightParens o r) r.paren)

/-- equations in the form the reader builds them: `!`, the 19 binary operators, `length`/`count` of a path,
over constants in the reader's form (`Val.simple`: scalars, finite floats with `.`/exponent, regexes
`AppendString` leaves alone, flat lists, filter-free paths). The constructors' equations (`Eqn.okC`, with
`Get(path)` nodes, any float text, any slice/wildcard form in paths) are mapped into this class by
`Eqn.leafy` without changing any text or template (LemmasLeafy). -/
def Eqn.okS : Eqn → Bool
  | .val v => v.simple
  | .un o l => (o == Gen.JpOps.op_not && l.okS) || ((o == Gen.JpOps.op_length || o == Gen.JpOps.op_count) && l.isPathVal)
  | .bin o l r => binOps.contains o && (l.okS && r.okS)

/-- the `group` nodes of both printers; `s`: an infix argument of a call is parenthesised too (`Script.Append`) -/
def Eqn.parenG (s : Bool) : Eqn → Eqn
  | .val v => .val v
  | .un o l => .un o (grp l.isInfix (l.parenG s))
  | .bin o l r =>
    if isCall o then .bin o (grp (s && l.isInfix) (l.parenG s)) (grp (s && r.isInfix) (r.parenG s))
    else .bin o (grp (leftParens o l) (l.parenG s)) (grp (rightParens o r) (r.parenG s))

theorem paren_eq_parenG : ∀ e : Eqn, e.paren = e.parenG false
  | .val _ => rfl
  | .un o l => by rw [Eqn.paren, Eqn.parenG, paren_eq_parenG l]
  | .bin o l r => by rw [Eqn.paren, Eqn.parenG, paren_eq_parenG l, paren_eq_parenG r]; rfl

theorem okS_induction {P : Eqn → Prop} (val : ∀ v, v.simple = true → P (.val v))
    (not : ∀ l, l.okS = true → P l → P (.un Gen.JpOps.op_not l))
    (fn : ∀ o x, FnOp o → pathLeaf x = true → P (.un o (.val (.expr x))))
    (inf : ∀ o l r, InfixOp o → l.okS = true → r.okS = true → P l → P r → P (.bin o l r))
    (call : ∀ o l r, CallOp o → l.okS = true → r.okS = true → P l → P r → P (.bin o l r)) :
    ∀ e : Eqn, e.okS = true → P e := by
  intro e
  induction e with
  | val v => exact val v
  | un o l ih =>
    intro h
    simp only [Eqn.okS, Bool.or_eq_true, Bool.and_eq_true, beq_iff_eq] at h
    rcases h with ⟨rfl, hl⟩ | ⟨ho, hp⟩
    · exact not l hl (ih hl)
    · obtain ⟨x, rfl, hx⟩ := isPathVal_iff hp
      exact fn o x ho hx
  | bin o l r ihl ihr =>
    intro h
    simp only [Eqn.okS, Bool.and_eq_true] at h
    rcases binOps_cases h.1 with ho | ho
    · exact inf o l r ho h.2.1 h.2.2 (ihl h.2.1) (ihr h.2.2)
    · exact call o l r ho h.2.1 h.2.2 (ihl h.2.1) (ihr h.2.2)

/-- the class over any operands: `Eqn.okS` (`OkS.of_okS`) with the class `A` in the place of `Val.simple`. What the
printers and `reduceGroups` do with a tree does not depend on its operands, so the lemmas below hold for every `A`. -/
inductive OkS (A : Val → Prop) : Eqn → Prop
  | val {v : Val} : A v → OkS A (.val v)
  | not {l : Eqn} : OkS A l → OkS A (.un Gen.JpOps.op_not l)
  | fn {o : Op} {x : List Frag} : FnOp o → A (.expr x) → OkS A (.un o (.val (.expr x)))
  | inf {o : Op} {l r : Eqn} : InfixOp o → OkS A l → OkS A r → OkS A (.bin o l r)
  | call {o : Op} {l r : Eqn} : CallOp o → OkS A l → OkS A r → OkS A (.bin o l r)

theorem OkS.of_okS : ∀ e : Eqn, e.okS = true → OkS (fun v => v.simple = true) e :=
  okS_induction (fun _ h => .val h) (fun _ _ ih => .not ih) (fun _ _ ho hx => .fn ho hx)
    (fun _ _ _ ho _ _ ihl ihr => .inf ho ihl ihr) (fun _ _ _ ho _ _ ihl ihr => .call ho ihl ihr)

variable {A : Val → Prop}

theorem infixPrec_okS {e : Eqn} (h : OkS A e) : e.infixPrec? = if 0 < topPrec e then some (topPrec e) else none := by
  cases h with
  | val _ => rfl
  | not _ => exact infixPrec_not _
  | fn ho _ => simp [infixPrec_fn ho, topPrec, Eqn.op?, ho.facts.prec]
  | inf ho _ _ => have : 0 < _ := ho.prec; simp [infixPrec_infix ho, topPrec, Eqn.op?, this]
  | call ho _ _ => simp [infixPrec_call ho, topPrec, Eqn.op?, ho.facts.prec]

theorem isInfix_okS {e : Eqn} (h : OkS A e) : e.isInfix = decide (0 < topPrec e) := by
  rw [Eqn.isInfix, infixPrec_okS h]; split <;> simp [*]

theorem leftParens_okS (o : Op) {l : Eqn} (h : OkS A l) : leftParens o l = decide (o.prec < topPrec l) := by
  rw [leftParens, infixPrec_okS h]
  by_cases hp : 0 < topPrec l
  · rw [if_pos hp]
  · rw [if_neg hp]
    exact (decide_eq_false (by omega)).symm

theorem rightParens_okS (o : Op) {r : Eqn} (h : OkS A r) (ho : 1 ≤ o.prec) :
    rightParens o r = decide (o.prec ≤ topPrec r) := by
  rw [rightParens, infixPrec_okS h]
  by_cases hp : 0 < topPrec r
  · rw [if_pos hp]
  · rw [if_neg hp]
    exact (decide_eq_false (by omega)).symm

def Eqn.isVal : Eqn → Bool
  | .val _ => true
  | _ => false

theorem pd_grp (p : Bool) (t : Eqn) (h : t.pd = true) : (grp p t).pd = true := by
  cases p <;> simp [grp, Eqn.pd, h, unary_facts]

theorem topPrec_grp (p : Bool) (t : Eqn) : topPrec (grp p t) = if p then 0 else topPrec t := by
  cases p <;> simp [grp, topPrec, Eqn.op?, unary_facts]

theorem topPrec_grp_left (o : Op) (t T : Eqn) (h : topPrec T = topPrec t) :
    topPrec (grp (decide (o.prec < topPrec t)) T) ≤ o.prec := by
  rw [topPrec_grp, h]
  by_cases hq : o.prec < topPrec t
  · rw [decide_eq_true hq, if_pos rfl]; exact Nat.zero_le _
  · rw [decide_eq_false hq, if_neg Bool.false_ne_true]; omega

theorem topPrec_grp_right (o : Op) (t T : Eqn) (h : topPrec T = topPrec t) (ho : 1 ≤ o.prec) :
    topPrec (grp (decide (o.prec ≤ topPrec t)) T) < o.prec := by
  rw [topPrec_grp, h]
  by_cases hq : o.prec ≤ topPrec t
  · rw [decide_eq_true hq, if_pos rfl]; omega
  · rw [decide_eq_false hq, if_neg Bool.false_ne_true]; omega

theorem normL_build_grp (p : Bool) (X : Eqn) : Item.normL (grp p X).build = Item.normL X.build := by
  cases p <;> simp [grp, build_group, Item.normL, unary_facts]

theorem text_appendChain : ∀ (c : Eqn) (o : Op) (d : Eqn), isCall o = false →
    (appendChain c o d).text = c.text ++ 32 :: (o.name ++ 32 :: d.text) := by
  intro c
  induction c with
  | val v => intro o d ho; simp [appendChain, Eqn.text, ho]
  | un co cl _ => intro o d ho; simp [appendChain, Eqn.text, ho]
  | bin co cl cr _ ihr =>
    intro o d ho
    simp only [appendChain]
    split
    · rename_i hco
      have := ((isInfix_iff co).1 hco).2
      simp [Eqn.text, this, ihr o d ho]
    · simp [Eqn.text, ho]

theorem text_chainify : ∀ g : Eqn, (chainify g).text = g.text := by
  intro g
  induction g with
  | val v => rfl
  | un o l ih => simp [chainify, Eqn.text, ih]
  | bin o l r ihl ihr =>
    simp only [chainify]
    split
    · rename_i ho
      have := ((isInfix_iff o).1 ho).2
      rw [text_appendChain _ _ _ this, ihl, ihr]; simp [Eqn.text, this]
    · simp [Eqn.text, ihl, ihr]

/-- trees (with `group` nodes) whose text the reader lemma covers: the Boolean form of `Readable` at simple operands, in
which `parseEquation_text` and `readFilter_text` are stated; the proofs go through `Readable A` -/
def Eqn.readable : Eqn → Bool
  | .val v => v.simple
  | .un o l => (o == Gen.JpOps.op_not && (l.isAtom && l.readable)) || (o == Gen.JpOps.op_group && l.readable) ||
      ((o == Gen.JpOps.op_length || o == Gen.JpOps.op_count) && l.isPathVal)
  | .bin o l r => binOps.contains o && (l.readable && r.readable)

/-- … over any operands: `Eqn.readable` is the case `Val.simple` -/
inductive Readable (A : Val → Prop) : Eqn → Prop
  | val {v : Val} : A v → Readable A (.val v)
  | not {l : Eqn} : l.isAtom = true → Readable A l → Readable A (.un Gen.JpOps.op_not l)
  | group {l : Eqn} : Readable A l → Readable A (.un Gen.JpOps.op_group l)
  | fn {o : Op} {x : List Frag} : FnOp o → A (.expr x) → Readable A (.un o (.val (.expr x)))
  | bin {o : Op} {l r : Eqn} : binOps.contains o = true → Readable A l → Readable A r → Readable A (.bin o l r)

theorem Readable.of_readable : ∀ g : Eqn, g.readable = true → Readable (fun v => v.simple = true) g := by
  intro g
  induction g with
  | val v => intro h; exact .val h
  | un o l ih =>
    intro h
    simp only [Eqn.readable, Bool.or_eq_true, Bool.and_eq_true, beq_iff_eq] at h
    rcases h with (⟨rfl, ha, hl⟩ | ⟨rfl, hl⟩) | ⟨ho, hp⟩
    · exact .not ha (ih hl)
    · exact .group (ih hl)
    · obtain ⟨x, rfl, hx⟩ := isPathVal_iff hp
      exact .fn ho hx
  | bin o l r ihl ihr =>
    intro h
    simp only [Eqn.readable, Bool.and_eq_true] at h
    exact .bin h.1 (ihl h.2.1) (ihr h.2.2)

theorem Readable.grp (p : Bool) {t : Eqn} (h : Readable A t) : Readable A (grp p t) := by
  cases p
  · exact h
  · exact .group h

theorem isAtom_chainify (g : Eqn) (h : g.isAtom = true) : (chainify g).isAtom = true := by
  cases g with
  | val v => rfl
  | un o l => rfl
  | bin o l r =>
    have : o.isInfix = false := by simpa [Eqn.isAtom] using h
    simp [chainify, this, Eqn.isAtom]

theorem Raw.appendChain : ∀ (c : Eqn) (o : Op) (d : Eqn), binOps.contains o = true → o.isInfix = true →
    Raw A c → Raw A d → Raw A (appendChain c o d) := by
  intro c
  induction c with
  | val v => intro o d ho hi hc hd; exact .inf hi ho rfl hc hd
  | un co cl _ => intro o d ho hi hc hd; exact .inf hi ho rfl hc hd
  | bin co cl cr _ ihr =>
    intro o d ho hi hc hd
    simp only [JPText.appendChain]
    split
    · rename_i hco
      cases hc with
      | inf h1 h2 h3 h4 h5 => exact .inf h1 h2 h3 h4 (ihr o d ho hi h5 hd)
      | call h1 _ _ => rw [(CallOp.facts h1).isInfix] at hco; cases hco
    · rename_i hco
      exact .inf hi ho (by simpa [Eqn.isAtom] using hco) hc hd

theorem Raw.chainify {g : Eqn} (h : Readable A g) : Raw A (chainify g) := by
  induction h with
  | val h => exact .val h
  | not ha _ ih => exact .not (isAtom_chainify _ ha) ih
  | group _ ih => exact .group ih
  | fn ho hx => exact .fn ho hx
  | @bin o l r ho _ _ ihl ihr =>
    rcases binOps_cases ho with hi | hc
    · rw [JPText.chainify, if_pos hi.isInfix]
      exact Raw.appendChain _ o _ ho hi.isInfix ihl ihr
    · rw [JPText.chainify, if_neg (by simp [hc.facts.isInfix])]
      exact .call hc ihl ihr

theorem op_parenG (s : Bool) (e : Eqn) : (e.parenG s).op? = e.op? := by
  cases e with
  | val v => rfl
  | un o l => rfl
  | bin o l r => simp only [Eqn.parenG]; split <;> rfl

theorem topPrec_parenG (s : Bool) (e : Eqn) : topPrec (e.parenG s) = topPrec e := by simp [topPrec, op_parenG]

theorem infixPrec_parenG (s : Bool) (e : Eqn) : (e.parenG s).infixPrec? = e.infixPrec? := by
  cases e with
  | val v => rfl
  | un o l => rfl
  | bin o l r => simp only [Eqn.parenG]; split <;> rfl

theorem isInfix_parenG (s : Bool) (e : Eqn) : (e.parenG s).isInfix = e.isInfix := by simp [Eqn.isInfix, infixPrec_parenG]

theorem parenG_path (s : Bool) (o : Op) (v : Val) : (Eqn.un o (.val v)).parenG s = .un o (.val v) := rfl

theorem pd_parenG (s : Bool) {e : Eqn} (h : OkS A e) : (e.parenG s).pd = true := by
  induction h with
  | val _ => rfl
  | not _ ih => simp [Eqn.parenG, Eqn.pd, unary_facts, pd_grp _ _ ih]
  | fn ho _ => simp [Eqn.parenG, grp, Eqn.pd, ho.facts.prec, Eqn.isInfix, Eqn.infixPrec?]
  | @inf o l r ho hl hr ihl ihr =>
    rw [Eqn.parenG, if_neg (by simp [ho.call]), leftParens_okS o hl, rightParens_okS o hr ho.prec]
    exact (pd_infix ho.isInfix).2 ⟨topPrec_grp_left o l _ (topPrec_parenG s l),
      topPrec_grp_right o r _ (topPrec_parenG s r) ho.prec, pd_grp _ _ ihl, pd_grp _ _ ihr⟩
  | call ho _ _ ihl ihr =>
    simp [Eqn.parenG, Eqn.pd, ho.facts.call, ho.facts.prec, pd_grp _ _ ihl, pd_grp _ _ ihr]

theorem isAtom_parenG (s : Bool) {e : Eqn} (h : OkS A e) (hi : e.isInfix = false) : (e.parenG s).isAtom = true := by
  cases h with
  | val _ => rfl
  | not _ => rfl
  | fn _ _ => rfl
  | inf ho _ _ => simp [Eqn.isInfix, infixPrec_infix ho] at hi
  | call ho _ _ => simp [Eqn.parenG, ho.facts.call, Eqn.isAtom, ho.facts.isInfix]

theorem readable_parenG (s : Bool) {e : Eqn} (h : OkS A e) : Readable A (e.parenG s) := by
  induction h with
  | val h => exact .val h
  | @not l hl ih =>
    have : (grp l.isInfix (l.parenG s)).isAtom = true := by
      cases hi : l.isInfix
      · exact isAtom_parenG s hl hi
      · rfl
    exact .not this (ih.grp _)
  | fn ho hx => exact .fn ho hx
  | inf ho _ _ ihl ihr =>
    rw [Eqn.parenG, if_neg (by simp [ho.call])]
    exact .bin ho.bin (ihl.grp _) (ihr.grp _)
  | call ho _ _ ihl ihr =>
    rw [Eqn.parenG, if_pos ho.facts.call]
    exact .bin ho.facts.bin (ihl.grp _) (ihr.grp _)

theorem reduceGroups_grp (p : Bool) (X : Eqn) (par : Op) (h1 : ∀ po, reduceGroups X po = X)
    (h2 : p = true → par.prec ≤ topPrec X) : reduceGroups (grp p X) (some par) = grp p X := by
  cases p with
  | false => exact h1 _
  | true =>
    have h3 := h2 rfl
    simp only [grp, if_true, reduceGroups, dropGroup, unary_facts, Bool.true_and]
    cases hop : X.op? with
    | none => simp [h1]
    | some lo =>
      simp only [topPrec, hop] at h3
      have : ¬ lo.prec < par.prec := by omega
      simp [this, h1]

theorem reduceGroups_parenG (s : Bool) {e : Eqn} (h : OkS A e) : ∀ po, reduceGroups (e.parenG s) po = e.parenG s := by
  induction h with
  | val _ => intro _; rfl
  | not _ ih =>
    intro po
    simp only [Eqn.parenG, reduceGroups, dropGroup, unary_facts, Bool.false_and, Bool.false_eq_true, if_false]
    rw [reduceGroups_grp _ _ _ ih (by intro _; simp [unary_facts])]
  | fn ho _ => intro po; simp [parenG_path, reduceGroups, dropGroup, ho.facts.group]
  | @inf o l r ho hl hr ihl ihr =>
    intro po
    rw [Eqn.parenG, if_neg (by simp [ho.call]), leftParens_okS o hl, rightParens_okS o hr ho.prec]
    simp only [reduceGroups, dropGroup, ho.group, Bool.false_and, Bool.false_eq_true, if_false]
    rw [reduceGroups_grp _ _ _ ihl (by rw [topPrec_parenG]; simp; omega),
      reduceGroups_grp _ _ _ ihr (by rw [topPrec_parenG]; simp)]
  | call ho _ _ ihl ihr =>
    intro po
    have hp := ho.facts.prec
    simp only [Eqn.parenG, ho.facts.call, if_true, reduceGroups, dropGroup, ho.facts.group, Bool.false_and,
      Bool.false_eq_true, if_false]
    rw [reduceGroups_grp _ _ _ ihl (by intro _; omega), reduceGroups_grp _ _ _ ihr (by intro _; omega)]

theorem normL_append : ∀ a b : List Item, Item.normL (a ++ b) = Item.normL a ++ Item.normL b := by
  intro a
  induction a with
  | nil => intro b; simp [Item.normL]
  | cons x a ih =>
    intro b
    cases x with
    | op o => simp only [List.cons_append, Item.normL, ih]; split <;> simp
    | val v => simp [Item.normL, ih]

theorem normL_build_parenG (s : Bool) {e : Eqn} (h : OkS A e) : Item.normL (e.parenG s).build = Item.normL e.build := by
  induction h with
  | val _ => rfl
  | not _ ih => simp [Eqn.parenG, build_not, Item.normL, unary_facts, normL_build_grp, ih]
  | fn _ _ => rfl
  | inf ho _ _ ihl ihr =>
    rw [Eqn.parenG, if_neg (by simp [ho.call]), build_bin ho.bin, build_bin ho.bin]
    simp [Item.normL, normL_append, normL_build_grp, ihl, ihr]
  | call ho _ _ ihl ihr =>
    rw [Eqn.parenG, if_pos ho.facts.call, build_bin ho.facts.bin, build_bin ho.facts.bin]
    simp [Item.normL, normL_append, normL_build_grp, ihl, ihr]

theorem topPrec_paren_infix (o : Op) (l r : Eqn) : topPrec (Eqn.bin o l r).paren = o.prec := by
  simp only [Eqn.paren]; split <;> simp [topPrec, Eqn.op?]

/-- **`Equation.Append` writes the text of the tree with its parentheses as `group` nodes.** `isVal` stands in the
flag because `Equation.Append` also wraps a bare constant when `parens` is set (`wrapParens p v.print`); operands are
never printed so (`leftParens`/`rightParens` are false of a constant, `e1`/`e2` below). -/
theorem print_paren : ∀ (e : Eqn), e.okS = true → ∀ p : Bool,
    e.print p = some (grp (p && (e.isInfix || e.isVal)) e.paren).text := by
  refine okS_induction ?_ ?_ ?_ ?_ ?_
  · intro v _ p
    cases p <;> rfl
  · intro l _ ih p
    rw [print_not, ih, isInfix_not]
    simp only [Option.map_some, Eqn.isVal, Bool.or_self, Bool.and_false, grp, Bool.false_eq_true,
      if_false, Eqn.paren, text_not, Option.some.injEq, List.cons.injEq, true_and]
    cases l.isInfix <;> simp
  · intro o x ho _ p
    rw [print_fn ho, isInfix_fn ho]
    simp [Eqn.isVal, grp, Eqn.paren, text_fn ho, Eqn.resultOf, Eqn.isInfix, Eqn.infixPrec?, Eqn.text]
  · intro o l r ho hl hr ihl ihr p
    have e1 : (leftParens o l && (l.isInfix || l.isVal)) = leftParens o l := by
      cases h : leftParens o l
      · rfl
      · simp [leftParens_isInfix h]
    have e2 : (rightParens o r && (r.isInfix || r.isVal)) = rightParens o r := by
      cases h : rightParens o r
      · rfl
      · simp [rightParens_isInfix h]
    rw [print_infix ho, ihl, ihr, e1, e2, isInfix_infix ho, Eqn.paren, if_neg (by simp [ho.call])]
    simp [Eqn.isVal, text_grp, text_infix ho.call]
  · intro o l r ho _ _ ihl ihr p
    rw [print_call ho, ihl, ihr, isInfix_call ho, Eqn.paren, if_pos ho.facts.call]
    simp [Eqn.isVal, grp, text_call ho.facts.call]

/-- The flag is a variable with an equation, not `false`: at the callers it is the unreduced
`leftParens o (grp (leftParens o l) l.paren)` (resp. `isInfix`, `rightParens`), which `apply` unifies first and the
caller then shows false. -/
theorem print_grp (q : Bool) (l : Eqn) (hq : q = true → l.isInfix = true) (ih : ∀ p, l.paren.print p = l.print p)
    (flag : Bool) (hflag : flag = false) :
    (grp q l.paren).print flag = l.print q := by
  cases q with
  | false => subst hflag; simp [grp, ih]
  | true =>
    subst hflag
    simp only [grp, if_true, print_group, paren_eq_parenG, isInfix_parenG, hq rfl]
    rw [← paren_eq_parenG, ih]

theorem print_paren_self : ∀ e : Eqn, e.okS = true → ∀ p, e.paren.print p = e.print p := by
  refine okS_induction ?_ ?_ ?_ ?_ ?_
  · intro v _ p; rfl
  · intro l _ ih p
    have hflag : (grp l.isInfix l.paren).isInfix = false := by
      cases hi : l.isInfix
      · simp [grp, paren_eq_parenG, isInfix_parenG, hi]
      · simp [grp, Eqn.isInfix, infixPrec_group]
    rw [Eqn.paren, print_not, print_not, print_grp l.isInfix l (fun h => h) ih _ hflag]
  · intro o x _ _ p; rfl
  · intro o l r ho hl hr ihl ihr p
    have hL : (grp (leftParens o l) l.paren).print (leftParens o (grp (leftParens o l) l.paren)) = l.print (leftParens o l) := by
      apply print_grp _ l (fun hq => leftParens_isInfix hq) ihl
      cases hq : leftParens o l
      · simpa [grp, leftParens, paren_eq_parenG, infixPrec_parenG] using hq
      · simp [grp, leftParens_group]
    have hR : (grp (rightParens o r) r.paren).print (rightParens o (grp (rightParens o r) r.paren)) = r.print (rightParens o r) := by
      apply print_grp _ r (fun hq => rightParens_isInfix hq) ihr
      cases hq : rightParens o r
      · simpa [grp, rightParens, paren_eq_parenG, infixPrec_parenG] using hq
      · simp [grp, rightParens_group]
    rw [Eqn.paren, if_neg (by simp [ho.call]), print_infix ho, print_infix ho, hL, hR]
  · intro o l r ho _ _ ihl ihr p
    rw [Eqn.paren, if_pos ho.facts.call, print_call ho, print_call ho, ihl, ihr]

theorem reduceGroups_paren : ∀ e : Eqn, e.okS = true → ∀ po, reduceGroups e.paren po = e.paren :=
  fun e h => paren_eq_parenG e ▸ reduceGroups_parenG false (.of_okS e h)

theorem normL_build_paren : ∀ e : Eqn, e.okS = true → Item.normL e.paren.build = Item.normL e.build :=
  fun e h => paren_eq_parenG e ▸ normL_build_parenG false (.of_okS e h)

theorem eqFollow_nil : eqFollow [] = true := by decide

/-- a tree (with `group` nodes) that is readable and properly parenthesised, over operands that are read back: its
text is parsed to itself less the outermost parentheses -/
theorem parseEquation_readable {w : Val → Nat} (H : LeafRead A w) {G : Eqn} (hr : Readable A G) (hp : G.pd = true) :
    parseEquation G.text = some (reduceGroups G none) := by
  have h1 := readEq_raw_len H (Raw.chainify hr) [] eqFollow_nil
  rw [text_chainify] at h1
  simp only [List.append_nil] at h1
  simp only [parseEquation, h1, precCorrect_chainify G hp]

theorem parseEquation_text (G : Eqn) (hr : G.readable = true) (hp : G.pd = true) :
    parseEquation G.text = some (reduceGroups G none) :=
  parseEquation_readable .simple (.of_readable G hr) hp

theorem parseEquation_print (e : Eqn) (h : e.okS = true) :
    ∃ s, eqnString e = some s ∧ parseEquation s = some e.paren := by
  have hs := OkS.of_okS e h
  refine ⟨_, print_paren e h true, ?_⟩
  rw [parseEquation_readable .simple (Readable.grp _ (paren_eq_parenG e ▸ readable_parenG false hs))
    (pd_grp _ _ (paren_eq_parenG e ▸ pd_parenG false hs))]
  cases (true && (e.isInfix || e.isVal))
  · simp [grp, reduceGroups_paren e h]
  · simp only [grp, if_true, reduceGroups, dropGroup, unary_facts, Bool.true_and, if_true, reduceGroups_paren e h]

theorem sameTemplate_of_normL {s t : List Item} (h : Item.normL s = Item.normL t) : sameTemplate s t = true := by
  simp [sameTemplate, h]

theorem roundTripsEqn_okS (e : Eqn) (h : e.okS = true) : roundTripsEqn e = true := by
  obtain ⟨s, h1, h2⟩ := parseEquation_print e h
  have h3 : eqnString e.paren = some s := by rw [← h1]; exact print_paren_self e h true
  simp only [roundTripsEqn, h1, h2, h3, beq_self_eq_true, Bool.true_and]
  exact sameTemplate_of_normL (normL_build_paren e h)
end OjgVerif.JPText
