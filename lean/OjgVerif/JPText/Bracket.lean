import OjgVerif.JPText.Spec
/-! # C14: the `Bracket` flag fragment (`jp.B()`, `Expr.B()`)

`jp.Bracket` is not a selector: `Expr.Append` (jp/expr.go) writes nothing for it and switches to the
bracket notation for the fragments that follow; the evaluators pass over it. The parser never builds it,
so the `Frag` type of the model does not have it; an API-built expression with flags is a list of
`Option Frag` here (`none`: the flag). `bprintL` is the loop of `Expr.Append` with the flag: the index
test `i == 0` counts the flag (a fragment after a leading flag is not "first", which no fragment looks at
in bracket notation), the flag leaves `afterDescent` as it is (so `R().D().B().C("a b")` is `$..['a b']`:
the descent was written as one dot, the second dot is still due).

Two deviations from C14 for expressions WITH the flag (both named, both decided on the object):

* `bracketReprint` (known finding C14-bracket-flag): the grammar has no text for the flag. The text is
  accepted and read as the expression without the flags, which re-prints in dot notation wherever a
  fragment has one — `R().B().C("a")`: `$['a']`, read back, prints `$.a`. Exactly when the text with the
  flags differs from the text without them (a wildcard excepted: `[*]` is read as `Wildcard('#')`, which
  prints `[*]` again — `stripBH`).
* `bracketLast` (known finding C14-bracket-last): the evaluators of jp/get.go … test "last fragment" by
  position, so a trailing flag makes the fragment before it a non-last one, which drops scalar results
  (`R().C("a").B()` on `{"a":1}` gives nothing; the re-parsed `$.a` gives 1; `B()` alone gives the whole
  document, its text `` read back gives nothing). -/
namespace OjgVerif.JPText

abbrev BExpr := List (Option Frag)

/-- the fragment loop of `Expr.Append` over an expression with `Bracket` flags -/
def bprintL (br first aD : Bool) : BExpr → Bytes
  | [] => if aD then [46] else []
  | none :: r => bprintL true false aD r
  | some f :: r =>
    (if aD then [46] else []) ++ (f.print br (first || aD) ++ bprintL br false (f.isDescent && !br) r)

/-- `Expr.Append(buf, bracket)` for an API-built expression -/
def bexprPrint (br : Bool) (x : BExpr) : Bytes := bprintL br true false x

/-- the expression without its flags (what every evaluator sees, but for the "last fragment" test) -/
def stripB : BExpr → Expr
  | [] => []
  | none :: r => stripB r
  | some f :: r => f :: stripB r

theorem bprintL_some (br : Bool) : ∀ (x : Expr) (first aD : Bool),
    bprintL br first aD (x.map some) = Frag.printL br first aD x := by
  intro x
  induction x with
  | nil => intro first aD; simp [bprintL, Frag.printL]
  | cons f r ih => intro first aD; simp [bprintL, Frag.printL, ih]

theorem bexprPrint_some (br : Bool) (x : Expr) : bexprPrint br (x.map some) = exprPrint br x :=
  bprintL_some br x true false

/-- C14 for an API-built expression with flags: the text is accepted, the result prints as the text, and
is the expression without the flags up to the normal form -/
def roundTripsBExpr (br : Bool) (x : BExpr) : Bool :=
  match parseExpr (bexprPrint br x) with
  | none => false
  | some y => exprPrint br y == bexprPrint br x && sameExpr y (stripB x)

/-- the expression without its flags as the parser can remember it: a wildcard written `[*]` is read back
as `Wildcard('#')`, which prints `[*]` again (`br`: bracket notation is on) -/
def stripBH (br : Bool) : BExpr → Expr
  | [] => []
  | none :: r => stripBH true r
  | some (.wild h) :: r => .wild (h || br) :: stripBH br r
  | some f :: r => f :: stripBH br r

/-- the flags change the text in a way the parser does not remember (C14-bracket-flag) -/
def bracketReprint (br : Bool) (x : BExpr) : Bool := bexprPrint br x != exprPrint br (stripBH br x)

def endsWithFlag : BExpr → Bool
  | [] => false
  | [none] => true
  | [some _] => false
  | _ :: r => endsWithFlag r

/-- a trailing flag (C14-bracket-last); also an expression of flags only: `jp.B().Get(d)` is `[d]`, its text
is empty and the empty expression gives nothing -/
def bracketLast (x : BExpr) : Bool := endsWithFlag x

end OjgVerif.JPText
