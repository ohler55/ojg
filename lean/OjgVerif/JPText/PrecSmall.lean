import OjgVerif.JPText.Sweep
/-! C14: the small-tree space, in five parts (pairs A, B; triples A, B, C): every tree with one or two operator
nodes over `Not` and the 19 binary constructors, and every tree with three over `Not` and one constructor per
precedence level. Each part lies in the class of the general theorems (`Eqn.okC`, kernel evaluation of the
membership), from which exactness and the round trips follow. Where the cuts between the parts lie carries no
meaning: each part is one evaluation of the membership, and `prec_small_all`, `prec_pairs_exact`, `prec_triples_exact`
(Props/C14) are stated over the concatenations. -/
namespace OjgVerif.JPText

def pairsATrees : List Shape := (sh1 unOps binOps ++ Shape.uns unOps (sh1 unOps binOps) ++ Shape.bins binOps sh0 (sh1 unOps binOps))

theorem pairsA_okC : (pairsATrees.all fun s => s.eqn.okC) = true := by decide +kernel

theorem pairsA_all : (pairsATrees.all fun s => roundTripsEqn s.eqn && roundTripsScript s.eqn && roundTripsFilter s.eqn) = true :=
  all_roundTrips pairsA_okC

def pairsBTrees : List Shape := (Shape.bins binOps (sh1 unOps binOps) sh0)

theorem pairsB_okC : (pairsBTrees.all fun s => s.eqn.okC) = true := by decide +kernel

theorem pairsB_all : (pairsBTrees.all fun s => roundTripsEqn s.eqn && roundTripsScript s.eqn && roundTripsFilter s.eqn) = true :=
  all_roundTrips pairsB_okC

def triplesATrees : List Shape := (Shape.uns unOps (sh2 unOps levelOps) ++ Shape.bins levelOps (sh1 unOps levelOps) (sh1 unOps levelOps))

theorem triplesA_okC : (triplesATrees.all fun s => s.eqn.okC) = true := by decide +kernel

theorem triplesA_all : (triplesATrees.all fun s => roundTripsEqn s.eqn && roundTripsScript s.eqn && roundTripsFilter s.eqn) = true :=
  all_roundTrips triplesA_okC

def triplesBTrees : List Shape := (Shape.bins levelOps sh0 (sh2 unOps levelOps))

theorem triplesB_okC : (triplesBTrees.all fun s => s.eqn.okC) = true := by decide +kernel

theorem triplesB_all : (triplesBTrees.all fun s => roundTripsEqn s.eqn && roundTripsScript s.eqn && roundTripsFilter s.eqn) = true :=
  all_roundTrips triplesB_okC

def triplesCTrees : List Shape := (Shape.bins levelOps (sh2 unOps levelOps) sh0)

theorem triplesC_okC : (triplesCTrees.all fun s => s.eqn.okC) = true := by decide +kernel

theorem triplesC_all : (triplesCTrees.all fun s => roundTripsEqn s.eqn && roundTripsScript s.eqn && roundTripsFilter s.eqn) = true :=
  all_roundTrips triplesC_okC

end OjgVerif.JPText
