import OjgVerif.JPText.LemmasFrag
/-! # C14 lemmas: the fragment loop of `readExpr` reads back what `Expr.Append` writes

`readExprLoop_gen`: the loop of `readExpr` over `Expr.Append`'s text (the source with the fixes bc70af1,
4af356a, c107b3b) of a Root/At (first), children with ANY key, any int64 index, wildcards, descents ANYWHERE and in
both text forms, unions of two or more members with any member bytes, slices of every shape (`Frag.clean`),
and filter fragments whose text the filter reader is known to read back (`FilterRT`) — followed by any text
at which the loop stops. `FragsRT pf br fl x x'`: `x'` is what the parser builds for the printed `x`.
Filter-free expressions are the case `cleanExpr` (`parseExpr_print`, `roundTripsExpr_clean`);
`cleanExpr_of_spec`: that is implied by "constructible, no filter fragment, no deviation named by Spec.lean"
(named there for such expressions: Root/At after the first position, a union of fewer than two members). -/
namespace OjgVerif.JPText

/-- a fragment (other than Root, At, Filter) of a constructible expression without a named deviation -/
def Frag.clean : Frag → Bool
  | .child _ => true
  | .nth i => inInt64 i
  | .wild h => !h
  | .descent => true
  | .union ms => decide (2 ≤ ms.length) && ms.all UMem.goodB
  | .slice ns => ns.all inInt64
  | _ => false

/-- the fragments after an optional leading Root/At -/
def cleanTail : List Frag → Bool
  | [] => true
  | f :: r => f.clean && cleanTail r

def cleanExpr : List Frag → Bool
  | [] => true
  | f :: r => if f.isRootAt then cleanTail r else cleanTail (f :: r)

/-- fragments the loop gets through: clean ones, and Root/At (read where it is first, the end of the reading elsewhere) -/
def raTail : List Frag → Bool
  | [] => true
  | f :: r => (f.clean || f.isRootAt) && raTail r

/-- what the parser builds for the printed fragment -/
def Frag.img (br : Bool) : Frag → Frag
  | .wild _ => .wild br
  | .slice ns => .slice (normSlice ns)
  | f => f

def imgL (br : Bool) : List Frag → List Frag
  | [] => []
  | f :: r => f.img br :: imgL br r

/-- the text the parser still has to read when it has just read a Descent (`lastD`) or not: `printL`
without the second dot of a dot-form descent, which `afterDot` has consumed with the first -/
def restText (br fl lastD : Bool) : List Frag → Bytes
  | [] => []
  | f :: r => f.print br (fl || (lastD && !br)) ++ Frag.printL br false (f.isDescent && !br) r

theorem printL_restText (br fl aD : Bool) (x : List Frag) (h : br = false ∨ aD = false) :
    Frag.printL br fl aD x = (if aD then [46] else []) ++ restText br fl aD x := by
  cases br <;> cases aD
  · cases x <;> simp [Frag.printL, restText]
  · cases x <;> simp [Frag.printL, restText]
  · cases x <;> simp [Frag.printL, restText]
  · rcases h with h | h <;> cases h

theorem printL_eq (br fl aD : Bool) (x : List Frag) :
    Frag.printL br fl aD x = (if aD then [46] else []) ++ restText br fl aD x ∨ br = true ∧ aD = true := by
  cases br with
  | false => exact Or.inl (printL_restText _ _ _ x (Or.inl rfl))
  | true => cases aD with
    | true => exact Or.inr ⟨rfl, rfl⟩
    | false => exact Or.inl (printL_restText _ _ _ x (Or.inr rfl))

theorem restText_br (fl lastD : Bool) (x : List Frag) : restText true fl lastD x = restText true fl false x := by
  cases x with
  | nil => rfl
  | cons f r => simp only [restText, Bool.not_true, Bool.and_false]

theorem restText_cons (br fl lastD : Bool) (f : Frag) (r : List Frag) :
    restText br fl lastD (f :: r) = f.print br (fl || (lastD && !br)) ++
      ((if f.isDescent && !br then [46] else []) ++ restText br false f.isDescent r) := by
  rw [restText, printL_restText br false _ r (by cases br <;> simp)]
  cases br with
  | false => simp
  | true => simp [restText_br false f.isDescent r]

theorem restText_cons_nd (br fl lastD : Bool) (f : Frag) (r : List Frag) (hd : f.isDescent = false) :
    restText br fl lastD (f :: r) = f.print br (fl || (lastD && !br)) ++ restText br false false r := by
  simp [restText_cons, hd]

theorem exprPrint_eq_restText (br : Bool) (x : List Frag) : exprPrint br x = restText br true false x := by
  cases x <;> simp [exprPrint, Frag.printL, restText]

theorem slicePrint_head (ns : List Int) : ∃ t, slicePrint ns = 91 :: t := by
  match ns with
  | [] | [_] | [_, _] | _ :: _ :: _ :: _ => exact ⟨_, rfl⟩

theorem print_head (br fl : Bool) (f : Frag) (hc : f.clean = true) :
    ∃ b t, f.print br fl = b :: t ∧ (fl = false → b = 46 ∨ b = 91) := by
  cases f with
  | child k =>
    simp only [Frag.print, childPrint]
    split
    · exact ⟨_, _, rfl, fun _ => Or.inr rfl⟩
    · rename_i hq
      cases fl with
      | false => exact ⟨_, _, rfl, fun _ => Or.inl rfl⟩
      | true =>
        have htok : tokenOk k = true := by simp at hq; exact hq.2
        cases k with
        | nil => exact absurd rfl ((tokenOk_iff _).mp htok).2
        | cons c k => exact ⟨_, _, rfl, fun h => by cases h⟩
  | nth i => exact ⟨_, _, rfl, fun _ => Or.inr rfl⟩
  | wild hh =>
    simp only [Frag.print]
    split
    · exact ⟨_, _, rfl, fun _ => Or.inr rfl⟩
    · cases fl with
      | false => exact ⟨_, _, rfl, fun _ => Or.inl rfl⟩
      | true => exact ⟨_, _, rfl, fun h => by cases h⟩
  | descent => cases br <;> exact ⟨_, _, rfl, fun _ => by simp⟩
  | union ms => exact ⟨_, _, rfl, fun _ => Or.inr rfl⟩
  | slice ns =>
    obtain ⟨t, ht⟩ := slicePrint_head ns
    exact ⟨_, t, ht, fun _ => Or.inr rfl⟩
  | root => cases hc
  | «at» => cases hc
  | filter t => cases hc

theorem Frag.print_ne_nil (br fl : Bool) (f : Frag) (hc : f.clean = true) : 1 ≤ (f.print br fl).length := by
  obtain ⟨b, t, h, _⟩ := print_head br fl f hc
  simp [h]

theorem followerOK_print (br : Bool) (f : Frag) (hc : f.clean = true) (T : Bytes) :
    followerOK (f.print br false ++ T) = true := by
  obtain ⟨b, t, h, hb⟩ := print_head br false f hc
  rcases hb rfl with rfl | rfl <;> simp [h, followerOK, tokCls_specials]

theorem nextFrag_bracket (pf : P (List Item)) (fl lastD : Bool) (t : Bytes) (f : Frag) (T : Bytes)
    (h : afterBracket pf t = some (f, T)) : nextFrag pf fl lastD (91 :: t) = some (some f, T) := by
  simp [nextFrag, h]

/-- one clean fragment is read back (a descent in dot form with both its dots); `lastD`: a Descent has just
been read -/
theorem nextFrag_clean (pf : P (List Item)) (br fl lastD : Bool) (f : Frag) (T : Bytes) (hc : f.clean = true)
    (hT : f.isDescent = false → followerOK T = true) :
    nextFrag pf fl lastD (f.print br (fl || (lastD && !br)) ++ ((if f.isDescent && !br then [46] else []) ++ T)) =
      some (some (f.img br), T) := by
  cases f with
  | child k =>
    have hT := hT rfl
    simp only [Frag.print, childPrint, Frag.img, Frag.isDescent, Bool.false_and, Bool.false_eq_true, if_false, List.nil_append]
    by_cases hq : (br || !tokenOk k) = true
    · rw [if_pos hq, List.cons_append, List.append_assoc]
      exact nextFrag_bracket pf fl lastD _ _ _ (afterBracket_child pf k T)
    · rw [if_neg hq]
      obtain ⟨rfl, htok⟩ : br = false ∧ tokenOk k = true := by simpa using hq
      by_cases hfl : (fl || (lastD && !false)) = true
      · rw [if_pos hfl]
        exact nextFrag_child_bare pf fl lastD k T htok hT (by simpa using hfl)
      · rw [if_neg hfl]
        exact nextFrag_child_dot pf fl lastD k T htok hT
  | nth i =>
    simp only [Frag.print, Frag.img, nthPrint, Frag.isDescent, Bool.false_and, Bool.false_eq_true, if_false,
      List.nil_append, List.cons_append, List.append_assoc]
    exact nextFrag_bracket pf fl lastD _ _ _ (afterBracket_nth pf i hc T)
  | wild hh =>
    obtain rfl : hh = false := by simpa [Frag.clean] using hc
    cases br with
    | true => exact nextFrag_bracket pf fl lastD _ _ _ (afterBracket_wild pf T)
    | false => cases fl <;> cases lastD <;> simp [Frag.print, Frag.img, Frag.isDescent, nextFrag, afterDot]
  | descent =>
    cases br with
    | true => exact nextFrag_bracket pf fl lastD _ _ _ (afterBracket_descent pf T)
    | false => simp [Frag.print, Frag.img, Frag.isDescent, nextFrag, afterDot]
  | union ms =>
    simp only [Frag.clean, Bool.and_eq_true, decide_eq_true_eq, List.all_eq_true] at hc
    obtain ⟨t, h1, h2⟩ := afterBracket_union pf ms hc.1 hc.2 T
    simp only [Frag.print, Frag.img, Frag.isDescent, Bool.false_and, Bool.false_eq_true, if_false, List.nil_append, h1]
    exact nextFrag_bracket pf fl lastD _ _ _ h2
  | slice ns =>
    obtain ⟨t, h1, h2⟩ := afterBracket_slice pf ns hc T
    simp only [Frag.print, Frag.img, Frag.isDescent, Bool.false_and, Bool.false_eq_true, if_false, List.nil_append, h1]
    exact nextFrag_bracket pf fl lastD _ _ _ h2
  | root => cases hc
  | «at» => cases hc
  | filter t => cases hc

theorem img_isDescent_eq (br : Bool) (f : Frag) : (f.img br).isDescent = f.isDescent := by
  cases f <;> rfl

theorem readExprLoop_step (pf : P (List Item)) (n : Nat) (fl lastD : Bool) (bs : Bytes) (f : Frag) (rest : Bytes)
    (h : nextFrag pf fl lastD bs = some (some f, rest)) :
    readExprLoop pf (n + 1) fl lastD bs = consFst f (readExprLoop pf n false f.isDescent rest) := by
  simp [readExprLoop, h]

/-- the filter reader `pf` reads the text of the filter fragment with template `t` to the template `t'`, and `t'` prints
the same body as `t` in every form (so what the parser built prints like the original: `FragsRT.self`) -/
def FilterRT (pf : P (List Item)) (t t' : List Item) : Prop :=
  ∃ body : Bytes, (∀ br fl, Frag.print br fl (.filter t) = 91 :: 63 :: (body ++ [93])) ∧
    (∀ br fl, Frag.print br fl (.filter t') = 91 :: 63 :: (body ++ [93])) ∧
    ∀ T : Bytes, pf (body ++ 93 :: T) = some (t', T)

/-- `x'` is what the parser builds for the printed fragments `x`; `fl`: they stand first in the expression,
where a Root or At may lead -/
inductive FragsRT (pf : P (List Item)) (br : Bool) : Bool → List Frag → List Frag → Prop
  | nil {fl : Bool} : FragsRT pf br fl [] []
  | rootAt (f : Frag) (r r' : List Frag) : f.isRootAt = true → FragsRT pf br false r r' → FragsRT pf br true (f :: r) (f :: r')
  | clean {fl : Bool} (f : Frag) (r r' : List Frag) : f.clean = true → FragsRT pf br false r r' →
      FragsRT pf br fl (f :: r) (f.img br :: r')
  | filt {fl : Bool} (t t' : List Item) (r r' : List Frag) : FilterRT pf t t' → FragsRT pf br false r r' →
      FragsRT pf br fl (.filter t :: r) (.filter t' :: r')

theorem FragsRT.of_cleanTail (pf : P (List Item)) (br fl : Bool) : ∀ r : List Frag, cleanTail r = true →
    FragsRT pf br fl r (imgL br r)
  | [], _ => .nil
  | f :: r, h => by
    rw [cleanTail, Bool.and_eq_true] at h
    exact .clean f r _ h.1 (of_cleanTail pf br false r h.2)

theorem isRootAt_facts {f : Frag} (h : f.isRootAt = true) :
    f.isDescent = false ∧ (∀ br, f.img br = f) ∧ ∃ b, (∀ br fl, f.print br fl = [b]) ∧ (b = 36 ∨ b = 64) ∧
      ∀ (pf : P (List Item)) (lastD : Bool) (T : Bytes), nextFrag pf true lastD (b :: T) = some (some f, T) := by
  cases f with
  | root => exact ⟨rfl, fun _ => rfl, 36, fun _ _ => rfl, Or.inl rfl, fun _ _ _ => rfl⟩
  | «at» => exact ⟨rfl, fun _ => rfl, 64, fun _ _ => rfl, Or.inr rfl, fun _ _ _ => rfl⟩
  | _ => cases h

theorem FragsRT.of_cleanExpr (pf : P (List Item)) (br : Bool) (x : List Frag) (h : cleanExpr x = true) :
    FragsRT pf br true x (imgL br x) := by
  cases x with
  | nil => exact .nil
  | cons f r =>
    rw [cleanExpr] at h
    by_cases hra : f.isRootAt = true
    · rw [if_pos hra] at h
      rw [imgL, (isRootAt_facts hra).2.1]
      exact .rootAt f r _ hra (of_cleanTail pf br false r h)
    · rw [if_neg hra] at h
      exact of_cleanTail pf br true _ h

theorem follower_restText_gen {pf : P (List Item)} {br : Bool} {r r' : List Frag} (h : FragsRT pf br false r r')
    (tail : Bytes) (ht : followerOK tail = true) : followerOK (restText br false false r ++ tail) = true := by
  cases h with
  | nil => exact ht
  | clean f r r' hc hr => rw [restText_cons, List.append_assoc]; exact followerOK_print br f hc _
  | filt t t' r r' hf hr =>
    obtain ⟨body, h1, _, _⟩ := hf
    simp [restText, h1, followerOK, tokCls_specials]

theorem nextFrag_filter (pf : P (List Item)) (fl lastD : Bool) (body : Bytes) (t' : List Item) (T : Bytes)
    (h : pf (body ++ 93 :: T) = some (t', T)) :
    nextFrag pf fl lastD (91 :: 63 :: (body ++ [93]) ++ T) = some (some (.filter t'), T) := by
  have e : 91 :: 63 :: (body ++ [93]) ++ T = 91 :: (63 :: (body ++ 93 :: T)) := by simp
  rw [e]
  apply nextFrag_bracket
  have hs : skipSpace (63 :: (body ++ 93 :: T)) = (63, body ++ 93 :: T) := skipSpace_cons _ (by decide)
  simp [afterBracket, hs, h]

/-- **the fragment loop reads back the text of clean fragments and filter fragments** (after an optional
leading Root/At), followed by a `tail` at which it stops -/
theorem readExprLoop_gen (pf : P (List Item)) (br : Bool) (tail : Bytes)
    (hstop : ∀ fl lastD, nextFrag pf fl lastD tail = some (none, tail)) (ht : followerOK tail = true) :
    ∀ {fl : Bool} {x x' : List Frag}, FragsRT pf br fl x x' → ∀ (lastD : Bool) (n : Nat),
    (restText br fl lastD x).length < n →
    readExprLoop pf n fl lastD (restText br fl lastD x ++ tail) = some (x', tail) := by
  intro fl x x' hx
  induction hx with
  | nil =>
    intro lastD n hn
    obtain ⟨n, rfl⟩ : ∃ k, n = k + 1 := ⟨n - 1, by omega⟩
    simp [restText, readExprLoop, hstop]
  | rootAt f r r' hra hr ih =>
    intro lastD n hn
    obtain ⟨hd, _, b, hp, _, hnext⟩ := isRootAt_facts hra
    rw [restText_cons_nd _ _ _ _ _ hd, hp, List.singleton_append] at hn ⊢
    obtain ⟨n, rfl⟩ : ∃ k, n = k + 1 := ⟨n - 1, by omega⟩
    rw [List.cons_append, readExprLoop_step pf n _ _ _ _ _ (hnext pf lastD _), hd, ih false n (by simpa using hn)]
    rfl
  | @clean fl f r r' hc hr ih =>
    intro lastD n hn
    have hl := Frag.print_ne_nil br (fl || (lastD && !br)) f hc
    rw [restText_cons] at hn ⊢
    obtain ⟨n, rfl⟩ : ∃ k, n = k + 1 := ⟨n - 1, by omega⟩
    rw [List.append_assoc, List.append_assoc, readExprLoop_step pf n _ _ _ _ _
      (nextFrag_clean pf br _ lastD f _ hc (fun hd => by rw [hd]; exact follower_restText_gen hr tail ht)),
      img_isDescent_eq, ih f.isDescent n (by simp only [List.length_append] at hn; omega)]
    rfl
  | filt t t' r r' hf hr ih =>
    intro lastD n hn
    obtain ⟨body, hp1, _, hpf⟩ := hf
    rw [restText_cons_nd _ _ _ _ _ rfl, hp1] at hn ⊢
    obtain ⟨n, rfl⟩ : ∃ k, n = k + 1 := ⟨n - 1, by omega⟩
    rw [List.append_assoc, readExprLoop_step pf n _ _ _ _ _ (nextFrag_filter pf _ lastD body t' _ (hpf _))]
    dsimp only [Frag.isDescent]
    rw [ih false n (by simp only [List.length_append, List.length_cons] at hn; omega)]
    rfl

theorem readExpr_gen (pf : P (List Item)) (br : Bool) (tail : Bytes)
    (hstop : ∀ fl lastD, nextFrag pf fl lastD tail = some (none, tail)) (ht : followerOK tail = true)
    {x x' : List Frag} (h : FragsRT pf br true x x') : readExpr pf (exprPrint br x ++ tail) = some (x', tail) := by
  rw [readExpr, exprPrint_eq_restText]
  exact readExprLoop_gen pf br tail hstop ht h false _ (by simp only [List.length_append]; omega)

theorem nextFrag_nil (pf : P (List Item)) (fl lastD : Bool) : nextFrag pf fl lastD [] = some (none, []) := rfl

/-- `readExprLoop_gen` for clean fragments and nothing after them; listed for C14 and C06jp, not used below -/
theorem readExprLoop_clean (pf : P (List Item)) (br : Bool) : ∀ (x : List Frag) (fl lastD : Bool) (n : Nat),
    cleanTail x = true → (restText br fl lastD x).length < n →
    readExprLoop pf n fl lastD (restText br fl lastD x) = some (imgL br x, []) := by
  intro x fl lastD n h hn
  have := readExprLoop_gen pf br [] (nextFrag_nil pf) rfl (FragsRT.of_cleanTail pf br fl x h) lastD n hn
  rwa [List.append_nil] at this

/-- **Filter-free expressions are read back.** -/
theorem parseExpr_print (br : Bool) (x : List Frag) (h : cleanExpr x = true) :
    parseExpr (exprPrint br x) = some (imgL br x) := by
  have := readExpr_gen (readFilter (readEq ((exprPrint br x).length + 1))) br [] (nextFrag_nil _) rfl
    (FragsRT.of_cleanExpr _ br x h)
  rw [List.append_nil] at this
  simp only [parseExpr, this]

theorem img_print (br fl : Bool) (f : Frag) (hc : f.clean = true ∨ f.isRootAt = true) :
    (f.img br).print br fl = f.print br fl := by
  cases f with
  | wild hh =>
    rcases hc with h | h
    · obtain rfl : hh = false := by simpa [Frag.clean] using h
      cases br <;> rfl
    · cases h
  | slice ns =>
    simp only [Frag.img, Frag.print]
    match ns with
    | [] => simp [normSlice, slicePrint, sliceStart, sliceEnd]
    | [a] => simp [normSlice, slicePrint, sliceEnd]
    | [a, b] => rfl
    | a :: b :: c :: r => rfl
  | _ => rfl

theorem img_norm (br : Bool) (f : Frag) : (f.img br).norm = f.norm := by
  cases f with
  | slice ns =>
    simp only [Frag.img, Frag.norm]
    match ns with
    | [] | [_] | [_, _] | _ :: _ :: _ :: _ => rfl
  | _ => rfl

theorem imgL_normL (br : Bool) (x : List Frag) : Frag.normL (imgL br x) = Frag.normL x := by
  induction x with
  | nil => rfl
  | cons f r ih => simp [imgL, Frag.normL, img_norm, ih]

theorem raTail_of_cleanTail : ∀ r : List Frag, cleanTail r = true → raTail r = true
  | [], _ => rfl
  | f :: r, h => by
    rw [cleanTail, Bool.and_eq_true] at h
    rw [raTail, h.1, raTail_of_cleanTail r h.2]; rfl

theorem raTail_of_cleanExpr {x : List Frag} (h : cleanExpr x = true) : raTail x = true := by
  cases x with
  | nil => rfl
  | cons f r =>
    rw [cleanExpr] at h
    by_cases hra : f.isRootAt = true
    · rw [if_pos hra] at h
      rw [raTail, hra, raTail_of_cleanTail r h]; simp
    · rw [if_neg hra] at h
      exact raTail_of_cleanTail _ h

theorem imgL_printL (br : Bool) : ∀ (x : List Frag) (fl aD : Bool), raTail x = true →
    Frag.printL br fl aD (imgL br x) = Frag.printL br fl aD x := by
  intro x
  induction x with
  | nil => intro _ _ _; rfl
  | cons f r ih =>
    intro fl aD h
    simp only [raTail, Bool.and_eq_true, Bool.or_eq_true] at h
    simp [imgL, Frag.printL, img_print br _ f h.1, img_isDescent_eq, ih _ _ h.2]

theorem exprPrint_imgL (br : Bool) (x : List Frag) (h : cleanExpr x = true) :
    exprPrint br (imgL br x) = exprPrint br x :=
  imgL_printL br x true false (raTail_of_cleanExpr h)

/-- **C14 for filter-free expressions.** A constructible expression without filter fragments and
without a named deviation round-trips in the text form `br`: the printed text is accepted, the re-parsed
expression prints identically, and it is the same expression up to the normal form. -/
theorem roundTripsExpr_clean (br : Bool) (x : List Frag) (h : cleanExpr x = true) :
    roundTripsExpr br x = true := by
  simp only [roundTripsExpr, parseExpr_print br x h, exprPrint_imgL br x h, beq_self_eq_true, Bool.true_and,
    sameExpr, imgL_normL]

def noFilter : List Frag → Bool
  | [] => true
  | .filter _ :: _ => false
  | _ :: r => noFilter r

theorem addIf_nil {c : Bool} {d : Dev} {l : List Dev} (h : addIf c d l = []) : c = false ∧ l = [] := by
  cases c <;> simp_all [addIf]

theorem clean_of_spec (f : Frag) (hok : f.ok = true) (hdev : f.devs = [])
    (h1 : f.isRootAt = false) (h3 : noFilter [f] = true) : f.clean = true := by
  cases f with
  | child k => rfl
  | nth i => exact hok
  | wild hh => simpa [Frag.ok, Frag.clean] using hok
  | descent => rfl
  | union ms =>
    simp only [Frag.devs] at hdev
    have d1 := (addIf_nil hdev).1
    simp only [Frag.ok, List.all_eq_true] at hok
    simp only [Frag.clean, Bool.and_eq_true, decide_eq_true_eq, List.all_eq_true]
    exact ⟨by simpa using d1, fun m hm => (UMem.goodB_eq_ok m).trans (hok m hm)⟩
  | slice ns => exact hok
  | root => simp [Frag.isRootAt] at h1
  | «at» => simp [Frag.isRootAt] at h1
  | filter t => simp [noFilter] at h3

theorem noFilter_cons (f : Frag) (r : List Frag) (h : noFilter (f :: r) = true) :
    noFilter [f] = true ∧ noFilter r = true := by
  cases f <;> simp_all [noFilter]

theorem cleanTail_of_spec : ∀ r : List Frag, Frag.okL r = true → noFilter r = true →
    r.any Frag.isRootAt = false → Frag.devsL r = [] → cleanTail r = true := by
  intro r
  induction r with
  | nil => intros; rfl
  | cons f r ih =>
    intro hok hnf hra hdev
    simp only [Frag.okL, Bool.and_eq_true] at hok
    simp only [List.any_cons, Bool.or_eq_false_iff] at hra
    simp only [Frag.devsL, List.append_eq_nil_iff] at hdev
    obtain ⟨hnf1, hnf2⟩ := noFilter_cons f r hnf
    simp only [cleanTail, Bool.and_eq_true]
    exact ⟨clean_of_spec f hok.1 hdev.1 hra.1 hnf1, ih hok.2 hnf2 hra.2 hdev.2⟩

/-- the hypotheses of the theorem in the words of Spec.lean: constructible, no filter fragment, no named
deviation -/
theorem cleanExpr_of_spec (br : Bool) (x : List Frag) (hok : Frag.okL x = true) (hnf : noFilter x = true)
    (hdev : devsExpr br x = []) : cleanExpr x = true := by
  simp only [devsExpr] at hdev
  obtain ⟨hra, hdl⟩ := addIf_nil hdev
  cases x with
  | nil => rfl
  | cons f r =>
    simp only [devRootAtL] at hra
    simp only [cleanExpr]
    by_cases hf : f.isRootAt = true
    · simp only [hf, ↓reduceIte]
      simp only [Frag.okL, Bool.and_eq_true] at hok
      simp only [Frag.devsL, List.append_eq_nil_iff] at hdl
      exact cleanTail_of_spec r hok.2 (noFilter_cons f r hnf).2 hra hdl.2
    · simp only [hf, Bool.false_eq_true, ↓reduceIte]
      have hf' : f.isRootAt = false := by simpa using hf
      exact cleanTail_of_spec (f :: r) hok hnf (by simp [hf', hra]) hdl

theorem clean_devs {f : Frag} (h : f.clean = true) : f.isRootAt = false ∧ f.devs = [] := by
  cases f with
  | union ms =>
    simp only [Frag.clean, Bool.and_eq_true, decide_eq_true_eq] at h
    have : ¬ ms.length < 2 := by omega
    simp [Frag.isRootAt, Frag.devs, addIf, this]
  | root => cases h
  | «at» => cases h
  | filter t => cases h
  | _ => exact ⟨rfl, rfl⟩

theorem cleanTail_devs : ∀ r : List Frag, cleanTail r = true → r.any Frag.isRootAt = false ∧ Frag.devsL r = []
  | [], _ => ⟨rfl, rfl⟩
  | f :: r, h => by
    rw [cleanTail, Bool.and_eq_true] at h
    obtain ⟨h1, h2⟩ := clean_devs h.1
    obtain ⟨h3, h4⟩ := cleanTail_devs r h.2
    simp [Frag.devsL, h1, h2, h3, h4]

theorem ok_of_clean {f : Frag} (h : f.clean = true) : f.ok = true := by
  cases f with
  | union ms =>
    simp only [Frag.clean, Bool.and_eq_true, List.all_eq_true] at h
    simp only [Frag.ok, List.all_eq_true]
    exact fun m hm => (UMem.goodB_eq_ok m).symm.trans (h.2 m hm)
  | root => cases h
  | «at» => cases h
  | filter t => cases h
  | _ => exact h

theorem okL_of_cleanTail : ∀ r : List Frag, cleanTail r = true → Frag.okL r = true
  | [], _ => rfl
  | f :: r, h => by
    rw [cleanTail, Bool.and_eq_true] at h
    rw [Frag.okL, ok_of_clean h.1, okL_of_cleanTail r h.2]; rfl

end OjgVerif.JPText
