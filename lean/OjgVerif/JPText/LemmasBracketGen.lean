import OjgVerif.JPText.LemmasBracket
import OjgVerif.JPText.LemmasExpr
/-! # C14 lemmas: `String()` of filter-free expressions with `Bracket` flags, any length

Induction over the fragment loop of `readExpr` as for flag-free expressions (`readExprLoop_gen`), with the
notation `br` as a state that a flag switches to bracket. `brest` is the mixed-notation `restText`: the second
dot of a dot-form descent is consumed with the first by `afterDot`, also when a flag stands between the descent
and the next fragment (`R().D().B().C("a b")` is `$..['a b']`). The text is read as `imgB`: the fragments without
the flags, a wildcard after the first flag as `Wildcard('#')`, a slice in its normal form. Hence the round trip
holds exactly when `bracketReprint` is false (known finding C14-bracket-flag: the only way a flag breaks C14 for
these expressions), and that is the structural `flagMatters`: a token-like child or a descent after a flag.
A Root/At after the first position is swallowed by the parser and ends the reading (`readExprLoop_cut`: what is read is
`cutB`, what is left `cutText`), so such an expression never round-trips (`roundTripsBExpr_rootAt`); together:
`bexact_of_raTail`. -/
namespace OjgVerif.JPText

/-- what the parser builds for the text of a flagged expression (`br`: bracket notation is on) -/
def imgB (br : Bool) : BExpr → List Frag
  | [] => []
  | none :: r => imgB true r
  | some f :: r => f.img br :: imgB br r

/-- the text the parser still has to read (`restText` with flags): `bprintL` without the second dot of a
dot-form descent -/
def brest (br fl lastD : Bool) : BExpr → Bytes
  | [] => []
  | none :: r => brest true fl lastD r
  | some f :: r => f.print br (fl || (lastD && !br)) ++ bprintL br false (f.isDescent && !br) r

/-- the fragments the parser reads: up to the first Root/At that is not first (`fl`: no fragment has been read yet) -/
def cutB (fl : Bool) : BExpr → BExpr
  | [] => []
  | none :: r => none :: cutB fl r
  | some f :: r => if f.isRootAt && !fl then [] else some f :: cutB false r

/-- … and the text left over: what follows that Root/At, which the parser consumes (DEVIATION C14-no-text-form) -/
def cutText (br fl : Bool) : BExpr → Bytes
  | [] => []
  | none :: r => cutText true fl r
  | some f :: r => if f.isRootAt && !fl then bprintL br false false r else cutText br false r

theorem brest_true : ∀ (x : BExpr) (fl fl' lastD lastD' : Bool), brest true fl lastD x = brest true fl' lastD' x := by
  intro x
  induction x with
  | nil => intros; rfl
  | cons f r ih =>
    intro fl fl' lastD lastD'
    cases f with
    | none => exact ih fl fl' lastD lastD'
    | some f =>
      simp only [brest, Bool.not_true, Bool.and_false, Bool.or_false]
      rw [print_true_first f fl fl']

theorem bprintL_eq : ∀ (x : BExpr) (br fl aD : Bool),
    bprintL br fl aD x = (if aD then [46] else []) ++ brest br fl aD x := by
  intro x
  induction x with
  | nil => intro br fl aD; cases aD <;> simp [bprintL, brest]
  | cons f r ih =>
    intro br fl aD
    cases f with
    | none =>
      simp only [bprintL, brest]
      rw [ih true false aD, brest_true r false fl aD aD]
    | some f =>
      simp only [bprintL, brest]
      cases br with
      | true => rw [print_true_first f (fl || aD) (fl || (aD && !true))]
      | false => simp

theorem brest_cons (br fl lastD : Bool) (f : Frag) (r : BExpr) :
    brest br fl lastD (some f :: r) = f.print br (fl || (lastD && !br)) ++
      ((if f.isDescent && !br then [46] else []) ++ brest br false f.isDescent r) := by
  rw [brest, bprintL_eq]
  cases br with
  | false => simp
  | true => simp [brest_true r false false f.isDescent false]

theorem follower_brest : ∀ (r : BExpr) (br : Bool), raTail (stripB r) = true →
    followerOK (brest br false false r) = true := by
  intro r
  induction r with
  | nil => intros; rfl
  | cons g r ih =>
    intro br h
    cases g with
    | none => exact ih true h
    | some g =>
      rw [stripB, raTail, Bool.and_eq_true, Bool.or_eq_true] at h
      rw [brest_cons]
      rcases h.1 with hc | hra
      · exact followerOK_print br g hc _
      · obtain ⟨_, _, b, hp, hb, _⟩ := isRootAt_facts hra
        rcases hb with rfl | rfl <;> simp [hp, followerOK, tokCls_specials]

/-- **the fragment loop of `readExpr` over the text of clean fragments and Root/At with flags between them**: it reads
up to the first Root/At that is not first, swallows it and stops -/
theorem readExprLoop_cut (pf : P (List Item)) : ∀ (x : BExpr) (br fl lastD : Bool) (n : Nat),
    raTail (stripB x) = true → (brest br fl lastD x).length < n →
    readExprLoop pf n fl lastD (brest br fl lastD x) = some (imgB br (cutB fl x), cutText br fl x) := by
  intro x
  induction x with
  | nil =>
    intro br fl lastD n _ hn
    obtain ⟨n, rfl⟩ : ∃ k, n = k + 1 := ⟨n - 1, by omega⟩
    rfl
  | cons o r ih =>
    intro br fl lastD n hall hn
    cases o with
    | none => exact ih true fl lastD n hall hn
    | some f =>
      rw [stripB, raTail, Bool.and_eq_true, Bool.or_eq_true] at hall
      by_cases hra : f.isRootAt = true
      · obtain ⟨hd, himg, b, hp, hb, hnext⟩ := isRootAt_facts hra
        cases fl with
        | true =>
          rw [brest_cons, hd, hp] at hn ⊢
          obtain ⟨n, rfl⟩ : ∃ k, n = k + 1 := ⟨n - 1, by omega⟩
          rw [List.singleton_append, Bool.false_and, if_neg Bool.false_ne_true, List.nil_append,
            readExprLoop_step pf n _ _ _ _ _ (hnext pf lastD _), hd,
            ih br false false n hall.2 (by simpa using hn)]
          simp [cutB, cutText, imgB, himg, consFst]
        | false =>
          -- DEVIATION (C14-no-text-form): consumed, and the expression ends
          rw [brest, hd, hp] at hn ⊢
          obtain ⟨n, rfl⟩ : ∃ k, n = k + 1 := ⟨n - 1, by omega⟩
          rcases hb with rfl | rfl <;> simp [readExprLoop, nextFrag, cutB, cutText, imgB, hra]
      · have hc : f.clean = true := hall.1.resolve_right hra
        have hl := Frag.print_ne_nil br (fl || (lastD && !br)) f hc
        rw [brest_cons] at hn ⊢
        obtain ⟨n, rfl⟩ : ∃ k, n = k + 1 := ⟨n - 1, by omega⟩
        rw [readExprLoop_step pf n _ _ _ _ _
          (nextFrag_clean pf br fl lastD f _ hc (fun hd => by rw [hd]; exact follower_brest r br hall.2)),
          img_isDescent_eq, ih br false f.isDescent n hall.2 (by simp only [List.length_append] at hn; omega)]
        simp [cutB, cutText, imgB, hra, consFst]

theorem cut_cleanTail : ∀ (x : BExpr) (br fl : Bool), cleanTail (stripB x) = true → cutB fl x = x ∧ cutText br fl x = [] := by
  intro x
  induction x with
  | nil => intros; exact ⟨rfl, rfl⟩
  | cons o r ih =>
    intro br fl h
    cases o with
    | none => simp [cutB, cutText, ih true fl h]
    | some f =>
      rw [stripB, cleanTail, Bool.and_eq_true] at h
      simp [cutB, cutText, (clean_devs h.1).1, ih br false h.2]

theorem cut_cleanExpr : ∀ (x : BExpr) (br : Bool), cleanExpr (stripB x) = true → cutB true x = x ∧ cutText br true x = [] := by
  intro x
  induction x with
  | nil => intros; exact ⟨rfl, rfl⟩
  | cons o r ih =>
    intro br h
    cases o with
    | none => simp [cutB, cutText, ih true h]
    | some f =>
      rw [stripB, cleanExpr] at h
      have : cleanTail (stripB r) = true := by
        split at h
        · exact h
        · rw [cleanTail, Bool.and_eq_true] at h; exact h.2
      simp [cutB, cutText, cut_cleanTail r br false this]

/-- `readExprLoop_cut` where no Root/At follows the first position, so that nothing is cut; listed for C14, not used
below -/
theorem readExprLoop_b (pf : P (List Item)) : ∀ (x : BExpr) (br fl lastD : Bool) (n : Nat),
    cleanTail (stripB x) = true → (brest br fl lastD x).length < n →
    readExprLoop pf n fl lastD (brest br fl lastD x) = some (imgB br x, []) := by
  intro x br fl lastD n h hn
  have := readExprLoop_cut pf x br fl lastD n (raTail_of_cleanTail _ h) hn
  rwa [(cut_cleanTail x br fl h).1, (cut_cleanTail x br fl h).2] at this

theorem bexprPrint_eq_brest (br : Bool) (x : BExpr) : bexprPrint br x = brest br true false x := by
  unfold bexprPrint; rw [bprintL_eq]; simp

theorem readExpr_bprint (pf : P (List Item)) (br : Bool) (x : BExpr) (h : raTail (stripB x) = true) :
    readExpr pf (bexprPrint br x) = some (imgB br (cutB true x), cutText br true x) := by
  unfold readExpr
  rw [bexprPrint_eq_brest]
  exact readExprLoop_cut pf x br true false _ h (by omega)

/-- **The text of a flagged filter-free expression is accepted and read as the fragments without the flags.** -/
theorem parseExpr_bprint (br : Bool) (x : BExpr) (h : cleanExpr (stripB x) = true) :
    parseExpr (bexprPrint br x) = some (imgB br x) := by
  simp only [parseExpr, readExpr_bprint _ br x (raTail_of_cleanExpr h), (cut_cleanExpr x br h).1, (cut_cleanExpr x br h).2]

theorem imgB_normL : ∀ (x : BExpr) (br : Bool), Frag.normL (imgB br x) = Frag.normL (stripB x) := by
  intro x
  induction x with
  | nil => intro _; rfl
  | cons o r ih =>
    intro br
    cases o with
    | none => exact ih true
    | some f => simp [imgB, stripB, Frag.normL, img_norm, ih]

theorem sameExpr_imgB (br : Bool) (x : BExpr) : sameExpr (imgB br x) (stripB x) = true := by
  simp [sameExpr, imgB_normL]

/-- one fragment of `stripBH` -/
def Frag.bh (br : Bool) : Frag → Frag
  | .wild h => .wild (h || br)
  | f => f

theorem stripBH_some (br : Bool) (f : Frag) (r : BExpr) : stripBH br (some f :: r) = f.bh br :: stripBH br r := by
  cases f <;> rfl

theorem bh_isDescent_eq (br : Bool) (f : Frag) : (f.bh br).isDescent = f.isDescent := by
  cases f <;> rfl

theorem img_print_bh (br fl : Bool) (f : Frag) (hc : f.clean = true ∨ f.isRootAt = true) :
    (f.img br).print false fl = (f.bh br).print false fl := by
  cases f with
  | wild hh =>
    rcases hc with h | h
    · simp only [Frag.clean, Bool.not_eq_true'] at h
      subst h
      simp [Frag.img, Frag.bh]
    · simp [Frag.isRootAt] at h
  | slice ns => exact img_print false fl (.slice ns) hc
  | root => rfl
  | «at» => rfl
  | child k => rfl
  | nth i => rfl
  | descent => rfl
  | union ms => rfl
  | filter t => rfl

theorem imgB_printL : ∀ (x : BExpr) (br fl aD : Bool), raTail (stripB x) = true →
    Frag.printL false fl aD (imgB br x) = Frag.printL false fl aD (stripBH br x) := by
  intro x
  induction x with
  | nil => intros; rfl
  | cons o r ih =>
    intro br fl aD h
    cases o with
    | none => exact ih true fl aD h
    | some f =>
      simp only [stripB, raTail, Bool.and_eq_true, Bool.or_eq_true] at h
      rw [stripBH_some]
      simp [imgB, Frag.printL, img_print_bh br _ f h.1, img_isDescent_eq, bh_isDescent_eq, ih _ _ _ h.2]

theorem exprPrint_imgB (br : Bool) (x : BExpr) (h : cleanExpr (stripB x) = true) :
    exprPrint false (imgB br x) = exprPrint false (stripBH br x) :=
  imgB_printL x br true false (raTail_of_cleanExpr h)

/-- **C14 for `String()` of filter-free expressions with `Bracket` flags, any length.** The text is accepted
and read as the flag-free expression; the round trip holds exactly when the flags did not change the text in a
way the grammar cannot express (C14-bracket-flag). -/
theorem roundTripsBExpr_false_iff (x : BExpr) (h : cleanExpr (stripB x) = true) :
    roundTripsBExpr false x = !bracketReprint false x := by
  simp only [roundTripsBExpr, parseExpr_bprint false x h, exprPrint_imgB false x h, sameExpr_imgB,
    Bool.and_true, bracketReprint, bne, Bool.not_not]
  exact Bool.beq_comm

/-- both text forms (`BracketString()` does not see the flags: `bracketReprint true x = false`) -/
theorem roundTripsBExpr_iff (br : Bool) (x : BExpr) (h : cleanExpr (stripB x) = true) :
    roundTripsBExpr br x = !bracketReprint br x := by
  cases br with
  | false => exact roundTripsBExpr_false_iff x h
  | true => rw [roundTripsBExpr_true, roundTripsExpr_clean true _ h, bracketReprint_true]; rfl

theorem Frag.normL_append : ∀ a b : List Frag, Frag.normL (a ++ b) = Frag.normL a ++ Frag.normL b
  | [], _ => rfl
  | f :: a, b => by rw [List.cons_append, Frag.normL, Frag.normL, Frag.normL_append a b]; rfl

theorem Frag.encL_append : ∀ a b : List Frag, Frag.encL (a ++ b) = Frag.encL a ++ Frag.encL b
  | [], _ => rfl
  | f :: a, b => by rw [List.cons_append, Frag.encL, Frag.encL, Frag.encL_append a b, List.append_assoc]

theorem stripB_cutB : ∀ (x : BExpr) (fl : Bool),
    (if fl then devRootAtL (stripB x) else (stripB x).any Frag.isRootAt) = true →
    ∃ g c, g.isRootAt = true ∧ stripB x = stripB (cutB fl x) ++ g :: c := by
  intro x
  induction x with
  | nil => intro fl h; cases fl <;> cases h
  | cons o r ih =>
    intro fl h
    cases o with
    | none => exact ih fl h
    | some f =>
      have step : (stripB r).any Frag.isRootAt = true →
          ∃ g c, g.isRootAt = true ∧ f :: stripB r = f :: stripB (cutB false r) ++ g :: c := fun hr => by
        obtain ⟨g, c, hg, e⟩ := ih false hr
        exact ⟨g, c, hg, by rw [List.cons_append, ← e]⟩
      cases fl with
      | true => simpa [cutB, stripB] using step h
      | false =>
        by_cases hra : f.isRootAt = true
        · exact ⟨f, stripB r, hra, by simp [cutB, stripB, hra]⟩
        · have : (stripB r).any Frag.isRootAt = true := by simpa [stripB, hra] using h
          simpa [cutB, stripB, hra] using step this

/-- **a Root/At after the first position has no text form the parser keeps** (C14-no-text-form): it is consumed and
ends the expression, so what was read is a proper prefix of the fragments, or text is left over -/
theorem roundTripsBExpr_rootAt (x : BExpr) (h : raTail (stripB x) = true) (hd : devRootAtL (stripB x) = true) :
    roundTripsBExpr false x = false := by
  simp only [roundTripsBExpr, parseExpr, readExpr_bprint _ false x h]
  cases cutText false true x with
  | cons _ _ => rfl
  | nil =>
    obtain ⟨g, c, hg, e⟩ := stripB_cutB x true hd
    have hne : g.norm.enc ≠ [] := by cases g <;> first | simp [Frag.norm, Frag.enc] | cases hg
    have : sameExpr (imgB false (cutB true x)) (stripB x) = false := by
      rw [sameExpr, imgB_normL, beq_eq_false_iff_ne]
      conv => rhs; rw [e]
      rw [Frag.normL_append, Frag.encL_append, Frag.normL, Frag.encL]
      intro e2
      have := List.self_eq_append_right.1 e2
      simp [hne] at this
    simp [this]

theorem cleanTail_of_raTail : ∀ r : List Frag, raTail r = true → r.any Frag.isRootAt = false → cleanTail r = true
  | [], _, _ => rfl
  | f :: r, h, hd => by
    rw [List.any_cons, Bool.or_eq_false_iff] at hd
    rw [raTail, Bool.and_eq_true, hd.1, Bool.or_false] at h
    rw [cleanTail, h.1, cleanTail_of_raTail r h.2 hd.2]; rfl

/-- **`bexact` for every flagged expression of clean fragments and Root/At, of any length**: `String()` round-trips
exactly when no deviation is named -/
theorem bexact_of_raTail (x : BExpr) (h : raTail (stripB x) = true) : bexact x = true := by
  cases hd : devRootAtL (stripB x) with
  | true => simp [bexact, roundTripsBExpr_rootAt x h hd, devsExpr, hd, addIf]
  | false =>
    have hc : cleanExpr (stripB x) = true ∧ Frag.devsL (stripB x) = [] := by
      generalize stripB x = y at h hd
      cases y with
      | nil => exact ⟨rfl, rfl⟩
      | cons f r =>
        rw [raTail, Bool.and_eq_true, Bool.or_eq_true] at h
        have hr := cleanTail_of_raTail r h.2 hd
        rcases h.1 with hc | hra
        · simp [cleanExpr, (clean_devs hc).1, cleanTail, hc, hr, Frag.devsL, (clean_devs hc).2, (cleanTail_devs r hr).2]
        · have : f.devs = [] := by cases f <;> first | rfl | cases hra
          simp [cleanExpr, hra, hr, Frag.devsL, this, (cleanTail_devs r hr).2]
    simp [bexact, roundTripsBExpr_false_iff x hc.1, devsExpr, hd, hc.2, addIf]

/-- the statement of the finite box `bracketBox_exact3/4` (`bexact`) for every flagged expression, of any
length, whose flag-free part is constructible, filter-free and without a named deviation -/
theorem bexact_of_spec (x : BExpr) (hok : Frag.okL (stripB x) = true)
    (hnf : noFilter (stripB x) = true) (hdev : devsExpr false (stripB x) = []) : bexact x = true :=
  bexact_of_raTail x (raTail_of_cleanExpr (cleanExpr_of_spec false _ hok hnf hdev))

/-- the fragment has a dot form, other than a wildcard's (which the parser remembers as `'#'`) -/
def Frag.dotForm : Frag → Bool
  | .child k => tokenOk k
  | .descent => true
  | _ => false

/-- a fragment with a dot form stands after a flag -/
def flagMatters (br : Bool) : BExpr → Bool
  | [] => false
  | none :: r => flagMatters true r
  | some f :: r => (br && f.dotForm) || flagMatters br r

theorem print_bh_noDot (f : Frag) (h : f.dotForm = false) (a b : Bool) :
    f.print true a = (f.bh true).print false b ∧ f.isDescent = false := by
  cases f with
  | child k => simp only [Frag.dotForm] at h; simp [Frag.print, childPrint, Frag.bh, h, Frag.isDescent]
  | wild hh => simp [Frag.print, Frag.bh, Frag.isDescent]
  | descent => simp [Frag.dotForm] at h
  | root => exact ⟨rfl, rfl⟩
  | «at» => exact ⟨rfl, rfl⟩
  | nth i => exact ⟨rfl, rfl⟩
  | union ms => exact ⟨rfl, rfl⟩
  | slice ns => exact ⟨rfl, rfl⟩
  | filter t => exact ⟨rfl, rfl⟩

theorem print_bh_dot (f : Frag) (h : f.dotForm = true) (a b : Bool) (A B : Bytes) :
    f.print true a ++ A ≠ (f.bh true).print false b ++ B := by
  cases f with
  | child k =>
    simp only [Frag.dotForm] at h
    obtain ⟨hall, hne⟩ := (tokenOk_iff k).mp h
    cases k with
    | nil => exact absurd rfl hne
    | cons c k =>
      have hc := hall c (by simp)
      have h91 : tokCls 91 = 46 := by decide +kernel
      have : c ≠ 91 := fun e => hc (e ▸ h91)
      cases b <;> simp [Frag.print, childPrint, Frag.bh, h, Ne.symm this]
  | descent => simp [Frag.print, Frag.bh]
  | wild hh => simp [Frag.dotForm] at h
  | root => simp [Frag.dotForm] at h
  | «at» => simp [Frag.dotForm] at h
  | nth i => simp [Frag.dotForm] at h
  | union ms => simp [Frag.dotForm] at h
  | slice ns => simp [Frag.dotForm] at h
  | filter t => simp [Frag.dotForm] at h

theorem bprintL_true_eq_iff : ∀ (x : BExpr) (fl fl' aD : Bool),
    bprintL true fl aD x = Frag.printL false fl' aD (stripBH true x) ↔ flagMatters true x = false := by
  intro x
  induction x with
  | nil => intro fl fl' aD; simp [bprintL, stripBH, Frag.printL, flagMatters]
  | cons o r ih =>
    intro fl fl' aD
    cases o with
    | none => simpa [bprintL, stripBH, flagMatters] using ih false fl' aD
    | some f =>
      rw [stripBH_some]
      simp only [bprintL, Frag.printL, flagMatters, Bool.true_and, Bool.not_true, Bool.and_false,
        List.append_cancel_left_eq, bh_isDescent_eq, Bool.or_eq_false_iff]
      cases hdf : f.dotForm with
      | false =>
        obtain ⟨h1, h2⟩ := print_bh_noDot f hdf (fl || aD) (fl' || aD)
        rw [h1, h2]
        simp only [List.append_cancel_left_eq, true_and]
        exact ih false false false
      | true =>
        simp only [Bool.true_eq_false, false_and, iff_false]
        exact print_bh_dot f hdf _ _ _ _

theorem bh_false (f : Frag) : f.bh false = f := by
  cases f <;> simp [Frag.bh]

theorem bprintL_false_eq_iff : ∀ (x : BExpr) (fl aD : Bool),
    bprintL false fl aD x = Frag.printL false fl aD (stripBH false x) ↔ flagMatters false x = false := by
  intro x
  induction x with
  | nil => intro fl aD; simp [bprintL, stripBH, Frag.printL, flagMatters]
  | cons o r ih =>
    intro fl aD
    cases o with
    | none => simpa [bprintL, stripBH, flagMatters] using bprintL_true_eq_iff r false fl aD
    | some f =>
      rw [stripBH_some, bh_false]
      simp only [bprintL, Frag.printL, flagMatters, Bool.false_and, Bool.false_or, Bool.not_false, Bool.and_true,
        List.append_cancel_left_eq]
      exact ih false f.isDescent

/-- **C14-bracket-flag, structurally**: `String()` of an expression with flags is not the text of what the parser
reads back exactly when a fragment with a dot form (a token-like child, a descent) stands after a flag -/
theorem bracketReprint_false_eq (x : BExpr) : bracketReprint false x = flagMatters false x := by
  have h := bprintL_false_eq_iff x true false
  simp only [bracketReprint, bexprPrint, exprPrint]
  cases hf : flagMatters false x with
  | false => simp [h.mpr hf]
  | true =>
    have : ¬ (bprintL false true false x = Frag.printL false true false (stripBH false x)) := by
      intro e; rw [h.mp e] at hf; cases hf
    simpa using this

theorem roundTripsBExpr_false_eq (x : BExpr) (h : cleanExpr (stripB x) = true) :
    roundTripsBExpr false x = !flagMatters false x := by
  rw [roundTripsBExpr_false_iff x h, bracketReprint_false_eq]

end OjgVerif.JPText
