import OjgVerif.JPText.LemmasEqn
/-! # C14 lemmas: `Script.String` / `Filter.String` are read back by `NewScript` / `NewFilter`, any size

`Script.Append` (model `Item.run`, a stack machine over the template scanned right to left) writes
parentheses like `Equation.Append` except that the arguments of `match`/`search` go through
`appendValue(…, 0)`: an INFIX argument is parenthesised (`match((1 + 2), 3)`). `Eqn.parenS e` puts a
`group` node wherever `Script.Append` writes a parenthesis for the template of `e`; it is `Eqn.parenG true`, so
that it is properly parenthesised, readable, kept by `reduceGroups` and has the same template comes from
LemmasEqn. Run on the template of a tree, the stack machine pushes ONE element, `sitem` of the tree
(`run_build`); for `e` of the class `OkS A` (any operands) its bytes are `Eqn.text` of `e.parenS` (`bytes_sitem_of`), and the
template of `e.parenS` pushes the same element (`sitem_parenS`), so it prints identically. `Equation.Script`
turns a bare path into `path exists true` (`Eqn.scriptEqn`, `script_okS`); every other equation of the class
has `script = build`. -/
namespace OjgVerif.JPText

/-- the `group` nodes `Script.Append` writes as parentheses -/
def Eqn.parenS : Eqn → Eqn
  | .val v => .val v
  | .un o l => .un o (grp l.isInfix l.parenS)
  | .bin o l r =>
    if isCall o then .bin o (grp l.isInfix l.parenS) (grp r.isInfix r.parenS)
    else .bin o (grp (leftParens o l) l.parenS) (grp (rightParens o r) r.parenS)

theorem parenS_eq_parenG : ∀ e : Eqn, e.parenS = e.parenG true
  | .val _ => rfl
  | .un o l => by rw [Eqn.parenS, Eqn.parenG, parenS_eq_parenG l]
  | .bin o l r => by rw [Eqn.parenS, Eqn.parenG, parenS_eq_parenG l, parenS_eq_parenG r]; rfl

variable {A : Val → Prop}

theorem readable_parenS {e : Eqn} (h : OkS A e) : Readable A e.parenS := parenS_eq_parenG e ▸ readable_parenG true h

theorem normL_build_parenS {e : Eqn} (h : OkS A e) : Item.normL e.parenS.build = Item.normL e.build :=
  parenS_eq_parenG e ▸ normL_build_parenG true h

theorem script_of (e : Eqn) (h0 : ∀ x, e ≠ .val (.expr x))
    (h1 : ∀ o x, e = .un o (.val (.expr x)) → isCode o Gen.JpOps.op_get = false)
    (h2 : ∀ o x r, e = .bin o (.val (.expr x)) r → isCode o Gen.JpOps.op_get = false) : e.script = e.build := by
  unfold Eqn.script
  split
  · exact absurd rfl (h0 _)
  · simp [h1 _ _ rfl]
  · simp [h2 _ _ _ rfl]
  · rfl

theorem script_un (o : Op) (l : Eqn) (hg : isCode o Gen.JpOps.op_get = false) : (Eqn.un o l).script = (Eqn.un o l).build :=
  script_of _ (fun _ h => by cases h) (fun _ _ h => by cases h; exact hg) (fun _ _ _ h => by cases h)

theorem script_bin (o : Op) (l r : Eqn) (hg : isCode o Gen.JpOps.op_get = false) :
    (Eqn.bin o l r).script = (Eqn.bin o l r).build :=
  script_of _ (fun _ h => by cases h) (fun _ _ h => by cases h) (fun _ _ _ h => by cases h; exact hg)

/-- the equation whose plain template `Equation.Script` returns: `path exists true` for a bare path -/
def Eqn.scriptEqn : Eqn → Eqn
  | .val (.expr x) => .bin Gen.JpOps.op_exists (.val (.expr x)) (.val (.bool true))
  | e => e

theorem exists_binOps : binOps.contains Gen.JpOps.op_exists = true := by decide

theorem okS_scriptEqn (e : Eqn) (h : e.okS = true) : e.scriptEqn.okS = true := by
  cases e with
  | val v =>
    cases v with
    | expr x =>
      have hx : pathLeaf x = true := h
      simp only [Eqn.scriptEqn, Eqn.okS, exists_binOps, Bool.true_and,
        Bool.and_eq_true]
      exact ⟨hx, rfl⟩
    | _ => exact h
  | un o l => exact h
  | bin o l r => exact h

theorem get_binOps {o : Op} (h : binOps.contains o = true) : isCode o Gen.JpOps.op_get = false := by
  rcases binOps_cases h with h | h
  · exact h.get
  · exact h.facts.get

theorem script_okS : ∀ e : Eqn, e.okS = true → e.script = e.scriptEqn.build :=
  okS_induction (fun v _ => by cases v <;> rfl) (fun l _ _ => script_un _ _ not_get)
    (fun o x ho _ => script_un _ _ ho.facts.get) (fun o l r ho _ _ _ _ => script_bin _ _ _ ho.get)
    (fun o l r ho _ _ _ _ => script_bin _ _ _ ho.facts.get)

theorem script_readable {e : Eqn} (h : Readable A e) (h0 : ∀ x, e ≠ .val (.expr x)) : e.script = e.build := by
  apply script_of _ h0
  · intro o x hx; subst hx
    cases h with
    | not _ _ => decide
    | group _ => decide
    | fn ho _ => exact ho.facts.get
  · intro o x r hx; subst hx
    cases h with
    | bin ho _ _ => exact get_binOps ho

/-- what `Script.Append` leaves on the print stack for the template of a tree -/
def sitem : Eqn → SItem
  | .val v => .txt v.print
  | .un o l => .pb o.prec (appendOp o (some (sitem l)) none)
  | .bin o l r => .pb o.prec (appendOp o (some (sitem l)) (some (sitem r)))

/-- trees over `!`, `group`, `length`, `count` and the 19 binary operators (any constants) -/
def Eqn.mach : Eqn → Bool
  | .val _ => true
  | .un o l => (o == Gen.JpOps.op_not || o == Gen.JpOps.op_group || o == Gen.JpOps.op_length || o == Gen.JpOps.op_count) && l.mach
  | .bin o l r => binOps.contains o && (l.mach && r.mach)

theorem run_build : ∀ (G : Eqn), G.mach = true → ∀ rest : List Item,
    Item.run (G.build ++ rest) = sitem G :: Item.run rest := by
  intro G
  induction G with
  | val v => intro _ rest; simp [Eqn.build, Item.run, sitem]
  | un o l ih =>
    intro h rest
    simp only [Eqn.mach, Bool.and_eq_true, Bool.or_eq_true, beq_iff_eq] at h
    obtain ⟨ho, hl⟩ := h
    -- one operand is taken from the stack and the second slot is not looked at
    have key : (Eqn.un o l).build = .op o :: l.build ∧ o.cnt = 1 ∧ ∀ x y, appendOp o x y = appendOp o x none := by
      rcases ho with ((rfl | rfl) | ho) | ho
      · exact ⟨build_not l, rfl, fun x y => by rw [appendOp_not, appendOp_not]⟩
      · exact ⟨build_group l, rfl, fun x y => by rw [appendOp_group, appendOp_group]⟩
      all_goals
        have ho : FnOp o := by simp [FnOp, ho]
        exact ⟨build_fn ho l, ho.facts.cnt, fun x y => by rw [appendOp_fn ho, appendOp_fn ho]⟩
    simp [key.1, Item.run, stepOp, ih hl, sitem, key.2.1, key.2.2 _ (Item.run rest)[0]?]
  | bin o l r ihl ihr =>
    intro h rest
    simp only [Eqn.mach, Bool.and_eq_true] at h
    have hc : o.cnt = 2 := by
      rcases binOps_cases h.1 with ho | ho
      · exact ho.cnt
      · rcases ho with rfl | rfl <;> rfl
    simp [build_bin h.1, Item.run, stepOp, List.append_assoc, ihl h.2.1, ihr h.2.2, sitem, hc]

def SItem.bytes : SItem → Bytes
  | .txt b => b
  | .pb _ b => b

def SItem.prec : SItem → Nat
  | .txt _ => 0
  | .pb p _ => p

theorem app_some (p : Nat) (s : SItem) :
    SItem.app p (some s) = wrapParens (decide (p < s.prec)) s.bytes := by
  cases s with
  | txt b => simp [SItem.app, SItem.prec, SItem.bytes, wrapParens]
  | pb q b => by_cases h : p < q <;> simp [SItem.app, SItem.prec, SItem.bytes, wrapParens, h]

theorem bytes_pb (p : Nat) (b : Bytes) : (SItem.pb p b).bytes = b := rfl
theorem prec_pb (p : Nat) (b : Bytes) : (SItem.pb p b).prec = p := rfl

theorem appRight_some (p : Nat) (s : SItem) (hp : 1 ≤ p) :
    SItem.appRight p (some s) = wrapParens (decide (p ≤ s.prec)) s.bytes := by
  cases s with
  | txt b =>
    have : ¬ p ≤ 0 := by omega
    simp [SItem.appRight, SItem.app, SItem.prec, SItem.bytes, wrapParens, this]
  | pb q b =>
    simp only [SItem.appRight, SItem.app, SItem.prec, SItem.bytes, wrapParens]
    by_cases h1 : q = p
    · subst h1; simp
    · by_cases h2 : p < q
      · have : p ≤ q := by omega
        simp [h1, h2, this]
      · have : ¬ p ≤ q := by omega
        simp [h1, h2, this]

theorem prec_sitem (e : Eqn) : (sitem e).prec = topPrec e := by cases e <;> rfl

theorem bytes_sitem_of {e : Eqn} (h : OkS A e) : (sitem e).bytes = e.parenS.text := by
  induction h with
  | val _ => rfl
  | @not l hl ih =>
    simp only [sitem, bytes_pb, appendOp_not, app_some, prec_sitem, ih, Eqn.parenS, text_not, text_grp,
      isInfix_okS hl]
  | fn ho _ =>
    simp [Eqn.parenS, grp, Eqn.isInfix, Eqn.infixPrec?, sitem, bytes_pb, appendOp_fn ho, SItem.app, text_fn ho, Eqn.text]
  | @inf o l r ho hl hr ihl ihr =>
    simp only [sitem, bytes_pb, appendOp_infix ho, app_some, appRight_some _ _ ho.prec, prec_sitem, ihl, ihr, Eqn.parenS,
      ho.call, Bool.false_eq_true, if_false, text_infix ho.call, text_grp, leftParens_okS o hl,
      rightParens_okS o hr ho.prec]
  | @call o l r ho hl hr ihl ihr =>
    simp only [sitem, bytes_pb, appendOp_call ho, app_some, prec_sitem, ihl, ihr, Eqn.parenS, ho.facts.call, if_true,
      text_call ho.facts.call, text_grp, isInfix_okS hl, isInfix_okS hr]

theorem bytes_sitem : ∀ e : Eqn, e.okS = true → (sitem e).bytes = e.parenS.text :=
  fun e h => bytes_sitem_of (.of_okS e h)

theorem sitem_grp (q : Bool) (X : Eqn) :
    sitem (grp q X) = if q then .pb 0 (SItem.app 0 (some (sitem X))) else sitem X := by
  cases q <;> simp [grp, sitem, appendOp_group, unary_facts]

theorem app_grp (p : Nat) (q : Bool) (X : Eqn) (h : q = true → p < (sitem X).prec) :
    SItem.app p (some (sitem (grp q X))) = SItem.app p (some (sitem X)) := by
  cases q with
  | false => simp [sitem_grp]
  | true =>
    have h1 := h rfl
    have h2 : 0 < (sitem X).prec := by omega
    simp [sitem_grp, app_some, prec_pb, bytes_pb, h1, h2, wrapParens]

theorem appRight_grp (p : Nat) (q : Bool) (X : Eqn) (hp : 1 ≤ p) (h : q = true → p ≤ (sitem X).prec) :
    SItem.appRight p (some (sitem (grp q X))) = SItem.appRight p (some (sitem X)) := by
  cases q with
  | false => simp [sitem_grp]
  | true =>
    have h1 := h rfl
    have h2 : 0 < (sitem X).prec := by omega
    have h3 : ¬ p ≤ 0 := by omega
    simp [sitem_grp, app_some, appRight_some _ _ hp, prec_pb, bytes_pb, h1, h2, h3, wrapParens]

/-- an operand in the parentheses of `parenS` is written like the operand: where `parenS` has a `group` node,
`appendValue` would have written the parenthesis anyway -/
theorem app_parenS (p : Nat) (l : Eqn) (ih : sitem l.parenS = sitem l) (q : Bool) (h : q = true → p < topPrec l) :
    SItem.app p (some (sitem (grp q l.parenS))) = SItem.app p (some (sitem l)) := by
  rw [app_grp p q _ (by rw [ih, prec_sitem]; exact h), ih]

theorem sitem_parenS {e : Eqn} (h : OkS A e) : sitem e.parenS = sitem e := by
  induction h with
  | val _ => rfl
  | @not l hl ih =>
    rw [Eqn.parenS, sitem, sitem, appendOp_not, appendOp_not,
      app_parenS 0 l ih _ (by rw [isInfix_okS hl]; simp)]
  | fn _ _ => rfl
  | @inf o l r ho hl hr ihl ihr =>
    rw [Eqn.parenS, if_neg (by simp [ho.call]), sitem, sitem, appendOp_infix ho, appendOp_infix ho,
      app_parenS _ l ihl _ (by rw [leftParens_okS o hl]; simp),
      appRight_grp _ _ _ ho.prec (by rw [rightParens_okS o hr ho.prec, ihr, prec_sitem]; simp), ihr]
  | @call o l r ho hl hr ihl ihr =>
    rw [Eqn.parenS, if_pos ho.facts.call, sitem, sitem, appendOp_call ho, appendOp_call ho,
      app_parenS 0 l ihl _ (by rw [isInfix_okS hl]; simp), app_parenS 0 r ihr _ (by rw [isInfix_okS hr]; simp)]

theorem mach_okS {e : Eqn} (h : OkS A e) : e.mach = true := by
  induction h with
  | val _ => rfl
  | not _ ih => simp [Eqn.mach, ih]
  | fn ho _ => rcases ho with rfl | rfl <;> rfl
  | inf ho _ _ ihl ihr => rw [Eqn.mach, ho.bin, ihl, ihr]; rfl
  | call ho _ _ ihl ihr => rw [Eqn.mach, ho.facts.bin, ihl, ihr]; rfl

theorem Readable.mach {g : Eqn} (h : Readable A g) : g.mach = true := by
  induction h with
  | val _ => rfl
  | not _ _ ih => simp [Eqn.mach, ih]
  | group _ ih => simp [Eqn.mach, ih]
  | fn ho _ => rcases ho with rfl | rfl <;> rfl
  | bin ho _ _ ihl ihr => rw [Eqn.mach, ho, ihl, ihr]; rfl

theorem scriptPrint_build (G : Eqn) (h : G.mach = true) : scriptPrint G.build = 40 :: ((sitem G).bytes ++ [41]) := by
  have h1 := run_build G h []
  simp only [List.append_nil, Item.run] at h1
  simp only [scriptPrint, h1]
  cases sitem G <;> rfl

/-- **`Script.Append` writes the text of the tree with its parentheses as `group` nodes** -/
theorem scriptPrint_okS {e : Eqn} (h : OkS A e) :
    scriptPrint e.build = (Eqn.un Gen.JpOps.op_group e.parenS).text := by
  rw [scriptPrint_build e (mach_okS h), bytes_sitem_of h]
  simp [Eqn.text, unary_facts]

theorem scriptPrint_parenS {e : Eqn} (h : OkS A e) : scriptPrint e.parenS.build = scriptPrint e.build := by
  rw [scriptPrint_build _ (readable_parenS h).mach, scriptPrint_build e (mach_okS h), sitem_parenS h]

/-- the tree whose text `Script.Append` writes for the template of `e`, `(e.parenS)`: what a reader of that text
(`parseEquation_readable` here, `readFilter_raw` for a filter fragment) asks of it; `reduceGroups` takes off the outer
parentheses only -/
theorem scriptTree_facts {e : Eqn} (h : OkS A e) :
    Readable A (.un Gen.JpOps.op_group e.parenS) ∧ (Eqn.un Gen.JpOps.op_group e.parenS).pd = true ∧
    reduceGroups (.un Gen.JpOps.op_group e.parenS) none = e.parenS ∧
    (Eqn.un Gen.JpOps.op_group e.parenS).text = scriptPrint e.build := by
  refine ⟨.group (readable_parenS h), ?_, ?_, (scriptPrint_okS h).symm⟩
  · simp [Eqn.pd, unary_facts, parenS_eq_parenG, pd_parenG true h]
  · simp only [reduceGroups, dropGroup, unary_facts, Bool.true_and, if_true, parenS_eq_parenG, reduceGroups_parenG true h]

theorem parseEquation_scriptPrint {w : Val → Nat} (H : LeafRead A w) {e : Eqn} (h : OkS A e) :
    parseEquation (scriptPrint e.build) = some e.parenS := by
  obtain ⟨hr, hpd, hred, htx⟩ := scriptTree_facts h
  rw [← htx, parseEquation_readable H hr hpd, hred]

theorem s_parenS_scriptEqn_ne (e : Eqn) : ∀ x, e.scriptEqn.parenS ≠ .val (.expr x) := by
  intro x
  cases e with
  | val v => cases v <;> simp [Eqn.scriptEqn, Eqn.parenS] <;> split <;> simp
  | un o l => simp [Eqn.scriptEqn, Eqn.parenS]
  | bin o l r => simp only [Eqn.scriptEqn, Eqn.parenS]; split <;> simp

/-- **`NewScript(e.Script().String())`** is the template of `e` (of `path exists true` for a bare path `e`, as
`Equation.Script` builds it) with a `group` operator where the text has a parenthesis (but the outermost) -/
theorem parseScript_print (e : Eqn) (h : e.okS = true) :
    parseScript (scriptPrint e.script) = some e.scriptEqn.parenS.build := by
  have hs := OkS.of_okS _ (okS_scriptEqn e h)
  rw [script_okS e h, parseScript, parseEquation_scriptPrint .simple hs, Option.map_some,
    script_readable (readable_parenS hs) (s_parenS_scriptEqn_ne e)]

theorem s_scriptEqn_self (e : Eqn) (h0 : ∀ x, e ≠ .val (.expr x)) : e.scriptEqn = e := by
  unfold Eqn.scriptEqn
  split
  · exact absurd rfl (h0 _)
  · rfl

theorem parseFilter_brackets (s : Bytes) (hs : s ≠ []) :
    parseFilter (91 :: 63 :: (s ++ [93])) = (parseEquation s).map Eqn.build := by
  have : ¬ (s.length + 1 + 1 + 1 ≤ 3) := by
    cases s with
    | nil => exact absurd rfl hs
    | cons a t => simp
  simp [parseFilter, this]

/-- **`NewFilter(e.Filter().String())`** is the template of `e` with a `group` operator where the text has a parenthesis
(but the outermost); `Equation.Filter` takes `buildScript` as it is, so a bare path gets no `exists` here -/
theorem parseFilter_print (e : Eqn) (h : e.okS = true) :
    parseFilter (filterPrint e.build) = some e.parenS.build := by
  rw [filterPrint, parseFilter_brackets _ (by simp [scriptPrint]), parseEquation_scriptPrint .simple (.of_okS e h),
    Option.map_some]

theorem roundTripsScript_okS (e : Eqn) (h : e.okS = true) : roundTripsScript e = true := by
  have h1 := parseScript_print e h
  have h2 := OkS.of_okS _ (okS_scriptEqn e h)
  simp only [roundTripsScript, h1]
  rw [script_okS e h, scriptPrint_parenS h2]
  simp only [beq_self_eq_true, Bool.true_and]
  exact sameTemplate_of_normL (normL_build_parenS h2)

theorem roundTripsFilter_okS (e : Eqn) (h : e.okS = true) : roundTripsFilter e = true := by
  have h1 := parseFilter_print e h
  have h2 := OkS.of_okS e h
  simp only [roundTripsFilter, h1]
  simp only [filterPrint, scriptPrint_parenS h2, beq_self_eq_true, Bool.true_and]
  exact sameTemplate_of_normL (normL_build_parenS h2)

end OjgVerif.JPText
