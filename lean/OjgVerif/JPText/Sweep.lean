import OjgVerif.JPText.Trees
import OjgVerif.JPText.LemmasLeafy
/-! # C14: the swept tree spaces lie inside the class of the general round-trip theorems

The spaces built from the shapes of Trees.lean (PrecSmall.lean, PrecFilterExpr.lean) consist of `Not`, the binary
constructors and integer (or clean-path) leaves, so each of their equations is in `Eqn.okC`. That membership is what the
kernel evaluates there (nothing is evaluated in this file); the round trips themselves are
`roundTrips*_okC` and `roundTripsExpr_okF`, and the class names no deviation (`okC_devs`). -/
namespace OjgVerif.JPText

theorem Eqn.okC_roundTrips {e : Eqn} (h : e.okC = true) :
    (roundTripsEqn e && roundTripsScript e && roundTripsFilter e) = true := by
  simp [roundTripsEqn_okC e h, roundTripsScript_okC e h, roundTripsFilter_okC e h]

theorem Eqn.okC_devsExact {e : Eqn} (h : e.okC = true) : devsExact e = true := by
  simp [devsExact, devsEqn, devsScript, devsFilter, okC_devs e h, okC_devsScript e h, roundTripsEqn_okC e h,
    roundTripsScript_okC e h, roundTripsFilter_okC e h]

theorem all_devsExact {ts : List Shape} (h : (ts.all fun s => s.eqn.okC) = true) :
    (ts.all fun s => devsExact s.eqn) = true :=
  List.all_eq_true.2 fun s hs => Eqn.okC_devsExact (List.all_eq_true.1 h s hs)

theorem all_roundTrips {ts : List Shape} (h : (ts.all fun s => s.eqn.okC) = true) :
    (ts.all fun s => roundTripsEqn s.eqn && roundTripsScript s.eqn && roundTripsFilter s.eqn) = true :=
  List.all_eq_true.2 fun s hs => Eqn.okC_roundTrips (List.all_eq_true.1 h s hs)

end OjgVerif.JPText
