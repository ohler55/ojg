import OjgVerif.JPText.LemmasExpr
/-! # C14 lemmas: a filter-free path as an OPERAND of an equation

As an operand of an equation a path is followed by more text: a space (before an operator), `)`, `,`, `]`.
The fragment loop stops exactly there (`nextFrag_pathEnd`), so `readExprLoop_gen` gives `readExpr_path`. -/
namespace OjgVerif.JPText

/-- what follows a path operand: nothing, a space, `)`, `,`, `]` -/
def pathEnd : Bytes → Bool
  | [] => true
  | b :: _ => b == 32 || b == 41 || b == 44 || b == 93

theorem followerOK_of_pathEnd {t : Bytes} (h : pathEnd t = true) : followerOK t = true := by
  cases t with
  | nil => rfl
  | cons b r =>
    simp only [pathEnd, Bool.or_eq_true, beq_iff_eq] at h
    rcases h with ((h | h) | h) | h <;> subst h <;> simp [followerOK, tokCls_enders, tokCls_specials]

theorem nextFrag_pathEnd (pf : P (List Item)) (t : Bytes) (h : pathEnd t = true) (fl lastD : Bool) :
    nextFrag pf fl lastD t = some (none, t) := by
  cases t with
  | nil => rfl
  | cons b r =>
    simp only [pathEnd, Bool.or_eq_true, beq_iff_eq] at h
    rcases h with ((h | h) | h) | h <;> subst h <;> simp [nextFrag, tokCls_enders]

/-- `readExprLoop_gen` for clean fragments before a `tail` at which a path operand ends; listed for C14, not used
below (`readExpr_path` goes through `readExpr_gen`) -/
theorem readExprLoop_tail (pf : P (List Item)) (br : Bool) (tail : Bytes) (ht : pathEnd tail = true)
    (x : List Frag) (fl lastD : Bool) (n : Nat) (hx : cleanTail x = true) (hn : (restText br fl lastD x).length < n) :
    readExprLoop pf n fl lastD (restText br fl lastD x ++ tail) = some (imgL br x, tail) :=
  readExprLoop_gen pf br tail (nextFrag_pathEnd pf tail ht) (followerOK_of_pathEnd ht)
    (FragsRT.of_cleanTail pf br fl x hx) lastD n hn

/-- a path operand: Root or At, then clean fragments -/
def cleanPath : List Frag → Bool
  | [] => false
  | f :: r => f.isRootAt && cleanTail r

theorem cleanExpr_of_cleanPath {x : List Frag} (h : cleanPath x = true) : cleanExpr x = true := by
  cases x with
  | nil => cases h
  | cons f r =>
    rw [cleanPath, Bool.and_eq_true] at h
    rw [cleanExpr, if_pos h.1]; exact h.2

/-- **a filter-free path operand is read back, whatever follows it in the equation** (`pf`: any filter
reader — there is no filter to read) -/
theorem readExpr_path (pf : P (List Item)) (x : List Frag) (h : cleanPath x = true) (tail : Bytes)
    (ht : pathEnd tail = true) :
    readExpr pf (Frag.printL false true false x ++ tail) = some (imgL false x, tail) ∧
    ∃ b t, Frag.printL false true false x = b :: t ∧ (b = 36 ∨ b = 64) := by
  refine ⟨readExpr_gen pf false tail (nextFrag_pathEnd pf tail ht) (followerOK_of_pathEnd ht)
    (FragsRT.of_cleanExpr pf false x (cleanExpr_of_cleanPath h)), ?_⟩
  cases x with
  | nil => cases h
  | cons f r =>
    rw [cleanPath, Bool.and_eq_true] at h
    obtain ⟨_, _, b, hp, hb, _⟩ := isRootAt_facts h.1
    exact ⟨b, _, by rw [Frag.printL, hp]; rfl, hb⟩

theorem okL_of_cleanPath {x : List Frag} (hc : cleanPath x = true) : Frag.okL x = true := by
  cases x with
  | nil => cases hc
  | cons f r =>
    rw [cleanPath, Bool.and_eq_true] at hc
    have : f.ok = true := by
      cases f with
      | root => rfl
      | «at» => rfl
      | _ => cases hc.1
    rw [Frag.okL, this, okL_of_cleanTail r hc.2]; rfl

end OjgVerif.JPText
