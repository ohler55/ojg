import OjgVerif.JPText.Bracket
/-! # C14 lemmas: expressions with `Bracket` flag fragments

`BracketString()` does not see the flags, so its round trip is that of the flag-free expression. For `String()`
the statement to prove is `bexact` (LemmasBracketGen: any length, the deviations included; BracketBox: a small box). -/
namespace OjgVerif.JPText

theorem print_true_first (f : Frag) (a b : Bool) : f.print true a = f.print true b := by
  cases f <;> simp [Frag.print, childPrint]

theorem printL_true_first : ∀ (x : List Frag) (a b aD : Bool), Frag.printL true a aD x = Frag.printL true b aD x := by
  intro x a b aD
  cases x with
  | nil => rfl
  | cons f r => simp only [Frag.printL]; rw [print_true_first f (a || aD) (b || aD)]

theorem bprintL_true : ∀ (x : BExpr) (first aD : Bool), bprintL true first aD x = Frag.printL true first aD (stripB x) := by
  intro x
  induction x with
  | nil => intro first aD; simp [bprintL, stripB, Frag.printL]
  | cons f r ih =>
    intro first aD
    cases f with
    | none => simp only [bprintL, stripB, ih]; exact printL_true_first _ _ _ _
    | some f => simp [bprintL, stripB, Frag.printL, ih]

theorem bexprPrint_true (x : BExpr) : bexprPrint true x = exprPrint true (stripB x) := bprintL_true x true false

theorem roundTripsBExpr_true (x : BExpr) : roundTripsBExpr true x = roundTripsExpr true (stripB x) := by
  unfold roundTripsBExpr roundTripsExpr
  rw [bexprPrint_true]
  cases parseExpr (exprPrint true (stripB x)) <;> rfl

theorem printL_stripBH_true : ∀ (x : BExpr) (first aD : Bool),
    Frag.printL true first aD (stripBH true x) = Frag.printL true first aD (stripB x) := by
  intro x
  induction x with
  | nil => intro first aD; rfl
  | cons f r ih =>
    intro first aD
    cases f with
    | none => exact ih first aD
    | some f => cases f <;> simp [stripBH, stripB, Frag.printL, Frag.print, Frag.isDescent, ih]

theorem bracketReprint_true (x : BExpr) : bracketReprint true x = false := by
  simp [bracketReprint, bexprPrint_true, exprPrint, printL_stripBH_true]

/-- the round trip of `String()` holds exactly when no deviation is named -/
def bexact (x : BExpr) : Bool :=
  roundTripsBExpr false x == ((devsExpr false (stripB x)).isEmpty && !bracketReprint false x)

end OjgVerif.JPText
