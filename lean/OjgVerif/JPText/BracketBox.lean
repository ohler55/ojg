import OjgVerif.JPText.LemmasBracketGen
/-! # C14: `String()` with `Bracket` flags, the small box

Every sequence of at most four fragments over Root, At, a token-like and a quoted child, an index, a
wildcard, a descent, a union, a slice and the flag (the flag at every position: first, middle, directly after
a descent, last, repeated): the round trip holds exactly when no deviation is named (`bexact`). Every fragment of the
alphabet is clean or Root/At, so this is `bexact_of_raTail`. -/
namespace OjgVerif.JPText

def boxAlphabet : List (Option Frag) :=
  [some .root, some .at, some (.child [97]), some (.child [97, 32, 98]), some (.nth 0), some (.wild false),
   some .descent, some (.union [.key [97], .idx 1]), some (.slice [0, 2]), none]

def boxSeqs : Nat → List BExpr
  | 0 => [[]]
  | n+1 => boxAlphabet.flatMap fun a => (boxSeqs n).map fun r => a :: r

/-- four fragments, the flag among them (at least once). The filter carries no weight in the proof
(`bexact_of_raTail` holds of all of `boxSeqs 4`); this is the list `bracket_box_exact` (Props/C14) is stated over. -/
def boxSeqs4 : List BExpr := (boxSeqs 4).filter fun x => x.any Option.isNone

theorem mem_boxSeqs : ∀ (n : Nat) (x : BExpr), x ∈ boxSeqs n → ∀ a ∈ x, a ∈ boxAlphabet := by
  intro n
  induction n with
  | zero => intro x hx a ha; simp only [boxSeqs, List.mem_singleton] at hx; subst hx; cases ha
  | succ n ih =>
    intro x hx a ha
    simp only [boxSeqs, List.mem_flatMap, List.mem_map] at hx
    obtain ⟨b, hb, r, hr, rfl⟩ := hx
    rcases List.mem_cons.1 ha with rfl | ha
    · exact hb
    · exact ih r hr a ha

theorem raTail_of_alphabet : ∀ x : BExpr, (∀ a ∈ x, a ∈ boxAlphabet) → raTail (stripB x) = true := by
  have facts : (boxAlphabet.all fun a => match a with
      | none => true
      | some f => f.clean || f.isRootAt) = true := by decide
  intro x
  induction x with
  | nil => intro _; rfl
  | cons a r ih =>
    intro h
    have h1 := ih fun b hb => h b (List.mem_cons_of_mem _ hb)
    cases a with
    | none => exact h1
    | some f =>
      have := List.all_eq_true.1 facts (some f) (h _ (List.mem_cons_self ..))
      rw [stripB, raTail, h1]; simpa using this

theorem bracketBox_exact3 : ((boxSeqs 1 ++ boxSeqs 2 ++ boxSeqs 3).all bexact) = true :=
  List.all_eq_true.2 fun x hx => bexact_of_raTail x (raTail_of_alphabet x (by
    simp only [List.mem_append] at hx
    rcases hx with (hx | hx) | hx <;> exact mem_boxSeqs _ x hx))

theorem bracketBox_exact4 : (boxSeqs4.all bexact) = true :=
  List.all_eq_true.2 fun x hx => bexact_of_raTail x (raTail_of_alphabet x (mem_boxSeqs 4 x (List.mem_filter.1 hx).1))

end OjgVerif.JPText
