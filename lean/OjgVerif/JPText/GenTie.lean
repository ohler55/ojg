import OjgVerif.JPText.Print
import OjgVerif.JPText.Parse
import OjgVerif.Gen.JpParens
/-! # JSONPath text family (C14): the parenthesisation and precedence RULES tied to the source

`Gen/JpOps.lean` ties the operator TABLE (name, code, prec, cnt) to jp/script.go. The RULES that use the
table — which comparison decides about parentheses, which op codes are written prefix / call form / infix,
when `precedentCorrect` rotates and `reduceGroups` drops a group — are written by hand in `Print.lean` and
`Parse.lean`. `Gen/JpParens.lean` (tools/extract/jptext.go, `extractJpParens`) reads them from the syntax
trees of jp/script.go, jp/equation.go and jp/filter.go: comparisons as `⟨lhs text, token, rhs text⟩`,
`switch` clauses as `⟨labels, codes, statements⟩`, statements as go/printer text.

Two kinds of theorem here:
* `…_pinned` (by `rfl`/`decide`): the generated fact is literally the source the model was written for; any
  edit of that comparison / clause / statement changes `Gen/JpParens.lean` and breaks the theorem.
* `…_generated` (for all arguments): the model definition computes what the generated comparison token /
  clause list says (`cmpEval`, `inClauses`, `clauseIndex` interpret the generated data), so `<` turned into
  `<=`, or an op code moved to another clause, contradicts the model even before the text is compared.
-/
namespace OjgVerif.JPText
open Gen

/-- the Go comparison token on two precedences -/
def cmpEval : JpParens.CmpOp → Nat → Nat → Bool
  | .lt, a, b => decide (a < b)
  | .le, a, b => decide (a ≤ b)
  | .eq, a, b => decide (a = b)
  | .ne, a, b => decide (a ≠ b)
  | .gt, a, b => decide (a > b)
  | .ge, a, b => decide (a ≥ b)

/-- is the code a label of some clause -/
def inClauses (cs : List JpParens.Clause) (c : UInt8) : Bool := cs.any (fun cl => cl.codes.contains c)

def clauseFind : List JpParens.Clause → UInt8 → Nat → Option Nat
  | [], _, _ => none
  | cl :: r, c, i => if cl.codes.contains c then some i else clauseFind r c (i + 1)

def clauseDefault : List JpParens.Clause → Nat → Option Nat
  | [], _ => none
  | cl :: r, i => if cl.labels.isEmpty then some i else clauseDefault r (i + 1)

/-- the clause a Go `switch` takes: the first one with a matching label, else `default`, else none
(`cs.length`) -/
def clauseIndex (cs : List JpParens.Clause) (c : UInt8) : Nat :=
  match clauseFind cs c 0 with
  | some i => i
  | none => (clauseDefault cs 0).getD cs.length

/-- pins `SItem.app` (the `.pb` branch): `case *precBuf:` of `Script.appendValue` is
`if prec < tv.prec { '(' buf ')' } else { buf }`. -/
theorem parens_rule_pinned :
    JpParens.appendValueParenCond = ⟨"prec", .lt, "tv.prec"⟩ ∧
    JpParens.appendValueParenThen =
      ["buf = append(buf, '(')", "buf = append(buf, tv.buf...)", "buf = append(buf, ')')"] ∧
    JpParens.appendValueParenElse = ["buf = append(buf, tv.buf...)"] :=
  ⟨rfl, rfl, rfl⟩

/-- `SItem.app` parenthesises a `precBuf` exactly when the comparison token read from `appendValue` holds of
(`prec` argument, `tv.prec`). -/
theorem app_parens_generated (prec p : Nat) (b : Bytes) :
    SItem.app prec (some (.pb p b)) =
      if cmpEval JpParens.appendValueParenCond.op prec p then 40 :: (b ++ [41]) else b := by
  simp [SItem.app, JpParens.appendValueParenCond, cmpEval]

/-- pins `SItem.appRight`: in the infix default of `Script.appendOp` the right operand is tested with
`if rb, ok := right.(*precBuf); ok && rb.prec == o.prec` and then keeps its parentheses, else goes through
`appendValue(…, right, o.prec)`. -/
theorem right_parens_rule_pinned :
    JpParens.appendOpRightInit = "rb, ok := right.(*precBuf)" ∧
    JpParens.appendOpRightCond = "ok && rb.prec == o.prec" ∧
    JpParens.appendOpRightCmp = ⟨"rb.prec", .eq, "o.prec"⟩ ∧
    JpParens.appendOpRightThen =
      ["pb.buf = append(pb.buf, '(')", "pb.buf = append(pb.buf, rb.buf...)", "pb.buf = append(pb.buf, ')')"] ∧
    JpParens.appendOpRightElse = ["pb.buf = s.appendValue(pb.buf, right, o.prec)"] :=
  ⟨rfl, rfl, rfl, rfl, rfl⟩

/-- `SItem.appRight` keeps the parentheses of a `precBuf` exactly when the comparison token read from
`appendOp` holds of (`rb.prec`, `o.prec`), and is `SItem.app` otherwise. -/
theorem appRight_parens_generated (prec p : Nat) (b : Bytes) :
    SItem.appRight prec (some (.pb p b)) =
      if cmpEval JpParens.appendOpRightCmp.op p prec then 40 :: (b ++ [41])
      else SItem.app prec (some (.pb p b)) := by
  simp [SItem.appRight, JpParens.appendOpRightCmp, cmpEval]

/-- pins `appendOp` and `stepOp` (`.pb o.prec …`): the produced buffer carries `o.prec`, the switch is over
`o.code`, and its clauses are, in this order: `not` (name, operand), `group` (operand), `length`/`count`
(`name(operand)`), `match`/`search` (`name(left, right)`), `userOpCode` (call with one or two arguments),
default (infix `left name right`). -/
theorem appendOp_clauses_pinned :
    JpParens.appendOpInit = "pb = &precBuf{prec: o.prec}" ∧
    JpParens.appendOpSwitchTag = "o.code" ∧
    JpParens.appendOpLast = "return" ∧
    JpParens.appendOpClauses = [
      { labels := ["not.code"], codes := [JpOps.op_not.code],
        body := ["pb.buf = append(pb.buf, o.name...)", "pb.buf = s.appendValue(pb.buf, left, o.prec)"] },
      { labels := ["group.code"], codes := [JpOps.op_group.code],
        body := ["pb.buf = s.appendValue(pb.buf, left, o.prec)"] },
      { labels := ["length.code", "count.code"], codes := [JpOps.op_length.code, JpOps.op_count.code],
        body := ["pb.buf = append(pb.buf, o.name...)", "pb.buf = append(pb.buf, '(')",
          "pb.buf = s.appendValue(pb.buf, left, o.prec)", "pb.buf = append(pb.buf, ')')"] },
      { labels := ["match.code", "search.code"], codes := [JpOps.op_match.code, JpOps.op_search.code],
        body := ["pb.buf = append(pb.buf, o.name...)", "pb.buf = append(pb.buf, '(')",
          "pb.buf = s.appendValue(pb.buf, left, o.prec)", "pb.buf = append(pb.buf, ',', ' ')",
          "pb.buf = s.appendValue(pb.buf, right, o.prec)", "pb.buf = append(pb.buf, ')')"] },
      { labels := ["userOpCode"], codes := [Jp.userOpCode],
        body := ["pb.buf = append(pb.buf, o.name...)", "pb.buf = append(pb.buf, '(')",
          "pb.buf = s.appendValue(pb.buf, left, o.prec)",
          "if 1 < o.cnt { pb.buf = append(pb.buf, ',', ' ') pb.buf = s.appendValue(pb.buf, right, o.prec) }",
          "pb.buf = append(pb.buf, ')')"] },
      { labels := [], codes := [],
        body := ["pb.buf = s.appendValue(pb.buf, left, o.prec)", "pb.buf = append(pb.buf, ' ')",
          "pb.buf = append(pb.buf, o.name...)", "pb.buf = append(pb.buf, ' ')",
          "if rb, ok := right.(*precBuf); ok && rb.prec == o.prec { pb.buf = append(pb.buf, '(') pb.buf = append(pb.buf, rb.buf...) pb.buf = append(pb.buf, ')') } else { pb.buf = s.appendValue(pb.buf, right, o.prec) }"] }] :=
  ⟨rfl, rfl, rfl, rfl⟩

/-- `appendOp` takes, for every op, the form of the clause that the generated clause list of
`Script.appendOp` selects for its code (Go `switch` semantics: first matching label, else `default`). -/
theorem appendOp_dispatch_generated (o : Op) (l r : Option SItem) :
    appendOp o l r =
      match clauseIndex JpParens.appendOpClauses o.code with
      | 0 => o.name ++ SItem.app o.prec l
      | 1 => SItem.app o.prec l
      | 2 => o.name ++ 40 :: (SItem.app o.prec l ++ [41])
      | 3 => o.name ++ 40 :: (SItem.app o.prec l ++ 44 :: 32 :: (SItem.app o.prec r ++ [41]))
      | 4 => o.name ++ 40 :: (SItem.app o.prec l ++
              ((if 1 < o.cnt then 44 :: 32 :: SItem.app o.prec r else []) ++ [41]))
      | _ => SItem.app o.prec l ++ 32 :: (o.name ++ 32 :: SItem.appRight o.prec r) := by
  unfold appendOp
  simp only [isCode, clauseIndex, clauseFind, clauseDefault, JpParens.appendOpClauses, Bool.beq_eq_decide_eq,
    List.contains_cons, List.contains_nil, Bool.or_false, Bool.or_eq_true, decide_eq_true_eq]
  by_cases h1 : o.code = JpOps.op_not.code
  · simp [h1, JpOps.op_not]
  by_cases h2 : o.code = JpOps.op_group.code
  · simp [h2, JpOps.op_not, JpOps.op_group]
  by_cases h3 : o.code = JpOps.op_length.code
  · simp [h3, JpOps.op_not, JpOps.op_group, JpOps.op_length, JpOps.op_count]
  by_cases h4 : o.code = JpOps.op_count.code
  · simp [h4, JpOps.op_not, JpOps.op_group, JpOps.op_length, JpOps.op_count]
  by_cases h5 : o.code = JpOps.op_match.code
  · simp [h5, JpOps.op_not, JpOps.op_group, JpOps.op_length, JpOps.op_count, JpOps.op_match, JpOps.op_search]
  by_cases h6 : o.code = JpOps.op_search.code
  · simp [h6, JpOps.op_not, JpOps.op_group, JpOps.op_length, JpOps.op_count, JpOps.op_match, JpOps.op_search]
  by_cases h7 : o.code = Jp.userOpCode
  · simp [h7, JpOps.op_not, JpOps.op_group, JpOps.op_length, JpOps.op_count, JpOps.op_match, JpOps.op_search, Jp.userOpCode]
  simp [h1, h2, h3, h4, h5, h6, h7]

/-- pins `Item.run` / `scriptPrint` / `filterPrint` / `Frag.print (.filter …)`: the scan of `Script.Append`
(right to left, `appendOp` on the next one or two live slots, the `cnt` operands removed, the surviving
`precBuf` written between `(` and `)` without a further test), `Script.String`, `Filter.Append`
(`[?` script `]`) and `Filter.String`. -/
theorem script_append_pinned :
    JpParens.scriptAppendBody = ["buf = append(buf, '(')",
      "if 0 < len(s.template) { bstack := make([]any, len(s.template)) copy(bstack, s.template) for i := len(bstack) - 1; 0 <= i; i-- { o, _ := bstack[i].(*op) if o == nil { if i == 0 { buf = s.appendValue(buf, bstack[i], 0) } continue } var ( left any right any ) if 1 < len(bstack)-i { left = bstack[i+1] } if 2 < len(bstack)-i { right = bstack[i+2] } bstack[i] = s.appendOp(o, left, right) if i+int(o.cnt)+1 <= len(bstack) { copy(bstack[i+1:], bstack[i+int(o.cnt)+1:]) } } if pb, _ := bstack[0].(*precBuf); pb != nil { buf = append(buf, pb.buf...) } }",
      "buf = append(buf, ')')", "return buf"] ∧
    JpParens.scriptStringBody = ["return string(s.Append([]byte{}))"] ∧
    JpParens.filterAppendBody =
      ["buf = append(buf, \"[?\"...)", "buf = f.Script.Append(buf)", "buf = append(buf, ']')", "return buf"] ∧
    JpParens.filterStringBody = ["return string(f.Append([]byte{}, true, false))"] :=
  ⟨rfl, rfl, rfl, rfl⟩

/-- pins `noParensCode`, `Eqn.infixPrec?`, `eqnString`: the clause of `Equation.Append` that switches `parens`
off lists `not, length, count, match, search, group`; `Equation.infix` answers `false` for those and `get`,
`true` otherwise (and `false` for a nil equation or a value); `Equation.String` is `Append([]byte{}, true)`. -/
theorem eqn_parens_forms_pinned :
    JpParens.eqAppendNoParens = [
      { labels := ["not.code", "length.code", "count.code", "match.code", "search.code", "group.code"],
        codes := [JpOps.op_not.code, JpOps.op_length.code, JpOps.op_count.code, JpOps.op_match.code,
          JpOps.op_search.code, JpOps.op_group.code],
        body := ["parens = false"] }] ∧
    JpParens.eqInfixBody = ["if e == nil || e.o == nil { return false }",
      "switch e.o.code { case not.code, get.code, length.code, count.code, match.code, search.code, group.code: return false }",
      "return true"] ∧
    JpParens.eqInfixClauses = [
      { labels := ["not.code", "get.code", "length.code", "count.code", "match.code", "search.code", "group.code"],
        codes := [JpOps.op_not.code, JpOps.op_get.code, JpOps.op_length.code, JpOps.op_count.code,
          JpOps.op_match.code, JpOps.op_search.code, JpOps.op_group.code],
        body := ["return false"] }] ∧
    JpParens.eqStringBody = ["return string(e.Append([]byte{}, true))"] :=
  ⟨rfl, rfl, rfl, rfl⟩

/-- `noParensCode o` holds exactly for the codes listed in the first switch of `Equation.Append`. -/
theorem noParensCode_generated (o : Op) : noParensCode o = inClauses JpParens.eqAppendNoParens o.code := by
  simp [noParensCode, isCode, inClauses, JpParens.eqAppendNoParens, Bool.or_assoc, Bool.beq_eq_decide_eq]

/-- the test of `Eqn.infixPrec?` (`noParensCode o || isCode o get`) holds exactly for the codes for which
`Equation.infix` returns false. -/
theorem notInfix_generated (o : Op) :
    (noParensCode o || isCode o JpOps.op_get) = inClauses JpParens.eqInfixClauses o.code := by
  simp [noParensCode, isCode, inClauses, JpParens.eqInfixClauses, Bool.or_assoc, Bool.beq_eq_decide_eq]
  ac_rfl

/-- pins `Eqn.print`: the statements of `Equation.Append` around the main switch (`(` … `)` under `parens`,
values through `appendValue`) and the clauses of the switch over `e.o.code`, in this order: `not` (`!` and
the operand with `infix()` as `parens`), `get` (the path), `length`/`count` (`name(path)`), `match`/`search`
(`name(left, right)`, operands without parentheses), `group` (the operand with `infix()`), default (infix,
operands with the two `parens` arguments of `eqn_operand_parens_pinned`). -/
theorem eqn_append_clauses_pinned :
    JpParens.eqAppendClauses = [
      { labels := ["not.code"], codes := [JpOps.op_not.code],
        body := ["buf = append(buf, '!')", "if e.left != nil { buf = e.left.Append(buf, e.left.infix()) }"] },
      { labels := ["get.code"], codes := [JpOps.op_get.code],
        body := ["if e.left != nil { buf = e.appendValue(buf, e.left.result) }"] },
      { labels := ["length.code", "count.code"], codes := [JpOps.op_length.code, JpOps.op_count.code],
        body := ["buf = append(buf, e.o.name...)", "buf = append(buf, '(')",
          "buf = e.appendValue(buf, e.left.result)", "buf = append(buf, ')')"] },
      { labels := ["match.code", "search.code"], codes := [JpOps.op_match.code, JpOps.op_search.code],
        body := ["buf = append(buf, e.o.name...)", "buf = append(buf, '(')", "buf = e.left.Append(buf, false)",
          "buf = append(buf, ',', ' ')", "buf = e.right.Append(buf, false)", "buf = append(buf, ')')"] },
      { labels := ["group.code"], codes := [JpOps.op_group.code],
        body := ["if e.left != nil { buf = e.left.Append(buf, e.left.infix()) }"] },
      { labels := [], codes := [],
        body := ["if e.left != nil { buf = e.left.Append(buf, e.left.infix() && e.o.prec < e.left.o.prec) }",
          "buf = append(buf, ' ')", "buf = append(buf, e.o.name...)", "buf = append(buf, ' ')",
          "if e.right != nil { buf = e.right.Append(buf, e.right.infix() && e.o.prec <= e.right.o.prec) }"] }] ∧
    JpParens.eqAppendBody.length = 5 ∧
    JpParens.eqAppendBody.getD 1 "" = "if parens { buf = append(buf, '(') }" ∧
    JpParens.eqAppendBody.getD 3 "" = "if parens { buf = append(buf, ')') }" ∧
    JpParens.eqAppendBody.getD 4 "" = "return buf" :=
  ⟨rfl, rfl, rfl, rfl, rfl⟩

/-- the `if` chain of `Eqn.print` (not, get, length/count, match/search, group, else infix) selects, for every
op, the clause that the generated clause list of `Equation.Append` selects for its code. -/
theorem eqn_append_dispatch_generated (o : Op) :
    clauseIndex JpParens.eqAppendClauses o.code =
      if isCode o JpOps.op_not then 0
      else if isCode o JpOps.op_get then 1
      else if isCode o JpOps.op_length || isCode o JpOps.op_count then 2
      else if isCode o JpOps.op_match || isCode o JpOps.op_search then 3
      else if isCode o JpOps.op_group then 4
      else 5 := by
  simp only [isCode, clauseIndex, clauseFind, clauseDefault, JpParens.eqAppendClauses, Bool.beq_eq_decide_eq,
    List.contains_cons, List.contains_nil, Bool.or_false, Bool.or_eq_true, decide_eq_true_eq]
  by_cases h1 : o.code = JpOps.op_not.code
  · simp [h1, JpOps.op_not]
  by_cases h2 : o.code = JpOps.op_get.code
  · simp [h2, JpOps.op_not, JpOps.op_get]
  by_cases h3 : o.code = JpOps.op_length.code
  · simp [h3, JpOps.op_not, JpOps.op_get, JpOps.op_length, JpOps.op_count]
  by_cases h4 : o.code = JpOps.op_count.code
  · simp [h4, JpOps.op_not, JpOps.op_get, JpOps.op_length, JpOps.op_count]
  by_cases h5 : o.code = JpOps.op_match.code
  · simp [h5, JpOps.op_not, JpOps.op_get, JpOps.op_length, JpOps.op_count, JpOps.op_match, JpOps.op_search]
  by_cases h6 : o.code = JpOps.op_search.code
  · simp [h6, JpOps.op_not, JpOps.op_get, JpOps.op_length, JpOps.op_count, JpOps.op_match, JpOps.op_search]
  by_cases h7 : o.code = JpOps.op_group.code
  · simp [h7, JpOps.op_not, JpOps.op_get, JpOps.op_group, JpOps.op_length, JpOps.op_count, JpOps.op_match, JpOps.op_search]
  simp [h1, h2, h3, h4, h5, h6, h7]

/-- pins `leftParens` / `rightParens`: in the infix default of `Equation.Append` the left operand gets
`e.left.infix() && e.o.prec < e.left.o.prec`, the right one `e.right.infix() && e.o.prec <= e.right.o.prec`. -/
theorem eqn_operand_parens_pinned :
    JpParens.eqAppendLeftParens = "e.left.infix() && e.o.prec < e.left.o.prec" ∧
    JpParens.eqAppendLeftCmp = ⟨"e.o.prec", .lt, "e.left.o.prec"⟩ ∧
    JpParens.eqAppendRightParens = "e.right.infix() && e.o.prec <= e.right.o.prec" ∧
    JpParens.eqAppendRightCmp = ⟨"e.o.prec", .le, "e.right.o.prec"⟩ :=
  ⟨rfl, rfl, rfl, rfl⟩

/-- `leftParens o l`: `l` is infix and the comparison token read from the source holds of (`o.prec`, its prec). -/
theorem leftParens_generated (o : Op) (l : Eqn) :
    leftParens o l =
      match l.infixPrec? with
      | none => false
      | some p => cmpEval JpParens.eqAppendLeftCmp.op o.prec p := by
  unfold leftParens
  cases l.infixPrec? <;> simp [JpParens.eqAppendLeftCmp, cmpEval]

/-- `rightParens o r`: `r` is infix and the comparison token read from the source holds of (`o.prec`, its prec). -/
theorem rightParens_generated (o : Op) (r : Eqn) :
    rightParens o r =
      match r.infixPrec? with
      | none => false
      | some p => cmpEval JpParens.eqAppendRightCmp.op o.prec p := by
  unfold rightParens
  cases r.infixPrec? <;> simp [JpParens.eqAppendRightCmp, cmpEval]

/-- pins `precCorrect` and `isCall`: the statements of `precedentCorrect` — value or nil: unchanged; the left
side is corrected first; a right side that is a value ends it; `match`/`search`/user calls correct their second
argument in place; `e.o.prec <= e.right.o.prec` rotates (`r := e.right; e.right = r.left; r.left = e`) and
corrects the new top; otherwise the right side is corrected and, if `e.o.prec <= e.right.o.prec` holds of the
corrected right side, the node is corrected again. -/
theorem precCorrect_pinned :
    JpParens.precCorrectBody = ["if e == nil || e.o == nil { return e }",
      "if e.left != nil { e.left = precedentCorrect(e.left) }",
      "if e.right == nil || e.right.o == nil { return e }",
      "switch e.o.code { case match.code, search.code, userOpCode: e.right = precedentCorrect(e.right) return e }",
      "if e.o.prec <= e.right.o.prec { r := e.right e.right = r.left r.left = e return precedentCorrect(r) }",
      "e.right = precedentCorrect(e.right)",
      "if e.right.o != nil && e.o.prec <= e.right.o.prec { e = precedentCorrect(e) }",
      "return e"] ∧
    JpParens.precCorrectConds = ["e == nil || e.o == nil", "e.left != nil", "e.right == nil || e.right.o == nil",
      "e.o.prec <= e.right.o.prec", "e.right.o != nil && e.o.prec <= e.right.o.prec"] ∧
    JpParens.precCorrectCmps = [⟨"e.o.prec", .le, "e.right.o.prec"⟩, ⟨"e.o.prec", .le, "e.right.o.prec"⟩] ∧
    JpParens.precCorrectClauses = [
      { labels := ["match.code", "search.code", "userOpCode"],
        codes := [JpOps.op_match.code, JpOps.op_search.code, Jp.userOpCode],
        body := ["e.right = precedentCorrect(e.right)", "return e"] }] ∧
    JpParens.precCorrectRotate = ["r := e.right", "e.right = r.left", "r.left = e", "return precedentCorrect(r)"] :=
  ⟨rfl, rfl, rfl, rfl, rfl⟩

/-- `isCall o` holds exactly for the codes of the in-place clause of `precedentCorrect`. -/
theorem isCall_generated (o : Op) : isCall o = inClauses JpParens.precCorrectClauses o.code := by
  simp [isCall, isCode, inClauses, JpParens.precCorrectClauses, Bool.or_assoc, Bool.beq_eq_decide_eq]

/-- the rotation step of `precCorrect` (binary right side) is taken exactly under the FIRST comparison read
from `precedentCorrect`, on (`e.o.prec`, `e.right.o.prec`). -/
theorem precCorrect_rotate_generated (f : Nat) (o ro : Op) (l l' rl rr : Eqn)
    (hl : precCorrect f l = some l') (hc : isCall o = false)
    (h : cmpEval (JpParens.precCorrectCmps.getD 0 default).op o.prec ro.prec = true) :
    precCorrect (f + 1) (.bin o l (.bin ro rl rr)) = precCorrect f (.bin ro (.bin o l' rl) rr) := by
  have h' : o.prec ≤ ro.prec := by simpa [JpParens.precCorrectCmps, cmpEval] using h
  simp [precCorrect, hl, hc, h']

/-- … and when that comparison fails and the SECOND one fails of the corrected right side, the node stays. -/
theorem precCorrect_stay_generated (f : Nat) (o ro ro2 : Op) (l l' rl rr r' : Eqn)
    (hl : precCorrect f l = some l') (hc : isCall o = false)
    (h : cmpEval (JpParens.precCorrectCmps.getD 0 default).op o.prec ro.prec = false)
    (hr : precCorrect f (.bin ro rl rr) = some r') (ho : r'.op? = some ro2)
    (h2 : cmpEval (JpParens.precCorrectCmps.getD 1 default).op o.prec ro2.prec = false) :
    precCorrect (f + 1) (.bin o l (.bin ro rl rr)) = some (.bin o l' r') := by
  have h' : ¬ o.prec ≤ ro.prec := by simpa [JpParens.precCorrectCmps, cmpEval] using h
  have h2' : ¬ o.prec ≤ ro2.prec := by simpa [JpParens.precCorrectCmps, cmpEval] using h2
  simp [precCorrect, hl, hc, h', hr, ho, h2']

example : ∃ f o ro l l' rl rr, precCorrect f l = some l' ∧ isCall o = false ∧
    cmpEval (JpParens.precCorrectCmps.getD 0 default).op o.prec ro.prec = true ∧
    precCorrect (f + 1) (.bin o l (.bin ro rl rr)) = precCorrect f (.bin ro (.bin o l' rl) rr) :=
  ⟨1, JpOps.op_add, JpOps.op_add, .val (.int 1), .val (.int 1), .val (.int 2), .val (.int 3),
    rfl, by decide, by decide, precCorrect_rotate_generated _ _ _ _ _ _ _ rfl (by decide) (by decide)⟩

/-- the hypotheses of `precCorrect_stay_generated` hold for `1 + 2 * 3` (`+` binds more loosely than `*`) -/
example : precCorrect 2 (.val (.int 1)) = some (.val (.int 1)) ∧ isCall JpOps.op_add = false ∧
    cmpEval (JpParens.precCorrectCmps.getD 0 default).op JpOps.op_add.prec JpOps.op_mult.prec = false ∧
    precCorrect 2 (.bin JpOps.op_mult (.val (.int 2)) (.val (.int 3))) =
      some (.bin JpOps.op_mult (.val (.int 2)) (.val (.int 3))) ∧
    cmpEval (JpParens.precCorrectCmps.getD 1 default).op JpOps.op_add.prec JpOps.op_mult.prec = false := by
  refine ⟨rfl, by decide, by decide, by simp [precCorrect], by decide⟩

/-- pins `dropGroup` / `reduceGroups` / the pipeline of `parseEquation`: `reduceGroups` drops a group node iff
`e.o.code == group.code && (po == nil || (e.left != nil && e.left.o != nil && e.left.o.prec < po.prec))`, then
descends with `e.o` as the parent op; `MustParseEquation` is `reduceGroups(precedentCorrect(p.readEq()), nil)`. -/
theorem reduceGroups_pinned :
    JpParens.reduceGroupsBody = ["if e == nil || e.o == nil { return e }",
      "if e.o.code == group.code && (po == nil || (e.left != nil && e.left.o != nil && e.left.o.prec < po.prec)) { return reduceGroups(e.left, po) }",
      "e.left = reduceGroups(e.left, e.o)", "e.right = reduceGroups(e.right, e.o)", "return e"] ∧
    JpParens.reduceGroupsConds = ["e == nil || e.o == nil",
      "e.o.code == group.code && (po == nil || (e.left != nil && e.left.o != nil && e.left.o.prec < po.prec))"] ∧
    JpParens.reduceGroupsCmp = ⟨"e.left.o.prec", .lt, "po.prec"⟩ ∧
    JpParens.mustParseEquationBody = ["p := &parser{buf: []byte(str)}", "eq = precedentCorrect(p.readEq())",
      "return reduceGroups(eq, nil)"] :=
  ⟨rfl, rfl, rfl, rfl⟩

/-- `dropGroup o l po`: a group node, and no parent op or the comparison token read from `reduceGroups` holds
of (`e.left.o.prec`, `po.prec`). -/
theorem dropGroup_generated (o : Op) (l : Eqn) (po : Option Op) :
    dropGroup o l po =
      (isCode o JpOps.op_group &&
        match po with
        | none => true
        | some p =>
          match l.op? with
          | none => false
          | some lo => cmpEval JpParens.reduceGroupsCmp.op lo.prec p.prec) := by
  unfold dropGroup
  cases po <;> cases l.op? <;> simp [JpParens.reduceGroupsCmp, cmpEval]

/-- pins `Frag.printL` (Print.lean) and `bprintL` (Bracket.lean), and the `.descent`, `.wild`, `.child`
branches of `Frag.print` / `childPrint`: `Expr.Append` starts in bracket notation iff asked to; in the loop a
`Bracket` flag only switches `bracket` on (`continue`: `afterDescent` stays as it is), the second dot of a
descent is written under `afterDescent` alone, a fragment is "first" when `i == 0 || afterDescent`, and
`afterDescent` is set from the fragment just written and the notation it was written in
(`afterDescent && !bracket`); a last descent gets its second dot after the loop. `Descent.Append` writes `[..]`
or one `.`, `Bracket.Append` nothing, `Wildcard.Append` `[*]` (bracket notation or `'#'`) or `*` after a dot
unless first, `Child.Append` the quoted form (bracket notation or not a token) or the key after a dot unless
first. (Site of the seeded change C14-m7.) -/
theorem expr_append_pinned :
    JpParens.exprAppendBody = ["bracket := 0 < len(brackets) && brackets[0]", "afterDescent := false",
      "for i, frag := range x { if _, ok := frag.(Bracket); ok { bracket = true continue } if afterDescent { buf = append(buf, '.') } buf = frag.Append(buf, bracket, i == 0 || afterDescent) _, afterDescent = frag.(Descent) afterDescent = afterDescent && !bracket }",
      "if afterDescent { buf = append(buf, '.') }", "return buf"] ∧
    JpParens.exprAppendLoopHead = "for i, frag := range x" ∧
    JpParens.exprAppendLoop = ["if _, ok := frag.(Bracket); ok { bracket = true continue }",
      "if afterDescent { buf = append(buf, '.') }",
      "buf = frag.Append(buf, bracket, i == 0 || afterDescent)",
      "_, afterDescent = frag.(Descent)",
      "afterDescent = afterDescent && !bracket"] ∧
    JpParens.descentAppendBody =
      ["if bracket { buf = append(buf, \"[..]\"...) } else { buf = append(buf, '.') }", "return buf"] ∧
    JpParens.bracketAppendBody = ["return buf"] ∧
    JpParens.wildcardAppendBody =
      ["if bracket || f == '#' { buf = append(buf, \"[*]\"...) } else { if !first { buf = append(buf, '.') } buf = append(buf, '*') }",
       "return buf"] ∧
    JpParens.childAppendBody =
      ["if bracket || !f.tokenOk() { buf = append(buf, '[') buf = AppendString(buf, string(f), '\\'') buf = append(buf, ']') } else { if !first { buf = append(buf, '.') } buf = append(buf, string(f)...) }",
       "return buf"] :=
  ⟨rfl, rfl, rfl, rfl, rfl, rfl, rfl⟩

end OjgVerif.JPText
