import OjgVerif.JPText.Trees
import OjgVerif.JPText.LemmasFilterExpr
/-! C14: the model round trip of EXPRESSIONS whose filter is nested TWO levels:
`$.a[?(@.b[?(@.c o2 1)].d o1 2)]` and the same with `!` around the inner and/or the outer equation, for every
ordered pair (o1, o2) of the 19 binary constructors, both text forms. Each is an expression of `ExprD 2`
(`nested2_roundTrips`, symbolic in the operators), so the round trips are `roundTripsExpr_deep`; no deviation is named
(`nested2_devs`). The cut of `binOps` at 10 between `nested2A` and `nested2B` carries no meaning: `nested2_box` holds
for every pair of operators, and `nested_two_levels_box` (Props/C14) is stated over `nested2A ++ nested2B`. -/
namespace OjgVerif.JPText

def notIf (b : Bool) (e : Eqn) : Eqn := if b then .un Gen.JpOps.op_not e else e

/-- `R().Child("a").Filter(n1? (Get(@.b[?(n2? (@.c o2 1))].d) o1 2))` -/
def nested2 (n1 n2 : Bool) (o1 o2 : Op) : Expr :=
  [.root, .child [97], (notIf n1 (.bin o1
      (.un Gen.JpOps.op_get (.val (.expr [.at, .child [98],
        (notIf n2 (.bin o2 (.un Gen.JpOps.op_get (.val (.expr [.at, .child [99]]))) (.val (.int 1)))).filter,
        .child [100]])))
      (.val (.int 2)))).filter]

def nested2A : List Expr := (binOps.take 10).flatMap fun o1 => binOps.map fun o2 => nested2 false false o1 o2

theorem EqnImg.notIf {R : Val → Val → Prop} (b : Bool) {e e' : Eqn} (h : EqnImg R e e') :
    EqnImg R (notIf b e) (notIf b e') := by
  cases b
  · exact h
  · exact .not h

/-- every expression of the family round-trips: it is its own image but for the `group` operators of the parentheses -/
theorem nested2_roundTrips (n1 n2 : Bool) (o1 o2 : Op) (h1 : binOps.contains o1 = true) (h2 : binOps.contains o2 = true)
    (br : Bool) : roundTripsExpr br (nested2 n1 n2 o1 o2) = true := by
  have hc : ValImg 1 (.expr [.at, .child [99]]) (.expr [.at, .child [99]]) :=
    .path rfl (.cons (.clean (.child [99]) rfl) .nil)
  have e2 := EqnImg.notIf n2 (EqnImg.bin (R := ValImg 1) h2 (.get hc) (.val (.const (v := .int 1) (by decide))))
  have hb : ValImg 2 (.expr [.at, .child [98], _, .child [100]]) (.expr [.at, .child [98], _, .child [100]]) :=
    .path rfl (.cons (.clean (.child [98]) rfl) (.cons (.filt e2) (.cons (.clean (.child [100]) rfl) .nil)))
  have e1 := EqnImg.notIf n1 (EqnImg.bin (R := ValImg 2) h1 (.get hb) (.val (.const (v := .int 2) (by decide))))
  exact roundTripsExpr_deep 2 br _ _ (.rooted rfl (.cons (.clean (.child [97]) rfl) (.cons (.filt e1) .nil)))

theorem nested2_devs (n1 n2 : Bool) (o1 o2 : Op) (h1 : binOps.contains o1 = true) (h2 : binOps.contains o2 = true)
    (br : Bool) : devsExpr br (nested2 n1 n2 o1 o2) = [] := by
  cases n1 <;> cases n2 <;>
    simp [nested2, notIf, devsExpr, addIf, devRootAtL, Frag.isRootAt, Frag.devsL, Frag.devs, Eqn.filter, build_bin h1,
      build_bin h2, build_not, build_get, build_val, Eqn.resultOf, Item.devsL, Val.devs, startsRootAt]

theorem nested2_box (n1 n2 : Bool) (o1 o2 : Op) (h1 : o1 ∈ binOps) (h2 : o2 ∈ binOps) :
    (roundTripsExpr false (nested2 n1 n2 o1 o2) && roundTripsExpr true (nested2 n1 n2 o1 o2) &&
      (devsExpr false (nested2 n1 n2 o1 o2)).isEmpty && (devsExpr true (nested2 n1 n2 o1 o2)).isEmpty) = true := by
  have c1 : binOps.contains o1 = true := by simpa using h1
  have c2 : binOps.contains o2 = true := by simpa using h2
  simp [nested2_roundTrips n1 n2 o1 o2 c1 c2, nested2_devs n1 n2 o1 o2 c1 c2]

theorem nested2A_all :
    (nested2A.all fun x => roundTripsExpr false x && roundTripsExpr true x &&
      (devsExpr false x).isEmpty && (devsExpr true x).isEmpty) = true := by
  rw [List.all_eq_true]
  intro x hx
  simp only [nested2A, List.mem_flatMap, List.mem_map] at hx
  obtain ⟨o1, h1, o2, h2, rfl⟩ := hx
  exact nested2_box _ _ _ _ (List.mem_of_mem_take h1) h2

/-- the remaining outer operators, and `!` around the inner and/or outer equation for one operator per precedence level -/
def nested2B : List Expr :=
  ((binOps.drop 10).flatMap fun o1 => binOps.map fun o2 => nested2 false false o1 o2) ++
  ([(true, false), (false, true), (true, true)].flatMap fun n =>
    levelOps.flatMap fun o1 => levelOps.map fun o2 => nested2 n.1 n.2 o1 o2)

theorem nested2B_all :
    (nested2B.all fun x => roundTripsExpr false x && roundTripsExpr true x &&
      (devsExpr false x).isEmpty && (devsExpr true x).isEmpty) = true := by
  have hsub : ∀ o ∈ levelOps, o ∈ binOps := by decide
  rw [List.all_eq_true]
  intro x hx
  simp only [nested2B, List.mem_append, List.mem_flatMap, List.mem_map] at hx
  rcases hx with ⟨o1, h1, o2, h2, rfl⟩ | ⟨n, _, o1, h1, o2, h2, rfl⟩
  · exact nested2_box _ _ _ _ (List.mem_of_mem_drop h1) h2
  · exact nested2_box _ _ _ _ (hsub _ h1) (hsub _ h2)

end OjgVerif.JPText
