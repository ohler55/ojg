import OjgVerif.JPText.LemmasOps
/-! # C14 lemmas: the equation reader reads the text of a raw chain back (any tree size)

`readEq_raw`: for every tree `c` of the shape `Raw A` (what `readEq` builds: right-nested chains of the 17 infix
operators over atoms; atoms are operands of the class `A`, `!atom`, `(equation)`, `match(x, y)`, `search(x, y)`,
`length(path)`, `count(path)`), every follower `rest` that ends an equation (`eqFollow`) and every fuel of more than
`c.need w`, `readEq` applied to `c.text ++ rest` — also after one leading space — returns `c` and `dropSpaces rest`,
provided the operands of `A` are read back (`LeafRead A w`). By induction on the shape; no bound on the size.
`readEq_text` is the case `Eqn.raw` of simple operands (`Val.simple`: int64, booleans, null, Nothing, strings, finite
floats, regexes `AppendString` leaves alone, flat lists of scalars, filter-free paths), where the fuel is the number
of nodes. Paths that carry filters are operands too, at every nesting depth:
LemmasFilterExpr. -/
namespace OjgVerif.JPText

/-- `readEqBody` with the fuel of `readEqValue` as a parameter -/
def bodyK (rec : P Eqn) (K : Nat) (bs : Bytes) : Option (Eqn × Bytes) :=
  match readEqValue rec K bs with
  | none => none
  | some (e, r) => readEqLoop rec (r.length + 1) e r

theorem readEqBody_eq (rec : P Eqn) (bs : Bytes) : readEqBody rec bs = bodyK rec (bs.length + 1) bs := rfl

theorem dropSpaces_idem : ∀ bs : Bytes, dropSpaces (dropSpaces bs) = dropSpaces bs := by
  intro bs
  induction bs with
  | nil => rfl
  | cons b r ih =>
    by_cases h : b = 32
    · simp [dropSpaces, h, ih]
    · simp [dropSpaces, h]

theorem dropSpaces_cons_ne {b : UInt8} (r : Bytes) (h : b ≠ 32) : dropSpaces (b :: r) = b :: r := by
  simp [dropSpaces, h]

theorem dropSpaces_space (r : Bytes) : dropSpaces (32 :: r) = dropSpaces r := by
  simp [dropSpaces]

theorem readEqValue_space (rec : P Eqn) (K : Nat) (bs : Bytes) :
    readEqValue rec K (32 :: bs) = readEqValue rec K bs := by
  cases K with
  | zero => rfl
  | succ K => simp only [readEqValue, dropSpaces_space]

theorem bodyK_space (rec : P Eqn) (K : Nat) (bs : Bytes) : bodyK rec K (32 :: bs) = bodyK rec K bs := by
  simp only [bodyK, readEqValue_space]

theorem eqFollow_dropSpaces (rest : Bytes) : eqFollow (dropSpaces rest) = eqFollow rest := by
  simp only [eqFollow, dropSpaces_idem]

theorem pathEnd_of_eqFollow {rest : Bytes} (h : eqFollow rest = true) : pathEnd rest = true := by
  cases rest with
  | nil => rfl
  | cons b r =>
    by_cases hb : b = 32
    · simp [pathEnd, hb]
    · simp only [eqFollow, dropSpaces_cons_ne r hb, peek] at h
      simp only [pathEnd]
      simp only [Bool.or_eq_true, beq_iff_eq, List.isEmpty_cons, Bool.false_eq_true, or_false] at h ⊢
      rcases h with (h | h) | h <;> simp [h]

theorem pathEnd_cases {rest : Bytes} (h : pathEnd rest = true) :
    rest = [] ∨ ∃ c r, rest = c :: r ∧ (c = 32 ∨ c = 44 ∨ c = 41 ∨ c = 93) := by
  cases rest with
  | nil => exact Or.inl rfl
  | cons c r =>
    refine Or.inr ⟨c, r, rfl, ?_⟩
    simp only [pathEnd, Bool.or_eq_true, beq_iff_eq] at h
    rcases h with ((h | h) | h) | h <;> simp [h]

theorem pathEnd_head {rest : Bytes} (h : pathEnd rest = true) (p : UInt8 → Bool)
    (hp : (p 32 || p 44 || p 41 || p 93) = false) : rest = [] ∨ ∃ c r, rest = c :: r ∧ p c = false := by
  rcases pathEnd_cases h with rfl | ⟨c, r, rfl, hc⟩
  · exact Or.inl rfl
  · simp only [Bool.or_eq_false_iff] at hp
    exact Or.inr ⟨c, r, rfl, by rcases hc with rfl | rfl | rfl | rfl <;> simp [hp]⟩

theorem readEqLoop_stop (rec : P Eqn) (K : Nat) (e : Eqn) (r : Bytes) (hK : 1 ≤ K) (h : eqFollow r = true) :
    readEqLoop rec K e r = some (e, dropSpaces r) := by
  obtain ⟨K, rfl⟩ : ∃ k, K = k + 1 := ⟨K - 1, by omega⟩
  cases r with
  | nil => simp [readEqLoop, dropSpaces]
  | cons b r =>
    simp only [readEqLoop]
    have : (peek (dropSpaces (b :: r)) = 44 || peek (dropSpaces (b :: r)) = 41 || peek (dropSpaces (b :: r)) = 93
        || peek (dropSpaces (b :: r)) = 0) = true := by
      simp only [eqFollow, Bool.or_eq_true, beq_iff_eq] at h
      rcases h with ((h | h) | h) | h
      · simp [h]
      · simp [h]
      · simp [h]
      · have : dropSpaces (b :: r) = [] := by simpa using h
        simp [this, peek]
    rw [if_pos this]

theorem readEqOpLoop_step (f : Nat) (tok : Bytes) (b c : UInt8) (r : Bytes)
    (h : (eqCls b ≠ 111 && (tok.isEmpty || !partialOp tok b)) = false) (h2 : (b = 45 && !tok.isEmpty) = false) :
    readEqOpLoop (f + 1) tok (b :: c :: r) = readEqOpLoop f (tok ++ [b]) (c :: r) := by
  simp only [readEqOpLoop, h, h2, Bool.false_eq_true, ↓reduceIte]

theorem readEqOpLoop_end (f : Nat) (tok : Bytes) (b : UInt8) (r : Bytes)
    (h : (eqCls b ≠ 111 && (tok.isEmpty || !partialOp tok b)) = true) :
    readEqOpLoop (f + 1) tok (b :: r) = some (tok, b :: r) := by
  simp only [readEqOpLoop, h, ↓reduceIte]

/-- every step of `readEqOp`'s loop over the name `nm` (already read: `tok`) followed by a space goes on,
and the space stops it -/
def opStepsOK : Bytes → Bytes → Bool
  | tok, [] => (eqCls 32 ≠ 111 && (tok.isEmpty || !partialOp tok 32))
  | tok, b :: r =>
    !(eqCls b ≠ 111 && (tok.isEmpty || !partialOp tok b)) && (!(b = 45 && !tok.isEmpty) && opStepsOK (tok ++ [b]) r)

theorem readEqOpLoop_ok : ∀ (nm tok : Bytes) (F : Nat) (tail : Bytes), opStepsOK tok nm = true → nm.length < F →
    readEqOpLoop F tok (nm ++ 32 :: tail) = some (tok ++ nm, 32 :: tail) := by
  intro nm
  induction nm with
  | nil =>
    intro tok F tail h hF
    obtain ⟨F, rfl⟩ : ∃ k, F = k + 1 := ⟨F - 1, by simp at hF; omega⟩
    simp only [opStepsOK] at h
    simp only [List.nil_append, List.append_nil]
    exact readEqOpLoop_end F tok 32 tail h
  | cons b nm ih =>
    intro tok F tail h hF
    obtain ⟨F, rfl⟩ : ∃ k, F = k + 1 := ⟨F - 1, by simp at hF; omega⟩
    simp only [opStepsOK, Bool.and_eq_true, Bool.not_eq_true'] at h
    obtain ⟨h1, h2, h3⟩ := h
    have hF' : nm.length < F := by simp at hF; omega
    cases hx : nm ++ 32 :: tail with
    | nil => simp at hx
    | cons x y =>
      rw [List.cons_append, hx, readEqOpLoop_step F tok b x y h1 h2, ← hx, ih (tok ++ [b]) F tail h3 hF']
      simp

/-- what the reader needs from the name of one infix operator -/
def opNameOK (o : Op) : Bool :=
  opStepsOK [] o.name && (lookupOp o.name == some o) &&
    (match o.name with
     | [] => false
     | h :: _ => h != 32 && h != 44 && h != 41 && h != 93 && h != 0) && !isCall o

theorem infix_all : binOps.all (fun o => !o.isInfix || opNameOK o) = true := by decide +kernel

theorem opNameOK_of {o : Op} (ho : binOps.contains o = true) (hi : o.isInfix = true) : opNameOK o = true := by
  have := List.all_eq_true.mp infix_all o (by simpa using ho)
  simpa [hi] using this

theorem readEqOp_name (o : Op) (ho : binOps.contains o = true) (hi : o.isInfix = true) (tail : Bytes) :
    readEqOp (32 :: (o.name ++ 32 :: tail)) = some (o, 32 :: tail) ∧
    ∃ h t, o.name = h :: t ∧ h ≠ 32 ∧ h ≠ 44 ∧ h ≠ 41 ∧ h ≠ 93 ∧ h ≠ 0 := by
  have hk := opNameOK_of ho hi
  simp only [opNameOK, Bool.and_eq_true, beq_iff_eq] at hk
  obtain ⟨⟨⟨h1, h2⟩, h3⟩, _⟩ := hk
  cases hn : o.name with
  | nil => rw [hn] at h3; simp at h3
  | cons h t =>
    rw [hn] at h3
    simp only [Bool.and_eq_true, bne_iff_ne, ne_eq] at h3
    obtain ⟨⟨⟨⟨a1, a2⟩, a3⟩, a4⟩, a5⟩ := h3
    refine ⟨?_, h, t, rfl, a1, a2, a3, a4, a5⟩
    rw [← hn]
    have hd : dropSpaces (32 :: (o.name ++ 32 :: tail)) = o.name ++ 32 :: tail := by
      rw [dropSpaces_space, hn, List.cons_append, dropSpaces_cons_ne _ a1]
    simp only [readEqOp, hd]
    rw [readEqOpLoop_ok o.name [] _ tail h1 (by simp; omega)]
    simp [h2]

theorem readEqLoop_infix (rec : P Eqn) (o : Op) (ho : binOps.contains o = true) (hi : o.isInfix = true)
    (a rr : Eqn) (tail r3 : Bytes) (F : Nat) (hF : 2 ≤ F) (hrec : rec (32 :: tail) = some (rr, r3))
    (hfol : eqFollow r3 = true) :
    readEqLoop rec F a (32 :: (o.name ++ 32 :: tail)) = some (.bin o a rr, dropSpaces r3) := by
  obtain ⟨F, rfl⟩ : ∃ k, F = k + 2 := ⟨F - 2, by omega⟩
  obtain ⟨hop, h, t, hn, a1, a2, a3, a4, a5⟩ := readEqOp_name o ho hi tail
  have hd : dropSpaces (32 :: (o.name ++ 32 :: tail)) = h :: (t ++ 32 :: tail) := by
    rw [dropSpaces_space, hn, List.cons_append, dropSpaces_cons_ne _ a1]
  simp only [readEqLoop, hd, peek, a2, a3, a4, a5, hop, hrec, Bool.or_self, decide_false, Bool.false_eq_true,
    ↓reduceIte]
  exact readEqLoop_stop rec (F + 1) _ r3 (by omega) hfol

theorem natOfDigits_val (ds : Bytes) : ∀ acc : Nat, ((natOfDigits ds acc : Nat) : Int) = valDigits ds (acc : Int) := by
  induction ds with
  | nil => intro acc; rfl
  | cons d ds ih =>
    intro acc
    simp only [natOfDigits, valDigits]
    rw [ih]
    push_cast
    rfl

theorem natOfDigits_digits (n : Nat) : natOfDigits (digits n) 0 = n := by
  have h := natOfDigits_val (digits n) 0
  rw [show ((0 : Nat) : Int) = 0 from rfl, (digits_spec n).2.2] at h
  exact Int.ofNat.inj h

theorem takeDigits_append (ds rest : Bytes) (hds : ∀ d ∈ ds, isDigit d = true) (hr : takeDigits rest = ([], rest)) :
    takeDigits (ds ++ rest) = (ds, rest) := by
  induction ds with
  | nil => simpa using hr
  | cons d ds ih =>
    have hd : isDigit d = true := hds d (by simp)
    simp only [List.cons_append, takeDigits, hd, ↓reduceIte, ih (fun x hx => hds x (by simp [hx]))]

theorem takeDigits_follow {rest : Bytes} (h : pathEnd rest = true) : takeDigits rest = ([], rest) := by
  rcases pathEnd_head h isDigit rfl with rfl | ⟨c, r, rfl, hc⟩
  · rfl
  · simp [takeDigits, hc]

theorem readNum_digits (d : UInt8) (ds rest : Bytes) (hds : ∀ x ∈ ds, isDigit x = true)
    (hr : pathEnd rest = true) :
    readNum d (ds ++ rest) = (parseInt64 d ds).map fun i => (.int i, rest) := by
  simp only [readNum, takeDigits_append ds rest hds (takeDigits_follow hr)]
  rcases pathEnd_head hr (fun c => c == 46 || c == 101 || c == 69) rfl with rfl | ⟨c, r, rfl, hc⟩
  · rfl
  · simp only [Bool.or_eq_false_iff, beq_eq_false_iff_ne] at hc
    simp [hc]

theorem readNum_fmtInt (i : Int) (hi : inInt64 i = true) (rest : Bytes) (hr : pathEnd rest = true) :
    ∃ d ds, fmtInt i = d :: ds ∧ (d = 45 ∨ isDigit d = true) ∧ readNum d (ds ++ rest) = some (.int i, rest) := by
  have hi' := (inInt64_iff i).mp hi
  by_cases hneg : i < 0
  · obtain ⟨d, ds, hds, hd, hall, _⟩ := digits_cons (-i).toNat
    have hnat := natOfDigits_digits (-i).toNat
    rw [hds] at hnat
    refine ⟨45, d :: ds, by rw [fmtInt_neg i hneg, hds], Or.inl rfl, ?_⟩
    rw [readNum_digits 45 _ rest (fun x hx => (List.mem_cons.1 hx).elim (· ▸ hd) (hall x)) hr]
    have hle : (-i).toNat ≤ 9223372036854775808 := by omega
    simp only [parseInt64, if_true, List.isEmpty_cons, Bool.false_eq_true, if_false, hnat, hle, Option.map_some]
    rw [show -(((-i).toNat : Nat) : Int) = i by omega]
  · obtain ⟨d, ds, hds, hd, hall, _⟩ := digits_cons i.toNat
    have hnat := natOfDigits_digits i.toNat
    rw [hds] at hnat
    refine ⟨d, ds, by rw [fmtInt_nonneg i (by omega), hds], Or.inr hd, ?_⟩
    rw [readNum_digits d ds rest hall hr]
    have hle : i.toNat ≤ 9223372036854775807 := by omega
    simp only [parseInt64, isDigit_ne_45 hd, if_false, hnat, hle, if_true, Option.map_some]
    rw [show ((i.toNat : Nat) : Int) = i by omega]

theorem readEqValue_num (rec : P Eqn) (K : Nat) (d : UInt8) (r : Bytes) (h : d = 45 ∨ isDigit d = true)
    (v : Val) (r2 : Bytes) (hn : readNum d r = some (v, r2)) :
    readEqValue rec (K + 1) (d :: r) = some (.val v, r2) := by
  simp only [readEqValue, dropSpaces_cons_ne r (numHead_ne h 32), numHead_ne h 33, ↓reduceIte, numHead_cond h, hn]

theorem readEqValue_not (rec : P Eqn) (K : Nat) (r : Bytes) (e : Eqn) (r2 : Bytes)
    (h : readEqValue rec K r = some (e, r2)) :
    readEqValue rec (K + 1) (33 :: r) = some (.un Gen.JpOps.op_not e, r2) := by
  simp [readEqValue, dropSpaces, h]

theorem readEqValue_group (rec : P Eqn) (K : Nat) (r : Bytes) (e : Eqn) (r2 : Bytes)
    (h : rec r = some (e, 41 :: r2)) :
    readEqValue rec (K + 1) (40 :: r) = some (.un Gen.JpOps.op_group e, r2) := by
  simp [readEqValue, dropSpaces, isDigit, h, peek]

theorem readOpArgs_two (rec : P Eqn) (o : Op) (l r : Eqn) (X Y rest : Bytes)
    (h1 : rec X = some (l, 44 :: 32 :: Y)) (h2 : rec (32 :: Y) = some (r, 41 :: rest)) :
    readOpArgs rec o (40 :: X) = some (.bin o l r, rest) := by
  simp [readOpArgs, h1, h2, dropSpaces, peek]

theorem readOpArgs_one (rec : P Eqn) (o : Op) (l : Eqn) (X rest : Bytes)
    (h1 : rec X = some (l, 41 :: rest)) :
    readOpArgs rec o (40 :: X) = some (.un o l, rest) := by
  simp [readOpArgs, h1, dropSpaces, peek]

theorem takeLower_append (nm rest : Bytes) (hn : nm.all isLower = true) (hr : takeLower rest = ([], rest)) :
    takeLower (nm ++ rest) = (nm, rest) := by
  induction nm with
  | nil => exact hr
  | cons c nm ih =>
    rw [List.all_cons, Bool.and_eq_true] at hn
    simp only [List.cons_append, takeLower, hn.1, if_true, ih hn.2]

/-- what the reader needs from the name of a function: lower-case letters, a key of `opMap`, none of the
constants `true`, `false`, `null` -/
def fnNameOK (o : Op) : Bool :=
  o.name.all isLower && !o.name.isEmpty && lookupOp o.name == some o && o.name != bTrueTok && o.name != bFalseTok &&
    o.name != bNullTok

theorem readEqValue_fn (rec : P Eqn) (K : Nat) (o : Op) (ho : fnNameOK o = true) (X : Bytes) :
    readEqValue rec (K + 1) (o.name ++ 40 :: X) = readOpArgs rec o (40 :: X) := by
  simp only [fnNameOK, Bool.and_eq_true, beq_iff_eq, bne_iff_ne, Bool.not_eq_true'] at ho
  obtain ⟨⟨⟨⟨⟨hl, hne⟩, hk⟩, h1⟩, h2⟩, h3⟩ := ho
  have htl := takeLower_append o.name (40 :: X) hl (by simp [takeLower, isLower])
  cases hn : o.name with
  | nil => simp [hn] at hne
  | cons b t =>
    -- a lower-case letter is none of the bytes `readEqValue` dispatches on before it reads a name
    have hb : isLower b = true := by rw [hn, List.all_cons, Bool.and_eq_true] at hl; exact hl.1
    have h97 : 97 ≤ b.toNat := by
      simp only [isLower, Bool.and_eq_true, decide_eq_true_eq, UInt8.le_iff_toNat_le] at hb
      simpa using hb.1
    have ne : ∀ c : UInt8, c.toNat < 97 → b ≠ c := fun c hc e => by subst e; omega
    have hd : isDigit b = false := by
      cases h : isDigit b with
      | false => rfl
      | true => have := isDigit_range h; omega
    rw [hn] at htl h1 h2 h3 hk
    simp only [List.cons_append] at htl ⊢
    simp only [readEqValue, dropSpaces_cons_ne _ (ne 32 (by decide)), ne 33 (by decide), ne 45 (by decide), ne 39 (by decide),
      ne 34 (by decide), ne 64 (by decide), ne 36 (by decide), ne 40 (by decide), ne 91 (by decide), ne 47 (by decide),
      ne 78 (by decide), hd, if_false, Bool.or_self, Bool.false_eq_true, decide_false, htl, h1, h2, h3, hk]

theorem fnNameOK_fn {o : Op} (h : FnOp o) : fnNameOK o = true := by rcases h with rfl | rfl <;> decide
theorem fnNameOK_call {o : Op} (h : CallOp o) : fnNameOK o = true := by rcases h with rfl | rfl <;> decide

theorem isPathVal_iff {l : Eqn} (h : l.isPathVal = true) : ∃ x, l = .val (.expr x) ∧ pathLeaf x = true := by
  cases l with
  | val v => cases v <;> simp [Eqn.isPathVal] at h; exact ⟨_, rfl, h⟩
  | un o l => simp [Eqn.isPathVal] at h
  | bin o l r => simp [Eqn.isPathVal] at h

/-- a tree as `readEq` builds it (before `precedentCorrect`) over operands of the class `A`: right-nested chains of
infix operators over atoms; `Eqn.raw` is the case where `A` is `Val.simple` (`Raw.of_raw`) -/
inductive Raw (A : Val → Prop) : Eqn → Prop
  | val {v : Val} : A v → Raw A (.val v)
  | not {l : Eqn} : l.isAtom = true → Raw A l → Raw A (.un Gen.JpOps.op_not l)
  | group {l : Eqn} : Raw A l → Raw A (.un Gen.JpOps.op_group l)
  | fn {o : Op} {x : List Frag} : FnOp o → A (.expr x) → Raw A (.un o (.val (.expr x)))
  | inf {o : Op} {l r : Eqn} : o.isInfix = true → binOps.contains o = true → l.isAtom = true → Raw A l → Raw A r →
      Raw A (.bin o l r)
  | call {o : Op} {l r : Eqn} : CallOp o → Raw A l → Raw A r → Raw A (.bin o l r)

theorem Raw.of_raw : ∀ c : Eqn, c.raw = true → Raw (fun v => v.simple = true) c := by
  intro c
  induction c with
  | val v => intro h; exact .val h
  | un o l ih =>
    intro h
    simp only [Eqn.raw, Bool.or_eq_true, Bool.and_eq_true, beq_iff_eq] at h
    rcases h with (⟨rfl, ha, hl⟩ | ⟨rfl, hl⟩) | ⟨ho, hp⟩
    · exact .not ha (ih hl)
    · exact .group (ih hl)
    · obtain ⟨x, rfl, hx⟩ := isPathVal_iff hp
      exact .fn ho hx
  | bin o l r ihl ihr =>
    intro h
    simp only [Eqn.raw] at h
    by_cases hi : o.isInfix = true
    · simp only [if_pos hi, Bool.and_eq_true] at h
      exact .inf hi h.1 h.2.1 (ihl h.2.2.1) (ihr h.2.2.2)
    · simp only [if_neg hi, Bool.and_eq_true, Bool.or_eq_true, beq_iff_eq] at h
      exact .call h.1 (ihl h.2.1) (ihr h.2.2)

theorem text_val (v : Val) : (Eqn.val v).text = v.print := rfl

theorem takeLower_follow {rest : Bytes} (h : pathEnd rest = true) : takeLower rest = ([], rest) := by
  rcases pathEnd_head h isLower rfl with rfl | ⟨c, r, rfl, hc⟩
  · rfl
  · simp [takeLower, hc]

theorem print_int (i : Int) : (Val.int i).print = fmtInt i := by simp [Val.print]
theorem print_null : Val.null.print = [110, 117, 108, 108] := by simp [Val.print, bNull]
theorem print_nothing : Val.nothing.print = [78, 111, 116, 104, 105, 110, 103] := by simp [Val.print, bNothing]
theorem print_true : (Val.bool true).print = [116, 114, 117, 101] := by simp [Val.print, bTrue]
theorem print_false : (Val.bool false).print = [102, 97, 108, 115, 101] := by simp [Val.print, bFalse]
theorem print_str (s : Bytes) : (Val.str s).print = appendString s 39 := by simp [Val.print]
theorem print_flt (t : Bytes) : (Val.flt t).print = floatPrint t := by simp [Val.print]
theorem print_regex (s : Bytes) : (Val.regex s).print = appendString s 47 := by simp [Val.print]
theorem print_expr (x : List Frag) : (Val.expr x).print = Frag.printL false true false x := by simp [Val.print]
theorem print_list (vs : List Val) : (Val.list vs).print = 91 :: (Val.printL vs ++ [93]) := by simp [Val.print]

theorem takeDigits_spec : ∀ u : Bytes, u = (takeDigits u).1 ++ (takeDigits u).2 ∧ (∀ d ∈ (takeDigits u).1, isDigit d = true) := by
  intro u
  induction u with
  | nil => simp [takeDigits]
  | cons b r ih =>
    by_cases hb : isDigit b = true
    · simp only [takeDigits, hb, ↓reduceIte, List.cons_append]
      refine ⟨by rw [← ih.1], ?_⟩
      intro d hd
      rcases List.mem_cons.mp hd with h | h
      · rw [h]; exact hb
      · exact ih.2 d h
    · simp [takeDigits, hb]

/-- the exponent of a `FormatFloat` text: sign and at least two digits -/
def expOK : Bytes → Bool
  | s :: ds => (s = 43 || s = 45) && decide (2 ≤ ds.length) && ds.all isDigit
  | [] => false

theorem readNumExp_ok (num r2 rest : Bytes) (h : expOK r2 = true) (hr : pathEnd rest = true) :
    readNumExp num (r2 ++ rest) = some (.flt (num ++ r2), rest) := by
  cases r2 with
  | nil => simp [expOK] at h
  | cons s ds =>
    simp only [expOK, Bool.and_eq_true, Bool.or_eq_true, decide_eq_true_eq, List.all_eq_true] at h
    obtain ⟨⟨hs, hlen⟩, hds⟩ := h
    have htd := takeDigits_append ds rest hds (takeDigits_follow hr)
    have hs' : (s = 43 || s = 45) = true := by simpa using hs
    cases hx : ds ++ rest with
    | nil =>
      have : (ds ++ rest).length = 0 := by rw [hx]; rfl
      rw [List.length_append] at this; omega
    | cons x y =>
      simp only [List.cons_append, readNumExp, hs', ↓reduceIte, hx]
      rw [← hx, htd]

/-- what follows the first digit run in a float text that has a `.` or an exponent -/
def floatTail : Bytes → Bool
  | [] => false
  | c :: r =>
    if c = 46 then
      (match (takeDigits r).1, (takeDigits r).2 with
       | [], _ => false
       | _ :: _, [] => true
       | _ :: _, e :: r2 => e = 101 && expOK r2)
    else c = 101 && expOK r

theorem readNum_float (b : UInt8) (ds1 R1 rest : Bytes) (hds1 : ∀ d ∈ ds1, isDigit d = true)
    (hR : floatTail R1 = true) (hr : pathEnd rest = true) :
    readNum b (ds1 ++ (R1 ++ rest)) = some (.flt (b :: (ds1 ++ R1)), rest) := by
  cases R1 with
  | nil => simp [floatTail] at hR
  | cons c r =>
    simp only [floatTail] at hR
    by_cases hc : c = 46
    · subst hc
      simp only [↓reduceIte] at hR
      obtain ⟨hsplit, hdig⟩ := takeDigits_spec r
      have h1 : takeDigits (ds1 ++ 46 :: (r ++ rest)) = (ds1, 46 :: (r ++ rest)) :=
        takeDigits_append ds1 _ hds1 (by simp [takeDigits, isDigit])
      rw [List.cons_append]
      cases hD : (takeDigits r).1 with
      | nil => simp [hD] at hR
      | cons d2 ds2 =>
        cases hR2 : (takeDigits r).2 with
        | nil =>
          rw [hD, hR2] at hsplit
          simp only [List.append_nil] at hsplit
          have h2 : takeDigits (r ++ rest) = (r, rest) :=
            takeDigits_append r rest (by rw [hsplit, ← hD]; exact hdig) (takeDigits_follow hr)
          simp only [readNum, h1, ↓reduceIte, h2]
          rcases pathEnd_head hr (fun c => c == 101 || c == 69) rfl with rfl | ⟨x, y, rfl, hx⟩
          · simp
          · simp only [Bool.or_eq_false_iff, beq_eq_false_iff_ne] at hx
            simp [hx]
        | cons e r2 =>
          simp only [hD, hR2, Bool.and_eq_true, decide_eq_true_eq] at hR
          obtain ⟨he, hexp⟩ := hR
          subst he
          rw [hD, hR2] at hsplit
          have h2 : takeDigits (r ++ rest) = (d2 :: ds2, 101 :: (r2 ++ rest)) := by
            rw [hsplit, List.append_assoc]
            exact takeDigits_append (d2 :: ds2) _ (by rw [← hD]; exact hdig) (by simp [takeDigits, isDigit])
          simp only [readNum, h1, List.cons_append, ↓reduceIte, h2, decide_true]
          rw [readNumExp_ok _ r2 rest hexp hr, hsplit]
          simp [List.append_assoc]
    · simp only [hc, ↓reduceIte, Bool.and_eq_true, decide_eq_true_eq] at hR
      obtain ⟨he, hexp⟩ := hR
      subst he
      have h1 : takeDigits (ds1 ++ 101 :: (r ++ rest)) = (ds1, 101 :: (r ++ rest)) :=
        takeDigits_append ds1 _ hds1 (by simp [takeDigits, isDigit])
      rw [List.cons_append]
      simp only [readNum, h1]
      simp only [show ¬ (101 : UInt8) = 46 by decide, ↓reduceIte, decide_true]
      rw [readNumExp_ok _ r rest hexp hr]
      simp [List.append_assoc]

theorem floatTextOk_tail (t : Bytes) : floatTextOk t =
    (t = [78, 97, 78] || t = [43, 73, 110, 102] || t = [45, 73, 110, 102] ||
      (match (takeDigits (if t.head? = some 45 then t.drop 1 else t)).1,
          (takeDigits (if t.head? = some 45 then t.drop 1 else t)).2 with
       | [], _ => false
       | _ :: _, [] => true
       | _ :: _, c :: r => floatTail (c :: r))) := by
  unfold floatTextOk floatTail
  congr 1

theorem floatPrint_ne (w : Bytes) (hw : ∀ d ∈ w, d = 45 ∨ isDigit d = true) : floatPrint w ≠ w := by
  have : w.any (fun b => b = 46 || b = 101 || b = 78 || b = 73) = false := by
    rw [List.any_eq_false]
    intro d hd
    rcases hw d hd with rfl | h
    · decide
    · have := isDigit_range h
      have ne : ∀ c : UInt8, c.toNat < 48 ∨ 57 < c.toNat → d ≠ c := fun c hc e => by subst e; omega
      simp [ne 46 (by decide), ne 101 (by decide), ne 78 (by decide), ne 73 (by decide)]
  intro e
  have := congrArg List.length e
  simp [floatPrint, ‹w.any _ = false›] at this

theorem floatLeaf_split (t : Bytes) (h : floatLeaf t = true) :
    ∃ b ds1 R1, t = b :: (ds1 ++ R1) ∧ (b = 45 ∨ isDigit b = true) ∧ (∀ d ∈ ds1, isDigit d = true) ∧
      floatTail R1 = true ∧ floatPrint t = t := by
  simp only [floatLeaf, Bool.and_eq_true, Bool.not_eq_true', beq_iff_eq] at h
  obtain ⟨hok, hnf, hfp⟩ := h
  rw [floatTextOk_tail] at hok
  simp only [Bool.or_eq_true, decide_eq_true_eq] at hok
  rcases hok with ((e | e) | e) | hok
  · subst e; simp [floatNoForm] at hnf
  · subst e; simp [floatNoForm] at hnf
  · subst e; simp [floatNoForm] at hnf
  generalize hu : (if List.head? t = some 45 then List.drop 1 t else t) = u at hok
  obtain ⟨hsplit, hdig⟩ := takeDigits_spec u
  cases hD : (takeDigits u).1 with
  | nil => simp [hD] at hok
  | cons d1 ds1 =>
    rw [hD] at hsplit hdig
    have hd1 := hdig d1 (by simp)
    have hds1 : ∀ d ∈ ds1, isDigit d = true := fun x hx => hdig x (by simp [hx])
    -- `t` is `u` after an optional `-`
    have ht : t = u ∨ t = 45 :: u := by
      split at hu
      · rename_i h45
        cases t with
        | nil => simp at h45
        | cons b t' => right; simp at h45 hu; rw [h45, hu]
      · exact Or.inl hu
    cases hR : (takeDigits u).2 with
    | nil =>
      -- digits only: `appendFloat` would have added `.0`
      rw [hR, List.append_nil] at hsplit
      refine absurd hfp (floatPrint_ne t fun d hd => ?_)
      rcases ht with rfl | rfl
      · exact Or.inr (hdig d (hsplit ▸ hd))
      · rcases List.mem_cons.1 hd with rfl | hd
        · exact Or.inl rfl
        · exact Or.inr (hdig d (hsplit ▸ hd))
    | cons c r =>
      rw [hR] at hsplit
      have hR1 : floatTail (c :: r) = true := by simpa [hD, hR] using hok
      rcases ht with rfl | rfl
      · exact ⟨d1, ds1, c :: r, hsplit, Or.inr hd1, hds1, hR1, hfp⟩
      · exact ⟨45, d1 :: ds1, c :: r, by rw [hsplit], Or.inl rfl, hdig, hR1, hfp⟩

theorem readRegex_plain (f : Nat) (b : UInt8) (t : Bytes) (h1 : b ≠ 47) (h2 : b ≠ 92) (ht : t ≠ []) :
    readRegex (f + 1) (b :: t) = consFst b (readRegex f t) := by
  cases t with
  | nil => exact absurd rfl ht
  | cons d r => simp only [readRegex, h1, h2, if_false]

theorem readRegex_esc (f : Nat) (c : UInt8) (t : Bytes) (ht : t ≠ []) :
    readRegex (f + 1) (92 :: c :: t) = consFst 92 (consFst c (readRegex f t)) := by
  cases t with
  | nil => exact absurd rfl ht
  | cons d r => simp [readRegex]

theorem consFst_prefix (a : UInt8) {rest : Bytes} {u v : Option (Bytes × Bytes)}
    (huv : ∀ x, u = some (x, []) → v = some (x, rest)) (x : Bytes) (h : consFst a u = some (x, [])) :
    consFst a v = some (x, rest) := by
  cases u with
  | none => cases h
  | some p =>
    obtain ⟨y, t⟩ := p
    simp only [consFst, Option.some.injEq, Prod.mk.injEq] at h
    obtain ⟨rfl, rfl⟩ := h
    rw [huv y rfl]; rfl

theorem readRegex_prefix : ∀ (F : Nat) (L x : Bytes), readRegex F (L ++ [47]) = some (x, []) →
    ∀ (F' : Nat) (rest : Bytes), F ≤ F' → readRegex F' (L ++ 47 :: rest) = some (x, rest) := by
  intro F
  induction F with
  | zero => intro L x h; simp [readRegex] at h
  | succ f ih =>
    intro L x h F' rest hF
    obtain ⟨F', rfl⟩ : ∃ k, F' = k + 1 := ⟨F' - 1, by omega⟩
    have next : ∀ M : Bytes, ∀ x, readRegex f (M ++ [47]) = some (x, []) → readRegex F' (M ++ 47 :: rest) = some (x, rest) :=
      fun M x hx => ih M x hx F' rest (by omega)
    cases L with
    | nil =>
      simp only [List.nil_append, readRegex, if_true, Option.some.injEq, Prod.mk.injEq, and_true] at h
      subst h
      simp [readRegex]
    | cons b L' =>
      rw [List.cons_append] at h ⊢
      by_cases hb : b = 47
      · simp [readRegex, hb] at h
      by_cases hb2 : b = 92
      · subst hb2
        cases L' with
        | nil => simp [readRegex] at h
        | cons c L'' =>
          rw [List.cons_append, readRegex_esc _ _ _ (by simp)] at h ⊢
          exact consFst_prefix 92 (consFst_prefix c (next L'')) x h
      · rw [readRegex_plain _ _ _ hb hb2 (by simp)] at h ⊢
        exact consFst_prefix b (next L') x h

theorem regex_facts (s : Bytes) (h : regexDev s = false) :
    appendString s 47 = 47 :: (s ++ [47]) ∧ readRegex (s.length + 2) (s ++ [47]) = some (s, []) := by
  simp only [regexDev, Bool.or_eq_false_iff, bne_eq_false_iff_eq] at h
  obtain ⟨h1, h2⟩ := h
  refine ⟨by simp [appendString, h1], ?_⟩
  cases hr : readRegex (s.length + 2) (s ++ [47]) with
  | none => simp [hr] at h2
  | some p =>
    obtain ⟨x, rem⟩ := p
    rw [hr] at h2
    cases rem with
    | nil => simp at h2; rw [h2]
    | cons _ _ => simp at h2

theorem readEqValue_regex (s : Bytes) (h : regexDev s = false) (rec : P Eqn) (K : Nat) (rest : Bytes) :
    readEqValue rec (K + 1) ((Val.regex s).print ++ rest) = some (.val (.regex s), rest) := by
  obtain ⟨h1, h2⟩ := regex_facts s h
  have h3 := readRegex_prefix _ s s h2 ((s ++ 47 :: rest).length + 1) rest (by simp)
  rw [print_regex, h1]
  simp only [List.cons_append, List.append_assoc, List.nil_append]
  simp only [readEqValue, dropSpaces_cons_ne _ (show (47 : UInt8) ≠ 32 by decide), h3]
  simp [isDigit]

theorem img_self (f : Frag) (h : f.selfImg = true) : f.img false = f := by
  cases f with
  | wild hs => simp [Frag.selfImg] at h; simp [Frag.img, h]
  | slice ns =>
    simp only [Frag.selfImg, Bool.or_eq_true, beq_iff_eq] at h
    rcases h with h | h
    · match ns, h with
      | [a, b], _ => simp [Frag.img, normSlice]
    · match ns, h with
      | [a, b, c], _ => simp [Frag.img, normSlice]
  | _ => rfl

theorem imgL_self : ∀ x : List Frag, x.all Frag.selfImg = true → imgL false x = x := by
  intro x
  induction x with
  | nil => intro _; rfl
  | cons f r ih =>
    intro h
    simp only [List.all_cons, Bool.and_eq_true] at h
    simp [imgL, img_self f h.1, ih h.2]

theorem readEqValue_expr (rec : P Eqn) (K : Nat) (x : List Frag) (rest : Bytes) (b : UInt8) (t : Bytes)
    (he : Frag.printL false true false x = b :: t) (hb : b = 36 ∨ b = 64)
    (h : readExpr (readFilter rec) (Frag.printL false true false x ++ rest) = some (x, rest)) :
    readEqValue rec (K + 1) ((Val.expr x).print ++ rest) = some (.val (.expr x), rest) := by
  rw [print_expr]
  rw [he] at h ⊢
  rcases hb with rfl | rfl
  · simp only [List.cons_append] at h ⊢
    simp [readEqValue, dropSpaces, isDigit, h]
  · simp only [List.cons_append] at h ⊢
    simp [readEqValue, dropSpaces, isDigit, h]

theorem readEqValue_path (x : List Frag) (h : pathLeaf x = true) (rec : P Eqn) (K : Nat) (rest : Bytes)
    (hr : pathEnd rest = true) :
    readEqValue rec (K + 1) ((Val.expr x).print ++ rest) = some (.val (.expr x), rest) ∧
    1 ≤ (Val.expr x).print.length := by
  simp only [pathLeaf, Bool.and_eq_true] at h
  obtain ⟨h1, b, t, he, hb⟩ := readExpr_path (readFilter rec) x h.1 rest hr
  rw [imgL_self x h.2] at h1
  exact ⟨readEqValue_expr rec K x rest b t he hb h1, by rw [print_expr, he]; simp⟩

theorem readEqValue_scalar (v : Val) (hs : v.scalar = true) (rec : P Eqn) (K : Nat) (rest : Bytes)
    (hr : pathEnd rest = true) :
    readEqValue rec (K + 1) (v.print ++ rest) = some (.val v, rest) ∧
    ∃ b t, v.print = b :: t ∧ b ≠ 32 ∧ b ≠ 93 := by
  cases v with
  | int i =>
    obtain ⟨d, ds, he, hd, hn⟩ := readNum_fmtInt i hs rest hr
    rw [print_int, he, List.cons_append]
    exact ⟨readEqValue_num rec K d _ hd _ _ hn, d, ds, rfl, numHead_ne hd 32, numHead_ne hd 93⟩
  | null =>
    have := takeLower_follow hr
    rw [print_null]
    refine ⟨?_, _, _, rfl, by decide, by decide⟩
    simp [readEqValue, dropSpaces, isDigit, takeLower, isLower, this, bTrueTok, bFalseTok, bNullTok]
  | nothing =>
    rw [print_nothing]
    refine ⟨?_, _, _, rfl, by decide, by decide⟩
    simp [readEqValue, dropSpaces, isDigit, matchPrefix, bNothingTok]
  | bool b =>
    have := takeLower_follow hr
    cases b
    · rw [print_false]
      refine ⟨?_, _, _, rfl, by decide, by decide⟩
      simp [readEqValue, dropSpaces, isDigit, takeLower, isLower, this, bTrueTok, bFalseTok]
    · rw [print_true]
      refine ⟨?_, _, _, rfl, by decide, by decide⟩
      simp [readEqValue, dropSpaces, isDigit, takeLower, isLower, this, bTrueTok]
  | str s =>
    obtain ⟨t, he, hn⟩ := readStr_appendString s rest
    rw [print_str]
    refine ⟨?_, 39, appendStrBody 39 s.length s ++ [39], rfl, by decide, by decide⟩
    rw [he]
    simp [readEqValue, dropSpaces, isDigit, hn]
  | flt t =>
    obtain ⟨b, ds1, R1, he, hb, hds1, hR1, hfp⟩ := floatLeaf_split t (by simpa [Val.scalar] using hs)
    rw [print_flt, hfp]
    subst he
    refine ⟨?_, b, ds1 ++ R1, rfl, numHead_ne hb 32, numHead_ne hb 93⟩
    have hn := readNum_float b ds1 R1 rest hds1 hR1 hr
    rw [List.cons_append, List.append_assoc]
    exact readEqValue_num rec K b _ hb _ _ hn
  | list vs => simp [Val.scalar] at hs
  | expr x => simp [Val.scalar] at hs
  | regex src => simp [Val.scalar] at hs

theorem scalar_print_head (v : Val) (hs : v.scalar = true) : ∃ b t, v.print = b :: t ∧ b ≠ 32 ∧ b ≠ 93 :=
  (readEqValue_scalar v hs (fun _ => none) 0 [] rfl).2

theorem bodyK_of_atom (rec : P Eqn) (c : Eqn) (bs rest : Bytes) (K : Nat)
    (h : readEqValue rec K bs = some (c, rest)) (hf : eqFollow rest = true) :
    bodyK rec K bs = some (c, dropSpaces rest) := by
  simp only [bodyK, h]
  exact readEqLoop_stop rec _ c rest (by omega) hf

theorem readEq_scalar (v : Val) (hs : v.scalar = true) (f : Nat) (hf : 1 ≤ f) (rest : Bytes)
    (hr : eqFollow rest = true) :
    readEq f (v.print ++ rest) = some (.val v, dropSpaces rest) := by
  obtain ⟨f, rfl⟩ : ∃ k, f = k + 1 := ⟨f - 1, by omega⟩
  simp only [readEq, readEqBody_eq]
  exact bodyK_of_atom _ _ _ rest _
    (readEqValue_scalar v hs (readEq f) _ rest (pathEnd_of_eqFollow hr)).1 hr

theorem printL_cons2 (v w : Val) (r : List Val) : Val.printL (v :: w :: r) = v.print ++ 44 :: Val.printL (w :: r) := by
  simp [Val.printL]

theorem printL_one (v : Val) : Val.printL [v] = v.print := by simp [Val.printL]

theorem readListLoop_scalars (rec : P Eqn)
    (hrec : ∀ (v : Val), v.scalar = true → ∀ rest, eqFollow rest = true →
      rec (v.print ++ rest) = some (.val v, dropSpaces rest)) (rest : Bytes) :
    ∀ (vs : List Val) (F : Nat), vs ≠ [] → vs.length ≤ F → (∀ v ∈ vs, v.scalar = true) →
    readListLoop rec F (Val.printL vs ++ 93 :: rest) = some (vs, rest) := by
  intro vs
  induction vs with
  | nil => intro F h; exact absurd rfl h
  | cons v r ih =>
    intro F _ hF hall
    obtain ⟨F, rfl⟩ : ∃ k, F = k + 1 := ⟨F - 1, by simp at hF; omega⟩
    have hv : v.scalar = true := hall v (by simp)
    obtain ⟨b, t, he, _, _⟩ := scalar_print_head v hv
    cases r with
    | nil =>
      have h1 := hrec v hv (93 :: rest) (by simp [eqFollow, dropSpaces, peek])
      rw [dropSpaces_cons_ne _ (by decide)] at h1
      rw [printL_one]
      rw [he, List.cons_append] at h1 ⊢
      simp [readListLoop, h1, skipSpace, skipSpaceAux, Eqn.resultOf]
    | cons w r' =>
      have h1 := hrec v hv (44 :: (Val.printL (w :: r') ++ 93 :: rest)) (by simp [eqFollow, dropSpaces, peek])
      rw [dropSpaces_cons_ne _ (by decide)] at h1
      have h2 := ih F (by simp) (by simp at hF ⊢; omega) (fun x hx => hall x (by simp [hx]))
      rw [printL_cons2, List.append_assoc, List.cons_append]
      rw [he, List.cons_append] at h1 ⊢
      simp [readListLoop, h1, skipSpace, skipSpaceAux, Eqn.resultOf, h2, consFst]

theorem printL_length : ∀ vs : List Val, (∀ v ∈ vs, v.scalar = true) → vs.length ≤ (Val.printL vs).length := by
  intro vs
  induction vs with
  | nil => intro _; simp
  | cons v r ih =>
    intro hall
    obtain ⟨b, t, he, _, _⟩ := scalar_print_head v (hall v (by simp))
    have := ih (fun x hx => hall x (by simp [hx]))
    cases r with
    | nil => simp [printL_one, he]
    | cons w r' =>
      rw [printL_cons2, he]
      simp at this ⊢
      omega

theorem readEqValue_list (vs : List Val) (hs : vs.all Val.scalar = true) (f : Nat) (hf : 1 ≤ f) (K : Nat)
    (rest : Bytes) :
    readEqValue (readEq f) (K + 1) ((Val.list vs).print ++ rest) = some (.val (.list vs), rest) := by
  rw [print_list]
  simp only [List.cons_append, List.append_assoc, List.nil_append]
  have hall : ∀ v ∈ vs, v.scalar = true := by simpa using hs
  cases vs with
  | nil => simp [readEqValue, dropSpaces, isDigit, Val.printL, peek]
  | cons v r =>
    obtain ⟨b, t, he, hb1, hb2⟩ := scalar_print_head v (hall v (by simp))
    have hloop := fun F hF => readListLoop_scalars (readEq f)
      (fun v hv rest hr => readEq_scalar v hv f hf rest hr) rest (v :: r) F (by simp) hF hall
    have hlen := printL_length (v :: r) hall
    have hhead : ∃ t', Val.printL (v :: r) = b :: t' := by
      cases r with
      | nil => exact ⟨t, by rw [printL_one, he]⟩
      | cons w r' => exact ⟨t ++ 44 :: Val.printL (w :: r'), by rw [printL_cons2, he]; rfl⟩
    obtain ⟨t', ht'⟩ := hhead
    have hl2 := hloop ((Val.printL (v :: r) ++ 93 :: rest).length + 1)
      (by simp only [List.length_cons, List.length_append] at hlen ⊢; omega)
    rw [ht'] at hl2 ⊢
    simp only [List.cons_append] at hl2 ⊢
    simp only [readEqValue, dropSpaces_cons_ne _ (show (91 : UInt8) ≠ 32 by decide), dropSpaces_cons_ne _ hb1, peek, hl2]
    simp [isDigit, hb2]

theorem simple_cases {v : Val} (hs : v.simple = true) :
    (∃ vs, v = .list vs ∧ vs.all Val.scalar = true) ∨ (∃ x, v = .expr x ∧ pathLeaf x = true) ∨
      (∃ s, v = .regex s ∧ regexDev s = false) ∨ v.scalar = true := by
  cases v with
  | list vs => exact Or.inl ⟨vs, rfl, hs⟩
  | expr x => exact Or.inr (Or.inl ⟨x, rfl, hs⟩)
  | regex s => exact Or.inr (Or.inr (Or.inl ⟨s, rfl, by simpa [Val.simple] using hs⟩))
  | _ => exact Or.inr (Or.inr (Or.inr hs))

theorem readEqValue_val (v : Val) (hs : v.simple = true) (f : Nat) (hf : 1 ≤ f) (K : Nat) (rest : Bytes)
    (hr : pathEnd rest = true) :
    readEqValue (readEq f) (K + 1) (v.print ++ rest) = some (.val v, rest) := by
  rcases simple_cases hs with ⟨vs, rfl, h⟩ | ⟨x, rfl, h⟩ | ⟨s, rfl, h⟩ | h
  · exact readEqValue_list vs h f hf K rest
  · exact (readEqValue_path x h _ K rest hr).1
  · exact readEqValue_regex s h _ K rest
  · exact (readEqValue_scalar v h _ K rest hr).1

theorem print_length (v : Val) (hs : v.simple = true) : 1 ≤ v.print.length := by
  rcases simple_cases hs with ⟨vs, rfl, _⟩ | ⟨x, rfl, h⟩ | ⟨s, rfl, _⟩ | h
  · simp [print_list]
  · exact (readEqValue_path x h (fun _ => none) 0 [] rfl).2
  · simp [print_regex, appendString]
  · obtain ⟨b, t, he, _, _⟩ := scalar_print_head v h
    rw [he]; simp

/-! The nesting fuel `readEq` needs for a tree does not see inside a path operand (its filters are read by `readEq` again),
so the operands come with a weight: `w v` is the fuel that suffices for the operand `v` (1 for a constant or a
filter-free path; the length of its text does for any path, LemmasFilterExpr). -/

/-- the nesting fuel a tree needs when an operand `v` needs `w v` -/
def Eqn.need (w : Val → Nat) : Eqn → Nat
  | .val v => w v
  | .un _ l => 1 + l.need w
  | .bin _ l r => 1 + l.need w + r.need w

theorem need_one : ∀ c : Eqn, c.need (fun _ => 1) = eqnSize c
  | .val _ => rfl
  | .un _ l => by rw [Eqn.need, eqnSize, need_one l]
  | .bin _ l r => by rw [Eqn.need, eqnSize, need_one l, need_one r]

/-- the operands of the class `A` are read back by `readEqValue`, nested equations by any `readEq f` with `w v ≤ f` -/
structure LeafRead (A : Val → Prop) (w : Val → Nat) : Prop where
  pos : ∀ v, A v → 1 ≤ w v
  len : ∀ v, A v → w v ≤ v.print.length
  read : ∀ v, A v → ∀ (f K : Nat) (rest : Bytes), w v ≤ f → pathEnd rest = true →
    readEqValue (readEq f) (K + 1) (v.print ++ rest) = some (.val v, rest)

theorem LeafRead.simple : LeafRead (fun v => v.simple = true) (fun _ => 1) :=
  ⟨fun _ _ => Nat.le_refl 1, fun v h => print_length v h, fun v h f K rest hf hr => readEqValue_val v h f hf K rest hr⟩

/-- `c` as an operand: read by `readEqValue`, nested equations by `readEq f`; `K` counts the `!` in front -/
def AtomRead (w : Val → Nat) (c : Eqn) : Prop :=
  ∀ (f K : Nat) (rest : Bytes), c.need w ≤ f → eqnSize c ≤ K → pathEnd rest = true →
    readEqValue (readEq f) K (c.text ++ rest) = some (c, rest)

/-- `c` as an equation: read by `readEqBody` -/
def BodyRead (w : Val → Nat) (c : Eqn) : Prop :=
  ∀ (f K : Nat) (rest : Bytes), c.need w ≤ f → eqnSize c ≤ K → eqFollow rest = true →
    bodyK (readEq f) K (c.text ++ rest) = some (c, dropSpaces rest)

theorem BodyRead.of_atom {w : Val → Nat} {c : Eqn} (h : AtomRead w c) : BodyRead w c :=
  fun f K rest hf hK hr => bodyK_of_atom _ _ _ rest K (h f K rest hf hK (pathEnd_of_eqFollow hr)) hr

section
variable {A : Val → Prop} {w : Val → Nat} (H : LeafRead A w)
include H

theorem size_le_need : ∀ {c : Eqn}, Raw A c → eqnSize c ≤ c.need w := by
  intro c h
  induction h with
  | val h => exact H.pos _ h
  | not _ _ ih => simp only [eqnSize, Eqn.need]; omega
  | group _ ih => simp only [eqnSize, Eqn.need]; omega
  | fn _ h => have := H.pos _ h; simp only [eqnSize, Eqn.need]; omega
  | inf _ _ _ _ _ ihl ihr => simp only [eqnSize, Eqn.need]; omega
  | call _ _ _ ihl ihr => simp only [eqnSize, Eqn.need]; omega

theorem need_le_text : ∀ {c : Eqn}, Raw A c → c.need w ≤ c.text.length := by
  intro c h
  induction h with
  | val h => exact H.len _ h
  | not _ _ ih => simp [text_not, Eqn.need]; omega
  | group _ ih => simp [text_group, Eqn.need]; omega
  | fn ho h => have := H.len _ h; simp [text_fn ho, Eqn.need, text_val]; omega
  | @inf o l r hi _ _ _ _ ihl ihr => simp [text_infix ((isInfix_iff o).1 hi).2 l r, Eqn.need]; omega
  | call ho _ _ ihl ihr => simp [text_call (CallOp.facts ho).call, Eqn.need]; omega

theorem readEq_of_body {l : Eqn} (hl : Raw A l) (hP : BodyRead w l)
    (f : Nat) (rest : Bytes) (hf : l.need w + 1 ≤ f) (hr : eqFollow rest = true) :
    readEq f (l.text ++ rest) = some (l, dropSpaces rest) ∧
    readEq f (32 :: (l.text ++ rest)) = some (l, dropSpaces rest) := by
  have h1 := size_le_need H hl
  have h2 := need_le_text H hl
  obtain ⟨f, rfl⟩ : ∃ k, f = k + 1 := ⟨f - 1, by omega⟩
  simp only [readEq, readEqBody_eq]
  constructor
  · exact hP f _ rest (by omega) (by simp; omega) hr
  · rw [bodyK_space]
    exact hP f _ rest (by omega) (by simp; omega) hr

theorem readEq_nested {l : Eqn} (hl : Raw A l) (hP : BodyRead w l) (f : Nat) (hf : l.need w + 1 ≤ f) (d : UInt8)
    (hd : d = 41 ∨ d = 44) (rest : Bytes) :
    readEq f (l.text ++ d :: rest) = some (l, d :: rest) ∧ readEq f (32 :: (l.text ++ d :: rest)) = some (l, d :: rest) := by
  have := readEq_of_body H hl hP f (d :: rest) hf (by rcases hd with rfl | rfl <;> simp [eqFollow, dropSpaces, peek])
  rwa [dropSpaces_cons_ne rest (by rcases hd with rfl | rfl <;> decide)] at this

/-- the two statements proved together: an atom is read by `readEqValue`, a chain by `readEqBody` -/
theorem readEq_core {c : Eqn} (h : Raw A c) : (c.isAtom = true → AtomRead w c) ∧ BodyRead w c := by
  induction h with
  | @val v hv =>
    have hQ : AtomRead w (.val v) := by
      intro f K rest hf hK hr
      obtain ⟨K, rfl⟩ : ∃ k, K = k + 1 := ⟨K - 1, by simp [eqnSize] at hK; omega⟩
      exact H.read v hv f K rest hf hr
    exact ⟨fun _ => hQ, .of_atom hQ⟩
  | @not l hla hl ih =>
    have hQ : AtomRead w (.un Gen.JpOps.op_not l) := by
      intro f K rest hf hK hr
      obtain ⟨K, rfl⟩ : ∃ k, K = k + 1 := ⟨K - 1, by simp [eqnSize] at hK; omega⟩
      simp only [eqnSize, Eqn.need] at hf hK
      rw [text_not, List.cons_append]
      exact readEqValue_not _ K _ l rest (ih.1 hla f K rest (by omega) (by omega) hr)
    exact ⟨fun _ => hQ, .of_atom hQ⟩
  | @group l hl ih =>
    have hQ : AtomRead w (.un Gen.JpOps.op_group l) := by
      intro f K rest hf hK hr
      obtain ⟨K, rfl⟩ : ∃ k, K = k + 1 := ⟨K - 1, by simp [eqnSize] at hK; omega⟩
      simp only [eqnSize, Eqn.need] at hf hK
      rw [text_group, List.cons_append, List.append_assoc, List.singleton_append]
      exact readEqValue_group _ K _ l rest (readEq_nested H hl ih.2 f (by omega) 41 (Or.inl rfl) rest).1
    exact ⟨fun _ => hQ, .of_atom hQ⟩
  | @fn o x ho hx =>
    have ih : BodyRead w (.val (.expr x)) := .of_atom fun f K rest hf hK hr => by
      obtain ⟨K, rfl⟩ : ∃ k, K = k + 1 := ⟨K - 1, by simp [eqnSize] at hK; omega⟩
      exact H.read _ hx f K rest hf hr
    have hQ : AtomRead w (.un o (.val (.expr x))) := by
      intro f K rest hf hK hr
      obtain ⟨K, rfl⟩ : ∃ k, K = k + 1 := ⟨K - 1, by simp [eqnSize] at hK; omega⟩
      simp only [eqnSize, Eqn.need] at hf hK
      rw [text_fn ho, List.append_assoc, List.cons_append, List.append_assoc, List.singleton_append,
        readEqValue_fn _ K o (fnNameOK_fn ho),
        readOpArgs_one _ _ _ _ rest (readEq_nested H (.val hx) ih f (by simp only [Eqn.need]; omega) 41 (Or.inl rfl) rest).1]
    exact ⟨fun _ => hQ, .of_atom hQ⟩
  | @inf o l r hi ho hla hl hr ihl ihr =>
    -- an infix node: the atom `l`, the operator, the rest of the chain
    refine ⟨fun ha => by simp [Eqn.isAtom, hi] at ha, ?_⟩
    intro f K rest hf hK hfol
    simp only [eqnSize, Eqn.need] at hf hK
    rw [text_infix ((isInfix_iff o).1 hi).2 l r, List.append_assoc, List.cons_append, List.append_assoc,
      List.cons_append]
    have hv := ihl.1 hla f K (32 :: (o.name ++ 32 :: (r.text ++ rest))) (by omega) (by omega) rfl
    have hrd := (readEq_of_body H hr ihr.2 f rest (by omega) hfol).2
    simp only [bodyK, hv]
    rw [readEqLoop_infix (readEq f) o ho hi l r (r.text ++ rest) (dropSpaces rest) _ (by simp) hrd
      (by rw [eqFollow_dropSpaces]; exact hfol), dropSpaces_idem]
  | @call o l r ho hl hr ihl ihr =>
    have hQ : AtomRead w (.bin o l r) := by
      intro f K rest hf hK _
      obtain ⟨K, rfl⟩ : ∃ k, K = k + 1 := ⟨K - 1, by simp [eqnSize] at hK; omega⟩
      simp only [eqnSize, Eqn.need] at hf hK
      have e : o.name ++ 40 :: (l.text ++ 44 :: 32 :: (r.text ++ [41])) ++ rest =
          o.name ++ 40 :: (l.text ++ 44 :: 32 :: (r.text ++ 41 :: rest)) := by
        simp [List.append_assoc]
      rw [text_call (CallOp.facts ho).call, e, readEqValue_fn _ K o (fnNameOK_call ho),
        readOpArgs_two (readEq f) o l r _ _ rest (readEq_nested H hl ihl.2 f (by omega) 44 (Or.inr rfl) _).1
          (readEq_nested H hr ihr.2 f (by omega) 41 (Or.inl rfl) rest).2]
    exact ⟨fun _ => hQ, .of_atom hQ⟩

/-- **The equation reader reads the text of every raw chain back**, whatever its size and whatever its operands, as
long as these are read back: with fuel of more than `c.need w`, `readEq` applied to the text of `c` followed by an
equation terminator (also after one leading space) returns `c` and the terminator with its leading spaces removed. -/
theorem readEq_raw {c : Eqn} (h : Raw A c) (f : Nat) (rest : Bytes) (hf : c.need w + 1 ≤ f) (hr : eqFollow rest = true) :
    readEq f (c.text ++ rest) = some (c, dropSpaces rest) ∧
    readEq f (32 :: (c.text ++ rest)) = some (c, dropSpaces rest) :=
  readEq_of_body H h (readEq_core H h).2 f rest hf hr

/-- the fuel `parseEquation` and `parseExpr` use (length of the input + 1) is enough -/
theorem readEq_raw_len {c : Eqn} (h : Raw A c) (rest : Bytes) (hr : eqFollow rest = true) :
    readEq ((c.text ++ rest).length + 1) (c.text ++ rest) = some (c, dropSpaces rest) :=
  (readEq_raw H h _ rest (by have := need_le_text H h; simp; omega) hr).1

end

/-- **The case of simple operands** (`Eqn.raw`): fuel of more than the number of nodes is enough. (One more than
the number of nodes because the elements of a list constant are read as equations of their own.) -/
theorem readEq_text : ∀ (c : Eqn), c.raw = true → ∀ (f : Nat) (rest : Bytes), eqnSize c + 1 ≤ f → eqFollow rest = true →
    readEq f (c.text ++ rest) = some (c, dropSpaces rest) ∧
    readEq f (32 :: (c.text ++ rest)) = some (c, dropSpaces rest) :=
  fun c hraw f rest hf hr => readEq_raw .simple (.of_raw c hraw) f rest (by rw [need_one]; exact hf) hr

theorem readEq_text_len (c : Eqn) (hraw : c.raw = true) (rest : Bytes) (hr : eqFollow rest = true) :
    readEq ((c.text ++ rest).length + 1) (c.text ++ rest) = some (c, dropSpaces rest) :=
  readEq_raw_len .simple (.of_raw c hraw) rest hr

theorem bodyK_spaces (rec : P Eqn) (K n : Nat) (bs : Bytes) :
    bodyK rec K (List.replicate n 32 ++ bs) = bodyK rec K bs := by
  induction n with
  | zero => rfl
  | succ n ih => rw [List.replicate_succ, List.cons_append, bodyK_space, ih]

theorem readEq_text_spaces (c : Eqn) (hraw : c.raw = true) (f : Nat) (rest : Bytes) (hf : eqnSize c + 1 ≤ f)
    (hr : eqFollow rest = true) (n : Nat) :
    readEq f (List.replicate n 32 ++ (c.text ++ rest)) = some (c, dropSpaces rest) := by
  have h := Raw.of_raw c hraw
  have hlen := need_le_text .simple h
  rw [need_one] at hlen
  obtain ⟨f, rfl⟩ : ∃ k, f = k + 1 := ⟨f - 1, by omega⟩
  simp only [readEq, readEqBody_eq]
  rw [bodyK_spaces]
  exact (readEq_core .simple h).2 f _ rest (by rw [need_one]; omega) (by simp; omega) hr

end OjgVerif.JPText
