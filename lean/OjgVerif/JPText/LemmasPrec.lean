import OjgVerif.JPText.LemmasOps
/-! # C14 lemmas: `precedentCorrect` on the reader's output, for trees of ANY size

`readEq` builds a right-nested chain whatever the operators are; `precedentCorrect` (model: `precCorrect`,
with fuel) regroups it by precedence. Proved here by induction (no enumeration):

* `pc_idem` — a properly parenthesised tree is left as it is;
* `pc_insert` — the rotation step: `T o X` with `X` done goes down the left spine of `X`;
* `pc_chain` — a chain of operands and infix operators is turned into a properly parenthesised tree with
  the same operands and operators in the same order, with fuel linear in the size;
* `pd_unique` — a properly parenthesised tree is determined by its operands and operators in order;
* `precCorrect_chainify` — hence `precCorrect (chainify g) = g` for every properly parenthesised `g`,
  with the fuel `precFuel` the entry points use. -/
namespace OjgVerif.JPText

theorem pc_val (f : Nat) (v : Val) : precCorrect (f+1) (.val v) = some (.val v) := by
  simp [precCorrect]

theorem pc_un (f : Nat) (o : Op) (l l' : Eqn) (h : precCorrect f l = some l') :
    precCorrect (f+1) (.un o l) = some (.un o l') := by
  simp [precCorrect, h]

theorem pc_bin_val (f : Nat) (o : Op) (l l' : Eqn) (v : Val) (h : precCorrect f l = some l') :
    precCorrect (f+1) (.bin o l (.val v)) = some (.bin o l' (.val v)) := by
  simp [precCorrect, h]

theorem pc_bin_keep (f : Nat) (o : Op) (l l' r r' : Eqn) (hl : precCorrect f l = some l')
    (hr : precCorrect f r = some r') (h1 : isCall o = true ∨ (topPrec r < o.prec ∧ topPrec r' < o.prec)) :
    precCorrect (f+1) (.bin o l r) = some (.bin o l' r') := by
  cases r with
  | val v =>
    cases f with
    | zero => simp [precCorrect] at hr
    | succ f => simp [precCorrect] at hr; subst hr; simp [precCorrect, hl]
  | un ro _ | bin ro _ _ =>
    rcases h1 with h1 | ⟨h1, h2⟩
    · simp [precCorrect, hl, h1, hr]
    · cases hc : isCall o
      · simp only [topPrec, Eqn.op?] at h1
        have : ¬ o.prec ≤ ro.prec := by omega
        simp only [precCorrect, hl, hc, this, hr]
        cases hop : r'.op? with
        | none => simp
        | some ro2 =>
          simp only [topPrec, hop] at h2
          have : ¬ o.prec ≤ ro2.prec := by omega
          simp [this]
      · simp [precCorrect, hl, hc, hr]

theorem pc_bin_rot (f : Nat) (o ro : Op) (l l' rl rr : Eqn) (hl : precCorrect f l = some l')
    (hc : isCall o = false) (h : o.prec ≤ ro.prec) :
    precCorrect (f+1) (.bin o l (.bin ro rl rr)) = precCorrect f (.bin ro (.bin o l' rl) rr) := by
  simp [precCorrect, hl, hc, h]

theorem pc_bin_again (f : Nat) (o ro : Op) (l l' rl rr r' : Eqn) (hl : precCorrect f l = some l')
    (hc : isCall o = false) (h : ¬ o.prec ≤ ro.prec) (hr : precCorrect f (.bin ro rl rr) = some r')
    (h2 : 1 ≤ o.prec) (h3 : o.prec ≤ topPrec r') :
    precCorrect (f+1) (.bin o l (.bin ro rl rr)) = precCorrect f (.bin o l' r') := by
  simp only [precCorrect, hl, hc, h, hr]
  cases hop : r'.op? with
  | none => simp [topPrec, hop] at h3; omega
  | some ro2 => simp only [topPrec, hop] at h3; simp [h3]

/-- `precedentCorrect` leaves a properly parenthesised tree as it is -/
theorem pc_idem : ∀ t : Eqn, t.pd = true → ∀ f, eqnSize t ≤ f → precCorrect f t = some t := by
  intro t
  induction t with
  | val v => intro _ f hf; cases f with
    | zero => simp [eqnSize] at hf
    | succ f => exact pc_val f v
  | un o l ih =>
    intro hp f hf
    simp only [Eqn.pd, Bool.and_eq_true] at hp
    cases f with
    | zero => simp [eqnSize] at hf
    | succ f => exact pc_un f o l l (ih hp.2 f (by simp [eqnSize] at hf; omega))
  | bin o l r ihl ihr =>
    intro hp f hf
    cases f with
    | zero => simp [eqnSize] at hf
    | succ f =>
      simp only [eqnSize] at hf
      cases hc : isCall o
      · simp only [Eqn.pd, hc, Bool.false_eq_true, if_false, Bool.and_eq_true, decide_eq_true_eq] at hp
        exact pc_bin_keep f o l l r r (ihl hp.2.2.2.1 f (by omega)) (ihr hp.2.2.2.2 f (by omega))
          (Or.inr ⟨hp.2.2.1, hp.2.2.1⟩)
      · simp only [Eqn.pd, hc, if_true, Bool.and_eq_true] at hp
        exact pc_bin_keep f o l l r r (ihl hp.2.1 f (by omega)) (ihr hp.2.2 f (by omega)) (Or.inl hc)

/-- `T o X` for a properly parenthesised `X`: `T o` goes down the left spine of `X` past every operator
that binds at least as loosely as `o` -/
def insertLeft (T : Eqn) (o : Op) : Eqn → Eqn
  | .bin xo xl xr => if o.prec ≤ xo.prec then .bin xo (insertLeft T o xl) xr else .bin o T (.bin xo xl xr)
  | x => .bin o T x

inductive Tok where
  | atom (e : Eqn)
  | op (o : Op)

/-- operands and infix operators from left to right; `!x`, `(x)`, `f(x, y)` are operands -/
def inorder : Eqn → List Tok
  | .bin o l r => if o.isInfix then inorder l ++ .op o :: inorder r else [.atom (.bin o l r)]
  | .un o l => [.atom (.un o l)]
  | .val v => [.atom (.val v)]

theorem inorder_atom (t : Eqn) (h : topPrec t = 0) : inorder t = [.atom t] := by
  cases t with
  | val v => rfl
  | un o l => rfl
  | bin o l r =>
    simp only [topPrec, Eqn.op?] at h
    simp [inorder, Op.isInfix, h]

theorem topPrec_insertLeft (T : Eqn) (o : Op) (X : Eqn) :
    topPrec (insertLeft T o X) = o.prec ∨ topPrec (insertLeft T o X) = topPrec X := by
  cases X with
  | val v => simp [insertLeft, topPrec, Eqn.op?]
  | un xo xl => simp [insertLeft, topPrec, Eqn.op?]
  | bin xo xl xr =>
    simp only [insertLeft]
    split <;> simp [topPrec, Eqn.op?]

theorem pd_infix {o : Op} {l r : Eqn} (ho : o.isInfix = true) :
    (Eqn.bin o l r).pd = true ↔ topPrec l ≤ o.prec ∧ topPrec r < o.prec ∧ l.pd = true ∧ r.pd = true := by
  rw [isInfix_iff] at ho
  simp [Eqn.pd, ho.2, ho.1]

theorem pd_bin_cases {o : Op} {l r : Eqn} (h : (Eqn.bin o l r).pd = true) :
    (o.isInfix = true ∧ topPrec l ≤ o.prec ∧ topPrec r < o.prec ∧ l.pd = true ∧ r.pd = true) ∨
    (o.isInfix = false ∧ isCall o = true ∧ o.prec = 0 ∧ l.pd = true ∧ r.pd = true) := by
  cases hc : isCall o
  · left
    simp only [Eqn.pd, hc, Bool.false_eq_true, if_false, Bool.and_eq_true, decide_eq_true_eq] at h
    refine ⟨by simp [Op.isInfix, hc, h.1], h.2.1, h.2.2.1, h.2.2.2.1, h.2.2.2.2⟩
  · right
    simp only [Eqn.pd, hc, if_true, Bool.and_eq_true, beq_iff_eq] at h
    exact ⟨by simp [Op.isInfix, hc], rfl, h.1, h.2.1, h.2.2⟩

theorem pd_topPrec_atom {t : Eqn} (hp : t.pd = true) (h : t.isAtom = true) : topPrec t = 0 := by
  cases t with
  | val v => rfl
  | un o l => simp only [Eqn.pd, Bool.and_eq_true, beq_iff_eq] at hp; simp [topPrec, Eqn.op?, hp.1]
  | bin o l r =>
    rcases pd_bin_cases hp with h1 | h1
    · simp [Eqn.isAtom, h1.1] at h
    · simp [topPrec, Eqn.op?, h1.2.2.1]

/-- the step of `precedentCorrect` at an infix node whose left operand is done and whose right operand is
properly parenthesised already. The fuel: every node of `X` on the way down its left spine costs two units (the call
at `T o X` and, after the rotation, the call on the rotated node), and `eqnSize T` pays for `pc_idem` on `T`. -/
theorem pc_insert (T : Eqn) (o : Op) (hT : T.pd = true) (ho : o.isInfix = true) (hTo : topPrec T ≤ o.prec) :
    ∀ X : Eqn, X.pd = true → ∀ f, eqnSize T + 2 * eqnSize X + 1 ≤ f →
      precCorrect f (.bin o T X) = some (insertLeft T o X) ∧ (insertLeft T o X).pd = true ∧
      eqnSize (insertLeft T o X) = 1 + eqnSize T + eqnSize X ∧
      inorder (insertLeft T o X) = inorder T ++ .op o :: inorder X := by
  have ho' := (isInfix_iff o).1 ho
  intro X
  induction X with
  | val v =>
    intro _ f hf
    cases f with
    | zero => omega
    | succ f =>
      refine ⟨pc_bin_val f o T T v (pc_idem T hT f (by omega)), ?_, by simp [insertLeft, eqnSize],
        by simp [insertLeft, inorder, ho]⟩
      exact (pd_infix ho).2 ⟨hTo, by simp [topPrec, Eqn.op?]; omega, hT, rfl⟩
  | un xo xl _ =>
    intro hX f hf
    cases f with
    | zero => omega
    | succ f =>
      have hx0 : xo.prec = 0 := by simp only [Eqn.pd, Bool.and_eq_true, beq_iff_eq] at hX; exact hX.1
      have htx : topPrec (.un xo xl) < o.prec := by simp [topPrec, Eqn.op?, hx0]; omega
      refine ⟨pc_bin_keep f o T T _ _ (pc_idem T hT f (by omega)) (pc_idem _ hX f (by omega)) (Or.inr ⟨htx, htx⟩),
        ?_, by simp [insertLeft, eqnSize], by simp [insertLeft, inorder, ho]⟩
      simp only [insertLeft, pd_infix ho]; exact ⟨hTo, htx, hT, hX⟩
  | bin xo xl xr ihl _ =>
    intro hX f hf
    cases f with
    | zero => omega
    | succ f =>
      simp only [eqnSize] at hf
      by_cases hle : o.prec ≤ xo.prec
      · -- rotation
        have hxo : xo.isInfix = true := by
          rcases pd_bin_cases hX with h1 | h1
          · exact h1.1
          · omega
        have hX' := (pd_infix hxo).1 hX
        cases f with
        | zero => omega
        | succ f =>
          have ih := ihl hX'.2.2.1 f (by omega)
          have hL : topPrec (insertLeft T o xl) ≤ xo.prec := by
            rcases topPrec_insertLeft T o xl with h | h <;> rw [h] <;> omega
          have hpd : (Eqn.bin xo (insertLeft T o xl) xr).pd = true := (pd_infix hxo).2 ⟨hL, hX'.2.1, ih.2.1, hX'.2.2.2⟩
          refine ⟨?_, by simpa [insertLeft, hle] using hpd, by simp [insertLeft, hle, eqnSize, ih.2.2.1]; omega,
            by simp [insertLeft, hle, inorder, hxo, ih.2.2.2]⟩
          rw [pc_bin_rot (f+1) o xo T T xl xr (pc_idem T hT _ (by omega)) ho'.2 hle]
          simp only [insertLeft, hle, if_true]
          have hr := pc_idem xr hX'.2.2.2 f (by omega)
          exact pc_bin_keep f xo _ _ xr xr ih.1 hr (Or.inr ⟨hX'.2.1, hX'.2.1⟩)
      · have htx : topPrec (.bin xo xl xr) < o.prec := by simp [topPrec, Eqn.op?]; omega
        have hk := pc_bin_keep f o T T _ _ (pc_idem T hT f (by omega))
          (pc_idem _ hX f (by simp [eqnSize]; omega)) (Or.inr ⟨htx, htx⟩)
        refine ⟨by simpa [insertLeft, hle] using hk, ?_, by simp [insertLeft, hle, eqnSize], by simp [insertLeft, hle, inorder, ho]⟩
        simp only [insertLeft, hle, if_false, pd_infix ho]; exact ⟨hTo, htx, hT, hX⟩

/-- an operand of a chain and what `precedentCorrect` makes of it -/
structure AtomFix (a a' : Eqn) : Prop where
  fix : ∀ f, 3 * eqnSize a ≤ f → precCorrect f a = some a'
  size : eqnSize a' = eqnSize a
  pd : a'.pd = true
  top : topPrec a = 0
  top' : topPrec a' = 0

/-- `R` is a right-nested chain of operands and infix operators; `toks`: the corrected operands and the
operators, from left to right -/
inductive Chain : Eqn → List Tok → Prop
  | atom (a a' : Eqn) : AtomFix a a' → Chain a [.atom a']
  | cons (ro : Op) (a a' rr : Eqn) (toks : List Tok) : ro.isInfix = true → AtomFix a a' → Chain rr toks →
      Chain (.bin ro a rr) (.atom a' :: .op ro :: toks)

theorem pc_bin_atom (f : Nat) (o : Op) (T T' a a' : Eqn) (hT : precCorrect f T = some T')
    (ha : precCorrect f a = some a') (top : topPrec a = 0) (top' : topPrec a' = 0) (ho : o.isInfix = true) :
    precCorrect (f+1) (.bin o T a) = some (.bin o T' a') := by
  have ho' := (isInfix_iff o).1 ho
  exact pc_bin_keep f o T T' a a' hT ha (Or.inr ⟨by omega, by omega⟩)

/-- a chain `T o R` is corrected to a properly parenthesised tree with the same operands and operators in order. The
fuel: `nT` corrects `T`; every link of `R` costs three units (its own call, and the two of `pc_insert` when `T o` goes
down the corrected rest), an operand `a` its `3 * eqnSize a` (`AtomFix.fix`); 2 for the node `T o R` itself. -/
theorem pc_chain : ∀ (R : Eqn) (toks : List Tok), Chain R toks → ∀ (T T' : Eqn) (o : Op) (nT : Nat),
    (∀ f, nT ≤ f → precCorrect f T = some T') → eqnSize T ≤ nT → eqnSize T' = eqnSize T → T'.pd = true →
    topPrec T' ≤ o.prec → o.isInfix = true →
    ∃ t', (∀ f, nT + 3 * eqnSize R + 2 ≤ f → precCorrect f (.bin o T R) = some t') ∧ t'.pd = true ∧
      eqnSize t' = 1 + eqnSize T + eqnSize R ∧ inorder t' = inorder T' ++ .op o :: toks ∧ 1 ≤ topPrec t' := by
  intro R toks hch
  induction hch with
  | atom a a' ha =>
    intro T T' o nT hT hn hs hp hTo ho
    have ho' := (isInfix_iff o).1 ho
    refine ⟨.bin o T' a', ?_, (pd_infix ho).2 ⟨hTo, by rw [ha.top']; omega, hp, ha.pd⟩,
      by simp [eqnSize, hs, ha.size], by simp [inorder, ho, inorder_atom a' ha.top'], by simp [topPrec, Eqn.op?]; omega⟩
    intro f hf
    cases f with
    | zero => omega
    | succ f => exact pc_bin_atom f o T T' a a' (hT f (by omega)) (ha.fix f (by omega)) ha.top ha.top' ho
  | cons ro a a' rr toks hro ha _ ih =>
    intro T T' o nT hT hn hs hp hTo ho
    have ho' := (isInfix_iff o).1 ho
    by_cases hle : o.prec ≤ ro.prec
    · -- rotation: `(T o a) ro rr`
      have hT2 : ∀ f, nT + 3 * eqnSize a + 1 ≤ f → precCorrect f (.bin o T' a) = some (.bin o T' a') := by
        intro f hf
        cases f with
        | zero => omega
        | succ f =>
          exact pc_bin_atom f o T' T' a a' (pc_idem T' hp f (by omega)) (ha.fix f (by omega)) ha.top ha.top' ho
      have hp2 : (Eqn.bin o T' a').pd = true := (pd_infix ho).2 ⟨hTo, by rw [ha.top']; omega, hp, ha.pd⟩
      obtain ⟨t', h1, h2, h3, h4, h5⟩ := ih (.bin o T' a) (.bin o T' a') ro (nT + 3 * eqnSize a + 1) hT2
        (by simp only [eqnSize]; have := eqnSize_pos a; omega) (by simp [eqnSize, ha.size]) hp2
        (by simpa [topPrec, Eqn.op?] using hle) hro
      refine ⟨t', ?_, h2, by rw [h3]; simp only [eqnSize]; omega, by simp [h4, inorder, ho, inorder_atom a' ha.top'], h5⟩
      intro f hf
      cases f with
      | zero => omega
      | succ f =>
        simp only [eqnSize] at hf
        rw [pc_bin_rot f o ro T T' a rr (hT f (by omega)) ho'.2 hle]
        exact h1 f (by omega)
    · -- the rest first, then `T o` goes down its left spine
      obtain ⟨r', h1, h2, h3, h4, h5⟩ := ih a a' ro (3 * eqnSize a) ha.fix (by omega) ha.size ha.pd (by rw [ha.top']; omega) hro
      have hins := pc_insert T' o hp ho hTo r' h2
      refine ⟨insertLeft T' o r', ?_, ?_, ?_, ?_, ?_⟩
      · intro f hf
        cases f with
        | zero => omega
        | succ f =>
          simp only [eqnSize] at hf
          have hr : precCorrect f (.bin ro a rr) = some r' := h1 f (by omega)
          by_cases h6 : o.prec ≤ topPrec r'
          · rw [pc_bin_again f o ro T T' a rr r' (hT f (by omega)) ho'.2 hle hr ho'.1 h6]
            exact (hins f (by rw [h3, hs]; omega)).1
          · have hk := pc_bin_keep f o T T' _ r' (hT f (by omega)) hr
              (Or.inr ⟨by simp [topPrec, Eqn.op?]; omega, by omega⟩)
            rw [hk]
            cases r' with
            | val v => rfl
            | un xo xl => rfl
            | bin xo xl xr =>
              simp only [topPrec, Eqn.op?] at h6
              simp [insertLeft, h6]
      · exact (hins _ (Nat.le_refl _)).2.1
      · rw [(hins _ (Nat.le_refl _)).2.2.1, h3, hs]; rfl
      · rw [(hins _ (Nat.le_refl _)).2.2.2, h4, inorder_atom a' ha.top']; simp
      · rcases topPrec_insertLeft T' o r' with h | h <;> rw [h] <;> omega

def Tok.isOp : Tok → Option Op
  | .op o => some o
  | .atom _ => none

theorem inorder_ne_nil (t : Eqn) : inorder t ≠ [] := by
  cases t with
  | val v => simp [inorder]
  | un o l => simp [inorder]
  | bin o l r => simp only [inorder]; split <;> simp

theorem ops_le_top : ∀ t : Eqn, t.pd = true → ∀ o', Tok.op o' ∈ inorder t → o'.prec ≤ topPrec t := by
  intro t
  induction t with
  | val v => intro _ o' h; simp [inorder] at h
  | un o l _ => intro _ o' h; simp [inorder] at h
  | bin o l r ihl ihr =>
    intro hp o' h
    rcases pd_bin_cases hp with h1 | h1
    · simp only [inorder, h1.1, if_true, List.mem_append, List.mem_cons] at h
      simp only [topPrec, Eqn.op?]
      rcases h with h | h | h
      · have := ihl h1.2.2.2.1 o' h; omega
      · cases h; omega
      · have := ihr h1.2.2.2.2 o' h; omega
    · simp [inorder, h1.1] at h

theorem inorder_of_atom {t : Eqn} (h : t.isAtom = true) : inorder t = [.atom t] := by
  cases t with
  | bin o l r => simp only [Eqn.isAtom, Bool.not_eq_true'] at h; simp [inorder, h]
  | _ => rfl

theorem atom_or_infix (t : Eqn) : t.isAtom = true ∨ ∃ o l r, t = .bin o l r ∧ o.isInfix = true := by
  cases t with
  | bin o l r => cases h : o.isInfix <;> simp [Eqn.isAtom, h]
  | _ => exact Or.inl rfl

theorem inorder_infix_ne_singleton {o : Op} (hi : o.isInfix = true) (l r : Eqn) (a : Tok) :
    inorder (.bin o l r) ≠ [a] := by
  intro h
  rw [inorder, if_pos hi] at h
  have h1 := congrArg List.length h
  have h2 := List.length_pos_iff.2 (inorder_ne_nil l)
  simp only [List.length_append, List.length_cons, List.length_nil] at h1
  omega

theorem pd_unique_atom {t1 : Eqn} (ha : t1.isAtom = true) (t2 : Eqn) (h : inorder t1 = inorder t2) : t1 = t2 := by
  rw [inorder_of_atom ha] at h
  rcases atom_or_infix t2 with ha2 | ⟨o, l, r, rfl, hi⟩
  · rw [inorder_of_atom ha2] at h; simpa using h
  · exact absurd h.symm (inorder_infix_ne_singleton hi l r _)

/-- the top operator of a properly parenthesised token list is where everything to the left binds at least as
tightly and everything to the right more tightly: there is one such place -/
theorem split_unique {A A2 B B2 : List Tok} {o o2 : Op} (h : A ++ .op o :: B = A2 ++ .op o2 :: B2)
    (hA : ∀ p, Tok.op p ∈ A → p.prec ≤ o.prec) (hB : ∀ p, Tok.op p ∈ B → p.prec < o.prec)
    (hA2 : ∀ p, Tok.op p ∈ A2 → p.prec ≤ o2.prec) (hB2 : ∀ p, Tok.op p ∈ B2 → p.prec < o2.prec) :
    A = A2 ∧ o = o2 ∧ B = B2 := by
  rcases List.append_eq_append_iff.1 h with ⟨m, hm1, hm2⟩ | ⟨m, hm1, hm2⟩
  · cases m with
    | nil =>
      simp only [List.append_nil, List.nil_append, List.cons.injEq, Tok.op.injEq] at hm1 hm2
      exact ⟨hm1.symm, hm2.1, hm2.2⟩
    | cons x m =>
      -- `o` stands in `A2` and `o2` in `B`
      simp only [List.cons_append, List.cons.injEq] at hm2
      have := hA2 o (by rw [hm1, ← hm2.1]; simp)
      have := hB o2 (by rw [hm2.2]; simp)
      omega
  · cases m with
    | nil =>
      simp only [List.append_nil, List.nil_append, List.cons.injEq, Tok.op.injEq] at hm1 hm2
      exact ⟨hm1, hm2.1.symm, hm2.2.symm⟩
    | cons x m =>
      simp only [List.cons_append, List.cons.injEq] at hm2
      have := hA o2 (by rw [hm1, ← hm2.1]; simp)
      have := hB2 o (by rw [hm2.2]; simp)
      omega

theorem pd_unique : ∀ t1 : Eqn, t1.pd = true → ∀ t2 : Eqn, t2.pd = true → inorder t1 = inorder t2 → t1 = t2 := by
  intro t1
  induction t1 with
  | val v => exact fun _ t2 _ h => pd_unique_atom rfl t2 h
  | un o l _ => exact fun _ t2 _ h => pd_unique_atom rfl t2 h
  | bin o l r ihl ihr =>
    intro hp t2 hp2 h
    rcases pd_bin_cases hp with h1 | h1
    · rcases atom_or_infix t2 with ha2 | ⟨o2, l2, r2, rfl, hi2⟩
      · exact (pd_unique_atom ha2 _ h.symm).symm
      · have h2 := (pd_infix hi2).1 hp2
        simp only [inorder, h1.1, hi2, if_true] at h
        obtain ⟨e1, e2, e3⟩ := split_unique h
          (fun p hp => Nat.le_trans (ops_le_top l h1.2.2.2.1 p hp) h1.2.1)
          (fun p hp => Nat.lt_of_le_of_lt (ops_le_top r h1.2.2.2.2 p hp) h1.2.2.1)
          (fun p hp => Nat.le_trans (ops_le_top l2 h2.2.2.1 p hp) h2.1)
          (fun p hp => Nat.lt_of_le_of_lt (ops_le_top r2 h2.2.2.2 p hp) h2.2.1)
        rw [ihl h1.2.2.2.1 l2 h2.2.2.1 e1, ihr h1.2.2.2.2 r2 h2.2.2.2 e3, e2]
    · exact pd_unique_atom (by simp [Eqn.isAtom, h1.1]) t2 h

theorem eqnSize_appendChain : ∀ (c : Eqn) (o : Op) (d : Eqn), eqnSize (appendChain c o d) = 1 + eqnSize c + eqnSize d := by
  intro c
  induction c with
  | val v => intro o d; simp [appendChain, eqnSize]
  | un co cl _ => intro o d; simp [appendChain, eqnSize]
  | bin co cl cr _ ihr =>
    intro o d
    simp only [appendChain]
    split
    · simp only [eqnSize, ihr]; omega
    · simp [eqnSize]

theorem eqnSize_chainify : ∀ g : Eqn, eqnSize (chainify g) = eqnSize g := by
  intro g
  induction g with
  | val v => rfl
  | un o l ih => simp [chainify, eqnSize, ih]
  | bin o l r ihl ihr =>
    simp only [chainify]
    split
    · rw [eqnSize_appendChain, ihl, ihr]; rfl
    · simp [eqnSize, ihl, ihr]

theorem chain_append {c d : Eqn} {tc td : List Tok} (o : Op) (ho : o.isInfix = true) (hc : Chain c tc) (hd : Chain d td) :
    Chain (appendChain c o d) (tc ++ .op o :: td) := by
  induction hc with
  | atom a a' ha =>
    cases a with
    | val v => exact Chain.cons o _ a' d td ho ha hd
    | un co cl => exact Chain.cons o _ a' d td ho ha hd
    | bin co cl cr =>
      have h0 := ha.top
      simp only [topPrec, Eqn.op?] at h0
      have : co.isInfix = false := by simp [Op.isInfix, h0]
      simp only [appendChain, this, Bool.false_eq_true, if_false]
      exact Chain.cons o _ a' d td ho ha hd
  | cons ro a a' rr toks hro ha _ ih =>
    simp only [appendChain, hro, if_true]
    exact Chain.cons ro a a' _ _ hro ha ih

/-- with fuel at least three times the size, `precedentCorrect` turns the flattened `g` back into `g` -/
def FixG (g : Eqn) : Prop := ∀ f, 3 * eqnSize g ≤ f → precCorrect f (chainify g) = some g

theorem atomFix_of (g : Eqn) (hp : g.pd = true) (ha : g.isAtom = true) (hfix : FixG g) : AtomFix (chainify g) g := by
  refine ⟨by intro f hf; exact hfix f (by rw [eqnSize_chainify] at hf; exact hf), (eqnSize_chainify g).symm, hp, ?_,
    pd_topPrec_atom hp ha⟩
  have h0 := pd_topPrec_atom hp ha
  cases g with
  | val v => rfl
  | un o l => simpa [chainify, topPrec, Eqn.op?] using h0
  | bin o l r =>
    have : o.isInfix = false := by simpa [Eqn.isAtom] using ha
    simpa [chainify, this, topPrec, Eqn.op?] using h0

theorem chainOf (n : Nat) (H : ∀ a : Eqn, eqnSize a ≤ n → a.pd = true → FixG a) :
    ∀ g : Eqn, eqnSize g ≤ n → g.pd = true → Chain (chainify g) (inorder g) := by
  intro g
  induction g with
  | val v => intro hn hp; exact Chain.atom _ _ (atomFix_of _ hp rfl (H _ hn hp))
  | un o l _ => intro hn hp; exact Chain.atom _ _ (atomFix_of _ hp rfl (H _ hn hp))
  | bin o l r ihl ihr =>
    intro hn hp
    rcases pd_bin_cases hp with h1 | h1
    · simp only [eqnSize] at hn
      simp only [chainify, inorder, h1.1, if_true]
      exact chain_append o h1.1 (ihl (by omega) h1.2.2.2.1) (ihr (by omega) h1.2.2.2.2)
    · have hi : (Eqn.bin o l r).isAtom = true := by simp [Eqn.isAtom, h1.1]
      have := Chain.atom _ _ (atomFix_of _ hp hi (H _ hn hp))
      simpa [inorder, h1.1] using this

theorem fixG_all : ∀ (n : Nat) (g : Eqn), eqnSize g ≤ n → g.pd = true → FixG g := by
  intro n
  induction n with
  | zero => intro g hn; have := eqnSize_pos g; omega
  | succ n ih =>
    intro g hn hp f hf
    cases f with
    | zero => have := eqnSize_pos g; omega
    | succ f =>
      cases g with
      | val v => exact pc_val f v
      | un o l =>
        simp only [eqnSize] at hn hf
        simp only [Eqn.pd, Bool.and_eq_true] at hp
        exact pc_un f o _ l (ih l (by omega) hp.2 f (by omega))
      | bin o l r =>
        simp only [eqnSize] at hn hf
        rcases pd_bin_cases hp with h1 | h1
        · -- infix: the flattening is a chain of smaller operands (`ih`); `pc_chain` corrects it to a properly
          -- parenthesised tree with the tokens of `g`, which is `g` by `pd_unique`
          have hc : Chain (chainify (.bin o l r)) (inorder (.bin o l r)) := by
            simp only [chainify, inorder, h1.1, if_true]
            exact chain_append o h1.1 (chainOf n ih l (by omega) h1.2.2.2.1) (chainOf n ih r (by omega) h1.2.2.2.2)
          have hsz := eqnSize_chainify (.bin o l r)
          generalize hcg : chainify (.bin o l r) = t at hc hsz
          generalize hin : inorder (.bin o l r) = toks at hc
          cases hc with
          | atom a a' ha => exact absurd hin (inorder_infix_ne_singleton h1.1 l r _)
          | cons ro a a' rr toks' hro ha hrr =>
            obtain ⟨t', h2, h3, _, h5, _⟩ := pc_chain rr toks' hrr a a' ro (3 * eqnSize a) ha.fix (by omega) ha.size ha.pd
              (by rw [ha.top']; omega) hro
            have : t' = .bin o l r := by
              apply pd_unique t' h3 _ hp
              rw [h5, inorder_atom a' ha.top', hin]; rfl
            rw [← this]
            simp only [eqnSize] at hsz
            exact h2 (f+1) (by omega)
        · simp only [chainify, h1.1, Bool.false_eq_true, if_false]
          exact pc_bin_keep f o _ l _ r (ih l (by omega) h1.2.2.2.1 f (by omega)) (ih r (by omega) h1.2.2.2.2 f (by omega))
            (Or.inl h1.2.1)

/-- **`precedentCorrect` is a left inverse of the reader's flattening, for trees of any size**: for every
properly parenthesised tree `g` (any operators, any operands) the right-nested chain `chainify g` that
`readEq` builds for the text of `g` is turned back into `g`, with the fuel the entry points give
(`precFuel`: size² + 16, the square standing for the unbounded Go recursion). What the proof uses of it is
`3 * size ≤ precFuel` (`FixG`; `3 * size ≤ size² + 9` below): any bound of at least three times the size would do, and
the 16 is slack. -/
theorem precCorrect_chainify (g : Eqn) (hp : g.pd = true) :
    precCorrect (precFuel (chainify g)) (chainify g) = some g := by
  apply fixG_all (eqnSize g) g (Nat.le_refl _) hp
  rw [precFuel, eqnSize_chainify]
  have : eqnSize g * 3 ≤ eqnSize g * eqnSize g + 9 := by
    rcases Nat.lt_or_ge (eqnSize g) 3 with h | h
    · have : eqnSize g * 3 ≤ 9 := by omega
      omega
    · have := Nat.mul_le_mul_left (eqnSize g) h; omega
  omega
end OjgVerif.JPText
