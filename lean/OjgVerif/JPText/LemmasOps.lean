import OjgVerif.JPText.Chain
/-! # C14 lemmas: the operators, and every dispatcher node kind by node kind

The printers (`Equation.Append`, `Script.appendOp`), `buildScript`, `Equation.infix`, and the text of a tree
(`Eqn.text`) all dispatch on the operator code. The trees the general theorems speak of have five kinds of
nodes: `!x`, `(x)`, `length(x)`/`count(x)`, `l op r` for the 17 infix operators of the binary constructors
(`InfixOp`), `match(l, r)`/`search(l, r)`. Here every dispatcher is evaluated once for each kind, from the
regenerated operator table; the inductions of LemmasReadEq, LemmasEqn, LemmasScript, LemmasLeafy rewrite
with these equations. -/
namespace OjgVerif.JPText

theorem eqnSize_pos (t : Eqn) : 1 ≤ eqnSize t := by cases t <;> simp [eqnSize] <;> omega

/-- an operator of the binary constructors that is written between its operands: none of the codes the
dispatchers single out -/
structure InfixOp (o : Op) : Prop where
  bin : binOps.contains o = true
  prec : 1 ≤ o.prec
  call : isCall o = false
  not : isCode o Gen.JpOps.op_not = false
  get : isCode o Gen.JpOps.op_get = false
  length : isCode o Gen.JpOps.op_length = false
  count : isCode o Gen.JpOps.op_count = false
  group : isCode o Gen.JpOps.op_group = false
  cnt : o.cnt = 2
  name : lookupOp o.name = some o

/-- `InfixOp` without `bin`, as a Boolean: what `binOps_cases` evaluates, once, over `binOps` -/
def infixOpB (o : Op) : Bool :=
  decide (1 ≤ o.prec) && !isCall o && !isCode o Gen.JpOps.op_not && !isCode o Gen.JpOps.op_get &&
    !isCode o Gen.JpOps.op_length && !isCode o Gen.JpOps.op_count && !isCode o Gen.JpOps.op_group && o.cnt == 2 &&
    lookupOp o.name == some o

def CallOp (o : Op) : Prop := o = Gen.JpOps.op_match ∨ o = Gen.JpOps.op_search

theorem binOps_cases {o : Op} (h : binOps.contains o = true) : InfixOp o ∨ CallOp o := by
  have all : (binOps.all fun o => infixOpB o || o == Gen.JpOps.op_match || o == Gen.JpOps.op_search) = true := by
    decide +kernel
  have := List.all_eq_true.1 all o (by simpa using h)
  simp only [Bool.or_eq_true, beq_iff_eq, infixOpB, Bool.and_eq_true, decide_eq_true_eq, Bool.not_eq_true'] at this
  rcases this with (⟨⟨⟨⟨⟨⟨⟨⟨a, b⟩, c⟩, d⟩, e⟩, f⟩, g⟩, i⟩, j⟩ | hm) | hs
  · exact Or.inl ⟨h, a, b, c, d, e, f, g, i, j⟩
  · exact Or.inr (Or.inl hm)
  · exact Or.inr (Or.inr hs)

theorem isInfix_iff (o : Op) : o.isInfix = true ↔ 1 ≤ o.prec ∧ isCall o = false := by
  simp [Op.isInfix]

theorem InfixOp.isInfix {o : Op} (h : InfixOp o) : o.isInfix = true := (isInfix_iff o).2 ⟨h.prec, h.call⟩

theorem InfixOp.calls {o : Op} (h : InfixOp o) :
    isCode o Gen.JpOps.op_match = false ∧ isCode o Gen.JpOps.op_search = false ∧ o.code ≠ Gen.Jp.userOpCode := by
  have := h.call
  simp only [isCall, Bool.or_eq_false_iff, beq_eq_false_iff_ne] at this
  exact ⟨this.1.1, this.1.2, this.2⟩

theorem InfixOp.noParens {o : Op} (h : InfixOp o) : noParensCode o = false := by
  simp [noParensCode, h.not, h.length, h.count, h.group, h.calls.1, h.calls.2.1]

def FnOp (o : Op) : Prop := o = Gen.JpOps.op_length ∨ o = Gen.JpOps.op_count

/-- what the dispatchers see of `match` and `search` -/
structure CallFacts (o : Op) : Prop where
  bin : binOps.contains o = true
  call : isCall o = true
  isInfix : o.isInfix = false
  prec : o.prec = 0
  noParens : noParensCode o = true
  not : isCode o Gen.JpOps.op_not = false
  get : isCode o Gen.JpOps.op_get = false
  length : isCode o Gen.JpOps.op_length = false
  count : isCode o Gen.JpOps.op_count = false
  group : isCode o Gen.JpOps.op_group = false
  self : (isCode o Gen.JpOps.op_match || isCode o Gen.JpOps.op_search) = true

theorem CallOp.facts {o : Op} (h : CallOp o) : CallFacts o := by
  rcases h with rfl | rfl <;> constructor <;> decide

/-- what the dispatchers see of `length` and `count` -/
structure FnFacts (o : Op) : Prop where
  call : isCall o = false
  isInfix : o.isInfix = false
  prec : o.prec = 0
  noParens : noParensCode o = true
  not : isCode o Gen.JpOps.op_not = false
  get : isCode o Gen.JpOps.op_get = false
  group : isCode o Gen.JpOps.op_group = false
  self : (isCode o Gen.JpOps.op_length || isCode o Gen.JpOps.op_count) = true
  ne_get : o ≠ Gen.JpOps.op_get
  cnt : o.cnt = 1
  unary : (isCode o Gen.JpOps.op_not || isCode o Gen.JpOps.op_length || isCode o Gen.JpOps.op_count ||
    isCode o Gen.JpOps.op_group) = true

theorem FnOp.facts {o : Op} (h : FnOp o) : FnFacts o := by
  rcases h with rfl | rfl <;> constructor <;> decide

/-- what the dispatchers see of `!`, `(…)` and `get` -/
theorem unary_facts : isCode Gen.JpOps.op_not Gen.JpOps.op_group = false ∧ Gen.JpOps.op_not.prec = 0 ∧
    Gen.JpOps.op_group.prec = 0 ∧ isCode Gen.JpOps.op_group Gen.JpOps.op_group = true ∧
    isCode Gen.JpOps.op_not Gen.JpOps.op_not = true ∧ Gen.JpOps.op_not.name = [33] ∧
    isCode Gen.JpOps.op_not Gen.JpOps.op_length = false ∧ isCode Gen.JpOps.op_not Gen.JpOps.op_count = false ∧
    noParensCode Gen.JpOps.op_not = true ∧ noParensCode Gen.JpOps.op_group = true ∧
    isCode Gen.JpOps.op_group Gen.JpOps.op_not = false ∧ isCode Gen.JpOps.op_group Gen.JpOps.op_get = false ∧
    isCode Gen.JpOps.op_group Gen.JpOps.op_length = false ∧ isCode Gen.JpOps.op_group Gen.JpOps.op_count = false ∧
    isCode Gen.JpOps.op_group Gen.JpOps.op_match = false ∧ isCode Gen.JpOps.op_group Gen.JpOps.op_search = false ∧
    isCode Gen.JpOps.op_not Gen.JpOps.op_get = false ∧ Gen.JpOps.op_not.cnt = 1 ∧ Gen.JpOps.op_group.cnt = 1 ∧
    isCode Gen.JpOps.op_get Gen.JpOps.op_not = false ∧ isCode Gen.JpOps.op_get Gen.JpOps.op_get = true ∧
    noParensCode Gen.JpOps.op_get = false := by
  decide

theorem not_get : isCode Gen.JpOps.op_not Gen.JpOps.op_get = false := by decide

theorem text_not (l : Eqn) : (Eqn.un Gen.JpOps.op_not l).text = 33 :: l.text := by
  simp [Eqn.text, unary_facts]

theorem text_group (l : Eqn) : (Eqn.un Gen.JpOps.op_group l).text = 40 :: (l.text ++ [41]) := by
  simp [Eqn.text, unary_facts]

theorem text_fn {o : Op} (h : FnOp o) (l : Eqn) : (Eqn.un o l).text = o.name ++ 40 :: (l.text ++ [41]) := by
  simp [Eqn.text, h.facts.group, h.facts.self]

theorem text_infix {o : Op} (h : isCall o = false) (l r : Eqn) :
    (Eqn.bin o l r).text = l.text ++ 32 :: (o.name ++ 32 :: r.text) := by
  simp [Eqn.text, h]

theorem text_call {o : Op} (h : isCall o = true) (l r : Eqn) :
    (Eqn.bin o l r).text = o.name ++ 40 :: (l.text ++ 44 :: 32 :: (r.text ++ [41])) := by
  simp [Eqn.text, h]

theorem text_grp (p : Bool) (t : Eqn) : (grp p t).text = wrapParens p t.text := by
  cases p <;> simp [grp, wrapParens, text_group]

theorem infixPrec_not (l : Eqn) : (Eqn.un Gen.JpOps.op_not l).infixPrec? = none := by simp [Eqn.infixPrec?, unary_facts]
theorem infixPrec_group (l : Eqn) : (Eqn.un Gen.JpOps.op_group l).infixPrec? = none := by simp [Eqn.infixPrec?, unary_facts]
theorem infixPrec_fn {o : Op} (h : FnOp o) (l : Eqn) : (Eqn.un o l).infixPrec? = none := by
  simp [Eqn.infixPrec?, h.facts.noParens]
theorem infixPrec_call {o : Op} (h : CallOp o) (l r : Eqn) : (Eqn.bin o l r).infixPrec? = none := by
  simp [Eqn.infixPrec?, h.facts.noParens]
theorem infixPrec_infix {o : Op} (h : InfixOp o) (l r : Eqn) : (Eqn.bin o l r).infixPrec? = some o.prec := by
  simp [Eqn.infixPrec?, h.noParens, h.get]

theorem isInfix_not (l : Eqn) : (Eqn.un Gen.JpOps.op_not l).isInfix = false := by rw [Eqn.isInfix, infixPrec_not]; rfl
theorem isInfix_fn {o : Op} (h : FnOp o) (l : Eqn) : (Eqn.un o l).isInfix = false := by rw [Eqn.isInfix, infixPrec_fn h]; rfl
theorem isInfix_call {o : Op} (h : CallOp o) (l r : Eqn) : (Eqn.bin o l r).isInfix = false := by
  rw [Eqn.isInfix, infixPrec_call h]; rfl
theorem isInfix_infix {o : Op} (h : InfixOp o) (l r : Eqn) : (Eqn.bin o l r).isInfix = true := by
  rw [Eqn.isInfix, infixPrec_infix h]; rfl

theorem leftParens_isInfix {o : Op} {l : Eqn} (h : leftParens o l = true) : l.isInfix = true := by
  unfold leftParens at h; unfold Eqn.isInfix
  cases hq : l.infixPrec? with
  | none => rw [hq] at h; cases h
  | some p => rfl

theorem rightParens_isInfix {o : Op} {r : Eqn} (h : rightParens o r = true) : r.isInfix = true := by
  unfold rightParens at h; unfold Eqn.isInfix
  cases hq : r.infixPrec? with
  | none => rw [hq] at h; cases h
  | some p => rfl

theorem leftParens_group (o : Op) (X : Eqn) : leftParens o (.un Gen.JpOps.op_group X) = false := by
  simp [leftParens, infixPrec_group]
theorem rightParens_group (o : Op) (X : Eqn) : rightParens o (.un Gen.JpOps.op_group X) = false := by
  simp [rightParens, infixPrec_group]

theorem print_not (l : Eqn) (p : Bool) : (Eqn.un Gen.JpOps.op_not l).print p = (l.print l.isInfix).map (33 :: ·) := by
  simp only [Eqn.print, unary_facts, if_true, Bool.not_true, Bool.and_false]
  cases l.print l.isInfix <;> rfl

theorem print_group (l : Eqn) (p : Bool) : (Eqn.un Gen.JpOps.op_group l).print p = l.print l.isInfix := by
  simp only [Eqn.print, unary_facts, Bool.false_eq_true, if_false, if_true, Bool.not_true, Bool.and_false]
  cases l.print l.isInfix <;> rfl

theorem print_fn {o : Op} (h : FnOp o) (l : Eqn) (p : Bool) :
    (Eqn.un o l).print p = some (o.name ++ 40 :: (l.resultOf.print ++ [41])) := by
  simp [Eqn.print, h.facts.not, h.facts.get, h.facts.self, h.facts.noParens, wrapParens]

theorem print_get (l : Eqn) (p : Bool) : (Eqn.un Gen.JpOps.op_get l).print p = some (wrapParens p l.resultOf.print) := by
  simp [Eqn.print, unary_facts]

theorem print_infix {o : Op} (h : InfixOp o) (l r : Eqn) (p : Bool) : (Eqn.bin o l r).print p =
    (match l.print (leftParens o l), r.print (rightParens o r) with
     | some a, some b => some (a ++ 32 :: (o.name ++ 32 :: b))
     | _, _ => none).map (wrapParens p) := by
  simp only [Eqn.print, h.not, h.get, h.length, h.count, h.group, h.calls.1, h.calls.2.1, h.noParens, Bool.false_eq_true,
    if_false, Bool.or_self, Bool.not_false, Bool.and_true]
  rfl

theorem print_call {o : Op} (h : CallOp o) (l r : Eqn) (p : Bool) : (Eqn.bin o l r).print p =
    match l.print false, r.print false with
    | some a, some b => some (o.name ++ 40 :: (a ++ 44 :: 32 :: (b ++ [41])))
    | _, _ => none := by
  have f := h.facts
  simp only [Eqn.print, f.not, f.get, f.length, f.count, f.self, f.noParens, Bool.false_eq_true, if_false, if_true,
    Bool.or_self, Bool.not_true, Bool.and_false]
  cases l.print false <;> cases r.print false <;> rfl

theorem build_val (v : Val) : (Eqn.val v).build = [.val v] := rfl
theorem build_not (l : Eqn) : (Eqn.un Gen.JpOps.op_not l).build = .op Gen.JpOps.op_not :: l.build := by
  simp [Eqn.build, unary_facts]
theorem build_group (l : Eqn) : (Eqn.un Gen.JpOps.op_group l).build = .op Gen.JpOps.op_group :: l.build := by
  simp [Eqn.build, unary_facts]
theorem build_fn {o : Op} (h : FnOp o) (l : Eqn) : (Eqn.un o l).build = .op o :: l.build := by
  simp only [Eqn.build, h.facts.get, h.facts.unary, Bool.false_eq_true, if_false, if_true]
theorem build_get (l : Eqn) : (Eqn.un Gen.JpOps.op_get l).build = [.val l.resultOf] := by
  simp [Eqn.build, unary_facts]
theorem build_bin {o : Op} (h : binOps.contains o = true) (l r : Eqn) :
    (Eqn.bin o l r).build = .op o :: (l.build ++ r.build) := by
  rcases binOps_cases h with h | h
  · simp [Eqn.build, h.not, h.get, h.length, h.count, h.group]
  · have f := CallOp.facts h
    simp [Eqn.build, f.not, f.get, f.length, f.count, f.group]

theorem appendOp_not (x y : Option SItem) : appendOp Gen.JpOps.op_not x y = 33 :: SItem.app 0 x := by
  simp [appendOp, unary_facts]

theorem appendOp_group (x y : Option SItem) : appendOp Gen.JpOps.op_group x y = SItem.app 0 x := by
  simp [appendOp, unary_facts]

theorem appendOp_fn {o : Op} (h : FnOp o) (x y : Option SItem) :
    appendOp o x y = o.name ++ 40 :: (SItem.app 0 x ++ [41]) := by
  simp [appendOp, h.facts.not, h.facts.group, h.facts.self, h.facts.prec]

theorem appendOp_call {o : Op} (h : CallOp o) (x y : Option SItem) :
    appendOp o x y = o.name ++ 40 :: (SItem.app 0 x ++ 44 :: 32 :: (SItem.app 0 y ++ [41])) := by
  have f := h.facts
  simp [appendOp, f.not, f.group, f.length, f.count, f.self, f.prec]

theorem appendOp_infix {o : Op} (h : InfixOp o) (x y : Option SItem) :
    appendOp o x y = SItem.app o.prec x ++ 32 :: (o.name ++ 32 :: SItem.appRight o.prec y) := by
  simp only [appendOp, h.not, h.group, h.length, h.count, h.calls.1, h.calls.2.1, h.calls.2.2, Bool.false_eq_true, if_false,
    Bool.or_self]

end OjgVerif.JPText
