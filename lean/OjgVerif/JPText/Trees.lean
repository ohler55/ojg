import OjgVerif.JPText.Spec
/-! # C14: the finite space of small equation trees

Every equation tree with at most three operator nodes (the "every ordered pair and triple of operators
in every nesting shape" of the property), as lists over which membership in the class of the general theorems
(`Eqn.okC`) is evaluated (Sweep.lean). -/
namespace OjgVerif.JPText
open OjgVerif

inductive Shape where
  | leaf
  | un (o : Op) (s : Shape)
  | bin (o : Op) (l r : Shape)

def Shape.uns (us : List Op) (ss : List Shape) : List Shape := us.flatMap fun o => ss.map (.un o)
def Shape.bins (bs : List Op) (ls rs : List Shape) : List Shape :=
  bs.flatMap fun o => ls.flatMap fun l => rs.map fun r => .bin o l r

/-- trees with exactly 0, 1, 2 operator nodes over the unary operators `us` and the binary ones `bs` -/
def sh0 : List Shape := [.leaf]
def sh1 (us bs : List Op) : List Shape := Shape.uns us sh0 ++ Shape.bins bs sh0 sh0
def sh2 (us bs : List Op) : List Shape :=
  Shape.uns us (sh1 us bs) ++ Shape.bins bs sh0 (sh1 us bs) ++ Shape.bins bs (sh1 us bs) sh0

/-- leaves are the integer constants 1, 2, 3, … from left to right -/
def Shape.inst : Shape → Nat → Eqn × Nat
  | .leaf, n => (.val (.int (n + 1)), n + 1)
  | .un o s, n => (.un o (s.inst n).1, (s.inst n).2)
  | .bin o l r, n => (.bin o (l.inst n).1 (r.inst (l.inst n).2).1, (r.inst (l.inst n).2).2)

def Shape.eqn (s : Shape) : Eqn := (s.inst 0).1

/-- on this equation, each of the three text forms round-trips (in the model) exactly when Spec.lean
names no deviation for that form -/
def devsExact (e : Eqn) : Bool :=
  (devsEqn e).isEmpty == roundTripsEqn e && (devsScript e).isEmpty == roundTripsScript e &&
    (devsFilter e).isEmpty == roundTripsFilter e

/-- `Not` -/
def unOps : List Op := [Gen.JpOps.op_not]

/-- one binary constructor per precedence level, the two that do not commute at one level, a function -/
def levelOps : List Op :=
  [Gen.JpOps.op_mult, Gen.JpOps.op_add, Gen.JpOps.op_sub, Gen.JpOps.op_eq, Gen.JpOps.op_and, Gen.JpOps.op_match]

end OjgVerif.JPText
