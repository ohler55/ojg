import OjgVerif.JPText.LemmasInt
import OjgVerif.JPText.LemmasStr
/-! # C14 lemmas: every fragment kind is read back

`nextFrag`/`afterBracket`/`afterDot` of jp/parse.go applied to the text `Frag.Append` writes for a
token child (dot form, bare first form, after a descent), a quoted child with ANY key bytes, any index, a
wildcard, `[..]`, a slice of any shape, a union of two or more members (any member bytes) — followed by whatever may follow a fragment —
return the fragment (its normal form for slices, `Wildcard('#')` for `[*]`) and the rest. -/
namespace OjgVerif.JPText

/-- the text after a fragment: nothing, or a byte that ends a token (`tokenMap[b] == '.'`): inside a printed expression
a dot or a bracket; where the expression is an operand of an equation a space, `)`, `,`, `]`; `$` and `@` as well -/
def followerOK : Bytes → Bool
  | [] => true
  | b :: _ => tokCls b == 46

theorem tokCls_two (b : UInt8) : tokCls b = 46 ∨ tokCls b = 111 := by
  have := table_lookup (p := fun _ c => c == 46 || c == 111) Gen.Jp.tokenMap.toList 46 (by decide +kernel)
    (by decide +kernel) b
  rwa [Bool.or_eq_true, beq_iff_eq, beq_iff_eq] at this

theorem tokCls_specials : tokCls 36 = 46 ∧ tokCls 64 = 46 ∧ tokCls 46 = 46 ∧ tokCls 42 = 46 ∧ tokCls 91 = 46 ∧
    tokCls 93 = 46 := by decide +kernel

theorem tokCls_enders : tokCls 32 = 46 ∧ tokCls 41 = 46 ∧ tokCls 44 = 46 := by decide +kernel

theorem tok_not_special {c : UInt8} (h : tokCls c ≠ 46) :
    c ≠ 36 ∧ c ≠ 64 ∧ c ≠ 46 ∧ c ≠ 42 ∧ c ≠ 91 ∧ c ≠ 93 := by
  obtain ⟨h1, h2, h3, h4, h5, h6⟩ := tokCls_specials
  refine ⟨?_, ?_, ?_, ?_, ?_, ?_⟩ <;> (intro e; subst e; contradiction)

theorem takeTok_token (k tail : Bytes) (hk : ∀ c ∈ k, tokCls c ≠ 46) (ht : followerOK tail = true) :
    takeTok (k ++ tail) = (k, tail) := by
  induction k with
  | nil =>
    cases tail with
    | nil => rfl
    | cons b t =>
      have : tokCls b = 46 := by simpa [followerOK] using ht
      simp [takeTok, this]
  | cons c k ih =>
    have hc := hk c (by simp)
    have := ih (fun d hd => hk d (by simp [hd]))
    simp [takeTok, hc, this]

theorem tokenOk_iff (k : Bytes) : tokenOk k = true ↔ (∀ c ∈ k, tokCls c ≠ 46) ∧ k ≠ [] := by
  simp [tokenOk, List.all_eq_true]

theorem afterDot_token (k tail : Bytes) (hk : tokenOk k = true) (ht : followerOK tail = true) :
    afterDot (k ++ tail) = some (.child k, tail) := by
  obtain ⟨hall, hne⟩ := (tokenOk_iff k).mp hk
  cases k with
  | nil => exact absurd rfl hne
  | cons c k =>
    have hc := hall c (by simp)
    have hs := tok_not_special hc
    have := takeTok_token k tail (fun d hd => hall d (by simp [hd])) ht
    simp [afterDot, hs.2.2.1, hs.2.2.2.1, hc, this]

theorem afterDotDot_token (k tail : Bytes) (hk : tokenOk k = true) (ht : followerOK tail = true) :
    afterDotDot (k ++ tail) = some (.child k, tail) := by
  obtain ⟨hall, hne⟩ := (tokenOk_iff k).mp hk
  cases k with
  | nil => exact absurd rfl hne
  | cons c k =>
    have := takeTok_token k tail (fun d hd => hall d (by simp [hd])) ht
    simp [afterDotDot, this]

theorem nextFrag_child_dot (pf : P (List Item)) (first lastD : Bool) (k tail : Bytes) (hk : tokenOk k = true)
    (ht : followerOK tail = true) :
    nextFrag pf first lastD (46 :: (k ++ tail)) = some (some (.child k), tail) := by
  simp [nextFrag, afterDot_token k tail hk ht]

theorem nextFrag_child_bare (pf : P (List Item)) (first lastD : Bool) (k tail : Bytes) (hk : tokenOk k = true)
    (ht : followerOK tail = true) (hfl : first = true ∨ lastD = true) :
    nextFrag pf first lastD (k ++ tail) = some (some (.child k), tail) := by
  obtain ⟨hall, hne⟩ := (tokenOk_iff k).mp hk
  cases hk' : k with
  | nil => exact absurd hk' hne
  | cons c k' =>
    have hc := hall c (by simp [hk'])
    have hs := tok_not_special hc
    have h111 : tokCls c = 111 := by
      rcases tokCls_two c with h | h
      · exact absurd h hc
      · exact h
    have e1 := afterDot_token k tail hk ht
    have e2 := afterDotDot_token k tail hk ht
    rw [hk'] at e1 e2
    simp only [List.cons_append] at e1 e2 ⊢
    simp only [nextFrag, hs.1, hs.2.1, hs.2.2.1, hs.2.2.2.1, hs.2.2.2.2.1, hs.2.2.2.2.2, ↓reduceIte, h111]
    rcases hfl with h | h
    · simp [h, e1]
    · cases first <;> simp [h, e1, e2]

theorem skipSpace_cons {b : UInt8} (r : Bytes) (h : b ≠ 32) : skipSpace (b :: r) = (b, r) := by
  simp [skipSpace, skipSpaceAux, h]

theorem isDigit_range {d : UInt8} (h : isDigit d = true) : 48 ≤ d.toNat ∧ d.toNat ≤ 57 := by
  simp only [isDigit, Bool.and_eq_true, decide_eq_true_eq, UInt8.le_iff_toNat_le] at h
  exact ⟨by simpa using h.1, by simpa using h.2⟩

/-- the first byte of a decimal integer (`-` or a digit) is no byte outside that range: none of the bytes the
readers test for first -/
theorem numHead_ne {d : UInt8} (h : d = 45 ∨ isDigit d = true) (c : UInt8)
    (hc : c.toNat < 45 ∨ c.toNat = 46 ∨ c.toNat = 47 ∨ 57 < c.toNat := by decide) : d ≠ c := by
  rintro rfl
  rcases h with rfl | h
  · revert hc; decide
  · have := isDigit_range h
    omega

theorem numHead_cond {d : UInt8} (h : d = 45 ∨ isDigit d = true) : (d = 45 || isDigit d) = true := by
  rcases h with h | h <;> simp [h]

theorem afterBracket_int (pf : P (List Item)) (i : Int) (hi : inInt64 i = true) (c : UInt8)
    (hc : isDigit c = false) (rest : Bytes) :
    afterBracket pf (fmtInt i ++ c :: rest) = afterInt i c rest := by
  obtain ⟨d, ds, hf, hd, hread⟩ := readInt_fmtInt i hi c rest hc
  rw [hf]
  simp only [List.cons_append, afterBracket, skipSpace_cons _ (numHead_ne hd 32), numHead_ne hd 42, numHead_ne hd 39, numHead_ne hd 34, numHead_ne hd 58, numHead_ne hd 63, numHead_ne hd 40, numHead_ne hd 46,
    ↓reduceIte, Bool.or_self, Bool.false_eq_true, numHead_cond hd, hread, decide_false]

theorem afterBracket_nth (pf : P (List Item)) (i : Int) (hi : inInt64 i = true) (tail : Bytes) :
    afterBracket pf (fmtInt i ++ 93 :: tail) = some (.nth i, tail) := by
  rw [afterBracket_int pf i hi 93 (by decide)]
  simp [afterInt, afterIntB]

theorem afterBracket_descent (pf : P (List Item)) (tail : Bytes) :
    afterBracket pf (46 :: 46 :: 93 :: tail) = some (.descent, tail) := by
  simp [afterBracket, skipSpace, skipSpaceAux]

theorem afterBracket_wild (pf : P (List Item)) (tail : Bytes) :
    afterBracket pf (42 :: 93 :: tail) = some (.wild true, tail) := by
  simp [afterBracket, skipSpace, skipSpaceAux]

theorem afterBracket_child (pf : P (List Item)) (k tail : Bytes) :
    afterBracket pf (appendString k 39 ++ 93 :: tail) = some (.child k, tail) := by
  obtain ⟨t, e, h⟩ := readStr_appendString k (93 :: tail)
  rw [e]
  simp [afterBracket, skipSpace, skipSpaceAux, h]

theorem readSliceStep_int (pre : List Int) (c : Int) (hc : inInt64 c = true) (tail : Bytes) :
    readSliceStep pre (fmtInt c ++ 93 :: tail) = some (.slice (pre ++ [c]), tail) := by
  obtain ⟨d, ds, hf, hd, hread⟩ := readInt_fmtInt c hc 93 tail (by decide)
  rw [hf]
  simp [readSliceStep, numHead_ne hd 93, hread]

theorem readSlice_close (a : Int) (tail : Bytes) : readSlice a (93 :: tail) = some (.slice [a, maxEnd], tail) := by
  simp [readSlice]

theorem readSlice_int_close (a b : Int) (hb : inInt64 b = true) (tail : Bytes) :
    readSlice a (fmtInt b ++ 93 :: tail) = some (.slice [a, b], tail) := by
  obtain ⟨d, ds, hf, hd, hread⟩ := readInt_fmtInt b hb 93 tail (by decide)
  rw [hf]
  simp [readSlice, numHead_ne hd 93, skipSpace_cons _ (numHead_ne hd 32), numHead_ne hd 58, hread]

theorem readSlice_int_step (a b c : Int) (hb : inInt64 b = true) (hc : inInt64 c = true) (tail : Bytes) :
    readSlice a (fmtInt b ++ 58 :: (fmtInt c ++ 93 :: tail)) = some (.slice [a, b, c], tail) := by
  obtain ⟨d, ds, hf, hd, hread⟩ := readInt_fmtInt b hb 58 (fmtInt c ++ 93 :: tail) (by decide)
  rw [hf]
  simp [readSlice, numHead_ne hd 93, skipSpace_cons _ (numHead_ne hd 32), numHead_ne hd 58, hread, readSliceStep_int [a, b] c hc tail]

theorem readSlice_colon_step (a c : Int) (hc : inInt64 c = true) (tail : Bytes) :
    readSlice a (58 :: (fmtInt c ++ 93 :: tail)) = some (.slice [a, maxEnd, c], tail) := by
  simp [readSlice, skipSpace, skipSpaceAux, readSliceStep_int [a, maxEnd] c hc tail]

theorem afterBracket_sliceStart (pf : P (List Item)) (a : Int) (ha : inInt64 a = true) (X : Bytes) :
    afterBracket pf (sliceStart a ++ 58 :: X) = readSlice a X := by
  by_cases h0 : a = 0
  · subst h0
    simp [sliceStart, afterBracket, skipSpace, skipSpaceAux]
  · simp only [sliceStart, ne_eq, h0, not_false_eq_true, ↓reduceIte]
    rw [afterBracket_int pf a ha 58 (by decide)]
    simp [afterInt, afterIntB]

/-- the image of a slice under print-then-parse is its normal form -/
theorem afterBracket_slice (pf : P (List Item)) (ns : List Int) (hns : ns.all inInt64 = true) (tail : Bytes) :
    ∃ t, slicePrint ns ++ tail = 91 :: t ∧ afterBracket pf t = some (.slice (normSlice ns), tail) := by
  match ns, hns with
  | [], _ =>
    refine ⟨58 :: 93 :: tail, by simp [slicePrint], ?_⟩
    have := afterBracket_sliceStart pf 0 (by decide) (93 :: tail)
    simp only [sliceStart, ne_eq, not_true_eq_false, ↓reduceIte, List.nil_append] at this
    rw [this, readSlice_close]; rfl
  | [a], h =>
    simp only [List.all_cons, List.all_nil, Bool.and_true] at h
    refine ⟨sliceStart a ++ 58 :: 93 :: tail, by simp [slicePrint], ?_⟩
    rw [afterBracket_sliceStart pf a h, readSlice_close]; rfl
  | [a, b], h =>
    simp only [List.all_cons, List.all_nil, Bool.and_true, Bool.and_eq_true] at h
    refine ⟨sliceStart a ++ 58 :: (sliceEnd b ++ 93 :: tail), by simp [slicePrint], ?_⟩
    rw [afterBracket_sliceStart pf a h.1]
    by_cases hb : b = maxEnd
    · subst hb; simp [sliceEnd, readSlice_close, normSlice]
    · simp only [sliceEnd, ne_eq, hb, not_false_eq_true, ↓reduceIte]
      rw [readSlice_int_close a b h.2]; rfl
  | a :: b :: c :: r, h =>
    simp only [List.all_cons, Bool.and_eq_true] at h
    refine ⟨sliceStart a ++ 58 :: (sliceEnd b ++ 58 :: (fmtInt c ++ 93 :: tail)), by simp [slicePrint], ?_⟩
    rw [afterBracket_sliceStart pf a h.1]
    by_cases hb : b = maxEnd
    · subst hb
      simp only [sliceEnd, ne_eq, not_true_eq_false, ↓reduceIte, List.nil_append]
      rw [readSlice_colon_step a c h.2.2.1]; rfl
    · simp only [sliceEnd, ne_eq, hb, not_false_eq_true, ↓reduceIte]
      rw [readSlice_int_step a b c h.2.1 h.2.2.1]; rfl

def UMem.goodB : UMem → Bool
  | .key _ => true
  | .idx i => inInt64 i

/-- the reader's side condition on a union member is the specification's `UMem.ok` -/
theorem UMem.goodB_eq_ok (m : UMem) : m.goodB = m.ok := by cases m <;> rfl

theorem umemsPrint_cons2 (m m2 : UMem) (r : List UMem) :
    umemsPrint (m :: m2 :: r) = umemPrint m ++ 44 :: umemsPrint (m2 :: r) := rfl

theorem readUnionRest_close (F : Nat) (tail : Bytes) : readUnionRest (F + 1) 93 tail = some ([], tail) := by
  simp [readUnionRest]

theorem readUnionRest_step (m : UMem) (hm : m.goodB = true) (c : UInt8) (hc : c = 44 ∨ c = 93) (rest : Bytes) (F : Nat) :
    readUnionRest (F + 1) 44 (umemPrint m ++ c :: rest) = consFst m (readUnionRest F c rest) := by
  have hc32 : c ≠ 32 := by rcases hc with h | h <;> subst h <;> decide
  have hcd : isDigit c = false := by rcases hc with h | h <;> subst h <;> decide
  cases m with
  | key s =>
    -- a string member is written like a child key (the fix 4af356a), so it is read back whatever its bytes
    obtain ⟨t, h1, h2⟩ := readStr_appendString s (c :: rest)
    simp only [umemPrint, h1]
    simp [readUnionRest, skipSpace, skipSpaceAux, h2, hc32]
  | idx i =>
    obtain ⟨d, ds, hf, hd, hread⟩ := readInt_fmtInt i hm c rest hcd
    simp only [umemPrint, hf, List.cons_append, readUnionRest, skipSpace_cons _ (numHead_ne hd 32), numHead_ne hd 39, numHead_ne hd 34,
      ↓reduceIte, Bool.or_self, Bool.false_eq_true, numHead_cond hd, hread, hc32, decide_false,
      show ((44 : UInt8) = 93) = False by decide]

theorem readUnionRest_members : ∀ (ms : List UMem) (F : Nat) (tail : Bytes), ms ≠ [] → ms.length < F →
    (∀ m ∈ ms, m.goodB = true) → readUnionRest F 44 (umemsPrint ms ++ 93 :: tail) = some (ms, tail) := by
  intro ms
  induction ms with
  | nil => intro F tail h; exact absurd rfl h
  | cons m r ih =>
    intro F tail _ hF hg
    cases F with
    | zero => simp at hF
    | succ F =>
      cases r with
      | nil =>
        simp only [umemsPrint]
        rw [readUnionRest_step m (hg m (by simp)) 93 (Or.inr rfl)]
        cases F with
        | zero => simp at hF
        | succ F => simp [readUnionRest_close, consFst]
      | cons m2 r2 =>
        rw [umemsPrint_cons2, List.append_assoc, List.cons_append, readUnionRest_step m (hg m (by simp)) 44 (Or.inl rfl),
          ih F tail (by simp) (by simp at hF ⊢; omega) (fun x hx => hg x (by simp [hx]))]
        rfl

theorem fmtInt_ne_nil (i : Int) : fmtInt i ≠ [] := by
  by_cases h : i < 0
  · rw [fmtInt_neg i h]; simp
  · rw [fmtInt_nonneg i (by omega)]; exact (digits_spec _).1

theorem umemPrint_ne_nil (m : UMem) : umemPrint m ≠ [] := by
  cases m with
  | key s => simp [umemPrint, appendString]
  | idx i => exact fmtInt_ne_nil i

theorem umemsPrint_length : ∀ ms : List UMem, ms.length ≤ (umemsPrint ms).length := by
  intro ms
  induction ms with
  | nil => simp
  | cons m r ih =>
    have hm : 1 ≤ (umemPrint m).length := by
      have := umemPrint_ne_nil m
      cases h : umemPrint m with
      | nil => exact absurd h this
      | cons _ _ => simp
    cases r with
    | nil => simpa [umemsPrint] using hm
    | cons m2 r2 =>
      rw [umemsPrint_cons2]
      simp only [List.length_append, List.length_cons] at ih ⊢
      omega

theorem readUnion_members (m : UMem) (ms : List UMem) (hne : ms ≠ []) (hg : ∀ x ∈ ms, x.goodB = true) (tail : Bytes) :
    readUnion m (umemsPrint ms ++ 93 :: tail) = some (.union (m :: ms), tail) := by
  have hlen := umemsPrint_length ms
  have := readUnionRest_members ms ((umemsPrint ms ++ 93 :: tail).length + 2) tail hne
    (by simp only [List.length_append, List.length_cons]; omega) hg
  cases hb : umemsPrint ms ++ 93 :: tail with
  | nil => simp at hb
  | cons x y =>
    rw [hb] at this
    simp only [List.length_cons] at this
    simp only [readUnion, List.length_cons, this]

theorem afterBracket_union (pf : P (List Item)) (ms : List UMem) (h2 : 2 ≤ ms.length) (hg : ∀ m ∈ ms, m.goodB = true)
    (tail : Bytes) :
    ∃ t, unionPrint ms ++ tail = 91 :: t ∧ afterBracket pf t = some (.union ms, tail) := by
  match ms, h2, hg with
  | m :: m2 :: r, _, hg =>
    refine ⟨umemPrint m ++ 44 :: (umemsPrint (m2 :: r) ++ 93 :: tail), ?_, ?_⟩
    · simp [unionPrint, umemsPrint_cons2]
    · have hrest := readUnion_members m (m2 :: r) (by simp) (fun x hx => hg x (by simp [hx])) tail
      cases m with
      | key s =>
        obtain ⟨t, h1, h2⟩ := readStr_appendString s (44 :: (umemsPrint (m2 :: r) ++ 93 :: tail))
        simp only [umemPrint, h1]
        simp [afterBracket, skipSpace, skipSpaceAux, h2, hrest]
      | idx i =>
        have hi : inInt64 i = true := hg (.idx i) (by simp)
        simp only [umemPrint]
        rw [afterBracket_int pf i hi 44 (by decide)]
        simp [afterInt, afterIntB, hrest]
end OjgVerif.JPText
