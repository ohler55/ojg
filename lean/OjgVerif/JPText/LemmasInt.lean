import OjgVerif.JPText.Spec
import OjgVerif.Json.NumValue
/-! # C14 lemmas: `readInt` reads back what `strconv.FormatInt` writes

`readInt_fmtInt`: for every int64 `i` and every non-digit follower, the index reader of jp/parse.go
(digit loop with Go wrap-around arithmetic) applied to the decimal text of `i` returns `i`. Used for
`Nth`, `Slice` and integer `Union` members. -/
namespace OjgVerif.JPText

/-- jp's model of `strconv.FormatUint` writes what the model of gen/number.go writes: the two loops differ only in
how they test for the last digit -/
theorem digits_eq (n : Nat) : digits n = Json.fmtNat n := by
  have h : ∀ f n (acc : Bytes), n < f → digitsAux f n acc = Json.fmtNatAux f n acc := by
    intro f
    induction f with
    | zero => intro n acc h; omega
    | succ k ih =>
      intro n acc h
      rw [digitsAux, Json.fmtNatAux]
      by_cases c : n < 10
      · rw [if_pos c, if_pos (by omega : n / 10 = 0), Nat.mod_eq_of_lt c]
      · rw [if_neg c, if_neg (by omega : ¬ n / 10 = 0), ih _ _ (by omega)]
  exact h _ _ _ (by omega)

/-- mathematical value of a digit string read after `a` -/
def valDigits : Bytes → Int → Int
  | [], a => a
  | d :: ds, a => valDigits ds (a * 10 + ((d.toNat - 48 : Nat) : Int))

theorem valDigits_eq (ds : Bytes) (a : Nat) :
    valDigits ds a = (ds.foldl (fun a b => a * 10 + Json.dval b) a : Nat) := by
  induction ds generalizing a with
  | nil => rfl
  | cons d r ih => rw [valDigits, List.foldl_cons, ← ih]; simp [Json.dval]

theorem digits_spec (n : Nat) : (digits n ≠ []) ∧ (∀ d ∈ digits n, isDigit d = true) ∧ valDigits (digits n) 0 = n :=
  ⟨digits_eq n ▸ Json.fmtNat_ne_nil n, digits_eq n ▸ Json.fmtNat_dig n, by
    rw [digits_eq, show (0 : Int) = ((0 : Nat) : Int) from rfl, valDigits_eq]
    exact congrArg _ (Json.natOf_fmtNat n)⟩

theorem wrap64_congr (y y' : Int) (d : Int) (h : wrap64 y = wrap64 y') :
    wrap64 (y * 10 + d) = wrap64 (y' * 10 + d) := by
  unfold wrap64 two63 two64 at *
  omega

theorem wrap64_idem (x : Int) : wrap64 (wrap64 x) = wrap64 x := by
  unfold wrap64
  have h0 : 0 ≤ (x + two63) % two64 := Int.emod_nonneg _ (by decide)
  have h1 : (x + two63) % two64 < two64 := Int.emod_lt_of_pos _ (by decide)
  have : (x + two63) % two64 - two63 + two63 = (x + two63) % two64 := by omega
  rw [this, Int.emod_eq_of_lt h0 h1]

theorem inInt64_iff (x : Int) :
    inInt64 x = true ↔ (-9223372036854775808 ≤ x ∧ x ≤ 9223372036854775807) := by
  simp only [inInt64, minInt, maxInt, Bool.and_eq_true]
  constructor
  · intro h; exact ⟨of_decide_eq_true h.1, of_decide_eq_true h.2⟩
  · intro h; exact ⟨decide_eq_true h.1, decide_eq_true h.2⟩

theorem wrap64_of_range (x : Int) (h : inInt64 x = true) : wrap64 x = x := by
  have := (inInt64_iff x).mp h
  unfold wrap64 two63 two64
  omega

theorem valDigits_congr (ds : Bytes) : ∀ (y y' : Int), wrap64 y = wrap64 y' →
    wrap64 (valDigits ds y) = wrap64 (valDigits ds y') := by
  induction ds with
  | nil => intro y y' h; exact h
  | cons d ds ih => intro y y' h; exact ih _ _ (wrap64_congr y y' _ h)

theorem readIntLoop_spec (ds : Bytes) : ∀ (a : Int) (b c : UInt8) (rest : Bytes),
    (∀ d ∈ ds, isDigit d = true) → isDigit c = false →
    readIntLoop (ds ++ c :: rest) a b = (wrap64 (valDigits (b :: ds) a), c, rest) := by
  induction ds with
  | nil =>
    intro a b c rest _ hc
    simp [readIntLoop, hc, valDigits]
  | cons d ds ih =>
    intro a b c rest hds hc
    have hd : isDigit d = true := hds d (by simp)
    simp only [List.cons_append, readIntLoop, hd, ↓reduceIte]
    rw [ih _ d c rest (fun x hx => hds x (by simp [hx])) hc]
    have : wrap64 (valDigits (d :: ds) (wrap64 (a * 10 + ((b.toNat - 48 : Nat) : Int)))) =
        wrap64 (valDigits (d :: ds) (a * 10 + ((b.toNat - 48 : Nat) : Int))) :=
      valDigits_congr _ _ _ (wrap64_idem _)
    rw [this]
    rfl

theorem fmtInt_nonneg (i : Int) (h : 0 ≤ i) : fmtInt i = digits i.toNat := by
  simp [fmtInt, Int.not_lt.mpr h]

theorem fmtInt_neg (i : Int) (h : i < 0) : fmtInt i = 45 :: digits (-i).toNat := by
  simp [fmtInt, h]

theorem isDigit_ne_45 {d : UInt8} (h : isDigit d = true) : d ≠ 45 := by
  intro e; subst e; exact absurd h (by decide)

theorem digits_cons (n : Nat) : ∃ d ds, digits n = d :: ds ∧ isDigit d = true ∧ (∀ x ∈ ds, isDigit x = true) ∧
    valDigits (d :: ds) 0 = n := by
  obtain ⟨hne, hall, hval⟩ := digits_spec n
  cases hds : digits n with
  | nil => exact absurd hds hne
  | cons d ds =>
    rw [hds] at hall hval
    exact ⟨d, ds, rfl, hall d (by simp), fun x hx => hall x (by simp [hx]), hval⟩

theorem readInt_digits (d : UInt8) (ds : Bytes) (c : UInt8) (rest : Bytes) (hd : isDigit d = true)
    (hds : ∀ x ∈ ds, isDigit x = true) (hc : isDigit c = false) :
    readInt d (ds ++ c :: rest) = some (wrap64 (valDigits (d :: ds) 0), c, rest) ∧
    readInt 45 (d :: ds ++ c :: rest) = some (wrap64 (-wrap64 (valDigits (d :: ds) 0)), c, rest) := by
  have hloop := readIntLoop_spec ds 0 d c rest hds hc
  cases hr : ds ++ c :: rest with
  | nil => simp at hr
  | cons x y =>
    simp only [readInt, isDigit_ne_45 hd, if_false, if_true, hd, List.cons_append, hr]
    rw [← hr, hloop]
    exact ⟨rfl, rfl⟩

/-- **Integers round-trip.** `readInt` reads `strconv.FormatInt(i, 10)` back as `i`, for every int64
`i`, when a non-digit `c` follows; it consumes `c` and hands it to the caller. -/
theorem readInt_fmtInt (i : Int) (hi : inInt64 i = true) (c : UInt8) (rest : Bytes) (hc : isDigit c = false) :
    ∃ d ds, fmtInt i = d :: ds ∧ (d = 45 ∨ isDigit d = true) ∧ readInt d (ds ++ c :: rest) = some (i, c, rest) := by
  have hi' := (inInt64_iff i).mp hi
  by_cases hneg : i < 0
  · obtain ⟨d, ds, hds, hd, hall, hval⟩ := digits_cons (-i).toNat
    refine ⟨45, d :: ds, by rw [fmtInt_neg i hneg, hds], Or.inl rfl, ?_⟩
    rw [(readInt_digits d ds c rest hd hall hc).2, hval]
    have : wrap64 (-(wrap64 (((-i).toNat : Nat) : Int))) = i := by
      unfold wrap64 two63 two64
      omega
    rw [this]
  · obtain ⟨d, ds, hds, hd, hall, hval⟩ := digits_cons i.toNat
    refine ⟨d, ds, by rw [fmtInt_nonneg i (by omega), hds], Or.inr hd, ?_⟩
    rw [(readInt_digits d ds c rest hd hall hc).1, hval, show ((i.toNat : Nat) : Int) = i by omega, wrap64_of_range i hi]
end OjgVerif.JPText
