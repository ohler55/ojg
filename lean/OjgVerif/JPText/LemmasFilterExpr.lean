import OjgVerif.JPText.LemmasLeafy
/-! # C14 lemmas: EXPRESSIONS that carry filter fragments, any size, filters nested to any depth

`x = R().Child(…)…Filter(e)…` where `e` is an equation of the public constructors whose path operands may carry
filters themselves. The parser is mutually recursive (`readEq` reads an operand path with `readExpr`, which reads a filter
with `readEq`), and so is the proof: the equation reader is parametric in its operands (`LeafRead`, LemmasReadEq), the
fragment loop in its filter reader (`FilterRT`, LemmasExpr); an operand path whose filters hold operands that are read
back is read back itself, with fuel of the length of its text (`leafD_read`, by induction on the nesting depth).
What the parser builds differs from what was printed in ways no printer and no evaluator sees; at depth 1 that is the
function `Eqn.leafy`, below a filter it can only be a relation (a filter fragment holds a template, not an equation):
`EqnImg R e e'`, operands related by `R`; `ValImg d` is the relation for operands at depth `d`. `parseExpr_deep`: every
expression of `ExprD d` is read back to its image, which prints identically and is the same up to the normal form. -/
namespace OjgVerif.JPText

theorem readFilter_raw {A : Val → Prop} {w : Val → Nat} (H : LeafRead A w) (G : Eqn) (hr : Readable A G)
    (hp : G.pd = true) (f : Nat) (hf : (chainify G).need w + 1 ≤ f) (T : Bytes) :
    readFilter (readEq f) (G.text ++ 93 :: T) = some ((reduceGroups G none).build, T) := by
  have hfol : eqFollow (93 :: T) = true := by simp [eqFollow, dropSpaces, peek]
  have h1 := (readEq_raw H (Raw.chainify hr) f (93 :: T) hf hfol).1
  rw [text_chainify] at h1
  cases hb : G.text ++ 93 :: T with
  | nil => simp at hb
  | cons b r =>
    rw [hb] at h1
    simp [readFilter, h1, precCorrect_chainify G hp, dropSpaces]

theorem readFilter_text (G : Eqn) (hr : G.readable = true) (hp : G.pd = true) (f : Nat) (hf : eqnSize G + 1 ≤ f)
    (T : Bytes) : readFilter (readEq f) (G.text ++ 93 :: T) = some ((reduceGroups G none).build, T) :=
  readFilter_raw .simple G (.of_readable G hr) hp f (by rw [need_one, eqnSize_chainify]; exact hf) T

theorem filter_print (br fl : Bool) (t : List Item) : Frag.print br fl (.filter t) = 91 :: 63 :: (scriptPrint t ++ [93]) := by
  simp [Frag.print, scriptPrint]

/-- the filter of a template `t` that prints like the equation `e'` of the reader's class is read back to `e'.parenS`,
by a reader with fuel for the tree `Script.Append` writes -/
theorem FilterRT.of_okS {A : Val → Prop} {w : Val → Nat} (H : LeafRead A w) {e' : Eqn} (hs : OkS A e') {t : List Item}
    (hb : scriptPrint e'.build = scriptPrint t) (F : Nat)
    (hF : (chainify (.un Gen.JpOps.op_group e'.parenS)).need w + 1 ≤ F) :
    FilterRT (readFilter (readEq F)) t e'.parenS.build := by
  obtain ⟨hr, hpd, hred, htx⟩ := scriptTree_facts hs
  refine ⟨scriptPrint t, fun br fl => filter_print br fl _, fun br fl => by rw [filter_print, scriptPrint_parenS hs, hb],
    fun T => ?_⟩
  have key := readFilter_raw H _ hr hpd F hF T
  rwa [hred, htx, hb] at key

/-- `e'` is the reader's form of the constructors' equation `e`: `Get(path)` is the path, every constant and operand
path `v` is replaced by some `v'` with `R v v'`. (`Eqn.leafy` is the case where `R` is the function `Val.imgV`.) -/
inductive EqnImg (R : Val → Val → Prop) : Eqn → Eqn → Prop
  | val {v v' : Val} : R v v' → EqnImg R (.val v) (.val v')
  | not {l l' : Eqn} : EqnImg R l l' → EqnImg R (.un Gen.JpOps.op_not l) (.un Gen.JpOps.op_not l')
  | get {x : List Frag} {v' : Val} : R (.expr x) v' → EqnImg R (.un Gen.JpOps.op_get (.val (.expr x))) (.val v')
  | fn {o : Op} {x x' : List Frag} : FnOp o → R (.expr x) (.expr x') →
      EqnImg R (.un o (.val (.expr x))) (.un o (.val (.expr x')))
  | bin {o : Op} {l r l' r' : Eqn} : binOps.contains o = true → EqnImg R l l' → EqnImg R r r' →
      EqnImg R (.bin o l r) (.bin o l' r')

/-- what the image of an operand has to keep: the class of the reader, the text, the normal form -/
structure ImgOK (R : Val → Val → Prop) (A : Val → Prop) : Prop where
  cls : ∀ {v v'}, R v v' → A v'
  print : ∀ {v v'}, R v v' → v'.print = v.print
  norm : ∀ {v v'}, R v v' → v'.norm = v.norm

/-- `g'` is what the parser builds for the printed fragment `g`; the operands of a filter are related by `R` -/
inductive FragImg (R : Val → Val → Prop) (br : Bool) : Frag → Frag → Prop
  | clean (f : Frag) : f.clean = true → FragImg R br f (f.img br)
  | filt {e e' : Eqn} : EqnImg R e e' → FragImg R br (.filter e.build) (.filter e'.parenS.build)

inductive FragsImg (R : Val → Val → Prop) (br : Bool) : List Frag → List Frag → Prop
  | nil : FragsImg R br [] []
  | cons {f f' : Frag} {r r' : List Frag} : FragImg R br f f' → FragsImg R br r r' → FragsImg R br (f :: r) (f' :: r')

section
variable {R : Val → Val → Prop} {A : Val → Prop} (H : ImgOK R A)
include H

theorem EqnImg.okS {e e' : Eqn} (h : EqnImg R e e') : OkS A e' := by
  induction h with
  | val h => exact .val (H.cls h)
  | not _ ih => exact .not ih
  | get h => exact .val (H.cls h)
  | fn ho h => exact .fn ho (H.cls h)
  | bin ho _ _ ihl ihr =>
    rcases binOps_cases ho with hi | hc
    · exact .inf hi ihl ihr
    · exact .call hc ihl ihr

theorem EqnImg.run {e e' : Eqn} (h : EqnImg R e e') : ∀ rest rest', Item.run rest' = Item.run rest →
    Item.run (e'.build ++ rest') = Item.run (e.build ++ rest) := by
  induction h with
  | val h => intro rest rest' hr; simp [build_val, Item.run, H.print h, hr]
  | not _ ih => intro rest rest' hr; simp [build_not, Item.run, ih rest rest' hr]
  | get h => intro rest rest' hr; simp [build_get, build_val, Eqn.resultOf, Item.run, H.print h, hr]
  | fn ho h => intro rest rest' hr; simp [build_fn ho, build_val, Item.run, H.print h, hr]
  | bin ho _ _ ihl ihr =>
    intro rest rest' hr
    rw [build_bin ho, build_bin ho]
    simp only [List.cons_append, List.append_assoc, Item.run]
    rw [ihl _ _ (ihr rest rest' hr)]

theorem EqnImg.normL {e e' : Eqn} (h : EqnImg R e e') : Item.normL e'.build = Item.normL e.build := by
  induction h with
  | val h => simp [build_val, Item.normL, H.norm h]
  | not _ ih => simp [build_not, Item.normL, ih]
  | get h => simp [build_get, build_val, Eqn.resultOf, Item.normL, H.norm h]
  | fn ho h => simp [build_fn ho, build_val, Item.normL, H.norm h]
  | bin ho _ _ ihl ihr => simp [build_bin ho, Item.normL, normL_append, ihl, ihr]

theorem EqnImg.scriptPrint {e e' : Eqn} (h : EqnImg R e e') : scriptPrint e'.build = scriptPrint e.build := by
  have := h.run H [] [] rfl
  simp only [List.append_nil] at this
  simp only [JPText.scriptPrint, this]

theorem FragImg.facts {br : Bool} {f f' : Frag} (h : FragImg R br f f') :
    (∀ fl, f'.print br fl = f.print br fl) ∧ f'.norm = f.norm ∧ f'.isDescent = f.isDescent := by
  cases h with
  | clean f hc => exact ⟨fun fl => img_print br fl f (Or.inl hc), img_norm br f, img_isDescent_eq br f⟩
  | filt he =>
    refine ⟨fun fl => by rw [filter_print, filter_print, scriptPrint_parenS (he.okS H), he.scriptPrint H], ?_, rfl⟩
    simp only [Frag.norm, normL_build_parenS (he.okS H), he.normL H]

theorem FragsImg.printL {br : Bool} : ∀ {r r' : List Frag}, FragsImg R br r r' → ∀ fl aD,
    Frag.printL br fl aD r' = Frag.printL br fl aD r ∧ Frag.normL r' = Frag.normL r := by
  intro r r' h
  induction h with
  | nil => intro fl aD; exact ⟨rfl, rfl⟩
  | cons hf _ ih =>
    intro fl aD
    obtain ⟨h1, h2, h3⟩ := hf.facts H
    simp [Frag.printL, h1, h2, h3, (ih false _).1, (ih false false).2, Frag.normL]

theorem FragsImg.fragsRT (HR : LeafRead A (fun v => v.print.length)) {br : Bool} : ∀ {r r' : List Frag}, FragsImg R br r r' →
    ∀ (F : Nat) (fl aD fl' : Bool), (Frag.printL br fl aD r).length ≤ F → FragsRT (readFilter (readEq F)) br fl' r r' := by
  intro r r' h
  induction h with
  | nil => intro F fl aD fl' _; exact FragsRT.nil
  | @cons f f' r r' hf _ ih =>
    intro F fl aD fl' hlen
    simp only [Frag.printL, List.length_append] at hlen
    have htail := ih F false (f.isDescent && !br) false (by omega)
    cases hf with
    | clean f hc => exact FragsRT.clean f r r' hc htail
    | @filt e e' he =>
      refine FragsRT.filt _ _ r r' (.of_okS HR (he.okS H) (he.scriptPrint H) F ?_) htail
      -- the text of the filter lies inside the text of the expression
      obtain ⟨hr, _, _, htx⟩ := scriptTree_facts (he.okS H)
      have h1 := need_le_text HR (Raw.chainify hr)
      rw [text_chainify, htx, he.scriptPrint H] at h1
      rw [filter_print] at hlen
      simp only [List.length_cons, List.length_append, List.length_nil] at hlen
      omega

end

theorem FragsRT.self {pf : P (List Item)} : ∀ {fl : Bool} {r r' : List Frag}, FragsRT pf false fl r r' → FragsRT pf false fl r' r' := by
  intro fl r r' h
  induction h with
  | nil => exact .nil
  | rootAt f r r' hra _ ih => exact .rootAt f r' r' hra ih
  | @clean fl f r r' hc _ ih =>
    have := FragsRT.clean (pf := pf) (br := false) (fl := fl) (f.img false) r' r' (clean_img hc).1 ih
    rwa [img_self _ (clean_img hc).2] at this
  | filt t t' r r' hf _ ih =>
    obtain ⟨body, _, h2, h3⟩ := hf
    exact .filt t' t' r' r' ⟨body, h2, h2, h3⟩ ih

/-- `v'` is what the reader builds for the constant or operand path `v`. The index counts path operands, not filters:
at 0 constants only (`Val.okC`, with their `imgV`); at `d + 1` also a path, Root or At and then clean fragments or
filters `Filter(e)` whose operands are related at `d` (so a filter-free path needs 1, and a filter in the operand path of
a filter needs 2) -/
def ValImg : Nat → Val → Val → Prop
  | 0 => fun v v' => v.okC = true ∧ v' = v.imgV
  | d + 1 => fun v v' => (v.okC = true ∧ v' = v.imgV) ∨
      ∃ f0 r r', v = .expr (f0 :: r) ∧ v' = .expr (f0 :: r') ∧ f0.isRootAt = true ∧ FragsImg (ValImg d) false r r'

theorem ValImg.const {d : Nat} {v : Val} (h : v.okC = true) : ValImg d v v.imgV := by
  cases d
  · exact ⟨h, rfl⟩
  · exact Or.inl ⟨h, rfl⟩

theorem ValImg.path {d : Nat} {f0 : Frag} {r r' : List Frag} (h : f0.isRootAt = true) (hr : FragsImg (ValImg d) false r r') :
    ValImg (d + 1) (.expr (f0 :: r)) (.expr (f0 :: r')) :=
  Or.inr ⟨f0, r, r', rfl, rfl, h, hr⟩

/-- the reader's operands at depth `d`: the images -/
def LeafD (d : Nat) (v' : Val) : Prop := ∃ v, ValImg d v v'

theorem imgV_okC {v v' : Val} (h : v.okC = true ∧ v' = v.imgV) :
    v'.simple = true ∧ v'.print = v.print ∧ v'.norm = v.norm := by
  obtain ⟨h, rfl⟩ := h
  exact ⟨simple_imgV h, print_imgV v (okLeaf_of_okC h), norm_imgV v⟩

theorem ValImg.ok : ∀ d, ImgOK (ValImg d) (LeafD d)
  | 0 => ⟨fun h => ⟨_, h⟩, fun h => (imgV_okC h).2.1, fun h => (imgV_okC h).2.2⟩
  | d + 1 => by
    have H := ValImg.ok d
    refine ⟨fun h => ⟨_, h⟩, ?_, ?_⟩
    · rintro v v' (h | ⟨f0, r, r', rfl, rfl, hra, hr⟩)
      · exact (imgV_okC h).2.1
      · simp only [print_expr, Frag.printL, (hr.printL H false _).1]
    · rintro v v' (h | ⟨f0, r, r', rfl, rfl, hra, hr⟩)
      · exact (imgV_okC h).2.2
      · simp only [Val.norm, Frag.normL, (hr.printL H false false).2]

/-- **operands of every nesting depth are read back**, with nesting fuel of the length of their text -/
theorem leafD_read : ∀ d, LeafRead (LeafD d) (fun v => v.print.length)
  | 0 => ⟨fun v ⟨_, h⟩ => print_length v (imgV_okC h).1, fun _ _ => Nat.le_refl _, fun v ⟨_, h⟩ f K rest hf hr =>
      readEqValue_val v (imgV_okC h).1 f (Nat.le_trans (print_length v (imgV_okC h).1) hf) K rest hr⟩
  | d + 1 => by
    have H := ValImg.ok d
    have HR := leafD_read d
    have hlen : ∀ v', LeafD (d + 1) v' → 1 ≤ v'.print.length := by
      rintro v' ⟨v, h | ⟨f0, r, r', rfl, rfl, hra, _⟩⟩
      · exact print_length v' (imgV_okC h).1
      · obtain ⟨_, _, b, hp, _, _⟩ := isRootAt_facts hra
        rw [print_expr, Frag.printL, hp]; simp
    refine ⟨hlen, fun _ _ => Nat.le_refl _, ?_⟩
    rintro v' ⟨v, h | ⟨f0, r, r', rfl, rfl, hra, hr⟩⟩ f K rest hf hfol
    · exact readEqValue_val v' (imgV_okC h).1 f (Nat.le_trans (hlen v' ⟨v, Or.inl h⟩) hf) K rest hfol
    · obtain ⟨hd, _, b, hp, hb, _⟩ := isRootAt_facts hra
      simp only [print_expr] at hf
      have hrt : FragsRT (readFilter (readEq f)) false true (f0 :: r') (f0 :: r') :=
        .rootAt f0 r' r' hra (hr.fragsRT H HR f false (f0.isDescent && !false) false (by
          rw [← (hr.printL H false _).1]
          simp only [Frag.printL, List.length_append] at hf; omega)).self
      exact readEqValue_expr _ K _ rest b _ (by rw [Frag.printL, hp]; rfl) hb
        (readExpr_gen (readFilter (readEq f)) false rest (nextFrag_pathEnd _ rest hfol) (followerOK_of_pathEnd hfol) hrt)

/-- `y` is what the parser builds for the expression `x`: an optional leading Root/At, then clean fragments and filters
whose operands are related by `ValImg d` (`ExprD 1`: filters over filter-free paths) -/
def ExprD (d : Nat) (br : Bool) (x y : List Frag) : Prop :=
  (∃ f0 r r', x = f0 :: r ∧ y = f0 :: r' ∧ f0.isRootAt = true ∧ FragsImg (ValImg d) br r r') ∨ FragsImg (ValImg d) br x y

theorem ExprD.rooted {d : Nat} {br : Bool} {f0 : Frag} {r r' : List Frag} (h : f0.isRootAt = true)
    (hr : FragsImg (ValImg d) br r r') : ExprD d br (f0 :: r) (f0 :: r') :=
  Or.inl ⟨f0, r, r', rfl, rfl, h, hr⟩

/-- **expressions with filter fragments nested to any depth are read back** -/
theorem parseExpr_deep (d : Nat) (br : Bool) (x y : List Frag) (h : ExprD d br x y) :
    parseExpr (exprPrint br x) = some y ∧ exprPrint br y = exprPrint br x ∧ sameExpr y x = true := by
  have H := ValImg.ok d
  have HR := leafD_read d
  have key : FragsRT (readFilter (readEq ((exprPrint br x).length + 1))) br true x y ∧
      exprPrint br y = exprPrint br x ∧ Frag.normL y = Frag.normL x := by
    rcases h with ⟨f0, r, r', rfl, rfl, hra, hr⟩ | hr
    · have hpl := hr.printL H
      refine ⟨.rootAt f0 r r' hra (hr.fragsRT H HR _ false (f0.isDescent && !br) false ?_), ?_, ?_⟩
      · simp only [exprPrint, Frag.printL, List.length_append]; omega
      · simp only [exprPrint, Frag.printL, (hpl false _).1]
      · simp only [Frag.normL, (hpl false false).2]
    · exact ⟨hr.fragsRT H HR _ true false true (by simp only [exprPrint]; omega), (hr.printL H true false).1,
        (hr.printL H false false).2⟩
  obtain ⟨hrt, hp, hn⟩ := key
  have := readExpr_gen _ br [] (nextFrag_nil _) rfl hrt
  rw [List.append_nil] at this
  exact ⟨by simp only [parseExpr, this], hp, by simp [sameExpr, hn]⟩

theorem roundTripsExpr_deep (d : Nat) (br : Bool) (x y : List Frag) (h : ExprD d br x y) : roundTripsExpr br x = true := by
  obtain ⟨h1, h2, h3⟩ := parseExpr_deep d br x y h
  simp [roundTripsExpr, h1, h2, h3]

theorem FragsImg.of_cleanTail (R : Val → Val → Prop) (br : Bool) : ∀ r : List Frag, cleanTail r = true → FragsImg R br r (imgL br r)
  | [], _ => .nil
  | f :: r, h => by
    rw [cleanTail, Bool.and_eq_true] at h
    exact .cons (.clean f h.1) (of_cleanTail R br r h.2)

theorem ValImg.of_cleanPath {x : List Frag} (h : cleanPath x = true) (d : Nat) :
    ValImg (d + 1) (.expr x) (.expr (imgL false x)) := by
  cases x with
  | nil => cases h
  | cons f r =>
    rw [cleanPath, Bool.and_eq_true] at h
    rw [imgL, (isRootAt_facts h.1).2.1]
    exact .path h.1 (.of_cleanTail _ false r h.2)

theorem EqnImg.leafy (d : Nat) : ∀ e : Eqn, e.okC = true → EqnImg (ValImg (d + 1)) e e.leafy := by
  refine okC_induction ?_ ?_ ?_ ?_ ?_
  · intro v h; exact .val (.const h)
  · intro l _ ih; rw [leafy_not]; exact .not ih
  · intro x hx; rw [leafy_get]; exact .get (.of_cleanPath hx d)
  · intro o x ho hx; rw [leafy_fn ho]; exact .fn ho (.of_cleanPath hx d)
  · intro o l r ho _ _ ihl ihr; rw [Eqn.leafy]; exact .bin ho ihl ihr

/-- the tree `Script.Append` writes for the filter of `e` -/
def Eqn.filterTree (e : Eqn) : Eqn := .un Gen.JpOps.op_group e.leafy.parenS

/-- a filter fragment of the class is read back by the filter reader of enough fuel (here: the number of nodes):
`FilterRT.of_okS` at simple operands (weight 1). Listed for C14, not used below: `parseExpr_filter` takes the fuel from the
length of the text (`FragsImg.fragsRT`). -/
theorem filterRT (e : Eqn) (h : e.okC = true) (F : Nat) (hF : eqnSize e.filterTree + 1 ≤ F) :
    FilterRT (readFilter (readEq F)) e.build e.leafy.parenS.build :=
  .of_okS .simple (.of_okS _ (okS_leafy e h)) (by rw [(build_leafy e h).1, scriptPrint_imgI _ (build_leafy e h).2]) F
    (by rw [need_one, eqnSize_chainify]; exact hF)

theorem FragsImg.exists_of_okC (br : Bool) : ∀ r : List Frag,
    (∀ g ∈ r, g.clean = true ∨ ∃ e : Eqn, e.okC = true ∧ g = .filter e.build) → ∃ r', FragsImg (ValImg 1) br r r' := by
  intro r
  induction r with
  | nil => intro _; exact ⟨[], .nil⟩
  | cons f r ih =>
    intro h
    obtain ⟨r', hr⟩ := ih (fun g hg => h g (by simp [hg]))
    rcases h f (by simp) with hc | ⟨e, he, rfl⟩
    · exact ⟨_, .cons (.clean f hc) hr⟩
    · exact ⟨_, .cons (.filt (.leafy 0 e he)) hr⟩

/-- the fragments after an optional leading Root/At are clean or filters of the class -/
def ExprOKF (x : List Frag) : Prop :=
  match x with
  | [] => True
  | f :: r =>
    (f.isRootAt = true ∨ f.clean = true ∨ ∃ e : Eqn, e.okC = true ∧ f = .filter e.build) ∧
      ∀ g ∈ r, g.clean = true ∨ ∃ e : Eqn, e.okC = true ∧ g = .filter e.build

/-- **expressions with filter fragments are read back** (filters nested one level) -/
theorem parseExpr_filter (br : Bool) (x : List Frag) (h : ExprOKF x) :
    ∃ y, parseExpr (exprPrint br x) = some y ∧ exprPrint br y = exprPrint br x ∧ sameExpr y x = true := by
  cases x with
  | nil => exact ⟨[], parseExpr_deep 1 br [] [] (Or.inr .nil)⟩
  | cons f r =>
    obtain ⟨hf, hr⟩ := h
    by_cases hra : f.isRootAt = true
    · obtain ⟨r', hr'⟩ := FragsImg.exists_of_okC br r hr
      exact ⟨_, parseExpr_deep 1 br _ _ (.rooted hra hr')⟩
    · obtain ⟨y, hy⟩ := FragsImg.exists_of_okC br (f :: r) (fun g hg => by
        rcases List.mem_cons.1 hg with rfl | hg
        · exact hf.resolve_left hra
        · exact hr g hg)
      exact ⟨y, parseExpr_deep 1 br _ y (Or.inr hy)⟩

theorem roundTripsExpr_okF (br : Bool) (x : List Frag) (h : ExprOKF x) : roundTripsExpr br x = true := by
  obtain ⟨y, h1, h2, h3⟩ := parseExpr_filter br x h
  simp [roundTripsExpr, h1, h2, h3]

theorem okL_mem : ∀ (r : List Frag) (g : Frag), Frag.okL r = true → g ∈ r → g.ok = true := by
  intro r
  induction r with
  | nil => intro g _ hg; simp at hg
  | cons f r ih =>
    intro g h hg
    simp only [Frag.okL, Bool.and_eq_true] at h
    rcases List.mem_cons.1 hg with e | e
    · subst e; exact h.1
    · exact ih g h.2 e

theorem devsL_mem : ∀ (r : List Frag) (g : Frag), Frag.devsL r = [] → g ∈ r → g.devs = [] := by
  intro r
  induction r with
  | nil => intro g _ hg; simp at hg
  | cons f r ih =>
    intro g h hg
    simp only [Frag.devsL, List.append_eq_nil_iff] at h
    rcases List.mem_cons.1 hg with e | e
    · subst e; exact h.1
    · exact ih g h.2 e

theorem clean_or_filter (g : Frag) (hok : g.ok = true) (hdev : g.devs = []) (hra : g.isRootAt = false) :
    g.clean = true ∨ ∃ t, g = .filter t := by
  cases g with
  | filter t => exact Or.inr ⟨t, rfl⟩
  | root => simp [Frag.isRootAt] at hra
  | «at» => simp [Frag.isRootAt] at hra
  | child k => exact Or.inl (clean_of_spec _ hok hdev hra rfl)
  | nth i => exact Or.inl (clean_of_spec _ hok hdev hra rfl)
  | wild h => exact Or.inl (clean_of_spec _ hok hdev hra rfl)
  | descent => exact Or.inl (clean_of_spec _ hok hdev hra rfl)
  | union ms => exact Or.inl (clean_of_spec _ hok hdev hra rfl)
  | slice ns => exact Or.inl (clean_of_spec _ hok hdev hra rfl)

/-- **C14 for expressions with filters, in the words of Spec.lean**: constructible, no named deviation, and
every filter fragment is `Filter(e)` of a constructible, deviation-free, shallow equation -/
theorem roundTripsExpr_filter_spec (br : Bool) (x : List Frag) (hok : Frag.okL x = true) (hdev : devsExpr br x = [])
    (hf : ∀ t, Frag.filter t ∈ x → ∃ e : Eqn, e.ok = true ∧ devsEqn e = [] ∧ e.shallow = true ∧ t = e.build) :
    roundTripsExpr br x = true := by
  have hx : ExprOKF x := by
    simp only [devsExpr] at hdev
    obtain ⟨hra, hdl⟩ := addIf_nil hdev
    have hgen : ∀ g ∈ x, g.isRootAt = false → g.clean = true ∨ ∃ e : Eqn, e.okC = true ∧ g = .filter e.build := by
      intro g hg hr
      rcases clean_or_filter g (okL_mem x g hok hg) (devsL_mem x g hdl hg) hr with h | ⟨t, ht⟩
      · exact Or.inl h
      · subst ht
        obtain ⟨e, h1, h2, h3, h4⟩ := hf t hg
        exact Or.inr ⟨e, okC_of_spec e h1 h2 h3, by rw [h4]⟩
    cases x with
    | nil => trivial
    | cons f r =>
      simp only [devRootAtL] at hra
      refine ⟨?_, fun g hg => ?_⟩
      · cases hfr : f.isRootAt
        · exact Or.inr (hgen f (by simp) hfr)
        · exact Or.inl rfl
      · have : g.isRootAt = false := by
          have := List.any_eq_false.1 hra g hg
          simpa using this
        exact hgen g (by simp [hg]) this
  exact roundTripsExpr_okF br x hx

end OjgVerif.JPText
