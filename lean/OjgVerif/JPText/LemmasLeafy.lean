import OjgVerif.JPText.LemmasScript
/-! # C14 lemmas: from the constructors' equations to the reader's form

The general theorems of LemmasEqn / LemmasScript are about equations in the form the READER builds them
(`Eqn.okS`). An equation built with the public constructors (`Eqn.okC`) differs from that form in ways no
printer and no evaluator sees: `Get(path)` is a node of its own (the parser has the bare path), a float
constant is carried as its `FormatFloat` text (`2`; written and read back as `2.0`), a path may hold
`Slice{}`/`Slice{a}`/`Slice{a,b,c,d}`. `Eqn.leafy` maps the one to the other; `print_leafy`, `build_leafy`,
`script_leafy`: same texts, same templates up to the normal form of the constants; `okS_leafy`: the result is
in the reader's class. Hence `roundTrips*_okC`. -/
namespace OjgVerif.JPText

/-- a scalar constant as the reader builds it: a float in the text `appendFloat` writes -/
def Val.imgS : Val → Val
  | .flt t => .flt (floatPrint t)
  | v => v

/-- what the reader builds for the text of a constant: a float keeps its text as written (`2` is written
`2.0`), a path gets the parser's fragment forms -/
def Val.imgV : Val → Val
  | .list vs => .list (vs.map Val.imgS)
  | .expr x => .expr (imgL false x)
  | v => v.imgS

/-- `Val.scalar` (Chain.lean) on the constructors' side: a float in any finite `FormatFloat` text, not only in the
form the reader keeps (`floatLeaf`) -/
def Val.scalarC : Val → Bool
  | .int i => inInt64 i
  | .bool _ => true
  | .null => true
  | .nothing => true
  | .str _ => true
  | .flt t => floatTextOk t && !floatNoForm t
  | _ => false

/-- constructible constants covered: scalars (floats: the `FormatFloat` grammar `floatTextOk`, finite), regexes whose source `AppendString` leaves
alone, flat lists of scalars -/
def Val.okC : Val → Bool
  | .list vs => vs.all Val.scalarC
  | .regex s => !regexDev s
  | .expr _ => false
  | v => v.scalarC

/-- a constant or a path operand -/
def Val.okLeaf : Val → Bool
  | .expr x => cleanPath x
  | v => v.okC

def Item.imgI : Item → Item
  | .op o => .op o
  | .val v => .val v.imgV

def Item.okI : Item → Bool
  | .op _ => true
  | .val v => v.okLeaf

theorem floatPrint_idem (t : Bytes) : floatPrint (floatPrint t) = floatPrint t := by
  unfold floatPrint
  by_cases h : (t.any fun b => b = 46 || b = 101 || b = 78 || b = 73) = true
  · simp [h]
  · simp only [h, Bool.false_eq_true, if_false]
    have : ((t ++ [46, 48]).any fun b => b = 46 || b = 101 || b = 78 || b = 73) = true := by simp
    simp [this]

theorem print_imgS (v : Val) : v.imgS.print = v.print := by
  cases v <;> simp [Val.imgS, Val.print, floatPrint_idem]

theorem printL_imgS : ∀ vs : List Val, Val.printL (vs.map Val.imgS) = Val.printL vs := by
  intro vs
  induction vs with
  | nil => rfl
  | cons v r ih =>
    cases r with
    | nil => simp [Val.printL, print_imgS]
    | cons w r => simp only [List.map_cons, Val.printL, print_imgS] at ih ⊢; rw [ih]

theorem print_imgV (v : Val) (h : v.okLeaf = true) : v.imgV.print = v.print := by
  cases v with
  | list vs => simp [Val.imgV, Val.print, printL_imgS]
  | expr x =>
    have := exprPrint_imgL false x (cleanExpr_of_cleanPath h)
    simpa [Val.imgV, Val.print, exprPrint] using this
  | flt t => simp [Val.imgV, Val.imgS, Val.print, floatPrint_idem]
  | _ => rfl

theorem norm_imgS (v : Val) : v.imgS.norm = v.norm := by
  cases v <;> simp [Val.imgS, Val.norm, floatPrint_idem]

theorem normL_imgS : ∀ vs : List Val, Val.normL (vs.map Val.imgS) = Val.normL vs := by
  intro vs
  induction vs with
  | nil => rfl
  | cons v r ih => simp [Val.normL, norm_imgS, ih]

theorem norm_imgV (v : Val) : v.imgV.norm = v.norm := by
  cases v with
  | list vs => simp [Val.imgV, Val.norm, normL_imgS]
  | expr x => simp [Val.imgV, Val.norm, imgL_normL]
  | flt t => simp [Val.imgV, Val.imgS, Val.norm, floatPrint_idem]
  | _ => rfl

theorem normL_imgI : ∀ t : List Item, Item.normL (t.map Item.imgI) = Item.normL t := by
  intro t
  induction t with
  | nil => rfl
  | cons x r ih =>
    cases x with
    | op o => simp only [List.map_cons, Item.imgI, Item.normL, ih]
    | val v => simp [Item.imgI, Item.normL, norm_imgV, ih]

theorem run_imgI : ∀ t : List Item, t.all Item.okI = true → Item.run (t.map Item.imgI) = Item.run t := by
  intro t
  induction t with
  | nil => intro _; rfl
  | cons x r ih =>
    intro h
    simp only [List.all_cons, Bool.and_eq_true] at h
    cases x with
    | op o => simp only [List.map_cons, Item.imgI, Item.run, ih h.2]
    | val v => simp [Item.imgI, Item.run, ih h.2, print_imgV v h.1]

theorem scriptPrint_imgI (t : List Item) (h : t.all Item.okI = true) : scriptPrint (t.map Item.imgI) = scriptPrint t := by
  simp [scriptPrint, run_imgI t h]

theorem sameTemplate_imgI (s t : List Item) : sameTemplate s (t.map Item.imgI) = sameTemplate s t := by
  simp [sameTemplate, normL_imgI]

def Eqn.isCleanPath : Eqn → Bool
  | .val (.expr x) => cleanPath x
  | _ => false

/-- equations of the public constructors covered by the general theorems: `Not`, the 19 binary constructors,
`Get`/`Length`/`Count` of a filter-free path that starts with Root or At, over the constants of `Val.okC` -/
def Eqn.okC : Eqn → Bool
  | .val v => v.okC
  | .un o l => (o == Gen.JpOps.op_not && l.okC) ||
      ((o == Gen.JpOps.op_get || o == Gen.JpOps.op_length || o == Gen.JpOps.op_count) && l.isCleanPath)
  | .bin o l r => binOps.contains o && (l.okC && r.okC)

/-- the equation in the reader's form: `Get(path)` is the path, constants in the reader's form -/
def Eqn.leafy : Eqn → Eqn
  | .val v => .val v.imgV
  | .un o l =>
    if o == Gen.JpOps.op_get then .val l.resultOf.imgV
    else if o == Gen.JpOps.op_length || o == Gen.JpOps.op_count then .un o (.val l.resultOf.imgV)
    else .un o l.leafy
  | .bin o l r => .bin o l.leafy r.leafy

theorem isCleanPath_iff {l : Eqn} (h : l.isCleanPath = true) : ∃ x, l = .val (.expr x) ∧ cleanPath x = true := by
  cases l with
  | val v => cases v <;> simp [Eqn.isCleanPath] at h; exact ⟨_, rfl, h⟩
  | un o l => simp [Eqn.isCleanPath] at h
  | bin o l r => simp [Eqn.isCleanPath] at h

theorem okC_induction {P : Eqn → Prop} (val : ∀ v, v.okC = true → P (.val v))
    (not : ∀ l, l.okC = true → P l → P (.un Gen.JpOps.op_not l))
    (get : ∀ x, cleanPath x = true → P (.un Gen.JpOps.op_get (.val (.expr x))))
    (fn : ∀ o x, FnOp o → cleanPath x = true → P (.un o (.val (.expr x))))
    (bin : ∀ o l r, binOps.contains o = true → l.okC = true → r.okC = true → P l → P r → P (.bin o l r)) :
    ∀ e : Eqn, e.okC = true → P e := by
  intro e
  induction e with
  | val v => exact val v
  | un o l ih =>
    intro h
    simp only [Eqn.okC, Bool.or_eq_true, Bool.and_eq_true, beq_iff_eq] at h
    rcases h with ⟨rfl, hl⟩ | ⟨ho, hp⟩
    · exact not l hl (ih hl)
    · obtain ⟨x, rfl, hx⟩ := isCleanPath_iff hp
      rcases ho with (rfl | ho) | ho
      · exact get x hx
      · exact fn o x (Or.inl ho) hx
      · exact fn o x (Or.inr ho) hx
  | bin o l r ihl ihr =>
    intro h
    simp only [Eqn.okC, Bool.and_eq_true] at h
    exact bin o l r h.1 h.2.1 h.2.2 (ihl h.2.1) (ihr h.2.2)

theorem leafy_not (l : Eqn) : (Eqn.un Gen.JpOps.op_not l).leafy = .un Gen.JpOps.op_not l.leafy := by
  simp [Eqn.leafy, show (Gen.JpOps.op_not == Gen.JpOps.op_get) = false by decide,
    show (Gen.JpOps.op_not == Gen.JpOps.op_length) = false by decide, show (Gen.JpOps.op_not == Gen.JpOps.op_count) = false by decide]

theorem leafy_get (l : Eqn) : (Eqn.un Gen.JpOps.op_get l).leafy = .val l.resultOf.imgV := by simp [Eqn.leafy]

theorem leafy_fn {o : Op} (h : FnOp o) (l : Eqn) : (Eqn.un o l).leafy = .un o (.val l.resultOf.imgV) := by
  have : (o == Gen.JpOps.op_length || o == Gen.JpOps.op_count) = true := by simpa [FnOp] using h
  simp [Eqn.leafy, h.facts.ne_get, this]

theorem infixPrec_leafy : ∀ e : Eqn, e.leafy.infixPrec? = e.infixPrec? := by
  intro e
  cases e with
  | val v => rfl
  | un o l =>
    simp only [Eqn.leafy]
    split
    · rename_i h; simp only [beq_iff_eq] at h; subst h; rfl
    · split <;> rfl
  | bin o l r => rfl

theorem isInfix_leafy (e : Eqn) : e.leafy.isInfix = e.isInfix := by simp [Eqn.isInfix, infixPrec_leafy]
theorem leftParens_leafy (o : Op) (e : Eqn) : leftParens o e.leafy = leftParens o e := by simp [leftParens, infixPrec_leafy]
theorem rightParens_leafy (o : Op) (e : Eqn) : rightParens o e.leafy = rightParens o e := by simp [rightParens, infixPrec_leafy]

theorem okLeaf_of_okC {v : Val} (h : v.okC = true) : v.okLeaf = true := by
  cases v <;> simp_all [Val.okC, Val.okLeaf]

/-- **`Equation.Append` writes the same text for the equation and for its reader's form** -/
theorem print_leafy : ∀ e : Eqn, e.okC = true → ∀ p, e.leafy.print p = e.print p := by
  refine okC_induction ?_ ?_ ?_ ?_ ?_
  · intro v h p; simp [Eqn.leafy, Eqn.print, print_imgV v (okLeaf_of_okC h)]
  · intro l _ ih p; rw [leafy_not, print_not, print_not, ih, isInfix_leafy]
  · intro x hx p; rw [leafy_get, print_get, Eqn.print, Eqn.resultOf, print_imgV (.expr x) hx]
  · intro o x ho hx p; rw [leafy_fn ho, print_fn ho, print_fn ho, Eqn.resultOf, Eqn.resultOf, print_imgV (.expr x) hx]
  · intro o l r ho _ _ ihl ihr p
    rcases binOps_cases ho with ho | ho
    · rw [Eqn.leafy, print_infix ho, print_infix ho, ihl, ihr, leftParens_leafy, rightParens_leafy]
    · rw [Eqn.leafy, print_call ho, print_call ho, ihl, ihr]

theorem build_leafy : ∀ e : Eqn, e.okC = true → e.leafy.build = e.build.map Item.imgI ∧ e.build.all Item.okI = true := by
  refine okC_induction ?_ ?_ ?_ ?_ ?_
  · intro v h; simp [Eqn.leafy, Eqn.build, Item.imgI, Item.okI, okLeaf_of_okC h]
  · intro l _ ih; simp [leafy_not, build_not, Item.imgI, Item.okI, ih]
  · intro x hx; simp [leafy_get, build_get, build_val, Eqn.resultOf, Item.imgI, Item.okI, Val.okLeaf, hx]
  · intro o x ho hx; simp [leafy_fn ho, build_fn ho, build_val, Eqn.resultOf, Item.imgI, Item.okI, Val.okLeaf, hx]
  · intro o l r ho _ _ ihl ihr
    simp [Eqn.leafy, build_bin ho, Item.imgI, Item.okI, ihl, ihr, List.all_append]

theorem floatNoForm_floatPrint (t : Bytes) : floatNoForm (floatPrint t) = floatNoForm t := by
  unfold floatPrint
  split
  · rfl
  · simp [floatNoForm, List.any_append]

/-- the text `appendFloat` writes for a finite float of the `FormatFloat` grammar is in the reader's class -/
theorem floatLeaf_floatPrint (t : Bytes) (h1 : floatTextOk t = true) (h2 : floatNoForm t = false) :
    floatLeaf (floatPrint t) = true := by
  simp only [floatLeaf, floatNoForm_floatPrint, h2, floatPrint_idem, Bool.not_false, beq_self_eq_true, Bool.and_self,
    Bool.and_true]
  by_cases hany : (t.any fun b => b = 46 || b = 101 || b = 78 || b = 73) = true
  · simp [floatPrint, hany, h1]
  -- `t` has no `.`, `e`, `N`, `I`: it is an optional `-` and digits, and `.0` is added
  have hfp : floatPrint t = t ++ [46, 48] := by simp [floatPrint, hany]
  have hno : ∀ b ∈ t, b ≠ 46 ∧ b ≠ 101 ∧ b ≠ 78 ∧ b ≠ 73 := by
    intro b hb
    simp only [List.any_eq_true, not_exists, not_and, Bool.or_eq_true, decide_eq_true_eq, not_or] at hany
    have := hany b hb
    exact ⟨this.1.1.1, this.1.1.2, this.1.2, this.2⟩
  rw [floatTextOk_tail] at h1
  have hN : t ≠ [78, 97, 78] := by intro e; subst e; exact (hno 78 (by simp)).2.2.1 rfl
  have hP : t ≠ [43, 73, 110, 102] := by intro e; subst e; exact (hno 73 (by simp)).2.2.2 rfl
  have hM : t ≠ [45, 73, 110, 102] := by intro e; subst e; exact (hno 73 (by simp)).2.2.2 rfl
  simp only [hN, hP, hM, decide_false, Bool.false_or] at h1
  generalize hs : (if t.head? = some 45 then t.drop 1 else t) = s at h1
  have hsub : ∀ b ∈ s, b ∈ t := by
    intro b hb; rw [← hs] at hb
    split at hb
    · exact List.mem_of_mem_drop hb
    · exact hb
  obtain ⟨e1, e2⟩ := takeDigits_spec s
  cases hd : (takeDigits s).1 with
  | nil => simp [hd] at h1
  | cons d ds =>
    cases hr : (takeDigits s).2 with
    | cons c r =>
      -- a tail starts with `.` or `e`
      have hc := hno c (hsub c (by rw [e1, hr]; simp))
      simp [hd, hr, floatTail, hc.1, hc.2.1] at h1
    | nil =>
      rw [hr, List.append_nil] at e1
      have htne : t ≠ [] := by intro e; subst e; simp at hs; rw [hd, hs] at e1; cases e1
      have hs' : (if (t ++ [46, 48]).head? = some 45 then (t ++ [46, 48]).drop 1 else t ++ [46, 48]) = s ++ [46, 48] := by
        cases t with
        | nil => exact absurd rfl htne
        | cons a r => rw [← hs]; simp only [List.cons_append, List.head?_cons]; by_cases ha : some a = some 45 <;> simp [ha]
      rw [hfp, floatTextOk_tail, hs', takeDigits_append s [46, 48] (e1 ▸ e2) (by simp [takeDigits, isDigit]), e1, hd]
      simp [floatTail, takeDigits, isDigit]

theorem scalar_imgS {v : Val} (h : v.scalarC = true) : v.imgS.scalar = true := by
  cases v with
  | flt t =>
    simp only [Val.scalarC, Bool.and_eq_true, Bool.not_eq_true'] at h
    exact floatLeaf_floatPrint t h.1 h.2
  | _ => simp_all [Val.scalarC, Val.imgS, Val.scalar]

theorem inInt64_bounds : inInt64 0 = true ∧ inInt64 maxEnd = true := by decide

theorem clean_img {f : Frag} (h : f.clean = true) : (f.img false).clean = true ∧ (f.img false).selfImg = true := by
  cases f with
  | slice ns =>
    simp only [Frag.clean] at h
    match ns, h with
    | [], _ => simp [Frag.img, normSlice, Frag.clean, Frag.selfImg, inInt64_bounds]
    | [a], h => simp [Frag.img, normSlice, Frag.clean, Frag.selfImg, inInt64_bounds] at h ⊢; exact h
    | [a, b], h => simp [Frag.img, normSlice, Frag.clean, Frag.selfImg] at h ⊢; exact h
    | a :: b :: c :: r, h => simp [Frag.img, normSlice, Frag.clean, Frag.selfImg] at h ⊢; exact ⟨h.1, h.2.1, h.2.2.1⟩
  | wild hh => simp [Frag.img, Frag.clean, Frag.selfImg]
  | root => simp [Frag.clean] at h
  | «at» => simp [Frag.clean] at h
  | filter t => simp [Frag.clean] at h
  | child k => exact ⟨h, rfl⟩
  | nth i => exact ⟨h, rfl⟩
  | descent => exact ⟨h, rfl⟩
  | union ms => exact ⟨h, rfl⟩

theorem cleanTail_imgL : ∀ r : List Frag, cleanTail r = true →
    cleanTail (imgL false r) = true ∧ (imgL false r).all Frag.selfImg = true := by
  intro r
  induction r with
  | nil => intro _; exact ⟨rfl, rfl⟩
  | cons f r ih =>
    intro h
    simp only [cleanTail, Bool.and_eq_true] at h
    have h1 := clean_img h.1
    have h2 := ih h.2
    simp [imgL, cleanTail, h1.1, h1.2, h2.1, h2.2]

theorem pathLeaf_imgL {x : List Frag} (h : cleanPath x = true) : pathLeaf (imgL false x) = true := by
  cases x with
  | nil => simp [cleanPath] at h
  | cons f r =>
    simp only [cleanPath, Bool.and_eq_true] at h
    have h2 := cleanTail_imgL r h.2
    have hf : f.img false = f ∧ f.selfImg = true := by cases f <;> simp [Frag.isRootAt] at h <;> exact ⟨rfl, rfl⟩
    simp [pathLeaf, imgL, cleanPath, hf.1, hf.2, h.1, h2.1, h2.2]

theorem simple_imgV {v : Val} (h : v.okC = true) : v.imgV.simple = true := by
  cases v with
  | list vs =>
    simp only [Val.okC] at h
    simp only [Val.imgV, Val.simple, List.all_map]
    rw [List.all_eq_true] at h ⊢
    intro w hw
    exact scalar_imgS (h w hw)
  | expr x => simp [Val.okC] at h
  | regex s => simpa [Val.okC, Val.imgV, Val.imgS, Val.simple] using h
  | flt t => simpa [Val.okC, Val.imgV, Val.simple, Val.imgS, Val.scalar, Val.scalarC] using (scalar_imgS (v := .flt t) h)
  | null => rfl
  | nothing => rfl
  | bool b => rfl
  | int i => exact h
  | str s => rfl

theorem okS_leafy : ∀ e : Eqn, e.okC = true → e.leafy.okS = true :=
  okC_induction (fun _ h => simple_imgV h) (fun l _ ih => by simp [leafy_not, Eqn.okS, ih])
    (fun x hx => by simp [leafy_get, Eqn.okS, Eqn.resultOf, Val.imgV, Val.simple, pathLeaf_imgL hx])
    (fun o x ho hx => by
      have : (o == Gen.JpOps.op_length || o == Gen.JpOps.op_count) = true := by simpa [FnOp] using ho
      simp [leafy_fn ho, Eqn.okS, this, Eqn.resultOf, Val.imgV, Eqn.isPathVal, pathLeaf_imgL hx])
    (fun o l r ho _ _ ihl ihr => by rw [Eqn.leafy, Eqn.okS, ho, ihl, ihr]; rfl)

/-- `Equation.Script` returns the plain template, of the equation and of its reader's form, except for `Get(path)`
(whose reader's form is the bare path: `path exists true`) -/
theorem script_okC : ∀ e : Eqn, e.okC = true → (e.script = e.build ∧ e.leafy.script = e.leafy.build) ∨
    ∃ x, e = .un Gen.JpOps.op_get (.val (.expr x)) ∧ cleanPath x = true := by
  refine okC_induction ?_ ?_ ?_ ?_ ?_
  · intro v hv
    cases v with
    | expr x => cases hv
    | _ => exact .inl ⟨rfl, rfl⟩
  · intro l _ _; exact .inl ⟨script_un _ _ not_get, by rw [leafy_not]; exact script_un _ _ not_get⟩
  · intro x hx; exact .inr ⟨x, rfl, hx⟩
  · intro o x ho _; exact .inl ⟨script_un _ _ ho.facts.get, by rw [leafy_fn ho]; exact script_un _ _ ho.facts.get⟩
  · intro o l r ho _ _ _ _; exact .inl ⟨script_bin _ _ _ (get_binOps ho), script_bin _ _ _ (get_binOps ho)⟩

theorem script_leafy (e : Eqn) (h : e.okC = true) :
    e.leafy.script = e.script.map Item.imgI ∧ e.script.all Item.okI = true := by
  rcases script_okC e h with ⟨h1, h2⟩ | ⟨x, rfl, hx⟩
  · rw [h1, h2]; exact build_leafy e h
  · simp [leafy_get, Eqn.script, Eqn.resultOf, Val.imgV, unary_facts, build_bin exists_binOps, build_val, Item.imgI, Val.imgS, Item.okI,
      Val.okLeaf, hx, Val.okC, Val.scalarC]

theorem roundTripsEqn_leafy (e : Eqn) (h : e.okC = true) : roundTripsEqn e = roundTripsEqn e.leafy := by
  unfold roundTripsEqn eqnString
  rw [print_leafy e h true, (build_leafy e h).1]
  simp only [sameTemplate_imgI]

theorem roundTripsScript_leafy (e : Eqn) (h : e.okC = true) : roundTripsScript e = roundTripsScript e.leafy := by
  unfold roundTripsScript
  rw [(script_leafy e h).1, scriptPrint_imgI _ (script_leafy e h).2]
  simp only [sameTemplate_imgI]

theorem roundTripsFilter_leafy (e : Eqn) (h : e.okC = true) : roundTripsFilter e = roundTripsFilter e.leafy := by
  unfold roundTripsFilter filterPrint
  rw [(build_leafy e h).1, scriptPrint_imgI _ (build_leafy e h).2]
  simp only [sameTemplate_imgI]

theorem roundTripsEqn_okC (e : Eqn) (h : e.okC = true) : roundTripsEqn e = true := by
  rw [roundTripsEqn_leafy e h]; exact roundTripsEqn_okS _ (okS_leafy e h)

theorem roundTripsScript_okC (e : Eqn) (h : e.okC = true) : roundTripsScript e = true := by
  rw [roundTripsScript_leafy e h]; exact roundTripsScript_okS _ (okS_leafy e h)

theorem roundTripsFilter_okC (e : Eqn) (h : e.okC = true) : roundTripsFilter e = true := by
  rw [roundTripsFilter_leafy e h]; exact roundTripsFilter_okS _ (okS_leafy e h)

def Val.notList : Val → Bool
  | .list _ => false
  | _ => true

/-- no list constant inside a list constant -/
def Val.flat : Val → Bool
  | .list vs => vs.all Val.notList
  | _ => true

/-- path operands carry no filter, list constants are flat -/
def Eqn.shallow : Eqn → Bool
  | .val (.expr x) => noFilter x
  | .val v => v.flat
  | .un _ l => l.shallow
  | .bin _ l r => l.shallow && r.shallow

theorem devsL_append : ∀ a b : List Item, Item.devsL (a ++ b) = Item.devsL a ++ Item.devsL b := by
  intro a
  induction a with
  | nil => intro b; simp [Item.devsL]
  | cons x a ih => intro b; cases x <;> simp [Item.devsL, ih]

/-- what a list constant may hold: neither a path nor a regex -/
def Val.plain : Val → Bool
  | .expr _ => false
  | .regex _ => false
  | _ => true

theorem scalarC_of_spec (v : Val) (hok : v.ok = true) (hdev : v.devs = []) (h1 : v.notList = true)
    (h2 : v.plain = true) : v.scalarC = true := by
  cases v with
  | flt t =>
    simp only [Val.devs] at hdev
    simp [Val.scalarC, (addIf_nil hdev).1]
    exact hok
  | int i => exact hok
  | list vs => simp [Val.notList] at h1
  | expr x => simp [Val.plain] at h2
  | regex s => simp [Val.plain] at h2
  | _ => rfl

theorem scalars_of_spec : ∀ vs : List Val, Val.okL vs = true → Val.devsL vs = [] → vs.all Val.notList = true →
    vs.all Val.scalarC = true := by
  intro vs
  induction vs with
  | nil => intros; rfl
  | cons v r ih =>
    intro hok hdev hfl
    simp only [Val.okL, Bool.and_eq_true] at hok
    simp only [Val.devsL, List.append_eq_nil_iff] at hdev
    simp only [List.all_cons, Bool.and_eq_true] at hfl ⊢
    have hp : v.plain = true := by have := hok.1.2; cases v <;> simp_all [Val.plain]
    exact ⟨scalarC_of_spec v hok.1.1 hdev.1 hfl.1 hp, ih hok.2 hdev.2 hfl.2⟩

theorem cleanPath_of_spec (x : List Frag) (hok : Frag.okL x = true) (hnf : noFilter x = true)
    (hdev : (Val.expr x).devs = []) : cleanPath x = true := by
  simp only [Val.devs] at hdev
  obtain ⟨h1, h2⟩ := addIf_nil hdev
  simp only [Bool.or_eq_false_iff, Bool.not_eq_false'] at h1
  cases x with
  | nil => simp [startsRootAt] at h1
  | cons f r =>
    simp only [startsRootAt, devRootAtL] at h1
    simp only [Frag.okL, Bool.and_eq_true] at hok
    simp only [Frag.devsL, List.append_eq_nil_iff] at h2
    simp only [cleanPath, h1.2, Bool.true_and]
    exact cleanTail_of_spec r hok.2 (noFilter_cons f r hnf).2 h1.1 h2.2

/-- **the class of the general theorems is: constructible (`Eqn.ok`), no deviation named by Spec.lean
(`devsEqn e = []`), and shallow (no filter inside a path operand, no list inside a list)** -/
theorem okC_of_spec : ∀ e : Eqn, e.ok = true → devsEqn e = [] → e.shallow = true → e.okC = true := by
  intro e
  induction e with
  | val v =>
    intro hok hdev hsh
    simp only [devsEqn, Eqn.build, Item.devsL, List.append_nil] at hdev
    simp only [Eqn.ok, Bool.and_eq_true] at hok
    cases v with
    | list vs =>
      simp only [Eqn.shallow, Val.flat] at hsh
      simp only [Val.ok] at hok
      simp only [Val.devs] at hdev
      simpa [Eqn.okC, Val.okC] using List.all_eq_true.1 (scalars_of_spec vs hok.1 hdev hsh)
    | expr x => simp at hok
    | regex s => simp only [Val.devs] at hdev; simp [Eqn.okC, Val.okC, (addIf_nil hdev).1]
    | flt t => exact scalarC_of_spec (.flt t) hok.1 hdev rfl rfl
    | int i => exact hok.1
    | null => rfl
    | nothing => rfl
    | bool b => rfl
    | str s => rfl
  | un o l ih =>
    intro hok hdev hsh
    simp only [Eqn.ok] at hok
    by_cases hn : o = Gen.JpOps.op_not
    · subst hn
      simp only [if_true] at hok
      simp only [devsEqn, build_not, Item.devsL] at hdev
      simp only [Eqn.shallow] at hsh
      simp [Eqn.okC, ih hok hdev hsh]
    · simp only [hn, if_false] at hok
      split at hok
      · rename_i hg0
        have hg : (o = Gen.JpOps.op_get ∨ o = Gen.JpOps.op_length) ∨ o = Gen.JpOps.op_count := by simpa using hg0
        cases l with
        | val v =>
          cases v with
          | expr x =>
            simp only at hok
            simp only [Eqn.shallow] at hsh
            have hd : (Val.expr x).devs = [] := by
              rcases hg with (rfl | hg) | hg
              · simpa [devsEqn, build_get, Eqn.resultOf, Item.devsL] using hdev
              · simpa [devsEqn, build_fn (Or.inl hg), build_val, Item.devsL] using hdev
              · simpa [devsEqn, build_fn (Or.inr hg), build_val, Item.devsL] using hdev
            have hc := cleanPath_of_spec x hok hsh hd
            simp only [Eqn.okC, Bool.or_eq_true, Bool.and_eq_true, beq_iff_eq, Eqn.isCleanPath, hc, and_true]
            right; exact hg
          | _ => simp at hok
        | un _ _ => simp at hok
        | bin _ _ _ => simp at hok
      · simp at hok
  | bin o l r ihl ihr =>
    intro hok hdev hsh
    simp only [Eqn.ok, Bool.and_eq_true] at hok
    simp only [devsEqn, build_bin hok.1.1, Item.devsL, devsL_append, List.append_eq_nil_iff] at hdev
    simp only [Eqn.shallow, Bool.and_eq_true] at hsh
    simp only [Eqn.okC, hok.1.1, ihl hok.1.2 hdev.1 hsh.1, ihr hok.2 hdev.2 hsh.2, Bool.and_self]

theorem cleanPath_devs {x : List Frag} (h : cleanPath x = true) :
    addIf (devRootAtL x || !startsRootAt x) .noTextForm (Frag.devsL x) = [] := by
  cases x with
  | nil => cases h
  | cons f r =>
    rw [cleanPath, Bool.and_eq_true] at h
    obtain ⟨h3, h4⟩ := cleanTail_devs r h.2
    have : f.devs = [] := by cases f <;> first | rfl | cases h.1
    simp [devRootAtL, startsRootAt, h.1, h3, Frag.devsL, this, h4, addIf]

theorem scalarC_dev {v : Val} (h : v.scalarC = true) : v.devs = [] := by
  cases v with
  | flt t =>
    simp only [Val.scalarC, Bool.and_eq_true, Bool.not_eq_true'] at h
    simp [Val.devs, addIf, h.2]
  | list vs => cases h
  | expr x => cases h
  | regex s => cases h
  | _ => rfl

theorem scalarC_devs : ∀ vs : List Val, vs.all Val.scalarC = true → Val.devsL vs = []
  | [], _ => rfl
  | v :: r, h => by
    rw [List.all_cons, Bool.and_eq_true] at h
    rw [Val.devsL, scalarC_dev h.1, scalarC_devs r h.2]; rfl

theorem okC_val_devs {v : Val} (h : v.okC = true) : v.devs = [] := by
  cases v with
  | list vs => exact scalarC_devs vs h
  | regex s =>
    have : regexDev s = false := by simpa [Val.okC] using h
    simp [Val.devs, addIf, this]
  | expr x => cases h
  | _ => exact scalarC_dev h

/-- **an equation of the class names no deviation** (`okC_of_spec` is the other direction: constructible, no deviation
named and shallow is in the class) -/
theorem okC_devs : ∀ e : Eqn, e.okC = true → Item.devsL e.build = [] := by
  refine okC_induction ?_ ?_ ?_ ?_ ?_
  · intro v h; simp [build_val, Item.devsL, okC_val_devs h]
  · intro l _ ih; simp [build_not, Item.devsL, ih]
  · intro x hx; simp [build_get, Eqn.resultOf, Item.devsL, Val.devs, cleanPath_devs hx]
  · intro o x ho hx; simp [build_fn ho, build_val, Item.devsL, Val.devs, cleanPath_devs hx]
  · intro o l r ho _ _ ihl ihr; simp [build_bin ho, Item.devsL, devsL_append, ihl, ihr]

theorem okC_devsScript (e : Eqn) (h : e.okC = true) : Item.devsL e.script = [] := by
  rcases script_okC e h with ⟨h1, _⟩ | ⟨x, rfl, hx⟩
  · rw [h1]; exact okC_devs e h
  · simp [Eqn.script, unary_facts, build_bin exists_binOps, build_val, Item.devsL, Val.devs, cleanPath_devs hx]

theorem okL_of_scalarC : ∀ vs : List Val, vs.all Val.scalarC = true → Val.okL vs = true
  | [], _ => rfl
  | v :: r, h => by
    rw [List.all_cons, Bool.and_eq_true] at h
    have ih := okL_of_scalarC r h.2
    cases v with
    | flt t => have := h.1; rw [Val.scalarC, Bool.and_eq_true] at this; simp [Val.okL, Val.ok, this.1, ih]
    | int i => simp [Val.okL, Val.ok, show inInt64 i = true from h.1, ih]
    | list vs => cases h.1
    | expr x => cases h.1
    | regex s => cases h.1
    | _ => simp [Val.okL, Val.ok, ih]

end OjgVerif.JPText
