import OjgVerif.Writer.OjModel
/-! The text the `oj` writers produce as a function of the tree (`text`, built from the same pieces as the
text of `pretty`: `arrText`, `objText`, `memberT`, `scalarText`), and their buffer discipline: every append,
overwrite and flush amounts to appending that text to what has been written (`St.Writes`), with or without an
`io.Writer` and for every limit (`appendJSON_writes`). -/
namespace OjgVerif.Writer
open OjgVerif.Json

def commaTail : List Bytes → Bytes
  | [] => []
  | a :: r => 44 :: (a ++ commaTail r)

def commaJoin : List Bytes → Bytes
  | [] => []
  | a :: r => a ++ commaTail r

/-- `[`, the cells, white space, `]` -/
def arrText (cells : List Bytes) (cl : Bytes) : Bytes := 91 :: (commaJoin cells ++ cl ++ [93])

/-- `{`, the members, white space, `}` -/
def objText (members : List Bytes) (cl : Bytes) : Bytes := 123 :: (commaJoin members ++ cl ++ [125])

/-- white space, the key, a colon, the cell of the value -/
def memberT (html : Bool) (pre k cell : Bytes) : Bytes := pre ++ jsonString k html ++ 58 :: cell

def scalarText (html : Bool) : JV → Bytes
  | .null => [110, 117, 108, 108]
  | .bool b => if b then [116, 114, 117, 101] else [102, 97, 108, 115, 101]
  | .int i => fmtInt i
  | .flt t => t
  | .str x => jsonString x html
  | _ => []

/-- everything written so far: the chunks handed over, then the buffer -/
def St.flat (s : St) : Bytes := s.sent.reverse.flatten ++ s.rbuf.reverse

/-- what has been written so far as the caller sees it: the buffer and, with an `io.Writer`, the chunks
handed over before -/
def St.out (lim : Option Nat) (s : St) : Bytes :=
  match lim with
  | none => s.bytes
  | some _ => s.flat

/-- `T` has been written between `s` and `s'`. Every step of a writer has this form, so the text of a function
is the concatenation of the texts of its steps (`trans`). -/
def St.Writes (lim : Option Nat) (s s' : St) (T : Bytes) : Prop := s'.out lim = s.out lim ++ T

namespace St.Writes
variable {lim : Option Nat} {s s₁ s₂ : St} {A B : Bytes}

theorem refl (lim : Option Nat) (s : St) : St.Writes lim s s [] := (List.append_nil _).symm

theorem trans (h₁ : St.Writes lim s s₁ A) (h₂ : St.Writes lim s₁ s₂ B) : St.Writes lim s s₂ (A ++ B) := by
  unfold St.Writes at *; rw [h₂, h₁, List.append_assoc]

theorem of_eq (h : St.Writes lim s s₁ A) (e : A = B) : St.Writes lim s s₁ B := e ▸ h

theorem push (lim : Option Nat) (s : St) (bs : Bytes) : St.Writes lim s (s.push bs) bs := by
  cases lim <;> simp [St.Writes, St.out, St.bytes, St.flat, St.push]

theorem push1 (lim : Option Nat) (s : St) (b : UInt8) : St.Writes lim s (s.push1 b) [b] := push lim s [b]

theorem flush (lim : Option Nat) (s : St) : St.Writes lim s (s.flush lim) [] := by
  cases lim with
  | none => exact refl none s
  | some l =>
    simp only [St.Writes, St.out, St.flush, List.append_nil]
    split
    · simp [St.flat]
    · rfl

end St.Writes

/-- the overwrite always hits the comma pushed just before -/
@[simp] theorem setLast_push1 (s : St) (b c : UInt8) : (s.push1 b).setLast c = s.push1 c := by
  simp [St.setLast, St.push1]

/-- white space around the tokens: before each element of a container at depth `d`, before its
closing bracket, after the colon; `next` is the depth handed to the elements -/
structure Layout where
  cs : Nat → Bytes
  cl : Nat → Bytes
  sp : Bytes
  next : Nat → Nat

def tightL : Layout := { cs := fun _ => [], cl := fun _ => [], sp := [], next := fun _ => 0 }

def indentL (o : Opts) : Layout :=
  { cs := fun d => indentCs o (d + 1), cl := fun d => 10 :: indentIs o d, sp := [32], next := fun d => d + 1 }

/-- the layout `MustJSON` / `MustWrite` choose -/
def Layout.ofOpts (o : Opts) : Layout := if o.indented then indentL o else tightL

/-- the members that are written -/
def kept (o : Opts) (kvs : Kvs) : Kvs := kvs.filter fun kv => !skipMember o kv.2

/-- the text the writer produces, without buffers, overwrites and flushes; an empty container has no white
space inside -/
def text (o : Opts) (ord : Kvs → Kvs) (L : Layout) : Nat → JV → Nat → Bytes
  | 0, _, _ => []
  | f+1, v, d =>
    match v with
    | .arr xs => arrText (xs.map fun y => L.cs d ++ text o ord L f y (L.next d)) (if xs.isEmpty then [] else L.cl d)
    | .obj kvs =>
      objText ((kept o (order o.sort ord kvs)).map fun kv =>
          memberT (!o.htmlUnsafe) (L.cs d) kv.1 (L.sp ++ text o ord L f kv.2 (L.next d)))
        (if (kept o (order o.sort ord kvs)).isEmpty then [] else L.cl d)
    | v => scalarText (!o.htmlUnsafe) v

/-- the loop all four container writers run: write each item, a comma after each -/
def sepLoop {α : Type} (w : α → St → St) : List α → St → St
  | [], s => s
  | a :: r, s => sepLoop w r ((w a s).push1 44)

theorem sepLoop_writes {α : Type} (lim : Option Nat) (w : α → St → St) (t : α → Bytes)
    (hw : ∀ a s, St.Writes lim s (w a s) (t a)) :
    ∀ (r : List α) (a : α) (s0 : St), ∃ s' : St, sepLoop w (a :: r) s0 = s'.push1 44 ∧
      St.Writes lim s0 s' (commaJoin ((a :: r).map t)) := by
  intro r
  induction r with
  | nil => intro a s0; exact ⟨w a s0, rfl, (hw a s0).of_eq (by simp [commaJoin, commaTail])⟩
  | cons b r ih =>
    intro a s0
    obtain ⟨s', h1, h2⟩ := ih b ((w a s0).push1 44)
    exact ⟨s', h1, (((hw a s0).trans (St.Writes.push1 lim _ 44)).trans h2).of_eq (by simp [commaJoin, commaTail])⟩

theorem sepLoop_closed {α : Type} (lim : Option Nat) (w : α → St → St) (t : α → Bytes)
    (hw : ∀ a s, St.Writes lim s (w a s) (t a)) (r : List α) (a : α) (s : St) (op c : UInt8) :
    St.Writes lim s ((sepLoop w (a :: r) (s.push1 op)).setLast c) (op :: (commaJoin ((a :: r).map t) ++ [c])) := by
  obtain ⟨s', h1, h2⟩ := sepLoop_writes lim w t hw r a (s.push1 op)
  rw [h1, setLast_push1]
  exact ((St.Writes.push1 lim s op).trans h2).trans (St.Writes.push1 lim _ c)

theorem appendElems_eq (wv : JV → Nat → St → St) (cs : Bytes) (d2 : Nat) : ∀ (xs : List JV) (s : St),
    appendElems wv cs d2 xs s = sepLoop (fun m s => wv m d2 (s.push cs)) xs s := by
  intro xs
  induction xs with
  | nil => intro s; rfl
  | cons x r ih => intro s; simp only [appendElems, sepLoop, ih]

theorem tightElems_eq (wv : JV → Nat → St → St) : ∀ (xs : List JV) (s : St),
    tightElems wv xs s = sepLoop (fun m s => wv m 0 s) xs s := by
  intro xs
  induction xs with
  | nil => intro s; rfl
  | cons x r ih => intro s; simp only [tightElems, sepLoop, ih]

theorem appendMembers_eq (o : Opts) (wv : JV → Nat → St → St) (cs : Bytes) (d2 : Nat) : ∀ (kvs : Kvs) (s : St) (e : Bool),
    appendMembers o wv cs d2 kvs s e =
      (sepLoop (fun kv s => wv kv.2 d2 ((((s.push cs).push (jsonString kv.1 (!o.htmlUnsafe))).push1 58).push1 32))
        (kept o kvs) s, e && (kept o kvs).isEmpty) := by
  intro kvs
  induction kvs with
  | nil => intro s e; simp [appendMembers, kept, sepLoop]
  | cons kv r ih =>
    intro s e
    obtain ⟨k, m⟩ := kv
    by_cases h : skipMember o m = true <;> simp [appendMembers, kept, sepLoop, h, ih] <;> rfl

theorem tightMembers_eq (o : Opts) (wv : JV → Nat → St → St) : ∀ (kvs : Kvs) (s : St) (c : Bool),
    tightMembers o wv kvs s c =
      (sepLoop (fun kv s => wv kv.2 0 ((s.push (jsonString kv.1 (!o.htmlUnsafe))).push1 58)) (kept o kvs) s,
        c || !(kept o kvs).isEmpty) := by
  intro kvs
  induction kvs with
  | nil => intro s c; simp [tightMembers, kept, sepLoop]
  | cons kv r ih =>
    intro s c
    obtain ⟨k, m⟩ := kv
    by_cases h : skipMember o m = true <;> simp [tightMembers, kept, sepLoop, h, ih] <;> rfl

/-- everything `appendJSON` does to the state — appends, the comma overwrite, flushes — amounts to
appending `text` to what was written before; with or without an `io.Writer`, for every limit -/
theorem appendJSON_writes (o : Opts) (ord : Kvs → Kvs) (lim : Option Nat) :
    ∀ (f : Nat) (v : JV) (d : Nat) (s : St),
      St.Writes lim s (appendJSON o ord lim f v d s) (text o ord (Layout.ofOpts o) f v d) := by
  intro f
  induction f with
  | zero => intro v d s; exact St.Writes.refl lim s
  | succ f ih =>
    intro v d s
    have fl : ∀ {s' : St} {T : Bytes}, St.Writes lim s s' T → St.Writes lim s (s'.flush lim) T :=
      fun h => (h.trans (St.Writes.flush lim _)).of_eq (List.append_nil _)
    cases v with
    | arr xs =>
      simp only [appendJSON]
      refine fl ?_
      cases xs with
      | nil => cases o.indented <;> exact St.Writes.push lim s [91, 93]
      | cons x r =>
        cases hind : o.indented
        · simp only [Bool.false_eq_true, ↓reduceIte, tightArray, tightElems_eq, List.length_cons, Nat.zero_lt_succ]
          exact (sepLoop_closed lim _ _ (fun m s => ih m 0 s) r x s 91 93).of_eq
            (by simp [text, arrText, Layout.ofOpts, hind, tightL])
        · simp only [↓reduceIte, appendArray, appendElems_eq, List.length_cons, Nat.zero_lt_succ]
          exact (((sepLoop_closed lim _ (fun m => indentCs o (d + 1) ++ text o ord (Layout.ofOpts o) f m (d + 1))
            (fun m s => (St.Writes.push lim s _).trans (ih m _ _)) r x s 91 10).trans (St.Writes.push lim _ _)).trans
            (St.Writes.push1 lim _ 93)).of_eq (by simp [text, arrText, Layout.ofOpts, hind, indentL])
    | obj kvs =>
      simp only [appendJSON]
      refine fl ?_
      cases hk : kept o (order o.sort ord kvs) with
      | nil =>
        cases o.indented <;>
          simp only [Bool.false_eq_true, ↓reduceIte, appendObject, tightObject, appendMembers_eq, tightMembers_eq, sepLoop, hk,
            List.isEmpty_nil, Bool.and_true, Bool.not_true, Bool.or_false] <;>
          exact ((St.Writes.push1 lim s 123).trans (St.Writes.push1 lim _ 125)).of_eq (by simp [text, hk, objText, commaJoin])
      | cons kv r =>
        cases hind : o.indented
        · simp only [Bool.false_eq_true, ↓reduceIte, tightObject, tightMembers_eq, hk, List.isEmpty_cons,
            Bool.not_false, Bool.or_true]
          refine (sepLoop_closed lim _ (fun kv => memberT (!o.htmlUnsafe) [] kv.1 (text o ord (Layout.ofOpts o) f kv.2 0))
            (fun kv s => ?_) r kv s 123 125).of_eq (by simp [text, hk, objText, Layout.ofOpts, hind, tightL])
          exact (((St.Writes.push lim s _).trans (St.Writes.push1 lim _ 58)).trans (ih kv.2 _ _)).of_eq (by simp [memberT])
        · simp only [↓reduceIte, appendObject, appendMembers_eq, hk, List.isEmpty_cons, Bool.and_false, Bool.not_false]
          refine (((sepLoop_closed lim _
            (fun kv => memberT (!o.htmlUnsafe) (indentCs o (d + 1)) kv.1 ([32] ++ text o ord (Layout.ofOpts o) f kv.2 (d + 1)))
            (fun kv s => ?_) r kv s 123 10).trans (St.Writes.push lim _ _)).trans (St.Writes.push1 lim _ 125)).of_eq
            (by simp [text, hk, objText, Layout.ofOpts, hind, indentL])
          exact (((((St.Writes.push lim s _).trans (St.Writes.push lim _ _)).trans (St.Writes.push1 lim _ 58)).trans
            (St.Writes.push1 lim _ 32)).trans (ih kv.2 _ _)).of_eq (by simp [memberT])
    | bool b => cases b <;> exact fl (St.Writes.push lim s _)
    | big t => exact fl (St.Writes.refl lim s)
    | num t => exact fl (St.Writes.refl lim s)
    | _ => exact fl (St.Writes.push lim s _)

/-- the in-memory call: no `io.Writer`, the text is the buffer -/
theorem ojWrite_eq_text (o : Opts) (ord : Kvs → Kvs) (v : JV) :
    ojWrite o ord v = text o ord (Layout.ofOpts o) (depth v + 1) v 0 :=
  appendJSON_writes o ord none (depth v + 1) v 0 {}

theorem chunks_flatten (st : St) :
    (if 0 < st.rbuf.length then (st.bytes :: st.sent).reverse else st.sent.reverse).flatten = st.flat := by
  cases hr : st.rbuf <;> simp [St.flat, St.bytes, hr]

/-- the streamed call: the chunks, joined -/
theorem ojWriteTo_flatten (o : Opts) (ord : Kvs → Kvs) (limit : Nat) (v : JV) :
    (ojWriteTo o ord limit v).flatten = text o ord (Layout.ofOpts o) (depth v + 1) v 0 := by
  simp only [ojWriteTo]
  rw [chunks_flatten]
  exact appendJSON_writes o ord (some (effLimit limit)) (depth v + 1) v 0 {}

end OjgVerif.Writer
