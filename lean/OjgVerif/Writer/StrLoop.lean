import OjgVerif.Writer.LemmasEsc
/-! # The real loop of `ojg.AppendJSONString` (string.go) with its `start` / `skip` indices

`StrEsc.escLoop` models the loop per byte with a skip counter and a copy flag. This file
transcribes the loop the way the Go code runs it — a buffer, the index `start` of the run of bytes
still to be copied verbatim (`buf = append(buf, s[start:i]...)` before every escape, `s[start:]`
after the loop) and the index `skip` below which bytes were dealt with already — and proves that
both give the same text for every byte string (`appendJSONStringReal_eq`).

The bodies of `loopStep`, `realLoop`, `finishLoop` and `appendJSONStringRealT` are written out once more, as Go
statements, in `C04.appendJSONStringLoopTranscribed` (`Props/C04.lean`), the list that `C04_string_loop_shape`
compares with string.go on every run: an arm changed here is changed there too. -/
namespace OjgVerif.Writer

/-- `buf`, `start`, `skip` of the Go loop -/
structure LoopSt where
  buf : Bytes
  start : Nat
  skip : Nat

/-- `s[a:b]` -/
def slice (s : Bytes) (a b : Nat) : Bytes := (s.drop a).take (b - a)

/-- `if start < i { buf = append(buf, s[start:i]...) }` -/
def flushRun (s : Bytes) (st : LoopSt) (i : Nat) : Bytes :=
  if st.start < i then st.buf ++ slice s st.start i else st.buf

/-- one iteration `for i, b := range []byte(s)` -/
def loopStep (tbl : Array UInt8) (html : Bool) (s : Bytes) (st : LoopSt) (i : Nat) (b : UInt8) : LoopSt :=
  if i < st.skip then st                                                     -- `continue`
  else if tbl.getD b.toNat 0 = 111 then st                                   -- 'o': `continue`
  else if tbl.getD b.toNat 0 = 46 then                                       -- '.'
    { buf := flushRun s st i ++ u00 b, start := i + 1, skip := st.skip }
  else if tbl.getD b.toNat 0 = 104 then                                      -- 'h'
    if html then { buf := flushRun s st i ++ u00 b, start := i + 1, skip := st.skip } else st
  else if tbl.getD b.toNat 0 = 56 then                                       -- '8': `utf8.DecodeRuneInString(s[i:])`
    if (utf8Decode (s.drop i)).1 = 0x2028 then
      { buf := flushRun s st i ++ esc2028, start := i + (utf8Decode (s.drop i)).2, skip := i + (utf8Decode (s.drop i)).2 }
    else if (utf8Decode (s.drop i)).1 = 0x2029 then
      { buf := flushRun s st i ++ esc2029, start := i + (utf8Decode (s.drop i)).2, skip := i + (utf8Decode (s.drop i)).2 }
    else if (utf8Decode (s.drop i)).1 = runeError then
      { buf := flushRun s st i ++ escFFFD, start := i + (utf8Decode (s.drop i)).2, skip := i + (utf8Decode (s.drop i)).2 }
    else { st with skip := i + (utf8Decode (s.drop i)).2 }
  else { buf := flushRun s st i ++ [92, tbl.getD b.toNat 0], start := i + 1, skip := st.skip }

/-- the loop from index `i` over the bytes still to visit -/
def realLoop (tbl : Array UInt8) (html : Bool) (s : Bytes) : Nat → Bytes → LoopSt → LoopSt
  | _, [], st => st
  | i, b :: r, st => realLoop tbl html s (i + 1) r (loopStep tbl html s st i b)

/-- `if start < len(s) { buf = append(buf, s[start:]...) }; return append(buf, '"')` -/
def finishLoop (s : Bytes) (st : LoopSt) : Bytes :=
  (if st.start < s.length then st.buf ++ s.drop st.start else st.buf) ++ [34]

/-- `ojg.AppendJSONString(buf, s, htmlSafe)` as the Go code runs it -/
def appendJSONStringRealT (tbl : Array UInt8) (buf s : Bytes) (html : Bool) : Bytes :=
  finishLoop s (realLoop tbl html s 0 s { buf := buf ++ [34], start := 0, skip := 0 })

def appendJSONStringReal (buf s : Bytes) (html : Bool) : Bytes :=
  appendJSONStringRealT Gen.Root.jMap buf s html

theorem utf8Decode_width_pos (b : UInt8) (r : Bytes) : 1 ≤ (utf8Decode (b :: r)).2 := by
  have ite_pos (c : Prop) [Decidable c] (x y : Nat × Nat) (hx : 1 ≤ x.2) (hy : 1 ≤ y.2) :
      1 ≤ (if c then x else y).2 := by split <;> assumption
  simp only [utf8Decode]
  -- every leaf of the decision tree is a pair whose width is a literal 1–4; walk down to the leaves:
  -- `ite_pos` for the conditions (splitting them is slow, see `escLoop_act`), `split` for the matches on `r`
  repeat' first | exact Nat.succ_pos _ | apply ite_pos | split

/-- the state the loop moves to on a decision of the switch (`w` as in `EscAct.model`) -/
def EscAct.step (s : Bytes) (st : LoopSt) (i w : Nat) : EscAct → LoopSt
  | .copy => st
  | .esc e => { buf := flushRun s st i ++ e, start := i + 1, skip := st.skip }
  | .drop e => { buf := flushRun s st i ++ e, start := i + w, skip := i + w }
  | .pass => { st with skip := i + w }

theorem loopStep_act (tbl : Array UInt8) (html : Bool) (s : Bytes) (st : LoopSt) (i : Nat) (b : UInt8)
    (h : ¬ i < st.skip) :
    loopStep tbl html s st i b =
      (escAct tbl html b (utf8Decode (s.drop i)).1).step s st i (utf8Decode (s.drop i)).2 := by
  simp only [loopStep, escAct, if_neg h, apply_ite (EscAct.step _ _ _ _)]
  rfl

theorem flushRun_append (pre t : Bytes) (st : LoopSt) :
    flushRun (pre ++ t) st pre.length = st.buf ++ pre.drop st.start := by
  unfold flushRun slice
  split
  · rw [List.drop_append_of_le_length (by omega), List.take_left' (by simp)]
  · rw [List.drop_eq_nil_of_le (by omega), List.append_nil]

/-- the run starts at or before `i`, or a dropped sequence is being passed over: `start = skip` lies ahead -/
def LoopInv (st : LoopSt) (i : Nat) : Prop := st.start ≤ i ∨ st.start = st.skip

/-- the text written so far and what is still to come, per the per-byte model, from state `st` when
`pre` has been visited and `r` is left -/
def restOf (tbl : Array UInt8) (html : Bool) (pre : Bytes) (st : LoopSt) (r : Bytes) : Bytes :=
  st.buf ++ pre.drop st.start ++ escLoop tbl html (st.skip - pre.length) (decide (st.start ≤ pre.length)) r

theorem restOf_keep {tbl : Array UInt8} {html : Bool} {pre : Bytes} {b : UInt8} {r : Bytes} (st st' : LoopSt) {k : Nat}
    (hb : st'.buf = st.buf) (hs : st'.start = st.start) (h : st.start ≤ pre.length)
    (hk : st'.skip - (pre.length + 1) = k) :
    restOf tbl html (pre ++ [b]) st' r = st.buf ++ pre.drop st.start ++ b :: escLoop tbl html k true r := by
  unfold restOf
  rw [hb, hs, List.drop_append_of_le_length h, List.length_append, List.length_singleton, hk,
    decide_eq_true (Nat.le_succ_of_le h)]
  simp

theorem restOf_emit {tbl : Array UInt8} {html : Bool} {pre : Bytes} {b : UInt8} {r : Bytes} (e : Bytes) (st st' : LoopSt)
    {k : Nat} (c : Bool) (hb : st'.buf = st.buf ++ pre.drop st.start ++ e) (hs : pre.length + 1 ≤ st'.start)
    (hk : st'.skip - (pre.length + 1) = k) (hc : k = 0 ∨ decide (st'.start ≤ pre.length + 1) = c) :
    restOf tbl html (pre ++ [b]) st' r = st.buf ++ pre.drop st.start ++ (e ++ escLoop tbl html k c r) := by
  unfold restOf
  rw [hb, List.drop_eq_nil_of_le (as := pre ++ [b]) (by simpa using hs), List.length_append, List.length_singleton,
    hk, escLoop_copy_irrel tbl html k _ c r hc]
  simp

theorem loopStep_spec (tbl : Array UInt8) (html : Bool) (pre : Bytes) (b : UInt8) (r : Bytes) (st : LoopSt)
    (hinv : LoopInv st pre.length) :
    LoopInv (loopStep tbl html (pre ++ b :: r) st pre.length b) (pre.length + 1) ∧
    restOf tbl html (pre ++ [b]) (loopStep tbl html (pre ++ b :: r) st pre.length b) r
      = restOf tbl html pre st (b :: r) := by
  unfold LoopInv at hinv ⊢
  by_cases hsk : pre.length < st.skip
  · have hst : loopStep tbl html (pre ++ b :: r) st pre.length b = st := by
      unfold loopStep; rw [if_pos hsk]
    obtain ⟨k, hk⟩ : ∃ k, st.skip - pre.length = k + 1 := ⟨st.skip - pre.length - 1, by omega⟩
    have hk' : st.skip - (pre.length + 1) = k := by omega
    rw [hst, restOf.eq_1 tbl html pre, hk, escLoop_succ]
    refine ⟨by omega, ?_⟩
    by_cases hle : st.start ≤ pre.length
    · rw [restOf_keep st st rfl rfl hle hk', decide_eq_true hle]
      rfl
    · -- a dropped sequence: `start = skip` lies ahead, the run is empty and nothing is written; the copy flag
      -- stays `false` unless this was the last byte to pass (`k = 0`), when it is not looked at
      rw [restOf_emit [] st st false (by rw [List.drop_eq_nil_of_le (by omega)]; simp) (by omega) hk'
        (by by_cases k = 0 <;> simp <;> omega), decide_eq_false hle]
      rfl
  · have hle : st.start ≤ pre.length := by omega
    have hk' : st.skip - (pre.length + 1) = 0 := by omega
    rw [loopStep_act tbl html _ st _ b hsk, List.drop_left, restOf.eq_1 tbl html pre,
      show st.skip - pre.length = 0 by omega, escLoop_act]
    have hw := utf8Decode_width_pos b r
    generalize (utf8Decode (b :: r)).2 = w at hw ⊢
    cases escAct tbl html b (utf8Decode (b :: r)).1 <;> dsimp only [EscAct.step, EscAct.model]
    · exact ⟨by omega, restOf_keep st st rfl rfl hle hk'⟩
    · rw [flushRun_append]
      exact ⟨Or.inl (Nat.le_refl _), restOf_emit _ st _ true rfl (Nat.le_refl _) hk' (Or.inl rfl)⟩
    · -- `start = skip = i + w`: past the next byte, so the flag is `false`, unless `w = 1` and nothing is left to pass
      rw [flushRun_append]
      exact ⟨Or.inr rfl, restOf_emit _ st _ false rfl (by simp; omega) (show _ = w - 1 by simp; omega)
        (by by_cases w - 1 = 0 <;> simp <;> omega)⟩
    · exact ⟨by omega, restOf_keep st _ rfl rfl hle (show _ = w - 1 by simp; omega)⟩

theorem realLoop_eq (tbl : Array UInt8) (html : Bool) : ∀ (r pre : Bytes) (st : LoopSt),
    LoopInv st pre.length →
    finishLoop (pre ++ r) (realLoop tbl html (pre ++ r) pre.length r st)
      = restOf tbl html pre st r ++ [34] := by
  intro r
  induction r with
  | nil =>
    intro pre st _
    simp only [realLoop, finishLoop, restOf, escLoop, List.append_nil]
    split
    · rfl
    · rw [List.drop_eq_nil_of_le (by omega), List.append_nil]
  | cons b r ih =>
    intro pre st hinv
    obtain ⟨hinv', heq⟩ := loopStep_spec tbl html pre b r st hinv
    rw [← heq, realLoop]
    rw [show pre ++ b :: r = (pre ++ [b]) ++ r by simp, show pre.length + 1 = (pre ++ [b]).length by simp] at hinv' ⊢
    exact ih _ _ hinv'

/-- the table is a variable: nothing about `jMap` is needed for the two loops to agree -/
theorem appendJSONStringRealT_eq (tbl : Array UInt8) (buf s : Bytes) (html : Bool) :
    appendJSONStringRealT tbl buf s html = buf ++ (34 :: (escLoop tbl html 0 true s ++ [34])) := by
  have h := realLoop_eq tbl html s [] { buf := buf ++ [34], start := 0, skip := 0 } (Or.inl (Nat.le_refl _))
  simpa [appendJSONStringRealT, restOf] using h

theorem appendJSONStringReal_eq (buf s : Bytes) (html : Bool) :
    appendJSONStringReal buf s html = appendJSONString buf s html :=
  appendJSONStringRealT_eq Gen.Root.jMap buf s html

end OjgVerif.Writer
