import OjgVerif.Writer.JsonSpec
import OjgVerif.Json.NumValue
/-! Lemmas about number literals: the digits printed for an integer, and "a number literal followed
by a byte that cannot continue it is read as that literal" (`numLit_append`). The second is a frame
property of `Spec.pNumber`, carried through its stages (`takeDigits_append_stop`, `pInt_append` … `pNumber_append`): what the reader takes
from `a` alone it takes from `a ++ r`, leaving `r` behind as well, when the head of `r` continues no literal at
all (`stopHead`: no digit, `.`, `e`, `E`; more than `Json.Ends p r` asks for any one `p`). It is stated on
runs of the reader because `isNumLit t` is one, on `t` alone; `Json/NumParse.lean` goes the other way, from a
run to the parts of the literal. -/
namespace OjgVerif.Writer
open OjgVerif OjgVerif.Json

theorem digit_toNat (n : Nat) (h : n < 10) : (UInt8.ofNat (48 + n)).toNat = 48 + n := by
  simp [UInt8.toNat_ofNat']; omega

theorem digit_isDigit19 (n : Nat) (h : n < 10) (h0 : 0 < n) : Spec.isDigit19 (UInt8.ofNat (48 + n)) = true := by
  have := digit_toNat n h
  simp [Spec.isDigit19, UInt8.le_iff_toNat_le]; omega

theorem fmtNatAux_shape (fuel : Nat) : ∀ (n : Nat) (acc : Bytes), n < fuel →
    ∃ d ds, fmtNatAux fuel n acc = d :: (ds ++ acc) ∧ (ds.all Spec.isDigit) = true ∧
      (n = 0 → d = 48 ∧ ds = []) ∧ (0 < n → Spec.isDigit19 d = true) := by
  induction fuel with
  | zero => intro n acc h; omega
  | succ fuel ih =>
    intro n acc h
    by_cases hn : n < 10
    · refine ⟨UInt8.ofNat (48 + n), [], by simp only [fmtNatAux, hn, ↓reduceIte, List.nil_append], rfl, ?_, ?_⟩
      · intro h0; subst h0; exact ⟨rfl, rfl⟩
      · intro h0; exact digit_isDigit19 n hn h0
    · have hlt : n / 10 < fuel := by omega
      obtain ⟨d, ds, he, hds, -, h19⟩ := ih (n / 10) (UInt8.ofNat (48 + n % 10) :: acc) hlt
      refine ⟨d, ds ++ [UInt8.ofNat (48 + n % 10)], ?_, ?_, ?_, ?_⟩
      · simp only [fmtNatAux, hn, ↓reduceIte, he, List.append_assoc, List.cons_append, List.nil_append]
      · simp only [List.all_append, hds, List.all_cons, List.all_nil, isDigit_ofNat (n % 10) (by omega), Bool.and_self]
      · intro h0; omega
      · intro _; exact h19 (by omega)

theorem fmtNat_shape (n : Nat) :
    ∃ d ds, fmtNat n = d :: ds ∧ (ds.all Spec.isDigit) = true ∧
      (n = 0 → d = 48 ∧ ds = []) ∧ (0 < n → Spec.isDigit19 d = true) := by
  obtain ⟨d, ds, he, h1, h2, h3⟩ := fmtNatAux_shape (n + 1) n [] (by omega)
  exact ⟨d, ds, by simpa [fmtNat] using he, h1, h2, h3⟩

theorem takeDigits_all (ds : Bytes) (h : (ds.all Spec.isDigit) = true) : Spec.takeDigits ds = (ds, []) := by
  have := Json.takeDigits_append ds [] (List.all_eq_true.mp h) (.nil _)
  rwa [List.append_nil] at this

theorem isDigit19_ne (d : UInt8) (h : Spec.isDigit19 d = true) : d ≠ 48 ∧ d ≠ 45 := by
  constructor <;> (intro e; subst e; simp [Spec.isDigit19] at h)

theorem pNumber_fmtNat (n : Nat) : Spec.pNumber (fmtNat n) = some (fmtNat n, []) := by
  obtain ⟨d, ds, he, hds, h0, h19⟩ := fmtNat_shape n
  rw [he]
  by_cases hn : n = 0
  · obtain ⟨rfl, rfl⟩ := h0 hn
    simp [Spec.pNumber, Spec.pUnsigned, Spec.pInt, Spec.pFrac, Spec.pExp]
  · have h := h19 (by omega)
    obtain ⟨n48, n45⟩ := isDigit19_ne d h
    simp [Spec.pNumber, Spec.pUnsigned, Spec.pInt, Spec.pFrac, Spec.pExp, n48, n45, h, takeDigits_all ds hds]

/-- the writer's specification and the model of gen/number.go carry the same text of `strconv.FormatUint` -/
theorem fmtNat_eq (n : Nat) : fmtNat n = Json.fmtNat n := by
  have h : ∀ fuel n (acc : Bytes), fmtNatAux fuel n acc = Json.fmtNatAux fuel n acc := by
    intro fuel
    induction fuel with
    | zero => intro n acc; rfl
    | succ k ih => intro n acc; simp only [fmtNatAux, Json.fmtNatAux, ih]
  exact h _ _ _

/-- `digitsVal` is the fold that `Json.natOf` is -/
theorem digitsVal_eq (ds : Bytes) (a : Nat) : digitsVal ds a = ds.foldl (fun a b => a * 10 + dval b) a := by
  induction ds generalizing a with
  | nil => rfl
  | cons d r ih => simp only [digitsVal, List.foldl_cons, ih, dval]

theorem digitsVal_fmtNat (n : Nat) : digitsVal (fmtNat n) 0 = n := by
  rw [fmtNat_eq, digitsVal_eq]; exact natOf_fmtNat n

theorem fmtNat_head_ne_minus (n : Nat) : ∃ d ds, fmtNat n = d :: ds ∧ d ≠ 45 := by
  obtain ⟨d, ds, he, -, h0, h19⟩ := fmtNat_shape n
  refine ⟨d, ds, he, ?_⟩
  by_cases hn : n = 0
  · rw [(h0 hn).1]; decide
  · exact (isDigit19_ne d (h19 (by omega))).2

theorem intVal_fmtInt (i : Int) : intVal (fmtInt i) = i := by
  unfold fmtInt
  by_cases hi : i < 0
  · simp only [hi, ↓reduceIte, intVal, digitsVal_fmtNat]
    omega
  · obtain ⟨d, ds, he, hd⟩ := fmtNat_head_ne_minus i.natAbs
    simp only [hi, ↓reduceIte]
    have := digitsVal_fmtNat i.natAbs
    rw [he] at this ⊢
    simp only [intVal, hd, ↓reduceIte, this]
    omega

theorem isNumLit_fmtInt (i : Int) : isNumLit (fmtInt i) := by
  unfold isNumLit fmtInt
  by_cases hi : i < 0
  · simp only [hi, ↓reduceIte]
    obtain ⟨d, ds, he, hd⟩ := fmtNat_head_ne_minus i.natAbs
    have hp := pNumber_fmtNat i.natAbs
    rw [he] at hp ⊢
    simp only [Spec.pNumber, hd, ↓reduceIte] at hp ⊢
    simp [hp]
  · simp only [hi, ↓reduceIte]
    exact pNumber_fmtNat _

/-- the head of the rest cannot continue a number literal -/
def stopHead : Bytes → Bool
  | [] => true
  | c :: _ => !Spec.isDigit c && c != 46 && c != 101 && c != 69

theorem takeDigits_append_stop (a r : Bytes) (h : stopHead r = true) :
    Spec.takeDigits (a ++ r) = ((Spec.takeDigits a).1, (Spec.takeDigits a).2 ++ r) := by
  induction a with
  | nil =>
    cases r with
    | nil => rfl
    | cons c t =>
      simp only [stopHead, Bool.and_eq_true, Bool.not_eq_true'] at h
      simp [Spec.takeDigits, h.1.1.1]
  | cons c a ih =>
    by_cases hc : Spec.isDigit c = true
    · simp [Spec.takeDigits, hc, ih]
    · simp [Spec.takeDigits, hc]

theorem pInt_append (a r x y : Bytes) (h : stopHead r = true) (hp : Spec.pInt a = some (x, y)) :
    Spec.pInt (a ++ r) = some (x, y ++ r) := by
  cases a with
  | nil => simp [Spec.pInt] at hp
  | cons d a =>
    by_cases h0 : d = 48
    · subst h0
      simp [Spec.pInt] at hp ⊢
      obtain ⟨rfl, rfl⟩ := hp; exact ⟨rfl, rfl⟩
    · by_cases h19 : Spec.isDigit19 d = true
      · simp [Spec.pInt, h0, h19] at hp ⊢
        obtain ⟨rfl, rfl⟩ := hp
        simp [takeDigits_append_stop a r h]
      · simp [Spec.pInt, h0, h19] at hp

theorem pFrac_append (a r x y : Bytes) (h : stopHead r = true) (hp : Spec.pFrac a = some (x, y)) :
    Spec.pFrac (a ++ r) = some (x, y ++ r) := by
  cases a with
  | nil =>
    simp [Spec.pFrac] at hp
    obtain ⟨rfl, rfl⟩ := hp
    cases r with
    | nil => rfl
    | cons c t =>
      simp only [stopHead, Bool.and_eq_true, Bool.not_eq_true', bne_iff_ne, ne_eq] at h
      simp [Spec.pFrac, h.1.1.2]
  | cons c a =>
    by_cases hc : c = 46
    · subst hc
      simp only [Spec.pFrac, ↓reduceIte, List.cons_append] at hp ⊢
      rw [takeDigits_append_stop a r h]
      by_cases he : (Spec.takeDigits a).1.isEmpty = true
      · simp [he] at hp
      · simp [he] at hp ⊢
        obtain ⟨rfl, rfl⟩ := hp; exact ⟨rfl, rfl⟩
    · simp [Spec.pFrac, hc] at hp ⊢
      obtain ⟨rfl, rfl⟩ := hp; exact ⟨rfl, rfl⟩

theorem pExp_append (a r x y : Bytes) (h : stopHead r = true) (hp : Spec.pExp a = some (x, y)) :
    Spec.pExp (a ++ r) = some (x, y ++ r) := by
  cases a with
  | nil =>
    simp [Spec.pExp] at hp
    obtain ⟨rfl, rfl⟩ := hp
    cases r with
    | nil => rfl
    | cons c t =>
      simp only [stopHead, Bool.and_eq_true, Bool.not_eq_true', bne_iff_ne, ne_eq] at h
      simp [Spec.pExp, h.1.2, h.2]
  | cons c a =>
    by_cases hc : (c = 101 || c = 69) = true
    · cases a with
      | nil => simp [Spec.pExp, hc, Spec.pExpSign, Spec.takeDigits] at hp
      | cons s a =>
        have hs : Spec.pExpSign (s :: a ++ r) = ((Spec.pExpSign (s :: a)).1, (Spec.pExpSign (s :: a)).2 ++ r) := by
          by_cases h2 : (s = 43 || s = 45) = true
          · simp [Spec.pExpSign, h2]
          · simp [Spec.pExpSign, h2]
        simp only [Spec.pExp, hc, ↓reduceIte, List.cons_append] at hp ⊢
        rw [show s :: (a ++ r) = s :: a ++ r from rfl, hs]
        simp only
        rw [takeDigits_append_stop _ r h]
        by_cases he : (Spec.takeDigits (Spec.pExpSign (s :: a)).2).1.isEmpty = true
        · simp [he] at hp
        · simp [he] at hp ⊢
          obtain ⟨rfl, rfl⟩ := hp; exact ⟨rfl, rfl⟩
    · simp [Spec.pExp, hc] at hp ⊢
      obtain ⟨rfl, rfl⟩ := hp; exact ⟨rfl, rfl⟩

theorem pUnsigned_append (a r x y : Bytes) (h : stopHead r = true) (hp : Spec.pUnsigned a = some (x, y)) :
    Spec.pUnsigned (a ++ r) = some (x, y ++ r) := by
  unfold Spec.pUnsigned at hp ⊢
  cases h1 : Spec.pInt a with
  | none => simp [h1] at hp
  | some p1 =>
    obtain ⟨ip, r1⟩ := p1
    rw [pInt_append a r ip r1 h h1]
    simp only [h1] at hp ⊢
    cases h2 : Spec.pFrac r1 with
    | none => simp [h2] at hp
    | some p2 =>
      obtain ⟨fp, r2⟩ := p2
      rw [pFrac_append r1 r fp r2 h h2]
      simp only [h2] at hp ⊢
      cases h3 : Spec.pExp r2 with
      | none => simp [h3] at hp
      | some p3 =>
        obtain ⟨ep, r3⟩ := p3
        rw [pExp_append r2 r ep r3 h h3]
        simp only [h3] at hp ⊢
        simp at hp ⊢
        obtain ⟨rfl, rfl⟩ := hp; exact ⟨rfl, rfl⟩

theorem pNumber_append (a r x y : Bytes) (h : stopHead r = true) (hp : Spec.pNumber a = some (x, y)) :
    Spec.pNumber (a ++ r) = some (x, y ++ r) := by
  cases a with
  | nil => simp [Spec.pNumber] at hp
  | cons b a =>
    by_cases hb : b = 45
    · subst hb
      simp only [Spec.pNumber, ↓reduceIte, List.cons_append] at hp ⊢
      cases h1 : Spec.pUnsigned a with
      | none => simp [h1] at hp
      | some p =>
        obtain ⟨u, v⟩ := p
        rw [pUnsigned_append a r u v h h1]
        simp [h1] at hp ⊢
        obtain ⟨rfl, rfl⟩ := hp; exact ⟨rfl, rfl⟩
    · simp only [List.cons_append, Spec.pNumber, hb, ↓reduceIte] at hp ⊢
      exact pUnsigned_append (b :: a) r x y h hp

theorem numLit_append (t r : Bytes) (ht : isNumLit t) (h : stopHead r = true) :
    Spec.pNumber (t ++ r) = some (t, r) := by
  have := pNumber_append t r t [] h ht
  simpa using this

theorem numLit_head (t : Bytes) (ht : isNumLit t) : ∃ b t', t = b :: t' ∧ (b = 45 ∨ Spec.isDigit b = true) := by
  unfold isNumLit at ht
  cases t with
  | nil => simp [Spec.pNumber] at ht
  | cons b a =>
    refine ⟨b, a, rfl, ?_⟩
    by_cases hb : b = 45
    · exact Or.inl hb
    · right
      simp only [Spec.pNumber, hb, ↓reduceIte, Spec.pUnsigned] at ht
      by_cases h0 : b = 48
      · subst h0; decide
      · by_cases h19 : Spec.isDigit19 b = true
        · simp [Spec.isDigit19] at h19
          simp [Spec.isDigit, h19.2, UInt8.le_iff_toNat_le] at h19 ⊢
          omega
        · simp [Spec.pInt, h0, h19] at ht

end OjgVerif.Writer
