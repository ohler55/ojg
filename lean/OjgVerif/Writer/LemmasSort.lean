import OjgVerif.Writer.JsonSpec
import OjgVerif.Common.BytesLemmas
/-! Lemmas about `sort.Strings` on the keys: the result is a permutation, ascending when the keys are
distinct, and the same for every order the map was iterated in. -/
namespace OjgVerif.Writer
open OjgVerif.Json

def Ascending (l : Kvs) : Prop := l.Pairwise fun a b => bytesLt a.1 b.1 = true

theorem insertKv_perm (k : Bytes) (v : JV) : ∀ l : Kvs, (insertKv k v l).Perm ((k, v) :: l) :=
  ins_perm (fun a b : Bytes × JV => bytesLt a.1 b.1) (fun kv l => insertKv kv.1 kv.2 l) (fun _ => rfl)
    (fun _ (_, _) _ => rfl) (k, v)

theorem sortKvs_perm : ∀ l : Kvs, (sortKvs l).Perm l := by
  intro l
  induction l with
  | nil => exact List.Perm.refl _
  | cons kv r ih =>
    obtain ⟨k, v⟩ := kv
    simp only [sortKvs]
    exact (insertKv_perm k v _).trans (List.Perm.cons _ ih)

theorem insertKv_ascending (k : Bytes) (v : JV) : ∀ l : Kvs, Ascending l → (∀ kv ∈ l, kv.1 ≠ k) →
    Ascending (insertKv k v l) :=
  ins_sorted (fun a b : Bytes × JV => bytesLt a.1 b.1) (fun kv l => insertKv kv.1 kv.2 l) (fun _ => rfl)
    (fun _ (_, _) _ => rfl) (fun kv => kv.1) (fun _ _ => rfl) (k, v)

theorem sortKvs_ascending : ∀ l : Kvs, (l.map fun kv => kv.1).Nodup → Ascending (sortKvs l) := by
  intro l
  induction l with
  | nil => intro _; simp [sortKvs, Ascending]
  | cons kv r ih =>
    intro hnd
    obtain ⟨k, v⟩ := kv
    simp only [List.map_cons, List.nodup_cons] at hnd
    simp only [sortKvs]
    apply insertKv_ascending k v _ (ih hnd.2)
    intro kv hkv e
    have hm := (sortKvs_perm r).mem_iff.mp hkv
    exact hnd.1 (by rw [← e]; exact List.mem_map_of_mem hm)

theorem sortKvs_perm_eq (l₁ l₂ : Kvs) (hp : l₁.Perm l₂) (hnd : (l₁.map fun kv => kv.1).Nodup) :
    sortKvs l₁ = sortKvs l₂ := by
  have hnd₂ : (l₂.map fun kv => kv.1).Nodup := (hp.map _).nodup_iff.mp hnd
  exact ((sortKvs_perm l₁).trans (hp.trans (sortKvs_perm l₂).symm)).eq_of_pairwise
    (fun a b _ _ h1 h2 => (bytesLt_asymm _ _ h1 h2).elim)
    (sortKvs_ascending l₁ hnd) (sortKvs_ascending l₂ hnd₂)

end OjgVerif.Writer
