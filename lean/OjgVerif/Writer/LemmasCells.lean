import OjgVerif.Common.BytesLemmas
import OjgVerif.Writer.LemmasOj
import OjgVerif.Writer.LemmasNum
import OjgVerif.Writer.LemmasStr
/-! The RFC 8259 reader on what the writers write. A cell is the text of one value with white space on
either side; every array and object of either writer, whether tight, indented, flat or aligned in columns,
is a bracketed, comma-separated list of cells, and the layouts differ in the white space only. So one
reading theorem for arrays (`pValue_arrText`) and one for objects (`pValue_objText`) serve them all, and
"`t` is a JSON text of `n`" (`JText`: read as `n` by the reader with any fuel above the length of `t`)
is closed under both (`JText.arr`, `JText.obj`). -/
namespace OjgVerif.Writer
open OjgVerif.Json

theorem all_take_drop (l : Bytes) (p : UInt8 → Bool) (h : (l.all p) = true) (a b : Nat) :
    (((l.take a).drop b).all p) = true := by
  simp only [List.all_eq_true] at h ⊢
  intro x hx
  exact h x (List.mem_of_mem_take (List.mem_of_mem_drop hx))

theorem all_of_cons {α : Type} {P : α → Prop} {PL : List α → Prop} (hcons : ∀ x r, PL (x :: r) → P x ∧ PL r) :
    ∀ xs, PL xs → ∀ x ∈ xs, P x := by
  intro xs
  induction xs with
  | nil => intro _ x h; cases h
  | cons y r ih =>
    intro h x hx
    rcases List.mem_cons.mp hx with rfl | hx
    · exact (hcons _ r h).1
    · exact ih (hcons y r h).2 x hx

theorem cons_of_all {α : Type} {P : α → Prop} {PL : List α → Prop} (hnil : PL [])
    (hcons : ∀ x r, P x → PL r → PL (x :: r)) : ∀ xs, (∀ x ∈ xs, P x) → PL xs := by
  intro xs
  induction xs with
  | nil => intro _; exact hnil
  | cons y r ih => intro h; exact hcons y r (h y (by simp)) (ih fun x hx => h x (by simp [hx]))

theorem depth_mem_list (xs : List JV) (x : JV) (h : x ∈ xs) : depth x ≤ depthList xs :=
  all_of_cons (P := fun y => depth y ≤ depthList xs) (PL := fun l => depthList l ≤ depthList xs)
    (fun _ _ h => by rw [depthList] at h; omega) xs (Nat.le_refl _) x h

theorem depth_mem_kvs (kvs : Kvs) (kv : Bytes × JV) (h : kv ∈ kvs) : depth kv.2 ≤ depthKvs kvs :=
  all_of_cons (P := fun y => depth y.2 ≤ depthKvs kvs) (PL := fun l => depthKvs l ≤ depthKvs kvs)
    (fun y _ h => by obtain ⟨_, _⟩ := y; rw [depthKvs] at h; dsimp only; omega) kvs (Nat.le_refl _) kv h

theorem okW_mem_list : ∀ (xs : List JV), okList xs → ∀ x ∈ xs, okW x := all_of_cons fun _ _ h => h

theorem okW_mem_kvs : ∀ (kvs : Kvs), okKvs kvs → ∀ kv ∈ kvs, okW kv.2 :=
  all_of_cons (P := fun kv : Bytes × JV => okW kv.2) fun _ _ h => h

theorem normMembers_eq (drop : JV → Bool) (nv : JV → JV) : ∀ kvs : Kvs,
    normMembers drop nv kvs = (kvs.filter fun kv => !drop kv.2).map fun kv => (sanitize kv.1, nv kv.2) := by
  intro kvs
  induction kvs with
  | nil => rfl
  | cons kv r ih =>
    obtain ⟨k, v⟩ := kv
    by_cases h : drop v = true
    · simp [normMembers, h, ih]
    · simp [normMembers, h, ih]

theorem skipWs_ws_append (w t : Bytes) (h : (w.all Spec.isWs) = true) : Spec.skipWs (w ++ t) = Spec.skipWs t := by
  induction w with
  | nil => rfl
  | cons b r ih =>
    simp only [List.all_cons, Bool.and_eq_true] at h
    simp [Spec.skipWs, h.1, ih h.2]

theorem skipWs_nonws (b : UInt8) (t : Bytes) (h : Spec.isWs b = false) : Spec.skipWs (b :: t) = b :: t := by
  simp [Spec.skipWs, h]

/-- the first byte of a value -/
def startByte (b : UInt8) : Bool :=
  b = 110 || b = 116 || b = 102 || b = 45 || Spec.isDigit b || b = 34 || b = 91 || b = 123

/-- what may follow a value: nothing, a comma, a closing bracket, white space -/
def follows : Bytes → Bool
  | [] => true
  | c :: _ => c = 44 || c = 93 || c = 125 || Spec.isWs c

/-- the byte classes against one another, byte by byte: a value does not start with white space, a
separator, a closing bracket or the first byte of a BOM; a number starts like a value and like no
other one; what may follow a value cannot continue a number -/
theorem byte_classes_all : ∀ i : Fin 256,
    let b := UInt8.ofNat i.val
    (startByte b = true → (Spec.isWs b = false ∧ b ≠ 93 ∧ b ≠ 125 ∧ b ≠ 44) ∧ b ≠ 0xEF) ∧
    ((b = 45 ∨ Spec.isDigit b = true) → (b ≠ 110 ∧ b ≠ 116 ∧ b ≠ 102 ∧ b ≠ 34 ∧ startByte b = true)) ∧
    (follows [b] = true → stopHead [b] = true) := by
  decide +kernel

theorem startByte_facts (b : UInt8) (h : startByte b = true) :
    Spec.isWs b = false ∧ b ≠ 93 ∧ b ≠ 125 ∧ b ≠ 44 := by
  have := (byte_classes_all ⟨b.toNat, b.toNat_lt⟩).1
  simpa using (this (by simpa using h)).1

theorem startByte_ne_bom (b : UInt8) (h : startByte b = true) : b ≠ 0xEF := by
  have := (byte_classes_all ⟨b.toNat, b.toNat_lt⟩).1
  simpa using (this (by simpa using h)).2

theorem numStart_facts (b : UInt8) (h : b = 45 ∨ Spec.isDigit b = true) :
    b ≠ 110 ∧ b ≠ 116 ∧ b ≠ 102 ∧ b ≠ 34 ∧ startByte b = true := by
  have := (byte_classes_all ⟨b.toNat, b.toNat_lt⟩).2.1
  simpa using this (by simpa using h)

theorem follows_stop (r : Bytes) (h : follows r = true) : stopHead r = true := by
  cases r with
  | nil => rfl
  | cons c t =>
    have := (byte_classes_all ⟨c.toNat, c.toNat_lt⟩).2.2
    simpa [follows, stopHead] using this (by simpa [follows] using h)

theorem pValue_null (g : Nat) (rest : Bytes) :
    Spec.pValue (g + 1) ([110, 117, 108, 108] ++ rest) = some (.null, rest) := by
  simp [Spec.pValue, Spec.startsWith]

theorem pValue_true (g : Nat) (rest : Bytes) :
    Spec.pValue (g + 1) ([116, 114, 117, 101] ++ rest) = some (.bool true, rest) := by
  simp [Spec.pValue, Spec.startsWith]

theorem pValue_false (g : Nat) (rest : Bytes) :
    Spec.pValue (g + 1) ([102, 97, 108, 115, 101] ++ rest) = some (.bool false, rest) := by
  simp [Spec.pValue, Spec.startsWith]

theorem pValue_num (g : Nat) (t rest : Bytes) (ht : isNumLit t) (hr : follows rest = true) :
    Spec.pValue (g + 1) (t ++ rest) = some (.num t, rest) := by
  obtain ⟨b, t', rfl, hb⟩ := numLit_head t ht
  obtain ⟨n1, n2, n3, n4, -⟩ := numStart_facts b hb
  have hcond : (b = 45 || Spec.isDigit b) = true := by
    rcases hb with h | h <;> simp [h]
  have := numLit_append (b :: t') rest ht (follows_stop rest hr)
  simp only [List.cons_append] at this ⊢
  simp only [Spec.pValue, n1, n2, n3, n4, ↓reduceIte, hcond, this]
  rfl

theorem pValue_str (hs : TableSafe Gen.Root.jMap) (g : Nat) (s rest : Bytes) (html : Bool) :
    Spec.pValue (g + 1) (jsonString s html ++ rest) = some (.str (sanitize s), rest) := by
  have h := esc_parse Gen.Root.jMap hs html true s rest
    ((escLoop Gen.Root.jMap html 0 true s ++ 34 :: rest).length) (by simp)
  simp only [List.length_append, List.length_cons] at h
  simp only [jsonString, List.cons_append, List.append_assoc, List.nil_append, Spec.pValue]
  simp [h]

/-- `t` is the text of one value for the reader `pv`: it starts like a value and, in front of anything
that may follow a value, is read as `n` -/
def ReadsAs (pv : Bytes → Option (JV × Bytes)) (t : Bytes) (n : JV) : Prop :=
  (∃ b t', t = b :: t' ∧ startByte b = true) ∧ ∀ rest, follows rest = true → pv (t ++ rest) = some (n, rest)

theorem ReadsAs.skip {pv : Bytes → Option (JV × Bytes)} {t : Bytes} {n : JV} (h : ReadsAs pv t n) (w rest : Bytes)
    (hw : (w.all Spec.isWs) = true) (hr : follows rest = true) :
    ∃ b t', Spec.skipWs (w ++ (t ++ rest)) = b :: t' ∧ startByte b = true ∧ pv (b :: t') = some (n, rest) := by
  obtain ⟨⟨b, t', rfl, hb⟩, hpv⟩ := h
  exact ⟨b, t' ++ rest, by rw [skipWs_ws_append _ _ hw]; exact skipWs_nonws b _ (startByte_facts b hb).1, hb, hpv rest hr⟩

theorem member_skip (hs : TableSafe Gen.Root.jMap) {pv : Bytes → Option (JV × Bytes)} {tx : Bytes} {nx : JV}
    (h : ReadsAs pv tx nx) (k : Bytes) (html : Bool) (cs w rest : Bytes) (hcs : (cs.all Spec.isWs) = true)
    (hw : (w.all Spec.isWs) = true) (hr : follows rest = true) :
    ∃ t', Spec.skipWs (cs ++ (jsonString k html ++ (58 :: w) ++ tx ++ rest)) = 34 :: t' ∧
      Spec.pMember pv (34 :: t') = some ((sanitize k, nx), rest) := by
  obtain ⟨⟨b, t, hb, hsb⟩, hpv⟩ := h
  refine ⟨_, by rw [skipWs_ws_append _ _ hcs]; exact skipWs_nonws 34 _ (by decide), ?_⟩
  show Spec.pMember pv (jsonString k html ++ (58 :: w) ++ tx ++ rest) = _
  have h := esc_parse Gen.Root.jMap hs html true k (58 :: (w ++ (tx ++ rest)))
    ((escLoop Gen.Root.jMap html 0 true k ++ 34 :: 58 :: (w ++ (tx ++ rest))).length) (by simp)
  simp only [jsonString, List.cons_append, List.append_assoc, List.nil_append, Spec.pMember, ↓reduceIte]
  rw [h]
  simp only
  rw [skipWs_nonws 58 _ (by decide)]
  simp only [↓reduceIte]
  rw [skipWs_ws_append w _ hw, hb, List.cons_append, skipWs_nonws b _ (startByte_facts b hsb).1, ← List.cons_append, ← hb,
    hpv rest hr]

theorem pValue_open_arr (g : Nat) (R r' rest : Bytes) (c : UInt8) (v : JV) (h : Spec.skipWs R = c :: r')
    (hc : c ≠ 93) (hv : Spec.pValue g (c :: r') = some (v, rest)) :
    Spec.pValue (g + 1) (91 :: R) = Spec.pElems (Spec.pValue g) (rest.length + 1) rest [v] := by
  simp [Spec.pValue, show Spec.isDigit 91 = false by decide, h, hc, hv]

theorem pValue_open_obj (g : Nat) (R r' rest : Bytes) (c : UInt8) (k : Bytes) (v : JV) (h : Spec.skipWs R = c :: r')
    (hc : c ≠ 125) (hv : Spec.pMember (Spec.pValue g) (c :: r') = some ((k, v), rest)) :
    Spec.pValue (g + 1) (123 :: R) = Spec.pMembers (Spec.pValue g) (rest.length + 1) rest [(k, v)] := by
  simp [Spec.pValue, show Spec.isDigit 123 = false by decide, h, hc, hv]

theorem stripBOM_of_ne (b : UInt8) (t : Bytes) (h : b ≠ 0xEF) : Spec.stripBOM (b :: t) = b :: t := by
  unfold Spec.stripBOM
  split
  · rename_i heq
    simp at heq
    exact absurd heq.1 h
  · rfl

theorem parseDoc_of_pValue (b : UInt8) (t : Bytes) (v : JV) (h1 : b ≠ 0xEF) (h2 : Spec.isWs b = false)
    (hp : Spec.pValue ((b :: t).length + 1) (b :: t) = some (v, [])) : Spec.parseDoc (b :: t) = .one v := by
  have hp' : Spec.pValue (t.length + 1 + 1) (b :: t) = some (v, []) := by simpa using hp
  simp only [Spec.parseDoc, stripBOM_of_ne b t h1, Spec.parseText, Spec.skipWs, h2]
  simp [hp', Spec.skipWs]

theorem accepts_of_one (bs : Bytes) (v : JV) (h : Spec.parseDoc bs = .one v) : Spec.accepts bs = true := by
  simp [Spec.accepts, h]

theorem follows_ws (w X : Bytes) (hw : (w.all Spec.isWs) = true) (hX : follows X = true) :
    follows (w ++ X) = true := by
  cases w with
  | nil => exact hX
  | cons b r =>
    simp only [List.all_cons, Bool.and_eq_true] at hw
    simp [follows, hw.1]

theorem pElems_skip (pv : Bytes → Option (JV × Bytes)) (k : Nat) (w X : Bytes) (acc : List JV)
    (hw : (w.all Spec.isWs) = true) : Spec.pElems pv k (w ++ X) acc = Spec.pElems pv k X acc := by
  cases k with
  | zero => rfl
  | succ k => simp only [Spec.pElems, skipWs_ws_append w X hw]

theorem pMembers_skip (pv : Bytes → Option (JV × Bytes)) (k : Nat) (w X : Bytes) (acc : Kvs)
    (hw : (w.all Spec.isWs) = true) : Spec.pMembers pv k (w ++ X) acc = Spec.pMembers pv k X acc := by
  cases k with
  | zero => rfl
  | succ k => simp only [Spec.pMembers, skipWs_ws_append w X hw]

theorem Pretty.pValue_empty_arr_ws (g : Nat) (ws rest : Bytes) (h : (ws.all Spec.isWs) = true) :
    Spec.pValue (g + 1) (91 :: (ws ++ 93 :: rest)) = some (.arr [], rest) := by
  have : Spec.skipWs (ws ++ 93 :: rest) = 93 :: rest := by
    rw [skipWs_ws_append _ _ h, skipWs_nonws 93 _ (by decide)]
  simp [Spec.pValue, show Spec.isDigit 91 = false by decide, this]

theorem Pretty.pValue_empty_obj_ws (g : Nat) (ws rest : Bytes) (h : (ws.all Spec.isWs) = true) :
    Spec.pValue (g + 1) (123 :: (ws ++ 125 :: rest)) = some (.obj [], rest) := by
  have : Spec.skipWs (ws ++ 125 :: rest) = 125 :: rest := by
    rw [skipWs_ws_append _ _ h, skipWs_nonws 125 _ (by decide)]
  simp [Spec.pValue, show Spec.isDigit 123 = false by decide, this]

/-- a cell: white space, a token that `R` relates to a value, white space -/
def CellOf (R : Bytes → JV → Prop) (txt : Bytes) (nv : JV) : Prop :=
  ∃ pre tok post, txt = pre ++ tok ++ post ∧ (pre.all Spec.isWs) = true ∧ (post.all Spec.isWs) = true ∧ R tok nv

section CellOf
variable {R R' : Bytes → JV → Prop} {txt : Bytes} {nv : JV}

theorem CellOf.tok (h : R txt nv) : CellOf R txt nv := ⟨[], txt, [], by simp, rfl, rfl, h⟩

theorem CellOf.ws_left (w txt : Bytes) (nv : JV) (hw : (w.all Spec.isWs) = true) (h : CellOf R txt nv) :
    CellOf R (w ++ txt) nv := by
  obtain ⟨pre, tok, post, rfl, hpre, hpost, hr⟩ := h
  exact ⟨w ++ pre, tok, post, by simp, by simp [hw, hpre], hpost, hr⟩

theorem CellOf.ws_right (w : Bytes) (hw : (w.all Spec.isWs) = true) (h : CellOf R txt nv) : CellOf R (txt ++ w) nv := by
  obtain ⟨pre, tok, post, rfl, hpre, hpost, hr⟩ := h
  exact ⟨pre, tok, post ++ w, by simp, hpre, by simp [hw, hpost], hr⟩

/-- the token is no longer than the cell -/
theorem CellOf.imp (hrr : ∀ tok, tok.length ≤ txt.length → R tok nv → R' tok nv) (h : CellOf R txt nv) :
    CellOf R' txt nv := by
  obtain ⟨pre, tok, post, rfl, hpre, hpost, hr⟩ := h
  exact ⟨pre, tok, post, rfl, hpre, hpost, hrr tok (by simp only [List.length_append]; omega) hr⟩

end CellOf

theorem CellOf.read {pv : Bytes → Option (JV × Bytes)} {txt : Bytes} {nv : JV} (h : CellOf (ReadsAs pv) txt nv)
    (X : Bytes) (hX : follows X = true) :
    ∃ c r post, Spec.skipWs (txt ++ X) = c :: r ∧ startByte c = true ∧ (post.all Spec.isWs) = true ∧
      pv (c :: r) = some (nv, post ++ X) := by
  obtain ⟨pre, tok, post, rfl, hpre, hpost, hr⟩ := h
  obtain ⟨b, t, hsk, hsb, hpv⟩ := hr.skip pre (post ++ X) hpre (follows_ws post X hpost hX)
  exact ⟨b, t, post, by simpa using hsk, hsb, hpost, hpv⟩

theorem commaTail_length : ∀ l : List Bytes, l.length ≤ (commaTail l).length := by
  intro l
  induction l with
  | nil => exact Nat.le_refl _
  | cons a r ih => simp only [commaTail, List.length_cons, List.length_append]; omega

theorem commaTail_mem_le : ∀ (l : List Bytes) (a : Bytes), a ∈ l → a.length ≤ (commaTail l).length := by
  intro l
  induction l with
  | nil => intro a h; cases h
  | cons b r ih =>
    intro a h
    simp only [commaTail, List.length_cons, List.length_append]
    rcases List.mem_cons.mp h with rfl | h
    · omega
    · have := ih a h; omega

theorem commaJoin_mem_le (l : List Bytes) (a : Bytes) (h : a ∈ l) : a.length ≤ (commaJoin l).length := by
  cases l with
  | nil => cases h
  | cons b r =>
    simp only [commaJoin, List.length_append]
    rcases List.mem_cons.mp h with rfl | h
    · omega
    · have := commaTail_mem_le r a h; omega

theorem commaJoin_of_commaTail {X : Bytes} {L : List Bytes} (h : 44 :: X = commaTail L) : X = commaJoin L := by
  cases L with
  | nil => cases h
  | cons a r => exact (List.cons.inj h).2

theorem follows_commaTail (l : List Bytes) (X : Bytes) (hX : follows X = true) : follows (commaTail l ++ X) = true := by
  cases l with
  | nil => exact hX
  | cons a r => rfl

/-- the cells of a container as a loop lays them out: the first after `lead`, every other after `cs` -/
def spaced (lead cs : Bytes) : List Bytes → List Bytes
  | [] => []
  | a :: r => (lead ++ a) :: r.map (cs ++ ·)

/-- what a loop over cells writes that has written `i` of them before: a comma and `cs` before every
cell but the very first, which follows `lead` -/
def cellsFrom (lead cs : Bytes) : Nat → List Bytes → Bytes
  | _, [] => []
  | i, a :: r => (if 0 < i then 44 :: cs else lead) ++ a ++ cellsFrom lead cs (i + 1) r

theorem cellsFrom_succ (lead cs : Bytes) : ∀ (cells : List Bytes) (i : Nat),
    cellsFrom lead cs (i + 1) cells = commaTail (cells.map (cs ++ ·)) := by
  intro cells
  induction cells with
  | nil => intro i; rfl
  | cons a r ih => intro i; simp [cellsFrom, commaTail, ih]

theorem cellsFrom_zero (lead cs : Bytes) (cells : List Bytes) :
    cellsFrom lead cs 0 cells = commaJoin (spaced lead cs cells) := by
  cases cells with
  | nil => rfl
  | cons a r => simp [cellsFrom, commaJoin, spaced, cellsFrom_succ]

/-- texts and what each of them is read as, pair by pair -/
inductive Each {α : Type} (P : Bytes → α → Prop) : List Bytes → List α → Prop
  | nil : Each P [] []
  | cons {t : Bytes} {a : α} {ts : List Bytes} {as : List α} : P t a → Each P ts as → Each P (t :: ts) (a :: as)

theorem Each.map {α β : Type} {P : Bytes → α → Prop} (tx : β → Bytes) (vl : β → α) : ∀ ys : List β,
    (∀ y ∈ ys, P (tx y) (vl y)) → Each P (ys.map tx) (ys.map vl) := by
  intro ys
  induction ys with
  | nil => intro _; exact .nil
  | cons y r ih => intro h; exact .cons (h y (by simp)) (ih fun z hz => h z (by simp [hz]))

theorem Each.spaced {α : Type} {P : Bytes → α → Prop} {lead cs : Bytes}
    (hP : ∀ w t a, (w.all Spec.isWs) = true → P t a → P (w ++ t) a)
    (hlead : (lead.all Spec.isWs) = true) (hcs : (cs.all Spec.isWs) = true) {cells : List Bytes} {vals : List α}
    (h : Each P cells vals) : Each P (spaced lead cs cells) vals := by
  cases h with
  | nil => exact .nil
  | cons hp hr =>
    refine .cons (hP _ _ _ hlead hp) ?_
    induction hr with
    | nil => exact .nil
    | cons hq _ ih => exact .cons (hP _ _ _ hcs hq) ih

theorem Each.imp_mem {α : Type} {P Q : Bytes → α → Prop} {ts : List Bytes} {as : List α} (h : Each P ts as)
    (hpq : ∀ t ∈ ts, ∀ a, P t a → Q t a) : Each Q ts as := by
  induction h with
  | nil => exact .nil
  | cons hp _ ih => exact .cons (hpq _ (by simp) _ hp) (ih fun x hx => hpq x (by simp [hx]))

theorem pElems_cell {pv : Bytes → Option (JV × Bytes)} {txt : Bytes} {nv : JV} (h : CellOf (ReadsAs pv) txt nv) (X : Bytes)
    (hX : follows X = true) (k : Nat) (acc : List JV) :
    Spec.pElems pv (k + 1) (44 :: (txt ++ X)) acc = Spec.pElems pv k X (nv :: acc) := by
  obtain ⟨c, r, post, hsk, -, hpost, hpv⟩ := h.read X hX
  rw [Spec.pElems, skipWs_nonws 44 _ (by decide)]
  simp only [show ¬ ((44 : UInt8) = 93) by decide, ↓reduceIte, hsk, hpv]
  exact pElems_skip pv k post X _ hpost

theorem pElems_commaTail (pv : Bytes → Option (JV × Bytes)) (cl rest : Bytes) (hcl : (cl.all Spec.isWs) = true)
    {cells : List Bytes} {vals : List JV} (h : Each (CellOf (ReadsAs pv)) cells vals) :
    ∀ (acc : List JV) (k : Nat), cells.length < k →
      Spec.pElems pv k (commaTail cells ++ (cl ++ 93 :: rest)) acc = some (.arr (acc.reverse ++ vals), rest) := by
  induction h with
  | nil =>
    intro acc k hk
    obtain ⟨k, rfl⟩ := Nat.exists_eq_add_one.mpr (Nat.zero_lt_of_lt hk)
    simp only [commaTail, List.nil_append, Spec.pElems]
    rw [skipWs_ws_append cl _ hcl, skipWs_nonws 93 rest (by decide)]
    simp
  | cons hc _ ih =>
    intro acc k hk
    obtain ⟨k, rfl⟩ := Nat.exists_eq_add_one.mpr (Nat.zero_lt_of_lt hk)
    simp only [commaTail, List.cons_append, List.append_assoc]
    rw [pElems_cell hc _ (follows_commaTail _ _ (follows_ws cl _ hcl rfl)),
      ih _ k (by simp only [List.length_cons] at hk; omega)]
    simp

theorem pValue_arrText (g : Nat) (cells : List Bytes) (vals : List JV) (cl rest : Bytes)
    (hcl : (cl.all Spec.isWs) = true) (h : Each (CellOf (ReadsAs (Spec.pValue g))) cells vals) :
    Spec.pValue (g + 1) (arrText cells cl ++ rest) = some (.arr vals, rest) := by
  cases h with
  | nil => simpa [arrText, commaJoin] using Pretty.pValue_empty_arr_ws g cl rest hcl
  | @cons t v ts vs hc hr =>
    obtain ⟨c, r, post, hsk, hsb, hpost, hpv⟩ :=
      hc.read (commaTail ts ++ (cl ++ 93 :: rest)) (follows_commaTail _ _ (follows_ws cl _ hcl rfl))
    have hopen := pValue_open_arr g _ _ _ c _ hsk (startByte_facts c hsb).2.1 hpv
    have hlen := commaTail_length ts
    simp only [arrText, commaJoin, List.cons_append, List.append_assoc, List.nil_append]
    rw [hopen, pElems_skip _ _ post _ _ hpost, pElems_commaTail _ cl rest hcl hr _ _
      (by simp only [List.length_append] at hlen ⊢; omega)]
    simp

/-- a member: white space, the key, a colon, the cell of the value -/
def MemberOf (R : Bytes → JV → Prop) (html : Bool) (txt : Bytes) (kv : Bytes × JV) : Prop :=
  ∃ pre k cell, txt = memberT html pre k cell ∧ (pre.all Spec.isWs) = true ∧ sanitize k = kv.1 ∧ CellOf R cell kv.2

theorem MemberOf.ws_left {R : Bytes → JV → Prop} {html : Bool} (w txt : Bytes) (kv : Bytes × JV)
    (hw : (w.all Spec.isWs) = true) (h : MemberOf R html txt kv) : MemberOf R html (w ++ txt) kv := by
  obtain ⟨pre, k, cell, rfl, hpre, hk, hc⟩ := h
  exact ⟨w ++ pre, k, cell, by simp [memberT], by simp [hw, hpre], hk, hc⟩

theorem MemberOf.imp {R R' : Bytes → JV → Prop} {html : Bool} {txt : Bytes} {kv : Bytes × JV}
    (hrr : ∀ tok, tok.length ≤ txt.length → R tok kv.2 → R' tok kv.2) (h : MemberOf R html txt kv) :
    MemberOf R' html txt kv := by
  obtain ⟨pre, k, cell, rfl, hpre, hk, hc⟩ := h
  exact ⟨pre, k, cell, rfl, hpre, hk, hc.imp fun tok ht =>
    hrr tok (by simp only [memberT, List.length_append, List.length_cons]; omega)⟩

theorem MemberOf.read (hs : TableSafe Gen.Root.jMap) {pv : Bytes → Option (JV × Bytes)} {html : Bool} {txt : Bytes}
    {kv : Bytes × JV} (h : MemberOf (ReadsAs pv) html txt kv) (X : Bytes) (hX : follows X = true) :
    ∃ r post, Spec.skipWs (txt ++ X) = 34 :: r ∧ (post.all Spec.isWs) = true ∧
      Spec.pMember pv (34 :: r) = some (kv, post ++ X) := by
  obtain ⟨pre, k, _, rfl, hpre, hk, cpre, tok, post, rfl, hcpre, hpost, hr⟩ := h
  obtain ⟨t, hsk, hpm⟩ := member_skip hs hr k html pre cpre (post ++ X) hpre hcpre (follows_ws post X hpost hX)
  exact ⟨t, post, by simpa [memberT] using hsk, hpost, by rw [hpm, hk]⟩

theorem pMembers_member (hs : TableSafe Gen.Root.jMap) {pv : Bytes → Option (JV × Bytes)} {html : Bool} {txt : Bytes}
    {kv : Bytes × JV} (h : MemberOf (ReadsAs pv) html txt kv) (X : Bytes) (hX : follows X = true) (n : Nat) (acc : Kvs) :
    Spec.pMembers pv (n + 1) (44 :: (txt ++ X)) acc = Spec.pMembers pv n X (kvInsert kv.1 kv.2 acc) := by
  obtain ⟨r, post, hsk, hpost, hpm⟩ := h.read hs X hX
  rw [Spec.pMembers, skipWs_nonws 44 _ (by decide)]
  simp only [show ¬ ((44 : UInt8) = 125) by decide, ↓reduceIte, hsk, hpm]
  exact pMembers_skip pv n post X _ hpost

/-- The keys still to come are distinct from one another and from those filed in `acc`: the reader files a
member with `kvInsert`, which overwrites an equal key, and only for a fresh key is that an append
(`kvInsert_notin`). Through this hypothesis the distinct sanitised keys of `okW` enter the reading. -/
theorem pMembers_commaTail (hs : TableSafe Gen.Root.jMap) (pv : Bytes → Option (JV × Bytes)) (html : Bool)
    (cl rest : Bytes) (hcl : (cl.all Spec.isWs) = true) {members : List Bytes} {vals : Kvs}
    (h : Each (MemberOf (ReadsAs pv) html) members vals) :
    ∀ (acc : Kvs) (n : Nat), members.length < n → (acc.map (fun kv => kv.1) ++ vals.map (fun kv => kv.1)).Nodup →
      Spec.pMembers pv n (commaTail members ++ (cl ++ 125 :: rest)) acc = some (.obj (acc ++ vals), rest) := by
  induction h with
  | nil =>
    intro acc n hn _
    obtain ⟨n, rfl⟩ := Nat.exists_eq_add_one.mpr (Nat.zero_lt_of_lt hn)
    simp only [commaTail, List.nil_append, Spec.pMembers]
    rw [skipWs_ws_append cl _ hcl, skipWs_nonws 125 rest (by decide)]
    simp
  | @cons _ kv _ _ hm _ ih =>
    intro acc n hn hnd
    obtain ⟨n, rfl⟩ := Nat.exists_eq_add_one.mpr (Nat.zero_lt_of_lt hn)
    have hnew : kv.1 ∉ acc.map (fun kv => kv.1) :=
      fun hmem => (List.nodup_append.mp hnd).2.2 _ hmem _ (by simp) rfl
    simp only [commaTail, List.cons_append, List.append_assoc]
    rw [pMembers_member hs hm _ (follows_commaTail _ _ (follows_ws cl _ hcl rfl)), kvInsert_notin _ _ acc hnew,
      ih _ n (by simp only [List.length_cons] at hn; omega)
        (by rw [List.map_append, List.append_assoc]; exact hnd)]
    simp

theorem pValue_objText (hs : TableSafe Gen.Root.jMap) (g : Nat) (html : Bool) (members : List Bytes) (vals : Kvs)
    (cl rest : Bytes) (hcl : (cl.all Spec.isWs) = true) (h : Each (MemberOf (ReadsAs (Spec.pValue g)) html) members vals)
    (hnd : (vals.map fun kv => kv.1).Nodup) :
    Spec.pValue (g + 1) (objText members cl ++ rest) = some (.obj vals, rest) := by
  cases h with
  | nil => simpa [objText, commaJoin] using Pretty.pValue_empty_obj_ws g cl rest hcl
  | @cons t kv ts vs hm hr =>
    obtain ⟨r, post, hsk, hpost, hpm⟩ :=
      hm.read hs (commaTail ts ++ (cl ++ 125 :: rest)) (follows_commaTail _ _ (follows_ws cl _ hcl rfl))
    have hopen := pValue_open_obj g _ _ _ 34 _ _ hsk (by decide) hpm
    have hlen := commaTail_length ts
    simp only [objText, commaJoin, List.cons_append, List.append_assoc, List.nil_append]
    rw [hopen, pMembers_skip _ _ post _ _ hpost, pMembers_commaTail hs _ html cl rest hcl hr [kv] _
      (by simp only [List.length_append] at hlen ⊢; omega) hnd]
    simp

/-- `t` is a JSON text of `n`: it starts like a value, and the RFC 8259 reader, given more fuel than `t` is
long and standing before `t` and anything that may follow a value, reads `n` and stops there -/
def JText (t : Bytes) (n : JV) : Prop :=
  (∃ b t', t = b :: t' ∧ startByte b = true) ∧
    ∀ g rest, t.length < g → follows rest = true → Spec.pValue g (t ++ rest) = some (n, rest)

theorem JText.readsAs {t : Bytes} {n : JV} (g : Nat) (hg : t.length < g) (h : JText t n) : ReadsAs (Spec.pValue g) t n :=
  ⟨h.1, fun rest hr => h.2 g rest hg hr⟩

theorem scalarText_head (html : Bool) (y : JV) (hok : okW y) (h1 : isArr y = false) (h2 : isObj y = false) :
    ∃ b t, scalarText html y = b :: t ∧ startByte b = true := by
  cases y with
  | null => exact ⟨110, _, rfl, by decide⟩
  | bool b => cases b; exact ⟨102, _, rfl, by decide⟩; exact ⟨116, _, rfl, by decide⟩
  | int i =>
    obtain ⟨b, t, he, hb⟩ := numLit_head _ (isNumLit_fmtInt i)
    exact ⟨b, t, he, (numStart_facts b hb).2.2.2.2⟩
  | flt x =>
    obtain ⟨b, t, he, hb⟩ := numLit_head _ hok
    exact ⟨b, t, he, (numStart_facts b hb).2.2.2.2⟩
  | big x => exact hok.elim
  | num x => exact hok.elim
  | str x => exact ⟨34, _, rfl, by decide⟩
  | arr xs => cases h1
  | obj kvs => cases h2

theorem pValue_scalar (hs : TableSafe Gen.Root.jMap) (html : Bool) {drop : JV → Bool} {srt : Bool} {ord : Kvs → Kvs}
    {f : Nat} (g : Nat) (y : JV) (rest : Bytes) (hok : okW y) (h1 : isArr y = false) (h2 : isObj y = false)
    (hr : follows rest = true) :
    Spec.pValue (g + 1) (scalarText html y ++ rest) = some (normG drop srt ord (f + 1) y, rest) := by
  cases y with
  | null => exact pValue_null g rest
  | bool b =>
    cases b
    · exact pValue_false g rest
    · exact pValue_true g rest
  | int i => exact pValue_num g (fmtInt i) rest (isNumLit_fmtInt i) hr
  | flt t => exact pValue_num g t rest hok hr
  | big t => exact hok.elim
  | num t => exact hok.elim
  | str x => exact pValue_str hs g x rest html
  | arr xs => cases h1
  | obj kvs => cases h2

theorem JText.scalar (hs : TableSafe Gen.Root.jMap) (html : Bool) {drop : JV → Bool} {srt : Bool} {ord : Kvs → Kvs}
    {f : Nat} (y : JV) (hok : okW y) (h1 : isArr y = false) (h2 : isObj y = false) :
    JText (scalarText html y) (normG drop srt ord (f + 1) y) :=
  ⟨scalarText_head html y hok h1 h2, fun g rest hg hr => by
    obtain ⟨g, rfl⟩ := Nat.exists_eq_add_one.mpr (Nat.zero_lt_of_lt hg)
    exact pValue_scalar hs html g y rest hok h1 h2 hr⟩

/-- a bracketed list of cells around JSON texts is a JSON text of the array of their values: the fuel that
reads the whole reads every cell, which is shorter -/
theorem JText.arr {cells : List Bytes} {vals : List JV} {cl : Bytes} (hcl : (cl.all Spec.isWs) = true)
    (h : Each (CellOf JText) cells vals) : JText (arrText cells cl) (.arr vals) := by
  refine ⟨⟨91, _, rfl, by decide⟩, fun g rest hg _ => ?_⟩
  obtain ⟨g, rfl⟩ := Nat.exists_eq_add_one.mpr (Nat.zero_lt_of_lt hg)
  refine pValue_arrText g cells vals cl rest hcl (h.imp_mem fun t ht a hc => hc.imp fun tok hl => ?_)
  have := commaJoin_mem_le cells t ht
  simp only [arrText, List.length_cons, List.length_append] at hg
  exact JText.readsAs g (by omega)

theorem JText.obj (hs : TableSafe Gen.Root.jMap) {html : Bool} {members : List Bytes} {vals : Kvs} {cl : Bytes}
    (hcl : (cl.all Spec.isWs) = true) (h : Each (MemberOf JText html) members vals)
    (hnd : (vals.map fun kv => kv.1).Nodup) : JText (objText members cl) (.obj vals) := by
  refine ⟨⟨123, _, rfl, by decide⟩, fun g rest hg _ => ?_⟩
  obtain ⟨g, rfl⟩ := Nat.exists_eq_add_one.mpr (Nat.zero_lt_of_lt hg)
  refine pValue_objText hs g html members vals cl rest hcl
    (h.imp_mem fun t ht a hc => hc.imp fun tok hl => ?_) hnd
  have := commaJoin_mem_le members t ht
  simp only [objText, List.length_cons, List.length_append] at hg
  exact JText.readsAs g (by omega)

theorem JText.of_eq {t t' : Bytes} {n n' : JV} (h : JText t n) (ht : t' = t) (hn : n' = n) : JText t' n' := by
  subst ht; subst hn; exact h

theorem JText.parseDoc {t : Bytes} {n : JV} (h : JText t n) : Spec.parseDoc t = .one n := by
  obtain ⟨⟨b, t', rfl, hb⟩, hp⟩ := h
  have := hp _ [] (Nat.lt_succ_self _) rfl
  rw [List.append_nil] at this
  exact parseDoc_of_pValue b t' n (startByte_ne_bom b hb) (startByte_facts b hb).1 this

end OjgVerif.Writer
