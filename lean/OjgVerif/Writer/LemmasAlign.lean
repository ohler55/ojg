import OjgVerif.Writer.Pretty
import OjgVerif.Writer.LemmasCells
/-! Lemmas about `pretty`'s alignment tables, for tables of ARRAYS (`alignArray`, `updateArrayTable`):
the steps of the writer as a relation between two states and the text written in between (`Writes`);
the text `alignArray`/`alignMap` write as a function of node and table (`nodeT`) when no padding is out
of range (`nodeOK`); what `updateArrayTable` builds (columns 0, 1, 2, … in order, every row covered,
sizes that bound the paddings: `TableA`, `Cov`); and the RFC 8259 reading of an aligned array row. -/
namespace OjgVerif.Writer.Pretty
open OjgVerif.Json

/-- if no slice was out of range up to `s`, none is up to `s'`, and `T` has been written in between
(`St.Writes`). Every step of `fill` has this form. -/
def Writes (lim : Option Nat) (s s' : PSt) (T : Bytes) : Prop :=
  s.bad = false → s'.bad = false ∧ St.Writes lim s.st s'.st T

namespace Writes
variable {lim : Option Nat} {s s₁ s₂ : PSt} {A B : Bytes}

theorem refl (lim : Option Nat) (s : PSt) : Writes lim s s [] := fun h => ⟨h, St.Writes.refl lim _⟩

theorem trans (h₁ : Writes lim s s₁ A) (h₂ : Writes lim s₁ s₂ B) : Writes lim s s₂ (A ++ B) := fun h => by
  obtain ⟨b₁, e₁⟩ := h₁ h
  obtain ⟨b₂, e₂⟩ := h₂ b₁
  exact ⟨b₂, e₁.trans e₂⟩

theorem of_eq (h : Writes lim s s₁ A) (e : A = B) : Writes lim s s₁ B := e ▸ h

theorem ite {c : Prop} [Decidable c] (h₁ : Writes lim s s₁ A) (h₂ : Writes lim s s₂ B) :
    Writes lim s (if c then s₁ else s₂) (if c then A else B) := by
  split <;> assumption

theorem push (lim : Option Nat) (s : PSt) (bs : Bytes) : Writes lim s (s.push bs) bs := fun h => by
  simp only [PSt.push, h, Bool.false_eq_true, ↓reduceIte, true_and]; exact St.Writes.push lim _ bs

theorem push1 (lim : Option Nat) (s : PSt) (b : UInt8) : Writes lim s (s.push1 b) [b] := push lim s [b]

theorem flush (lim : Option Nat) (s : PSt) : Writes lim s (s.flush lim) [] := fun h => by
  simp only [PSt.flush, h, Bool.false_eq_true, ↓reduceIte, true_and]; exact St.Writes.flush lim _

theorem pushSpaces (lim : Option Nat) (s : PSt) (lo hi : Nat) (h₁ : hi ≤ Gen.Pretty.spaces.size) (h₂ : lo ≤ hi) :
    Writes lim s (s.pushSpaces lo hi) (sliceOf Gen.Pretty.spaces lo hi) := by
  have c : (Gen.Pretty.spaces.size < hi || hi < lo) = false := by simp; omega
  simp only [PSt.pushSpaces, c, Bool.false_eq_true, ↓reduceIte]
  exact push lim s _

theorem pad (lim : Option Nat) : ∀ (n : Nat) (s : PSt), Writes lim s (s.pad n) (List.replicate n 32) := by
  intro n
  induction n with
  | zero => exact refl lim
  | succ n ih => intro s; exact ((push1 lim s 32).trans (ih _)).of_eq (by simp [List.replicate_succ])

end Writes

theorem pad_zero (s : PSt) : s.pad 0 = s := rfl

theorem build_arr (o : POpts) (ord : Kvs → Kvs) (f : Nat) (xs : List JV) :
    build o ord (f + 1) (.arr xs) = .arr (xs.map (build o ord f)) (arrSize (xs.map (build o ord f)) 0 2)
      (arrDepth (xs.map (build o ord f)) 0) (o.omitEmpty && xs.length = 0) := rfl

theorem buildMembers_fst (o : POpts) (bv : JV → PNode) : ∀ (kvs : Kvs) (acc : List (Bytes × PNode)) (sz dp : Nat),
    (buildMembers o bv kvs acc sz dp).1 =
      acc.reverse ++ (kvs.filter fun kv => !(bv kv.2).skip).map fun kv => (jsonString kv.1 (!o.htmlUnsafe), bv kv.2) := by
  intro kvs
  induction kvs with
  | nil => intro acc sz dp; simp [buildMembers]
  | cons kv r ih =>
    intro acc sz dp
    obtain ⟨k, v⟩ := kv
    simp only [buildMembers]
    by_cases h : (bv v).skip = true <;> simp [h, ih]

/-- the generated separators and the indentation constant are white space -/
structure SepWs : Prop where
  spaces : (Gen.Pretty.spaces.toList.all Spec.isWs) = true
  flat : (Gen.PrettyFill.flatCs.toList.all Spec.isWs) = true
  deep : (Gen.PrettyFill.deepFlatCs.toList.all Spec.isWs) = true

/-- the padding of `alignCell`: `spaces[1:hi]` when the cell is shorter than its column (`lt`), nothing
otherwise -/
def padT (lt : Bool) (hi : Nat) : Bytes := if lt then sliceOf Gen.Pretty.spaces 1 hi else []

/-- text of `alignCell` -/
def cellT (aaT amT : PNode → Table → Bytes) (m : PNode) (col : Table) : Bytes :=
  match m with
  | .leaf kind buf _ =>
    if kind = Gen.Pretty.strNode then buf ++ padT (buf.length < col.size) (col.size - buf.length + 1)
    else if kind = Gen.Pretty.numNode then padT (buf.length < col.size) (col.size - buf.length + 1) ++ buf
    else []
  | .arr .. => aaT m col
  | .map .. => amT m col

/-- no slice of `alignCell` is out of range -/
def cellOK (aaOK amOK : PNode → Table → Prop) (m : PNode) (col : Table) : Prop :=
  match m with
  | .leaf _ buf _ => buf.length < col.size → col.size - buf.length + 1 ≤ Gen.Pretty.spaces.size
  | .arr .. => aaOK m col
  | .map .. => amOK m col

def arrColsOK (aaOK amOK : PNode → Table → Prop) : List Table → List PNode → Prop
  | [], _ => True
  | _ :: _, [] => True
  | col :: cr, m :: mr => cellOK aaOK amOK m col ∧ arrColsOK aaOK amOK cr mr

/-- the blanks `alignMap` writes for column `i` of `n` when the row has no member under it -/
def blankT (n : Nat) (col : Table) (i : Nat) : Bytes :=
  sliceOf Gen.Pretty.spaces 1
    ((if i + 1 < n then col.key.string.length + 2 + col.size + 2 else col.key.string.length + 2 + col.size) + 1)

def mapColsT (aaT amT : PNode → Table → Bytes) (ms : List (Bytes × PNode)) (n : Nat) :
    List Table → Nat → Bool → Bytes
  | [], _, _ => []
  | col :: cr, i, prevExist =>
    (if prevExist then [44, 32] else []) ++
    match findMember col.key.string ms with
    | none => blankT n col i ++ mapColsT aaT amT ms n cr (i + 1) false
    | some m => col.key.string ++ [58, 32] ++ cellT aaT amT m col ++ mapColsT aaT amT ms n cr (i + 1) true

def mapColsOK (aaOK amOK : PNode → Table → Prop) (ms : List (Bytes × PNode)) (n : Nat) :
    List Table → Nat → Prop
  | [], _ => True
  | col :: cr, i =>
    (match findMember col.key.string ms with
     | none => (if i + 1 < n then col.key.string.length + 2 + col.size + 2 else col.key.string.length + 2 + col.size) + 1
          ≤ Gen.Pretty.spaces.size
     | some m => cellOK aaOK amOK m col) ∧ mapColsOK aaOK amOK ms n cr (i + 1)

/-- text of `alignArray` (column `k` goes with member `k`, `, ` between cells) / `alignMap` -/
def nodeT : Nat → PNode → Table → Bytes
  | 0, _, _ => []
  | f+1, n, t =>
    match n with
    | .leaf .. => []
    | .arr ms _ _ _ => arrText (spaced [] [32] (List.zipWith (cellT (nodeT f) (nodeT f)) ms t.cols)) []
    | .map ms _ _ _ => 123 :: (mapColsT (nodeT f) (nodeT f) ms t.cols.length t.cols 0 false ++ [125])

def nodeOK : Nat → PNode → Table → Prop
  | 0, _, _ => True
  | f+1, n, t =>
    match n with
    | .leaf .. => True
    | .arr ms _ _ _ => arrColsOK (nodeOK f) (nodeOK f) t.cols ms
    | .map ms _ _ _ => mapColsOK (nodeOK f) (nodeOK f) ms t.cols.length t.cols 0

/-- what a sub-aligner has to satisfy -/
def AlignSpec (lim : Option Nat) (a : PNode → Table → PSt → PSt) (aT : PNode → Table → Bytes)
    (aOK : PNode → Table → Prop) : Prop :=
  ∀ m t s, aOK m t → Writes lim s (a m t s) (aT m t)

section Align
variable {lim : Option Nat} {aa am : PNode → Table → PSt → PSt} {aaT amT : PNode → Table → Bytes}
  {aaOK amOK : PNode → Table → Prop}

theorem Writes.padCell (lim : Option Nat) (s : PSt) (a b : Nat) (h : a < b → b - a + 1 ≤ Gen.Pretty.spaces.size) :
    Writes lim s (if a < b then s.pushSpaces 1 (b - a + 1) else s) (padT (a < b) (b - a + 1)) := by
  unfold padT
  by_cases hlt : a < b
  · simp only [hlt, ↓reduceIte, decide_true]
    exact Writes.pushSpaces lim s 1 _ (h hlt) (by omega)
  · simp only [hlt, ↓reduceIte, decide_false, Bool.false_eq_true]
    exact Writes.refl lim s

theorem alignCell_writes (haa : AlignSpec lim aa aaT aaOK) (ham : AlignSpec lim am amT amOK)
    (m : PNode) (col : Table) (s : PSt) (hok : cellOK aaOK amOK m col) :
    Writes lim s (alignCell aa am m col s) (cellT aaT amT m col) := by
  cases m with
  | leaf kind buf sk =>
    simp only [cellOK] at hok
    simp only [alignCell, cellT]
    by_cases hk : kind = Gen.Pretty.strNode
    · simp only [hk, ↓reduceIte]
      exact (Writes.push lim s buf).trans (Writes.padCell lim _ _ _ hok)
    · by_cases hn : kind = Gen.Pretty.numNode
      · simp only [hn, ↓reduceIte]
        exact (Writes.padCell lim s _ _ hok).trans (Writes.push lim _ buf)
      · simp only [hk, hn, ↓reduceIte]
        exact Writes.refl lim s
  | arr ms sz dp sk => exact haa _ _ _ hok
  | map ms sz dp sk => exact ham _ _ _ hok

theorem alignArrCols_writes (haa : AlignSpec lim aa aaT aaOK) (ham : AlignSpec lim am amT amOK) :
    ∀ (cols : List Table) (ms : List PNode) (k : Nat) (s : PSt), arrColsOK aaOK amOK cols ms →
      Writes lim s (alignArrCols aa am cols ms k s) (cellsFrom [] [32] k (List.zipWith (cellT aaT amT) ms cols)) := by
  intro cols
  induction cols with
  | nil => intro ms k s _; cases ms <;> exact Writes.refl lim s
  | cons col cr ih =>
    intro ms k s hok
    cases ms with
    | nil => exact Writes.refl lim s
    | cons m mr =>
      simp only [arrColsOK] at hok
      simp only [alignArrCols, List.zipWith_cons_cons, cellsFrom]
      exact ((Writes.ite ((Writes.push1 lim s 44).trans (Writes.push1 lim _ 32)) (Writes.refl lim s)).trans
        (alignCell_writes haa ham m col _ hok.1)).trans (ih mr (k + 1) _ hok.2)

theorem alignMapCols_writes (haa : AlignSpec lim aa aaT aaOK) (ham : AlignSpec lim am amT amOK)
    (ms : List (Bytes × PNode)) (n : Nat) :
    ∀ (cols : List Table) (i : Nat) (pe : Bool) (s : PSt), mapColsOK aaOK amOK ms n cols i →
      Writes lim s (alignMapCols aa am ms n cols i pe s) (mapColsT aaT amT ms n cols i pe) := by
  intro cols
  induction cols with
  | nil => intro i pe s _; exact Writes.refl lim s
  | cons col cr ih =>
    intro i pe s hok
    simp only [mapColsOK] at hok
    have hsep : Writes lim s (if pe = true then (s.push1 44).push1 32 else s) (if pe = true then [44, 32] else []) :=
      Writes.ite ((Writes.push1 lim s 44).trans (Writes.push1 lim _ 32)) (Writes.refl lim s)
    simp only [alignMapCols, mapColsT]
    cases hfm : findMember col.key.string ms with
    | none =>
      simp only [hfm] at hok
      exact ((hsep.trans (Writes.pushSpaces lim _ 1 _ hok.1 (by omega))).trans (ih (i + 1) false _ hok.2)).of_eq
        (by simp [blankT])
    | some m =>
      simp only [hfm] at hok
      exact ((((((hsep.trans (Writes.push lim _ col.key.string)).trans (Writes.push1 lim _ 58)).trans
        (Writes.push1 lim _ 32)).trans (alignCell_writes haa ham m col _ hok.1)).trans (ih (i + 1) true _ hok.2)).of_eq
        (by simp))

end Align

theorem alignNode_writes (lim : Option Nat) : ∀ f : Nat, AlignSpec lim (alignNode f) (nodeT f) (nodeOK f) := by
  intro f
  induction f with
  | zero => intro m t s _; exact Writes.refl lim s
  | succ f ih =>
    intro m t s hok
    cases m with
    | leaf k buf sk => exact Writes.refl lim s
    | arr ms sz dp sk =>
      exact (((Writes.push1 lim s 91).trans (alignArrCols_writes ih ih t.cols ms 0 _ hok)).trans
        (Writes.push1 lim _ 93)).of_eq (by simp [nodeT, arrText, cellsFrom_zero])
    | map ms sz dp sk =>
      exact (((Writes.push1 lim s 123).trans (alignMapCols_writes ih ih ms t.cols.length t.cols 0 false _ hok)).trans
        (Writes.push1 lim _ 125)).of_eq (by simp [nodeT])

theorem alignRows_flat (lim : Option Nat) (fuel : Nat) (c : Table) (cs : Bytes) : ∀ (ms : List PNode) (i : Nat) (s : PSt),
    (∀ m ∈ ms, nodeOK fuel m c) →
    Writes lim s (alignRows fuel c cs ms i s) (cellsFrom cs cs i (ms.map fun m => nodeT fuel m c)) := by
  intro ms
  induction ms with
  | nil => intro i s _; exact Writes.refl lim s
  | cons m r ih =>
    intro i s hok
    simp only [alignRows, List.map_cons, cellsFrom]
    exact ((((Writes.ite (Writes.push1 lim s 44) (Writes.refl lim s)).trans (Writes.push lim _ cs)).trans
      (alignNode_writes lim fuel m c _ (hok m (by simp)))).trans (ih (i + 1) _ fun x hx => hok x (by simp [hx]))).of_eq
      (by split <;> simp)

/-- a node without maps that `upd g` reaches the bottom of: arrays nested at most `g` deep -/
def AOnly : Nat → PNode → Prop
  | _, .leaf .. => True
  | g+1, .arr ms _ _ _ => ∀ m ∈ ms, AOnly g m
  | _, _ => False

theorem AOnly_map (g : Nat) (ms : List (Bytes × PNode)) (sz dp : Nat) (sk : Bool) : ¬ AOnly g (.map ms sz dp sk) := by
  cases g <;> exact id

theorem AOnly_mono : ∀ (f g : Nat) (n : PNode), f ≤ g → AOnly f n → AOnly g n := by
  intro f
  induction f with
  | zero =>
    intro g n _ h
    cases n with
    | leaf k buf sk => cases g <;> trivial
    | _ => exact False.elim h
  | succ f ih =>
    intro g n hfg h
    obtain ⟨g, rfl⟩ := Nat.exists_eq_add_one.mpr (Nat.zero_lt_of_lt hfg)
    cases n with
    | leaf k buf sk => trivial
    | arr ms sz dp sk => exact fun m hm => ih g m (by omega) (h m hm)
    | map ms sz dp sk => exact False.elim h

mutual
  /-- invariant of a table that only ever saw array rows: columns `0, 1, 2, …` in order, and the size
  is at least the sum of the column sizes -/
  def TableA : Table → Prop
    | .mk _ size cols _ => sumSizes cols ≤ size ∧ TableAL cols 0
  def TableAL : List Table → Nat → Prop
    | [], _ => True
    | c :: r, base => c.key = .idx base ∧ TableA c ∧ TableAL r (base + 1)
end

mutual
  /-- the table has a column for every member of the (array) node, at the member's position, and so on
  for the members that are arrays -/
  def Cov : PNode → Table → Prop
    | .arr ms _ _ _, t => CovL ms t.cols
    | .leaf .., _ => True
    | .map .., _ => True
  def CovL : List PNode → List Table → Prop
    | [], _ => True
    | m :: mr, cols =>
      match cols with
      | [] => False
      | c :: cr => Cov m c ∧ CovL mr cr
end

/-- `updateArrayTable` over columns `i, i+1, …`: member by member, column by column; a member past the
last column gets a fresh one -/
def zipApply (u : PNode → Table → Table) : Nat → List PNode → List Table → List Table
  | _, [], cs => cs
  | i, m :: mr, cs => applyMember u m (cs.headD (.mk (.idx i) 0 [] 0)) :: zipApply u (i + 1) mr cs.tail

theorem findLast_none_of_keys (key : TKey) : ∀ (cols : List Table) (j : Nat) (found : Option Nat),
    (∀ c ∈ cols, c.key ≠ key) → findLast key cols j found = found := by
  intro cols
  induction cols with
  | nil => intro j found _; rfl
  | cons c r ih =>
    intro j found h
    simp only [findLast, h c (by simp), ↓reduceIte]
    exact ih _ _ (fun x hx => h x (by simp [hx]))

theorem findLast_idx (i : Nat) : ∀ (cols : List Table) (base : Nat) (found : Option Nat), TableAL cols base →
    findLast (.idx i) cols base found = if base ≤ i ∧ i < base + cols.length then some i else found := by
  intro cols
  induction cols with
  | nil => intro base found _; simp [findLast]; omega
  | cons c r ih =>
    intro base found h
    rw [findLast, ih _ _ h.2.2, h.1]
    by_cases hb : base = i
    · subst hb; simp
    · have hne : TKey.idx base ≠ .idx i := fun e => hb (TKey.idx.inj e)
      simp only [hne, ↓reduceIte, List.length_cons]
      by_cases hc : base + 1 ≤ i ∧ i < base + 1 + r.length
      · rw [if_pos hc, if_pos (by omega)]
      · rw [if_neg hc, if_neg (by omega)]

theorem modifyAt_append (f : Table → Table) : ∀ (pre : List Table) (c : Table) (cr : List Table),
    modifyAt f (pre ++ c :: cr) pre.length = pre ++ f c :: cr := by
  intro pre
  induction pre with
  | nil => intro c cr; rfl
  | cons p r ih => intro c cr; simp [modifyAt, ih]

theorem TableAL_append : ∀ (pre suf : List Table) (base : Nat),
    TableAL (pre ++ suf) base ↔ TableAL pre base ∧ TableAL suf (base + pre.length) := by
  intro pre
  induction pre with
  | nil => intro suf base; simp [TableAL]
  | cons p r ih =>
    intro suf base
    simp only [List.cons_append, TableAL, ih, List.length_cons, and_assoc,
      show base + 1 + r.length = base + (r.length + 1) by omega]

theorem upd_key : ∀ (g : Nat) (n : PNode) (t : Table), (upd g n t).key = t.key := by
  intro g n t
  cases g with
  | zero => rfl
  | succ g => cases n <;> simp [upd, Table.key]

theorem applyMember_key (u : PNode → Table → Table) (hu : ∀ m t, (u m t).key = t.key) (m : PNode) (c : Table) :
    (applyMember u m c).key = c.key := by
  cases m with
  | leaf k buf sk => simp only [applyMember]; split <;> simp [Table.key]
  | arr ms sz dp sk => simp only [applyMember]; rw [hu]; rfl
  | map ms sz dp sk => simp only [applyMember]; rw [hu]; rfl

theorem TableA_fresh (i : Nat) : TableA (.mk (.idx i) 0 [] 0) := by simp [TableA, TableAL, sumSizes]

theorem TableAL_head (suf : List Table) (base : Nat) (h : TableAL suf base) :
    (suf.headD (.mk (.idx base) 0 [] 0)).key = .idx base ∧ TableA (suf.headD (.mk (.idx base) 0 [] 0)) ∧
      TableAL suf.tail (base + 1) := by
  cases suf with
  | nil => exact ⟨rfl, TableA_fresh base, trivial⟩
  | cons c cr => exact h

/-- `pre` are the columns already passed, `suf` those ahead, and the index of the next member is
`pre.length`. The keys are `0, 1, 2, …` in this order (`TableAL`), so the search for key `pre.length` can
only find the head of `suf` (`findLast_idx`): the search by key of `updateCol` is a walk by position
(`zipApply`), and it leaves the keys in order. -/
theorem updArrCols_eq (u : PNode → Table → Table) (hu : ∀ m t, (u m t).key = t.key) :
    ∀ (ms : List PNode) (pre suf : List Table), TableAL (pre ++ suf) 0 →
      (∀ m ∈ ms, ∀ c, TableA c → TableA (applyMember u m c)) →
      updArrCols u ms pre.length (pre ++ suf) = pre ++ zipApply u pre.length ms suf ∧
        TableAL (pre ++ zipApply u pre.length ms suf) 0 := by
  intro ms
  induction ms with
  | nil => intro pre suf h _; exact ⟨rfl, h⟩
  | cons m mr ih =>
    intro pre suf h hA
    obtain ⟨hpre, hsuf⟩ := (TableAL_append pre suf 0).mp h
    rw [Nat.zero_add] at hsuf
    obtain ⟨hk, hta, htl⟩ := TableAL_head suf pre.length hsuf
    -- the column with key `pre.length` is the head of `suf`, if there is one
    have hupd : updateCol u (.idx pre.length) m (pre ++ suf) =
        (pre ++ [applyMember u m (suf.headD (.mk (.idx pre.length) 0 [] 0))]) ++ suf.tail := by
      rw [updateCol, findLast_idx _ _ 0 none h]
      cases suf with
      | nil => simp
      | cons c cr => rw [if_pos (by simp)]; simp [modifyAt_append]
    have h' : TableAL ((pre ++ [applyMember u m (suf.headD (.mk (.idx pre.length) 0 [] 0))]) ++ suf.tail) 0 := by
      simp only [TableAL_append, TableAL, Nat.zero_add, List.length_append, List.length_cons, List.length_nil,
        applyMember_key u hu, hk, hA m (by simp) _ hta, hpre, htl, and_self]
    have := ih (pre ++ [applyMember u m (suf.headD (.mk (.idx pre.length) 0 [] 0))]) suf.tail h'
      fun x hx => hA x (by simp [hx])
    simpa [updArrCols, hupd, zipApply] using this

/-- columns keyed `base, base+1, …` are inserted one after the other at the end of an `acc` of smaller
keys. With `acc = []` and `base = 0`: on the columns `updArrCols_eq` gives, the sort of
`updateArrayTable` changes nothing. -/
theorem sortBy_contig : ∀ (cols acc : List Table) (base : Nat), TableAL cols base →
    (∀ a ∈ acc, ∃ k, a.key = .idx k ∧ k < base) →
    sortBy (fun a b => decide (a.key.int < b.key.int)) cols acc = acc ++ cols := by
  intro cols
  induction cols with
  | nil => intro acc base _ _; simp [sortBy]
  | cons c r ih =>
    intro acc base h hacc
    simp only [TableAL] at h
    have hins : insertBy (fun a b => decide (a.key.int < b.key.int)) c acc = acc ++ [c] := by
      clear ih
      induction acc with
      | nil => rfl
      | cons a ar iha =>
        obtain ⟨k, hk1, hk2⟩ := hacc a (by simp)
        have : ¬ (c.key.int < a.key.int) := by rw [h.1, hk1]; simp [TKey.int]; omega
        simp only [insertBy, this, decide_false, Bool.false_eq_true, ↓reduceIte, List.cons_append]
        rw [iha (fun x hx => hacc x (by simp [hx]))]
    simp only [sortBy, hins]
    rw [ih (acc ++ [c]) (base + 1) h.2.2]
    · simp
    · intro a ha
      simp only [List.mem_append, List.mem_singleton] at ha
      rcases ha with ha | rfl
      · obtain ⟨k, hk1, hk2⟩ := hacc a ha; exact ⟨k, hk1, by omega⟩
      · exact ⟨base, h.1, by omega⟩

theorem Cov_congr (n : PNode) (t t' : Table) (h : t.cols = t'.cols) : Cov n t = Cov n t' := by
  cases n <;> simp [Cov, h]

theorem TableAL_all : ∀ (cols : List Table) (base : Nat), TableAL cols base → ∀ c ∈ cols, TableA c := by
  intro cols
  induction cols with
  | nil => intro _ _ c hc; cases hc
  | cons x r ih =>
    intro base h c hc
    rcases List.mem_cons.mp hc with rfl | hc
    · exact h.2.1
    · exact ih _ h.2.2 c hc

/-- what an update does to a table that only saw arrays, for a node `m` without maps: the invariant
stays, `m` is covered, and whatever was covered stays covered -/
def UpdSpec (f : Table → Table) (m : PNode) : Prop :=
  ∀ t, TableA t → TableA (f t) ∧ Cov m (f t) ∧ ∀ n', Cov n' t → Cov n' (f t)

theorem applyMember_leaf (u : PNode → Table → Table) (k : UInt8) (buf : Bytes) (sk : Bool) (ck : TKey) (cs : Nat)
    (cc : List Table) (ckd : Nat) :
    applyMember u (.leaf k buf sk) (.mk ck cs cc ckd) =
      if cs < buf.length then .mk ck buf.length cc ckd else .mk ck cs cc ckd := rfl

/-- a cell: a leaf raises the size at most; an array is passed down, and the mark in `kinds` is seen by
neither `TableA` nor `Cov` -/
theorem applyMember_spec (u : PNode → Table → Table) (m : PNode) {g : Nat} (ha : AOnly g m)
    (hm : ∀ ms sz dp sk, m = .arr ms sz dp sk → UpdSpec (u m) m) : UpdSpec (applyMember u m) m := by
  intro ⟨ck, cs, cc, ckd⟩ hc
  cases m with
  | leaf k buf sk =>
    rw [applyMember_leaf]
    split
    · exact ⟨⟨by have := hc.1; omega, hc.2⟩, trivial, fun n' h => cast (Cov_congr n' (.mk ck cs cc ckd) _ rfl) h⟩
    · exact ⟨hc, trivial, fun _ h => h⟩
  | arr ms sz dp sk =>
    obtain ⟨h1, h2, h3⟩ := hm _ _ _ _ rfl (.mk ck cs cc (ckd ||| 1)) hc
    exact ⟨h1, h2, fun n' h => h3 n' (cast (Cov_congr n' (.mk ck cs cc ckd) _ rfl) h)⟩
  | map ms sz dp sk => exact absurd ha (AOnly_map _ _ _ _ _)

theorem zipApply_cov (u : PNode → Table → Table) : ∀ (ms : List PNode) (i : Nat) (cols : List Table),
    (∀ m ∈ ms, UpdSpec (applyMember u m) m) → (∀ c ∈ cols, TableA c) →
    CovL ms (zipApply u i ms cols) ∧ ∀ ms', CovL ms' cols → CovL ms' (zipApply u i ms cols) := by
  intro ms
  induction ms with
  | nil => intro i cols _ _; exact ⟨trivial, fun _ h => h⟩
  | cons m mr ih =>
    intro i cols hm hc
    have hc0 : TableA (cols.headD (.mk (.idx i) 0 [] 0)) := by
      cases cols with
      | nil => exact TableA_fresh i
      | cons c cr => exact hc c (by simp)
    obtain ⟨_, t2, t3⟩ := hm m (by simp) _ hc0
    obtain ⟨i1, i2⟩ := ih (i + 1) cols.tail (fun x hx => hm x (by simp [hx])) fun c h => hc c (List.mem_of_mem_tail h)
    refine ⟨⟨t2, i1⟩, fun ms' hms' => ?_⟩
    cases ms' with
    | nil => trivial
    | cons m' mr' =>
      cases cols with
      | nil => exact hms'.elim
      | cons c cr => exact ⟨t3 m' hms'.1, i2 mr' hms'.2⟩

theorem upd_arr : ∀ (g : Nat) (n : PNode), AOnly g n → UpdSpec (upd g n) n := by
  intro g
  induction g with
  | zero =>
    intro n ha t ht
    cases n with
    | leaf k buf sk => exact ⟨ht, trivial, fun _ h => h⟩
    | _ => exact False.elim ha
  | succ g ih =>
    intro n ha ⟨key, size, cols, kinds⟩ ht
    cases n with
    | leaf k buf sk => exact ⟨ht, trivial, fun _ h => h⟩
    | map ms sz dp sk => exact False.elim ha
    | arr ms sz dp sk =>
      have hcell : ∀ m ∈ ms, UpdSpec (applyMember (upd g) m) m := fun m hm =>
        applyMember_spec (upd g) m (ha m hm) fun _ _ _ _ _ => ih m (ha m hm)
      obtain ⟨heq, hal⟩ := updArrCols_eq (upd g) (upd_key g) ms [] cols ht.2 fun m hm c hc => (hcell m hm c hc).1
      simp only [List.nil_append, List.length_nil] at heq hal
      have hupd : upd (g + 1) (.arr ms sz dp sk) (.mk key size cols kinds) =
          .mk key (sumSizes (zipApply (upd g) 0 ms cols) + (zipApply (upd g) 0 ms cols).length * 2)
            (zipApply (upd g) 0 ms cols) kinds := by
        have h0 : upd (g + 1) (.arr ms sz dp sk) (.mk key size cols kinds) =
            .mk key (sumSizes (sortBy (fun a b => decide (a.key.int < b.key.int)) (updArrCols (upd g) ms 0 cols) []) +
              (sortBy (fun a b => decide (a.key.int < b.key.int)) (updArrCols (upd g) ms 0 cols) []).length * 2)
              (sortBy (fun a b => decide (a.key.int < b.key.int)) (updArrCols (upd g) ms 0 cols) []) kinds := rfl
        rw [h0, heq, sortBy_contig _ [] 0 hal (by simp), List.nil_append]
      obtain ⟨hself, hmono⟩ := zipApply_cov (upd g) ms 0 cols hcell (TableAL_all cols 0 ht.2)
      rw [hupd]
      refine ⟨⟨by omega, hal⟩, hself, fun n' hn' => ?_⟩
      cases n' with
      | arr ms' sz' dp' sk' => exact hmono ms' hn'
      | _ => trivial

theorem foldUpd_arr (g : Nat) : ∀ (rows : List PNode) (t : Table), (∀ r ∈ rows, AOnly g r) → TableA t →
    TableA (foldUpd g rows t) ∧ (∀ r ∈ rows, Cov r (foldUpd g rows t)) ∧ (∀ n', Cov n' t → Cov n' (foldUpd g rows t)) := by
  intro rows
  induction rows with
  | nil => intro t _ ht; exact ⟨ht, fun r hr => (nomatch hr), fun _ h => h⟩
  | cons r rs ih =>
    intro t hr ht
    obtain ⟨h1, h2, h3⟩ := upd_arr g r (hr r (by simp)) t ht
    obtain ⟨k1, k2, k3⟩ := ih (upd g r t) (fun x hx => hr x (by simp [hx])) h1
    refine ⟨k1, fun x hx => ?_, fun n' hn' => k3 n' (h3 n' hn')⟩
    rcases List.mem_cons.mp hx with rfl | hx
    · exact k3 _ h2
    · exact k2 x hx

theorem spaces_size : Gen.Pretty.spaces.size = 129 := by decide +kernel

theorem sumSizes_mem_le : ∀ (cols : List Table) (c : Table), c ∈ cols → c.size ≤ sumSizes cols := by
  intro cols
  induction cols with
  | nil => intro c hc; simp at hc
  | cons x r ih =>
    intro c hc
    simp only [List.mem_cons] at hc
    simp only [sumSizes]
    rcases hc with rfl | hc
    · omega
    · have := ih c hc; omega

/-- in a table of arrays no padding is out of range once the table is at most 128 bytes wide: a padding
is `spaces[1:k]` with `k` at most the width plus one, and `len(spaces) = 129` -/
theorem nodeOK_of_TableA : ∀ (f g : Nat) (n : PNode) (t : Table), AOnly g n → TableA t → t.size ≤ 128 → nodeOK f n t := by
  intro f
  induction f with
  | zero => intro g n t _ _ _; trivial
  | succ f ih =>
    intro g n ⟨key, size, cols, kinds⟩ ha ht hs
    cases n with
    | leaf k buf sk => trivial
    | map ms sz dp sk => exact absurd ha (AOnly_map _ _ _ _ _)
    | arr ms sz dp sk =>
      obtain ⟨g, rfl⟩ : ∃ g', g = g' + 1 := by cases g with | zero => exact False.elim ha | succ g => exact ⟨g, rfl⟩
      have hgen : ∀ (cols : List Table) (ms : List PNode) (base : Nat), TableAL cols base → sumSizes cols ≤ 128 →
          (∀ m ∈ ms, AOnly g m) → arrColsOK (nodeOK f) (nodeOK f) cols ms := by
        intro cols
        induction cols with
        | nil => intro ms base _ _ _; trivial
        | cons col cr ihc =>
          intro ms base hta hsum ham
          cases ms with
          | nil => trivial
          | cons m mr =>
            simp only [sumSizes] at hsum
            refine ⟨?_, ihc mr (base + 1) hta.2.2 (by omega) fun x hx => ham x (by simp [hx])⟩
            cases m with
            | leaf k buf sk => simp only [cellOK, spaces_size]; intro _; omega
            | arr ms2 sz2 dp2 sk2 => exact ih g _ _ (ham _ List.mem_cons_self) hta.2.1 (by omega)
            | map ms2 sz2 dp2 sk2 => exact absurd (ham _ List.mem_cons_self) (AOnly_map _ _ _ _ _)
      exact hgen cols ms 0 ht.2 (by have := ht.1; simp only [Table.size] at hs; omega) ha

theorem arrOnlyL_mem : ∀ (xs : List JV), arrOnlyL xs → ∀ x ∈ xs, arrOnly x := all_of_cons fun _ _ h => h

theorem AOnly_build (o : POpts) (ord : Kvs → Kvs) : ∀ (f : Nat) (x : JV), arrOnly x → AOnly f (build o ord f x) := by
  intro f
  induction f with
  | zero => intro x _; trivial
  | succ f ih =>
    intro x hx
    cases x with
    | arr xs =>
      intro m hm
      obtain ⟨y, hy, rfl⟩ := List.mem_map.mp hm
      exact ih y (arrOnlyL_mem xs hx y hy)
    | obj kvs => exact False.elim hx
    | bool b => cases b <;> trivial
    | _ => trivial

theorem nullStr_eq : Gen.Pretty.nullStr.toList = [110, 117, 108, 108] := by decide
theorem trueStr_eq : Gen.Pretty.trueStr.toList = [116, 114, 117, 101] := by decide
theorem falseStr_eq : Gen.Pretty.falseStr.toList = [102, 97, 108, 115, 101] := by decide

theorem scalar_head (o : POpts) (y : JV) (hok : okW y) (h1 : isArr y = false) (h2 : isObj y = false) :
    ∃ b t, scalarText (!o.htmlUnsafe) y = b :: t ∧ startByte b = true :=
  scalarText_head _ y hok h1 h2

theorem parse_scalar (hs : TableSafe Gen.Root.jMap) (o : POpts) (drop : JV → Bool) (srt : Bool) (ord : Kvs → Kvs)
    (f g : Nat) (y : JV) (rest : Bytes) (hok : okW y) (h1 : isArr y = false) (h2 : isObj y = false)
    (hr : follows rest = true) :
    Spec.pValue (g + 1) (scalarText (!o.htmlUnsafe) y ++ rest) = some (normG drop srt ord (f + 1) y, rest) :=
  pValue_scalar hs _ g y rest hok h1 h2 hr

theorem build_scalar (o : POpts) (ord : Kvs → Kvs) (f : Nat) (y : JV) (hok : okW y)
    (h1 : isArr y = false) (h2 : isObj y = false) :
    ∃ kind sk, build o ord (f + 1) y = .leaf kind (scalarText (!o.htmlUnsafe) y) sk ∧
      (kind = Gen.Pretty.strNode ∨ kind = Gen.Pretty.numNode) := by
  cases y with
  | null => exact ⟨_, _, rfl, Or.inl rfl⟩
  | bool b => cases b <;> exact ⟨Gen.Pretty.strNode, false, by simp [build, scalarText, trueStr_eq, falseStr_eq], Or.inl rfl⟩
  | int i => exact ⟨_, _, rfl, Or.inr rfl⟩
  | flt t => exact ⟨_, _, rfl, Or.inr rfl⟩
  | big t => simp [okW] at hok
  | num t => simp [okW] at hok
  | str x => exact ⟨_, _, rfl, Or.inl rfl⟩
  | arr xs => simp [isArr] at h1
  | obj kvs => simp [isObj] at h2

theorem padT_ws (hsp : SepWs) (lt : Bool) (hi : Nat) : ((padT lt hi).all Spec.isWs) = true := by
  unfold padT
  split
  · exact all_take_drop _ _ hsp.spaces _ _
  · rfl

theorem cell_scalar (hs : TableSafe Gen.Root.jMap) (hsp : SepWs) (o : POpts) (drop : JV → Bool) (srt : Bool)
    (ord : Kvs → Kvs) (f : Nat) (y : JV) (col : Table) (T : PNode → Table → Bytes) (hok : okW y)
    (h1 : isArr y = false) (h2 : isObj y = false) :
    CellOf JText (cellT T T (build o ord (f + 1) y) col) (normG drop srt ord (f + 1) y) := by
  obtain ⟨kind, sk, hb, hkind⟩ := build_scalar o ord f y hok h1 h2
  have htok : CellOf JText _ (normG drop srt ord (f + 1) y) := CellOf.tok (JText.scalar hs (!o.htmlUnsafe) y hok h1 h2)
  rw [hb]
  rcases hkind with rfl | rfl
  · simp only [cellT, ↓reduceIte]
    exact htok.ws_right _ (padT_ws hsp _ _)
  · simp only [cellT, show ¬ (Gen.Pretty.numNode = Gen.Pretty.strNode) by decide, ↓reduceIte]
    exact htok.ws_left _ _ _ (padT_ws hsp _ _)

theorem each_zipWith {α : Type} {P : Bytes → α → Prop} (T : PNode → Table → Bytes) (bv : JV → PNode) (nvv : JV → α) :
    ∀ (xs : List JV) (cols : List Table), CovL (xs.map bv) cols →
      (∀ y col, y ∈ xs → Cov (bv y) col → P (T (bv y) col) (nvv y)) →
      Each P (List.zipWith T (xs.map bv) cols) (xs.map nvv) := by
  intro xs
  induction xs with
  | nil => intro cols _ _; exact .nil
  | cons y r ih =>
    intro cols hcov h
    cases cols with
    | nil => exact hcov.elim
    | cons col cr =>
      exact .cons (h y col (by simp) hcov.1) (ih cr hcov.2 fun z c hz hc => h z c (List.mem_cons_of_mem _ hz) hc)

/-- the aligned text of an array row is a JSON text of the row -/
theorem nodeT_reads (hs : TableSafe Gen.Root.jMap) (hsp : SepWs) (w : PW) (ord : Kvs → Kvs) :
    ∀ (f : Nat) (x : JV) (t : Table) (fu : Nat), okW x → arrOnly x → isArr x = true →
      depth x < f → Cov (build w.o ord f x) t → f ≤ fu →
      JText (nodeT fu (build w.o ord f x) t) (normG (omits (ojOptsOf w.o)) true ord f x) := by
  intro f
  induction f with
  | zero => intro x t fu _ _ _ h; omega
  | succ f ih =>
    intro x t fu hok hao hia hf hcov hfu
    obtain ⟨fu, rfl⟩ := Nat.exists_eq_add_one.mpr (Nat.zero_lt_of_lt hfu)
    cases x with
    | arr xs =>
      simp only [okW] at hok
      simp only [arrOnly] at hao
      simp only [depth] at hf
      rw [build_arr] at hcov ⊢
      simp only [Cov] at hcov
      simp only [nodeT]
      refine JText.arr rfl (Each.spaced CellOf.ws_left rfl rfl (each_zipWith _ _ _ xs t.cols hcov ?_))
      intro y col hy hcv
      have hoky := okW_mem_list _ hok y hy
      have hdy : depth y < f := by have := depth_mem_list xs y hy; omega
      obtain ⟨f', rfl⟩ := Nat.exists_eq_add_one.mpr (Nat.zero_lt_of_lt hdy)
      have haoy := arrOnlyL_mem xs hao y hy
      by_cases hya : isArr y = true
      · obtain ⟨fu', rfl⟩ := Nat.exists_eq_add_one.mpr (Nat.zero_lt_of_lt (Nat.le_of_succ_le_succ hfu))
        obtain ⟨ys, rfl⟩ : ∃ ys, y = .arr ys := by
          cases y with
          | arr ys => exact ⟨ys, rfl⟩
          | _ => simp [isArr] at hya
        exact CellOf.tok (ih _ col (fu' + 1) hoky haoy hya hdy hcv (by omega))
      · have hyo : isObj y = false := by
          cases y with
          | obj kvs => simp [arrOnly] at haoy
          | _ => rfl
        exact cell_scalar hs hsp w.o _ _ ord f' y col _ hoky (by simpa using hya) hyo
    | _ => simp [isArr] at hia

theorem parse_nodeT (hs : TableSafe Gen.Root.jMap) (hsp : SepWs) (w : PW) (ord : Kvs → Kvs) :
    ∀ (f : Nat) (x : JV) (t : Table) (fu g : Nat) (rest : Bytes), okW x → arrOnly x → isArr x = true →
      depth x < f → Cov (build w.o ord f x) t → f ≤ fu → (nodeT fu (build w.o ord f x) t).length < g →
      follows rest = true →
      Spec.pValue g (nodeT fu (build w.o ord f x) t ++ rest) =
        some (normG (omits (ojOptsOf w.o)) true ord f x, rest) :=
  fun f x t fu g rest hok hao hia hf hcov hfu hg hrest =>
    (nodeT_reads hs hsp w ord f x t fu hok hao hia hf hcov hfu).2 g rest hg hrest

end OjgVerif.Writer.Pretty
