import OjgVerif.Writer.LemmasAlignMap
import OjgVerif.Writer.LemmasSort
import OjgVerif.Common.JVInduction
/-! Lemmas about the `pretty` model when the alignment tables used are tables of arrays without objects
inside or tables of flat objects with complete rows (`tablesAO`; or Align off; keys of a map may be
aligned): `fill` appends a text that is a function of the tree (`ptext`: the same tokens as the `oj`
writers, other white space), and the RFC 8259 reader gives back the tree minus the members
OmitNil / OmitEmpty name. The table functions themselves are in `LemmasAlign.lean` (arrays) and
`LemmasAlignMap.lean` (flat objects). -/
namespace OjgVerif.C04
open Writer Writer.Pretty

/-- the omission rule and the key encoding of a `pretty` configuration, as the tree predicates (`tablesAO`,
`rowKeys`, `rowsComplete`, `keysEncOrdered`) take them. They stand in the namespace of `Props/C04.lean`, whose
statements name them. -/
def dropOf (p : POpts) : JV → Bool := omits (ojOptsOf p)
def encOf (p : POpts) : Bytes → Bytes := fun k => jsonString k (!p.htmlUnsafe)

end OjgVerif.C04

namespace OjgVerif.Writer.Pretty
open OjgVerif.Json OjgVerif.C04

/-- `cs`, `is`, `flat` for the members of the node built from `v` -/
def lay (w : PW) (ord : Kvs → Kvs) (f : Nat) (v : JV) (depth : Nat) (flat : Bool) : Bytes × Bytes × Bool :=
  layoutOf w depth (flat || (depth * w.indent + (build w.o ord f v).size < w.width &&
    (build w.o ord f v).depth < w.o.maxDepth))

/-- the members `pretty` writes -/
def keptP (w : PW) (ord : Kvs → Kvs) (f : Nat) (kvs : Kvs) : Kvs :=
  (sortKvs (ord kvs)).filter fun kv => !(build w.o ord f kv.2).skip

theorem subKind_all (c : UInt8) (hc : c ≠ 0) : ∀ (l : List UInt8) (kind : UInt8), (∀ x ∈ l, x ≠ 0) →
    subKind l kind = c → (kind = 0 ∨ kind = c) ∧ ∀ x ∈ l, x = c := by
  intro l
  induction l with
  | nil => intro kind _ h; exact ⟨Or.inr h, fun x hx => nomatch hx⟩
  | cons k r ih =>
    intro kind hnz h
    have hk : k ≠ 0 := hnz k (by simp)
    have hr : ∀ x ∈ r, x ≠ 0 := fun x hx => hnz x (by simp [hx])
    rw [subKind] at h
    by_cases hkk : kind = k
    · rw [if_neg (· hkk)] at h
      obtain ⟨h1, h2⟩ := ih kind hr h
      have hkc : kind = c := h1.resolve_left (hkk ▸ hk)
      exact ⟨Or.inr hkc, fun x hx => (List.mem_cons.mp hx).elim (fun e => e.trans (hkk.symm.trans hkc)) (h2 x)⟩
    · rw [if_pos hkk] at h
      by_cases h0 : kind = 0
      · rw [if_neg (· h0)] at h
        obtain ⟨h1, h2⟩ := ih k hr h
        exact ⟨Or.inl h0, fun x hx => (List.mem_cons.mp hx).elim (fun e => e.trans (h1.resolve_left hk)) (h2 x)⟩
      · rw [if_pos h0] at h; exact absurd h.symm hc

theorem build_kind (o : POpts) (ord : Kvs → Kvs) (f : Nat) (v : JV) :
    (build o ord f v).kind ≠ 0 ∧ ((build o ord f v).kind = Gen.Pretty.arrayNode → isArr v = true) ∧
      ((build o ord f v).kind = Gen.Pretty.mapNode → isObj v = true ∧ 0 < f) := by
  have leaf : ∀ k : UInt8, k ≠ 0 ∧ k ≠ Gen.Pretty.arrayNode ∧ k ≠ Gen.Pretty.mapNode →
      k ≠ 0 ∧ (k = Gen.Pretty.arrayNode → isArr v = true) ∧ (k = Gen.Pretty.mapNode → isObj v = true ∧ 0 < f) :=
    fun k h => ⟨h.1, fun e => absurd e h.2.1, fun e => absurd e h.2.2⟩
  cases f with
  | zero => exact leaf Gen.Pretty.strNode (by decide)
  | succ f =>
    cases v with
    | arr xs => exact ⟨(by decide : Gen.Pretty.arrayNode ≠ 0), fun _ => rfl,
        fun h => absurd h (by decide : Gen.Pretty.arrayNode ≠ Gen.Pretty.mapNode)⟩
    | obj kvs => exact ⟨(by decide : Gen.Pretty.mapNode ≠ 0),
        fun h => absurd h (by decide : Gen.Pretty.mapNode ≠ Gen.Pretty.arrayNode), fun _ => ⟨rfl, Nat.succ_pos f⟩⟩
    | bool b => cases b <;> exact leaf Gen.Pretty.strNode (by decide)
    | int i => exact leaf Gen.Pretty.numNode (by decide)
    | flt t => exact leaf Gen.Pretty.numNode (by decide)
    | _ => exact leaf Gen.Pretty.strNode (by decide)

theorem rows_kind (o : POpts) (ord : Kvs → Kvs) (f : Nat) (xs : List JV) :
    (subKind ((xs.map (build o ord f)).map PNode.kind) 0 = Gen.Pretty.arrayNode → ∀ y ∈ xs, isArr y = true) ∧
    (subKind ((xs.map (build o ord f)).map PNode.kind) 0 = Gen.Pretty.mapNode → ∀ y ∈ xs, isObj y = true ∧ 0 < f) := by
  have hnz : ∀ x ∈ (xs.map (build o ord f)).map PNode.kind, x ≠ 0 := by
    intro x hx
    simp only [List.map_map, List.mem_map, Function.comp] at hx
    obtain ⟨y, _, rfl⟩ := hx
    exact (build_kind o ord f y).1
  have hmem : ∀ y ∈ xs, (build o ord f y).kind ∈ (xs.map (build o ord f)).map PNode.kind :=
    fun y hy => List.mem_map_of_mem (List.mem_map_of_mem hy)
  constructor <;> intro hk y hy
  · exact (build_kind o ord f y).2.1 ((subKind_all _ (by decide) _ 0 hnz hk).2 _ (hmem y hy))
  · exact (build_kind o ord f y).2.2 ((subKind_all _ (by decide) _ 0 hnz hk).2 _ (hmem y hy))

set_option linter.unusedVariables false in
/-- rows that are not all arrays and not all objects give no table -/
theorem genTables_none (o : POpts) (ord : Kvs → Kvs) (fuel f : Nat) (xs : List JV) (sz dp : Nat) (sk : Bool)
    (h : ¬ (xs.all isArr = true ∨ xs.all isObj = true)) (hne : xs ≠ []) :
    genTables fuel (.arr (xs.map (build o ord f)) sz dp sk) = none := by
  obtain ⟨ha, ho⟩ := rows_kind o ord f xs
  have hk : ¬ (subKind ((xs.map (build o ord f)).map PNode.kind) 0 = Gen.Pretty.arrayNode ∨
      subKind ((xs.map (build o ord f)).map PNode.kind) 0 = Gen.Pretty.mapNode) := fun hk =>
    h (hk.imp (fun e => List.all_eq_true.mpr (ha e)) fun e => List.all_eq_true.mpr fun y hy => (ho e y hy).1)
  simp only [not_or, List.map_map] at hk
  simp [genTables, memberKinds, hk.1, hk.2]

/-- a member of an object: the key, `: `, the blanks that bring the value to the common column `kw`, the value -/
def memberP (html : Bool) (kw : Nat) (k val : Bytes) : Bytes :=
  memberT html [] k (32 :: List.replicate (kw - (jsonString k html).length) 32 ++ val)

/-- the column the values of a map start in: the longest encoded key when aligning -/
def kwOf (w : PW) (ord : Kvs → Kvs) (f : Nat) (kvs : Kvs) : Nat :=
  if w.o.align then
    maxKeyLen ((keptP w ord f kvs).map fun kv => (jsonString kv.1 (!w.o.htmlUnsafe), build w.o ord f kv.2)) 1
  else 1

/-- the table `fill` aligns the rows of an array node with — if it does: Align is on, the node is not
deeper than MaxDepth, has two rows or more, all arrays or all maps, the table is not mixed and fits
the width -/
def tableOf (w : PW) (n : PNode) (ms : List PNode) (ndepth depth : Nat) : Option Table :=
  match (if !w.o.align || w.o.maxDepth < ndepth || ms.length < 2 then none else genTables w.fuel n) with
  | none => none
  | some c => if c.mixed || w.width < depth * w.indent + c.size then none else some c

/-- the table for the node built from an array value -/
def tableOfV (w : PW) (ord : Kvs → Kvs) (f : Nat) (xs : List JV) (depth : Nat) : Option Table :=
  tableOf w (build w.o ord (f + 1) (.arr xs)) (xs.map (build w.o ord f)) (arrDepth (xs.map (build w.o ord f)) 0) depth

theorem tableOf_some (w : PW) (n : PNode) (ms : List PNode) (ndepth depth : Nat) (c : Table)
    (h : tableOf w n ms ndepth depth = some c) :
    w.o.align = true ∧ 2 ≤ ms.length ∧ genTables w.fuel n = some c ∧ depth * w.indent + c.size ≤ w.width := by
  unfold tableOf at h
  by_cases hcond : (!w.o.align || decide (w.o.maxDepth < ndepth) || decide (ms.length < 2)) = true
  · rw [if_pos hcond] at h; cases h
  · rw [if_neg hcond] at h
    cases hg : genTables w.fuel n with
    | none => rw [hg] at h; cases h
    | some c0 =>
      rw [hg] at h
      dsimp only at h
      by_cases hbad : (c0.mixed || decide (w.width < depth * w.indent + c0.size)) = true
      · rw [if_pos hbad] at h; cases h
      · rw [if_neg hbad] at h
        cases h
        simp only [Bool.or_eq_true, Bool.not_eq_true', decide_eq_true_eq, not_or, Bool.not_eq_false, Nat.not_lt] at hcond hbad
        exact ⟨hcond.1.1, hcond.2, rfl, hbad.2⟩

theorem genTables_some (fuel : Nat) (ms : List PNode) (sz dp : Nat) (sk : Bool) (c : Table)
    (h : genTables fuel (.arr ms sz dp sk) = some c) :
    (subKind (ms.map PNode.kind) 0 = Gen.Pretty.arrayNode ∨ subKind (ms.map PNode.kind) 0 = Gen.Pretty.mapNode) ∧
      c = foldUpd fuel ms (.mk (.idx 0) 0 [] 0) := by
  have e : genTables fuel (.arr ms sz dp sk) =
      (if (decide (subKind (List.map PNode.kind ms) 0 = Gen.Pretty.arrayNode) ||
          decide (subKind (List.map PNode.kind ms) 0 = Gen.Pretty.mapNode)) = true then
        some (foldUpd fuel ms (.mk (.idx 0) 0 [] 0)) else none) := rfl
  rw [e] at h
  by_cases hk : (decide (subKind (List.map PNode.kind ms) 0 = Gen.Pretty.arrayNode) ||
      decide (subKind (List.map PNode.kind ms) 0 = Gen.Pretty.mapNode)) = true
  · rw [if_pos hk] at h
    injection h with h
    simp only [Bool.or_eq_true, decide_eq_true_eq] at hk
    exact ⟨hk, h.symm⟩
  · rw [if_neg hk] at h; cases h

/-- the `skip` mark of a node is the documented rule: nil under OmitNil; empty string, slice, map
under OmitEmpty -/
theorem build_skip (o : POpts) (ord : Kvs → Kvs) (f : Nat) (v : JV) :
    (build o ord (f + 1) v).skip = omits (ojOptsOf o) v := by
  cases v with
  | null => simp [build, PNode.skip, omits, ojOptsOf]
  | bool b => cases b <;> simp [build, PNode.skip, omits]
  | int i => simp [build, PNode.skip, omits]
  | flt t => simp [build, PNode.skip, omits]
  | big t => simp [build, PNode.skip, omits]
  | num t => simp [build, PNode.skip, omits]
  | str x => cases x <;> simp [build, PNode.skip, omits, ojOptsOf]
  | arr xs => cases xs <;> simp [build, PNode.skip, omits, ojOptsOf]
  | obj kvs => cases kvs <;> simp [build, PNode.skip, omits, ojOptsOf]

theorem keptP_eq (w : PW) (ord : Kvs → Kvs) (f : Nat) (kvs : Kvs) (hf : 0 < f) :
    keptP w ord f kvs = (sortKvs (ord kvs)).filter fun kv => !omits (ojOptsOf w.o) kv.2 := by
  obtain ⟨f', rfl⟩ := Nat.exists_eq_add_one.mpr hf
  simp only [keptP]
  apply List.filter_congr
  intro kv _
  rw [build_skip]

theorem build_obj_row (w : PW) (ord : Kvs → Kvs) (f : Nat) (kvs : Kvs) :
    ∃ sz dp sk, build w.o ord (f + 1) (.obj kvs) = .map (rowMs (encOf w.o) (build w.o ord f) (keptP w ord f kvs)) sz dp sk := by
  have hm : (buildMembers w.o (build w.o ord f) (sortKvs (ord kvs)) [] 2 0).1 =
      (keptP w ord f kvs).map fun kv => (jsonString kv.1 (!w.o.htmlUnsafe), build w.o ord f kv.2) := by
    rw [buildMembers_fst]; simp [keptP]
  exact ⟨_, _, _, by simp only [build, hm]; rfl⟩

theorem build_leaf_scalar (o : POpts) (ord : Kvs → Kvs) (f : Nat) (v : JV) (h1 : isArr v = false) (h2 : isObj v = false) :
    ∃ k buf sk, build o ord f v = .leaf k buf sk := by
  cases f with
  | zero => exact ⟨_, _, _, rfl⟩
  | succ f =>
    cases v with
    | arr xs => simp [isArr] at h1
    | obj kvs => simp [isObj] at h2
    | bool b =>
      cases b
      · exact ⟨Gen.Pretty.strNode, Gen.Pretty.falseStr.toList, false, by simp [build]⟩
      · exact ⟨Gen.Pretty.strNode, Gen.Pretty.trueStr.toList, false, by simp [build]⟩
    | _ => exact ⟨_, _, _, rfl⟩

theorem keptP_sub (w : PW) (ord : Kvs → Kvs) (hord : IsOrder ord) (f : Nat) (kvs : Kvs) :
    (∀ kv ∈ keptP w ord f kvs, kv ∈ kvs) ∧
      ((kvs.map fun kv => sanitize kv.1).Nodup → ((keptP w ord f kvs).map fun kv => sanitize kv.1).Nodup) := by
  have hperm : (sortKvs (ord kvs)).Perm kvs := (sortKvs_perm _).trans (hord kvs)
  have hsub : (keptP w ord f kvs).Sublist (sortKvs (ord kvs)) := List.filter_sublist
  exact ⟨fun kv h => hperm.mem_iff.mp (hsub.subset h), fun h => (hsub.map _).nodup ((hperm.map _).nodup_iff.mpr h)⟩

theorem flat_row (w : PW) (ord : Kvs → Kvs) (hord : IsOrder ord) (f : Nat) (kvs : Kvs) (h : flatObj (.obj kvs) = true) :
    FlatMap (build w.o ord (f + 1) (.obj kvs)) := by
  obtain ⟨sz, dp, sk, hb⟩ := build_obj_row w ord f kvs
  rw [hb]
  simp only [FlatMap, rowMs, List.mem_map]
  rintro km ⟨kv, hkv, rfl⟩
  have hmem := (keptP_sub w ord hord f kvs).1 kv hkv
  simp only [flatObj, List.all_eq_true, isScalar, Bool.and_eq_true, Bool.not_eq_true'] at h
  exact build_leaf_scalar w.o ord f kv.2 (h kv hmem).1 (h kv hmem).2

theorem keptP_mem (w : PW) (ord : Kvs → Kvs) (hord : IsOrder ord) (f : Nat) (kvs : Kvs) (hf : 0 < f) (kv : Bytes × JV) :
    kv ∈ keptP w ord f kvs ↔ (kv ∈ kvs ∧ dropOf w.o kv.2 = false) := by
  have hperm : (sortKvs (ord kvs)).Perm kvs := (sortKvs_perm _).trans (hord kvs)
  rw [keptP_eq w ord f kvs hf]
  simp only [List.mem_filter, hperm.mem_iff, dropOf, Bool.not_eq_true']

theorem lastPres_of_max (enc : Bytes → Bytes) (row : Kvs) (kv : Bytes × JV) (hkv : kv ∈ row) (col : Table)
    (hk : col.key.string = enc kv.1) : ∀ cols : List Table, MSorted cols → col ∈ cols →
    (∀ c ∈ cols, bytesLt col.key.string c.key.string = false) → lastPres enc row cols := by
  intro cols
  induction cols with
  | nil => intro _ h; cases h
  | cons c r ih =>
    intro hs hcol hmax
    cases r with
    | nil =>
      rw [List.mem_singleton.mp hcol] at hk
      exact findKv_isSome enc _ row ⟨kv, hkv, hk.symm⟩
    | cons d r' =>
      refine ih (List.pairwise_cons.mp hs).2 ((List.mem_cons.mp hcol).resolve_left fun e => ?_)
        fun x hx => hmax x (List.mem_cons_of_mem _ hx)
      have := (List.pairwise_cons.mp hs).1 d (by simp)
      rw [← e, hmax d (by simp)] at this
      cases this

theorem tableOfV_kind (w : PW) (ord : Kvs → Kvs) (f : Nat) (xs : List JV) (d : Nat) (c : Table)
    (h : tableOfV w ord f xs d = some c) :
    w.o.align = true ∧ 2 ≤ xs.length ∧ d * w.indent + c.size ≤ w.width ∧
      c = foldUpd w.fuel (xs.map (build w.o ord f)) (.mk (.idx 0) 0 [] 0) ∧
      (xs.all isArr = true ∨ (xs.all isObj = true ∧ 0 < f)) := by
  unfold tableOfV at h
  rw [build_arr] at h
  obtain ⟨hal, hlen, hg, hfit⟩ := tableOf_some _ _ _ _ _ _ h
  simp only [List.length_map] at hlen
  obtain ⟨hk, hc⟩ := genTables_some _ _ _ _ _ _ hg
  obtain ⟨ha, ho⟩ := rows_kind w.o ord f xs
  refine ⟨hal, hlen, hfit, hc, hk.imp (fun e => List.all_eq_true.mpr (ha e)) fun e =>
    ⟨List.all_eq_true.mpr fun y hy => (ho e y hy).1, ?_⟩⟩
  cases xs with
  | nil => simp at hlen
  | cons y r => exact (ho e y (by simp)).2

theorem mapTable_facts (w : PW) (ord : Kvs → Kvs) (hord : IsOrder ord) (f : Nat) (xs : List JV) (c : Table)
    (hfu : 1 ≤ w.fuel) (hne : xs ≠ []) (hobj : xs.all isObj = true) (hflat : ∀ x ∈ xs, flatObj x = true)
    (hc : c = foldUpd w.fuel (xs.map (build w.o ord (f + 1))) (.mk (.idx 0) 0 [] 0)) :
    (∀ r ∈ xs.map (build w.o ord (f + 1)), FlatMap r) ∧ MGood c ∧
      ∀ key', key' ∈ c.cols.map Table.key ↔
        ∃ x ∈ xs.map (build w.o ord (f + 1)), ∃ k ∈ x.mkeys, key' = .str k := by
  have hrows : ∀ r ∈ xs.map (build w.o ord (f + 1)), FlatMap r := by
    intro r hr
    simp only [List.mem_map] at hr
    obtain ⟨y, hy, rfl⟩ := hr
    have hyo : isObj y = true := List.all_eq_true.mp hobj y hy
    cases y with
    | obj kvs => exact flat_row w ord hord f kvs (hflat _ hy)
    | _ => simp [isObj] at hyo
  obtain ⟨fu, hfue⟩ := Nat.exists_eq_add_one.mpr hfu
  obtain ⟨x, r, rfl⟩ := List.exists_cons_of_ne_nil hne
  rw [hfue, List.map_cons] at hc
  obtain ⟨_, a2, a3⟩ := foldUpd_flat fu _ _ hrows
  rw [← hc] at a2 a3
  exact ⟨hrows, a2, a3⟩

theorem mkeys_row (w : PW) (ord : Kvs → Kvs) (f : Nat) (kvs : Kvs) :
    (build w.o ord (f + 1) (.obj kvs)).mkeys = (keptP w ord f kvs).map fun kv => encOf w.o kv.1 := by
  obtain ⟨sz, dp, sk, hb⟩ := build_obj_row w ord f kvs
  rw [hb]
  simp [PNode.mkeys, rowMs]

/-- the keys a built row shows are, up to the order, the keys `rowKeys` names: the members written, encoded -/
theorem mkeys_perm (w : PW) (ord : Kvs → Kvs) (hord : IsOrder ord) (f : Nat) (hf : 0 < f) (y : JV) :
    (build w.o ord (f + 1) y).mkeys.Perm (rowKeys (dropOf w.o) (encOf w.o) y) := by
  cases y with
  | obj kvs =>
    rw [mkeys_row, keptP_eq w ord f kvs hf]
    exact (((sortKvs_perm _).trans (hord kvs)).filter _).map _
  | bool b => cases b; exact .nil; exact .nil
  | _ => exact .nil

/-- everything `parse_flatRow` asks of a row of a table of flat objects with complete rows -/
theorem flatRow_facts (w : PW) (ord : Kvs → Kvs) (hord : IsOrder ord) (f : Nat) (xs : List JV) (c : Table) (hf : 0 < f)
    (hsorted : MSorted c.cols)
    (hkeys : ∀ key', key' ∈ c.cols.map Table.key ↔
        ∃ x ∈ xs.map (build w.o ord (f + 1)), ∃ k ∈ x.mkeys, key' = .str k)
    (hcomp : rowsComplete (dropOf w.o) (encOf w.o) xs) (kvs : Kvs) (hy : JV.obj kvs ∈ xs) (hok : okW (.obj kvs))
    (hordk : keysEncOrdered (dropOf w.o) (encOf w.o) (.obj kvs)) (hflat : flatObj (.obj kvs) = true) :
    (∀ kv ∈ keptP w ord f kvs, okW kv.2 ∧ isArr kv.2 = false ∧ isObj kv.2 = false) ∧
    ((keptP w ord f kvs).map fun kv => sanitize kv.1).Nodup ∧
    ((keptP w ord f kvs).map fun kv => jsonString kv.1 (!w.o.htmlUnsafe)).Pairwise (fun a b => bytesLt a b = true) ∧
    (∀ kv ∈ keptP w ord f kvs, ∃ col ∈ c.cols, col.key.string = jsonString kv.1 (!w.o.htmlUnsafe)) ∧
    (keptP w ord f kvs = [] ∨ lastPres (fun k => jsonString k (!w.o.htmlUnsafe)) (keptP w ord f kvs) c.cols) := by
  have hsub : (keptP w ord f kvs).Sublist (sortKvs (ord kvs)) := List.filter_sublist
  simp only [okW] at hok
  have hmemk := keptP_mem w ord hord f kvs hf
  have hcov : ∀ kv ∈ keptP w ord f kvs, ∃ col ∈ c.cols, col.key.string = jsonString kv.1 (!w.o.htmlUnsafe) := by
    intro kv hkv
    have : TKey.str (encOf w.o kv.1) ∈ c.cols.map Table.key := by
      rw [hkeys]
      exact ⟨build w.o ord (f + 1) (.obj kvs), List.mem_map_of_mem hy, encOf w.o kv.1,
        by rw [mkeys_row]; exact List.mem_map_of_mem (f := fun kv => encOf w.o kv.1) hkv, rfl⟩
    simp only [List.mem_map] at this
    obtain ⟨col, hc, e⟩ := this
    exact ⟨col, hc, by rw [e]; rfl⟩
  refine ⟨?_, ?_, ?_, hcov, ?_⟩
  · intro kv hkv
    have hm := ((hmemk kv).mp hkv).1
    simp only [flatObj, List.all_eq_true, isScalar, Bool.and_eq_true, Bool.not_eq_true'] at hflat
    exact ⟨okW_mem_kvs _ hok.2 kv hm, (hflat kv hm).1, (hflat kv hm).2⟩
  · exact (keptP_sub w ord hord f kvs).2 hok.1
  · -- sorted by key, and the encodings are ordered like the keys
    have hraw : (kvs.map fun kv => kv.1).Nodup :=
      List.Pairwise.of_map (S := (· ≠ ·)) sanitize (fun _ _ h e => h (congrArg sanitize e))
        (by rw [List.map_map]; exact hok.1)
    have hasc := sortKvs_ascending (ord kvs) (((hord kvs).map _).nodup_iff.mpr hraw)
    have hasc2 : (keptP w ord f kvs).Pairwise (fun a b => bytesLt a.1 b.1 = true) := List.Pairwise.sublist hsub hasc
    rw [List.pairwise_map]
    have hall : ∀ a ∈ keptP w ord f kvs, ∀ b ∈ keptP w ord f kvs, bytesLt a.1 b.1 = true →
        bytesLt (jsonString a.1 (!w.o.htmlUnsafe)) (jsonString b.1 (!w.o.htmlUnsafe)) = true := by
      intro a ha b hb hlt
      simp only [keysEncOrdered] at hordk
      exact hordk a ((hmemk a).mp ha).1 b ((hmemk b).mp hb).1 ((hmemk a).mp ha).2 ((hmemk b).mp hb).2 hlt
    exact List.Pairwise.imp_of_mem (fun {a b} ha hb h => hall a ha b hb h) hasc2
  · have hmk : ∀ y k, k ∈ (build w.o ord (f + 1) y).mkeys ↔ k ∈ rowKeys (dropOf w.o) (encOf w.o) y :=
      fun y _ => (mkeys_perm w ord hord f hf y).mem_iff
    rcases hcomp _ hy with hnone | ⟨k, hk, hmax⟩
    · left
      have := (hnone ▸ mkeys_perm w ord hord f hf (.obj kvs)).eq_nil
      rw [mkeys_row] at this
      exact List.map_eq_nil_iff.mp this
    · right
      rw [← hmk, mkeys_row] at hk
      obtain ⟨kv0, hkv0, hek⟩ := List.mem_map.mp hk
      obtain ⟨col, hcol, hcolk⟩ := hcov kv0 hkv0
      refine lastPres_of_max _ _ kv0 hkv0 col hcolk c.cols hsorted hcol fun c0 hc0 => ?_
      -- the key of any column is shown by some row
      obtain ⟨x, hx, kl, hkl, hkey0⟩ := (hkeys _).mp (List.mem_map_of_mem hc0)
      obtain ⟨y', hy', rfl⟩ := List.mem_map.mp hx
      rw [hcolk, show c0.key.string = kl by rw [hkey0]; rfl]
      have := hmax y' hy' kl ((hmk y' kl).mp hkl)
      rwa [← hek] at this

theorem arrTable_facts (w : PW) (ord : Kvs → Kvs) (f : Nat) (xs : List JV) (c : Table) (hfu : f ≤ w.fuel)
    (hao : arrOnlyL xs) (hc : c = foldUpd w.fuel (xs.map (build w.o ord f)) (.mk (.idx 0) 0 [] 0)) :
    TableA c ∧ ∀ y ∈ xs, Cov (build w.o ord f y) c := by
  have hrows : ∀ r ∈ xs.map (build w.o ord f), AOnly w.fuel r := by
    intro r hr
    obtain ⟨y, hy, rfl⟩ := List.mem_map.mp hr
    exact AOnly_mono f w.fuel _ hfu (AOnly_build w.o ord f y (arrOnlyL_mem xs hao y hy))
  obtain ⟨k1, k2, _⟩ := foldUpd_arr w.fuel (xs.map (build w.o ord f)) (.mk (.idx 0) 0 [] 0) hrows (TableA_fresh 0)
  rw [← hc] at k1 k2
  exact ⟨k1, fun y hy => k2 _ (List.mem_map_of_mem hy)⟩

/-- when `fill` aligns the rows of an array of a tree whose tables are tables of arrays: the rows are
arrays without objects, the table satisfies the invariant, covers every row and fits the width -/
theorem tableOfV_facts (w : PW) (ord : Kvs → Kvs) (f : Nat) (xs : List JV) (d : Nat) (c : Table)
    (hfu : f ≤ w.fuel) (hnt : tablesArr (.arr xs)) (h : tableOfV w ord f xs d = some c) :
    xs.all isArr = true ∧ arrOnlyL xs ∧ TableA c ∧ (∀ y ∈ xs, Cov (build w.o ord f y) c) ∧
      d * w.indent + c.size ≤ w.width := by
  obtain ⟨_, hlen, hfit, hc, hkind⟩ := tableOfV_kind w ord f xs d c h
  simp only [tablesArr] at hnt
  obtain ⟨hno, harr⟩ := hnt.1 hlen
  have hia : xs.all isArr = true := hkind.resolve_right fun ho => by rw [ho.1] at hno; cases hno
  obtain ⟨hta, hcov⟩ := arrTable_facts w ord f xs c hfu (harr hia) hc
  exact ⟨hia, harr hia, hta, hcov, hfit⟩

theorem tablesAO_arr_mem {drop : JV → Bool} {enc : Bytes → Bytes} {xs : List JV} (h : tablesAO drop enc (.arr xs)) :
    ∀ y ∈ xs, tablesAO drop enc y := by
  simp only [tablesAO] at h
  exact all_of_cons (fun _ _ h => h) xs h.2

theorem tablesAO_obj_mem {drop : JV → Bool} {enc : Bytes → Bytes} {kvs : Kvs} (h : tablesAO drop enc (.obj kvs)) :
    ∀ kv ∈ kvs, tablesAO drop enc kv.2 := by
  simp only [tablesAO] at h
  exact all_of_cons (P := fun kv : Bytes × JV => tablesAO drop enc kv.2) (fun (_, _) _ h => h) kvs h

theorem normG_obj (w : PW) (ord : Kvs → Kvs) (f : Nat) (kvs : Kvs) (hf : 0 < f) :
    normG (omits (ojOptsOf w.o)) true ord (f + 1) (.obj kvs) =
      .obj ((keptP w ord f kvs).map fun kv => (sanitize kv.1, normG (omits (ojOptsOf w.o)) true ord f kv.2)) := by
  simp only [normG, normMembers_eq, order, ↓reduceIte, keptP_eq w ord f kvs hf]

/- `xs` are the rows of an array node built with fuel `f + 1`, so every row is built with fuel `f`. `upd` and
`alignNode` do nothing at fuel 0 and go down one level per unit of fuel: a row of arrays, nested less than `f`
deep, needs fuel `f`, a row of flat objects fuel 1. Of `w.fuel` (`depth v + 2`, `pwOf_fuel`) only
`f + 1 ≤ w.fuel` is used. -/
section Rows
variable (w : PW) (ord : Kvs → Kvs) (hord : IsOrder ord) (f : Nat) (xs : List JV) (d : Nat) (c : Table)
  (htab : tableOfV w ord f xs d = some c) (hnt : tablesAO (dropOf w.o) (encOf w.o) (.arr xs)) (hfu : f + 1 ≤ w.fuel)
include hord htab hnt hfu

/-- no padding of a row is out of range: the table fits the width, and `encode` has clamped the width
to `len(spaces) - 1 = 128` (`pwOf_width`) -/
theorem rows_ok (hw : w.width ≤ 128) : ∀ m ∈ xs.map (build w.o ord f), nodeOK w.fuel m c := by
  obtain ⟨hal, hlen, hfit, hc, hkind⟩ := tableOfV_kind w ord f xs d c htab
  simp only [tablesAO] at hnt
  obtain ⟨harr, hobj⟩ := hnt.1 hlen
  rcases hkind with hk | ⟨hk, hf0⟩
  · obtain ⟨hta, _⟩ := arrTable_facts w ord f xs c (by omega) (harr hk) hc
    intro m hm
    simp only [List.mem_map] at hm
    obtain ⟨y, hy, rfl⟩ := hm
    exact nodeOK_of_TableA w.fuel f _ c (AOnly_build w.o ord f y (arrOnlyL_mem _ (harr hk) y hy)) hta (by omega)
  · obtain ⟨f', rfl⟩ := Nat.exists_eq_add_one.mpr hf0
    obtain ⟨fu, hfue⟩ := Nat.exists_eq_add_one.mpr (Nat.zero_lt_of_lt hfu)
    obtain ⟨hrows, hgood, _⟩ := mapTable_facts w ord hord f' xs c (by omega) (List.ne_nil_of_length_pos (by omega)) hk (fun y hy => ((hobj hk).1 y hy).1) hc
    intro m hm
    rw [hfue]
    exact nodeOK_flat fu m c (hrows m hm) hgood (by omega)

theorem parse_row (hs : TableSafe Gen.Root.jMap) (hsp : SepWs) (hok : okList xs) (hd : depthList xs < f) (y : JV)
    (hy : y ∈ xs) :
    JText (nodeT w.fuel (build w.o ord f y) c) (normG (omits (ojOptsOf w.o)) true ord f y) := by
  obtain ⟨hal, hlen, hfit, hc, hkind⟩ := tableOfV_kind w ord f xs d c htab
  simp only [tablesAO] at hnt
  obtain ⟨harr, hobj⟩ := hnt.1 hlen
  obtain ⟨fu, hfue⟩ := Nat.exists_eq_add_one.mpr (Nat.zero_lt_of_lt hfu)
  have hoky := okW_mem_list _ hok y hy
  have hdy : depth y < f := by have := depth_mem_list xs y hy; omega
  obtain ⟨f, rfl⟩ := Nat.exists_eq_add_one.mpr (Nat.zero_lt_of_lt hdy)
  rcases hkind with hia | ⟨hio, -⟩
  · have hao := harr hia
    obtain ⟨hta, hcov⟩ := arrTable_facts w ord (f + 1) xs c (by omega) hao hc
    exact nodeT_reads hs hsp w ord (f + 1) _ c w.fuel hoky (arrOnlyL_mem _ hao _ hy) (List.all_eq_true.mp hia y hy) hdy
      (hcov _ hy) (by omega)
  · obtain ⟨hfo, hcomp⟩ := hobj hio
    obtain ⟨_, hgood, hkeys⟩ := mapTable_facts w ord hord f xs c (by omega) (List.ne_nil_of_length_pos (by omega)) hio (fun y hy => (hfo y hy).1) hc
    obtain ⟨kvs, rfl⟩ : ∃ kvs, y = .obj kvs := by
      have : isObj y = true := List.all_eq_true.mp hio y hy
      cases y with
      | obj kvs => exact ⟨kvs, rfl⟩
      | _ => simp [isObj] at this
    simp only [depth] at hdy
    obtain ⟨f, rfl⟩ := Nat.exists_eq_add_one.mpr (Nat.zero_lt_of_lt (Nat.lt_of_succ_lt_succ hdy))
    obtain ⟨sz, dp, sk, hby⟩ := build_obj_row w ord (f + 1) kvs
    obtain ⟨q1, q2, q3, q4, q5⟩ := flatRow_facts w ord hord (f + 1) xs c (by omega) hgood.1 hkeys hcomp
      kvs hy hoky (hfo _ hy).2 (hfo _ hy).1
    rw [hby, hfue, normG_obj w ord (f + 1) kvs (by omega)]
    exact parse_flatRow hs hsp (!w.o.htmlUnsafe) w.o ord f (omits (ojOptsOf w.o)) true
      (keptP w ord (f + 1) kvs) c fu sz dp sk q1 q2 hgood.1 q3 q4 q5

end Rows

/-- an array in the layout `l` (`cs`, `is`, `flat`): between the brackets the rows of its table, each as
`alignArray`/`alignMap` write it, if `fill` uses one, or else its members `tv` -/
def arrP (w : PW) (ord : Kvs → Kvs) (f : Nat) (xs : List JV) (d : Nat) (l : Bytes × Bytes × Bool)
    (tv : JV → Bool → Bytes) : Bytes :=
  match tableOfV w ord f xs d with
  | some c => arrText (spaced l.1 l.1 (xs.map fun y => nodeT w.fuel (build w.o ord f y) c)) l.2.1
  | none => arrText (spaced (if l.2.2 then [] else l.1) l.1 (xs.map fun y => tv y l.2.2)) l.2.1

/-- an object in the layout `l`: the members that are written, values `tv` at the common column -/
def objP (w : PW) (ord : Kvs → Kvs) (f : Nat) (kvs : Kvs) (l : Bytes × Bytes × Bool) (tv : JV → Bool → Bytes) : Bytes :=
  objText (spaced (if l.2.2 then [] else l.1) l.1 ((keptP w ord f kvs).map fun kv =>
    memberP (!w.o.htmlUnsafe) (kwOf w ord f kvs) kv.1 (tv kv.2 l.2.2))) l.2.1

/-- the text `fill` writes: scalars as `build` encoded them, containers in the layout `lay` chooses -/
def ptext (w : PW) (ord : Kvs → Kvs) : Nat → JV → Nat → Bool → Bytes
  | 0, _, _, _ => []
  | f+1, v, d, flat =>
    match v with
    | .arr xs => arrP w ord f xs d (lay w ord (f + 1) (.arr xs) d flat) fun y fl => ptext w ord f y (d + 1) fl
    | .obj kvs => objP w ord f kvs (lay w ord (f + 1) (.obj kvs) d flat) fun y fl => ptext w ord f y (d + 1) fl
    | _ => scalarText (!w.o.htmlUnsafe) v

theorem ptext_arr (w : PW) (ord : Kvs → Kvs) (f : Nat) (xs : List JV) (d : Nat) (flat : Bool) :
    ptext w ord (f + 1) (.arr xs) d flat =
      arrP w ord f xs d (lay w ord (f + 1) (.arr xs) d flat) fun y fl => ptext w ord f y (d + 1) fl := rfl

theorem ptext_obj (w : PW) (ord : Kvs → Kvs) (f : Nat) (kvs : Kvs) (d : Nat) (flat : Bool) :
    ptext w ord (f + 1) (.obj kvs) d flat =
      objP w ord f kvs (lay w ord (f + 1) (.obj kvs) d flat) fun y fl => ptext w ord f y (d + 1) fl := rfl

theorem Writes.sep (lim : Option Nat) (s : PSt) (cs : Bytes) (flat : Bool) (i : Nat) :
    Writes lim s (if 0 < i then (s.push1 44).push cs else if !flat then s.push cs else s)
      (if 0 < i then 44 :: cs else if flat then [] else cs) :=
  Writes.ite ((Writes.push1 lim s 44).trans (Writes.push lim _ cs))
    (by cases flat; exact Writes.push lim s cs; exact Writes.refl lim s)

theorem fillElems_writes (lim : Option Nat) (fv : PNode → Nat → Bool → PSt → PSt) (bv : JV → PNode) (tv : JV → Bytes)
    (cs : Bytes) (flat : Bool) (d2 : Nat) :
    ∀ (ys : List JV) (i : Nat) (s : PSt), (∀ y ∈ ys, ∀ s, Writes lim s (fv (bv y) d2 flat s) (tv y)) →
      Writes lim s (fillElems fv cs flat d2 (ys.map bv) i s) (cellsFrom (if flat then [] else cs) cs i (ys.map tv)) := by
  intro ys
  induction ys with
  | nil => intro i s _; exact Writes.refl lim s
  | cons y r ih =>
    intro i s h
    simp only [List.map_cons, fillElems, cellsFrom]
    exact ((Writes.sep lim s cs flat i).trans (h y (by simp) _)).trans (ih (i + 1) _ fun z hz => h z (by simp [hz]))

theorem fillMembers_writes (lim : Option Nat) (fv : PNode → Nat → Bool → PSt → PSt) (bv : JV → PNode) (tv : JV → Bytes)
    (html : Bool) (cs : Bytes) (flat : Bool) (d2 kw : Nat) :
    ∀ (r : Kvs) (i : Nat) (s : PSt), (∀ kv ∈ r, ∀ s, Writes lim s (fv (bv kv.2) d2 flat s) (tv kv.2)) →
      Writes lim s (fillMembers fv cs flat d2 kw (r.map fun kv => (jsonString kv.1 html, bv kv.2)) i s)
        (cellsFrom (if flat then [] else cs) cs i (r.map fun kv => memberP html kw kv.1 (tv kv.2))) := by
  intro r
  induction r with
  | nil => intro i s _; exact Writes.refl lim s
  | cons kv r ih =>
    intro i s h
    simp only [List.map_cons, fillMembers, cellsFrom]
    exact (((((((Writes.sep lim s cs flat i).trans (Writes.push lim _ _)).trans (Writes.push1 lim _ 58)).trans
      (Writes.push1 lim _ 32)).trans (Writes.pad lim _ _)).trans (h kv (by simp) _)).trans
      (ih (i + 1) _ fun z hz => h z (by simp [hz]))).of_eq (by simp [memberP, memberT])

theorem fill_build_arr (w : PW) (lim : Option Nat) (ord : Kvs → Kvs) (f : Nat) (xs : List JV) (d : Nat) (flat : Bool)
    (s : PSt) :
    fill w lim (f + 1) (build w.o ord (f + 1) (.arr xs)) d flat s =
      PSt.flush lim
        (((match tableOfV w ord f xs d with
            | none => fillElems (fill w lim f) (lay w ord (f + 1) (.arr xs) d flat).1
                (lay w ord (f + 1) (.arr xs) d flat).2.2 (d + 1) (xs.map (build w.o ord f)) 0 (s.push1 91)
            | some c => alignRows w.fuel c (lay w ord (f + 1) (.arr xs) d flat).1 (xs.map (build w.o ord f)) 0
                (s.push1 91)).push
          (lay w ord (f + 1) (.arr xs) d flat).2.1).push1 93) := by
  simp only [lay, tableOfV, build_arr, fill, tableOf, PNode.size, PNode.depth]
  cases (if (!w.o.align || decide (w.o.maxDepth < arrDepth (xs.map (build w.o ord f)) 0) ||
      decide ((xs.map (build w.o ord f)).length < 2)) = true then none
      else genTables w.fuel (.arr (xs.map (build w.o ord f)) (arrSize (xs.map (build w.o ord f)) 0 2)
        (arrDepth (xs.map (build w.o ord f)) 0) (w.o.omitEmpty && xs.length = 0))) with
  | none => rfl
  | some c => simp only; split <;> rfl

theorem fill_build_obj (w : PW) (lim : Option Nat) (ord : Kvs → Kvs) (f : Nat) (kvs : Kvs) (d : Nat) (flat : Bool)
    (s : PSt) :
    fill w lim (f + 1) (build w.o ord (f + 1) (.obj kvs)) d flat s =
      PSt.flush lim
        (((fillMembers (fill w lim f) (lay w ord (f + 1) (.obj kvs) d flat).1 (lay w ord (f + 1) (.obj kvs) d flat).2.2
            (d + 1) (kwOf w ord f kvs)
            ((keptP w ord f kvs).map fun kv => (jsonString kv.1 (!w.o.htmlUnsafe), build w.o ord f kv.2)) 0
            (s.push1 123)).push
          (lay w ord (f + 1) (.obj kvs) d flat).2.1).push1 125) := by
  obtain ⟨sz, dp, sk, hb⟩ := build_obj_row w ord f kvs
  simp only [lay, hb, fill, PNode.size, PNode.depth, kwOf, rowMs, encOf]

/-- under the condition on the tables everything `fill` does amounts to writing `ptext`; no slice is
ever out of range -/
theorem fill_writes (w : PW) (lim : Option Nat) (ord : Kvs → Kvs) (hord : IsOrder ord) (hw : w.width ≤ 128) :
    ∀ (f : Nat) (v : JV) (d : Nat) (flat : Bool) (s : PSt), (w.o.align = true → tablesAO (dropOf w.o) (encOf w.o) v) → f ≤ w.fuel →
      Writes lim s (fill w lim f (build w.o ord f v) d flat s) (ptext w ord f v d flat) := by
  intro f
  induction f with
  | zero => intro v d flat s _ _; exact Writes.refl lim s
  | succ f ih =>
    intro v d flat s hnt hfu
    have leaf : ∀ (k : UInt8) (buf : Bytes) (sk : Bool),
        Writes lim s (fill w lim (f + 1) (.leaf k buf sk) d flat s) buf :=
      fun k buf sk => ((Writes.push lim s buf).trans (Writes.flush lim _)).of_eq (by simp)
    cases v with
    | arr xs =>
      rw [fill_build_arr]
      rw [ptext_arr, arrP]
      cases htab : tableOfV w ord f xs d with
      | none =>
        exact (((((Writes.push1 lim s 91).trans (fillElems_writes lim _ _
          (fun y => ptext w ord f y (d + 1) (lay w ord (f + 1) (.arr xs) d flat).2.2) _ _ _ xs 0 _
          fun y hy s => ih y (d + 1) _ s (fun hal => tablesAO_arr_mem (hnt hal) y hy) (by omega))).trans
          (Writes.push lim _ _)).trans (Writes.push1 lim _ 93)).trans (Writes.flush lim _)).of_eq
          (by simp [arrText, cellsFrom_zero])
      | some c =>
        have hal := (tableOfV_kind w ord f xs d c htab).1
        exact (((((Writes.push1 lim s 91).trans (alignRows_flat lim w.fuel c _ _ 0 _
          (rows_ok w ord hord f xs d c htab (hnt hal) hfu hw))).trans
          (Writes.push lim _ _)).trans (Writes.push1 lim _ 93)).trans (Writes.flush lim _)).of_eq
          (by simp [arrText, cellsFrom_zero, Function.comp_def])
    | obj kvs =>
      rw [fill_build_obj]
      rw [ptext_obj, objP]
      exact (((((Writes.push1 lim s 123).trans (fillMembers_writes lim _ _
        (fun y => ptext w ord f y (d + 1) (lay w ord (f + 1) (.obj kvs) d flat).2.2) _ _ _ _ _ (keptP w ord f kvs) 0 _
        fun kv hkv s => ih kv.2 (d + 1) _ s (fun hal => tablesAO_obj_mem (hnt hal) kv
          ((keptP_sub w ord hord f kvs).1 kv hkv)) (by omega))).trans
        (Writes.push lim _ _)).trans (Writes.push1 lim _ 125)).trans (Writes.flush lim _)).of_eq
        (by simp [objText, cellsFrom_zero])
    | bool b => cases b <;> exact leaf _ _ _
    | _ => exact leaf _ _ _

theorem layoutOf_ws (hsp : SepWs) (w : PW) (d : Nat) (flat : Bool) :
    ((layoutOf w d flat).1.all Spec.isWs) = true ∧ ((layoutOf w d flat).2.1.all Spec.isWs) = true := by
  unfold layoutOf
  split
  · exact ⟨hsp.flat, rfl⟩
  · split
    · exact ⟨hsp.deep, rfl⟩
    · exact ⟨all_take_drop _ _ hsp.spaces _ _, all_take_drop _ _ hsp.spaces _ _⟩

theorem lay_ws (hsp : SepWs) (w : PW) (ord : Kvs → Kvs) (f : Nat) (v : JV)
    (d : Nat) (flat : Bool) :
    ((lay w ord f v d flat).1.all Spec.isWs) = true ∧ ((lay w ord f v d flat).2.1.all Spec.isWs) = true :=
  layoutOf_ws hsp w d _

/-- `ptext` is a JSON text of the tree minus the members the options name, members in ascending key order:
every element, row and member is a cell -/
theorem parse_ptext (hs : TableSafe Gen.Root.jMap) (hsp : SepWs)
    (w : PW) (ord : Kvs → Kvs) (hord : IsOrder ord) :
    ∀ (f : Nat) (v : JV) (d : Nat) (flat : Bool), okW v →
      (w.o.align = true → tablesAO (dropOf w.o) (encOf w.o) v) → f ≤ w.fuel → depth v < f →
      JText (ptext w ord f v d flat) (normG (omits (ojOptsOf w.o)) true ord f v) := by
  intro f
  induction f with
  | zero => intro v d flat _ _ _ h; omega
  | succ f ih =>
    intro v d flat hok hnt hfu hf
    cases v with
    | arr xs =>
      simp only [okW] at hok
      simp only [depth] at hf
      have hlw := lay_ws hsp w ord (f + 1) (.arr xs) d flat
      rw [ptext_arr, arrP]
      generalize lay w ord (f + 1) (.arr xs) d flat = l at hlw ⊢
      simp only [normG]
      cases htab : tableOfV w ord f xs d with
      | some c =>
        exact JText.arr hlw.2 (Each.spaced CellOf.ws_left hlw.1 hlw.1 (Each.map _ _ xs fun y hy =>
          CellOf.tok (parse_row w ord hord f xs d c htab (hnt (tableOfV_kind w ord f xs d c htab).1) hfu hs hsp hok
            (by omega) y hy)))
      | none =>
        exact JText.arr hlw.2 (Each.spaced CellOf.ws_left (by split; rfl; exact hlw.1) hlw.1
          (Each.map _ _ xs fun y hy => CellOf.tok (ih y (d + 1) _ (okW_mem_list _ hok y hy)
            (fun hal => tablesAO_arr_mem (hnt hal) y hy) (by omega) (by have := depth_mem_list xs y hy; omega))))
    | obj kvs =>
      simp only [okW] at hok
      simp only [depth] at hf
      obtain ⟨hin, hnd⟩ := keptP_sub w ord hord f kvs
      have hlw := lay_ws hsp w ord (f + 1) (.obj kvs) d flat
      rw [normG_obj w ord f kvs (by omega), ptext_obj, objP]
      generalize lay w ord (f + 1) (.obj kvs) d flat = l at hlw ⊢
      exact JText.obj hs hlw.2 (Each.spaced MemberOf.ws_left (by split; rfl; exact hlw.1) hlw.1
        (Each.map _ _ (keptP w ord f kvs) fun kv hkv => ⟨[], kv.1, _, rfl, rfl, rfl,
          (CellOf.tok (ih kv.2 (d + 1) _ (okW_mem_kvs _ hok.2 kv (hin kv hkv))
            (fun hal => tablesAO_obj_mem (hnt hal) kv (hin kv hkv)) (by omega)
            (by have := depth_mem_kvs kvs kv (hin kv hkv); omega))).ws_left _ _ _ (by
              simp only [List.all_cons, List.all_eq_true, List.mem_replicate, Bool.and_eq_true]
              exact ⟨by decide, fun x hx => by rw [hx.2]; decide⟩)⟩))
        (by rw [List.map_map]; exact hnd hok.1)
    | big t => exact hok.elim
    | num t => exact hok.elim
    | _ => exact JText.scalar hs (!w.o.htmlUnsafe) _ hok rfl rfl

theorem pwOf_o (o : POpts) (ord : Kvs → Kvs) (v : JV) : (pwOf o ord v).o = o := rfl

theorem pwOf_fuel (o : POpts) (ord : Kvs → Kvs) (v : JV) : (pwOf o ord v).fuel = depth v + 2 := rfl

/-- `encode` clamps `Width` to `len(spaces) - 1` -/
theorem pwOf_width (o : POpts) (ord : Kvs → Kvs) (v : JV) : (pwOf o ord v).width ≤ 128 := by
  have h := spaces_size
  simp only [pwOf, h]
  split <;> omega

/-- under the condition on the tables `encode` writes `ptext`, with or without an `io.Writer` -/
theorem encodeSt_out (o : POpts) (ord : Kvs → Kvs) (hord : IsOrder ord) (lim : Option Nat) (v : JV)
    (hnt : o.align = true → tablesAO (dropOf o) (encOf o) v) :
    (encodeSt o ord lim v).bad = false ∧
      (encodeSt o ord lim v).st.out lim = ptext (pwOf o ord v) ord (depth v + 1) v 0 false := by
  obtain ⟨hb, hout⟩ := fill_writes (pwOf o ord v) lim ord hord (pwOf_width o ord v) (depth v + 1) v 0 false {} hnt
    (by rw [pwOf_fuel]; omega) rfl
  exact ⟨hb, by cases lim <;> exact hout⟩

/-- `pretty.JSON`: the text in memory -/
theorem prettyWrite_eq_ptext (o : POpts) (ord : Kvs → Kvs) (hord : IsOrder ord) (v : JV)
    (hnt : o.align = true → tablesAO (dropOf o) (encOf o) v) :
    prettyWrite o ord v = ptext (pwOf o ord v) ord (depth v + 1) v 0 false := by
  obtain ⟨hb, hout⟩ := encodeSt_out o ord hord none v hnt
  simp only [prettyWrite, hb, Bool.false_eq_true, ↓reduceIte]
  exact hout

/-- `pretty.WriteJSON`: the chunks handed to the `io.Writer`, joined, for every WriteLimit -/
theorem prettyWriteTo_flatten (o : POpts) (ord : Kvs → Kvs) (hord : IsOrder ord) (limit : Nat) (v : JV)
    (hnt : o.align = true → tablesAO (dropOf o) (encOf o) v) :
    (prettyWriteTo o ord limit v).flatten = ptext (pwOf o ord v) ord (depth v + 1) v 0 false := by
  obtain ⟨hb, hout⟩ := encodeSt_out o ord hord (some (effLimit limit)) v hnt
  simp only [prettyWriteTo, hb, Bool.false_eq_true, ↓reduceIte, chunks_flatten]
  exact hout

theorem noTable_mem_list : ∀ (xs : List JV), noTableList xs → ∀ x ∈ xs, noTable x := all_of_cons fun _ _ h => h

theorem noTable_mem_kvs : ∀ (kvs : Kvs), noTableKvs kvs → ∀ kv ∈ kvs, noTable kv.2 :=
  all_of_cons (P := fun kv : Bytes × JV => noTable kv.2) fun (_, _) _ h => h

/-- array by array: an array that is no table meets the condition on tables -/
theorem tablesArr_of_noTable : ∀ v : JV, noTable v → tablesArr v := by
  refine (Match.tree_induction (P := fun v => noTable v → tablesArr v) (PL := fun xs => noTableList xs → tablesArrL xs)
    (PK := fun kvs => noTableKvs kvs → tablesArrK kvs) ?_ ?_ ?_ (fun _ => trivial) (fun _ _ hx hr h => ⟨hx h.1, hr h.2⟩)
    (fun _ => trivial) (fun _ _ _ hx hr h => ⟨hx h.1, hr h.2⟩)).1
  · intro v hl _; cases v <;> simp [tablesArr, Match.isLeafJV] at hl ⊢
  · intro xs ih hv
    simp only [noTable] at hv
    simp only [tablesArr]
    refine ⟨fun h2 => ?_, ih hv.2⟩
    have h := hv.1.resolve_left (by omega)
    exact ⟨Bool.eq_false_iff.mpr fun ho => h (Or.inr ho), fun ha => absurd (Or.inl ha) h⟩
  · intro kvs ih hv
    simp only [noTable] at hv
    simp only [tablesArr]
    exact ih hv

theorem tablesArr_mem_list : ∀ (xs : List JV), tablesArrL xs → ∀ x ∈ xs, tablesArr x := all_of_cons fun _ _ h => h

theorem tablesArr_mem_kvs : ∀ (kvs : Kvs), tablesArrK kvs → ∀ kv ∈ kvs, tablesArr kv.2 :=
  all_of_cons (P := fun kv : Bytes × JV => tablesArr kv.2) fun (_, _) _ h => h

/-- array by array: a table of arrays is not a table of objects, so nothing is asked of its rows as objects -/
theorem tablesAO_of_tablesArr (drop : JV → Bool) (enc : Bytes → Bytes) : ∀ v : JV, tablesArr v → tablesAO drop enc v := by
  refine (Match.tree_induction (P := fun v => tablesArr v → tablesAO drop enc v)
    (PL := fun xs => tablesArrL xs → tablesAOL drop enc xs) (PK := fun kvs => tablesArrK kvs → tablesAOK drop enc kvs)
    ?_ ?_ ?_ (fun _ => trivial) (fun _ _ hx hr h => ⟨hx h.1, hr h.2⟩)
    (fun _ => trivial) (fun _ _ _ hx hr h => ⟨hx h.1, hr h.2⟩)).1
  · intro v hl _; cases v <;> simp [tablesAO, Match.isLeafJV] at hl ⊢
  · intro xs ih hv
    simp only [tablesArr] at hv
    simp only [tablesAO]
    refine ⟨fun h2 => ?_, ih hv.2⟩
    obtain ⟨hno, harr⟩ := hv.1 h2
    exact ⟨harr, fun ho => by rw [ho] at hno; cases hno⟩
  · intro kvs ih hv
    simp only [tablesArr] at hv
    simp only [tablesAO]
    exact ih hv

end OjgVerif.Writer.Pretty
