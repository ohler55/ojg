import OjgVerif.Writer.StrEsc
/-! What the `switch` of `ojg.AppendJSONString` decides for one byte (`EscAct`), and `escLoop` in terms of
it: the index-level loop (`StrLoop.lean`) is compared with the model decision by decision, not cell by
cell of the class table. -/
namespace OjgVerif.Writer

inductive EscAct where
  /-- the byte stays in the verbatim run -/
  | copy
  /-- the run is flushed and `e` written for the byte -/
  | esc (e : Bytes)
  /-- the run is flushed and `e` written for the whole sequence that starts here -/
  | drop (e : Bytes)
  /-- the whole sequence that starts here stays in the run -/
  | pass

/-- the decision for byte `b`, given the rune `utf8.DecodeRuneInString(s[i:])` reports -/
def escAct (tbl : Array UInt8) (html : Bool) (b : UInt8) (rune : Nat) : EscAct :=
  if tbl.getD b.toNat 0 = 111 then .copy
  else if tbl.getD b.toNat 0 = 46 then .esc (u00 b)
  else if tbl.getD b.toNat 0 = 104 then if html then .esc (u00 b) else .copy
  else if tbl.getD b.toNat 0 = 56 then
    if rune = 0x2028 then .drop esc2028
    else if rune = 0x2029 then .drop esc2029
    else if rune = runeError then .drop escFFFD
    else .pass
  else .esc [92, tbl.getD b.toNat 0]

/-- what the per-byte model writes for a decision: `w` is the width `utf8.DecodeRuneInString` reports,
`k skip copy` the model on the rest of the input -/
def EscAct.model (b : UInt8) (w : Nat) (k : Nat → Bool → Bytes) : EscAct → Bytes
  | .copy => b :: k 0 true
  | .esc e => e ++ k 0 true
  | .drop e => e ++ k (w - 1) false
  | .pass => b :: k (w - 1) true

theorem escLoop_act (tbl : Array UInt8) (html c : Bool) (b : UInt8) (r : Bytes) :
    escLoop tbl html 0 c (b :: r) =
      (escAct tbl html b (utf8Decode (b :: r)).1).model b (utf8Decode (b :: r)).2 (escLoop tbl html · · r) := by
  -- `split` on these conditions is slow (it compares `UInt8` literals up to reduction): push `model`
  -- through the cascade of `escAct` instead; the two cascades then agree branch by branch
  simp only [escLoop, escAct, apply_ite (EscAct.model _ _ _)]
  rfl

theorem escLoop_succ (tbl : Array UInt8) (html c : Bool) (k : Nat) (b : UInt8) (r : Bytes) :
    escLoop tbl html (k + 1) c (b :: r) = (if c then [b] else []) ++ escLoop tbl html k c r := by
  cases c <;> rfl

theorem escLoop_copy_irrel (tbl : Array UInt8) (html : Bool) (k : Nat) (c c' : Bool) (r : Bytes)
    (h : k = 0 ∨ c = c') : escLoop tbl html k c r = escLoop tbl html k c' r := by
  rcases h with rfl | rfl
  · cases r <;> simp only [escLoop]
  · rfl

end OjgVerif.Writer
