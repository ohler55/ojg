import OjgVerif.Writer.LemmasAlign
/-! Lemmas about `pretty`'s alignment tables, for tables of FLAT OBJECTS (`alignMap`, `updateMapTable`; rows
are objects whose members are scalars): what `updateMapTable` builds (string-keyed columns, no key twice,
in ascending order of the encoded key, exactly the keys of the rows, a size that bounds every
padding), and the RFC 8259 reading of an aligned object row that has a member under the last column
(`lastPres`) and whose members are ordered like the columns. -/
namespace OjgVerif.Writer.Pretty
open OjgVerif.Json

/-- a map node all of whose members are leaves: what `build` makes of a `flatObj` (`flat_row`) -/
def FlatMap : PNode → Prop
  | .map ms _ _ _ => ∀ km ∈ ms, ∃ k buf sk, km.2 = .leaf k buf sk
  | _ => False

/-- the columns of a table that only saw map rows: string keys, no key twice -/
def MCols (cols : List Table) : Prop :=
  (∀ k ∈ cols.map Table.key, ∃ s, k = TKey.str s) ∧ (cols.map Table.key).Nodup

/-- columns in ascending order of their encoded keys, as the sort of `updateMapTable` leaves them -/
def MSorted (cols : List Table) : Prop := cols.Pairwise fun a b => bytesLt a.key.string b.key.string = true

theorem findLast_none (key : TKey) : ∀ (cols : List Table) (j : Nat) (found : Option Nat),
    findLast key cols j found = none ↔ found = none ∧ key ∉ cols.map Table.key := by
  intro cols
  induction cols with
  | nil => intro j found; simp [findLast]
  | cons c r ih =>
    intro j found
    by_cases h : c.key = key
    · simp [findLast, ih, h]
    · simp [findLast, ih, h, Ne.symm h]

theorem modifyAt_keys (f : Table → Table) (hf : ∀ c, (f c).key = c.key) : ∀ (cols : List Table) (j : Nat),
    (modifyAt f cols j).map Table.key = cols.map Table.key := by
  intro cols
  induction cols with
  | nil => intro j; rfl
  | cons c r ih => intro j; cases j <;> simp [modifyAt, hf, ih]

theorem updateCol_keys (u : PNode → Table → Table) (hu : ∀ m t, (u m t).key = t.key) (key : TKey) (m : PNode)
    (cols : List Table) :
    (updateCol u key m cols).map Table.key =
      if key ∈ cols.map Table.key then cols.map Table.key else cols.map Table.key ++ [key] := by
  unfold updateCol
  cases h : findLast key cols 0 none with
  | none =>
    rw [if_neg ((findLast_none key cols 0 none).mp h).2, List.map_append, List.map_cons, List.map_nil,
      applyMember_key u hu]
    rfl
  | some j =>
    have hmem : key ∈ cols.map Table.key := Classical.byContradiction fun hn => by
      rw [(findLast_none key cols 0 none).mpr ⟨rfl, hn⟩] at h; cases h
    rw [if_pos hmem, modifyAt_keys _ (applyMember_key u hu m)]

theorem updateCol_mcols (u : PNode → Table → Table) (hu : ∀ m t, (u m t).key = t.key) (k : Bytes) (m : PNode)
    (cols : List Table) (h : MCols cols) :
    MCols (updateCol u (.str k) m cols) ∧
      ∀ x, x ∈ (updateCol u (.str k) m cols).map Table.key ↔ (x ∈ cols.map Table.key ∨ x = .str k) := by
  unfold MCols
  rw [updateCol_keys u hu]
  by_cases hk : TKey.str k ∈ cols.map Table.key
  · simp only [hk, ↓reduceIte]
    exact ⟨h, fun x => ⟨Or.inl, fun hx => hx.elim id fun e => e ▸ hk⟩⟩
  · simp only [hk, ↓reduceIte, List.mem_append, List.mem_singleton]
    exact ⟨⟨fun x hx => hx.elim (h.1 x) fun e => ⟨k, e⟩,
      List.nodup_append.mpr ⟨h.2, by simp, fun a ha b hb e => hk (by rw [List.mem_singleton.mp hb] at e; exact e ▸ ha)⟩⟩,
      fun _ => trivial⟩

theorem updMapCols_mcols (u : PNode → Table → Table) (hu : ∀ m t, (u m t).key = t.key) :
    ∀ (ms : List (Bytes × PNode)) (cols : List Table), MCols cols →
    MCols (updMapCols u ms cols) ∧
      ∀ x, x ∈ (updMapCols u ms cols).map Table.key ↔ (x ∈ cols.map Table.key ∨ ∃ km ∈ ms, x = .str km.1) := by
  intro ms
  induction ms with
  | nil => intro cols h; exact ⟨h, fun x => by simp [updMapCols]⟩
  | cons km r ih =>
    intro cols h
    obtain ⟨h1, h2⟩ := updateCol_mcols u hu km.1 km.2 cols h
    obtain ⟨h3, h4⟩ := ih _ h1
    exact ⟨h3, fun x => by rw [updMapCols, h4, h2]; simp [or_assoc]⟩

/-- the order `updateMapTable` sorts the columns by -/
def ltS (a b : Table) : Bool := bytesLt a.key.string b.key.string

theorem insertBy_perm (lt : Table → Table → Bool) (x : Table) : ∀ l : List Table, (insertBy lt x l).Perm (x :: l) :=
  ins_perm lt (insertBy lt) (fun _ => rfl) (fun _ _ _ => rfl) x

theorem sortBy_perm (lt : Table → Table → Bool) : ∀ (l acc : List Table), (sortBy lt l acc).Perm (l ++ acc) := by
  intro l
  induction l with
  | nil => intro acc; exact List.Perm.refl _
  | cons c r ih =>
    intro acc
    simp only [sortBy]
    refine (ih _).trans ?_
    refine (List.Perm.append_left r (insertBy_perm lt c acc)).trans ?_
    simp only [List.cons_append]
    exact List.perm_middle

theorem insertBy_sorted (x : Table) : ∀ l : List Table, MSorted l → (∀ c ∈ l, c.key.string ≠ x.key.string) →
    MSorted (insertBy ltS x l) :=
  ins_sorted ltS (insertBy ltS) (fun _ => rfl) (fun _ _ _ => rfl) (fun c => c.key.string) (fun _ _ => rfl) x

theorem sortBy_sorted : ∀ (l acc : List Table), MSorted acc →
    ((l ++ acc).map fun c => c.key.string).Nodup → MSorted (sortBy ltS l acc) := by
  intro l
  induction l with
  | nil => intro acc h _; exact h
  | cons c r ih =>
    intro acc hs hnd
    simp only [sortBy]
    simp only [List.cons_append, List.map_cons, List.nodup_cons, List.map_append, List.mem_append, not_or] at hnd
    apply ih
    · apply insertBy_sorted c acc hs
      intro y hy e
      exact hnd.1.2 (by rw [← e]; exact List.mem_map_of_mem (f := fun c => c.key.string) hy)
    · have hp2 : ((r ++ insertBy ltS c acc).map fun c => c.key.string).Perm ((r ++ c :: acc).map fun c => c.key.string) :=
        (List.Perm.append_left r (insertBy_perm ltS c acc)).map _
      rw [hp2.nodup_iff]
      simp only [List.map_append, List.map_cons]
      apply List.nodup_append.mpr
      refine ⟨(List.nodup_append.mp hnd.2).1, ?_, ?_⟩
      · simp only [List.nodup_cons]
        exact ⟨hnd.1.2, (List.nodup_append.mp hnd.2).2.1⟩
      · intro a ha b hb
        simp only [List.mem_cons] at hb
        rcases hb with rfl | hb
        · intro e; exact hnd.1.1 (by rw [← e]; exact ha)
        · exact (List.nodup_append.mp hnd.2).2.2 a ha b hb

theorem MCols_strings (cols : List Table) (h : MCols cols) : (cols.map fun c => c.key.string).Nodup := by
  have hp : cols.Pairwise fun a b => a.key ≠ b.key := List.pairwise_map.mp h.2
  refine List.pairwise_map.mpr (hp.imp_of_mem fun {a b} ha hb hne e => hne ?_)
  obtain ⟨ka, hka⟩ := h.1 _ (List.mem_map_of_mem ha)
  obtain ⟨kb, hkb⟩ := h.1 _ (List.mem_map_of_mem hb)
  rw [hka, hkb] at e ⊢
  exact congrArg TKey.str e

/-- the encoded keys of a map node; for a built row these are `rowKeys` up to the order (`mkeys_perm`) -/
def PNode.mkeys : PNode → List Bytes
  | .map ms _ _ _ => ms.map fun km => km.1
  | _ => []

/-- what `updateMapTable` leaves besides `MCols`. The order is what makes the members under the columns the
members of the row in their own order (`presV_eq`); the size is the sum the Go code computes, so every column
with its key and separators fits in it (`sumSizesKeys_mem`), which under the clamp of the width to 128 keeps
the paddings in range (`nodeOK_flat`). -/
def MGood (t : Table) : Prop := MSorted t.cols ∧ t.size = sumSizesKeys t.cols + t.cols.length * 4

theorem upd_map (g : Nat) (ms : List (Bytes × PNode)) (sz dp : Nat) (sk : Bool) (t : Table) (ht : MCols t.cols) :
    MCols (upd (g + 1) (.map ms sz dp sk) t).cols ∧ MGood (upd (g + 1) (.map ms sz dp sk) t) ∧
      ∀ x, x ∈ (upd (g + 1) (.map ms sz dp sk) t).cols.map Table.key ↔
        (x ∈ t.cols.map Table.key ∨ ∃ k ∈ (PNode.map ms sz dp sk).mkeys, x = .str k) := by
  obtain ⟨h1, h2⟩ := updMapCols_mcols (upd g) (upd_key g) ms t.cols ht
  have hp := (sortBy_perm ltS (updMapCols (upd g) ms t.cols) []).map Table.key
  rw [List.append_nil] at hp
  have hc : (upd (g + 1) (.map ms sz dp sk) t).cols = sortBy ltS (updMapCols (upd g) ms t.cols) [] := rfl
  have hsz : (upd (g + 1) (.map ms sz dp sk) t).size = sumSizesKeys (sortBy ltS (updMapCols (upd g) ms t.cols) []) +
      (sortBy ltS (updMapCols (upd g) ms t.cols) []).length * 4 := rfl
  refine ⟨?_, ⟨?_, by rw [hsz, hc]⟩, fun x => ?_⟩
  · rw [hc]; exact ⟨fun k hk => h1.1 k (hp.mem_iff.mp hk), hp.nodup_iff.mpr h1.2⟩
  · rw [hc]; exact sortBy_sorted _ [] List.Pairwise.nil (by simpa using MCols_strings _ h1)
  · rw [hc, hp.mem_iff, h2]; simp [PNode.mkeys]

theorem foldUpd_map (g : Nat) : ∀ (rows : List PNode) (t : Table), (∀ r ∈ rows, FlatMap r) → MCols t.cols → MGood t →
    MCols (foldUpd (g + 1) rows t).cols ∧ MGood (foldUpd (g + 1) rows t) ∧
      ∀ x, x ∈ (foldUpd (g + 1) rows t).cols.map Table.key ↔
        (x ∈ t.cols.map Table.key ∨ ∃ r ∈ rows, ∃ k ∈ r.mkeys, x = .str k) := by
  intro rows
  induction rows with
  | nil => intro t _ h1 h2; exact ⟨h1, h2, fun x => by simp [foldUpd]⟩
  | cons r rs ih =>
    intro t hr h1 h2
    obtain ⟨ms, sz, dp, sk, rfl⟩ : ∃ ms sz dp sk, r = .map ms sz dp sk := by
      cases r with
      | map ms sz dp sk => exact ⟨_, _, _, _, rfl⟩
      | _ => have h := hr _ List.mem_cons_self; exact False.elim h
    obtain ⟨a1, a2, a3⟩ := upd_map g ms sz dp sk t h1
    obtain ⟨b1, b2, b3⟩ := ih _ (fun x hx => hr x (by simp [hx])) a1 a2
    exact ⟨b1, b2, fun x => by rw [foldUpd, b3, a3]; simp [or_assoc]⟩

theorem foldUpd_flat (g : Nat) (r : PNode) (rs : List PNode) (hr : ∀ x ∈ r :: rs, FlatMap x) :
    MCols (foldUpd (g + 1) (r :: rs) (.mk (.idx 0) 0 [] 0)).cols ∧ MGood (foldUpd (g + 1) (r :: rs) (.mk (.idx 0) 0 [] 0)) ∧
      ∀ key', key' ∈ (foldUpd (g + 1) (r :: rs) (.mk (.idx 0) 0 [] 0)).cols.map Table.key ↔
        ∃ x ∈ r :: rs, ∃ k ∈ x.mkeys, key' = .str k := by
  obtain ⟨h1, h2, h3⟩ := foldUpd_map g (r :: rs) (.mk (.idx 0) 0 [] 0) hr ⟨nofun, .nil⟩ ⟨.nil, rfl⟩
  exact ⟨h1, h2, fun k => (h3 k).trans (or_iff_right nofun)⟩

theorem sumSizesKeys_mem : ∀ (cols : List Table) (c : Table), c ∈ cols →
    c.size + c.key.string.length + 4 ≤ sumSizesKeys cols + cols.length * 4 := by
  intro cols
  induction cols with
  | nil => intro c hc; simp at hc
  | cons x r ih =>
    intro c hc
    simp only [List.mem_cons] at hc
    simp only [sumSizesKeys, List.length_cons]
    rcases hc with rfl | hc
    · omega
    · have := ih c hc; omega

theorem findMember_mem (k : Bytes) : ∀ (ms : List (Bytes × PNode)) (m : PNode), findMember k ms = some m → (k, m) ∈ ms := by
  intro ms
  induction ms with
  | nil => intro m h; simp [findMember] at h
  | cons km r ih =>
    intro m h
    obtain ⟨key, n⟩ := km
    simp only [findMember] at h
    by_cases hk : key = k
    · simp only [hk, ↓reduceIte, Option.some.injEq] at h; subst h; simp [hk]
    · simp only [hk, ↓reduceIte] at h; exact List.mem_cons_of_mem _ (ih m h)

theorem mapColsOK_flat (aaOK amOK : PNode → Table → Prop) (ms : List (Bytes × PNode)) (n : Nat)
    (hfl : ∀ km ∈ ms, ∃ k buf sk, km.2 = .leaf k buf sk) : ∀ (rem : List Table) (i : Nat),
    (∀ c ∈ rem, c.size + c.key.string.length + 4 ≤ 128) → mapColsOK aaOK amOK ms n rem i := by
  intro rem
  induction rem with
  | nil => intro i _; simp [mapColsOK]
  | cons col cr ih =>
    intro i h
    have hc := h col (by simp)
    simp only [mapColsOK]
    refine ⟨?_, ih (i + 1) (fun c hc => h c (by simp [hc]))⟩
    cases hfm : findMember col.key.string ms with
    | none => simp only [spaces_size]; split <;> omega
    | some m =>
      obtain ⟨k, buf, sk, hm⟩ := hfl _ (findMember_mem _ ms m hfm)
      simp only at hm
      subst hm
      simp only [cellOK, spaces_size]
      intro _; omega

/-- in a table of flat objects no padding is out of range once the table is at most 128 bytes wide: a
padding is `spaces[1:k]` with `k` at most the width plus one, and `len(spaces) = 129` -/
theorem nodeOK_flat (fu : Nat) (n : PNode) (t : Table) (hn : FlatMap n) (hg : MGood t) (hs : t.size ≤ 128) :
    nodeOK (fu + 1) n t := by
  cases n with
  | leaf k buf sk => simp [nodeOK]
  | arr ms sz dp sk => simp [FlatMap] at hn
  | map ms sz dp sk =>
    simp only [FlatMap] at hn
    simp only [nodeOK]
    apply mapColsOK_flat _ _ ms _ hn
    intro c hc
    have := sumSizesKeys_mem t.cols c hc
    have h2 := hg.2
    omega

/-- the member of a row that stands under the column with the encoded key `key`; `row` is the list of members
the row shows (`keptP …` where the lemmas are used) -/
def findKv (enc : Bytes → Bytes) (key : Bytes) (row : Kvs) : Option (Bytes × JV) :=
  row.find? fun kv => enc kv.1 = key

/-- the members of a row in the order of the columns -/
def presV (enc : Bytes → Bytes) (row : Kvs) (cols : List Table) : Kvs :=
  cols.filterMap fun col => findKv enc col.key.string row

theorem findMember_map (enc : Bytes → Bytes) (bv : JV → PNode) (key : Bytes) : ∀ row : Kvs,
    findMember key (row.map fun kv => (enc kv.1, bv kv.2)) = (findKv enc key row).map fun kv => bv kv.2 := by
  intro row
  induction row with
  | nil => rfl
  | cons kv r ih =>
    simp only [List.map_cons, findMember, findKv, List.find?_cons]
    by_cases h : enc kv.1 = key
    · simp [h]
    · simp only [h, ↓reduceIte, decide_false]; exact ih

theorem findKv_mem (enc : Bytes → Bytes) (key : Bytes) (row : Kvs) (kv : Bytes × JV)
    (h : findKv enc key row = some kv) : kv ∈ row ∧ enc kv.1 = key :=
  ⟨List.mem_of_find?_eq_some h, by simpa using List.find?_some h⟩

theorem findKv_isSome (enc : Bytes → Bytes) (key : Bytes) (row : Kvs) (h : ∃ kv ∈ row, enc kv.1 = key) :
    (findKv enc key row).isSome = true :=
  List.find?_isSome.mpr (by simpa using h)

/-- the last column, if there is one, has a member in the row -/
def lastPres (enc : Bytes → Bytes) (row : Kvs) : List Table → Prop
  | [] => True
  | c :: r =>
    match r with
    | [] => (findKv enc c.key.string row).isSome = true
    | _ :: _ => lastPres enc row r

theorem lastPres_tail (enc : Bytes → Bytes) (row : Kvs) (c : Table) (r : List Table) (h : lastPres enc row (c :: r)) :
    lastPres enc row r := by
  cases r with
  | nil => simp [lastPres]
  | cons d r' => simpa [lastPres] using h

section FlatRow
variable (enc : Bytes → Bytes) (bv : JV → PNode) (row : Kvs) (T : PNode → Table → Bytes) (n : Nat)

/-- the row as `alignMap` sees it -/
def rowMs : List (Bytes × PNode) := row.map fun kv => (enc kv.1, bv kv.2)

/-- the members of a row as `alignMap` writes them, each after the blanks `W` of the columns before it
that the row has no member in -/
def rowCells : List Table → Nat → Bytes → List Bytes
  | [], _, _ => []
  | col :: cr, i, W =>
    match findKv enc col.key.string row with
    | none => rowCells cr (i + 1) (W ++ blankT n col i)
    | some kv => (W ++ col.key.string ++ 58 :: 32 :: cellT T T (bv kv.2) col) :: rowCells cr (i + 1) [32]

variable {enc row}

theorem mapColsT_none {col : Table} (h : findKv enc col.key.string row = none) (cr : List Table) (i : Nat) (pe : Bool) :
    mapColsT T T (rowMs enc bv row) n (col :: cr) i pe =
      (if pe then [44, 32] else []) ++ (blankT n col i ++ mapColsT T T (rowMs enc bv row) n cr (i + 1) false) := by
  simp [mapColsT, rowMs, findMember_map, h]

theorem mapColsT_some {col : Table} {kv : Bytes × JV} (h : findKv enc col.key.string row = some kv) (cr : List Table)
    (i : Nat) (pe : Bool) :
    mapColsT T T (rowMs enc bv row) n (col :: cr) i pe =
      (if pe then [44, 32] else []) ++
        (col.key.string ++ 58 :: 32 :: cellT T T (bv kv.2) col ++ mapColsT T T (rowMs enc bv row) n cr (i + 1) true) := by
  simp [mapColsT, rowMs, findMember_map, h]

/-- in a row that has a member under the last column every run of blanks is followed by a member: after
a comma, the text from a column on is a list of members. Without that member the blanks of the last
columns would stand between a comma and the closing brace (C04-pretty-align-comma). -/
theorem mapColsT_cells : ∀ (cols : List Table) (i : Nat) (W : Bytes), cols ≠ [] → lastPres enc row cols →
    44 :: (W ++ mapColsT T T (rowMs enc bv row) n cols i false) = commaTail (rowCells enc bv row T n cols i W) := by
  intro cols
  induction cols with
  | nil => intro _ _ h; exact absurd rfl h
  | cons col cr ih =>
    intro i W _ hl
    cases hf : findKv enc col.key.string row with
    | none =>
      have hcr : cr ≠ [] := by rintro rfl; simp [lastPres, hf] at hl
      simpa [mapColsT_none bv T n hf, rowCells, hf] using ih (i + 1) (W ++ blankT n col i) hcr (lastPres_tail enc row col cr hl)
    | some kv =>
      have htail : mapColsT T T (rowMs enc bv row) n cr (i + 1) true = commaTail (rowCells enc bv row T n cr (i + 1) [32]) := by
        cases cr with
        | nil => rfl
        | cons d r =>
          have := ih (i + 1) [32] (by simp) (lastPres_tail enc row col _ hl)
          rw [← this]; simp [mapColsT]
      simp [mapColsT_some bv T n hf, rowCells, hf, commaTail, htail]

theorem mapColsT_blank (hsp : SepWs) : ∀ (cols : List Table) (i : Nat),
    ((mapColsT T T [] n cols i false).all Spec.isWs) = true := by
  intro cols
  induction cols with
  | nil => intro i; rfl
  | cons col cr ih =>
    intro i
    simp only [mapColsT, findMember, Bool.false_eq_true, ↓reduceIte, List.nil_append, List.all_append, ih, Bool.and_true]
    exact all_take_drop _ _ hsp.spaces _ _

theorem each_rowCells (hsp : SepWs) (html : Bool) (R : Bytes → JV → Prop) (nvv : JV → JV)
    (henc : ∀ kv ∈ row, enc kv.1 = jsonString kv.1 html)
    (hcell : ∀ kv ∈ row, ∀ col, CellOf R (cellT T T (bv kv.2) col) (nvv kv.2)) :
    ∀ (cols : List Table) (i : Nat) (W : Bytes), (W.all Spec.isWs) = true →
      Each (MemberOf R html) (rowCells enc bv row T n cols i W)
        ((presV enc row cols).map fun kv => (sanitize kv.1, nvv kv.2)) := by
  intro cols
  induction cols with
  | nil => intro i W _; exact .nil
  | cons col cr ih =>
    intro i W hW
    cases hf : findKv enc col.key.string row with
    | none =>
      simp only [rowCells, presV, List.filterMap_cons, hf]
      exact ih _ _ (by rw [List.all_append, hW]; exact all_take_drop _ _ hsp.spaces _ _)
    | some kv =>
      obtain ⟨hmem, hkey⟩ := findKv_mem enc _ row kv hf
      simp only [rowCells, presV, List.filterMap_cons, hf, List.map_cons]
      exact .cons ⟨W, kv.1, 32 :: cellT T T (bv kv.2) col, by rw [memberT, ← henc kv hmem, hkey], hW, rfl,
        (hcell kv hmem col).ws_left [32] _ _ rfl⟩ (ih (i + 1) [32] rfl)

end FlatRow

theorem findKv_self (enc : Bytes → Bytes) : ∀ (row : Kvs) (kv : Bytes × JV),
    row.Pairwise (fun a b => bytesLt (enc a.1) (enc b.1) = true) → kv ∈ row → findKv enc (enc kv.1) row = some kv := by
  intro row
  induction row with
  | nil => intro kv _ h; cases h
  | cons x r ih =>
    intro kv hp hkv
    rw [List.pairwise_cons] at hp
    rcases List.mem_cons.mp hkv with rfl | hr
    · simp [findKv]
    · have hne : enc x.1 ≠ enc kv.1 := bytesLt_ne _ _ (hp.1 kv hr)
      simp only [findKv, List.find?_cons, hne, decide_false]
      exact ih kv hp.2 hr

/-- columns and members in the same ascending order, every member under a column: walking the columns
finds the members in their own order. Both lists are strictly ascending in the encoded key and have
the same members. -/
theorem presV_eq (enc : Bytes → Bytes) (cols : List Table) (row : Kvs) (hs : MSorted cols)
    (hk : (row.map fun kv => enc kv.1).Pairwise (fun a b => bytesLt a b = true))
    (hcov : ∀ kv ∈ row, ∃ col ∈ cols, col.key.string = enc kv.1) : presV enc row cols = row := by
  have hk' : row.Pairwise fun a b => bytesLt (enc a.1) (enc b.1) = true := List.pairwise_map.mp hk
  have hp : (presV enc row cols).Pairwise fun a b => bytesLt (enc a.1) (enc b.1) = true :=
    List.Pairwise.filterMap _ (fun c c' hcc kv hkv kv' hkv' => by
      rw [(findKv_mem enc _ row kv hkv).2, (findKv_mem enc _ row kv' hkv').2]; exact hcc) hs
  have nd : ∀ {l : Kvs}, l.Pairwise (fun a b => bytesLt (enc a.1) (enc b.1) = true) → l.Nodup :=
    fun h => List.Pairwise.imp (S := (· ≠ ·)) (fun hlt e => bytesLt_ne _ _ hlt (e ▸ rfl)) h
  refine List.Perm.eq_of_pairwise (fun a b _ _ h₁ h₂ => (bytesLt_asymm _ _ h₁ h₂).elim) hp hk'
    ((List.perm_ext_iff_of_nodup (nd hp) (nd hk')).mpr fun kv => ?_)
  rw [presV, List.mem_filterMap]
  constructor
  · rintro ⟨col, _, hf⟩; exact (findKv_mem enc _ row kv hf).1
  · intro hkv
    obtain ⟨col, hc, e⟩ := hcov kv hkv
    exact ⟨col, hc, e ▸ findKv_self enc row kv hk' hkv⟩

/-- the aligned text of a flat object row is a JSON text of the row, when the row has a member under the
last column (or no member at all) and its encoded keys are ordered like the columns -/
theorem parse_flatRow (hs : TableSafe Gen.Root.jMap) (hsp : SepWs) (html : Bool) (o : POpts) (ord : Kvs → Kvs) (f : Nat)
    (drop : JV → Bool) (srt : Bool) (row : Kvs) (t : Table) (fu : Nat) (sz dp : Nat) (sk : Bool)
    (hsc : ∀ kv ∈ row, okW kv.2 ∧ isArr kv.2 = false ∧ isObj kv.2 = false)
    (hnd : (row.map fun kv => sanitize kv.1).Nodup)
    (hsorted : MSorted t.cols)
    (hasc : (row.map fun kv => jsonString kv.1 html).Pairwise (fun a b => bytesLt a b = true))
    (hcov : ∀ kv ∈ row, ∃ col ∈ t.cols, col.key.string = jsonString kv.1 html)
    (hlast : row = [] ∨ lastPres (fun k => jsonString k html) row t.cols) :
    JText (nodeT (fu + 1) (.map (rowMs (fun k => jsonString k html) (build o ord (f + 1)) row) sz dp sk) t)
      (.obj (row.map fun kv => (sanitize kv.1, normG drop srt ord (f + 1) kv.2))) := by
  simp only [nodeT]
  cases row with
  | nil =>
    exact (JText.obj hs (html := html) (members := []) (vals := [])
      (mapColsT_blank (nodeT fu) t.cols.length hsp t.cols 0) .nil List.nodup_nil).of_eq
      (by simp [rowMs, objText, commaJoin]) rfl
  | cons kv0 kr =>
    have hlp := hlast.resolve_left (by simp)
    have hne : t.cols ≠ [] := by
      obtain ⟨col, hc, _⟩ := hcov kv0 (by simp)
      exact List.ne_nil_of_mem hc
    have hcells := commaJoin_of_commaTail
      (mapColsT_cells (build o ord (f + 1)) (nodeT fu) t.cols.length t.cols 0 [] hne hlp)
    have heach := each_rowCells (enc := fun k => jsonString k html) (build o ord (f + 1)) (nodeT fu) t.cols.length hsp html
      JText (normG drop srt ord (f + 1)) (fun _ _ => rfl)
      (fun kv hkv col => cell_scalar hs hsp o drop srt ord f kv.2 col _ (hsc kv hkv).1 (hsc kv hkv).2.1 (hsc kv hkv).2.2)
      t.cols 0 [] rfl
    rw [presV_eq (fun k => jsonString k html) t.cols _ hsorted hasc hcov] at heach
    exact (JText.obj hs (cl := []) rfl heach (by rw [List.map_map]; exact hnd)).of_eq (by simp [objText, ← hcells]) rfl

end OjgVerif.Writer.Pretty
