import OjgVerif.Writer.LemmasCells
import OjgVerif.Writer.LemmasSort
/-! The text of the `oj` writers, in every well-formed layout, is a JSON text of the normalised tree
(`parse_text`), and with Sort it does not depend on the iteration order (`text_sort_indep`). -/
namespace OjgVerif.Writer
open OjgVerif.Json

/-- white space only where the layout puts bytes -/
structure Layout.WF (L : Layout) : Prop where
  cs : ∀ d, ((L.cs d).all Spec.isWs) = true
  cl : ∀ d, ((L.cl d).all Spec.isWs) = true
  sp : (L.sp.all Spec.isWs) = true

theorem tightL_wf : tightL.WF := ⟨fun _ => rfl, fun _ => rfl, rfl⟩

theorem indentL_wf (o : Opts) (hsp : (Gen.Oj.spaces.toList.all Spec.isWs) = true)
    (htb : (Gen.Oj.tabs.toList.all Spec.isWs) = true) : (indentL o).WF := by
  refine ⟨?_, ?_, rfl⟩
  · intro d
    simp only [indentL, indentCs, sliceOf]
    split
    · exact all_take_drop _ _ htb _ _
    · exact all_take_drop _ _ hsp _ _
  · intro d
    simp only [indentL, indentIs, sliceOf, List.all_cons]
    have : Spec.isWs 10 = true := by decide
    rw [this, Bool.true_and]
    split
    · exact all_take_drop _ _ htb _ _
    · exact all_take_drop _ _ hsp _ _

theorem skipMember_eq_omits (o : Opts) (v : JV) : skipMember o v = omits o v := by
  cases v with
  | str s => cases s <;> simp [skipMember, omits]
  | arr s => cases s <;> simp [skipMember, omits]
  | obj s => cases s <;> simp [skipMember, omits]
  | _ => simp [skipMember, omits]

theorem kept_eq_filter (o : Opts) (kvs : Kvs) : kept o kvs = kvs.filter fun kv => !omits o kv.2 := by
  simp only [kept, skipMember_eq_omits]

theorem order_perm (srt : Bool) (ord : Kvs → Kvs) (h : IsOrder ord) (kvs : Kvs) : (order srt ord kvs).Perm kvs := by
  unfold order
  split
  · exact (sortKvs_perm _).trans (h kvs)
  · exact h kvs

theorem kept_order_mem (o : Opts) (ord : Kvs → Kvs) (h : IsOrder ord) (kvs : Kvs) (kv : Bytes × JV)
    (hkv : kv ∈ kept o (order o.sort ord kvs)) : kv ∈ kvs :=
  (order_perm o.sort ord h kvs).mem_iff.mp (List.filter_sublist.subset hkv)

/-- the writer's text, in any well-formed layout, is a JSON text of `norm` of the tree: every element and
every member is a cell -/
theorem parse_text (hs : TableSafe Gen.Root.jMap) (o : Opts) (ord : Kvs → Kvs) (hord : IsOrder ord)
    (L : Layout) (hL : L.WF) :
    ∀ (f : Nat) (v : JV) (d : Nat), okW v → depth v < f →
      JText (text o ord L f v d) (normG (omits o) o.sort ord f v) := by
  intro f
  induction f with
  | zero => intro v d _ h; omega
  | succ f ih =>
    intro v d hok hf
    cases v with
    | arr xs =>
      simp only [okW] at hok
      simp only [depth] at hf
      exact JText.arr (by split; rfl; exact hL.cl d) (Each.map _ _ xs fun y hy => CellOf.ws_left _ _ _ (hL.cs d)
        (CellOf.tok (ih y _ (okW_mem_list _ hok y hy) (by have := depth_mem_list _ y hy; omega))))
    | obj kvs =>
      simp only [okW] at hok
      simp only [depth] at hf
      have hmem := kept_order_mem o ord hord kvs
      have hnd : ((kept o (order o.sort ord kvs)).map (fun kv => sanitize kv.1)).Nodup :=
        (List.filter_sublist.map _).nodup (((order_perm o.sort ord hord kvs).map _).nodup_iff.mpr hok.1)
      simp only [text, normG, normMembers_eq, ← kept_eq_filter]
      exact JText.obj hs (by split; rfl; exact hL.cl d) (Each.map _ _ _ fun kv hkv => ⟨L.cs d, kv.1, _, rfl, hL.cs d, rfl,
        CellOf.ws_left _ _ _ hL.sp (CellOf.tok (ih kv.2 _ (okW_mem_kvs _ hok.2 kv (hmem kv hkv))
          (by have := depth_mem_kvs _ kv (hmem kv hkv); omega)))⟩) (by rw [List.map_map]; exact hnd)
    | big t => exact hok.elim
    | num t => exact hok.elim
    | _ => exact JText.scalar hs (!o.htmlUnsafe) _ hok rfl rfl

theorem distinctKeys_mem_list : ∀ (xs : List JV), distinctKeysList xs → ∀ x ∈ xs, distinctKeys x :=
  all_of_cons fun _ _ h => h

theorem distinctKeys_mem_kvs : ∀ (kvs : Kvs), distinctKeysKvs kvs → ∀ kv ∈ kvs, distinctKeys kv.2 :=
  all_of_cons (P := fun kv : Bytes × JV => distinctKeys kv.2) fun _ _ h => h

/-- with Sort the text does not depend on the order the maps were iterated in -/
theorem text_sort_indep (o : Opts) (hsort : o.sort = true) (ord₁ ord₂ : Kvs → Kvs)
    (h₁ : IsOrder ord₁) (h₂ : IsOrder ord₂) (L : Layout) :
    ∀ (f : Nat) (v : JV) (d : Nat), distinctKeys v → text o ord₁ L f v d = text o ord₂ L f v d := by
  intro f
  induction f with
  | zero => intro v d _; rfl
  | succ f ih =>
    intro v d hv
    cases v with
    | arr xs =>
      simp only [distinctKeys] at hv
      simp only [text]
      rw [List.map_congr_left fun y hy => by rw [ih y _ (distinctKeys_mem_list _ hv y hy)]]
    | obj kvs =>
      simp only [distinctKeys] at hv
      have hnd₁ : ((ord₁ kvs).map fun kv => kv.1).Nodup := ((h₁ kvs).map _).nodup_iff.mpr hv.1
      have hs : order o.sort ord₁ kvs = order o.sort ord₂ kvs := by
        simp only [order, hsort, ↓reduceIte]
        exact sortKvs_perm_eq _ _ ((h₁ kvs).trans (h₂ kvs).symm) hnd₁
      have hmem := kept_order_mem o ord₂ h₂ kvs
      simp only [text, hs]
      rw [List.map_congr_left fun kv hkv => by rw [ih kv.2 _ (distinctKeys_mem_kvs _ hv.2 kv (hmem kv hkv))]]
    | _ => rfl

end OjgVerif.Writer
