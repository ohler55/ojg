import OjgVerif.Writer.Utf8
import OjgVerif.Json.Spec
/-! What `utf8Decode` answers, by the leader byte (`decode_cases`), with what the readers of the written strings need of
each width; a three-byte rune encodes to the bytes it was decoded from (`enc3`); the two nibbles of a byte (`nibbles`).
Nothing here mentions the escaping table: the jp string reader and the SEN parser use these facts as well. -/
namespace OjgVerif.Writer
open OjgVerif OjgVerif.Json

theorem u8_ne_toNat {a b : UInt8} (h : a ≠ b) : a.toNat ≠ b.toNat := fun e => h (UInt8.toNat_inj.mp e)

theorem ofNat_toNat_add (b : UInt8) (k : Nat) (h : k ≤ b.toNat) : UInt8.ofNat (k + (b.toNat - k)) = b := by
  have : k + (b.toNat - k) = b.toNat := by omega
  rw [this]; exact UInt8.ofNat_toNat

/-- U+2028, U+2029 and U+FFFD are 3-byte runes, so only for this width is the encoding of the decoded rune
needed: it gives the bytes back -/
theorem enc3 (b b1 b2 : UInt8) (h0 : 224 ≤ b.toNat) (h0' : b.toNat < 240)
    (h1 : (lo3 b).toNat ≤ b1.toNat) (h1' : b1.toNat ≤ (hi3 b).toNat)
    (h2 : 128 ≤ b2.toNat) (h2' : b2.toNat ≤ 191) :
    Spec.utf8Enc ((b.toNat - 224) * 4096 + (b1.toNat - 128) * 64 + (b2.toNat - 128)) = [b, b1, b2] := by
  -- the bounds on the second byte: not overlong after 0xE0, no surrogate after 0xED
  have hlo : 128 ≤ b1.toNat ∧ (b.toNat ≠ 224 ∨ 160 ≤ b1.toNat) := by
    unfold lo3 at h1
    by_cases he : b = 0xE0
    · subst he; simp at h1; omega
    · have := u8_ne_toNat he
      simp [he] at h1 this
      omega
  have hhi : b1.toNat ≤ 191 ∧ (b.toNat ≠ 237 ∨ b1.toNat ≤ 159) := by
    unfold hi3 at h1'
    by_cases he : b = 0xED
    · subst he; simp at h1'; omega
    · have := u8_ne_toNat he
      simp [he] at h1' this
      omega
  clear h1 h1'
  generalize hn : (b.toNat - 224) * 4096 + (b1.toNat - 128) * 64 + (b2.toNat - 128) = n
  have h : ¬ n < 128 ∧ ¬ n < 2048 ∧ ¬ ((55296 ≤ n ∧ n < 57344) ∨ 1114111 < n) ∧ n < 65536 ∧
      n / 4096 = b.toNat - 224 ∧ n / 64 % 64 = b1.toNat - 128 ∧ n % 64 = b2.toNat - 128 := by omega
  simp only [Spec.utf8Enc, h, ↓reduceIte]
  rw [ofNat_toNat_add b 224 h0, ofNat_toNat_add b1 128 hlo.1, ofNat_toNat_add b2 128 h2]

theorem lo3_ge (b : UInt8) : 128 ≤ (lo3 b).toNat := by unfold lo3; split <;> decide
theorem lo4_ge (b : UInt8) : 128 ≤ (lo4 b).toNat := by unfold lo4; split <;> decide
theorem lo4_f0 (b : UInt8) (h : b.toNat = 240) : (lo4 b).toNat = 144 := by
  have : b = 240 := UInt8.toNat_inj.mp h
  subst this; decide

theorem u8_ge_128 {x : UInt8} (h : 128 ≤ x.toNat) : 128 ≤ x := by simpa [UInt8.le_iff_toNat_le] using h

/-- what `utf8Decode` can answer at a byte ≥ 0x80, with what `esc_step` needs of each width: the bytes of
the sequence are ≥ 0x80 (the string reader passes them), a 2-byte rune is below and a 4-byte rune above
the three runes the writer escapes, a 3-byte rune encodes to the bytes it was decoded from -/
theorem decode_cases (b : UInt8) (r : Bytes) (hb : 128 ≤ b) :
    utf8Decode (b :: r) = (runeError, 1) ∨
    (∃ b1 r' n, r = b1 :: r' ∧ 128 ≤ b1 ∧ utf8Decode (b :: r) = (n, 2) ∧ n < 0x800) ∨
    (∃ b1 b2 r' n, r = b1 :: b2 :: r' ∧ 128 ≤ b1 ∧ 128 ≤ b2 ∧ utf8Decode (b :: r) = (n, 3) ∧
        Spec.utf8Enc n = [b, b1, b2]) ∨
    (∃ b1 b2 b3 r' n, r = b1 :: b2 :: b3 :: r' ∧ 128 ≤ b1 ∧ 128 ≤ b2 ∧ 128 ≤ b3 ∧
        utf8Decode (b :: r) = (n, 4) ∧ 0x10000 ≤ n) := by
  have hb' : ¬ b < 128 := by simpa [UInt8.not_lt] using hb
  by_cases c1 : b < 0xC2
  · left; simp [utf8Decode, hb', c1]
  by_cases c2 : b < 0xE0
  · cases r with
    | nil => left; simp [utf8Decode, hb', c1, c2]
    | cons b1 r' =>
      by_cases hc : isCont b1 = true
      · right; left
        refine ⟨b1, r', (b.toNat - 0xC0) * 64 + (b1.toNat - 0x80), rfl, ?_, by simp [utf8Decode, hb', c1, c2, hc], ?_⟩
        · simp only [isCont, Bool.and_eq_true, decide_eq_true_eq] at hc; exact hc.1
        · simp [isCont, UInt8.le_iff_toNat_le, UInt8.lt_iff_toNat_lt] at hc c1 c2
          omega
      · left; simp [utf8Decode, hb', c1, c2, hc]
  by_cases c3 : b < 0xF0
  · match r with
    | [] => left; simp [utf8Decode, hb', c1, c2, c3]
    | [_] => left; simp [utf8Decode, hb', c1, c2, c3]
    | b1 :: b2 :: r' =>
      by_cases hc : (lo3 b ≤ b1 && b1 ≤ hi3 b && isCont b2) = true
      · have hd : utf8Decode (b :: b1 :: b2 :: r') =
            ((b.toNat - 0xE0) * 4096 + (b1.toNat - 0x80) * 64 + (b2.toNat - 0x80), 3) := by
          simp [utf8Decode, hb', c1, c2, c3, hc]
        simp [isCont, UInt8.le_iff_toNat_le, UInt8.lt_iff_toNat_lt] at hc c2 c3
        have := lo3_ge b
        exact .inr (.inr (.inl ⟨b1, b2, r', _, rfl, u8_ge_128 (by omega), u8_ge_128 (by omega), hd,
          enc3 b b1 b2 (by omega) (by omega) hc.1.1 hc.1.2 hc.2.1 hc.2.2⟩))
      · left; simp [utf8Decode, hb', c1, c2, c3, hc]
  by_cases c4 : b < 0xF5
  · match r with
    | [] => left; simp [utf8Decode, hb', c1, c2, c3, c4]
    | [_] => left; simp [utf8Decode, hb', c1, c2, c3, c4]
    | [_, _] => left; simp [utf8Decode, hb', c1, c2, c3, c4]
    | b1 :: b2 :: b3 :: r' =>
      by_cases hc : (lo4 b ≤ b1 && b1 ≤ hi4 b && isCont b2 && isCont b3) = true
      · have hd : utf8Decode (b :: b1 :: b2 :: b3 :: r') = ((b.toNat - 0xF0) * 262144 + (b1.toNat - 0x80) * 4096 +
            (b2.toNat - 0x80) * 64 + (b3.toNat - 0x80), 4) := by
          simp [utf8Decode, hb', c1, c2, c3, c4, hc]
        simp [isCont, UInt8.le_iff_toNat_le, UInt8.lt_iff_toNat_lt] at hc c3 c4
        have := lo4_ge b
        have := lo4_f0 b
        exact .inr (.inr (.inr ⟨b1, b2, b3, r', _, rfl, u8_ge_128 (by omega), u8_ge_128 (by omega),
          u8_ge_128 (by omega), hd, by omega⟩))
      · left; simp [utf8Decode, hb', c1, c2, c3, c4, hc]
  · left; simp [utf8Decode, hb', c1, c2, c3, c4]

/-- the two halves of a byte, which the `\u00XX` escapes print as hex digits -/
theorem nibbles (b : UInt8) : ((b >>> 4) &&& 0x0f).toNat = b.toNat / 16 ∧ (b &&& 0x0f).toNat = b.toNat % 16 := by
  have hlt := b.toNat_lt
  constructor
  · rw [show ((b >>> 4) &&& 0x0f).toNat = b.toNat / 16 &&& (2 ^ 4 - 1) by simp [Nat.shiftRight_eq_div_pow],
      Nat.and_two_pow_sub_one_eq_mod]
    exact Nat.mod_eq_of_lt (by omega)
  · rw [show (b &&& 0x0f).toNat = b.toNat &&& (2 ^ 4 - 1) by simp, Nat.and_two_pow_sub_one_eq_mod]

theorem san_ascii (b : UInt8) (r : Bytes) (h : b < 128) : sanLoop 0 (b :: r) = b :: sanLoop 0 r := by
  have hn : b.toNat < 128 := by simpa [UInt8.lt_iff_toNat_lt] using h
  have hd : utf8Decode (b :: r) = (b.toNat, 1) := by simp [utf8Decode, h]
  have : illFormedHead (b :: r) = false := by
    simp [illFormedHead, hd, runeError]; omega
  simp [sanLoop, this, hd]

end OjgVerif.Writer
