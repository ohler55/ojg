import OjgVerif.Script.Model
/-! Operator-level lemmas for C12. The interface comparison of every code variant is the specified same-kind
equality or a fault on an uncomparable pair (`ifaceEq_eq`, `inLoop_eq`); `==` and `!=` are that comparison plus
the int/float cross comparison (`evalOp_eq_eq`, `evalOp_neq_eq`). From these: the repaired operators compute the
specified values, and an operator application faults exactly on an uncomparable pair the variant lets through. -/
namespace OjgVerif.Script

@[simp] theorem Flt.align_zero (m : Int) : Flt.align m 0 0 = m := by simp [Flt.align]
@[simp] theorem Flt.eq_int (a b : Int) : Flt.eq (.fin a 0) (.fin b 0) = decide (a = b) := by simp [Flt.eq]
@[simp] theorem Flt.lt_int (a b : Int) : Flt.lt (.fin a 0) (.fin b 0) = decide (a < b) := by simp [Flt.lt]
@[simp] theorem Flt.le_int (a b : Int) : Flt.le (.fin a 0) (.fin b 0) = decide (a ≤ b) := by
  simp [Flt.le, Int.le_iff_lt_or_eq]

theorem Flt.bitLen_le (n k : Nat) (h : n < 2 ^ k) : Flt.bitLen n ≤ k := by
  unfold Flt.bitLen
  split
  · omega
  · rename_i hn
    have := (Nat.log2_lt hn).2 h
    omega

/-- `float64(i)` is exact below 2^53 -/
theorem Flt.ofInt_exact (i : Int) (h : i.natAbs < 2 ^ 53) : Flt.ofInt i = .fin i 0 := by
  unfold Flt.ofInt Flt.round
  by_cases h0 : i = 0
  · simp [h0]
  · have hb := Flt.bitLen_le _ _ h
    -- at most 53 bits: nothing is rounded off and nothing overflows
    have hmag : Flt.roundMag i.natAbs 0 = (i.natAbs, 0) := by
      unfold Flt.roundMag
      exact if_pos (by omega)
    simp only [h0, ↓reduceIte, hmag]
    rw [if_neg (by omega)]
    split <;> (congr 1; omega)

def isArr : Val → Bool | .arr _ => true | _ => false
def isObj : Val → Bool | .obj _ => true | _ => false
/-- a typed Go value of an uncomparable type (`[]int`, `map[string]int`, `gen.Array`, a struct with a slice field) -/
def isUExt : Val → Bool | .ext e => !e.cmp | _ => false
def isContainer (v : Val) : Bool := isArr v || isObj v || isUExt v

/-- two typed values of the same uncomparable type -/
def sameUExt : Val → Val → Bool
  | .ext a, .ext b => a.ty == b.ty && !a.cmp
  | _, _ => false

/-- both operands hold the same uncomparable Go type -/
def sameContainer (l r : Val) : Bool := (isArr l && isArr r) || (isObj l && isObj r) || sameUExt l r

/-- the operand pairs on which an operator `case` executes a Go `==` between two operands of one uncomparable
dynamic type (`sameContainer`: two slices, two maps, two typed values of one type on which `==` is unsafe) -/
def uncomparablePair (o : Op) (l r : Val) : Bool :=
  match o with
  | .eq | .neq => sameContainer l r
  | .in => match r with
    | .arr xs => xs.any (sameContainer l)
    | _ => false
  | _ => false

theorem sameContainer_noncontainer (l r : Val) (hl : isContainer l = false) : sameContainer l r = false := by
  cases l with
  | arr _ | obj _ => cases hl
  | ext a =>
    have ha : (!a.cmp) = false := hl
    cases r <;> first | rfl | simp [sameContainer, isArr, isObj, sameUExt, ha]
  | _ => rfl

theorem uncomparablePair_noncontainer (o : Op) (l r : Val) (hl : isContainer l = false) : uncomparablePair o l r = false := by
  have hs : ∀ y, sameContainer l y = false := fun y => sameContainer_noncontainer l y hl
  cases o with
  | eq | neq => exact hs r
  | «in» => cases r <;> simp [uncomparablePair, hs]
  | _ => rfl

theorem same_of_container (l r : Val) (hl : isContainer l = true) : Spec.same l r = false := by
  cases l with
  | arr _ | obj _ => rfl
  | ext a =>
    have ha : a.cmp = false := by simpa [isContainer, isArr, isObj, isUExt] using hl
    cases r <;> first | rfl | simp [Spec.same, Spec.sameExt, ha]
  | _ => cases hl

theorem faultFlag_false (d : Dev) (h : d.uncmp = false) (h' : d.ifaceTrap = false) (l : Val) : d.faultFlag l = false := by
  simp [Dev.faultFlag, h, h']

/-- In every code variant `left == right` is the specified same-kind equality, except that two operands of one
uncomparable type fault when the variant lets the left one through to Go `==`. -/
theorem ifaceEq_eq (d : Dev) (l r : Val) :
    ifaceEq d l r =
      if sameContainer l r && d.faultFlag l then .error .uncomparable else .ok (Spec.same l r) := by
  cases l <;> cases r <;> try rfl
  case arr.arr => rcases d with ⟨u, q, v, t⟩; cases u <;> cases t <;> rfl
  case obj.obj => rcases d with ⟨u, q, v, t⟩; cases u <;> cases t <;> rfl
  case ext.ext a b =>
    by_cases h1 : a.ty = b.ty <;> cases h2 : a.cmp <;>
      simp [ifaceEq, sameContainer, isArr, isObj, sameUExt, Dev.faultFlag, passesGuard, Spec.same, Spec.sameExt, h1, h2]

theorem ifaceEq_error_iff (d : Dev) (l r : Val) :
    (∃ f, ifaceEq d l r = .error f) ↔ (d.faultFlag l = true ∧ sameContainer l r = true) := by
  rw [ifaceEq_eq]
  cases sameContainer l r <;> cases d.faultFlag l <;> simp

theorem ifaceEq_spec (d : Dev) (l r : Val) (h : d.faultFlag l = true → sameContainer l r = false) :
    ifaceEq d l r = .ok (Spec.same l r) := by
  rw [ifaceEq_eq, Bool.and_comm, Bool.and_eq_false_imp.2 h]
  rfl

theorem ifaceEq_fixed (l r : Val) : ifaceEq Dev.fixed l r = .ok (Spec.same l r) :=
  ifaceEq_spec _ l r (fun h => by cases h)

theorem ifaceEq_ok (d : Dev) (h : d.uncmp = false) (h' : d.ifaceTrap = false) (l r : Val) : ∃ b, ifaceEq d l r = .ok b :=
  ⟨_, ifaceEq_spec d l r (fun hf => by rw [faultFlag_false d h h'] at hf; cases hf)⟩

theorem inLoop_eq (d : Dev) (l : Val) (xs : List Val) :
    inLoop d l xs =
      if xs.any (sameContainer l) && d.faultFlag l then .error .uncomparable else .ok (xs.any (Spec.same l)) := by
  induction xs with
  | nil => rfl
  | cons x xs ih =>
    simp only [inLoop, ifaceEq_eq, ih, List.any_cons]
    cases hc : isContainer l
    · -- anything but a container on the left never faults
      simp [sameContainer_noncontainer l _ hc]
      cases Spec.same l x <;> rfl
    · -- a container on the left never compares equal, so the loop reaches every element
      simp [same_of_container l _ hc]
      cases sameContainer l x <;> cases d.faultFlag l <;> simp

theorem inLoop_error_iff (d : Dev) (l : Val) (xs : List Val) :
    (∃ f, inLoop d l xs = .error f) ↔ (d.faultFlag l = true ∧ xs.any (sameContainer l) = true) := by
  rw [inLoop_eq]
  cases xs.any (sameContainer l) <;> cases d.faultFlag l <;> simp

theorem inLoop_spec (d : Dev) (l : Val) (xs : List Val) (h : d.faultFlag l = true → xs.any (sameContainer l) = false) :
    inLoop d l xs = .ok (xs.any (Spec.same l)) := by
  rw [inLoop_eq, Bool.and_comm, Bool.and_eq_false_imp.2 h]
  rfl

theorem inLoop_fixed (l : Val) (xs : List Val) : inLoop Dev.fixed l xs = .ok (xs.any (Spec.same l)) :=
  inLoop_spec _ l xs (fun h => by cases h)

theorem inLoop_ok (d : Dev) (h : d.uncmp = false) (h' : d.ifaceTrap = false) (l : Val) (xs : List Val) : ∃ b, inLoop d l xs = .ok b :=
  ⟨_, inLoop_spec d l xs (fun hf => by rw [faultFlag_false d h h'] at hf; cases hf)⟩

def isCmp : Op → Bool
  | .eq | .neq | .lt | .gt | .lte | .gte => true
  | _ => false

/-- C12-neq-float: `!=` with a float on the left and anything but an int on the right (two equal floats
are still reported equal) -/
def neqFloatCase (o : Op) (l r : Val) : Bool :=
  match o, l, r with
  | .neq, .flt a, .flt b => !Flt.eq a b
  | .neq, .flt _, .int _ => false
  | .neq, .flt _, _ => true
  | _, _, _ => false

/-- C12-int-via-float64: a comparison between an int of magnitude ≥ 2^53 and a float -/
def bigMixed (o : Op) (l r : Val) : Bool :=
  isCmp o &&
    (match l, r with
     | .int a, .flt _ => decide (2 ^ 53 ≤ a.natAbs)
     | .flt _, .int b => decide (2 ^ 53 ≤ b.natAbs)
     | _, _ => false)

/-- the operator applications on which the pinned code may leave the specification. The proofs use the form per
code variant, `devHit d` of `LemmasClean.lean` (for `Dev.pinned` it is this) -/
def deviates (o : Op) (l r : Val) : Bool :=
  uncomparablePair o l r || neqFloatCase o l r || bigMixed o l r

/-- what `==` adds to the interface comparison: an int64 against a float64, compared as `d.toF` converts -/
def crossEq (d : Dev) : Val → Val → Bool
  | .int a, .flt b => Flt.eq (d.toF a) b
  | .flt a, .int b => Flt.eq a (d.toF b)
  | _, _ => false

theorem evalOp_eq_eq (d : Dev) (rx : RxEngine) (l r : Val) :
    evalOp d rx .eq l r = (ifaceEq d l r).map fun e => .bool (e || crossEq d l r) := by
  unfold evalOp
  dsimp only
  cases ifaceEq d l r with
  | error f => rfl
  | ok e =>
    cases e
    · cases l <;> first | rfl | (cases r <;> rfl)
    · rfl

theorem evalOp_neq_eq (d : Dev) (rx : RxEngine) (l r : Val) :
    evalOp d rx .neq l r =
      (ifaceEq d l r).map fun e => .bool (!(e || crossEq d l r) && !(d.neqFlt && neqFloatCase .neq l r)) := by
  unfold evalOp
  simp only [Bool.and_comm d.neqFlt]
  cases h : ifaceEq d l r with
  | error f => rfl
  | ok e =>
    cases e
    · cases l <;> first | rfl | (cases r <;> first | rfl | simp_all [ifaceEq, neqFloatCase, crossEq, Except.map])
    · rfl

theorem eqv_eq (l r : Val) : Spec.eqv l r = (Spec.same l r || crossEq Dev.fixed l r) := by
  cases l <;> cases r <;> first | rfl | simp [Spec.eqv, Spec.num?, Spec.same, crossEq, BEq.beq]

theorem asBool_eq_truth : asBool = Spec.truth := rfl

theorem ordering_swap (d : Dev) (fi : Int → Int → Bool) (ff : Flt → Flt → Bool) (fs : Bytes → Bytes → Bool) (l r : Val) :
    ordering d (fun a b => fi b a) (fun a b => ff b a) (fun a b => fs b a) l r = ordering d fi ff fs r l := by
  cases l <;> cases r <;> rfl

theorem evalOp_gt (d : Dev) (rx : RxEngine) (l r : Val) : evalOp d rx .gt l r = evalOp d rx .lt r l :=
  congrArg Except.ok (ordering_swap d _ _ _ l r)

theorem evalOp_gte (d : Dev) (rx : RxEngine) (l r : Val) : evalOp d rx .gte l r = evalOp d rx .lte r l :=
  congrArg Except.ok (ordering_swap d _ _ _ l r)

theorem evalOp_fixed_eq_spec (rx : RxEngine) (o : Op) (l r : Val) :
    evalOp Dev.fixed rx o l r = .ok (Spec.evalOp rx o l r) := by
  -- `<` and `<=` first and for all operands: `>` and `>=` are these with the operands exchanged
  have lt : ∀ l r, evalOp Dev.fixed rx .lt l r = .ok (Spec.evalOp rx .lt l r) := fun l r => by
    cases l <;> first | rfl | cases r <;> first | rfl | exact congrArg (Except.ok ∘ Val.bool) (Flt.lt_int _ _).symm
  have lte : ∀ l r, evalOp Dev.fixed rx .lte l r = .ok (Spec.evalOp rx .lte l r) := fun l r => by
    cases l <;> first | rfl | cases r <;> first | rfl | exact congrArg (Except.ok ∘ Val.bool) (Flt.le_int _ _).symm
  cases o
  case eq => rw [evalOp_eq_eq, ifaceEq_fixed, Spec.evalOp, eqv_eq]; rfl
  case neq => rw [evalOp_neq_eq, ifaceEq_fixed, Spec.evalOp, eqv_eq]; simp [Except.map, Dev.fixed]
  -- the other `case`s are the same table as the specification's: by operand kinds, the stuck match first
  case lt => exact lt l r
  case lte => exact lte l r
  case gt => rw [evalOp_gt, lt]; rfl
  case gte => rw [evalOp_gte, lte]; rfl
  case or | and | not | group => rfl
  case add | sub | mult => cases l <;> first | rfl | cases r <;> rfl
  case divide => cases l <;> first | rfl | cases r <;> first | rfl | exact (apply_ite Except.ok _ _ _).symm
  case «in» => cases r <;> first | rfl | (unfold evalOp; simp only [inLoop_fixed]; rfl)
  case empty | has | «exists» => cases r <;> first | rfl | cases l <;> rfl
  case rx =>
    have getD : ∀ o : Option Bool, (match o with | some b => b | none => false) = o.getD false := fun o => by cases o <;> rfl
    cases l <;> first | rfl | cases r <;> first | rfl | exact congrArg (Except.ok ∘ Val.bool) (getD _)
  case length | count => cases l <;> rfl
  case «match» | search =>
    cases l <;> first | rfl | cases r <;> first | rfl |
      (unfold evalOp Spec.evalOp; dsimp only; split <;> first | rfl | (cases rx _ _ <;> rfl))

theorem map_error_iff {α β : Type} (x : Except Fault α) (g : α → β) : (∃ f, x.map g = .error f) ↔ ∃ f, x = .error f := by
  cases x <;> simp [Except.map]

theorem ok_of_not_error {α : Type} {x : Except Fault α} (h : ¬ ∃ f, x = .error f) : ∃ v, x = .ok v := by
  cases x with
  | error f => exact absurd ⟨f, rfl⟩ h
  | ok v => exact ⟨v, rfl⟩

theorem evalOp_error_iff (d : Dev) (rx : RxEngine) (o : Op) (l r : Val) :
    (∃ f, evalOp d rx o l r = .error f) ↔ (d.faultFlag l = true ∧ uncomparablePair o l r = true) := by
  -- outside `==`, `!=` and `in` nothing faults: the orderings are `.ok` by their shape; the other `case`s do
  -- not mention `d`, so there `hfix` is, by unfolding, a statement about `evalOp d`
  have ok : ∀ v, evalOp d rx o l r = .ok v → uncomparablePair o l r = false →
      ((∃ f, evalOp d rx o l r = .error f) ↔ (d.faultFlag l = true ∧ uncomparablePair o l r = true)) :=
    fun v hv hu => by rw [hv, hu]; simp
  have hfix := evalOp_fixed_eq_spec rx o l r
  cases o
  case eq => rw [evalOp_eq_eq, map_error_iff]; exact ifaceEq_error_iff d l r
  case neq => rw [evalOp_neq_eq, map_error_iff]; exact ifaceEq_error_iff d l r
  case «in» =>
    cases r
    case arr xs =>
      refine Iff.trans ?_ (inLoop_error_iff d l xs)
      unfold evalOp
      dsimp only
      cases inLoop d l xs <;> simp
    all_goals exact ok _ rfl rfl
  case lt | gt | lte | gte | or | and | not | group => exact ok _ rfl rfl
  all_goals exact ok _ hfix rfl

theorem evalOp_ok_of_fixed (d : Dev) (h : d.uncmp = false) (h' : d.ifaceTrap = false) (rx : RxEngine) (o : Op) (l r : Val) :
    ∃ v, evalOp d rx o l r = .ok v :=
  ok_of_not_error (by rw [evalOp_error_iff, faultFlag_false d h h']; simp)

end OjgVerif.Script
