import OjgVerif.Common.ListLemmas
import OjgVerif.Script.LemmasTree
import OjgVerif.Script.LemmasDev
/-! Scripts whose evaluation stays outside the deviation classes the model carries. -/
namespace OjgVerif.Script

/-- the operator application falls into a deviation class that `d` carries -/
def devHit (d : Dev) (o : Op) (l r : Val) : Bool :=
  (d.faultFlag l && uncomparablePair o l r) || (d.neqFlt && neqFloatCase o l r) || (d.viaF64 && bigMixed o l r)

/-- no operator application of the closed tree (operands as the specification evaluates them) falls
into a deviation class that `d` carries -/
def Clean (d : Dev) (rx : RxEngine) : Tm → Bool
  | .const _ => true
  | .path _ => true
  | .app1 o a => Clean d rx a && !devHit d o (Spec.eval rx a) .null
  | .app2 o a b =>
    if o.cnt = 1 then Clean d rx a && !devHit d o (Spec.eval rx a) .null
    else Clean d rx a && Clean d rx b && !devHit d o (Spec.eval rx a) (Spec.eval rx b)

theorem evalOp_eq_spec_of_noHit (d : Dev) (rx : RxEngine) (o : Op) (l r : Val) (h : devHit d o l r = false) :
    evalOp d rx o l r = .ok (Spec.evalOp rx o l r) := by
  simp only [devHit, Bool.or_eq_false_iff, Bool.and_eq_false_imp] at h
  exact evalOp_eq_spec_of d rx o l r h.1.1 h.1.2 h.2

theorem evalTm_clean (d : Dev) (rx : RxEngine) (t : Tm) :
    Clean d rx t = true → evalTm d rx t = .ok (Spec.eval rx t) := by
  induction t with
  | const v => intro _; rfl
  | path p => intro _; rfl
  | app1 o a iha =>
    intro h
    simp only [Clean, Bool.and_eq_true, Bool.not_eq_eq_eq_not, Bool.not_true] at h
    simp only [evalTm, iha h.1, Spec.eval]
    exact evalOp_eq_spec_of_noHit d rx o _ _ h.2
  | app2 o a b iha ihb =>
    intro h
    by_cases hc : o.cnt = 1
    · simp only [Clean, hc, ↓reduceIte, Bool.and_eq_true, Bool.not_eq_eq_eq_not, Bool.not_true] at h
      simp only [evalTm, hc, ↓reduceIte, iha h.1, Spec.eval]
      rw [Spec.evalOp_unary rx o hc _ (Spec.eval rx b) .null]
      exact evalOp_eq_spec_of_noHit d rx o _ _ h.2
    · simp only [Clean, hc, ↓reduceIte, Bool.and_eq_true, Bool.not_eq_eq_eq_not, Bool.not_true] at h
      simp only [evalTm, hc, ↓reduceIte, iha h.1.1, ihb h.1.2, Spec.eval]
      exact evalOp_eq_spec_of_noHit d rx o _ _ h.2

theorem clean_fixed (rx : RxEngine) (t : Tm) : Clean Dev.fixed rx t = true := by
  have hit : ∀ o l r, devHit Dev.fixed o l r = false := fun _ _ _ => rfl
  induction t with
  | const v => rfl
  | path p => rfl
  | app1 o a iha => simp [Clean, iha, hit]
  | app2 o a b iha ihb => simp [Clean, iha, ihb, hit]

theorem evalTm_fixed (rx : RxEngine) (t : Tm) : evalTm Dev.fixed rx t = .ok (Spec.eval rx t) :=
  evalTm_clean Dev.fixed rx t (clean_fixed rx t)

theorem stackTrue_flattenS_clean (d : Dev) (rx : RxEngine) (c : Tm) (hc : Clean d rx c = true) :
    (∃ vs, evalStack d rx (flattenS c) = .ok vs) ∧
      stackTrue d rx (flattenS c) = Spec.isTrue (Spec.eval rx c) := by
  have h := evalStack_flattenS_head d rx c
  rw [evalTm_clean d rx c hc] at h
  cases hs : evalStack d rx (flattenS c) with
  | error f => rw [hs] at h; cases h
  | ok vs =>
    rw [hs] at h
    exact ⟨⟨vs, rfl⟩, by simp only [stackTrue, hs]; exact congrArg Spec.isTrue (Except.ok.inj h)⟩

/-- per-element verdict of the model (any deviations) on the program of a well-formed tree all of whose
operand combinations stay outside the deviation classes -/
theorem matchGeneral_flatten_clean (d : Dev) (rx : RxEngine) (t : Tm) (hwf : t.wf = true) (elem root : Val)
    (hclean : ∀ c ∈ Spec.choices elem root t, Clean d rx c = true) :
    matchGeneral d rx (flatten t) elem root =
      .ok ((Spec.choices elem root t).any fun c => Spec.isTrue (Spec.eval rx c)) := by
  unfold matchGeneral
  have hp := prod_resolve_flatten elem root t hwf
  rw [matchResolved_any_of_ok d rx _ (resolve_ne_nil elem root _ (flatten_ne_nil t)), hp, List.any_map]
  · exact congrArg Except.ok (any_congr_mem _ _ _ fun c hc => (stackTrue_flattenS_clean d rx c (hclean c hc)).2)
  · intro x hx
    rw [hp, List.mem_map] at hx
    obtain ⟨c, hc, rfl⟩ := hx
    exact (stackTrue_flattenS_clean d rx c (hclean c hc)).1

end OjgVerif.Script
