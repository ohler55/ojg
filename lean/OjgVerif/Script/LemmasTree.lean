import OjgVerif.Script.LemmasStack
/-! Tree-level lemmas for C12: resolving the program of a tree, and the combinations of its
multi-valued operands against the specification's `choices`. -/
namespace OjgVerif.Script

def isPath : Tm → Bool
  | .path _ => true
  | _ => false

/-- trees the exported builders (and the parser) produce: every operator has its own number of
arguments, `count` is applied to a path -/
def Tm.wf : Tm → Bool
  | .const _ => true
  | .path _ => true
  | .app1 o a => o.cnt == 1 && (if o = .count then isPath a else a.wf)
  | .app2 o a b => o.cnt == 2 && a.wf && b.wf

theorem resolveItem_path (elem root : Val) (p : Path) :
    (Spec.sel p elem root = [] ∧ resolveItem elem root false (.path p) = .val .nothing) ∨
    ∃ v r, Spec.sel p elem root = v :: r ∧
      (resolveItem elem root false (.path p) = .val v.norm ∨ ∃ vs, resolveItem elem root false (.path p) = .multi vs) := by
  simp only [resolveItem, Bool.false_eq_true, ↓reduceIte]
  cases Spec.sel p elem root with
  | nil => exact .inl ⟨rfl, by simp⟩
  | cons v r => exact .inr ⟨v, r, rfl, by cases Spec.Path.normal p <;> cases r <;> simp⟩

theorem resolveItem_path_next (elem root : Val) (p : Path) :
    (resolveItem elem root false (.path p)).nextGet = false := by
  rcases resolveItem_path elem root p with ⟨_, h⟩ | ⟨v, r, _, h | ⟨vs, h⟩⟩ <;> rw [h] <;> rfl

theorem getLeft_ne_count (o : Op) (h : o ≠ .count) : o.getLeft = false := by
  cases o <;> simp_all [Op.getLeft]

theorem wf_app1 (o : Op) (a : Tm) (h : (Tm.app1 o a).wf = true) :
    o.cnt = 1 ∧ ((o = .count ∧ ∃ p, a = .path p) ∨ (o ≠ .count ∧ a.wf = true)) := by
  simp only [Tm.wf, Bool.and_eq_true, beq_iff_eq] at h
  refine ⟨h.1, ?_⟩
  by_cases hcount : o = .count
  · cases a <;> simp_all [isPath]
  · exact .inr ⟨hcount, by simpa [hcount] using h.2⟩

theorem wf_app2 (o : Op) (a b : Tm) (h : (Tm.app2 o a b).wf = true) :
    o.cnt = 2 ∧ o.getLeft = false ∧ a.wf = true ∧ b.wf = true := by
  simp only [Tm.wf, Bool.and_eq_true, beq_iff_eq] at h
  exact ⟨h.1.1, getLeft_ne_count o (by rintro rfl; cases h.1.1), h.1.2, h.2⟩

/-- resolving the program of a well-formed tree does not depend on what follows, nor the other way round: the
tree's last cell is an operand, which leaves the `getLeft` flag off -/
theorem resolve_flatten (elem root : Val) (t : Tm) :
    t.wf = true → ∀ rest, resolve elem root false (flatten t ++ rest) =
      resolve elem root false (flatten t) ++ resolve elem root false rest := by
  induction t with
  | const v => intro _ rest; rfl
  | path p => intro _ rest; simp only [flatten, List.cons_append, List.nil_append, resolve, resolveItem_path_next]
  | app1 o a iha =>
    intro hwf rest
    obtain ⟨hc, ⟨rfl, p, rfl⟩ | ⟨hcount, hrest⟩⟩ := wf_app1 o a hwf
    · rfl
    · simp only [flatten, hc, ↓reduceIte, List.cons_append, resolve, resolveItem, Bool.false_eq_true, RItem.nextGet,
        getLeft_ne_count o hcount, iha hrest rest]
  | app2 o a b iha ihb =>
    intro hwf rest
    obtain ⟨hc, hg, ha, hb⟩ := wf_app2 o a b hwf
    have hne : ¬ o.cnt = 1 := by omega
    simp only [flatten, hne, ↓reduceIte, List.cons_append, List.append_assoc, resolve, resolveItem, Bool.false_eq_true,
      RItem.nextGet, hg, iha ha, ihb hb]

theorem prod_append (a b : List RItem) :
    prod (a ++ b) = (prod a).flatMap fun x => (prod b).map fun y => x ++ y := by
  induction a with
  | nil => simp [prod]
  | cons it r ih =>
    cases it <;> simp [prod, ih, List.flatMap_map, List.map_flatMap, List.flatMap_assoc, Function.comp_def]

theorem prod_path (elem root : Val) (p : Path) :
    prod [resolveItem elem root false (.path p)] = (Spec.candidates p elem root).map fun v => [SItem.val v] := by
  unfold resolveItem Spec.candidates
  simp only [Bool.false_eq_true, ↓reduceIte]
  cases hn : Spec.Path.normal p
  · cases hs : Spec.sel p elem root with
    | nil => simp [prod]
    | cons v r =>
      cases r with
      | nil => simp [prod]
      | cons w r' => simp [prod, ← List.map_eq_flatMap]
  · cases hs : Spec.sel p elem root with
    | nil => simp [prod]
    | cons v r => simp [prod]

/-- the stacks the element loop evaluates for a well-formed tree are the prefix programs of the specification's
choices -/
theorem prod_resolve_flatten (elem root : Val) (t : Tm) :
    t.wf = true → prod (resolve elem root false (flatten t)) = (Spec.choices elem root t).map flattenS := by
  induction t with
  | const v => intro _; rfl
  | path p =>
    intro _
    simp only [flatten, resolve, prod_path, Spec.choices, List.map_map]
    rfl
  | app1 o a iha =>
    intro hwf
    obtain ⟨hc, ⟨rfl, p, rfl⟩ | ⟨hcount, hrest⟩⟩ := wf_app1 o a hwf
    · simp [flatten, resolve, resolveItem, Op.getLeft, RItem.nextGet, prod, Spec.choices, flattenS, Op.cnt]
    · simp only [flatten, hc, ↓reduceIte, resolve, resolveItem, Bool.false_eq_true, RItem.nextGet,
        getLeft_ne_count o hcount, prod, iha hrest, Spec.choices, hcount, List.map_map]
      congr 1
      funext c
      simp [flattenS, hc]
  | app2 o a b iha ihb =>
    intro hwf
    obtain ⟨hc, hg, ha, hb⟩ := wf_app2 o a b hwf
    have hne : ¬ o.cnt = 1 := by omega
    simp only [flatten, hne, ↓reduceIte, resolve, resolveItem, Bool.false_eq_true, RItem.nextGet, hg,
      resolve_flatten elem root a ha, prod, prod_append, iha ha, ihb hb, Spec.choices, List.map_flatMap,
      List.flatMap_map, List.map_map]
    congr 1
    funext ca
    congr 1
    funext cb
    simp [flattenS, hne]

theorem resolve_length (elem root : Val) : ∀ (prog : List Item) (g : Bool), (resolve elem root g prog).length = prog.length := by
  intro prog
  induction prog with
  | nil => intro g; rfl
  | cons it r ih => intro g; simp [resolve, ih]

theorem resolve_ne_nil (elem root : Val) (prog : List Item) (h : prog ≠ []) : resolve elem root false prog ≠ [] :=
  fun h0 => h (List.eq_nil_of_length_eq_zero (by rw [← resolve_length elem root prog false, h0]; rfl))

theorem flatten_ne_nil (t : Tm) : flatten t ≠ [] := by
  cases t <;> simp [flatten] <;> split <;> simp

end OjgVerif.Script
