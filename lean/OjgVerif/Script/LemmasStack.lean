import OjgVerif.Script.Lemmas
/-! Program-level lemmas for C12: `evalStack` cell by cell and on the prefix program of a tree (`InPlace`), the
enumeration done by `expandStack`, the per-element verdict when no combination faults. -/
namespace OjgVerif.Script

theorem shift_length (c : Nat) (t : List Val) : (shift c t).length = t.length := by
  unfold shift
  split
  · simp only [List.length_append, List.length_drop]; omega
  · rfl

theorem evalStack_val (d : Dev) (rx : RxEngine) (v : Val) (X : List SItem) :
    evalStack d rx (.val v :: X) = (evalStack d rx X).map (v :: ·) := by
  simp only [evalStack]
  cases evalStack d rx X <;> rfl

theorem evalStack_op (d : Dev) (rx : RxEngine) (o : Op) (X : List SItem) :
    evalStack d rx (.op o :: X) =
      (evalStack d rx X).bind fun t => (evalOp d rx o (t.getD 0 .null) (t.getD 1 .null)).map (· :: shift o.cnt t) := by
  simp only [evalStack]
  cases evalStack d rx X with
  | error f => rfl
  | ok t => simp only [Except.bind]; cases evalOp d rx o (t.getD 0 .null) (t.getD 1 .null) <;> rfl

theorem evalStack_cons_err (d : Dev) (rx : RxEngine) (it : SItem) (X : List SItem) (f : Fault)
    (h : evalStack d rx X = .error f) : evalStack d rx (it :: X) = .error f := by
  cases it <;> simp only [evalStack_op, evalStack_val, h] <;> rfl

theorem evalStack_length (d : Dev) (rx : RxEngine) (st : List SItem) :
    ∀ vs, evalStack d rx st = .ok vs → vs.length = st.length := by
  induction st with
  | nil => rintro _ ⟨⟩; rfl
  | cons it rest ih =>
    intro vs h
    cases hr : evalStack d rx rest with
    | error f => rw [evalStack_cons_err d rx it rest f hr] at h; cases h
    | ok t =>
      cases it with
      | val v =>
        rw [evalStack_val, hr] at h
        cases h
        simp [ih t hr]
      | op o =>
        rw [evalStack_op, hr] at h
        cases ho : evalOp d rx o (t.getD 0 .null) (t.getD 1 .null) with
        | error f => simp only [Except.bind, ho] at h; cases h
        | ok v =>
          simp only [Except.bind, ho] at h
          cases h
          simp [shift_length, ih t hr]

theorem evalStack_total (d : Dev) (h : d.uncmp = false) (h' : d.ifaceTrap = false) (rx : RxEngine) (st : List SItem) :
    ∃ vs, evalStack d rx st = .ok vs := by
  induction st with
  | nil => exact ⟨[], rfl⟩
  | cons it rest ih =>
    obtain ⟨t, ht⟩ := ih
    cases it with
    | val v => exact ⟨_, by rw [evalStack_val, ht]; rfl⟩
    | op o =>
      obtain ⟨v, hv⟩ := evalOp_ok_of_fixed d h h' rx o (t.getD 0 .null) (t.getD 1 .null)
      exact ⟨_, by rw [evalStack_op, ht, Except.bind, hv]; rfl⟩

theorem evalStack_append_error (d : Dev) (rx : RxEngine) (xs tail : List SItem) (f : Fault)
    (h : evalStack d rx tail = .error f) : evalStack d rx (xs ++ tail) = .error f := by
  induction xs with
  | nil => exact h
  | cons it xs ih => exact evalStack_cons_err d rx it _ f ih

theorem Op.cnt_cases (o : Op) : o.cnt = 1 ∨ o.cnt = 2 := by cases o <;> simp [Op.cnt]

theorem evalOp_unary (d : Dev) (rx : RxEngine) (o : Op) (h : o.cnt = 1) (l r r' : Val) :
    evalOp d rx o l r = evalOp d rx o l r' := by
  cases o <;> simp [Op.cnt] at h <;> rfl

theorem Spec.evalOp_unary (rx : RxEngine) (o : Op) (h : o.cnt = 1) (l r r' : Val) :
    Spec.evalOp rx o l r = Spec.evalOp rx o l r' := by
  cases o <;> simp [Op.cnt] at h <;> rfl

/-- the prefix program of a closed expression (no path left), as `Equation.buildScript` lays it out -/
def flattenS : Tm → List SItem
  | .const v => [.val v]
  | .path _ => [.val .nothing]
  | .app1 o a => if o.cnt = 1 then .op o :: flattenS a else .op o :: (flattenS a ++ [.val .null])
  | .app2 o a b => if o.cnt = 1 then .op o :: flattenS a else .op o :: (flattenS a ++ flattenS b)

/-- the model's operators applied along the tree (right operand first, as the stack loop does) -/
def evalTm (d : Dev) (rx : RxEngine) : Tm → Except Fault Val
  | .const v => .ok v
  | .path _ => .ok .nothing
  | .app1 o a =>
    match evalTm d rx a with
    | .error f => .error f
    | .ok va => evalOp d rx o va .null
  | .app2 o a b =>
    if o.cnt = 1 then
      match evalTm d rx a with
      | .error f => .error f
      | .ok va => evalOp d rx o va .null
    else
      match evalTm d rx b with
      | .error f => .error f
      | .ok vb =>
        match evalTm d rx a with
        | .error f => .error f
        | .ok va => evalOp d rx o va vb

theorem flattenS_unary (o : Op) (a b : Tm) (hc : o.cnt = 1) : flattenS (.app2 o a b) = .op o :: flattenS a := by
  simp [flattenS, hc]

theorem flattenS_binary (o : Op) (a b : Tm) (hc : o.cnt = 2) :
    flattenS (.app2 o a b) = .op o :: (flattenS a ++ flattenS b) := by
  simp [flattenS, hc]

theorem evalTm_unary (d : Dev) (rx : RxEngine) (o : Op) (a b : Tm) (hc : o.cnt = 1) :
    evalTm d rx (.app2 o a b) = (evalTm d rx a).bind fun va => evalOp d rx o va .null := by
  simp only [evalTm, hc, ↓reduceIte]
  cases evalTm d rx a <;> rfl

theorem evalTm_binary (d : Dev) (rx : RxEngine) (o : Op) (a b : Tm) (hc : o.cnt = 2) :
    evalTm d rx (.app2 o a b) =
      (evalTm d rx b).bind fun vb => (evalTm d rx a).bind fun va => evalOp d rx o va vb := by
  have hne : ¬ o.cnt = 1 := by omega
  simp only [evalTm, hne, ↓reduceIte]
  cases evalTm d rx b with
  | error f => rfl
  | ok vb => cases evalTm d rx a <;> rfl

theorem evalTm_app1 (d : Dev) (rx : RxEngine) (o : Op) (a : Tm) :
    evalTm d rx (.app1 o a) = evalTm d rx (.app2 o a (.const .null)) := by
  simp only [evalTm, ite_self]

/-- Running the prefix program of `t` in front of cells that evaluate to `R` leaves the value of `t` in the first
cell and `R` right after it, followed by stale cells (the operators' `copy` moves the tail down and keeps the
last cells). -/
def InPlace (d : Dev) (rx : RxEngine) (t : Tm) : Prop :=
  ∀ (rest : List SItem) (R : List Val), evalStack d rx rest = .ok R →
    ∃ junk, evalStack d rx (flattenS t ++ rest) = (evalTm d rx t).map (· :: (R ++ junk))

theorem inPlace_leaf (d : Dev) (rx : RxEngine) (v : Val) (t : Tm) (hf : flattenS t = [.val v]) (he : evalTm d rx t = .ok v) :
    InPlace d rx t := fun rest R h =>
  ⟨[], by rw [hf, he, List.singleton_append, evalStack_val, h, List.append_nil]; rfl⟩

theorem inPlace_app2 (d : Dev) (rx : RxEngine) (o : Op) (a b : Tm) (ha : InPlace d rx a) (hb : InPlace d rx b) :
    InPlace d rx (.app2 o a b) := by
  intro rest R h
  rcases Op.cnt_cases o with hc | hc
  · -- one operand: `buildScript` drops the second, the operator ignores what follows the first
    obtain ⟨ja, hja⟩ := ha rest R h
    rw [flattenS_unary o a b hc, List.cons_append, evalStack_op, hja, evalTm_unary d rx o a b hc]
    cases evalTm d rx a with
    | error f => exact ⟨[], rfl⟩
    | ok va =>
      -- the last `cnt` cells, which `shift` leaves where they were, join the junk
      refine ⟨ja ++ (va :: (R ++ ja)).drop ((va :: (R ++ ja)).length - 1), ?_⟩
      show (evalOp d rx o va _).map _ = (evalOp d rx o va .null).map _
      rw [evalOp_unary d rx o hc va _ .null]
      cases evalOp d rx o va .null <;> simp [Except.map, shift, hc]
  · obtain ⟨jb, hjb⟩ := hb rest R h
    rw [flattenS_binary o a b hc, List.cons_append, List.append_assoc, evalStack_op, evalTm_binary d rx o a b hc]
    cases hvb : evalTm d rx b with
    | error f =>
      rw [hvb] at hjb
      exact ⟨[], by rw [evalStack_append_error d rx _ _ f hjb]; rfl⟩
    | ok vb =>
      rw [hvb] at hjb
      obtain ⟨ja, hja⟩ := ha _ _ hjb
      rw [hja]
      cases evalTm d rx a with
      | error f => exact ⟨[], rfl⟩
      | ok va =>
        refine ⟨jb ++ ja ++ (va :: vb :: (R ++ jb ++ ja)).drop ((va :: vb :: (R ++ jb ++ ja)).length - 2), ?_⟩
        show (evalOp d rx o va vb).map _ = (evalOp d rx o va vb).map _
        cases evalOp d rx o va vb <;> simp [Except.map, shift, hc]

theorem evalStack_flattenS (d : Dev) (rx : RxEngine) (t : Tm) : InPlace d rx t := by
  induction t with
  | const v => exact inPlace_leaf d rx v _ rfl rfl
  | path p => exact inPlace_leaf d rx .nothing _ rfl rfl
  | app1 o a iha =>
    -- `flattenS (.app1 o a)` is `flattenS (.app2 o a (.const .null))` by computation
    intro rest R h
    rw [evalTm_app1]
    exact inPlace_app2 d rx o a _ iha (inPlace_leaf d rx .null (.const .null) rfl rfl) rest R h
  | app2 o a b iha ihb => exact inPlace_app2 d rx o a b iha ihb

theorem evalStack_flattenS_head (d : Dev) (rx : RxEngine) (t : Tm) :
    (evalStack d rx (flattenS t)).map (·.headD .null) = evalTm d rx t := by
  obtain ⟨junk, hj⟩ := evalStack_flattenS d rx t [] [] rfl
  rw [List.append_nil] at hj
  rw [hj]
  cases evalTm d rx t <;> rfl

/-- all stacks obtained by replacing every multi-valued cell by one of its values -/
def prod : List RItem → List (List SItem)
  | [] => [[]]
  | .op o :: r => (prod r).map (.op o :: ·)
  | .val v :: r => (prod r).map (.val v :: ·)
  | .multi vs :: r => vs.flatMap fun v => (prod r).map (.val v :: ·)

theorem combos_pos_of_lt (st : List RItem) (mi : Nat) (h : mi < combos st) : 0 < combos st := by omega

theorem expand_length (s : List RItem) : ∀ mi, (expand s mi).length = s.length := by
  induction s with
  | nil => intro mi; rfl
  | cons it r ih => intro mi; cases it <;> simp [expand, ih]

theorem expand_mem_prod (st : List RItem) : ∀ mi, mi < combos st → expand st mi ∈ prod st := by
  induction st with
  | nil => intro mi _; simp [expand, prod]
  | cons it r ih =>
    intro mi h
    cases it with
    | multi vs =>
      simp only [combos] at h
      have hlen : 0 < vs.length := Nat.pos_of_ne_zero fun h0 => by simp [h0] at h
      have hmod : mi % vs.length < vs.length := Nat.mod_lt _ hlen
      have hdiv : mi / vs.length < combos r := Nat.div_lt_of_lt_mul h
      simp only [expand, prod, List.mem_flatMap, List.mem_map]
      refine ⟨vs[mi % vs.length], List.getElem_mem hmod, expand r (mi / vs.length), ih _ hdiv, ?_⟩
      simp [List.getD_eq_getElem?_getD, hmod]
    | _ => simp only [expand, prod, List.mem_map]; exact ⟨_, ih mi (by simpa [combos] using h), rfl⟩

theorem prod_mem_expand (st : List RItem) : ∀ x, x ∈ prod st → ∃ mi, mi < combos st ∧ expand st mi = x := by
  induction st with
  | nil => intro x hx; simp [prod] at hx; subst hx; exact ⟨0, by simp [combos], rfl⟩
  | cons it r ih =>
    intro x hx
    cases it with
    | multi vs =>
      simp only [prod, List.mem_flatMap, List.mem_map] at hx
      obtain ⟨v, hv, y, hy, rfl⟩ := hx
      obtain ⟨mi', h1, h2⟩ := ih y hy
      obtain ⟨i, hi, hvi⟩ := List.getElem_of_mem hv
      refine ⟨i + vs.length * mi', ?_, ?_⟩
      · simp only [combos]
        calc i + vs.length * mi' < vs.length + vs.length * mi' := by omega
          _ = vs.length * (mi' + 1) := by rw [Nat.mul_add, Nat.mul_one, Nat.add_comm]
          _ ≤ vs.length * combos r := Nat.mul_le_mul_left _ h1
      · have hpos : 0 < vs.length := by omega
        have hm : (i + vs.length * mi') % vs.length = i := by
          rw [Nat.add_mul_mod_self_left]; exact Nat.mod_eq_of_lt hi
        have hd : (i + vs.length * mi') / vs.length = mi' := by
          rw [Nat.add_mul_div_left _ _ hpos, Nat.div_eq_of_lt hi, Nat.zero_add]
        simp only [expand, hm, hd, h2]
        simp [List.getD_eq_getElem?_getD, hi, hvi]
    | _ =>
      simp only [prod, List.mem_map] at hx
      obtain ⟨y, hy, rfl⟩ := hx
      obtain ⟨mi, h1, h2⟩ := ih y hy
      exact ⟨mi, by simpa [combos] using h1, by simp [expand, h2]⟩

theorem prod_no_multi (st : List RItem) (h : hasMulti st = false) : prod st = [expand st 0] := by
  induction st with
  | nil => rfl
  | cons it r ih =>
    cases it with
    | multi vs => simp [hasMulti] at h
    | _ => simp only [hasMulti] at h; simp [prod, expand, ih h]

/-- the verdict on one expanded stack -/
def stackTrue (d : Dev) (rx : RxEngine) (x : List SItem) : Bool :=
  match evalStack d rx x with
  | .ok vs => Spec.isTrue (vs.headD .null)
  | .error _ => false

theorem tryCombos_any (d : Dev) (rx : RxEngine) (st : List RItem) :
    ∀ n mi, (∀ k ∈ List.range' mi n, ∃ vs, evalStack d rx (expand st k) = .ok vs) →
      tryCombos d rx st n mi = .ok ((List.range' mi n).any fun k => stackTrue d rx (expand st k)) := by
  intro n
  induction n with
  | zero => intro mi _; rfl
  | succ n ih =>
    intro mi hok
    obtain ⟨vs, hvs⟩ := hok mi (by simp [List.range'_succ])
    have h0 : stackTrue d rx (expand st mi) = Spec.isTrue (vs.headD .null) := by simp [stackTrue, hvs]
    simp only [tryCombos, hvs, List.range'_succ, List.any_cons, h0]
    cases Spec.isTrue (vs.headD .null)
    · simpa using ih (mi + 1) fun k hk => hok k (by simp [List.range'_succ, hk])
    · rfl

theorem matchResolved_any_of_ok (d : Dev) (rx : RxEngine) (st : List RItem) (hne : st ≠ [])
    (hok : ∀ x ∈ prod st, ∃ vs, evalStack d rx x = .ok vs) :
    matchResolved d rx st = .ok ((prod st).any (stackTrue d rx)) := by
  unfold matchResolved
  cases hm : hasMulti st
  · -- no multi-valued operand: one stack
    have hp := prod_no_multi st hm
    simp only [Bool.false_eq_true, ↓reduceIte, hp, List.any_cons, List.any_nil, Bool.or_false]
    obtain ⟨vs, hvs⟩ := hok (expand st 0) (by rw [hp]; simp)
    have hl := evalStack_length d rx _ vs hvs
    rw [expand_length] at hl
    cases vs with
    | nil =>
      simp at hl
      exact absurd (List.eq_nil_of_length_eq_zero hl.symm) hne
    | cons v vs' => simp [hvs, stackTrue]
  · simp only [↓reduceIte]
    rw [tryCombos_any d rx st _ 0 fun k hk => hok _ (expand_mem_prod st k (by simpa using hk)), Except.ok.injEq,
      Bool.eq_iff_iff]
    simp only [List.any_eq_true, List.mem_range'_1, Nat.zero_le, true_and, Nat.zero_add]
    constructor
    · rintro ⟨k, hk, ht⟩
      exact ⟨_, expand_mem_prod st k hk, ht⟩
    · rintro ⟨x, hx, ht⟩
      obtain ⟨mi, h1, h2⟩ := prod_mem_expand st x hx
      exact ⟨mi, h1, by rw [h2]; exact ht⟩

end OjgVerif.Script
