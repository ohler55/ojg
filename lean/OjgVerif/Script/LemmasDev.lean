import OjgVerif.Script.Lemmas
/-! Agreement of every code variant with the specification outside the deviation classes it carries. -/
namespace OjgVerif.Script

theorem toF_exact (d : Dev) (a : Int) (h : d.viaF64 = true → a.natAbs < 2 ^ 53) : d.toF a = .fin a 0 := by
  unfold Dev.toF
  cases hv : d.viaF64
  · rfl
  · exact Flt.ofInt_exact a (h hv)

theorem crossEq_eq_fixed (d : Dev) (o : Op) (ho : isCmp o = true) (l r : Val)
    (h : d.viaF64 = true → bigMixed o l r = false) : crossEq d l r = crossEq Dev.fixed l r := by
  -- an int against a float, in either order: `h` says the int is below 2^53
  cases l <;> first | rfl | (cases r <;> first | rfl | (
    simp only [bigMixed, ho, Bool.true_and, decide_eq_false_iff_not, Nat.not_le] at h
    simp only [crossEq, toF_exact d _ h]; rfl))

theorem ordering_eq_fixed (d : Dev) (o : Op) (ho : isCmp o = true) (fi : Int → Int → Bool) (ff : Flt → Flt → Bool)
    (fs : Bytes → Bytes → Bool) (l r : Val) (h : d.viaF64 = true → bigMixed o l r = false) :
    ordering d fi ff fs l r = ordering Dev.fixed fi ff fs l r := by
  cases l <;> first | rfl | (cases r <;> first | rfl | (
    simp only [bigMixed, ho, Bool.true_and, decide_eq_false_iff_not, Nat.not_le] at h
    simp only [ordering, toF_exact d _ h]; rfl))

theorem ifaceEq_eq_fixed (d : Dev) (l r : Val) (h : d.faultFlag l = true → sameContainer l r = false) :
    ifaceEq d l r = ifaceEq Dev.fixed l r :=
  (ifaceEq_spec d l r h).trans (ifaceEq_fixed l r).symm

/-- outside the three named classes every operator `case` of the model — for ANY combination of
deviations, in particular for the pinned code — computes the specified value -/
theorem evalOp_eq_spec_of (d : Dev) (rx : RxEngine) (o : Op) (l r : Val)
    (hu : d.faultFlag l = true → uncomparablePair o l r = false)
    (hq : d.neqFlt = true → neqFloatCase o l r = false)
    (hv : d.viaF64 = true → bigMixed o l r = false) :
    evalOp d rx o l r = .ok (Spec.evalOp rx o l r) := by
  rw [← evalOp_fixed_eq_spec]
  cases o
  case eq => rw [evalOp_eq_eq, evalOp_eq_eq, ifaceEq_eq_fixed d l r hu, crossEq_eq_fixed d .eq rfl l r hv]
  case neq =>
    rw [evalOp_neq_eq, evalOp_neq_eq, ifaceEq_eq_fixed d l r hu, crossEq_eq_fixed d .neq rfl l r hv,
      Bool.and_eq_false_imp.2 hq]
    rfl
  case lt | gt | lte | gte => exact congrArg Except.ok (ordering_eq_fixed d _ rfl _ _ _ l r hv)
  case «in» =>
    cases r <;> try rfl
    case arr xs => unfold evalOp; simp only [inLoop_spec d l xs hu, inLoop_fixed]
  all_goals rfl

/-- `==` and `!=` answer complementary booleans wherever the comparison does not fault and the operands are not in
a `neqFloatCase` the variant carries -/
theorem eq_neq_complement_of (d : Dev) (rx : RxEngine) (l r : Val) (e : Bool) (he : ifaceEq d l r = .ok e)
    (hq : d.neqFlt = true → neqFloatCase .neq l r = false) :
    ∃ b, evalOp d rx .eq l r = .ok (.bool b) ∧ evalOp d rx .neq l r = .ok (.bool (!b)) := by
  rw [evalOp_eq_eq, evalOp_neq_eq, he, Bool.and_eq_false_imp.2 hq]
  exact ⟨_, rfl, by simp [Except.map]⟩

end OjgVerif.Script
