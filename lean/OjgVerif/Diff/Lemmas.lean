import OjgVerif.Diff.Model
/-! Lemmas about the model of `alt/diff.go` and about the specification's relations.

`diff`, `Match` and the specification's oracles all recurse on a *pair* of trees in lockstep: into
two arrays by index, into two objects by member name, and every other pair is compared on the spot.
`pair_induction` is that recursion as a proof principle and `Mixed` names the pairs it stops at;
each function and relation gets one equation for mixed pairs, and the five theorems that relate the
model or an oracle to the specification's relations (`mem_norm_diffF_fixed`, `equiv_of_no_leafDiff`,
`matchF_iff`, `mem_leafDiffsF`, `fpMatchF_iff`) are instances of the one induction. `diffF_one`,
`diffF_eq_fixed` and `matchF_eq_fixed` compare two runs of the model and hold for every fuel, not only
above the depth: they induct on the fuel alone. The deviations (`Dev`) are handled separately: where
they cannot show, the model equals the model with all of them off (`diffTop_eq_fixed`,
`altMatch_eq_fixed`). -/
namespace OjgVerif.Diff

theorem norm_here : norm here = [] := rfl

theorem norm_addFrag (f : Frag) (hf : f ≠ .wild) (d : Path) : norm (addFrag f d) = f :: norm d := by
  have h1 : ([f] : Path) ≠ here := fun h => hf (List.cons.inj h).1
  have h2 : (f :: d : Path) ≠ here := fun h => hf (List.cons.inj h).1
  unfold addFrag norm
  by_cases h : d = here <;> simp [h, h1, h2]

theorem norm_idx_single (i : Int) : norm [.idx i] = [.idx i] := rfl

/-- some one-fragment ignore path matches `f` -/
def headIgnored (f : Frag) : List Path → Bool
  | [] => false
  | g :: r =>
    (match g with
      | [g0] => fragMatch g0 f
      | _ => false) || headIgnored f r

/-- the tails of the longer ignore paths whose first fragment matches `f` -/
def tailIgnores (f : Frag) : List Path → List Path
  | [] => []
  | g :: r =>
    match g with
    | g0 :: g1 :: t => if fragMatch g0 f then (g1 :: t) :: tailIgnores f r else tailIgnores f r
    | _ => tailIgnores f r

theorem ignoredB_nil_path (ign : List Path) : ignoredB ign [] = false := by
  induction ign with
  | nil => rfl
  | cons g r ih =>
    simp only [ignoredB, List.any_cons] at ih ⊢
    rw [ih]
    cases g <;> rfl

theorem ignoredB_cons (f : Frag) (q : Path) (ign : List Path) :
    ignoredB ign (f :: q) = (headIgnored f ign || ignoredB (tailIgnores f ign) q) := by
  induction ign with
  | nil => rfl
  | cons g r ih =>
    simp only [ignoredB, List.any_cons] at ih ⊢
    rw [ih]
    match g with
    | [] => rfl
    | [g0] => simp [covers, matchPrefix, headIgnored, tailIgnores, Bool.or_assoc]
    | g0 :: g1 :: t =>
      simp only [headIgnored, tailIgnores]
      by_cases h : fragMatch g0 f = true
      · simp [covers, matchPrefix, h, Bool.or_left_comm]
      · simp [covers, matchPrefix, h]

theorem ignoreIndex_eq (i : Nat) (ign : List Path) : ignoreIndex i ign = headIgnored (.idx i) ign := by
  induction ign with
  | nil => rfl
  | cons g r ih =>
    simp only [ignoreIndex, headIgnored, ih]
    congr 1
    match g with
    | [] | [.wild] | [.idx _] | [.key _] => rfl
    | g0 :: _ :: _ => cases g0 <;> rfl

theorem ignoreKey_eq (k : Bytes) (ign : List Path) : ignoreKey k ign = headIgnored (.key k) ign := by
  induction ign with
  | nil => rfl
  | cons g r ih =>
    simp only [ignoreKey, headIgnored, ih]
    congr 1
    match g with
    | [] | [.wild] | [.idx _] | [.key _] => rfl
    | g0 :: _ :: _ => cases g0 <;> rfl

theorem mapChildIgnores_eq (k : Bytes) (ign : List Path) : mapChildIgnores k ign = tailIgnores (.key k) ign := by
  induction ign with
  | nil => rfl
  | cons g r ih =>
    match g with
    | [] | [_] | .wild :: _ :: _ | .idx _ :: _ :: _ => simp [mapChildIgnores, tailIgnores, ih, fragMatch]
    | .key k' :: _ :: _ =>
      by_cases h : k = k'
      · subst h; simp [mapChildIgnores, tailIgnores, ih, fragMatch]
      · simp [mapChildIgnores, tailIgnores, ih, fragMatch, h, Ne.symm h]

theorem arrChildIgnoresAt_eq (i : Nat) (ign : List Path) : arrChildIgnoresAt i ign = tailIgnores (.idx i) ign := by
  induction ign with
  | nil => rfl
  | cons g r ih =>
    match g with
    | [] | [_] | .wild :: _ :: _ | .key _ :: _ :: _ | .idx _ :: _ :: _ =>
      simp [arrChildIgnoresAt, tailIgnores, ih, fragMatch]

theorem AllInts.mono {P Q : Int → Prop} (hpq : ∀ i, P i → Q i) {a : JV} (h : AllInts P a) : AllInts Q a := by
  induction h with
  | int i hi => exact .int i (hpq i hi)
  | arr xs _ ih => exact .arr xs ih
  | obj m _ ih => exact .obj m ih
  | _ => constructor

theorem AllInts.of_int {P : Int → Prop} {i : Int} (h : AllInts P (.int i)) : P i := by
  cases h with | int _ h => exact h

theorem AllInts.mem {P : Int → Prop} {xs : List JV} {x : JV} (h : AllInts P (.arr xs)) (hx : x ∈ xs) : AllInts P x := by
  cases h with | arr _ h => exact h x hx

theorem AllInts.elem {P : Int → Prop} {xs : List JV} {i : Nat} {x : JV}
    (h : AllInts P (.arr xs)) (hx : xs[i]? = some x) : AllInts P x :=
  h.mem (List.mem_of_getElem? hx)

theorem AllInts.member {P : Int → Prop} {m : List (Bytes × JV)} (k : Bytes)
    (h : AllInts P (.obj m)) : AllInts P (member k m) := by
  cases h with
  | obj _ h =>
    induction m with
    | nil => exact AllInts.null
    | cons kv r ih =>
      simp only [Diff.member]
      split
      · exact h kv List.mem_cons_self
      · exact ih fun kv hkv => h kv (List.mem_cons_of_mem _ hkv)

theorem depth_elem : ∀ {xs : List JV} {i : Nat} {x : JV}, xs[i]? = some x → x.depth < (JV.arr xs).depth
  | y :: r, 0, x, h => by
    cases h; simp only [JV.depth, JV.depthList]; omega
  | y :: r, i + 1, x, h => by
    have := depth_elem (xs := r) (i := i) h
    simp only [JV.depth, JV.depthList] at this ⊢; omega

theorem depth_member (k : Bytes) : ∀ (m : List (Bytes × JV)), (member k m).depth < (JV.obj m).depth
  | [] => by simp [member, JV.depth]
  | (k', v) :: r => by
    have := depth_member k r
    simp only [member, JV.depth, JV.depthKvs] at this ⊢
    split <;> omega

theorem member_of_not_mem (k : Bytes) : ∀ (m : List (Bytes × JV)), k ∉ keysOf m → member k m = .null
  | [], _ => rfl
  | (k', v) :: r, h => by
    have h' : ¬ k' = k ∧ k ∉ keysOf r := by simpa [keysOf, eq_comm] using h
    simp only [member, h'.1, if_false]
    exact member_of_not_mem k r h'.2

theorem mem_dedup (k : Bytes) : ∀ (l : List Bytes), k ∈ dedup l ↔ k ∈ l
  | [] => Iff.rfl
  | a :: r => by
    simp only [dedup]
    split
    · rename_i h
      rw [mem_dedup k r, List.mem_cons]
      exact ⟨Or.inr, fun h' => h'.elim (fun e => e ▸ h) id⟩
    · simp [mem_dedup k r]

theorem mem_unionKeys (k : Bytes) (m0 m1 : List (Bytes × JV)) :
    k ∈ unionKeys m0 m1 ↔ k ∈ keysOf m0 ∨ k ∈ keysOf m1 := by
  simp [unionKeys, mem_dedup]

/-- neither two arrays nor two objects: a pair that every function here treats on the spot. (The
two conjuncts are the side conditions of the equations Lean derives for a `match` that ends in a
catch-all after the two container cases.) -/
def Mixed (a b : JV) : Prop :=
  (∀ xs ys, a = .arr xs → b = .arr ys → False) ∧ (∀ m0 m1, a = .obj m0 → b = .obj m1 → False)

theorem pair_cases (a b : JV) :
    (∃ xs ys, a = .arr xs ∧ b = .arr ys) ∨ (∃ m0 m1, a = .obj m0 ∧ b = .obj m1) ∨ Mixed a b := by
  by_cases h1 : ∃ xs ys, a = .arr xs ∧ b = .arr ys
  · exact Or.inl h1
  · by_cases h2 : ∃ m0 m1, a = .obj m0 ∧ b = .obj m1
    · exact Or.inr (Or.inl h2)
    · exact Or.inr (Or.inr ⟨fun xs ys ha hb => h1 ⟨xs, ys, ha, hb⟩, fun m0 m1 ha hb => h2 ⟨m0, m1, ha, hb⟩⟩)

theorem pair_induction {P : Nat → JV → JV → Prop}
    (arr : ∀ n (xs ys : List JV), (∀ (i : Nat) x y, xs[i]? = some x → ys[i]? = some y → P n x y) → P (n + 1) (.arr xs) (.arr ys))
    (obj : ∀ n m0 m1, (∀ k, P n (member k m0) (member k m1)) → P (n + 1) (.obj m0) (.obj m1))
    (mixed : ∀ n a b, Mixed a b → P (n + 1) a b) :
    ∀ n a b, a.depth < n → P n a b := by
  intro n
  induction n with
  | zero => intro a b h; exact absurd h (Nat.not_lt_zero _)
  | succ n ih =>
    intro a b hd
    rcases pair_cases a b with ⟨xs, ys, rfl, rfl⟩ | ⟨m0, m1, rfl, rfl⟩ | h
    · exact arr n xs ys fun i x y hx _ => ih x y (by have := depth_elem hx; omega)
    · exact obj n m0 m1 fun k => ih _ _ (by have := depth_member k m0; omega)
    · exact mixed n a b h

theorem Mixed.clash_eq {a b : JV} (h : Mixed a b) : clash a b = !atomEq a b := by
  rw [clash]; exact h.1; exact h.2

theorem Mixed.leafDiffsF_eq {a b : JV} (h : Mixed a b) (n : Nat) :
    leafDiffsF (n + 1) a b = if clash a b = true then [[]] else [] := by
  rw [leafDiffsF]; exact h.1; exact h.2

theorem Mixed.fpMatchF_eq {f t : JV} (h : Mixed f t) (n : Nat) : fpMatchF (n + 1) f t = atomEq f t := by
  rw [fpMatchF]; exact h.1; exact h.2

theorem Mixed.leafDiff_iff {a b : JV} (h : Mixed a b) (p : Path) : LeafDiff a b p ↔ p = [] ∧ clash a b = true := by
  constructor
  · intro hl
    cases hl with
    | here hc => exact ⟨rfl, hc⟩
    | len _ | elem _ _ _ => exact (h.1 _ _ rfl rfl).elim
    | member _ => exact (h.2 _ _ rfl rfl).elim
  · rintro ⟨rfl, hc⟩
    exact LeafDiff.here hc

theorem Mixed.fpMatch_iff {f t : JV} (h : Mixed f t) : FpMatch f t ↔ atomEq f t = true := by
  constructor
  · intro hm
    cases hm with
    | atom hm => exact hm
    | arr _ _ => exact (h.1 _ _ rfl rfl).elim
    | obj _ => exact (h.2 _ _ rfl rfl).elim
  · exact FpMatch.atom

theorem leafDiff_arr_arr (xs ys : List JV) (p : Path) :
    LeafDiff (.arr xs) (.arr ys) p ↔
      (∃ (i : Nat) (x y : JV) (q : Path), xs[i]? = some x ∧ ys[i]? = some y ∧ LeafDiff x y q ∧ p = .idx i :: q)
      ∨ (xs.length ≠ ys.length ∧ p = [.idx (min xs.length ys.length : Nat)]) := by
  constructor
  · intro h
    cases h with
    | here h => cases h
    | len h => exact Or.inr ⟨h, rfl⟩
    | elem h1 h2 h3 => exact Or.inl ⟨_, _, _, _, h1, h2, h3, rfl⟩
  · rintro (⟨i, x, y, q, h1, h2, h3, rfl⟩ | ⟨h, rfl⟩)
    · exact LeafDiff.elem h1 h2 h3
    · exact LeafDiff.len h

theorem leafDiff_obj_obj (m0 m1 : List (Bytes × JV)) (p : Path) :
    LeafDiff (.obj m0) (.obj m1) p ↔
      ∃ (k : Bytes) (q : Path), LeafDiff (member k m0) (member k m1) q ∧ p = .key k :: q := by
  constructor
  · intro h
    cases h with
    | here h => cases h
    | member h => exact ⟨_, _, h, rfl⟩
  · rintro ⟨k, q, h, rfl⟩
    exact LeafDiff.member h

theorem fpMatch_arr_arr (xs ys : List JV) : FpMatch (.arr xs) (.arr ys) ↔
    xs.length = ys.length ∧ ∀ (i : Nat) (x y : JV), xs[i]? = some x → ys[i]? = some y → FpMatch x y := by
  constructor
  · intro h
    cases h with
    | atom h => cases h
    | arr h1 h2 => exact ⟨h1, h2⟩
  · exact fun h => FpMatch.arr h.1 h.2

theorem fpMatch_obj_obj (m0 m1 : List (Bytes × JV)) : FpMatch (.obj m0) (.obj m1) ↔
    ∀ k, k ∈ keysOf m0 → FpMatch (member k m0) (member k m1) := by
  constructor
  · intro h
    cases h with
    | atom h => cases h
    | obj h1 => exact h1
  · exact FpMatch.obj

theorem key_of_leafDiff {m0 m1 : List (Bytes × JV)} {k : Bytes} {q : Path}
    (h : LeafDiff (member k m0) (member k m1) q) : k ∈ keysOf m0 ∨ k ∈ keysOf m1 := by
  by_cases hk0 : k ∈ keysOf m0
  · exact Or.inl hk0
  · by_cases hk1 : k ∈ keysOf m1
    · exact Or.inr hk1
    · rw [member_of_not_mem k m0 hk0, member_of_not_mem k m1 hk1] at h
      cases h with | here h => cases h

/-- what either loop does with the paths `l` of one child and the result `r` of the rest of the loop
(`mapLoop` is this as it stands) -/
def visit (one : Bool) (l r : List Path) : List Path :=
  if one && !l.isEmpty then l.take 1 else l ++ r

/-- one round of the element loop, the two orders of the length test and the ignore test side by side:
they differ only past the end of `ys` at an ignored index -/
theorem arrLoop_cons (D : Dev) (d : JV → JV → List Path → List Path) (one : Bool) (ign : List Path)
    (ys : List JV) (x : JV) (xs : List JV) (i : Nat) :
    arrLoop D d one ign ys (x :: xs) i =
      match ys[i]? with
      | some y =>
        if ignoreIndex i ign then arrLoop D d one ign ys xs (i + 1)
        else visit one ((d x y (elemIgnores D i ign)).map (addFrag (.idx i))) (arrLoop D d one ign ys xs (i + 1))
      | none =>
        if ignoreIndex i ign then (if D.tailSkip then arrLoop D d one ign ys xs (i + 1) else [])
        else [[.idx i]] := by
  simp only [arrLoop, visit]
  cases D.tailSkip <;> cases ys[i]? <;> cases ignoreIndex i ign <;> rfl

theorem mem_mapLoop (d : JV → JV → List Path → List Path) (ign : List Path) (m0 m1 : List (Bytes × JV)) (p : Path) :
    ∀ ks, p ∈ mapLoop d false ign m0 m1 ks ↔
      ∃ k, k ∈ ks ∧ ignoreKey k ign = false ∧
        ∃ q, q ∈ d (member k m0) (member k m1) (mapChildIgnores k ign) ∧ p = addFrag (.key k) q
  | [] => by simp [mapLoop]
  | k :: ks => by
    simp only [mapLoop, List.mem_cons, or_and_right, exists_or, exists_eq_left, ← mem_mapLoop d ign m0 m1 p ks]
    cases ignoreKey k ign <;> simp [@eq_comm _ p]

theorem exists_zero_or_succ (Q : Nat → Prop) : (∃ j, Q j) ↔ Q 0 ∨ ∃ j, Q (j + 1) :=
  ⟨fun ⟨j, h⟩ => by cases j with | zero => exact Or.inl h | succ j => exact Or.inr ⟨j, h⟩,
    fun h => h.elim (fun h => ⟨0, h⟩) fun ⟨j, h⟩ => ⟨j + 1, h⟩⟩

/-- the loop at counter `i` visits `xs[j]` against `ys[j + i]`. The counter never passes the end of `ys` (the loop
starts at 0 and goes on to `i + 1` only after `ys[i]? = some _`); `i ≤ ys.length` is what makes the counter at which
the loop stops, the end of `xs` or the first `ys[i]? = none`, equal to `min (xs.length + i) ys.length`, where the
specification puts a length mismatch -/
theorem mem_arrLoop (D : Dev) (ht : D.tailSkip = false) (d : JV → JV → List Path → List Path) (ign : List Path)
    (ys : List JV) (p : Path) : ∀ (xs : List JV) (i : Nat), i ≤ ys.length →
    (p ∈ arrLoop D d false ign ys xs i ↔
      (∃ (j : Nat) (x y : JV) (q : Path), xs[j]? = some x ∧ ys[j + i]? = some y ∧
          ignoreIndex (j + i) ign = false ∧ q ∈ d x y (elemIgnores D (j + i) ign) ∧ p = addFrag (.idx (j + i : Nat)) q)
      ∨ (xs.length + i ≠ ys.length ∧ ignoreIndex (min (xs.length + i) ys.length) ign = false ∧
          p = [.idx (min (xs.length + i) ys.length : Nat)]))
  | [], i, hi => by
    simp only [arrLoop, List.length_nil, Nat.zero_add, Nat.min_eq_left hi, List.getElem?_nil, reduceCtorEq, false_and,
      exists_false, false_or]
    split
    · rename_i hc; simp [hc]
    · rename_i hc; simp only [List.not_mem_nil, false_iff]; exact fun h => hc ⟨h.1, h.2.1⟩
  | x :: xs, i, hi => by
    have e : ∀ j, j + (i + 1) = j + 1 + i := fun j => by omega
    rw [arrLoop_cons]
    cases hy : ys[i]? with
    | none =>
      have he : ys.length = i := Nat.le_antisymm (by simpa using hy) hi
      have hm : min ((x :: xs).length + i) ys.length = i := by simp; omega
      have hne : (x :: xs).length + i ≠ ys.length := by simp; omega
      have hno : ∀ j, ys[j + i]? = none := fun j => List.getElem?_eq_none (by omega)
      simp only [hm, ht, hno, Bool.false_eq_true, if_false, hne, ne_eq, not_false_eq_true, true_and]
      cases ignoreIndex i ign <;> simp
    | some y =>
      -- offset 0 is the visit of `x`; the offsets `j + 1` are those of the loop at counter `i + 1`
      have ih := mem_arrLoop D ht d ign ys p xs (i + 1) (List.getElem?_eq_some_iff.1 hy).1
      simp only [e] at ih
      rw [exists_zero_or_succ, or_assoc, List.length_cons]
      simp only [List.getElem?_cons_succ]
      rw [← ih]
      simp only [List.getElem?_cons_zero, Nat.zero_add, hy, Option.some.injEq, exists_and_left, exists_eq_left']
      cases ignoreIndex i ign <;> simp [visit, @eq_comm _ p]

theorem decInt?_iff (d : Dec) (q : Int) : decInt? d = some q ↔ d.m = q * (10 : Int) ^ d.s := by
  have hP0 : (10 : Int) ^ d.s ≠ 0 := Int.ne_of_gt (Int.pow_pos (by decide))
  unfold decInt?
  constructor
  · intro h
    split at h
    · rename_i hc
      cases h
      exact (Int.ediv_mul_cancel (Int.dvd_of_emod_eq_zero hc)).symm
    · cases h
  · intro h
    rw [if_pos (by rw [h]; exact Int.mul_emod_left _ _), h, Int.mul_ediv_cancel _ hP0]

theorem asIntDec_eq_some (d : Dec) (q : Int) : asIntDec d = some q ↔ d.m = q * (10 : Int) ^ d.s ∧ IsInt64 q := by
  rw [← decInt?_iff]
  unfold asIntDec
  cases decInt? d with
  | none => simp
  | some q' =>
    simp only [inInt64, IsInt64, Bool.and_eq_true, decide_eq_true_eq, Option.ite_none_right_eq_some,
      Option.some.injEq]
    constructor
    · rintro ⟨h, rfl⟩; exact ⟨rfl, h⟩
    · rintro ⟨rfl, h⟩; exact ⟨h, rfl⟩

theorem asIntDec_range {d : Dec} {q : Int} (h : asIntDec d = some q) : IsInt64 q :=
  ((asIntDec_eq_some d q).1 h).2

theorem Dec.eq_ofInt_left (i : Int) (d : Dec) : (Dec.ofInt i).eq d = true ↔ d.m = i * (10 : Int) ^ d.s := by
  simp only [Dec.eq, Dec.ofInt, Int.pow_zero, Int.mul_one, beq_iff_eq]
  exact eq_comm

theorem Dec.eq_ofInt_right (d : Dec) (i : Int) : d.eq (Dec.ofInt i) = true ↔ d.m = i * (10 : Int) ^ d.s := by
  simp only [Dec.eq, Dec.ofInt, Int.pow_zero, Int.mul_one, beq_iff_eq]

theorem wrap64_of_lt {i : Int} (h : i < 9223372036854775808) : wrap64 i = i := by
  unfold wrap64; rw [if_neg (by omega)]

theorem floatEqualM_fixed_int (f : Dec) (i : Int) (hi : IsMachineInt i) :
    floatEqualM Dev.fixed f (.int i) = f.eq (Dec.ofInt i) := by
  rw [Bool.eq_iff_iff, Dec.eq_ofInt_right]
  simp only [floatEqualM, Dev.fixed, Bool.not_false, Bool.true_and, isTop]
  by_cases ht : (9223372036854775808 : Int) ≤ i
  · -- the top half of `uint64`: through `uint64(f)`
    simp only [ht, decide_true, if_true, ← decInt?_iff]
    cases decInt? f with
    | none => simp
    | some q =>
      simp only [Bool.and_eq_true, decide_eq_true_eq, beq_iff_eq, Option.some.injEq]
      exact ⟨fun h => h.2, fun h => h.symm ▸ ⟨⟨ht, hi.2⟩, rfl⟩⟩
  · -- an `int64`: through `asInt`
    have hi64 : IsInt64 i := ⟨hi.1, by omega⟩
    simp only [ht, decide_false, Bool.false_eq_true, if_false, wrap64_of_lt hi64.2]
    cases hq : asIntDec f with
    | none =>
      simp only [Bool.false_eq_true, false_iff]
      intro h
      rw [(asIntDec_eq_some f i).2 ⟨h, hi64⟩] at hq; cases hq
    | some q =>
      simp only [beq_iff_eq]
      constructor
      · rintro rfl; exact ((asIntDec_eq_some f q).1 hq).1
      · intro h
        rw [(asIntDec_eq_some f i).2 ⟨h, hi64⟩] at hq
        exact (Option.some.inj hq).symm

theorem intCase_fixed_int (i j : Int) : intCase Dev.fixed i (.int j) = (i == j) := by
  rw [Bool.eq_iff_iff]
  -- in the top half of `uint64` the two are compared as they are; below it `wrap64` is the identity
  simp only [intCase, Dev.fixed, Bool.false_eq_true, if_false, isTop, wrap64, beq_iff_eq]
  by_cases hi : (9223372036854775808 : Int) ≤ i <;> by_cases hj : (9223372036854775808 : Int) ≤ j <;>
    simp [hi, hj] <;> omega

theorem intCase_fixed (i : Int) (hi : IsMachineInt i) (v : JV) : intCase Dev.fixed i v = atomEq (.int i) v := by
  cases v with
  | int j => exact intCase_fixed_int i j
  | flt u =>
    show floatEqualM Dev.fixed (decVal u) (.int i) = _
    rw [floatEqualM_fixed_int _ _ hi, Bool.eq_iff_iff, Dec.eq_ofInt_right]
    simp only [atomEq, Dec.eq_ofInt_left]
  | _ => rfl

theorem fltCase_fixed (t : Bytes) (v : JV) (hv : MachineTree v) :
    fltCase Dev.fixed (decVal t) v = atomEq (.flt t) v := by
  show floatEqualM Dev.fixed (decVal t) v = _
  cases v with
  | int j => exact floatEqualM_fixed_int _ _ hv.of_int
  | _ => rfl

theorem Mixed.diffF_eq {a b : JV} (h : Mixed a b) (D : Dev) (ord : List Bytes → List Bytes) (n : Nat) (one : Bool)
    (ign : List Path) : diffF D ord (n + 1) one a b ign = if matchF D (n + 1) a b = true then [] else [here] := by
  cases a with
  | int _ | flt _ => rfl
  | null => cases b <;> rfl
  | bool _ => cases b with | bool _ => simp only [diffF, matchF, beq_iff_eq] | _ => rfl
  | str _ => cases b with | str _ => simp only [diffF, matchF, beq_iff_eq] | _ => rfl
  | big _ => cases b with | big _ => simp only [diffF, matchF, beq_iff_eq] | _ => rfl
  | num _ => cases b with | num _ => simp only [diffF, matchF, beq_iff_eq] | _ => rfl
  | arr _ =>
    cases b with
    | arr _ => exact (h.1 _ _ rfl rfl).elim
    | _ => rfl
  | obj _ =>
    cases b with
    | obj _ => exact (h.2 _ _ rfl rfl).elim
    | _ => rfl

theorem Mixed.matchF_fixed {f t : JV} (h : Mixed f t) (n : Nat) (hf : MachineTree f) (ht : MachineTree t) :
    matchF Dev.fixed (n + 1) f t = atomEq f t := by
  cases f with
  | int i => exact intCase_fixed i hf.of_int t
  | flt x => exact fltCase_fixed x t ht
  | null | bool _ | str _ | big _ | num _ => cases t <;> rfl
  | arr _ =>
    cases t with
    | arr _ => exact (h.1 _ _ rfl rfl).elim
    | _ => rfl
  | obj _ =>
    cases t with
    | obj _ => exact (h.2 _ _ rfl rfl).elim
    | _ => rfl

theorem Mixed.diffF_fixed {a b : JV} (h : Mixed a b) (ord : List Bytes → List Bytes) (n : Nat) (one : Bool)
    (ign : List Path) (ha : MachineTree a) (hb : MachineTree b) :
    diffF Dev.fixed ord (n + 1) one a b ign = if clash a b = true then [here] else [] := by
  rw [h.diffF_eq, h.matchF_fixed n ha hb, h.clash_eq]
  cases atomEq a b <;> rfl

theorem elemIgnores_fixed (i : Nat) (ign : List Path) : elemIgnores Dev.fixed i ign = tailIgnores (.idx i) ign :=
  arrChildIgnoresAt_eq i ign

/-- the step from a child to its container: the paths `d` returns for the child `f`, prefixed with `f`,
are the unignored leaf differences below `f` -/
theorem mem_child {d : List Path} {x y : JV} {f : Frag} {ign ig : List Path} (hf : f ≠ .wild)
    (hig : ig = tailIgnores f ign) (ih : ∀ q, q ∈ d.map norm ↔ LeafDiff x y q ∧ ignoredB ig q = false) (p : Path) :
    (headIgnored f ign = false ∧ ∃ q0, q0 ∈ d ∧ p = norm (addFrag f q0)) ↔
      ∃ q, LeafDiff x y q ∧ p = f :: q ∧ ignoredB ign p = false := by
  subst hig
  constructor
  · rintro ⟨hh, q0, hq0, rfl⟩
    have := (ih (norm q0)).1 (List.mem_map.2 ⟨q0, hq0, rfl⟩)
    exact ⟨norm q0, this.1, norm_addFrag f hf q0, by rw [norm_addFrag f hf, ignoredB_cons, hh, this.2]; rfl⟩
  · rintro ⟨q, hq, rfl, hig⟩
    rw [ignoredB_cons, Bool.or_eq_false_iff] at hig
    obtain ⟨q0, hq0, rfl⟩ := List.mem_map.1 ((ih q).2 ⟨hq, hig.2⟩)
    exact ⟨hig.1, q0, hq0, (norm_addFrag f hf q0).symm⟩

/-- with every deviation off, the normalised paths of `diffF` are the leaf differences that no ignore
path covers -/
theorem mem_norm_diffF_fixed (ord : List Bytes → List Bytes) (hord : ∀ l k, k ∈ ord l ↔ k ∈ l) :
    ∀ (n : Nat) (a b : JV) (ign : List Path) (p : Path), a.depth < n → MachineTree a → MachineTree b →
      (p ∈ (diffF Dev.fixed ord n false a b ign).map norm ↔ LeafDiff a b p ∧ ignoredB ign p = false) := by
  intro n a b ign p hd
  revert ign p
  refine pair_induction (P := fun n a b => ∀ ign p, MachineTree a → MachineTree b →
    (p ∈ (diffF Dev.fixed ord n false a b ign).map norm ↔ LeafDiff a b p ∧ ignoredB ign p = false))
    ?_ ?_ ?_ n a b hd
  · intro n xs ys ih ign p ha hb
    -- `hloop` says which pairs of elements the loop visits (its second disjunct is the length mismatch), `hstep` turns
    -- the induction hypothesis for one pair into the paths through it; the two directions only compose them
    have hstep := fun (i : Nat) x y (hx : xs[i]? = some x) (hy : ys[i]? = some y) =>
      mem_child (f := .idx i) (by simp) (elemIgnores_fixed i ign)
        (fun q => ih i x y hx hy _ q (ha.elem hx) (hb.elem hy)) p
    have hloop := fun p0 => mem_arrLoop Dev.fixed rfl (diffF Dev.fixed ord n false) ign ys p0 xs 0 (Nat.zero_le _)
    simp only [diffF, List.mem_map, leafDiff_arr_arr]
    constructor
    · rintro ⟨p0, hp0, rfl⟩
      rcases (hloop p0).1 hp0 with
        ⟨i, x, y, q, h1, h2, h3, h4, rfl⟩ | ⟨h1, h2, rfl⟩
      · obtain ⟨q', hq', he, hig⟩ := (hstep i x y h1 h2).1 ⟨ignoreIndex_eq i ign ▸ h3, q, h4, rfl⟩
        exact ⟨Or.inl ⟨i, x, y, q', h1, h2, hq', he⟩, hig⟩
      · refine ⟨Or.inr ⟨h1, rfl⟩, ?_⟩
        rw [norm_idx_single, ignoredB_cons, ← ignoreIndex_eq, h2, ignoredB_nil_path]; rfl
    · rintro ⟨⟨i, x, y, q, h1, h2, h3, rfl⟩ | ⟨h1, rfl⟩, hig⟩
      · obtain ⟨hh, q0, hq0, he⟩ := (hstep i x y h1 h2).2 ⟨q, h3, rfl, hig⟩
        refine ⟨addFrag (.idx i) q0, ?_, he.symm⟩
        exact (hloop _).2 (Or.inl ⟨i, x, y, q0, h1, h2, ignoreIndex_eq i ign ▸ hh, hq0, rfl⟩)
      · rw [ignoredB_cons, ← ignoreIndex_eq, Bool.or_eq_false_iff] at hig
        exact ⟨_, (hloop _).2 (Or.inr ⟨h1, hig.1, rfl⟩), rfl⟩
  · intro n m0 m1 ih ign p ha hb
    have hstep := fun k => mem_child (f := .key k) (by simp) (mapChildIgnores_eq k ign)
      (fun q => ih k _ q (ha.member k) (hb.member k)) p
    simp only [diffF, List.mem_map, leafDiff_obj_obj, mem_mapLoop]
    constructor
    · rintro ⟨p0, ⟨k, _, h2, q, h4, rfl⟩, rfl⟩
      obtain ⟨q', hq', he, hig⟩ := (hstep k).1 ⟨ignoreKey_eq k ign ▸ h2, q, h4, rfl⟩
      exact ⟨⟨k, q', hq', he⟩, hig⟩
    · rintro ⟨⟨k, q, h3, rfl⟩, hig⟩
      obtain ⟨hh, q0, hq0, he⟩ := (hstep k).2 ⟨q, h3, rfl, hig⟩
      refine ⟨addFrag (.key k) q0, ⟨k, ?_, ignoreKey_eq k ign ▸ hh, q0, hq0, rfl⟩, he.symm⟩
      rw [hord, mem_unionKeys]
      exact key_of_leafDiff h3
  · intro n a b hm ign p ha hb
    rw [hm.diffF_fixed ord n false ign ha hb, hm.leafDiff_iff]
    cases hc : clash a b with
    | false => simp
    | true =>
      simp only [if_true, List.map_cons, List.map_nil, norm_here, List.mem_singleton, and_true]
      exact ⟨fun h => ⟨h, h ▸ ignoredB_nil_path ign⟩, fun h => h.1⟩

theorem take_one_append_of_ne_nil {α : Type} (l r : List α) (h : l ≠ []) : (l ++ r).take 1 = l.take 1 := by
  cases l with
  | nil => exact absurd rfl h
  | cons a t => rfl

theorem visit_one (l r1 r0 : List Path) (f : Path → Path) (h : r1 = r0.take 1) :
    visit true ((l.take 1).map f) r1 = (visit false (l.map f) r0).take 1 := by
  cases l with
  | nil => exact h
  | cons a t => rfl

theorem arrLoop_one (D : Dev) (d1 d0 : JV → JV → List Path → List Path)
    (hd : ∀ x y ig, d1 x y ig = (d0 x y ig).take 1) (ign : List Path) (ys : List JV) :
    ∀ (xs : List JV) (i : Nat), arrLoop D d1 true ign ys xs i = (arrLoop D d0 false ign ys xs i).take 1
  | [], i => by
    simp only [arrLoop]
    split <;> rfl
  | x :: xs, i => by
    have ih := arrLoop_one D d1 d0 hd ign ys xs (i + 1)
    simp only [arrLoop_cons, hd]
    cases ys[i]? <;> cases ignoreIndex i ign <;> cases D.tailSkip <;>
      first | rfl | exact ih | exact visit_one _ _ _ _ ih

theorem mapLoop_one (d1 d0 : JV → JV → List Path → List Path)
    (hd : ∀ x y ig, d1 x y ig = (d0 x y ig).take 1) (ign : List Path) (m0 m1 : List (Bytes × JV)) :
    ∀ (ks : List Bytes), mapLoop d1 true ign m0 m1 ks = (mapLoop d0 false ign m0 m1 ks).take 1
  | [] => rfl
  | k :: ks => by
    have ih := mapLoop_one d1 d0 hd ign m0 m1 ks
    simp only [mapLoop, hd]
    cases ignoreKey k ign
    · exact visit_one _ _ _ _ ih
    · exact ih

theorem diffF_one (D : Dev) (ord : List Bytes → List Bytes) :
    ∀ (n : Nat) (a b : JV) (ign : List Path), diffF D ord n true a b ign = (diffF D ord n false a b ign).take 1 := by
  intro n
  induction n with
  | zero => intro a b ign; rfl
  | succ n ih =>
    intro a b ign
    rcases pair_cases a b with ⟨xs, ys, rfl, rfl⟩ | ⟨m0, m1, rfl, rfl⟩ | h
    · exact arrLoop_one D _ _ ih ign ys xs 0
    · exact mapLoop_one _ _ ih ign m0 m1 _
    · rw [h.diffF_eq, h.diffF_eq]
      split <;> rfl

theorem diffTop_one (D : Dev) (ord : List Bytes → List Bytes) (fl : Flavour) (a b : JV) (ign : List Path) :
    diffTop D ord fl true a b ign = (diffTop D ord fl false a b ign).take 1 := by
  cases fl with
  | simple => exact diffF_one D ord _ a b ign
  | gen =>
    simp only [diffTop]
    split
    · exact diffF_one D ord _ a b ign
    · rfl

theorem not_equiv_of_clash {a b : JV} (h : clash a b = true) : ¬ Equiv a b := by
  intro he
  cases he with
  | atom h' =>
    have hm : Mixed a b := ⟨(by rintro _ _ rfl rfl; cases h'), (by rintro _ _ rfl rfl; cases h')⟩
    rw [hm.clash_eq, h'] at h; cases h
  | arr _ _ => cases h
  | obj _ => cases h

theorem equiv_of_no_leafDiff : ∀ (n : Nat) (a b : JV), a.depth < n → (∀ q, ¬ LeafDiff a b q) → Equiv a b := by
  refine pair_induction ?_ ?_ ?_
  · intro n xs ys ih h
    refine Equiv.arr (Classical.byContradiction fun hl => h _ (LeafDiff.len hl)) ?_
    exact fun i x y h1 h2 => ih i x y h1 h2 fun q hq => h _ (LeafDiff.elem h1 h2 hq)
  · intro n m0 m1 ih h
    exact Equiv.obj fun k => ih k fun q hq => h _ (LeafDiff.member hq)
  · intro n a b hm h
    refine Equiv.atom ?_
    cases hc : clash a b with
    | true => exact absurd (LeafDiff.here hc) (h [])
    | false => rw [hm.clash_eq] at hc; simpa using hc

theorem leafDiff_differsAt {a b : JV} {q : Path} (h : LeafDiff a b q) : DiffersAt a b q := by
  induction h with
  | here hc => exact DiffersAt.here (not_equiv_of_clash hc)
  | len hl => exact DiffersAt.extra (Nat.le_refl _) (by omega)
  | elem h1 h2 _ ih => exact DiffersAt.elem h1 h2 ih
  | member _ ih => exact DiffersAt.member ih

theorem differsAt_not_equiv {a b : JV} {p : Path} (h : DiffersAt a b p) : ¬ Equiv a b := by
  induction h with
  | here hn => exact hn
  | extra h1 h2 =>
    intro he
    cases he with
    | atom h' => cases h'
    | arr h3 _ => omega
  | elem h1 h2 _ ih =>
    intro he
    cases he with
    | atom h' => cases h'
    | arr _ h3 => exact ih (h3 _ _ _ h1 h2)
  | member _ ih =>
    intro he
    cases he with
    | atom h' => cases h'
    | obj h3 => exact ih (h3 _)

theorem equiv_iff_no_leafDiff (a b : JV) : Equiv a b ↔ ∀ q, ¬ LeafDiff a b q :=
  ⟨fun he _ hq => differsAt_not_equiv (leafDiff_differsAt hq) he, equiv_of_no_leafDiff (a.depth + 1) a b (Nat.lt_succ_self _)⟩

theorem matchElems_iff (p : JV → JV → Bool) : ∀ (xs ys : List JV), xs.length = ys.length →
    (matchElems p xs ys = true ↔ ∀ (i : Nat) (x y : JV), xs[i]? = some x → ys[i]? = some y → p x y = true)
  | [], [], _ => by simp [matchElems]
  | [], _ :: _, h => by cases h
  | _ :: _, [], h => by cases h
  | x :: xs, y :: ys, h => by
    simp only [matchElems, Bool.and_eq_true, matchElems_iff p xs ys (Nat.succ.inj h)]
    constructor
    · rintro ⟨h0, h1⟩ i x' y' hx hy
      cases i with
      | zero => cases hx; cases hy; exact h0
      | succ i => exact h1 i x' y' hx hy
    · exact fun hh => ⟨hh 0 x y rfl rfl, fun i x' y' hx hy => hh (i + 1) x' y' hx hy⟩

theorem matchF_iff : ∀ (n : Nat) (f t : JV), f.depth < n → MachineTree f → MachineTree t →
    (matchF Dev.fixed n f t = true ↔ FpMatch f t) := by
  refine pair_induction ?_ ?_ ?_
  · intro n xs ys ih hf ht
    simp only [matchF, Bool.and_eq_true, beq_iff_eq, fpMatch_arr_arr]
    refine and_congr_right fun hl => (matchElems_iff _ xs ys hl).trans ?_
    exact forall_congr' fun i => forall_congr' fun x => forall_congr' fun y =>
      imp_congr_right fun hx => imp_congr_right fun hy => ih i x y hx hy (hf.elem hx) (ht.elem hy)
  · intro n m0 m1 ih hf ht
    simp only [matchF, List.all_eq_true, mem_dedup, fpMatch_obj_obj]
    exact forall_congr' fun k => imp_congr_right fun _ => ih k (hf.member k) (ht.member k)
  · intro n f t hm hf ht
    rw [hm.matchF_fixed n hf ht, hm.fpMatch_iff]

theorem mem_tailIgnores {f : Frag} {g' : Path} : ∀ {ign : List Path}, g' ∈ tailIgnores f ign →
    ∃ g0 g1 t, g' = g1 :: t ∧ g0 :: g1 :: t ∈ ign
  | g :: r, h => by
    have ih : g' ∈ tailIgnores f r → ∃ g0 g1 t, g' = g1 :: t ∧ g0 :: g1 :: t ∈ g :: r := fun h' =>
      let ⟨g0, g1, t, e, hm⟩ := mem_tailIgnores h'
      ⟨g0, g1, t, e, List.mem_cons_of_mem _ hm⟩
    unfold tailIgnores at h
    split at h
    · split at h
      · rcases List.mem_cons.1 h with e | e
        · exact ⟨_, _, _, e, List.mem_cons_self⟩
        · exact ih e
      · exact ih h
    · exact ih h

theorem NoInnerIdx.tail {ign : List Path} (h : NoInnerIdx ign) (f : Frag) : NoInnerIdx (tailIgnores f ign) := by
  intro g' hg'
  obtain ⟨g0, g1, t, rfl, hm⟩ := mem_tailIgnores hg'
  have := h _ hm
  simp only [innerIdxFree, Bool.and_eq_true] at this
  exact this.2

theorem NoFinalIdx.tail {ign : List Path} (h : NoFinalIdx ign) (f : Frag) : NoFinalIdx (tailIgnores f ign) := by
  intro g' hg'
  obtain ⟨g0, g1, t, rfl, hm⟩ := mem_tailIgnores hg'
  exact h (g0 :: g1 :: t) hm

theorem tailIgnores_length_le (f : Frag) : ∀ (ign : List Path), (tailIgnores f ign).length ≤ (ign.filter isLong).length
  | [] => Nat.le_refl _
  | g :: r => by
    have ih := tailIgnores_length_le f r
    match g with
    | [] | [_] => exact ih
    | a :: b :: t =>
      simp only [tailIgnores, List.filter_cons, isLong, if_true, List.length_cons]
      split
      · exact Nat.succ_le_succ ih
      · exact Nat.le_succ_of_le ih

theorem AtMostOneLong.tail {ign : List Path} (h : AtMostOneLong ign) (f : Frag) : AtMostOneLong (tailIgnores f ign) := by
  refine ⟨?_, ?_⟩
  · have h1 := tailIgnores_length_le f ign
    have h2 := List.length_filter_le isLong (tailIgnores f ign)
    have := h.1
    omega
  · intro g' hg'
    obtain ⟨g0, g1, t, rfl, hm⟩ := mem_tailIgnores hg'
    have := h.2 _ hm
    simp only [innerIdxNonneg, Bool.and_eq_true] at this
    exact this.2

theorem IdxSafe.tail {ign : List Path} (h : IdxSafe ign) (f : Frag) : IdxSafe (tailIgnores f ign) :=
  h.imp (·.tail f) (·.tail f)

theorem arr_fns_of_noInner (i : Nat) : ∀ (ign : List Path) (ii : Int), NoInnerIdx ign →
    arrLastIndex ign ii = ii ∧ arrChildIgnores ign = arrChildIgnoresAt i ign
  | [], _, _ => ⟨rfl, rfl⟩
  | g :: r, ii, h => by
    have ih := arr_fns_of_noInner i r ii fun g' hg' => h g' (List.mem_cons_of_mem _ hg')
    match g, h g List.mem_cons_self with
    | [], _ | [_], _ | .key _ :: _ :: _, _ => simpa only [arrLastIndex, arrChildIgnores, arrChildIgnoresAt] using ih
    | .wild :: _ :: _, _ => exact ⟨ih.1, congrArg (_ :: ·) ih.2⟩
    | .idx _ :: _ :: _, hg => cases hg

theorem arr_fns_of_noLong : ∀ (r : List Path), (r.filter isLong).length = 0 →
    (∀ ii, arrLastIndex r ii = ii) ∧ arrChildIgnores r = [] ∧ ∀ i, arrChildIgnoresAt i r = []
  | [], _ => ⟨fun _ => rfl, rfl, fun _ => rfl⟩
  | g :: r, h => by
    match g, h with
    | [], h | [_], h => simpa only [arrLastIndex, arrChildIgnores, arrChildIgnoresAt] using arr_fns_of_noLong r h
    | _ :: _ :: _, h => cases h

theorem elemIgnores_lastIndex_of_oneLong (i : Nat) : ∀ (ign : List Path), AtMostOneLong ign →
    (if arrLastIndex ign (-1) = (i : Int) ∨ arrLastIndex ign (-1) < 0 then arrChildIgnores ign else [])
      = arrChildIgnoresAt i ign
  | [], _ => by simp [arrLastIndex, arrChildIgnores, arrChildIgnoresAt]
  | g :: r, h => by
    match g, h with
    | [], h | [_], h =>
      simp only [arrLastIndex, arrChildIgnores, arrChildIgnoresAt]
      exact elemIgnores_lastIndex_of_oneLong i r ⟨h.1, fun g' hg' => h.2 g' (List.mem_cons_of_mem _ hg')⟩
    | g0 :: g1 :: t, h =>
      -- the one long path is found: the rest has none
      obtain ⟨e1, e2, e3⟩ := arr_fns_of_noLong r (Nat.le_zero.1 (Nat.le_of_succ_le_succ h.1))
      have hn := h.2 _ List.mem_cons_self
      cases g0 with
      | wild | key _ => simp [arrLastIndex, arrChildIgnores, arrChildIgnoresAt, e1, e2, e3]
      | idx j =>
        simp only [innerIdxNonneg, Bool.and_eq_true, decide_eq_true_eq] at hn
        have hj : ¬ j < 0 := by omega
        simp only [arrLastIndex, arrChildIgnores, arrChildIgnoresAt, e1, e2, e3, hj, or_false]

/-- Either disjunct of `IdxSafe` hides the `lastIndex` deviation. With the flag on, element `i` is handed the tails
of ALL long wildcard and index paths (`arrChildIgnores`) if `ii`, the index of the last long index path, is `i` or
negative, and nothing otherwise. Without a long index path (`NoInnerIdx`) `ii` stays `-1` and `arrChildIgnores` holds
wildcard tails only, as `arrChildIgnoresAt i` does. With at most one long path (`AtMostOneLong`): if it starts with an
index `j ≥ 0` then `ii = j` and its tail goes to element `j` alone; if not, `ii = -1` and its tail goes to every
element (wildcard) or is in neither list (name). A negative `j` is read as "no index" and would send the tail to
every element: hence `innerIdxNonneg`. -/
theorem elemIgnores_eq (D : Dev) (i : Nat) (ign : List Path) (h : D.lastIndex = true → IdxSafe ign) :
    elemIgnores D i ign = tailIgnores (.idx i) ign := by
  rw [← arrChildIgnoresAt_eq]
  unfold elemIgnores
  cases hl : D.lastIndex with
  | false => rfl
  | true =>
    rcases h hl with hn | hn
    · rw [(arr_fns_of_noInner i ign (-1) hn).1, (arr_fns_of_noInner i ign (-1) hn).2]
      rfl
    · exact elemIgnores_lastIndex_of_oneLong i ign hn

theorem ignoreIndex_all_of_noFinal (i j : Nat) : ∀ (ign : List Path), NoFinalIdx ign →
    ignoreIndex i ign = true → ignoreIndex j ign = true
  | g :: r, hn, h => by
    simp only [ignoreIndex, Bool.or_eq_true] at h ⊢
    rcases h with h | h
    · left
      match g, hn g List.mem_cons_self, h with
      | [.wild], _, _ => rfl
      | [.idx _], hg, _ => cases hg
    · exact Or.inr (ignoreIndex_all_of_noFinal i j r (fun g' hg' => hn g' (List.mem_cons_of_mem _ hg')) h)

theorem arrLoop_all_ignored (D : Dev) (ht : D.tailSkip = true) (d : JV → JV → List Path → List Path) (one : Bool)
    (ign : List Path) (ys : List JV) (h : ∀ j, ignoreIndex j ign = true) :
    ∀ (xs : List JV) (i : Nat), arrLoop D d one ign ys xs i = []
  | [], i => by simp [arrLoop, h i]
  | x :: xs, i => by
    simp only [arrLoop, ht, if_true, h i]
    exact arrLoop_all_ignored D ht d one ign ys h xs (i + 1)

theorem arrLoop_congr (D : Dev) (d d' : JV → JV → List Path → List Path) (one : Bool) (ign : List Path) (ys : List JV)
    (h1 : D.lastIndex = true → IdxSafe ign) (h2 : D.tailSkip = true → NoFinalIdx ign) :
    ∀ (xs : List JV) (i : Nat),
      (∀ x y i, x ∈ xs → y ∈ ys → d x y (tailIgnores (.idx i) ign) = d' x y (tailIgnores (.idx i) ign)) →
      arrLoop D d one ign ys xs i = arrLoop Dev.fixed d' one ign ys xs i
  | [], i, _ => rfl
  | x :: xs, i, hd' => by
    have ih := arrLoop_congr D d d' one ign ys h1 h2 xs (i + 1)
      (fun x' y i hx' hy => hd' x' y i (List.mem_cons_of_mem _ hx') hy)
    simp only [arrLoop_cons, elemIgnores_eq D i ign h1, elemIgnores_fixed, ih]
    cases hy : ys[i]? with
    | some y => simp only [hd' x y i List.mem_cons_self (List.mem_of_getElem? hy)]
    | none =>
      -- past the end of `ys` at an ignored index: an ignore set without a final index that ignores one
      -- index ignores them all, and the rest of the loop is empty either way
      cases hig : ignoreIndex i ign with
      | false => rfl
      | true =>
        cases ht : D.tailSkip with
        | false => rfl
        | true =>
          rw [← ih]
          exact arrLoop_all_ignored D ht d one ign ys (fun j => ignoreIndex_all_of_noFinal i j ign (h2 ht) hig) xs (i + 1)

theorem mapLoop_congr (d d' : JV → JV → List Path → List Path) (one : Bool) (ign : List Path) (m0 m1 : List (Bytes × JV))
    (hd : ∀ k, d (member k m0) (member k m1) (tailIgnores (.key k) ign) = d' (member k m0) (member k m1) (tailIgnores (.key k) ign)) :
    ∀ (ks : List Bytes), mapLoop d one ign m0 m1 ks = mapLoop d' one ign m0 m1 ks
  | [] => rfl
  | k :: ks => by
    simp only [mapLoop, mapChildIgnores_eq, hd k, mapLoop_congr d d' one ign m0 m1 hd ks]

theorem roundF64_exact {i : Int} (h : IsFloatExact i) : roundF64 i = i := by
  unfold roundF64
  exact if_pos h

theorem machine_of_floatExact {j : Int} (h : IsFloatExact j) : IsMachineInt j := by
  have h' : j.natAbs < 2 ^ 53 := h
  constructor <;> omega

theorem isTop_of_int64 {i : Int} (h : IsInt64 i) : isTop i = false :=
  decide_eq_false (Int.not_le.2 h.2)

theorem floatEqualM_eq (D : Dev) (f : Dec) (v : JV) (hu : D.uintWrap = true → Int64Tree v) :
    floatEqualM D f v = floatEqualM Dev.fixed f v := by
  cases v with
  | int j =>
    cases hw : D.uintWrap with
    | false => simp [floatEqualM, hw, Dev.fixed]
    | true => simp [floatEqualM, hw, Dev.fixed, isTop_of_int64 (hu hw).of_int]
  | _ => rfl

theorem intCase_eq (D : Dev) (i : Int) (v : JV) (hu : D.uintWrap = true → IsInt64 i ∧ Int64Tree v) :
    intCase D i v = intCase Dev.fixed i v := by
  cases hw : D.uintWrap with
  | false =>
    cases v with
    | flt u => simpa [intCase, hw, Dev.fixed] using floatEqualM_eq D _ _ (fun h => absurd h (by simp [hw]))
    | _ => simp [intCase, hw, Dev.fixed]
  | true =>
    obtain ⟨hi, hv⟩ := hu hw
    cases v with
    | int j => simp [intCase, hw, Dev.fixed, asInt, isTop_of_int64 hi, isTop_of_int64 hv.of_int]
    | flt u =>
      simp only [intCase, hw, if_true, Dev.fixed, Bool.false_eq_true, if_false, asInt, floatEqualM, Bool.not_false,
        Bool.true_and, isTop_of_int64 hi]
      cases asIntDec (decVal u) with
      | none => rfl
      | some q => exact Bool.beq_comm
    | _ => simp [intCase, hw, Dev.fixed, asInt]

/-- `floatRound` shows only where a float on the left meets an integer on the right: that integer goes through
`float64(int)` (`asFloat`, `roundF64`), which is exact below 2^53. An integer on the left is compared through
`asInt` (`intCase`) and never rounded, so the `*_eq_fixed` theorems ask `IsFloatExact` of the right tree only, while
`uintWrap` reinterprets integers on either side and asks `Int64Tree` of both. -/
theorem fltCase_eq (D : Dev) (f : Dec) (v : JV) (hf : D.floatRound = true → AllInts IsFloatExact v)
    (hu : D.uintWrap = true → Int64Tree v) : fltCase D f v = fltCase Dev.fixed f v := by
  show _ = floatEqualM Dev.fixed f v
  cases hr : D.floatRound with
  | false =>
    simp only [fltCase, hr, Bool.false_eq_true, if_false]
    exact floatEqualM_eq D f v hu
  | true =>
    simp only [fltCase, hr, if_true]
    cases v with
    | int j =>
      have hj : IsFloatExact j := (hf hr).of_int
      rw [floatEqualM_fixed_int _ _ (machine_of_floatExact hj)]
      simp [asFloat, roundF64_exact hj, Dec.ofInt]
    | _ => rfl

/-- the hypotheses are the fields `idx`, `tail`, `flt`, `wrap` of `C19.Clear`; its `gen` is about the roots and
enters at `diffTop_eq_fixed` -/
theorem diffF_eq_fixed (D : Dev) (ord : List Bytes → List Bytes) :
    ∀ (n : Nat) (one : Bool) (a b : JV) (ign : List Path),
      (D.lastIndex = true → IdxSafe ign) → (D.tailSkip = true → NoFinalIdx ign) →
      (D.floatRound = true → AllInts IsFloatExact b) →
      (D.uintWrap = true → Int64Tree a ∧ Int64Tree b) →
      diffF D ord n one a b ign = diffF Dev.fixed ord n one a b ign := by
  intro n
  induction n with
  | zero => intros; rfl
  | succ n ih =>
    intro one a b ign hidx htail hflt hwrap
    cases a with
    | int i =>
      simp only [diffF]
      rw [intCase_eq D i b (fun h => ⟨(hwrap h).1.of_int, (hwrap h).2⟩)]
    | flt t =>
      simp only [diffF]
      rw [fltCase_eq D _ b hflt (fun h => (hwrap h).2)]
    | arr xs =>
      cases b with
      | arr ys =>
        refine arrLoop_congr D _ _ one ign ys hidx htail xs 0 fun x y i hx hy => ?_
        exact ih one x y _ (fun h => (hidx h).tail _) (fun h => (htail h).tail _) (fun h => (hflt h).mem hy)
          (fun h => ⟨(hwrap h).1.mem hx, (hwrap h).2.mem hy⟩)
      | _ => rfl
    | obj m0 =>
      cases b with
      | obj m1 =>
        refine mapLoop_congr _ _ one ign m0 m1 (fun k => ?_) _
        exact ih one _ _ _ (fun h => (hidx h).tail _) (fun h => (htail h).tail _) (fun h => (hflt h).member k)
          (fun h => ⟨(hwrap h).1.member k, (hwrap h).2.member k⟩)
      | _ => rfl
    | _ => rfl

theorem matchElems_congr (p p' : JV → JV → Bool) : ∀ (xs ys : List JV), (∀ x y, x ∈ xs → y ∈ ys → p x y = p' x y) →
    matchElems p xs ys = matchElems p' xs ys
  | [], _, _ => by simp [matchElems]
  | _ :: _, [], _ => by simp [matchElems]
  | x :: xs, y :: ys, h => by
    simp only [matchElems, h x y List.mem_cons_self List.mem_cons_self,
      matchElems_congr p p' xs ys (fun x' y' hx' hy' => h x' y' (List.mem_cons_of_mem _ hx') (List.mem_cons_of_mem _ hy'))]

theorem matchF_eq_fixed (D : Dev) : ∀ (n : Nat) (f t : JV), (D.floatRound = true → AllInts IsFloatExact t) →
    (D.uintWrap = true → Int64Tree f ∧ Int64Tree t) →
    matchF D n f t = matchF Dev.fixed n f t := by
  intro n
  induction n with
  | zero => intros; rfl
  | succ n ih =>
    intro f t hflt hwrap
    cases f with
    | int i => exact intCase_eq D i t (fun h => ⟨(hwrap h).1.of_int, (hwrap h).2⟩)
    | flt x => exact fltCase_eq D _ t hflt (fun h => (hwrap h).2)
    | arr xs =>
      cases t with
      | arr ys =>
        simp only [matchF]
        rw [matchElems_congr _ _ xs ys (fun x y hx hy => ih x y (fun h => (hflt h).mem hy)
          (fun h => ⟨(hwrap h).1.mem hx, (hwrap h).2.mem hy⟩))]
      | _ => rfl
    | obj m0 =>
      cases t with
      | obj m1 =>
        simp only [matchF]
        congr 1
        funext k
        exact ih _ _ (fun h => (hflt h).member k) (fun h => ⟨(hwrap h).1.member k, (hwrap h).2.member k⟩)
      | _ => rfl
    | _ => rfl

theorem matchF_false_of_kinds (n : Nat) {f t : JV} (h1 : sameGoType f t = false) (h2 : numKindMix f t = false) :
    matchF Dev.fixed (n + 1) f t = false := by
  cases f <;> cases t <;> first | rfl | exact Bool.noConfusion h1 | exact Bool.noConfusion h2

theorem kinds_of_gate {D : Dev} {a b : JV} (hg : genGate D a b = false) (hm : D.genRoot = true → numKindMix a b = false) :
    sameGoType a b = false ∧ numKindMix a b = false := by
  cases a with
  | null => cases hg
  | int _ | flt _ =>
    simp only [genGate, Bool.or_eq_false_iff, Bool.not_eq_false'] at hg
    exact ⟨hg.2, hm hg.1⟩
  | _ => exact ⟨hg, rfl⟩

theorem mixed_of_kinds {a b : JV} (h : sameGoType a b = false) : Mixed a b :=
  ⟨(by rintro _ _ rfl rfl; cases h), (by rintro _ _ rfl rfl; cases h)⟩

theorem matchF_false_of_gate (D : Dev) (n : Nat) (f t : JV)
    (hg : genGate D f t = false) (hm : D.genRoot = true → numKindMix f t = false) :
    matchF Dev.fixed (n + 1) f t = false :=
  matchF_false_of_kinds n (kinds_of_gate hg hm).1 (kinds_of_gate hg hm).2

theorem diffF_here_of_gate (D : Dev) (ord : List Bytes → List Bytes) (n : Nat) (one : Bool) (a b : JV) (ign : List Path)
    (hg : genGate D a b = false) (hm : D.genRoot = true → numKindMix a b = false) :
    diffF Dev.fixed ord (n + 1) one a b ign = [here] := by
  rw [(mixed_of_kinds (kinds_of_gate hg hm).1).diffF_eq, matchF_false_of_gate D n a b hg hm]
  rfl

/-- away from the named exclusions the model under any `D` computes what the model with every deviation
off computes on plain data -/
theorem diffTop_eq_fixed (D : Dev) (ord : List Bytes → List Bytes) (fl : Flavour) (one : Bool) (a b : JV) (ign : List Path)
    (h1 : D.lastIndex = true → IdxSafe ign) (h2 : D.tailSkip = true → NoFinalIdx ign)
    (h3 : D.floatRound = true → AllInts IsFloatExact b)
    (h4 : D.genRoot = true → fl = .gen → numKindMix a b = false)
    (h5 : D.uintWrap = true → Int64Tree a ∧ Int64Tree b) :
    diffTop D ord fl one a b ign = diffTop Dev.fixed ord .simple one a b ign := by
  cases fl with
  | simple => exact diffF_eq_fixed D ord _ one a b ign h1 h2 h3 h5
  | gen =>
    simp only [diffTop]
    cases hg : genGate D a b with
    | true => exact diffF_eq_fixed D ord _ one a b ign h1 h2 h3 h5
    | false => exact (diffF_here_of_gate D ord _ one a b ign hg (fun h => h4 h rfl)).symm

theorem altMatch_eq_fixed (D : Dev) (fl : Flavour) (f t : JV)
    (h3 : D.floatRound = true → AllInts IsFloatExact t)
    (h4 : D.genRoot = true → fl = .gen → numKindMix f t = false)
    (h5 : D.uintWrap = true → Int64Tree f ∧ Int64Tree t) :
    altMatch D fl f t = altMatch Dev.fixed .simple f t := by
  cases fl with
  | simple => exact matchF_eq_fixed D _ f t h3 h5
  | gen =>
    simp only [altMatch]
    cases hg : genGate D f t with
    | true => exact matchF_eq_fixed D _ f t h3 h5
    | false => exact (matchF_false_of_gate D _ f t hg (fun h => h4 h rfl)).symm

theorem getElem?_getD {xs : List JV} {i : Nat} (h : i < xs.length) : xs[i]? = some (xs.getD i .null) := by
  simp [List.getD, List.getElem?_eq_getElem h]

theorem getD_of_getElem? {xs : List JV} {i : Nat} {x : JV} (h : xs[i]? = some x) : xs.getD i .null = x := by
  simp [List.getD, h]

theorem mem_leafDiffsF : ∀ (n : Nat) (a b : JV) (p : Path), a.depth < n → (p ∈ leafDiffsF n a b ↔ LeafDiff a b p) := by
  intro n a b p hd
  revert p
  refine pair_induction (P := fun n a b => ∀ p, p ∈ leafDiffsF n a b ↔ LeafDiff a b p) ?_ ?_ ?_ n a b hd
  · intro n xs ys ih p
    simp only [leafDiff_arr_arr, leafDiffsF, List.mem_append, List.mem_flatMap, List.mem_range, List.mem_map]
    refine or_congr ⟨?_, ?_⟩ (by split <;> simp [*])
    · rintro ⟨i, hi, q, hq, rfl⟩
      have hx := getElem?_getD (Nat.lt_of_lt_of_le hi (Nat.min_le_left _ _))
      have hy := getElem?_getD (Nat.lt_of_lt_of_le hi (Nat.min_le_right _ _))
      exact ⟨i, _, _, q, hx, hy, (ih i _ _ hx hy q).1 hq, rfl⟩
    · rintro ⟨i, x, y, q, hx, hy, hq, rfl⟩
      refine ⟨i, Nat.lt_min.2 ⟨(List.getElem?_eq_some_iff.1 hx).1, (List.getElem?_eq_some_iff.1 hy).1⟩, q, ?_, rfl⟩
      rw [getD_of_getElem? hx, getD_of_getElem? hy]
      exact (ih i x y hx hy q).2 hq
  · intro n m0 m1 ih p
    simp only [leafDiff_obj_obj, leafDiffsF, List.mem_flatMap, List.mem_append, List.mem_map]
    constructor
    · rintro ⟨k, _, q, hq, rfl⟩
      exact ⟨k, q, (ih k q).1 hq, rfl⟩
    · rintro ⟨k, q, hq, rfl⟩
      exact ⟨k, key_of_leafDiff hq, q, (ih k q).2 hq, rfl⟩
  · intro n a b hm p
    rw [hm.leafDiffsF_eq, hm.leafDiff_iff]
    cases clash a b <;> simp

theorem mem_leafDiffs (a b : JV) (p : Path) : p ∈ leafDiffs a b ↔ LeafDiff a b p :=
  mem_leafDiffsF _ a b p (Nat.lt_succ_self _)

theorem mem_specDiffs (a b : JV) (ign : List Path) (p : Path) :
    p ∈ specDiffs a b ign ↔ LeafDiff a b p ∧ ¬ Ignored ign p := by
  simp [specDiffs, mem_leafDiffs, Ignored]

theorem fpMatchF_iff : ∀ (n : Nat) (f t : JV), f.depth < n → (fpMatchF n f t = true ↔ FpMatch f t) := by
  refine pair_induction ?_ ?_ ?_
  · intro n xs ys ih
    simp only [fpMatch_arr_arr, fpMatchF, Bool.and_eq_true, beq_iff_eq, List.all_eq_true, List.mem_range]
    refine and_congr_right fun hl => ⟨fun h i x y hx hy => ?_, fun h i hi => ?_⟩
    · have := h i (List.getElem?_eq_some_iff.1 hx).1
      rw [getD_of_getElem? hx, getD_of_getElem? hy] at this
      exact (ih i x y hx hy).1 this
    · have hx := getElem?_getD hi
      have hy := getElem?_getD (hl ▸ hi)
      exact (ih i _ _ hx hy).2 (h i _ _ hx hy)
  · intro n m0 m1 ih
    simp only [fpMatch_obj_obj, fpMatchF, List.all_eq_true]
    exact forall_congr' fun k => imp_congr_right fun _ => ih k
  · intro n f t hm
    rw [hm.fpMatchF_eq, hm.fpMatch_iff]

theorem fpMatchB_iff (f t : JV) : fpMatchB f t = true ↔ FpMatch f t :=
  fpMatchF_iff _ f t (Nat.lt_succ_self _)

end OjgVerif.Diff
