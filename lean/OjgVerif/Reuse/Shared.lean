/-! # Shared read-only objects (C08, model level)

C08 lets callers SHARE objects that were built beforehand — a parsed `jp.Expr` / `Filter` / `Script`,
a `Recomposer` whose types are registered, a compiled `asm.Plan`, an `ojg.Options` — and use them at
the same time, each on its OWN data. The clause of the atomic-step model: an evaluator step READS
the shared object and the caller's data and WRITES only state that belongs to the calling goroutine.

An entry point is modelled by what it does to the shared object and to the caller's state:
`run : O → D → L → O × L` (`O` the shared object, `D` the caller's data, `L` the goroutine's own
state, results included). It is *read-only* if the object component comes back unchanged. A
schedule is any list of calls `(goroutine, entry point, data)` — every interleaving of the
goroutines' calls, each call one indivisible step (what happens INSIDE a step of the compiled code
is not in this model: the race detector run of the harness looks at that).

Two entry points of the library are NOT read-only when a line of the source is changed (seeded changes
C08-m7, a filter rooted in place, and C08-m8, a registry entry reassigned on look-up): each is given as an
`Entry` of this model and then closer to the Go code (slices with their backing array, the registry map). The
registry model also shows what the UNCHANGED look-up does on a type that was not registered: it writes
(`lookup_unregistered_writes`): the clause needs its "registered beforehand". -/
namespace OjgVerif.Reuse.Shared

structure Entry (O D L : Type) where
  run : O → D → L → O × L

def Entry.ReadOnly {O D L : Type} (e : Entry O D L) : Prop := ∀ o d l, (e.run o d l).1 = o

/-- one call: which goroutine, which entry point, on which caller-owned data -/
structure Call (O D L : Type) where
  g : Nat
  e : Entry O D L
  d : D

/-- the shared object and every goroutine's own state -/
structure St (O L : Type) where
  obj : O
  loc : Nat → L

def step {O D L : Type} (σ : St O L) (c : Call O D L) : St O L :=
  { obj := (c.e.run σ.obj c.d (σ.loc c.g)).1
    loc := fun g => if g = c.g then (c.e.run σ.obj c.d (σ.loc c.g)).2 else σ.loc g }

/-- a schedule: the calls in the order in which their (atomic) steps happen -/
def exec {O D L : Type} (σ : St O L) (cs : List (Call O D L)) : St O L := cs.foldl step σ

@[simp] theorem exec_nil {O D L : Type} (σ : St O L) : exec σ ([] : List (Call O D L)) = σ := rfl
@[simp] theorem exec_cons {O D L : Type} (σ : St O L) (c : Call O D L) (cs : List (Call O D L)) :
    exec σ (c :: cs) = exec (step σ c) cs := rfl

theorem step_obj_of_readOnly {O D L : Type} (σ : St O L) (c : Call O D L) (h : c.e.ReadOnly) :
    (step σ c).obj = σ.obj := h _ _ _

/-- **shared objects are unwritten**: after any schedule of read-only entry points the object is what it was -/
theorem shared_unwritten {O D L : Type} (cs : List (Call O D L)) (h : ∀ c ∈ cs, c.e.ReadOnly) (σ : St O L) :
    (exec σ cs).obj = σ.obj := by
  induction cs generalizing σ with
  | nil => rfl
  | cons c cs ih =>
    rw [exec_cons, ih (fun c' hc' => h c' (List.mem_cons_of_mem _ hc'))]
    exact step_obj_of_readOnly σ c (h c (List.mem_cons_self ..))

/-- the induction needs two start states; they agree on the object and on goroutine `g` -/
private theorem exec_loc_congr {O D L : Type} (g : Nat) (cs : List (Call O D L)) (h : ∀ c ∈ cs, c.e.ReadOnly)
    (σ τ : St O L) (ho : σ.obj = τ.obj) (hl : σ.loc g = τ.loc g) :
    (exec σ cs).loc g = (exec τ (cs.filter fun c => c.g = g)).loc g := by
  induction cs generalizing σ τ with
  | nil => exact hl
  | cons c cs ih =>
    have hc : c.e.ReadOnly := h c (List.mem_cons_self ..)
    have hcs : ∀ c' ∈ cs, c'.e.ReadOnly := fun c' hc' => h c' (List.mem_cons_of_mem _ hc')
    rw [exec_cons, List.filter_cons]
    split
    · rename_i hg
      rw [exec_cons]
      refine ih hcs _ _ (by rw [step_obj_of_readOnly σ c hc, step_obj_of_readOnly τ c hc, ho]) ?_
      simp [step, ho, hl, of_decide_eq_true hg]
    · rename_i hg
      refine ih hcs _ _ (by rw [step_obj_of_readOnly σ c hc, ho]) ?_
      have : g ≠ c.g := fun e => hg (decide_eq_true e.symm)
      simp [step, this, hl]

/-- **each call returns what it returns when run alone**: after any schedule of read-only entry points
goroutine `g`'s state is what its own calls, in their order, give on the object as it was built —
the other goroutines' calls (whatever entry point, whatever data, wherever interleaved) do not show -/
theorem results_alone {O D L : Type} (cs : List (Call O D L)) (h : ∀ c ∈ cs, c.e.ReadOnly) (σ : St O L) (g : Nat) :
    (exec σ cs).loc g = (exec σ (cs.filter fun c => c.g = g)).loc g :=
  exec_loc_congr g cs h σ σ rfl rfl

/-! The shared object is reduced to the one thing that matters: the document the `$` of its filter is
bound to (`none` = unbound: `rootOr` takes the caller's document). `get` evaluates `$` against
`rootOr`; `locateInPlace` is Locate with the rooted copy of the filters written over the shared
fragments (seeded change C08-m7: `rx := x[:i]` + `append`). -/

/-- Get / First: `$` is the bound root if there is one, the caller's document otherwise -/
def get : Entry (Option Nat) Nat (Option Nat) := ⟨fun o d _ => (o, some (o.getD d))⟩
/-- Locate as it is: the rooted copy is private (make + copy) -/
def locate : Entry (Option Nat) Nat (Option Nat) := ⟨fun o d _ => (o, some d)⟩
/-- Locate writing the rooted filter into the shared path -/
def locateInPlace : Entry (Option Nat) Nat (Option Nat) := ⟨fun _ d _ => (some d, some d)⟩

theorem get_readOnly : get.ReadOnly := fun _ _ _ => rfl
theorem locate_readOnly : locate.ReadOnly := fun _ _ _ => rfl
theorem locateInPlace_not_readOnly : ¬ locateInPlace.ReadOnly := fun h => by
  have := h none 1 none
  simp [locateInPlace] at this

/-- goroutine 0 locates on its document (`$.want = 1`), goroutine 1 then gets on ITS document
(`$.want = 2`): with the in-place rooting goroutine 1's `$` is goroutine 0's document -/
theorem rooting_writer_breaks :
    (exec ⟨none, fun _ => none⟩ [⟨0, locateInPlace, 1⟩, ⟨1, get, 2⟩]).loc 1 = some 1 ∧
    (exec ⟨none, fun _ => none⟩ ([⟨0, locateInPlace, 1⟩, ⟨1, get, 2⟩].filter fun c => c.g = 1)).loc 1 = some 2 := by
  constructor <;> rfl

example : (exec ⟨none, fun _ => none⟩ [⟨0, locate, 1⟩, ⟨1, get, 2⟩]).loc 1 = some 2 := rfl

/-! `registerComposer(rt, fun)` on a type that is in the registry: `if fun != nil { c.fun = fun }`.
`recomp` looks a type up again through `registerComposer(rv.Type(), nil)` when the short name belongs
to another type of the same name. -/

/-- a registry entry: the RecomposeFunc registered for the type, if any -/
structure Comp (F : Type) where
  fn : Option F
  deriving DecidableEq

/-- the already-registered branch; `guarded`: the assignment stands under `if fun != nil` -/
def reRegister {F : Type} (guarded : Bool) (f : Option F) (c : Comp F) : Comp F :=
  if guarded then (match f with
    | some x => { c with fn := some x }
    | none => c)
  else { c with fn := f }

theorem reRegister_guarded_nil {F : Type} (c : Comp F) : reRegister true none c = c := rfl

theorem reRegister_unguarded_nil {F : Type} (x : F) : reRegister false none (Comp.mk (some x)) = Comp.mk none := rfl

/-- Recompose into a value whose type is found by its full name: the look-up, then the fill
(the caller's own value `l` is set from its data) -/
def recompInto {F : Type} (guarded : Bool) : Entry (Comp F) Nat (Option (Nat × Bool)) :=
  ⟨fun o d _ => (reRegister guarded none o, some (d, false))⟩
/-- Recompose of a map that names the type by its create key: built by the registered function if there is one -/
def recompCreate {F : Type} : Entry (Comp F) Nat (Option (Nat × Bool)) :=
  ⟨fun o d _ => (o, some (d, o.fn.isSome))⟩

theorem recompInto_readOnly {F : Type} : (recompInto (F := F) true).ReadOnly := fun _ _ _ => rfl
theorem recompCreate_readOnly {F : Type} : (recompCreate (F := F)).ReadOnly := fun _ _ _ => rfl

/-- without the guard: goroutine 0 recomposes into its own value, goroutine 1's create-keyed map is then
no longer built by the registered function (`false`), alone it is (`true`) -/
theorem unguarded_reRegister_breaks :
    (exec ⟨Comp.mk (some ()), fun _ => none⟩ [⟨0, recompInto false, 1⟩, ⟨1, recompCreate, 2⟩]).loc 1 = some (2, false) ∧
    (exec ⟨Comp.mk (some ()), fun _ => none⟩
      ([⟨0, recompInto false, 1⟩, ⟨1, recompCreate, 2⟩].filter fun c => c.g = 1)).loc 1 = some (2, true) := by
  constructor <;> rfl

/-! `Expr.rootedFilters` hands Locate / Walk a copy of the path whose filters are bound to the document.
Here the path is a list of fragments lying at the front of its backing array `mem` (`x = mem[:n]`,
`cap(x) = len(mem)`), and the two ways of building the copy are modelled with their STORES:
`rootedCopy` (make + copy: every store goes to a new array) and `rootedInPlace` (`rx := x[:i]`, then
`append` — within capacity, so Go's append stores into `mem`). Both RETURN the same path
(`rootedInPlace_result`: no test that looks at the returned value can tell), the second leaves the
shared path itself rooted (`rootedInPlace_mem`), which is a change whenever the path has a filter not
already bound to that document (`rootedInPlace_writes_shared`). -/

/-- a path fragment: anything but a filter (`child`), or a filter with the document its `$` is bound to -/
inductive Frag where
  | child (k : Nat)
  | filter (root : Option Nat)
  deriving DecidableEq, Repr

def Frag.isFilter : Frag → Bool
  | .filter _ => true
  | .child _ => false

/-- `(*Filter).withRoot`: a filter becomes a filter bound to `d`; other fragments are kept -/
def Frag.withRoot (d : Nat) : Frag → Frag
  | .filter _ => .filter (some d)
  | f => f

/-- index of the first filter (the length if there is none) -/
def firstFilter (x : List Frag) : Nat := (x.takeWhile fun f => !f.isFilter).length

theorem firstFilter_le (x : List Frag) : firstFilter x ≤ x.length :=
  (List.takeWhile_sublist _).length_le

/-- `rootedFilters` as it is: `rx := make(Expr, len(x)); copy(rx, x); for ; i < len(rx); i++ { rx[i] = withRoot }` —
every store goes to the new array; the value returned -/
def rootedCopy (d : Nat) (x : List Frag) : List Frag :=
  x.take (firstFilter x) ++ (x.drop (firstFilter x)).map (Frag.withRoot d)

/-- before its first filter a path has none: rooting maps `withRoot` over all of it -/
theorem rootedCopy_eq_map (d : Nat) (x : List Frag) : rootedCopy d x = x.map (Frag.withRoot d) := by
  unfold rootedCopy firstFilter
  induction x with
  | nil => rfl
  | cons f r ih =>
    cases f with
    | child k => simpa [List.takeWhile, Frag.isFilter, Frag.withRoot] using ih
    | filter q => simp [List.takeWhile, Frag.isFilter]

/-- `for _, f = range x[i:] { rx = append(rx, withRoot f) }` with `rx := x[:i]`: `len(rx) < len(x) ≤ cap(rx)` at
every append, so Go's append stores at index `len(rx)` of the backing array of `x` (the fragments ranged
over are read before the store at the same index) -/
def appendLoop (d : Nat) : List Frag → Nat → List Frag → List Frag
  | mem, _, [] => mem
  | mem, len, f :: r => appendLoop d (mem.set len (f.withRoot d)) (len + 1) r

private theorem set_at_length (pre : List Frag) (f v : Frag) (rest : List Frag) :
    (pre ++ f :: rest).set pre.length v = pre ++ v :: rest := by
  induction pre with
  | nil => rfl
  | cons a p ih => simp [ih]

theorem appendLoop_eq (d : Nat) (todo pre post : List Frag) :
    appendLoop d (pre ++ todo ++ post) pre.length todo = pre ++ todo.map (Frag.withRoot d) ++ post := by
  induction todo generalizing pre with
  | nil => simp [appendLoop]
  | cons f r ih =>
    have h1 : pre ++ f :: r ++ post = pre ++ f :: (r ++ post) := by simp
    have h2 : (pre ++ [f.withRoot d]).length = pre.length + 1 := by simp
    simp only [appendLoop]
    rw [h1, set_at_length, ← h2]
    have h3 : pre ++ f.withRoot d :: (r ++ post) = (pre ++ [f.withRoot d]) ++ r ++ post := by simp
    rw [h3, ih]
    simp

/-- the variant of seeded change C08-m7 over the backing array `mem` of the shared path `x = mem[:n]`:
(the value returned, the backing array afterwards) -/
def rootedInPlace (d : Nat) (mem : List Frag) (n : Nat) : List Frag × List Frag :=
  let x := mem.take n
  let mem' := appendLoop d mem (firstFilter x) (x.drop (firstFilter x))
  (mem'.take n, mem')

theorem rootedInPlace_mem (d : Nat) (mem : List Frag) (n : Nat) :
    (rootedInPlace d mem n).2 = rootedCopy d (mem.take n) ++ mem.drop n := by
  unfold rootedInPlace rootedCopy
  simp only
  have hle := firstFilter_le (mem.take n)
  have hlen : ((mem.take n).take (firstFilter (mem.take n))).length = firstFilter (mem.take n) := by
    rw [List.length_take]; omega
  have hmem : mem = (mem.take n).take (firstFilter (mem.take n)) ++ (mem.take n).drop (firstFilter (mem.take n)) ++ mem.drop n := by
    rw [List.take_append_drop, List.take_append_drop]
  conv => lhs; arg 2; rw [hmem]
  conv => lhs; arg 3; rw [← hlen]
  exact appendLoop_eq d _ _ _

/-- both variants RETURN the same path: a caller that looks only at what its own call returns cannot
tell them apart (the library's tests pass with the seeded change) -/
theorem rootedInPlace_result (d : Nat) (mem : List Frag) (n : Nat) (h : n ≤ mem.length) :
    (rootedInPlace d mem n).1 = rootedCopy d (mem.take n) := by
  have hm := rootedInPlace_mem d mem n
  have : (rootedInPlace d mem n).1 = ((rootedInPlace d mem n).2).take n := rfl
  rw [this, hm]
  have hl : (rootedCopy d (mem.take n)).length = n := by
    rw [rootedCopy_eq_map, List.length_map, List.length_take]; omega
  rw [List.take_append_of_le_length (by omega), List.take_of_length_le (by omega)]

/-- `$.items[?(@.v == $.want)].name` parsed (length 4, capacity 4), Locate on a document `7`:
returned value equal, shared path overwritten by the in-place variant only -/
example : rootedCopy 7 [.child 0, .child 1, .filter none, .child 2] = [.child 0, .child 1, .filter (some 7), .child 2] := by decide
example : rootedInPlace 7 [.child 0, .child 1, .filter none, .child 2] 4 =
    ([.child 0, .child 1, .filter (some 7), .child 2], [.child 0, .child 1, .filter (some 7), .child 2]) := by decide

theorem rootedCopy_ne (d : Nat) (x : List Frag) (r : Option Nat) (hr : r ≠ some d) (hf : Frag.filter r ∈ x) :
    rootedCopy d x ≠ x := by
  intro h
  rw [rootedCopy_eq_map, ← List.map_id x, List.map_map] at h
  have := List.map_inj_left.1 h _ hf
  exact hr (Frag.filter.inj this).symm

/-- the in-place variant changes the shared path whenever it holds a filter not already bound to that document -/
theorem rootedInPlace_writes_shared (d : Nat) (mem : List Frag) (n : Nat) (h : n ≤ mem.length) (r : Option Nat)
    (hr : r ≠ some d) (hf : Frag.filter r ∈ mem.take n) :
    ((rootedInPlace d mem n).2).take n ≠ mem.take n := by
  rw [show ((rootedInPlace d mem n).2).take n = (rootedInPlace d mem n).1 from rfl, rootedInPlace_result d mem n h]
  exact rootedCopy_ne d _ r hr hf

/-! `r.composers` files an entry under the type's short name and under its full name. Two same-named types
of two packages share the short-name key (the later registration owns it); the other one is found by
its full name only: `recomp` then goes through `registerComposer(rt, nil)` and lands in the
already-registered branch (`reRegister` above is that branch alone; the field walk left out here is the subject
of `Reuse/Registry.lean`, `Reg.register`).

`lookup` is not made an `Entry`: `Entry.ReadOnly` speaks of every object, and `lookup true` leaves the registry
as it was only where it holds the type (`lookup_registered` against `lookup_unregistered_writes`). So
`shared_unwritten` and `results_alone` apply to the one-cell `recompInto true`, which stands for `lookup true` on
the registries that hold the type. -/

/-- a struct type as the registry sees it: identity, short name (`rt.Name()`), full name (`PkgPath/Name`) -/
structure Ty where
  id : Nat
  short : String
  full : String

/-- `*composer`: the type it belongs to and its RecomposeFunc (by identity), if any -/
structure CompE where
  rtype : Nat
  fn : Option Nat
  deriving DecidableEq, Repr

/-- `r.composers`: names to entries BY REFERENCE (an entry is filed under its short and its full name: one
object, two keys); the most recent assignment to a key is the one found -/
structure Regy where
  names : List (String × Nat)
  ents : List CompE
  deriving DecidableEq, Repr

def Regy.find (r : Regy) (k : String) : Option Nat := r.names.lookup k

/-- the not-yet-registered branch: a new entry under both names -/
def Regy.fresh (r : Regy) (t : Ty) (f : Option Nat) : Regy × Nat :=
  ({ names := (t.short, r.ents.length) :: (t.full, r.ents.length) :: r.names, ents := r.ents ++ [⟨t.id, f⟩] },
   r.ents.length)

/-- `registerComposer(rt, fun)` without the field walk: `c := r.composers[full]; if c == nil || c.rtype != rt
{ new entry under short and full } else { if fun != nil { c.fun = fun } }` (`guarded = false`: the
assignment without its `if`) -/
def registerComposer (guarded : Bool) (r : Regy) (t : Ty) (f : Option Nat) : Regy × Nat :=
  match r.find t.full with
  | some i =>
    match r.ents[i]? with
    | some c =>
      if c.rtype = t.id then
        (if guarded then
          (match f with
            | some x => { r with ents := r.ents.set i { c with fn := some x } }
            | none => r)
         else { r with ents := r.ents.set i { c with fn := f } }, i)
      else r.fresh t f
    | none => r.fresh t f
  | none => r.fresh t f

/-- `recomp` filling a value of struct type `t`: `c := r.composers[rt.Name()]; if c == nil || c.rtype != rt
{ c, _ = r.registerComposer(rt, nil) }` -/
def lookup (guarded : Bool) (r : Regy) (t : Ty) : Regy × Nat :=
  match r.find t.short with
  | some i =>
    match r.ents[i]? with
    | some c => if c.rtype = t.id then (r, i) else registerComposer guarded r t none
    | none => registerComposer guarded r t none
  | none => registerComposer guarded r t none

/-- `t` was registered beforehand: its full name leads to an entry of that very type -/
def Regy.Registered (r : Regy) (t : Ty) : Prop :=
  ∃ i c, r.find t.full = some i ∧ r.ents[i]? = some c ∧ c.rtype = t.id

theorem registerComposer_registered_nil (r : Regy) (t : Ty) (h : r.Registered t) :
    (registerComposer true r t none).1 = r := by
  obtain ⟨i, c, hf, he, ht⟩ := h
  simp [registerComposer, hf, he, ht]

/-- **filling a value of a registered type writes nothing** — neither the map nor any entry — whoever owns
the short name (no type, this type, or a same-named type of another package registered later) -/
theorem lookup_registered (r : Regy) (t : Ty) (h : r.Registered t) : (lookup true r t).1 = r := by
  unfold lookup
  split
  · split
    · split
      · rfl
      · exact registerComposer_registered_nil r t h
    · exact registerComposer_registered_nil r t h
  · exact registerComposer_registered_nil r t h

/-- the twins: `reuse.RTwin` (type 0) registered first with function 9, `twin.RTwin` (type 1) later: it owns "RTwin" -/
def twins : Regy :=
  { names := [("RTwin", 1), ("twin/RTwin", 1), ("RTwin", 0), ("reuse/RTwin", 0)], ents := [⟨0, some 9⟩, ⟨1, none⟩] }

example : twins.Registered ⟨0, "RTwin", "reuse/RTwin"⟩ := ⟨0, ⟨0, some 9⟩, by decide, by decide, rfl⟩
example : twins.Registered ⟨1, "RTwin", "twin/RTwin"⟩ := ⟨1, ⟨1, none⟩, by decide, by decide, rfl⟩

/-- without the guard, filling a `reuse.RTwin` (found by its full name only) wipes its function -/
theorem lookup_unguarded_loses_fn :
    (lookup false twins ⟨0, "RTwin", "reuse/RTwin"⟩).1.ents = [⟨0, none⟩, ⟨1, none⟩] ∧
    (lookup true twins ⟨0, "RTwin", "reuse/RTwin"⟩).1 = twins := by decide

/-- the full name leads nowhere, or to an entry of another type -/
def Regy.Unregistered (r : Regy) (t : Ty) : Prop :=
  ∀ i c, r.find t.full = some i → r.ents[i]? = some c → c.rtype ≠ t.id

theorem registerComposer_unregistered (g : Bool) (r : Regy) (t : Ty) (f : Option Nat) (h : r.Unregistered t) :
    registerComposer g r t f = r.fresh t f := by
  unfold registerComposer
  split
  · rename_i i hi
    split
    · rename_i c hc
      have := h i c hi hc
      simp [this]
    · rfl
  · rfl

/-- **"registered beforehand" is needed**: filling a value of a type the registry does not hold (neither under its
full name nor, as this type, under its short name) WRITES the registry — a new entry and two keys — with either
form of the already-registered branch: the first `Recompose` calls of several goroutines then race on `r.composers` -/
theorem lookup_unregistered_writes (g : Bool) (r : Regy) (t : Ty) (h : r.Unregistered t)
    (hs : ∀ i c, r.find t.short = some i → r.ents[i]? = some c → c.rtype ≠ t.id) :
    (lookup g r t).1.ents.length = r.ents.length + 1 ∧ (lookup g r t).1 ≠ r := by
  have hl : lookup g r t = r.fresh t none := by
    unfold lookup
    split
    · rename_i i hi
      split
      · rename_i c hc
        have := hs i c hi hc
        simp [this, registerComposer_unregistered g r t none h]
      · exact registerComposer_unregistered g r t none h
    · exact registerComposer_unregistered g r t none h
  rw [hl]
  refine ⟨by simp [Regy.fresh], fun e => ?_⟩
  have := congrArg (fun x => x.ents.length) e
  simp [Regy.fresh] at this

example : twins.Unregistered ⟨7, "Other", "pkg/Other"⟩ := by
  intro i c hf
  simp [Regy.find, twins, List.lookup] at hf

end OjgVerif.Reuse.Shared
