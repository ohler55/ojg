/-! # The `Reuse` map pool of `oj.Parser` / `gen.Parser` / `sen.Parser` (`p.maps`, `p.mi`)

The three parsers carry the same code (gen/parser.go, oj/parser.go, sen/parser.go):

```go
// entry (Parse / ParseReader)
if p.stack == nil { … p.maps = make([]Object, 0, 16) } else { … }   // pool kept across calls
p.mi = 0
// parseBuffer, switch p.mode[b]
case openObject:
    var m Object
    if p.Reuse {
        if p.mi < len(p.maps) { m = p.maps[p.mi]; for k := range m { delete(m, k) } }
        else                  { m = make(Object, mapInitSize); p.maps = append(p.maps, m) }
        p.mi++
    } else { m = make(Object, mapInitSize) }
// after a top-level document has been delivered
p.mi = 0
```

Model. A map is an identity (`Nat`); `fresh` is the allocator (next identity never handed out);
`heap` gives the content of a map. The content of an object is abstract (`α`): `openObj … a` stands for
"the map is cleared and then filled with this object's members `a`" (that the filling is what the
machine's key/value actions do is NOT modelled here — tied by the harness stream `mappool`).
A document is the list of its objects' contents in the order the `{` are read (nested or siblings
alike: the pool index only counts `{`); a call is a list of documents.

Everything below is by induction over documents and calls of any length, from any state that ANY
earlier history of operations (finished, or aborted in the middle of a document) has left (`WF`,
`WF_history`). -/
namespace OjgVerif.Reuse.MapPool

structure St (α : Type) where
  /-- `p.maps`: identities of the pooled maps -/
  pool : List Nat
  /-- `p.mi` -/
  mi : Nat
  /-- allocator: every identity handed out so far is `< fresh` -/
  fresh : Nat
  /-- content of a map (`none`: never allocated / never filled) -/
  heap : Nat → Option α

/-- a new parser (`p.maps` empty) on an empty heap -/
def St.init {α : Type} : St α := ⟨[], 0, 0, fun _ => none⟩

/-- a new parser on a heap that already holds other maps -/
def St.new {α : Type} (fresh : Nat) (heap : Nat → Option α) : St α := ⟨[], 0, fresh, heap⟩

def upd {α : Type} (h : Nat → Option α) (x : Nat) (a : α) : Nat → Option α :=
  fun y => if y = x then some a else h y

/-- `case openObject:` — returns the identity of the map that becomes this object -/
def openObj {α : Type} (reuse : Bool) (a : α) (s : St α) : Nat × St α :=
  if reuse then
    if h : s.mi < s.pool.length then
      -- m = p.maps[p.mi]; clear(m); p.mi++
      (s.pool[s.mi], { s with mi := s.mi + 1, heap := upd s.heap s.pool[s.mi] a })
    else
      -- m = make(…); p.maps = append(p.maps, m); p.mi++
      (s.fresh, { pool := s.pool ++ [s.fresh], mi := s.mi + 1, fresh := s.fresh + 1,
                  heap := upd s.heap s.fresh a })
  else
    -- m = make(…)
    (s.fresh, { s with fresh := s.fresh + 1, heap := upd s.heap s.fresh a })

/-- MUTANT (seeded change C18-m8): `p.mi++` moved into the `else` branch — the index advances only
when the pool grows -/
def openObjBad {α : Type} (reuse : Bool) (a : α) (s : St α) : Nat × St α :=
  if reuse then
    if h : s.mi < s.pool.length then
      (s.pool[s.mi], { s with heap := upd s.heap s.pool[s.mi] a })
    else
      (s.fresh, { pool := s.pool ++ [s.fresh], mi := s.mi + 1, fresh := s.fresh + 1,
                  heap := upd s.heap s.fresh a })
  else
    (s.fresh, { s with fresh := s.fresh + 1, heap := upd s.heap s.fresh a })

/-- `p.mi = 0` after a top-level document has been delivered -/
def docEnd {α : Type} (s : St α) : St α := { s with mi := 0 }

/-- `p.mi = 0` at the entry of Parse / ParseReader; the pool is kept -/
def entry {α : Type} (s : St α) : St α := { s with mi := 0 }

/-- Opens the objects of one document (the list: their contents in the order their `{` is read) and returns the
identities of their maps. The suffix `W` of this and the next three functions: over any step function `step` for
`case openObject:`; `openAll reuse` … `runCall reuse` are the instances at `openObj reuse`, about which the
lemmas of this file are; `Props/C07.lean` takes the instance at the step the source selects (`poolStep`). -/
def openAllW {α : Type} (step : α → St α → Nat × St α) : List α → St α → List Nat × St α
  | [], s => ([], s)
  | a :: as, s =>
    ((step a s).1 :: (openAllW step as (step a s).2).1, (openAllW step as (step a s).2).2)

/-- what is delivered for one document: the identities of its objects' maps, and their contents read
at the moment of delivery -/
structure DocRes (α : Type) where
  ids : List Nat
  val : List (Option α)

def runDocW {α : Type} (step : α → St α → Nat × St α) (d : List α) (s : St α) : DocRes α × St α :=
  (⟨(openAllW step d s).1, (openAllW step d s).1.map (openAllW step d s).2.heap⟩,
   docEnd (openAllW step d s).2)

def runDocsW {α : Type} (step : α → St α → Nat × St α) : List (List α) → St α → List (DocRes α) × St α
  | [], s => ([], s)
  | d :: ds, s =>
    ((runDocW step d s).1 :: (runDocsW step ds (runDocW step d s).2).1,
     (runDocsW step ds (runDocW step d s).2).2)

/-- one Parse / ParseReader call over an input holding the documents `docs` -/
def runCallW {α : Type} (step : α → St α → Nat × St α) (docs : List (List α)) (s : St α) :
    List (DocRes α) × St α :=
  runDocsW step docs (entry s)

abbrev openAll {α : Type} (reuse : Bool) := openAllW (α := α) (openObj reuse)
abbrev runDoc {α : Type} (reuse : Bool) := runDocW (α := α) (openObj reuse)
abbrev runDocs {α : Type} (reuse : Bool) := runDocsW (α := α) (openObj reuse)
abbrev runCall {α : Type} (reuse : Bool) := runCallW (α := α) (openObj reuse)

/-- the maps a call wrote: all identities it returned -/
def touched {α : Type} (rs : List (DocRes α)) : List Nat := (rs.map DocRes.ids).flatten

def values {α : Type} (rs : List (DocRes α)) : List (List (Option α)) := rs.map DocRes.val

/-- the contents of the delivered maps read AFTER the call has returned -/
def valuesAfter {α : Type} (rs : List (DocRes α)) (s : St α) : List (List (Option α)) :=
  rs.map fun r => r.ids.map s.heap

/-- pooled maps are distinct, allocated, and the index is inside the pool (or just behind it) -/
structure WF {α : Type} (s : St α) : Prop where
  nodup : s.pool.Nodup
  lt : ∀ x ∈ s.pool, x < s.fresh
  mi_le : s.mi ≤ s.pool.length

theorem WF_new {α : Type} (f : Nat) (h : Nat → Option α) : WF (St.new f h) := ⟨List.nodup_nil, nofun, Nat.le_refl _⟩
theorem WF_init {α : Type} : WF (St.init : St α) := WF_new _ _

/-- `s'` extends `s`: the pool has only grown at the end, by maps allocated since -/
structure Ext {α : Type} (s s' : St α) : Prop where
  pool : ∃ extra, s'.pool = s.pool ++ extra ∧ ∀ y ∈ extra, s.fresh ≤ y
  fresh : s.fresh ≤ s'.fresh

theorem Ext.same {α : Type} {s s' : St α} (hp : s'.pool = s.pool) (hf : s.fresh ≤ s'.fresh) : Ext s s' :=
  ⟨⟨[], by rw [hp, List.append_nil], nofun⟩, hf⟩

theorem Ext.trans {α : Type} {s t u : St α} (h1 : Ext s t) (h2 : Ext t u) : Ext s u := by
  obtain ⟨e1, p1, l1⟩ := h1.pool
  obtain ⟨e2, p2, l2⟩ := h2.pool
  refine ⟨⟨e1 ++ e2, by rw [p2, p1, List.append_assoc], fun y hy => ?_⟩, Nat.le_trans h1.fresh h2.fresh⟩
  rcases List.mem_append.1 hy with h | h
  · exact l1 y h
  · exact Nat.le_trans h1.fresh (l2 y h)

theorem Ext.mem_take {α : Type} {s s' : St α} (e : Ext s s') {x : Nat} (hx : x < s.fresh) (n : Nat) :
    x ∈ s'.pool.take n ↔ x ∈ s.pool.take n := by
  obtain ⟨extra, hp, hl⟩ := e.pool
  rw [hp, List.take_append, List.mem_append]
  exact ⟨fun h => h.resolve_right fun h => Nat.lt_irrefl _ (Nat.lt_of_lt_of_le hx (hl x (List.mem_of_mem_take h))), Or.inl⟩

/-- what the steps keep: the invariant; the pool and the allocator only grow; the maps handed out
(`ids`) were allocated -/
def Grows {α : Type} (ids : List Nat) (s s' : St α) : Prop := WF s → WF s' ∧ Ext s s' ∧ ∀ x ∈ ids, x < s'.fresh

theorem Grows.append {α : Type} {i1 i2 : List Nat} {s t u : St α} (h1 : Grows i1 s t) (h2 : Grows i2 t u) :
    Grows (i1 ++ i2) s u := fun w =>
  have ⟨w1, e1, l1⟩ := h1 w
  have ⟨w2, e2, l2⟩ := h2 w1
  ⟨w2, e1.trans e2, fun x hx => (List.mem_append.1 hx).elim (fun h => Nat.lt_of_lt_of_le (l1 x h) e2.fresh) (l2 x)⟩

theorem Grows.refl {α : Type} (s : St α) : Grows [] s s := fun w => ⟨w, .same rfl (Nat.le_refl _), nofun⟩

/-- `p.mi = 0`: `entry` and `docEnd` -/
theorem Grows.reset {α : Type} (s : St α) : Grows [] s { s with mi := 0 } :=
  fun w => ⟨⟨w.nodup, w.lt, Nat.zero_le _⟩, .same rfl (Nat.le_refl _), nofun⟩

theorem openObj_reuse_spec {α : Type} (a : α) (s : St α) (w : WF s) :
    WF (openObj true a s).2 ∧ Ext s (openObj true a s).2 ∧ (openObj true a s).2.mi = s.mi + 1 ∧
    (openObj true a s).2.pool[s.mi]? = some (openObj true a s).1 ∧
    (openObj true a s).2.pool.length = max s.pool.length (s.mi + 1) := by
  by_cases h : s.mi < s.pool.length
  · simp only [openObj, if_true, dif_pos h]
    exact ⟨⟨w.nodup, w.lt, h⟩, .same rfl (Nat.le_refl _), trivial, List.getElem?_eq_getElem h, by omega⟩
  · have hm : s.mi = s.pool.length := Nat.le_antisymm w.mi_le (Nat.le_of_not_lt h)
    simp only [openObj, if_true, dif_neg h]
    refine ⟨⟨List.nodup_append.2 ⟨w.nodup, by simp, fun x hx y hy => ?_⟩, fun x hx => ?_, by simp [hm]⟩,
      ⟨⟨[s.fresh], rfl, by simp⟩, Nat.le_succ _⟩, trivial, by simp [hm], by simp; omega⟩
    · have := w.lt x hx
      simp only [List.mem_singleton] at hy
      omega
    · rcases List.mem_append.1 hx with h1 | h1
      · exact Nat.lt_succ_of_lt (w.lt x h1)
      · exact Nat.lt_succ_of_le (Nat.le_of_eq (List.mem_singleton.1 h1))

theorem openObj_off_spec {α : Type} (a : α) (s : St α) :
    (openObj false a s).1 = s.fresh ∧ (openObj false a s).2.pool = s.pool ∧
    (openObj false a s).2.mi = s.mi ∧ (openObj false a s).2.fresh = s.fresh + 1 := ⟨rfl, rfl, rfl, rfl⟩

theorem openObj_grows {α : Type} (reuse : Bool) (a : α) (s : St α) :
    Grows [(openObj reuse a s).1] s (openObj reuse a s).2 := by
  intro w
  cases reuse
  · exact ⟨⟨w.nodup, fun x hx => Nat.lt_succ_of_lt (w.lt x hx), w.mi_le⟩, .same rfl (Nat.le_succ _),
      fun x hx => List.mem_singleton.1 hx ▸ Nat.lt_succ_self _⟩
  · refine ⟨(openObj_reuse_spec a s w).1, (openObj_reuse_spec a s w).2.1, fun x hx => ?_⟩
    rw [List.mem_singleton.1 hx]
    unfold openObj
    rw [if_pos rfl]
    split
    · exact w.lt _ (List.getElem_mem _)
    · exact Nat.lt_succ_self _

theorem openObj_heap {α : Type} (reuse : Bool) (a : α) (s : St α) :
    (openObj reuse a s).2.heap = upd s.heap (openObj reuse a s).1 a := by
  unfold openObj
  split
  · split <;> rfl
  · rfl

theorem upd_same {α : Type} (h : Nat → Option α) (x : Nat) (a : α) : upd h x a x = some a := if_pos rfl
theorem upd_other {α : Type} (h : Nat → Option α) {x y : Nat} (a : α) (hn : y ≠ x) : upd h x a y = h y := if_neg hn

theorem openAll_grows {α : Type} (reuse : Bool) (d : List α) (s : St α) :
    Grows (openAll reuse d s).1 s (openAll reuse d s).2 := by
  induction d generalizing s with
  | nil => exact Grows.refl s
  | cons a as ih => exact (openObj_grows reuse a s).append (ih _)

/-- what a run from `s` to `s'` wrote: only the maps `ids`, and into each of them one of `elems` -/
def Wrote {α : Type} (ids : List Nat) (elems : List α) (s s' : St α) : Prop :=
  (∀ x, x ∉ ids → s'.heap x = s.heap x) ∧ ∀ x ∈ ids, ∃ a ∈ elems, s'.heap x = some a

theorem Wrote.append {α : Type} {i1 i2 : List Nat} {e1 e2 : List α} {s t u : St α} (h1 : Wrote i1 e1 s t)
    (h2 : Wrote i2 e2 t u) : Wrote (i1 ++ i2) (e1 ++ e2) s u := by
  refine ⟨fun x hx => ?_, fun x hx => ?_⟩
  · rw [List.mem_append, not_or] at hx
    exact (h2.1 x hx.2).trans (h1.1 x hx.1)
  · by_cases hx2 : x ∈ i2
    · exact (h2.2 x hx2).imp fun a ha => ⟨List.mem_append_right _ ha.1, ha.2⟩
    · exact (h1.2 x ((List.mem_append.1 hx).resolve_right hx2)).imp fun a ha =>
        ⟨List.mem_append_left _ ha.1, (h2.1 x hx2).trans ha.2⟩

theorem openAll_wrote {α : Type} (reuse : Bool) (d : List α) (s : St α) :
    Wrote (openAll reuse d s).1 d s (openAll reuse d s).2 := by
  induction d generalizing s with
  | nil => exact ⟨fun _ _ => rfl, nofun⟩
  | cons a as ih =>
    refine Wrote.append (i1 := [_]) (e1 := [a]) ⟨fun x hx => ?_, fun x hx => ⟨a, List.mem_singleton_self a, ?_⟩⟩ (ih _)
    · rw [openObj_heap]; exact upd_other _ _ fun h => hx (List.mem_singleton.2 h)
    · rw [openObj_heap, List.mem_singleton.1 hx]; exact upd_same ..

theorem openAll_values {α : Type} (reuse : Bool) (d : List α) (s : St α)
    (hn : (openAll reuse d s).1.Nodup) :
    (openAll reuse d s).1.map (openAll reuse d s).2.heap = d.map some := by
  induction d generalizing s with
  | nil => rfl
  | cons a as ih =>
    obtain ⟨h1, h2⟩ := List.nodup_cons.1 hn
    exact List.cons_eq_cons.2 ⟨((openAll_wrote reuse as _).1 _ h1).trans (by rw [openObj_heap, upd_same]), ih _ h2⟩

theorem openAll_reuse_spec {α : Type} (d : List α) (s : St α) (w : WF s) :
    (openAll true d s).2.mi = s.mi + d.length ∧
    (openAll true d s).1 = ((openAll true d s).2.pool.drop s.mi).take d.length ∧
    (openAll true d s).2.pool.length = max s.pool.length (s.mi + d.length) := by
  induction d generalizing s with
  | nil => exact ⟨rfl, List.take_zero.symm, (Nat.max_eq_left w.mi_le).symm⟩
  | cons a as ih =>
    obtain ⟨w1, _, m1, g1, l1⟩ := openObj_reuse_spec a s w
    obtain ⟨m2, g2, l2⟩ := ih (openObj true a s).2 w1
    obtain ⟨extra, hp, _⟩ := (openAll_grows true as _ w1).2.1.pool
    simp only [openAll, openAllW, List.length_cons] at m2 g2 l2 hp ⊢
    have hlt : s.mi < (openObj true a s).2.pool.length := by omega
    have hlt2 : s.mi < (openAllW (openObj true) as (openObj true a s).2).2.pool.length := by omega
    refine ⟨by omega, ?_, by omega⟩
    rw [List.drop_eq_getElem_cons hlt2, List.take_succ_cons, g2, m1]
    congr 1
    rw [List.getElem?_eq_getElem hlt] at g1
    rw [← Option.some.inj g1]
    simp only [hp, List.getElem_append_left hlt]

theorem openAll_off_spec {α : Type} (d : List α) (s : St α) :
    (openAll false d s).1 = List.range' s.fresh d.length ∧ (openAll false d s).2.pool = s.pool ∧
    (openAll false d s).2.mi = s.mi ∧ (openAll false d s).2.fresh = s.fresh + d.length := by
  induction d generalizing s with
  | nil => exact ⟨rfl, rfl, rfl, rfl⟩
  | cons a as ih =>
    obtain ⟨i1, i2, i3, i4⟩ := ih (openObj false a s).2
    exact ⟨(congrArg (s.fresh :: ·) i1).trans List.range'_succ.symm, i2, i3,
      i4.trans (by rw [List.length_cons]; exact Nat.add_right_comm ..)⟩

/-- **Within one document every object gets its own map**, Reuse on or off, from any
well-formed state (wherever in the pool the index stands). -/
theorem distinct_within_doc {α : Type} (reuse : Bool) (d : List α) (s : St α) (w : WF s) :
    (runDoc reuse d s).1.ids.Nodup := by
  show (openAll reuse d s).1.Nodup
  cases reuse
  · rw [(openAll_off_spec d s).1]; exact List.nodup_range' 1
  · rw [(openAll_reuse_spec d s w).2.1]
    exact ((openAll_grows true d s w).1.nodup.sublist (List.drop_sublist _ _)).sublist (List.take_sublist _ _)

theorem runDoc_grows {α : Type} (reuse : Bool) (d : List α) (s : St α) :
    Grows (runDoc reuse d s).1.ids s (runDoc reuse d s).2 := by
  have := (openAll_grows reuse d s).append (Grows.reset _)
  rwa [List.append_nil] at this

theorem runDoc_touched_iff {α : Type} (reuse : Bool) (d : List α) (s : St α) (w : WF s) (hm : s.mi = 0)
    (x : Nat) (hx : x < s.fresh) :
    x ∈ (runDoc reuse d s).1.ids ↔ reuse = true ∧ x ∈ s.pool.take d.length := by
  cases reuse
  · show x ∈ (openAll false d s).1 ↔ _
    rw [(openAll_off_spec d s).1, List.mem_range'_1]
    exact ⟨fun h => absurd hx (Nat.not_lt.2 h.1), fun h => nomatch h.1⟩
  · show x ∈ (openAll true d s).1 ↔ _
    rw [(openAll_reuse_spec d s w).2.1, hm, List.drop_zero, (openAll_grows true d s w).2.1.mem_take hx]
    exact (and_iff_right rfl).symm

theorem runDocs_grows {α : Type} (reuse : Bool) (docs : List (List α)) (s : St α) :
    Grows (touched (runDocs reuse docs s).1) s (runDocs reuse docs s).2 := by
  induction docs generalizing s with
  | nil => exact Grows.refl s
  | cons d ds ih => exact (runDoc_grows reuse d s).append (ih _)

theorem runCall_grows {α : Type} (reuse : Bool) (docs : List (List α)) (s : St α) :
    Grows (touched (runCall reuse docs s).1) s (runCall reuse docs s).2 :=
  (Grows.reset s).append (runDocs_grows reuse docs _)

theorem WF_runCall {α : Type} (reuse : Bool) (docs : List (List α)) {s : St α} (w : WF s) :
    WF (runCall reuse docs s).2 := (runCall_grows reuse docs s w).1

/-- discharges the hypothesis `x < s.fresh` of `earlier_results_clobbered_iff_reuse` at every later call, for
whatever earlier calls returned -/
theorem call_ids_lt_fresh {α : Type} (reuse : Bool) (docs : List (List α)) (s : St α) (w : WF s) (x : Nat)
    (hx : x ∈ touched (runCall reuse docs s).1) : x < (runCall reuse docs s).2.fresh :=
  (runCall_grows reuse docs s w).2.2 x hx

theorem runDocs_distinct {α : Type} (reuse : Bool) (docs : List (List α)) (s : St α) (w : WF s) :
    ∀ r ∈ (runDocs reuse docs s).1, r.ids.Nodup := by
  induction docs generalizing s with
  | nil => nofun
  | cons d ds ih =>
    exact List.forall_mem_cons.2 ⟨distinct_within_doc reuse d s w, ih _ (runDoc_grows reuse d s w).1⟩

theorem runDocs_values {α : Type} (reuse : Bool) (docs : List (List α)) (s : St α) (w : WF s) :
    values (runDocs reuse docs s).1 = docs.map (List.map some) := by
  induction docs generalizing s with
  | nil => rfl
  | cons d ds ih =>
    exact List.cons_eq_cons.2 ⟨openAll_values reuse d s (distinct_within_doc reuse d s w), ih _ (runDoc_grows reuse d s w).1⟩

theorem runDocs_wrote {α : Type} (reuse : Bool) (docs : List (List α)) (s : St α) :
    Wrote (touched (runDocs reuse docs s).1) docs.flatten s (runDocs reuse docs s).2 := by
  induction docs generalizing s with
  | nil => exact ⟨fun _ _ => rfl, nofun⟩
  | cons d ds ih => exact (openAll_wrote reuse d s).append (ih (runDoc reuse d s).2)

theorem runDocs_touched_iff {α : Type} (reuse : Bool) (docs : List (List α)) (s0 s : St α)
    (e : Ext s0 s) (w : WF s) (hm : s.mi = 0) (x : Nat) (hx : x < s0.fresh) :
    x ∈ touched (runDocs reuse docs s).1 ↔ reuse = true ∧ ∃ d ∈ docs, x ∈ s0.pool.take d.length := by
  induction docs generalizing s with
  | nil => exact ⟨nofun, nofun⟩
  | cons d ds ih =>
    obtain ⟨w1, e1, _⟩ := runDoc_grows reuse d s w
    show x ∈ (runDoc reuse d s).1.ids ++ touched (runDocs reuse ds (runDoc reuse d s).2).1 ↔ _
    rw [List.mem_append, runDoc_touched_iff reuse d s w hm x (Nat.lt_of_lt_of_le hx e.fresh),
      ih _ (e.trans e1) w1 rfl, e.mem_take hx]
    simp only [List.mem_cons, exists_eq_or_imp, and_or_left]

theorem call_distinct {α : Type} (reuse : Bool) (docs : List (List α)) (s : St α) (w : WF s) :
    ∀ r ∈ (runCall reuse docs s).1, r.ids.Nodup :=
  runDocs_distinct reuse docs (entry s) (Grows.reset s w).1

theorem call_values {α : Type} (reuse : Bool) (docs : List (List α)) (s : St α) (w : WF s) :
    values (runCall reuse docs s).1 = docs.map (List.map some) :=
  runDocs_values reuse docs (entry s) (Grows.reset s w).1

/-- **With Reuse a call on a used parser delivers the values a new parser delivers**, from any
state any history has left (same for Reuse off). -/
theorem reuse_values_eq_fresh {α : Type} (reuse : Bool) (docs : List (List α)) (s : St α) (w : WF s) :
    values (runCall reuse docs s).1 = values (runCall reuse docs (St.init : St α)).1 := by
  rw [call_values reuse docs s w, call_values reuse docs St.init WF_init]

/-- **Which earlier maps a later call overwrites**: a map that existed before the call
(`x < s.fresh` — in particular every map an earlier call returned) is written by the call exactly
when Reuse is on and it sits in the pool at an index below the number of objects of one of the
call's documents. -/
theorem earlier_results_clobbered_iff_reuse {α : Type} (reuse : Bool) (docs : List (List α)) (s : St α)
    (w : WF s) (x : Nat) (hx : x < s.fresh) :
    x ∈ touched (runCall reuse docs s).1 ↔ reuse = true ∧ ∃ d ∈ docs, x ∈ s.pool.take d.length :=
  runDocs_touched_iff reuse docs s (entry s) (Grows.reset s w).2.1 (Grows.reset s w).1 rfl x hx

theorem clobbered_content {α : Type} (reuse : Bool) (docs : List (List α)) (s : St α) (x : Nat)
    (hx : x ∈ touched (runCall reuse docs s).1) :
    ∃ d ∈ docs, ∃ a ∈ d, (runCall reuse docs s).2.heap x = some a := by
  obtain ⟨a, ha, hv⟩ := (runDocs_wrote reuse docs (entry s)).2 x hx
  obtain ⟨d, hd, had⟩ := List.mem_flatten.1 ha
  exact ⟨d, hd, a, had, hv⟩

theorem untouched_kept {α : Type} (reuse : Bool) (docs : List (List α)) (s : St α) (x : Nat)
    (hx : x ∉ touched (runCall reuse docs s).1) : (runCall reuse docs s).2.heap x = s.heap x :=
  (runDocs_wrote reuse docs (entry s)).1 x hx

theorem reuse_off_untouched {α : Type} (docs : List (List α)) (s : St α) (w : WF s) (x : Nat)
    (hx : x < s.fresh) : (runCall false docs s).2.heap x = s.heap x :=
  untouched_kept false docs s x fun h => nomatch ((earlier_results_clobbered_iff_reuse false docs s w x hx).1 h).1

/-- the contents of the pooled maps, by pool position -/
def view {α : Type} (s : St α) : List (Option α) := s.pool.map s.heap

/-- what one document does to the pool contents: its objects take the first positions -/
def stepV {α : Type} (v : List (Option α)) (d : List α) : List (Option α) := d.map some ++ v.drop d.length

theorem runDoc_view {α : Type} (d : List α) (s : St α) (w : WF s) (hm : s.mi = 0) :
    view (runDoc true d s).2 = stepV (view s) d ∧
    (runDoc true d s).1.ids = (runDoc true d s).2.pool.take d.length ∧
    d.length ≤ (runDoc true d s).2.pool.length := by
  obtain ⟨_, g, l⟩ := openAll_reuse_spec d s w
  obtain ⟨w2, e, _⟩ := openAll_grows true d s w
  obtain ⟨extra, hp, _⟩ := e.pool
  rw [hm, List.drop_zero] at g
  rw [hm, Nat.zero_add] at l
  refine ⟨?_, g, by show d.length ≤ (openAll true d s).2.pool.length; omega⟩
  have hle : extra.length ≤ d.length - s.pool.length := by
    have := congrArg List.length hp
    rw [List.length_append] at this
    omega
  have hsplit : (openAll true d s).2.pool = (openAll true d s).1 ++ s.pool.drop d.length := by
    rw [g, ← List.append_nil (s.pool.drop _), ← List.drop_eq_nil_of_le hle, ← List.drop_append, ← hp,
      List.take_append_drop]
  have hnd := w2.nodup
  rw [hsplit, List.nodup_append] at hnd
  show (openAll true d s).2.pool.map (openAll true d s).2.heap = _
  rw [hsplit, List.map_append, openAll_values true d s hnd.1, stepV, view, ← List.map_drop]
  exact congrArg _ (List.map_congr_left fun x hx => (openAll_wrote true d s).1 x fun hm => hnd.2.2 x hm x hx rfl)

theorem agree_step {α : Type} (k : Nat) (v v' : List (Option α)) (d : List α)
    (h : d.length < k → v.take k = v'.take k) : (stepV v d).take k = (stepV v' d).take k := by
  simp only [stepV, List.take_append, List.length_map]
  congr 1
  rcases Nat.lt_or_ge d.length k with hk | hk
  · rw [List.take_drop, List.take_drop, Nat.add_sub_cancel' (Nat.le_of_lt hk), h hk]
  · rw [Nat.sub_eq_zero_of_le hk, List.take_zero, List.take_zero]

theorem agree_fold {α : Type} (k : Nat) (ds : List (List α)) (v v' : List (Option α))
    (h : v.take k = v'.take k) : (ds.foldl stepV v).take k = (ds.foldl stepV v').take k := by
  induction ds generalizing v v' with
  | nil => exact h
  | cons d ds ih => exact ih _ _ (agree_step k v v' d fun _ => h)

/-- what the first positions hold after the documents `docs`, one of them `d`, does not depend on what
the pool held before: `d` overwrote them, and later documents treat both alike -/
theorem fold_take_indep {α : Type} (docs : List (List α)) (d : List α) (hd : d ∈ docs) (v v' : List (Option α)) :
    (docs.foldl stepV v).take d.length = (docs.foldl stepV v').take d.length := by
  induction docs generalizing v v' with
  | nil => cases hd
  | cons d' ds ih =>
    rcases List.mem_cons.1 hd with rfl | h
    · exact agree_fold _ ds _ _ (agree_step _ v v' d fun h => absurd h (Nat.lt_irrefl _))
    · exact ih h _ _

theorem runDocs_after {α : Type} (docs : List (List α)) (s : St α) (w : WF s) (hm : s.mi = 0) :
    view (runDocs true docs s).2 = docs.foldl stepV (view s) ∧
    valuesAfter (runDocs true docs s).1 (runDocs true docs s).2
      = docs.map fun d => (docs.foldl stepV (view s)).take d.length := by
  induction docs generalizing s with
  | nil => exact ⟨rfl, rfl⟩
  | cons d ds ih =>
    obtain ⟨hv, hids, hlen⟩ := runDoc_view d s w hm
    obtain ⟨w1, _, _⟩ := runDoc_grows true d s w
    obtain ⟨ihv, iha⟩ := ih (runDoc true d s).2 w1 rfl
    obtain ⟨extra, hp, _⟩ := (runDocs_grows true ds _ w1).2.1.pool
    rw [hv] at ihv iha
    refine ⟨ihv, List.cons_eq_cons.2 ⟨?_, iha⟩⟩
    show (runDoc true d s).1.ids.map (runDocs true ds (runDoc true d s).2).2.heap
      = (ds.foldl stepV (stepV (view s) d)).take d.length
    rw [← ihv, hids, view, ← List.map_take, hp, List.take_append_of_le_length hlen]

/-- **With Reuse, what the maps a call returned hold after the call is the
same function of the input on a used parser as on a new one** — later documents of the same call
overwrite earlier ones in both alike -/
theorem reuse_values_after_eq_fresh {α : Type} (docs : List (List α)) (s : St α) (w : WF s) :
    valuesAfter (runCall true docs s).1 (runCall true docs s).2
      = valuesAfter (runCall true docs (St.init : St α)).1 (runCall true docs (St.init : St α)).2 := by
  rw [show runCall true docs s = runDocs true docs (entry s) from rfl, (runDocs_after docs (entry s) (Grows.reset s w).1 rfl).2,
    show runCall true docs St.init = runDocs true docs (entry St.init) from rfl,
    (runDocs_after docs (entry St.init) (Grows.reset _ WF_init).1 rfl).2]
  exact List.map_congr_left fun d hd => fold_take_indep docs d hd _ _

/-- With Reuse, what the maps of the LAST document of a call (what `Parse` returns) hold after the call is that
document itself -/
theorem last_doc_after {α : Type} (docs : List (List α)) (d : List α) (s : St α) (w : WF s) :
    (valuesAfter (runCall true (docs ++ [d]) s).1 (runCall true (docs ++ [d]) s).2).getLast?
      = some (d.map some) := by
  rw [show runCall true (docs ++ [d]) s = runDocs true (docs ++ [d]) (entry s) from rfl,
    (runDocs_after _ (entry s) (Grows.reset s w).1 rfl).2, List.map_append, List.map_singleton,
    List.getLast?_concat, List.foldl_append, List.foldl_cons, List.foldl_nil, stepV,
    List.take_left' (List.length_map _)]

inductive Op (α : Type) where
  | openObj (reuse : Bool) (a : α)
  | docEnd
  | entry

def runOp {α : Type} : Op α → St α → St α
  | .openObj r a, s => (openObj r a s).2
  | .docEnd, s => docEnd s
  | .entry, s => entry s

theorem WF_runOp {α : Type} (o : Op α) {s : St α} (w : WF s) : WF (runOp o s) := by
  cases o with
  | openObj r a => exact (openObj_grows r a s w).1
  | docEnd => exact (Grows.reset s w).1
  | entry => exact (Grows.reset s w).1

/-- whatever sequence of operations — complete calls, calls aborted in the middle of a
document by an error, Reuse switched on and off in between — has run on a new parser, the state is
well-formed -/
theorem WF_history {α : Type} (h : List (Op α)) : WF (h.foldl (fun s o => runOp o s) (St.init : St α)) := by
  suffices ∀ s : St α, WF s → WF (h.foldl (fun s o => runOp o s) s) from this _ WF_init
  induction h with
  | nil => exact fun s w => w
  | cons o os ih => exact fun s w => ih _ (WF_runOp o w)

theorem bad_not_distinct {α : Type} (s : St α) (hm : s.mi = 0) (hp : 0 < s.pool.length) (a b : α) :
    ∃ x, (runDocW (openObjBad true) [a, b] s).1.ids = [x, x] := by
  refine ⟨s.pool[0], ?_⟩
  simp [runDocW, openAllW, openObjBad, hm, hp]

theorem bad_not_nodup {α : Type} (s : St α) (hm : s.mi = 0) (hp : 0 < s.pool.length) (a b : α) :
    ¬ (runDocW (openObjBad true) [a, b] s).1.ids.Nodup := by
  obtain ⟨x, hx⟩ := bad_not_distinct s hm hp a b
  rw [hx]; simp

theorem bad_value {α : Type} (s : St α) (hm : s.mi = 0) (hp : 0 < s.pool.length) (a b : α) :
    (runDocW (openObjBad true) [a, b] s).1.val = [some b, some b] := by
  simp [runDocW, openAllW, openObjBad, hm, hp, upd]

/-! The hypotheses of the theorems above can be met; what the model computes on small runs. -/

/-- a used parser: one call with Reuse, a document with three objects, on a new parser -/
def used : St Nat := (runCall true [[10, 11, 12]] St.init).2

example : WF used := WF_runCall true _ WF_init
example : used.pool = [0, 1, 2] ∧ used.mi = 0 ∧ used.fresh = 3 := by decide
example : (runCall true [[10, 11, 12]] (St.init : St Nat)).1.map DocRes.ids = [[0, 1, 2]] := by decide
example : (runCall true [[20, 21], [30, 31, 32, 33]] used).1.map DocRes.ids = [[0, 1], [0, 1, 2, 3]] := by decide
example : values (runCall true [[20, 21], [30, 31, 32, 33]] used).1
    = [[some 20, some 21], [some 30, some 31, some 32, some 33]] := by decide
example : valuesAfter (runCall true [[20, 21], [30, 31, 32, 33]] used).1
      (runCall true [[20, 21], [30, 31, 32, 33]] used).2
    = [[some 30, some 31], [some 30, some 31, some 32, some 33]] := by decide
example : valuesAfter (runCall true [[20, 21], [30, 31, 32, 33]] (St.init : St Nat)).1
      (runCall true [[20, 21], [30, 31, 32, 33]] (St.init : St Nat)).2
    = [[some 30, some 31], [some 30, some 31, some 32, some 33]] := by decide
example : (runCall false [[20, 21]] used).1.map DocRes.ids = [[3, 4]] := by decide
/-- the hypotheses of `earlier_results_clobbered_iff_reuse`: map 1 exists and is in the pool below 2 -/
example : (1 : Nat) < used.fresh ∧ 1 ∈ used.pool.take 2 := by decide
example : (runDocW (openObjBad true) [20, 21] used).1.ids = [0, 0] := by decide
example : used.mi = 0 ∧ 0 < used.pool.length := by decide

/-- the documented clobbering, on a witness: the first call returned map 1 holding 11; after a second
call with Reuse and a two-object document it holds 21; with Reuse off in the second call it still
holds 11 -/
theorem clobber_witness :
    1 ∈ touched (runCall true [[10, 11, 12]] (St.init : St Nat)).1 ∧
    used.heap 1 = some 11 ∧
    (runCall true [[20, 21]] used).2.heap 1 = some 21 ∧
    (runCall false [[20, 21]] used).2.heap 1 = some 11 := by decide

end OjgVerif.Reuse.MapPool
