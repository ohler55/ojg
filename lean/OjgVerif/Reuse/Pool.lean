/-! # The sync.Pool ownership protocol of the package-level functions (C08, model level)

Any number of goroutines, each making calls one after the other; a call is

    get an instance (an idle one from the pool, or a new one) and reset it (the entry point's resets);
    work: consume the input element by element, each step reading and writing the instance's state
          and buffer;
    finish: the result is read off the instance;
    [copy]: the buffer is copied to a fresh private location        (only if the API copies out);
    put the instance back into the pool;
    return (the private copy, or else the instance's own buffer) to the caller.

Steps of different goroutines interleave arbitrarily; the pool may drop idle instances at any time
(GC). `S` is the instance state, `X` an input element, `R` a result; `resetf`, `stepf`, `outf` are
the entry reset, one step of the work and reading the result; `new` is what the pool's New makes.

What this model cannot exhibit: Go data races proper (unsynchronised accesses inside one step), the
internals of sync.Pool, anything about memory outside the instances. -/
namespace OjgVerif.Reuse.Pool

/-- memory a caller may be handed: the buffer of instance `i`, or the `k`-th private copy -/
inductive Loc where
  | inst (i : Nat)
  | priv (k : Nat)
  deriving DecidableEq, Repr

inductive PC (X R : Type) where
  | idle
  | run (i : Nat) (done todo : List X)
  | filled (i : Nat) (inp : List X) (r : R)
  | copied (i k : Nat) (inp : List X) (r : R)
  | released (l : Loc) (inp : List X) (r : R)

/-- the instance a goroutine holds -/
def PC.inst? {X R : Type} : PC X R → Option Nat
  | .run i _ _ => some i
  | .filled i _ _ => some i
  | .copied i _ _ _ => some i
  | _ => none

structure State (X S R : Type) where
  pool : List Nat                  -- idle instances (a multiset)
  fresh : Nat                      -- instances made so far
  freshPriv : Nat                  -- private copies made so far
  ist : Nat → S                    -- state of each instance
  pcs : Nat → PC X R               -- where each goroutine is
  res : Nat → List R               -- results each goroutine has received, newest first
  calls : Nat → List (List X)      -- the inputs of those calls, newest first
  held : List Loc                  -- every location handed to a caller so far

def upd {α : Type} (f : Nat → α) (g : Nat) (a : α) : Nat → α := fun h => if h = g then a else f h

@[simp] theorem upd_same {α : Type} (f : Nat → α) (g : Nat) (a : α) : upd f g a g = a := by simp [upd]
@[simp] theorem upd_other {α : Type} (f : Nat → α) {g h : Nat} (a : α) (hn : h ≠ g) : upd f g a h = f h := by
  simp [upd, hn]

theorem upd_forall {α : Type} {P : α → Prop} {f : Nat → α} {g : Nat} {a : α}
    (hf : ∀ h, h ≠ g → P (f h)) (ha : P a) : ∀ h, P (upd f g a h) := by
  intro h
  by_cases e : h = g
  · rw [e, upd_same]; exact ha
  · rw [upd_other _ _ e]; exact hf h e

/-- what holds of every goroutine's `PC` holds of the one goroutine `g` is known to be at -/
theorem of_pcs {X R : Type} {P : PC X R → Prop} {pcs : Nat → PC X R} (h : ∀ g, P (pcs g)) {g : Nat} {pc : PC X R}
    (e : pcs g = pc) : P pc := e ▸ h g

def init {X S R : Type} (new : S) : State X S R :=
  { pool := [], fresh := 0, freshPriv := 0, ist := fun _ => new, pcs := fun _ => .idle,
    res := fun _ => [], calls := fun _ => [], held := [] }

/-- what a step writes -/
inductive Ev where
  | none
  | write (l : Loc)
  deriving DecidableEq, Repr

section
variable {X S R : Type} (resetf : S → S) (stepf : S → X → S) (outf : S → R) (new : S) (copies : Bool)

/-- one step of goroutine `g` (or of the pool: `drop`) -/
inductive Step : State X S R → Ev → State X S R → Prop where
  | getPool (σ : State X S R) (g i : Nat) (inp : List X) (hp : σ.pcs g = .idle) (hi : i ∈ σ.pool) :
      Step σ .none { σ with pool := σ.pool.erase i, ist := upd σ.ist i (resetf (σ.ist i)), pcs := upd σ.pcs g (.run i [] inp) }
  | getNew (σ : State X S R) (g : Nat) (inp : List X) (hp : σ.pcs g = .idle) :
      Step σ .none { σ with fresh := σ.fresh + 1, ist := upd σ.ist σ.fresh (resetf new), pcs := upd σ.pcs g (.run σ.fresh [] inp) }
  | work (σ : State X S R) (g i : Nat) (done todo : List X) (x : X) (hp : σ.pcs g = .run i done (x :: todo)) :
      Step σ (.write (.inst i)) { σ with ist := upd σ.ist i (stepf (σ.ist i) x), pcs := upd σ.pcs g (.run i (done ++ [x]) todo) }
  | finish (σ : State X S R) (g i : Nat) (done : List X) (hp : σ.pcs g = .run i done []) :
      Step σ .none { σ with pcs := upd σ.pcs g (.filled i done (outf (σ.ist i))) }
  | copy (σ : State X S R) (g i : Nat) (inp : List X) (r : R) (hc : copies = true) (hp : σ.pcs g = .filled i inp r) :
      Step σ (.write (.priv σ.freshPriv)) { σ with freshPriv := σ.freshPriv + 1, pcs := upd σ.pcs g (.copied i σ.freshPriv inp r) }
  | putCopied (σ : State X S R) (g i k : Nat) (inp : List X) (r : R) (hp : σ.pcs g = .copied i k inp r) :
      Step σ .none { σ with pool := i :: σ.pool, pcs := upd σ.pcs g (.released (.priv k) inp r) }
  | putAlias (σ : State X S R) (g i : Nat) (inp : List X) (r : R) (hc : copies = false) (hp : σ.pcs g = .filled i inp r) :
      Step σ .none { σ with pool := i :: σ.pool, pcs := upd σ.pcs g (.released (.inst i) inp r) }
  | ret (σ : State X S R) (g : Nat) (l : Loc) (inp : List X) (r : R) (hp : σ.pcs g = .released l inp r) :
      Step σ .none { σ with pcs := upd σ.pcs g .idle, res := upd σ.res g (r :: σ.res g),
                            calls := upd σ.calls g (inp :: σ.calls g), held := l :: σ.held }
  | drop (σ : State X S R) (i : Nat) (hi : i ∈ σ.pool) :
      Step σ .none { σ with pool := σ.pool.erase i }

inductive Reachable : State X S R → Prop where
  | init : Reachable (init new)
  | step {σ σ' : State X S R} {ev : Ev} : Reachable σ → Step resetf stepf outf new copies σ ev σ' → Reachable σ'

/-- idle instances are distinct and were made by the pool; an instance a goroutine holds was made
by the pool, is not idle, and nobody else holds it -/
structure Own (pool : List Nat) (fresh : Nat) (pcs : Nat → PC X R) : Prop where
  nodup : pool.Nodup
  bound : ∀ i ∈ pool, i < fresh
  held : ∀ g i, (pcs g).inst? = some i → i ∉ pool ∧ i < fresh ∧ ∀ g', (pcs g').inst? = some i → g' = g

abbrev Owner (σ : State X S R) : Prop := Own σ.pool σ.fresh σ.pcs

/-- Goroutine `g` goes to `pc'` while pool and allocator change. Enough to check: the new pool has no duplicates
and lies below the new allocator; what the other goroutines hold is outside the new pool, below the new allocator
and not what `pc'` holds (`hothers`); what `pc'` holds is outside the new pool and below the new allocator (`hnew`).
`Own.keep` (pool and allocator unchanged, `pc'` holds at most what `g` held) and `Own.put` (`g` hands its instance
to the pool) are instances. -/
theorem Own.move {pool pool' : List Nat} {fresh fresh' : Nat} {pcs : Nat → PC X R} (h : Own pool fresh pcs)
    (g : Nat) (pc' : PC X R) (hnd : pool'.Nodup) (hb : ∀ i ∈ pool', i < fresh')
    (hothers : ∀ g' i, g' ≠ g → (pcs g').inst? = some i → i ∉ pool' ∧ i < fresh' ∧ pc'.inst? ≠ some i)
    (hnew : ∀ i, pc'.inst? = some i → i ∉ pool' ∧ i < fresh') : Own pool' fresh' (upd pcs g pc') := by
  refine ⟨hnd, hb, fun g1 i h1 => ?_⟩
  by_cases e1 : g1 = g
  · rw [e1, upd_same] at h1
    refine ⟨(hnew i h1).1, (hnew i h1).2, fun g2 h2 => ?_⟩
    by_cases e2 : g2 = g
    · rw [e2, e1]
    · rw [upd_other _ _ e2] at h2; exact absurd h1 (hothers g2 i e2 h2).2.2
  · rw [upd_other _ _ e1] at h1
    obtain ⟨a, b, c⟩ := hothers g1 i e1 h1
    refine ⟨a, b, fun g2 h2 => ?_⟩
    by_cases e2 : g2 = g
    · rw [e2, upd_same] at h2; exact absurd h2 c
    · rw [upd_other _ _ e2] at h2; exact (h.held g1 i h1).2.2 g2 h2

theorem Own.keep {pool : List Nat} {fresh : Nat} {pcs : Nat → PC X R} (h : Own pool fresh pcs)
    (g : Nat) (pc' : PC X R) (hk : ∀ i, pc'.inst? = some i → (pcs g).inst? = some i) :
    Own pool fresh (upd pcs g pc') :=
  h.move g pc' h.nodup h.bound
    (fun g' i e hi => ⟨(h.held g' i hi).1, (h.held g' i hi).2.1, fun hc => e ((h.held g i (hk i hc)).2.2 g' hi)⟩)
    (fun i hi => ⟨(h.held g i (hk i hi)).1, (h.held g i (hk i hi)).2.1⟩)

theorem Own.put {pool : List Nat} {fresh : Nat} {pcs : Nat → PC X R} (h : Own pool fresh pcs)
    (g i : Nat) (pc' : PC X R) (hg : (pcs g).inst? = some i) (hn : pc'.inst? = none) :
    Own (i :: pool) fresh (upd pcs g pc') := by
  obtain ⟨a, b, c⟩ := h.held g i hg
  refine h.move g pc' (List.nodup_cons.mpr ⟨a, h.nodup⟩) ?_ ?_ (fun j hj => by rw [hn] at hj; cases hj)
  · intro j hj
    rcases List.mem_cons.mp hj with rfl | hj
    · exact b
    · exact h.bound j hj
  · intro g' j e hj
    refine ⟨fun hm => ?_, (h.held g' j hj).2.1, by rw [hn]; nofun⟩
    rcases List.mem_cons.mp hm with rfl | hm
    · exact e (c g' hj)
    · exact (h.held g' j hj).1 hm

theorem owner_step {σ σ' : State X S R} {ev : Ev} (h : Owner σ)
    (hs : Step resetf stepf outf new copies σ ev σ') : Owner σ' := by
  cases hs with
  | getPool g i inp hp hi =>
    refine h.move g _ (h.nodup.erase i) (fun j hj => h.bound j (List.mem_of_mem_erase hj)) ?_ ?_
    · intro g' j _ hj
      obtain ⟨a, b, _⟩ := h.held g' j hj
      exact ⟨fun hm => a (List.mem_of_mem_erase hm), b, fun hc => a (Option.some.inj hc ▸ hi)⟩
    · intro j hj
      cases hj
      exact ⟨h.nodup.not_mem_erase, h.bound i hi⟩
  | getNew g inp hp =>
    refine h.move g _ h.nodup (fun j hj => Nat.lt_succ_of_lt (h.bound j hj)) ?_ ?_
    · intro g' j _ hj
      obtain ⟨a, b, _⟩ := h.held g' j hj
      exact ⟨a, Nat.lt_succ_of_lt b, fun hc => Nat.lt_irrefl _ (Option.some.inj hc ▸ b)⟩
    · intro j hj
      cases hj
      exact ⟨fun hm => Nat.lt_irrefl _ (h.bound _ hm), Nat.lt_succ_self _⟩
  | work g i done todo x hp | finish g i done hp | copy g i inp r hc hp =>
    exact h.keep g _ fun j hj => by rw [hp]; exact hj
  | putCopied g i k inp r hp | putAlias g i inp r hc hp => exact h.put g i _ (by rw [hp]; rfl) rfl
  | ret g l inp r hp => exact h.keep g _ nofun
  | drop i hi =>
    exact ⟨h.nodup.erase i, fun j hj => h.bound j (List.mem_of_mem_erase hj),
      fun g j hj => ⟨fun hm => (h.held g j hj).1 (List.mem_of_mem_erase hm), (h.held g j hj).2⟩⟩

theorem owner_reachable {σ : State X S R} (h : Reachable resetf stepf outf new copies σ) : Owner σ := by
  induction h with
  | init => exact ⟨List.nodup_nil, nofun, nofun⟩
  | step _ hs ih => exact owner_step resetf stepf outf new copies ih hs

theorem owner_exclusive {σ : State X S R} (h : Reachable resetf stepf outf new copies σ) :
    (∀ g1 g2 i, (σ.pcs g1).inst? = some i → (σ.pcs g2).inst? = some i → g1 = g2) ∧
    (∀ g i, (σ.pcs g).inst? = some i → i ∉ σ.pool) :=
  have ho := owner_reachable resetf stepf outf new copies h
  ⟨fun g1 g2 i h1 h2 => (ho.held g2 i h2).2.2 g1 h1, fun g i hi => (ho.held g i hi).1⟩

/-- For an API that copies out: whatever has been handed to a caller, or is about to be, is a private copy made
so far. `no_write_after_return` reads `held` only; `released` is what carries `held` across `ret`, `copied` what
carries `released` across `putCopied`. Along a run the invariant is carried as `Priv` — `PrivPC` of every goroutine's
`PC`, so that a step has to look at the goroutine that moved only (`upd_forall`) — and the fields are read off it
(`Priv.retInv`). -/
structure RetInv (σ : State X S R) : Prop where
  held : ∀ l ∈ σ.held, ∃ k, l = Loc.priv k ∧ k < σ.freshPriv
  copied : ∀ g i k inp r, σ.pcs g = .copied i k inp r → k < σ.freshPriv
  released : ∀ g l inp r, σ.pcs g = .released l inp r → ∃ k, l = Loc.priv k ∧ k < σ.freshPriv

/-- `RetInv`, for one goroutine: what it is about to hand out is a private copy made so far -/
def PrivPC (n : Nat) : PC X R → Prop
  | .copied _ k _ _ => k < n
  | .released l _ _ => ∃ k, l = Loc.priv k ∧ k < n
  | _ => True

def Priv (σ : State X S R) : Prop :=
  (∀ l ∈ σ.held, ∃ k, l = Loc.priv k ∧ k < σ.freshPriv) ∧ ∀ g, PrivPC σ.freshPriv (σ.pcs g)

theorem Priv.retInv {σ : State X S R} (h : Priv σ) : RetInv σ :=
  ⟨h.1, fun _ _ _ _ _ => of_pcs h.2, fun _ _ _ _ => of_pcs h.2⟩

theorem PrivPC.succ {n : Nat} {pc : PC X R} (h : PrivPC n pc) : PrivPC (n + 1) pc := by
  cases pc with
  | copied i k inp r => exact Nat.lt_succ_of_lt h
  | released l inp r => exact h.imp fun k hk => ⟨hk.1, Nat.lt_succ_of_lt hk.2⟩
  | _ => trivial

theorem ret_step (hcp : copies = true) {σ σ' : State X S R} {ev : Ev} (h : Priv σ)
    (hs : Step resetf stepf outf new copies σ ev σ') : Priv σ' := by
  obtain ⟨hh, hp⟩ := h
  cases hs with
  | getPool | getNew | work | finish => exact ⟨hh, upd_forall (fun h _ => hp h) trivial⟩
  | copy g i inp r _ _ =>
    exact ⟨fun l hl => (hh l hl).imp fun k hk => ⟨hk.1, Nat.lt_succ_of_lt hk.2⟩,
      upd_forall (fun h _ => (hp h).succ) (Nat.lt_succ_self _)⟩
  | putCopied g i k inp r hg => exact ⟨hh, upd_forall (fun h _ => hp h) ⟨k, rfl, of_pcs hp hg⟩⟩
  | putAlias g i inp r hc _ => rw [hcp] at hc; cases hc
  | ret g l inp r hg =>
    exact ⟨List.forall_mem_cons.2 ⟨of_pcs hp hg, hh⟩, upd_forall (fun h _ => hp h) trivial⟩
  | drop i hi => exact ⟨hh, hp⟩

theorem ret_reachable (hcp : copies = true) {σ : State X S R}
    (h : Reachable resetf stepf outf new copies σ) : RetInv σ := by
  refine Priv.retInv ?_
  induction h with
  | init => exact ⟨nofun, fun _ => trivial⟩
  | step _ hs ih => exact ret_step resetf stepf outf new copies hcp ih hs

/-- **If the API copies out, no step of any goroutine writes a location that was returned to a
caller earlier.** -/
theorem no_write_after_return (hcp : copies = true) {σ σ' : State X S R} {l : Loc}
    (hr : Reachable resetf stepf outf new copies σ)
    (hs : Step resetf stepf outf new copies σ (.write l) σ') : l ∉ σ.held := by
  have hi := ret_reachable resetf stepf outf new copies hcp hr
  intro hl
  obtain ⟨k, hk, hlt⟩ := hi.held l hl
  cases hs with
  | work g i done todo x hp => cases hk
  | copy g i inp r hc hp =>
    cases hk
    exact Nat.lt_irrefl _ hlt

/-! `hH` below is the C07 statement for the instance type: after the entry reset, the result of a
call does not depend on what the instance held before. -/

def seq (inp : List X) : R := outf (inp.foldl stepf (resetf new))

/-- Every result computed so far is the sequential one. `run`: the instance a goroutine works on holds the fold
of the input consumed so far from the reset of SOME state `s0` — whatever the previous holder left in it — which
is why `hH` is needed, and only at `finish`. `results_sequential` reads `res` only; `released` carries it across
`ret`, and each of the other fields carries the next along a call. Along a run it is carried as `Res` (`ResPC` of
every goroutine's `PC`); the fields are read off it (`Res.resInv`). -/
structure ResInv (σ : State X S R) : Prop where
  run : ∀ g i done todo, σ.pcs g = .run i done todo → ∃ s0, σ.ist i = done.foldl stepf (resetf s0)
  filled : ∀ g i inp r, σ.pcs g = .filled i inp r → r = seq resetf stepf outf new inp
  copied : ∀ g i k inp r, σ.pcs g = .copied i k inp r → r = seq resetf stepf outf new inp
  released : ∀ g l inp r, σ.pcs g = .released l inp r → r = seq resetf stepf outf new inp
  res : ∀ g, σ.res g = (σ.calls g).map (seq resetf stepf outf new)

/-- `ResInv`, for one goroutine -/
def ResPC (ist : Nat → S) : PC X R → Prop
  | .idle => True
  | .run i done _ => ∃ s0, ist i = done.foldl stepf (resetf s0)
  | .filled _ inp r | .copied _ _ inp r | .released _ inp r => r = seq resetf stepf outf new inp

def Res (σ : State X S R) : Prop :=
  (∀ g, ResPC resetf stepf outf new σ.ist (σ.pcs g)) ∧ ∀ g, σ.res g = (σ.calls g).map (seq resetf stepf outf new)

theorem Res.resInv {σ : State X S R} (h : Res resetf stepf outf new σ) : ResInv resetf stepf outf new σ :=
  ⟨fun _ _ _ _ => of_pcs h.1, fun _ _ _ _ => of_pcs h.1, fun _ _ _ _ _ => of_pcs h.1, fun _ _ _ _ => of_pcs h.1, h.2⟩

theorem ResPC.frame {ist : Nat → S} {pc : PC X R} (h : ResPC resetf stepf outf new ist pc) (i : Nat) (v : S)
    (hi : pc.inst? ≠ some i) : ResPC resetf stepf outf new (upd ist i v) pc := by
  cases pc with
  | run j done todo => rwa [ResPC, upd_other _ _ fun e => hi (congrArg some e)]
  | _ => exact h

theorem res_step (hH : ∀ (s : S) (inp : List X), outf (inp.foldl stepf (resetf s)) = outf (inp.foldl stepf (resetf new)))
    {σ σ' : State X S R} {ev : Ev} (ho : Owner σ) (h : Res resetf stepf outf new σ)
    (hs : Step resetf stepf outf new copies σ ev σ') : Res resetf stepf outf new σ' := by
  obtain ⟨hp, hres⟩ := h
  cases hs with
  | getPool g i inp _ hi =>
    exact ⟨upd_forall (fun h _ => (hp h).frame _ _ _ _ i _ fun e => (ho.held h i e).1 hi) ⟨σ.ist i, upd_same ..⟩, hres⟩
  | getNew g inp _ =>
    exact ⟨upd_forall (fun h _ => (hp h).frame _ _ _ _ _ _ fun e => Nat.lt_irrefl _ (ho.held h _ e).2.1) ⟨new, upd_same ..⟩, hres⟩
  | work g i done todo x hg =>
    have hi : (σ.pcs g).inst? = some i := by rw [hg]; rfl
    obtain ⟨s0, h0⟩ := of_pcs hp hg
    exact ⟨upd_forall (fun h e => (hp h).frame _ _ _ _ i _ fun e' => e ((ho.held g i hi).2.2 h e'))
      ⟨s0, (upd_same ..).trans (by rw [h0, List.foldl_append]; rfl)⟩, hres⟩
  | finish g i done hg =>
    obtain ⟨s0, h0⟩ := of_pcs hp hg
    exact ⟨upd_forall (fun h _ => hp h) (by rw [h0]; exact hH s0 _), hres⟩
  | copy g i inp r _ hg | putCopied g i k inp r hg | putAlias g i inp r _ hg =>
    exact ⟨upd_forall (fun h _ => hp h) (of_pcs hp hg :), hres⟩
  | ret g l inp r hg =>
    have hr : r = _ := of_pcs hp hg
    refine ⟨upd_forall (fun h _ => hp h) trivial, fun g' => ?_⟩
    by_cases e : g' = g
    · simp only [e, upd_same, List.map_cons, hres g, hr]
    · simp only [upd_other _ _ e]; exact hres g'
  | drop i hi => exact ⟨hp, hres⟩

theorem res_reachable (hH : ∀ (s : S) (inp : List X), outf (inp.foldl stepf (resetf s)) = outf (inp.foldl stepf (resetf new)))
    {σ : State X S R} (h : Reachable resetf stepf outf new copies σ) : ResInv resetf stepf outf new σ := by
  refine Res.resInv resetf stepf outf new ?_
  induction h with
  | init => exact ⟨fun _ => trivial, fun _ => rfl⟩
  | step hr hs ih => exact res_step resetf stepf outf new copies hH (owner_reachable resetf stepf outf new copies hr) ih hs

/-- **Every result a goroutine has received is the result of the same call on a fresh instance,
run alone** — for every interleaving, given non-interference (C07) for the instance type. -/
theorem results_sequential (hH : ∀ (s : S) (inp : List X), outf (inp.foldl stepf (resetf s)) = outf (inp.foldl stepf (resetf new)))
    {σ : State X S R} (h : Reachable resetf stepf outf new copies σ) (g : Nat) :
    σ.res g = (σ.calls g).map (seq resetf stepf outf new) :=
  (res_reachable resetf stepf outf new copies hH h).res g

end
end OjgVerif.Reuse.Pool
