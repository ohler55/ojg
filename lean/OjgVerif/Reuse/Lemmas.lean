import OjgVerif.Json.Lemmas
/-! Non-interference for the JSON machine: two states that agree on the fields that are LIVE in the
current mode behave alike, whatever the other fields hold. Live everywhere: `mode starts stack docs
line pos nl`. Live only inside a string (`string esc u`): `nextMode tmp`; inside a literal
(`null true false`): `ri`; inside `\uXXXX`: `ri rn`; inside a number: `num` (and the fast-loop flag
in `digit`). Everything else is written before it is read.

`Sim` states the agreement. `live` puts every dead field to its initial value, so `Sim s t` gives
`live s = live t`, and the machine cannot tell `s` from `live s` (`Resp`): an action that reads a
field occurs only in modes where the field is live (`act_mode`), and then the outcomes on `s` and on
`live s` have the same live part, for most actions by computing it.

`Json/BufSim.lean` has the same mode classes (`usesStr`, `usesRi`, `usesRn`) and the normal form `St.cn`, which
forgets the four string / counter fields only, with `Act.build_cn`, `Act.upd_cn` for any table set: an action added
to the switch is walked there too. `numMode` here is the eight number modes; `Json.numMode` (`Json/BufNum.lean`) is
the three modes of the integer part. -/
namespace OjgVerif.Reuse
open OjgVerif.Json

def strMode : Mode → Bool
  | .string | .esc | .u => true
  | _ => false

def tokMode : Mode → Bool
  | .null | .true_ | .false_ => true
  | _ => false

def numMode : Mode → Bool
  | .neg | .zero | .digit | .dot | .frac | .expSign | .expZero | .exp => true
  | _ => false

/-- agreement on what is live (all but the fast-loop flag); the last conjunct of `str` is `nextOk s` (`Sim.nextOk`),
asked of `s` alone since `t` has the same `nextMode` there -/
structure SimCore (s t : St) : Prop where
  mode : s.mode = t.mode
  starts : s.starts = t.starts
  stack : s.stack = t.stack
  docs : s.docs = t.docs
  line : s.line = t.line
  pos : s.pos = t.pos
  nl : s.nl = t.nl
  str : strMode s.mode = true → s.nextMode = t.nextMode ∧ s.tmp = t.tmp ∧ (s.nextMode = .colon ∨ s.nextMode = .after)
  tok : tokMode s.mode = true → s.ri = t.ri
  u : s.mode = .u → s.ri = t.ri ∧ s.rn = t.rn
  num : numMode s.mode = true → s.num = t.num

/-- agreement on what is live; with `str` it carries `nextOk s`, which is why `Sim s s` is not free (`Sim.refl_of`) -/
structure Sim (s t : St) : Prop extends SimCore s t where
  fast : s.mode = .digit → s.inFast = t.inFast

theorem Sim.refl_of (s : St) (h : strMode s.mode = true → (s.nextMode = .colon ∨ s.nextMode = .after)) : Sim s s :=
  ⟨⟨rfl, rfl, rfl, rfl, rfl, rfl, rfl, fun hm => ⟨rfl, rfl, h hm⟩, fun _ => rfl, fun _ => ⟨rfl, rfl⟩, fun _ => rfl⟩, fun _ => rfl⟩

theorem SimCore.err {s t : St} (h : SimCore s t) (k : ErrKind) : s.err k = t.err k := by
  unfold St.err; rw [h.line, h.pos, h.nl]

def live (s : St) : St :=
  { s with
    nextMode := bif strMode s.mode then s.nextMode else .after
    tmp := bif strMode s.mode then s.tmp else []
    ri := bif tokMode s.mode || s.mode == .u then s.ri else 0
    rn := bif s.mode == .u then s.rn else 0
    num := bif numMode s.mode then s.num else {}
    inFast := bif s.mode == .digit then s.inFast else false }

/-- inside a string the mode to return to is `colon` or `after`: the closing quote makes it the mode,
and any other would bring dead fields to life -/
def nextOk (s : St) : Bool := !strMode s.mode || s.nextMode == .colon || s.nextMode == .after

theorem live_mode (s : St) : (live s).mode = s.mode := rfl
theorem live_starts (s : St) : (live s).starts = s.starts := rfl
theorem live_stack (s : St) : (live s).stack = s.stack := rfl

theorem live_idem (s : St) : live (live s) = live s := by
  obtain ⟨m, _, _, _, _, _, _, _, _, _, _, _, _⟩ := s
  cases m <;> rfl

theorem live_set (s : St) (p : Nat) (f : Bool) :
    live { live s with pos := p, inFast := f } = live { s with pos := p, inFast := f } := by
  obtain ⟨m, _, _, _, _, _, _, _, _, _, _, _, _⟩ := s
  cases m <;> rfl

theorem nextOk_live (s : St) : nextOk (live s) = nextOk s := by
  unfold nextOk live
  cases strMode s.mode <;> rfl

theorem cond_congr {α : Type} {c : Bool} {a b d : α} (h : c = true → a = b) :
    (bif c then a else d) = (bif c then b else d) := by
  cases c
  · rfl
  · exact congrArg (cond true · d) (h rfl)

theorem Sim.live_eq {s t : St} (h : Sim s t) : live s = live t := by
  have hri : (tokMode s.mode || s.mode == .u) = true → s.ri = t.ri := fun hm =>
    (Bool.or_eq_true _ _ ▸ hm).elim h.tok fun hm => (h.u (eq_of_beq hm)).1
  unfold live
  rw [← h.mode, ← h.starts, ← h.stack, ← h.docs, ← h.line, ← h.pos, ← h.nl,
    cond_congr fun hm : strMode s.mode = true => (h.str hm).1,
    cond_congr fun hm : strMode s.mode = true => (h.str hm).2.1, cond_congr h.num, cond_congr hri,
    cond_congr fun hm : (s.mode == .digit) = true => h.fast (eq_of_beq hm),
    cond_congr fun hm : (s.mode == .u) = true => (h.u (eq_of_beq hm)).2]

theorem Sim.nextOk {s t : St} (h : Sim s t) : nextOk s = true := by
  cases hm : strMode s.mode
  · simp only [Reuse.nextOk, hm]; rfl
  · rcases (h.str hm).2.2 with e | e <;> simp only [Reuse.nextOk, e] <;> cases strMode s.mode <;> rfl

def liveR : Except Err St → Except Err St
  | .ok s => .ok (live s)
  | .error e => .error e

def nextOkR : Except Err St → Bool
  | .ok s => nextOk s
  | .error _ => true

/-- the outcome of the action `a`, offset and fast-loop flag settled as `step` does for an action that
continues, before the live part is taken: `stepAct` hands the flag on as it finds it (`negDigit` enters `digit`
mode with whatever the flag held), `step` keeps it after `numDigit` and `valDigit` only -/
def liveRB (cfg : Cfg) (a : Act) : Except Err (St × Bool) → Except Err (St × Bool)
  | .ok (s, c) => .ok (live (a.settle refTables cfg s true), c)
  | .error e => .error e

def nextOkRB : Except Err (St × Bool) → Bool
  | .ok (s, _) => nextOk s
  | .error _ => true

theorem fin_num {m : Mode} (h : expectedFin m = .n) : numMode m = true := by
  cases m <;> first | rfl | nomatch h

/-- what an action needs of the mode it occurs in, so that the fields it reads are live there -/
def needs : Act → Mode → Bool
  | .strOk, m | .strQuote, m | .strSlash, m => decide (m = .string)
  | .escOk, m | .escU, m => decide (m = .esc)
  | .uOk, m => decide (m = .u)
  | .tokenOk, m => decide (m = .null ∨ m = .true_ ∨ m = .false_)
  | .numDigit, m => decide (m = .digit)
  | .numZero, m | .negDigit, m | .numDot, m | .numFrac, m | .fracE, m | .expSign, m | .expDigit, m
  | .numSpc, m | .numNewline, m | .numComma, m => numMode m
  | _, _ => true

theorem needs_srcModes (a : Act) : (srcModes a).all (needs a) = true := by cases a <;> rfl

theorem act_mode (m : Mode) (b : UInt8) : needs (expected m b) m = true :=
  List.all_eq_true.mp (needs_srcModes _) m (src_ok m b)

/-- the stack effect reads a field only where it is live -/
theorem build_live {a : Act} {s : St} (b : UInt8) (hm : needs a s.mode = true) :
    a.build refTables b (live s) = a.build refTables b s := by
  cases a <;> try rfl
  all_goals
    obtain ⟨m, nm, st, sk, ds, tmp, ri, rn, num, ln, pos, nl, fast⟩ := s
    simp only [needs, decide_eq_true_eq] at hm
  case strQuote => subst hm; rfl
  case tokenOk => rcases hm with rfl | rfl | rfl <;> rfl
  case numSpc | numNewline | numComma => simp only [Act.build, live, hm, cond_true]
  case closeObject | closeArray =>
    simp only [Act.build, flushK, live_mode, live_starts, live_stack]
    rcases st with _ | ⟨_ | _, rest⟩ <;> try rfl
    all_goals
      by_cases hn : refTables.fin m = .n
      · simp only [live, fin_num hn, cond_true]
      · simp only [hn, if_false]

theorem cont_live {a : Act} {s : St} (hm : needs a s.mode = true) : a.cont (live s) = a.cont s := by
  cases a <;> try rfl
  case numDot => simp only [Act.cont, live, show numMode s.mode = true from hm, cond_true]

/-- The record update cannot tell a state from its live part, once offset and fast-loop flag are settled, and
keeps `nextOk`: an action that reads a field occurs only in modes where the field is live (`act_mode`), and then
both sides compute to the same state. -/
theorem upd_live (cfg : Cfg) {a : Act} {s : St} (b : UInt8) (st : List Item) (hm : needs a s.mode = true)
    (hi : nextOk s = true) :
    live (a.settle refTables cfg (a.upd refTables cfg b s st) true) =
      live (a.settle refTables cfg (a.upd refTables cfg b (live s) st) true) ∧
    nextOk (a.upd refTables cfg b s st) = true := by
  obtain ⟨m, nm, ss, sk, ds, tmp, ri, rn, num, ln, pos, nl, fast⟩ := s
  cases a <;> simp only [needs, decide_eq_true_eq] at hm <;> simp only [Act.upd]
  -- the mode stays: the live part of the live part
  case skipChar | skipNewline | unknown | charErr => exact ⟨(live_set _ _ _).symm, hi⟩
  case strOk | strSlash | escOk | escU => subst hm; exact ⟨rfl, hi⟩
  case uOk =>
    subst hm
    simp only [live, beq_self_eq_true, Bool.or_true, cond_true]
    by_cases h4 : ri + 1 = 4 <;> simp only [h4, if_true, if_false] <;> exact ⟨rfl, hi⟩
  case strQuote =>
    subst hm
    have hn : nm = .colon ∨ nm = .after := by simpa [nextOk, strMode] using hi
    rcases hn with rfl | rfl <;> exact ⟨rfl, rfl⟩
  case tokenOk =>
    rcases hm with rfl | rfl | rfl <;> simp only [live, tokMode, Bool.true_or, cond_true] <;>
      rcases tokLit refTables _ with _ | p <;>
      first | exact ⟨rfl, rfl⟩ | (by_cases h : p.1.length - 1 ≤ ri + 1 <;> simp only [h, ↓reduceIte] <;> exact ⟨rfl, rfl⟩)
  case numDigit => subst hm; exact ⟨rfl, rfl⟩
  case numDot | numFrac | fracE | expSign | expDigit | numZero | negDigit | numSpc | numNewline =>
    simp only [live, hm, cond_true]; exact ⟨rfl, rfl⟩
  case numComma | afterComma => rcases ss with _ | ⟨_ | _, _⟩ <;> exact ⟨rfl, rfl⟩
  -- the new mode is a constant, no dead field is read
  all_goals exact ⟨rfl, rfl⟩

theorem stepAct_sim (cfg : Cfg) (s : St) (hi : nextOk s = true) (b : UInt8) :
    liveRB cfg (expected s.mode b) (stepAct refTables cfg s b)
        = liveRB cfg (expected s.mode b) (stepAct refTables cfg (live s) b) ∧
      nextOkRB (stepAct refTables cfg s b) = true := by
  have hm := act_mode s.mode b
  rw [stepAct_eq, stepAct_eq, live_mode, show refTables.act s.mode b = expected s.mode b from rfl,
    build_live b hm, cont_live hm]
  cases (expected s.mode b).build refTables b s with
  | error k => exact ⟨rfl, rfl⟩
  | ok st =>
    obtain ⟨h1, h2⟩ := upd_live cfg b st hm hi
    exact ⟨congrArg (fun x => Except.ok (x, _)) h1, h2⟩

theorem deliver_live (cfg : Cfg) (s : St) :
    live (deliver refTables cfg (live s)) = live (deliver refTables cfg s) := by
  unfold deliver
  rw [live_mode, live_starts]
  split
  · cases cfg.onlyOne <;> rfl
  · exact live_idem s

theorem settle_live (cfg : Cfg) (a : Act) (c : Bool) {x y : St}
    (h : live (a.settle refTables cfg x true) = live (a.settle refTables cfg y true)) :
    live (a.settle refTables cfg x c) = live (a.settle refTables cfg y c) := by
  cases c
  · rw [Act.settle_false, Act.settle_false, ← deliver_live, h, deliver_live]
  · exact h

theorem settle_nextOk (cfg : Cfg) (a : Act) (c : Bool) {x : St} (h : nextOk x = true) :
    nextOk (a.settle refTables cfg x c) = true := by
  cases c
  · rw [Act.settle_false]
    unfold deliver
    split
    · cases cfg.onlyOne <;> rfl
    · exact h
  · exact h

/-- `f` cannot tell a state from its live part, and keeps `nextOk` -/
def Resp (f : St → Except Err St) : Prop :=
  ∀ s, nextOk s = true → liveR (f s) = liveR (f (live s)) ∧ nextOkR (f s) = true

theorem Resp.bind {f g : St → Except Err St} (hf : Resp f) (hg : Resp g) :
    Resp fun s => match f s with | .error e => .error e | .ok s' => g s' := by
  intro s hi
  have ⟨he, hv⟩ := hf s hi
  have hv' := (hf (live s) ((nextOk_live s).trans hi)).2
  simp only []
  cases hs : f s <;> cases hl : f (live s) <;> rw [hs] at he hv <;> rw [hl] at he hv' <;>
    simp only [liveR, reduceCtorEq, Except.ok.injEq, Except.error.injEq] at he
  · exact ⟨congrArg Except.error he, rfl⟩
  · exact ⟨((hg _ hv).1.trans (congrArg (fun x => liveR (g x)) he)).trans (hg _ hv').1.symm, (hg _ hv).2⟩

theorem Resp.ok : Resp .ok := fun s hi => ⟨congrArg Except.ok (live_idem s).symm, hi⟩

/-- a buffer boundary ends the integer fast loop -/
theorem Resp.endFast : Resp fun s => .ok { s with inFast := false } :=
  fun s hi => ⟨congrArg Except.ok (live_set s s.pos false).symm, hi⟩

/-- one byte respects `live`; like `runBytes_sim` and `runChunks_resp` this is a statement of the form `Resp`, and
`runChunks_sim` alone concludes from `Sim` -/
theorem step_sim (cfg : Cfg) (b : UInt8) : Resp (step refTables cfg · b) := by
  intro s hi
  obtain ⟨he, hv⟩ := stepAct_sim cfg s hi b
  simp only [step_settle, live_mode]
  revert he hv
  rcases stepAct refTables cfg s b with e | ⟨s1, c⟩ <;> rcases stepAct refTables cfg (live s) b with e' | ⟨n1, c'⟩ <;>
    intro he hv <;> simp only [liveRB, reduceCtorEq, Except.ok.injEq, Except.error.injEq, Prod.mk.injEq] at he
  · exact ⟨congrArg Except.error he, rfl⟩
  · obtain ⟨he, rfl⟩ := he
    exact ⟨congrArg Except.ok (settle_live cfg _ c he), settle_nextOk cfg _ c hv⟩

theorem runBytes_sim (cfg : Cfg) (bs : Bytes) : Resp (runBytes refTables cfg · bs) := by
  induction bs with
  | nil => exact Resp.ok
  | cons b r ih => exact Resp.bind (step_sim cfg b) ih

theorem runChunks_resp (cfg : Cfg) (cs : List Bytes) : Resp (runChunks refTables cfg · cs) := by
  induction cs with
  | nil => exact Resp.ok
  | cons c r ih => exact Resp.bind (runBytes_sim cfg c) (Resp.bind Resp.endFast ih)

theorem runChunks_sim (cfg : Cfg) (cs : List Bytes) {s t : St} (h : Sim s t) :
    liveR (runChunks refTables cfg s cs) = liveR (runChunks refTables cfg t cs) := by
  have ht : nextOk t = true := by rw [← nextOk_live, ← h.live_eq, nextOk_live]; exact h.nextOk
  rw [(runChunks_resp cfg cs s h.nextOk).1, (runChunks_resp cfg cs t ht).1, h.live_eq]

theorem finish_live (s : St) : finish refTables s = finish refTables (live s) :=
  finish_congr _ rfl rfl rfl rfl rfl rfl rfl fun h => by simp only [live, fin_num h, cond_true]

theorem finish_sim {s t : St} (h : Sim s t) : finish refTables s = finish refTables t := by
  rw [finish_live s, finish_live t, h.live_eq]

end OjgVerif.Reuse
